/-
Specification-side definitions for the front ends (properties C17, C18, C19): what `ruschm FILE`,
the REPL and a world of several interpreter instances are *supposed* to do, written without
reference to the way `RuschmModel/Front.lean` computes it. The theorems relating the two are in
`RuschmProofs/C17.lean`, `C18.lean`, `C19.lean` (helpers in `RuschmProofs/FrontLemmas.lean`).
-/
import RuschmModel.Front
import RuschmSpec.Text
namespace Ruschm.FrontSpec
open Ruschm Ruschm.Interp Ruschm.Front

/-! ## C17: a text is its forms, evaluated in order -/

/-- The forms of a text: the top-level data the model reader finds, and the error that stopped it
(a lexer error, an unbalanced parenthesis, …) if there was one. -/
def formsOf (text : List Char) : List Datum × Option SErr := Read.all text

/-- One form: the datum is turned into a statement in the interpreter's current syntax scope
(`define-syntax` binds there, macro uses are expanded), and the statement is evaluated by
`eval_ast`. -/
def evalForm (fuel : Nat) (st : State) (d : Datum) : Except SErr (Option Value) × State :=
  match Xform.toStatement (Xform.xformFuel d) d st.syn with
  | (.error e, syn) => (.error e, { st with syn := syn })
  | (.ok stmt, syn) => evalAst fuel { st with syn := syn } stmt

/-- The forms one after another, each from the state the previous one left; the FIRST error ends
the run (nothing after it is evaluated) and is returned with the state reached; otherwise the
value of the last form (`last` if there is none). -/
def runForms (fuel : Nat) : State → List Datum → Option Value → Except SErr (Option Value) × State
  | st, [], last => (.ok last, st)
  | st, d :: ds, _ =>
    match evalForm fuel st d with
    | (.error e, st') => (.error e, st')
    | (.ok v, st') => runForms fuel st' ds v

/-- A text through the library interface, by forms: run the forms that were read; when all of
them succeeded, the reader's error (if any) is the outcome. -/
def runText (fuel : Nat) (st : State) (text : List Char) : Except SErr (Option Value) × State :=
  match runForms fuel st (formsOf text).1 none with
  | (.error e, st') => (.error e, st')
  | (.ok v, st') =>
    match (formsOf text).2 with
    | some e => (.error e, st')
    | none => (.ok v, st')

/-- `σ'` has everything `σ` had written, and possibly more after it (`out` is most recent first) -/
def OutExt (σ σ' : Store) : Prop := ∃ more : List String, σ'.out = more ++ σ.out

/-- an outcome without its error location: the error kind, or the value -/
def eraseLoc : Except SErr (Option Value) → Except Err (Option Value)
  | .ok v => .ok v
  | .error (e, _) => .error e

/-- the part of a located token list the reader's *result* may depend on if locations are ignored -/
def toksOf (text : List Char) : List Token × Bool :=
  ((Lex.all text).1.map (·.tok), (Lex.all text).2.isSome)

/-- two layouts move the lexer's cursor alike: separator by separator (the last one, after the
final token, excepted) they end on the same line and column whatever the starting point. -/
def SameCursor : List (List Char) → List (List Char) → Prop
  | [_], [_] => True
  | a :: l, b :: m => (∀ p, Text.advs a p = Text.advs b p) ∧ SameCursor l m
  | _, _ => False

/-- every line feed written as carriage return + line feed (a file saved with CRLF line ends);
applied to the separators of a layout only, i.e. outside the tokens -/
def crlf : List Char → List Char
  | [] => []
  | c :: cs => if c = '\n' then '\r' :: '\n' :: crlf cs else c :: crlf cs

/-! ## C18: the REPL -/

/-- what the REPL writes after a successful submission: the value of the last form in `display`
notation and a newline; nothing when there is no value (a definition, an import, an empty text)
or the value is the unspecified value -/
def echoOf (σ : Store) : Option Value → String
  | some .void => ""
  | some v => Prim.display σ 100000 v ++ "\n"
  | none => ""

/-- the interpreter state with an empty output buffer: the model's device for attributing output
to a submission (everything in `out` afterwards was written by this submission) -/
def clearOut (st : State) : State := { st with store := { st.store with out := [] } }

/-- Submitting a complete text: evaluate it through the library interface; print what the
program displayed, then the echo of the value — or, on an error, what was displayed before it
and the error message (kind) on standard error. The interpreter continues in the state
`evalText` returned, error or not. -/
def submit (fuel : Nat) (st : State) (source : String) : State × ReplOut :=
  match evalText fuel (clearOut st) source.toList with
  | (.ok v, st') => (st', { stdout := outText st'.store ++ echoOf st'.store v, submitted := true })
  | (.error (e, _), st') => (st', { stdout := outText st'.store, err := some e, submitted := true })

/-- The maximal line groups of a session: empty lines are dropped; non-empty lines are joined by
a newline until the text so far is closed (`check_bracket_closed`), which ends the group.
Returns the groups and the unfinished text left at the end (with its trailing newline). -/
def groupsAux : String → List String → List String × String
  | pending, [] => ([], pending)
  | pending, l :: ls =>
    if l.isEmpty then groupsAux pending ls
    else if Bracket.closed (pending ++ l).toList then
      ((pending ++ l) :: (groupsAux "" ls).1, (groupsAux "" ls).2)
    else groupsAux (pending ++ l ++ "\n") ls

def groups (lines : List String) : List String := (groupsAux "" lines).1
def unfinished (lines : List String) : String := (groupsAux "" lines).2

/-- texts submitted one after another to ONE interpreter -/
def session (fuel : Nat) : State → List String → State × List ReplOut
  | st, [] => (st, [])
  | st, g :: gs => ((session fuel (submit fuel st g).1 gs).1, (submit fuel st g).2 :: (session fuel (submit fuel st g).1 gs).2)

/-- the `i`-th texts of two sessions have the same tokens at the same locations -/
def SameLocTokens : List String → List String → Prop
  | [], [] => True
  | g :: gs, h :: hs => Lex.all g.toList = Lex.all h.toList ∧ SameLocTokens gs hs
  | _, _ => False

/-- the `i`-th texts of two sessions have the same tokens (wherever they stand) -/
def SameTokens : List String → List String → Prop
  | [], [] => True
  | g :: gs, h :: hs => toksOf g.toList = toksOf h.toList ∧ SameTokens gs hs
  | _, _ => False

/-- everything a session wrote to standard output -/
def transcript (outs : List ReplOut) : String := String.join (outs.map (·.stdout))

/-- the error messages (kinds) a session wrote to standard error, in order -/
def errors (outs : List ReplOut) : List Err := outs.filterMap (·.err)

/-! ## C19: several instances -/

/-- a history of steps: which instance, which text -/
abbrev Steps := List (Nat × List Char)

/-- run a history on a world; the result of every step in order (`none`: no such instance) -/
def runSteps (fuel : Nat) : World → Steps → List (Nat × Option (Except SErr (Option Value))) × World
  | w, [] => ([], w)
  | w, (i, text) :: rest =>
    ((i, (worldStep fuel w i text).1) :: (runSteps fuel (worldStep fuel w i text).2 rest).1,
      (runSteps fuel (worldStep fuel w i text).2 rest).2)

/-- the texts a history submits to instance `j`, in order -/
def textsFor (j : Nat) (steps : Steps) : List (List Char) :=
  (steps.filter (fun s => s.1 = j)).map (·.2)

/-- texts one after another on one instance, alone -/
def runAlone (fuel : Nat) : State → List (List Char) → List (Except SErr (Option Value)) × State
  | st, [] => ([], st)
  | st, t :: ts =>
    ((evalText fuel st t).1 :: (runAlone fuel (evalText fuel st t).2 ts).1,
      (runAlone fuel (evalText fuel st t).2 ts).2)

end Ruschm.FrontSpec
