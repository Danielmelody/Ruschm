/-
Specification vocabulary for property C11 (the list library of `(scheme base)`).

Plain Lean functions on model values, written from R7RS §6.4 (and, for the folds, from the
minischeme definitions the library was taken from) — none of them mentions the evaluator.
Pairs are immutable data in this interpreter (`Value.pair`), so a "list" is a `Value` whose
spine of `pair`s ends in some non-pair value, the *tail*: `()` for a proper list.

* `carS`, `cdrS` and the twelve compositions: the selected component, or the error the native
  `car`/`cdr` reports (`TypeMisMatch`, unlocated) when the structure is too short;
* `spine`, `properList?`, `isProperList`, `withTail` (inverse of `spine`);
* `listTailS`, `listRefS`, `lastPairS`, `memS`, `equalS`, `makeListS`, `appendS`;
* the store-passing combinators for the higher-order procedures: `MapM` (one application per
  element, in list order, each in the store the previous one left), `FoldLM`, `FoldRM`.

The relation `Store.Ext σ σ'` is "σ' is σ with frames appended": the only effect a library
procedure has by itself.
-/
import RuschmModel.Eval
namespace Ruschm

namespace Store

/-- `σ'` is `σ` with frames appended: every existing frame is unchanged (parent and bindings),
the vectors, the output, the tick trace and the activation depth are the same; the recorded
maximal depth may have grown. -/
structure Ext (σ σ' : Store) : Prop where
  size : σ.frames.size ≤ σ'.frames.size
  frames : ∀ i, i < σ.frames.size → σ'.frames[i]? = σ.frames[i]?
  vecs : σ'.vecs = σ.vecs
  out : σ'.out = σ.out
  ticks : σ'.ticks = σ.ticks
  depth : σ'.depth = σ.depth
  maxDepth : σ.maxDepth ≤ σ'.maxDepth

/-- the frame part of `Ext` alone: existing frames are unchanged, frames may have been appended
(anything else may differ) -/
structure FramesExt (σ σ' : Store) : Prop where
  size : σ.frames.size ≤ σ'.frames.size
  frames : ∀ i, i < σ.frames.size → σ'.frames[i]? = σ.frames[i]?

/-- `Ext` up to the activation-depth instrumentation: frames appended, vectors, output and tick
trace unchanged (what the library does between two applications of a procedure argument, which
happen one activation deeper) -/
structure DExt (σ σ' : Store) : Prop where
  size : σ.frames.size ≤ σ'.frames.size
  frames : ∀ i, i < σ.frames.size → σ'.frames[i]? = σ.frames[i]?
  vecs : σ'.vecs = σ.vecs
  out : σ'.out = σ.out
  ticks : σ'.ticks = σ.ticks

/-- `σ'` keeps the frames a running library procedure relies on: the library frame `b` and every
frame numbered `N` or more (the frames allocated since the library procedure was entered);
frames may have been appended and anything else may have changed -/
structure Keeps (b N : Nat) (σ σ' : Store) : Prop where
  size : σ.frames.size ≤ σ'.frames.size
  frames : ∀ i, i < σ.frames.size → (i = b ∨ N ≤ i) → σ'.frames[i]? = σ.frames[i]?

end Store

namespace ListSpec

/-- the error of the native `car`/`cdr` on a non-pair (and of `apply` on a non-list last argument) -/
def typeErr : SErr := (.type, none)

/-! ## selectors -/

def carS : Value → Except SErr Value
  | .pair a _ => .ok a
  | _ => .error typeErr

def cdrS : Value → Except SErr Value
  | .pair _ d => .ok d
  | _ => .error typeErr

/-- `(cXYr x)` = `(cXr (cYr x))`: the rightmost letter is applied first -/
def caarS (x : Value) : Except SErr Value := carS x >>= carS
def cadrS (x : Value) : Except SErr Value := cdrS x >>= carS
def cdarS (x : Value) : Except SErr Value := carS x >>= cdrS
def cddrS (x : Value) : Except SErr Value := cdrS x >>= cdrS
def caaarS (x : Value) : Except SErr Value := carS x >>= carS >>= carS
def caadrS (x : Value) : Except SErr Value := cdrS x >>= carS >>= carS
def cadarS (x : Value) : Except SErr Value := carS x >>= cdrS >>= carS
def caddrS (x : Value) : Except SErr Value := cdrS x >>= cdrS >>= carS
def cdaarS (x : Value) : Except SErr Value := carS x >>= carS >>= cdrS
def cdadrS (x : Value) : Except SErr Value := cdrS x >>= carS >>= cdrS
def cddarS (x : Value) : Except SErr Value := carS x >>= cdrS >>= cdrS
def cdddrS (x : Value) : Except SErr Value := cdrS x >>= cdrS >>= cdrS

/-! ## lists as values -/

def isPair : Value → Bool
  | .pair _ _ => true
  | _ => false

def isNil : Value → Bool
  | .nil => true
  | _ => false

/-- the elements of a list value and its final tail (the first non-pair on the `cdr` chain) -/
def spine : Value → List Value × Value
  | .pair a d => ((spine d).1.cons a, (spine d).2)
  | t => ([], t)

/-- the same as an `Option` (a value always has a spine: pairs are finite data here) -/
def listOfValue? (v : Value) : Option (List Value × Value) := some (spine v)

/-- inverse of `spine`: the elements consed onto the tail -/
def withTail : List Value → Value → Value
  | [], t => t
  | x :: xs, t => .pair x (withTail xs t)

/-- the elements of a proper list; `none` for an improper one -/
def properList? (v : Value) : Option (List Value) :=
  match spine v with
  | (xs, .nil) => some xs
  | _ => none

/-- `list?` -/
def isProperList : Value → Bool
  | .nil => true
  | .pair _ d => isProperList d
  | _ => false

/-! ## first-order procedures -/

/-- `(list-tail x k)`: `k` times `cdr`; an error when the list is too short -/
def listTailS : Value → Nat → Except SErr Value
  | x, 0 => .ok x
  | x, k + 1 => cdrS x >>= fun d => listTailS d k

/-- `(list-ref x k)` = `(car (list-tail x k))` -/
def listRefS (x : Value) (k : Nat) : Except SErr Value := listTailS x k >>= carS

/-- `(last-pair x)`: the last pair of the spine of a non-empty list; an error on a non-pair -/
def lastPairS : Value → Except SErr Value
  | .pair a d =>
    match d with
    | .pair _ _ => lastPairS d
    | _ => .ok (.pair a d)
  | _ => .error typeErr

/-- `(memq obj lst)` / `(memv obj lst)` (`eq?` and `eqv?` are the same native predicate here):
the first sublist whose `car` is `eqv?` to `obj`, `#f` when the proper list has none, the `car`
error when an improper tail is reached first -/
def memS (obj : Value) : Value → Except SErr Value
  | .nil => .ok (.bool false)
  | .pair a d => if Prim.eqv obj a then .ok (.pair a d) else memS obj d
  | _ => .error typeErr

def isVec : Value → Bool
  | .vec _ => true
  | _ => false

/-- `vector-equal-from?` on the items still to compare: the first pair that is not `equal?`
decides; `cmp` compares two items (`none`: that comparison has no outcome) -/
def allEqS (cmp : Value → Value → Option Bool) : List Value → List Value → Option Bool
  | x :: xs, y :: ys =>
    match cmp x y with
    | some true => allEqS cmp xs ys
    | r => r
  | _, _ => some true

/-- `(equal? x y)` as the library defines it: structural equality on pairs AND vectors — two
vectors are `equal?` when their cells in the store `σ` have the same length and pairwise `equal?`
items (mutability is ignored; the same vector is still compared item by item) — and `eqv?` at all
other leaves (strings by content, as the native `eqv?` does).

Vectors are store cells and may be cyclic; the comparison then does not terminate. `equalS σ n x y`
is the comparison cut off at nesting depth `n` (pairs and vectors both count): `some r` — the
comparison is finite and its outcome is `r` — or `none`. `none` is also the answer for a dangling
vector reference (no such cell: the native `vector-length` panics). -/
def equalS (σ : Store) : Nat → Value → Value → Option Bool
  | 0, _, _ => none
  | n + 1, x, y =>
    match x with
    | .pair a d =>
      match y with
      | .pair a' d' =>
        match equalS σ n a a' with
        | some true => equalS σ n d d'
        | r => r
      | _ => some false
    | .vec i =>
      match y with
      | .vec j =>
        match σ.vecs[i]?, σ.vecs[j]? with
        | some c, some c' =>
          if c.items.length = c'.items.length then allEqS (equalS σ n) c.items c'.items else some false
        | _, _ => none
      | _ => some false
    | x => some (!isPair y && Prim.eqv x y)

/-- `(make-list k fill)` for an integer `k`: `k` copies, none when `k ≤ 0` -/
def makeListS (k : Int) (fill : Value) : Value := Value.ofList (List.replicate k.toNat fill)

/-- `(append l₁ … lₙ)`: the elements of all arguments but the last in front of the last argument
(which may be any value); `()` for no argument. An argument that is not a proper list is treated
through its elements only: see `appendS_improper`. -/
def appendS : List Value → Value
  | [] => .nil
  | [last] => last
  | l :: rest => withTail (spine l).1 (appendS rest)

/-- every argument but the last is a proper list -/
def appendDomain : List Value → Prop
  | [] => True
  | [_] => True
  | l :: rest => isProperList l = true ∧ appendDomain rest

/-- the elements of the list value `l` in front of `t`; the `car` error if `l` is improper -/
def prependS : Value → Except SErr Value → Except SErr Value
  | .nil, t => t
  | .pair a d, t => (prependS d t).map (.pair a)
  | _, _ => .error typeErr

/-- `append` on ALL argument lists: as `appendS` when every argument but the last is a proper
list (`appendE_eq`), else the error of taking the `car` of the improper tail -/
def appendE : List Value → Except SErr Value
  | [] => .ok .nil
  | [last] => .ok last
  | l :: rest => prependS l (appendE rest)

/-! ## the store-passing combinators of the higher-order procedures -/

section higher
/- `app σ args r σ'`: applying the procedure argument to `args` in store `σ` has outcome `r`
(a value or an error) and leaves `σ'`; `ext σ σ'`: what the library does itself between two
applications (appends frames). -/
variable (app : Store → List Value → Except SErr Value → Store → Prop) (ext : Store → Store → Prop)

/-- `map`: one application per element, in list order, each in the store the previous one left
(up to `ext`); the first error ends the traversal and is the outcome -/
inductive MapM : Store → List Value → Except SErr (List Value) → Store → Prop where
  | nil {σ σ'} : ext σ σ' → MapM σ [] (.ok []) σ'
  | cons_err {σ σ₁ σ₂ σ' x xs er} : ext σ σ₁ → app σ₁ [x] (.error er) σ₂ → ext σ₂ σ' →
      MapM σ (x :: xs) (.error er) σ'
  | cons {σ σ₁ σ₂ σ₃ σ' x xs v r} : ext σ σ₁ → app σ₁ [x] (.ok v) σ₂ → MapM σ₂ xs r σ₃ → ext σ₃ σ' →
      MapM σ (x :: xs) (r.map (v :: ·)) σ'

/-- `fold-left` as the library (minischeme) defines it: `(f elem acc)` for each element in list
order, the result being the next accumulator -/
inductive FoldLM : Store → Value → List Value → Except SErr Value → Store → Prop where
  | nil {σ σ' acc} : ext σ σ' → FoldLM σ acc [] (.ok acc) σ'
  | cons_err {σ σ₁ σ₂ σ' acc x xs er} : ext σ σ₁ → app σ₁ [x, acc] (.error er) σ₂ → ext σ₂ σ' →
      FoldLM σ acc (x :: xs) (.error er) σ'
  | cons {σ σ₁ σ₂ σ₃ σ' acc x xs v r} : ext σ σ₁ → app σ₁ [x, acc] (.ok v) σ₂ → FoldLM σ₂ v xs r σ₃ →
      ext σ₃ σ' → FoldLM σ acc (x :: xs) r σ'

/-- `fold-right`: `(f elem (fold-right f init rest))` — the applications happen on the way back,
last element first -/
inductive FoldRM : Store → Value → List Value → Except SErr Value → Store → Prop where
  | nil {σ σ' init} : ext σ σ' → FoldRM σ init [] (.ok init) σ'
  | cons_err {σ σ₁ σ₂ σ' init x xs er} : ext σ σ₁ → FoldRM σ₁ init xs (.error er) σ₂ → ext σ₂ σ' →
      FoldRM σ init (x :: xs) (.error er) σ'
  | cons {σ σ₁ σ₂ σ₃ σ' init x xs acc r} : ext σ σ₁ → FoldRM σ₁ init xs (.ok acc) σ₂ → ext σ₂ σ₃ →
      app σ₃ [x, acc] r σ' → FoldRM σ init (x :: xs) r σ'

end higher

/-! ## sanity of the vocabulary -/

theorem spine_withTail (v : Value) : withTail (spine v).1 (spine v).2 = v := by
  induction v <;> simp_all [spine, withTail]

theorem spine_tail_not_pair (v : Value) : isPair (spine v).2 = false := by
  induction v <;> simp_all [spine, isPair]

theorem withTail_nil (xs : List Value) : withTail xs .nil = Value.ofList xs := by
  induction xs <;> simp_all [withTail, Value.ofList]

theorem spine_ofList (xs : List Value) : spine (Value.ofList xs) = (xs, .nil) := by
  induction xs <;> simp_all [spine, Value.ofList]

theorem properList?_ofList (xs : List Value) : properList? (Value.ofList xs) = some xs := by
  simp [properList?, spine_ofList]

theorem isProperList_iff (v : Value) : isProperList v = true ↔ ∃ xs, v = Value.ofList xs := by
  constructor
  · intro h
    induction v with
    | nil => exact ⟨[], rfl⟩
    | pair a d _ ihd =>
      obtain ⟨xs, rfl⟩ := ihd (by simpa [isProperList] using h)
      exact ⟨a :: xs, rfl⟩
    | _ => simp [isProperList] at h
  · rintro ⟨xs, rfl⟩
    induction xs <;> simp_all [isProperList, Value.ofList]

theorem cdrS_nonpair {t : Value} (ht : isPair t = false) : cdrS t = .error typeErr := by
  cases t <;> first | rfl | cases ht
theorem carS_nonpair {t : Value} (ht : isPair t = false) : carS t = .error typeErr := by
  cases t <;> first | rfl | cases ht

theorem listTailS_withTail (xs : List Value) (t : Value) (k : Nat) (h : k ≤ xs.length) :
    listTailS (withTail xs t) k = .ok (withTail (xs.drop k) t) := by
  induction k generalizing xs with
  | zero => rfl
  | succ k ih =>
    cases xs with
    | nil => simp at h
    | cons x xs => exact ih xs (Nat.le_of_succ_le_succ h)

theorem listTailS_withTail_short (xs : List Value) (t : Value) (ht : isPair t = false) (k : Nat)
    (h : xs.length < k) : listTailS (withTail xs t) k = .error typeErr := by
  induction k generalizing xs with
  | zero => simp at h
  | succ k ih =>
    cases xs with
    | nil => simp only [listTailS, withTail, cdrS_nonpair ht]; rfl
    | cons x xs => exact ih xs (Nat.lt_of_succ_lt_succ h)

theorem listRefS_withTail_short (xs : List Value) (t : Value) (ht : isPair t = false) (k : Nat)
    (h : xs.length ≤ k) : listRefS (withTail xs t) k = .error typeErr := by
  unfold listRefS
  rcases Nat.lt_or_ge xs.length k with h' | h'
  · rw [listTailS_withTail_short xs t ht k h']; rfl
  · obtain rfl : k = xs.length := Nat.le_antisymm h' h
    rw [listTailS_withTail xs t _ (Nat.le_refl _), List.drop_length]
    exact carS_nonpair ht

/-- on a proper list, `list-tail` is `List.drop` when the index is within the list … -/
theorem listTailS_ofList (xs : List Value) (k : Nat) (h : k ≤ xs.length) :
    listTailS (Value.ofList xs) k = .ok (Value.ofList (xs.drop k)) := by
  simpa only [withTail_nil] using listTailS_withTail xs .nil k h

/-- … and the `cdr` error when the list is too short -/
theorem listTailS_short (xs : List Value) (k : Nat) (h : xs.length < k) :
    listTailS (Value.ofList xs) k = .error typeErr :=
  withTail_nil xs ▸ listTailS_withTail_short xs .nil rfl k h

theorem listRefS_ofList (xs : List Value) (k : Nat) (h : k < xs.length) :
    listRefS (Value.ofList xs) k = .ok xs[k] := by
  unfold listRefS
  rw [listTailS_ofList xs k (Nat.le_of_lt h)]
  have : xs.drop k = xs[k] :: xs.drop (k + 1) := by simp
  rw [this]; rfl

/-- `list-ref` with the index just past the end (or further) is an error -/
theorem listRefS_short (xs : List Value) (k : Nat) (h : xs.length ≤ k) :
    listRefS (Value.ofList xs) k = .error typeErr :=
  withTail_nil xs ▸ listRefS_withTail_short xs .nil rfl k h

theorem lastPairS_withTail (xs : List Value) (x t : Value) (ht : isPair t = false) :
    lastPairS (withTail (xs ++ [x]) t) = .ok (.pair x t) := by
  induction xs with
  | nil => cases t <;> first | rfl | simp [isPair] at ht
  | cons y ys ih => cases ys <;> exact ih

theorem lastPairS_ofList (xs : List Value) (x : Value) :
    lastPairS (Value.ofList (xs ++ [x])) = .ok (.pair x .nil) :=
  withTail_nil _ ▸ lastPairS_withTail xs x .nil rfl

/-- `memv` on a proper list: the sublist starting at the first `eqv?` element, else `#f` -/
theorem memS_ofList (obj : Value) (xs : List Value) :
    memS obj (Value.ofList xs) =
      .ok (match xs.dropWhile (fun a => !Prim.eqv obj a) with
           | [] => .bool false
           | l => Value.ofList l) := by
  induction xs with
  | nil => rfl
  | cons a as ih =>
    simp only [Value.ofList, memS, List.dropWhile_cons]
    by_cases h : Prim.eqv obj a = true
    · simp [h, Value.ofList]
    · have h : Prim.eqv obj a = false := by simpa using h
      simp [h, ih]

theorem appendS_ofList (xs ys : List Value) :
    appendS [Value.ofList xs, Value.ofList ys] = Value.ofList (xs ++ ys) := by
  simp only [appendS, spine_ofList]
  induction xs <;> simp_all [withTail, Value.ofList]

theorem prependS_proper (l : Value) (h : isProperList l = true) (t : Value) :
    prependS l (.ok t) = .ok (withTail (spine l).1 t) := by
  induction l with
  | nil => rfl
  | pair a d _ ihd =>
    simp only [prependS, spine, withTail, ihd (by simpa [isProperList] using h)]; rfl
  | _ => simp [isProperList] at h

theorem appendE_eq : ∀ (args : List Value), appendDomain args → appendE args = .ok (appendS args)
  | [], _ => rfl
  | [_], _ => rfl
  | l :: r :: rest, h => by
    simp only [appendE, appendS]
    rw [appendE_eq (r :: rest) h.2, prependS_proper l h.1]

theorem makeListS_nonpos (k : Int) (fill : Value) (h : k ≤ 0) : makeListS k fill = .nil := by
  have : k.toNat = 0 := by omega
  simp [makeListS, this, Value.ofList]

end ListSpec
end Ruschm
