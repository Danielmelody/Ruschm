/-
Specification vocabulary for the text properties C06 (lexer / reader) and C18 (bracket counter).

Everything here is *spec side*: how tokens and data are written down as text (`renderTok`,
`interleave`, `Syn.toks`), what may stand between two tokens (`isAtmos`, `ValidLayout`), which
tokens are covered (`SupportedTok`) and what the written text denotes (`Syn.denote`). The model
of the Rust code lives in `RuschmModel/{Lex,Read,Bracket}.lean`; the theorems relating the two
are in `RuschmProofs/C06.lean` and `RuschmProofs/C18Bracket.lean`.
-/
import RuschmModel.Read
import RuschmModel.Bracket

namespace Ruschm.Text
open Ruschm Ruschm.Lex

/-! ## Cursor -/

/-- the lexer cursor after the characters `cs` have been consumed -/
def advs (cs : List Char) (p : Pos) : Pos := cs.foldl (fun p c => adv c p) p

/-! ## Atmosphere: blanks, line breaks and comments -/

/-- `isAtmos false a`: `a` consists of blanks (space, tab, LF, CR) and of `;` comments, each of
them *terminated* by LF or CR. (`isAtmos true a`: same, starting inside a comment.) -/
def isAtmos : Bool → List Char → Bool
  | false, [] => true
  | true, [] => false
  | false, c :: cs =>
    if isWs c then isAtmos false cs else if c = ';' then isAtmos true cs else false
  | true, c :: cs => if c = '\n' || c = '\r' then isAtmos false cs else isAtmos true cs

/-- like `isAtmos`, but a last comment may run to the end of the text (only allowed after the
last token) -/
def isTrail : Bool → List Char → Bool
  | _, [] => true
  | false, c :: cs =>
    if isWs c then isTrail false cs else if c = ';' then isTrail true cs else false
  | true, c :: cs => if c = '\n' || c = '\r' then isTrail false cs else isTrail true cs

/-- the text is empty or starts with a character that is not atmosphere -/
def startsTok : List Char → Bool
  | [] => true
  | c :: _ => !isWs c && !decide (c = ';')

/-- the text is empty or starts with a delimiter -/
def startsDelim : List Char → Bool
  | [] => true
  | c :: _ => isDelimiter c

/-- the text starts with `#` -/
def startsSharp : List Char → Bool
  | '#' :: _ => true
  | _ => false

/-! ## How the supported tokens are written -/

/-- decimal digits of a natural number (this is `toString n`) -/
def showNat (n : Nat) : List Char := Nat.toDigits 10 n

/-- decimal text of an integer, `-` for negatives (this is `toString i`) -/
def showInt (i : Int) : List Char :=
  if i < 0 then '-' :: showNat i.natAbs else showNat i.natAbs

/-- the mnemonic escapes of string literals: `\a \b \t \n \r \" \\ \|` -/
def mnemonic? (c : Char) : Option Char :=
  if c = '\x07' then some 'a' else if c = '\x08' then some 'b' else if c = '\t' then some 't'
  else if c = '\n' then some 'n' else if c = '\r' then some 'r' else if c = '"' then some '"'
  else if c = '\\' then some '\\' else if c = '|' then some '|' else none

/-- one element of the body of a string literal: a character standing for itself (anything but
`"` and `\`, line breaks included) or a mnemonic escape -/
inductive StrPiece where
  | lit (c : Char)
  | esc (c : Char)
  deriving DecidableEq, Repr

namespace StrPiece
/-- the character a piece denotes -/
def char : StrPiece → Char
  | lit c => c
  | esc c => c
def valid : StrPiece → Bool
  | lit c => !decide (c = '"') && !decide (c = '\\')
  | esc c => (mnemonic? c).isSome
def text : StrPiece → List Char
  | lit c => [c]
  | esc c => ['\\', (mnemonic? c).getD c]
end StrPiece

/-- a string literal written with the given pieces -/
def showPieces (ps : List StrPiece) : List Char := '"' :: ps.flatMap StrPiece.text ++ ['"']

/-- the canonical choice: every character that has a mnemonic escape is escaped -/
def canonPiece (c : Char) : StrPiece := if (mnemonic? c).isSome then .esc c else .lit c

/-- canonical string literal -/
def showStr (s : List Char) : List Char := showPieces (s.map canonPiece)

/-- the character names of R7RS: `#\\space` etc. -/
def charNames : List (List Char × Char) :=
  [("alarm".toList, '\x07'), ("backspace".toList, '\x08'), ("delete".toList, '\x7f'),
   ("escape".toList, '\x1b'), ("newline".toList, '\n'), ("null".toList, '\x00'),
   ("return".toList, '\r'), ("space".toList, ' '), ("tab".toList, '\t')]

/-- Identifiers the lexer reads without bars:
* `<initial> <subsequent>*`,
* `+`, `-`, and `<sign> <sign subsequent> <subsequent>*` (sign subsequent: initial, `+`, `-`, `@`),
* `. <dot subsequent> <subsequent>*` (dot subsequent: sign subsequent or `.`), e.g. `...`.
(R7RS's `<sign> . <dot subsequent> …`, e.g. `+.a`, is *not* read by Ruschm: after a sign a `.`
always starts a number.) -/
def isPlainIdent : List Char → Bool
  | [] => false
  | c :: cs =>
    if isInitial c then cs.all isSubsequent
    else if c = '+' || c = '-' then
      match cs with
      | [] => true
      | d :: _ => (d = '+' || d = '-' || d = '@' || isInitial d) && cs.all isSubsequent
    else if c = '.' then
      match cs with
      | [] => false
      | d :: _ => (d = '+' || d = '-' || d = '.' || d = '@' || isInitial d) && cs.all isSubsequent
    else false

/-- All R7RS identifiers written without bars: `isPlainIdent` plus the form
`<sign> . <dot subsequent> <subsequent>*` (e.g. `+.a`), which Ruschm does not read — used only to
state what is *not* supported (`C06.lex_one_ident_full_fails`). -/
def isR7rsIdent (s : List Char) : Bool :=
  isPlainIdent s ||
    match s with
    | c :: '.' :: d :: cs =>
      (c = '+' || c = '-') && (d = '+' || d = '-' || d = '.' || d = '@' || isInitial d)
        && cs.all isSubsequent
    | _ => false

/-- a decimal literal `sign? digits+ ('.' digits*)? ('e' sign? digits+)?` with a fraction or an
exponent (otherwise it is an integer) -/
structure RealLit where
  sign : List Char := []
  ip : List Char
  frac : Option (List Char) := none
  exp : Option (List Char × List Char) := none
  deriving DecidableEq, Repr

def isSign (s : List Char) : Bool := s = [] || s = ['+'] || s = ['-']

namespace RealLit
def wf (r : RealLit) : Bool :=
  isSign r.sign && !r.ip.isEmpty && r.ip.all isDigit
  && (match r.frac with
      | none => true
      | some f => f.all isDigit)
  && (match r.exp with
      | none => true
      | some (s, d) => isSign s && !d.isEmpty && d.all isDigit)
  && (r.frac.isSome || r.exp.isSome)

def fracText (r : RealLit) : List Char :=
  match r.frac with
  | none => []
  | some f => '.' :: f

def expText (r : RealLit) : List Char :=
  match r.exp with
  | none => []
  | some (s, d) => 'e' :: s ++ d

def text (r : RealLit) : List Char := r.sign ++ (r.ip ++ (r.fracText ++ r.expText))
end RealLit

/-- the text of a token (meaningful for `SupportedTok` tokens) -/
def renderTok : Token → List Char
  | .lparen => ['(']
  | .rparen => [')']
  | .vecIntro => ['#', '(']
  | .byteVecIntro => ['#', 'u', '8', '(']
  | .quote => ['\'']
  | .quasiquote => ['`']
  | .unquote => [',']
  | .unquoteSplicing => [',', '@']
  | .period => ['.']
  | .ident s => if isPlainIdent s.toList then s.toList else '|' :: s.toList ++ ['|']
  | .prim (.str s) => showStr s.toList
  | .prim (.chr c) => ['#', '\\', c]
  | .prim (.bool b) => ['#', if b then 't' else 'f']
  | .prim (.int i) => showInt i
  | .prim (.rat n d) => showInt n ++ '/' :: showNat d
  | .prim (.real t) => t.toList

/-- the token classes covered by the C06 theorems -/
def SupportedTok : Token → Prop
  | .ident s => isPlainIdent s.toList = true ∨ '|' ∉ s.toList
  | .prim (.int i) => fitsI32 i = true
  | .prim (.rat n d) => fitsI32 n = true ∧ 0 < d ∧ d ≤ 4294967295
  | .prim (.real t) => ∃ r : RealLit, r.wf = true ∧ t = String.ofList r.text
  | _ => True

/-- tokens after which any character may follow (`,` is treated separately in `followOK`) -/
def selfDelimiting : Token → Bool
  | .lparen | .rparen | .vecIntro | .byteVecIntro | .quote | .quasiquote | .unquoteSplicing => true
  | .prim (.str _) => true
  | .ident s => !isPlainIdent s.toList
  | _ => false

/-- punctuation and string literals: tokens whose end does not depend on what follows -/
def closedTok : Token → Bool
  | .lparen | .rparen | .vecIntro | .byteVecIntro | .quote | .quasiquote | .unquote
  | .unquoteSplicing => true
  | .prim (.str _) => true
  | _ => false

/-- booleans and characters: may also be followed by `#` -/
def sharpTok : Token → Bool
  | .prim (.bool _) | .prim (.chr _) => true
  | _ => false

/-- what may follow the text of token `t`:
* after a self-delimiting token: anything;
* after `,`: anything but `@` and the end of the text (`,@` is another token, and a `,` that is
  the very last character of the text is dropped by the lexer);
* after `#t`, `#f`, `#\c`: the end of the text, a delimiter, or `#`;
* after every other token: the end of the text or a delimiter. -/
def followOK (t : Token) (after : List Char) : Bool :=
  match t with
  | .unquote => !after.isEmpty && after.head? != some '@'
  | t => selfDelimiting t || startsDelim after || (sharpTok t && startsSharp after)

/-! ## Token sequences with layout -/

/-- `interleave ts [a₀, a₁, …, aₙ]` is `a₀ t₁ a₁ t₂ … tₙ aₙ`: the layout has one more element
than there are tokens; `a₀` precedes the first token, `aₙ` follows the last -/
def interleave : List Token → List (List Char) → List Char
  | [], l => l.headD []
  | t :: ts, l => l.headD [] ++ (renderTok t ++ interleave ts l.tail)

/-- A layout is valid for `ts` when every separator is atmosphere (the last one may end in an
unterminated comment) and every token is followed by something that ends it (`followOK`). A
non-empty separator always does (`followOK_of_sep`); see `ValidGaps` for the explicit form. -/
def ValidLayout : List Token → List (List Char) → Prop
  | [], [a] => isTrail false a = true
  | t :: ts, a :: l =>
    isAtmos false a = true ∧ followOK t (interleave ts l) = true ∧ ValidLayout ts l
  | _, _ => False

/-- explicit form of the gap condition: a separator may be empty only where the token before it
is self-delimiting, or the token after it starts with a delimiter (or with `#` after a boolean or
character), or — after the last token — always, except after `,` -/
def gapOK (t : Token) (sep : List Char) (next : Option Token) : Bool :=
  !sep.isEmpty ||
    match next with
    | none => t != .unquote
    | some t2 => followOK t (renderTok t2)

def ValidGaps : List Token → List (List Char) → Prop
  | [], [a] => isTrail false a = true
  | t :: ts, a :: l =>
    isAtmos false a = true ∧ gapOK t (l.headD []) ts.head? = true ∧ ValidGaps ts l
  | _, _ => False

/-- the gap condition one would expect if `,` were an ordinary punctuation token (ending by
itself, whatever follows) — used only to state what is *not* true (`C06.lex_render_full_fails`) -/
def gapOKNaive (t : Token) (sep : List Char) (next : Option Token) : Bool :=
  !sep.isEmpty || closedTok t || selfDelimiting t ||
    match next with
    | none => true
    | some t2 => startsDelim (renderTok t2) || (sharpTok t && startsSharp (renderTok t2))

def ValidGapsNaive : List Token → List (List Char) → Prop
  | [], [a] => isTrail false a = true
  | t :: ts, a :: l =>
    isAtmos false a = true ∧ gapOKNaive t (l.headD []) ts.head? = true ∧ ValidGapsNaive ts l
  | _, _ => False

/-! ## Brackets -/

/-- what a token adds to the nesting depth -/
def weight : Token → Int
  | .lparen | .vecIntro | .byteVecIntro => 1
  | .rparen => -1
  | _ => 0

/-- number of opening tokens minus number of closing tokens -/
def depth (ts : List Token) : Int :=
  (ts.count .lparen + ts.count .vecIntro + ts.count .byteVecIntro : Nat) - (ts.count .rparen : Nat)

/-! ## Written data -/

/-- concrete syntax of a datum: atoms, `( … )`, `( … . tail)`, `#( … )`, `'x` -/
inductive Syn where
  | atom (t : Token)
  | list (xs : List Syn)
  | dotted (xs : List Syn) (tail : Syn)
  | vec (xs : List Syn)
  | quote (x : Syn)
  deriving Repr, Inhabited

namespace Syn

mutual
/-- the tokens that write a datum down -/
def toks : Syn → List Token
  | atom t => [t]
  | list xs => .lparen :: (toksL xs ++ [.rparen])
  | dotted xs t => .lparen :: (toksL xs ++ (.period :: (toks t ++ [.rparen])))
  | vec xs => .vecIntro :: (toksL xs ++ [.rparen])
  | quote x => .quote :: toks x
def toksL : List Syn → List Token
  | [] => []
  | x :: xs => toks x ++ toksL xs
end

mutual
/-- the datum R7RS assigns to the written form (no locations): atoms denote themselves,
`(x₁ … xₙ)` the proper list, `(x₁ … xₙ . t)` the chain of pairs ending in `t`, `#(…)` the vector,
`'x` the list `(quote x)` -/
def denote : Syn → Datum
  | atom (.prim p) => .prim p none
  | atom (.ident s) => .sym s none
  | atom _ => .nil none
  | list xs => denoteL xs (.nil none)
  | dotted xs t => denoteL xs (denote t)
  | vec xs => .vec (denoteV xs) none
  | quote x => .pair (.sym "quote" none) (.pair (denote x) (.nil none) none) none
def denoteL : List Syn → Datum → Datum
  | [], tl => tl
  | x :: xs, tl => .pair (denote x) (denoteL xs tl) none
def denoteV : List Syn → List Datum
  | [] => []
  | x :: xs => denote x :: denoteV xs
end

/-- atoms are primitives and identifiers -/
def isAtomTok : Token → Bool
  | .prim _ | .ident _ => true
  | _ => false

mutual
/-- atoms are supported tokens; a dotted list has at least one element before the dot -/
def Supported : Syn → Prop
  | atom t => isAtomTok t = true ∧ SupportedTok t
  | list xs => SupportedL xs
  | dotted xs t => xs ≠ [] ∧ SupportedL xs ∧ Supported t
  | vec xs => SupportedL xs
  | quote x => Supported x
def SupportedL : List Syn → Prop
  | [] => True
  | x :: xs => Supported x ∧ SupportedL xs
end

/-- the text of a datum under a layout -/
def render (d : Syn) (layout : List (List Char)) : List Char := interleave d.toks layout

end Syn

/-! ## Data as written text -/

namespace Syn
mutual
/-- the canonical written form of a datum: lists as `( … )`, improper lists as `( … . t)`,
vectors as `#( … )`; `(quote x)` is written in full -/
def ofDatum : Datum → Syn
  | .prim p _ => .atom (.prim p)
  | .sym s _ => .atom (.ident s)
  | .nil _ => .list []
  | .vec xs _ => .vec (ofDatums xs)
  | .pair a d _ =>
    match (ofTail d).2 with
    | none => .list (ofDatum a :: (ofTail d).1)
    | some t => .dotted (ofDatum a :: (ofTail d).1) t
/-- the elements of the cdr chain and its improper end, if any -/
def ofTail : Datum → List Syn × Option Syn
  | .pair a d _ => (ofDatum a :: (ofTail d).1, (ofTail d).2)
  | .nil _ => ([], none)
  | .prim p _ => ([], some (.atom (.prim p)))
  | .sym s _ => ([], some (.atom (.ident s)))
  | .vec xs _ => ([], some (.vec (ofDatums xs)))
def ofDatums : List Datum → List Syn
  | [] => []
  | x :: xs => ofDatum x :: ofDatums xs
end
end Syn

mutual
/-- all atoms of the datum are supported tokens -/
def SupportedD : Datum → Prop
  | .prim p _ => SupportedTok (.prim p)
  | .sym s _ => SupportedTok (.ident s)
  | .nil _ => True
  | .vec xs _ => SupportedDs xs
  | .pair a d _ => SupportedD a ∧ SupportedD d
def SupportedDs : List Datum → Prop
  | [] => True
  | x :: xs => SupportedD x ∧ SupportedDs xs
end

/-- the text of a datum under a layout: its canonical written form (`Syn.ofDatum`) -/
def renderDatum (d : Datum) (layout : List (List Char)) : List Char :=
  (Syn.ofDatum d).render layout

end Ruschm.Text

namespace Ruschm.FrontSpec
open Ruschm

/-- the located tokens of a token sequence written with a layout (`Text.interleave`), the cursor
starting at `p`: a token's location is the cursor after its last character -/
def locate : List Token → List (List Char) → Lex.Pos → List LToken
  | [], _, _ => []
  | t :: ts, l, p =>
    ⟨t, some (Text.advs (Text.renderTok t) (Text.advs (l.headD []) p))⟩ ::
      locate ts l.tail (Text.advs (Text.renderTok t) (Text.advs (l.headD []) p))

end Ruschm.FrontSpec
