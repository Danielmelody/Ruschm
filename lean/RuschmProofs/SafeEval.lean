/-
The evaluator does not panic: from a safe store (`Store.Safe`: well-formed, every stored value safe),
on `ok` code, with good arguments and a procedure in operator position, no function of its block
panics, the store stays safe and results are good. This is `safeInv_sound`, an instance of
`EvalInv.Sound`: what stands before it is one of its fields each. `safeAt` says it as the
specification's `SafeAt`.
-/
import RuschmProofs.SafeVocab
import RuschmProofs.SafeLemmas
open Ruschm
namespace Ruschm

namespace Ends

/-- `Ends` in the words of the specification's `Eval.Post`, whose fields stand in another order; `hq` weakens
the claim about the value -/
theorem toPost {α} {Q : Store → α → Prop} {Q' : α → Prop} {x : Res α} {r σ'}
    (i : Ends Store.Safe SErr.NP Q x) (h : x = (r, σ')) (hq : ∀ a, Q σ' a → Q' a := by exact fun _ h => h) :
    Eval.Post σ' r Q' := by
  subst h; exact ⟨i.inv, i.err, fun a ha => hq a (i.ok a ha)⟩

end Ends

namespace Eval
open Store

theorem VGood.grows {σ σ' : Store} {v} (h : VGood σ v) (g : Grows σ σ') : VGood σ' v := ⟨h.1, h.2.grows g⟩
theorem VGoodAll.safeAll {σ : Store} {vs} (h : VGoodAll σ vs) : SafeAll vs := fun v hv => (h v hv).1
theorem VGoodAll.allocAll {σ : Store} {vs} (h : VGoodAll σ vs) : AllocAll σ vs := fun v hv => (h v hv).2

theorem VGood.of_leaf {σ : Store} {v : Value} (hs : v.Safe) (hf : v.frameIds = []) (hv : v.vecIds = []) :
    VGood σ v := by
  refine ⟨hs, ?_⟩
  unfold Store.AllocIn Value.Below
  rw [hf, hv]
  exact ⟨nofun, nofun⟩
theorem vgood_closure {σ : Store} {lam ρ} : VGood σ (.closure lam ρ) ↔ lam.ok = true ∧ ρ < σ.frames.size := by
  simp [VGood, Store.AllocIn, Value.Safe]
theorem vgood_pair {σ : Store} {a d} : VGood σ (.pair a d) ↔ VGood σ a ∧ VGood σ d := by
  simp only [VGood, Value.Safe, Store.AllocIn, Value.below_pair, and_and_and_comm]

/-! ### stores -/

theorem safe_define {σ : Store} (h : σ.Safe) (ρ : Nat) (k : String) {v : Value} (hv : VGood σ v) :
    (σ.define ρ k v).Safe :=
  ⟨wf_define h.wf ρ k hv.2, valsSafe_all.2 ((valsSafe_all.1 h.vals).define ρ k hv.1)⟩

theorem safe_lookup {σ : Store} (h : σ.Safe) {ρ : Nat} {s : String} {v : Value}
    (hl : σ.lookup ρ s = some v) : VGood σ v :=
  ⟨(valsSafe_all.1 h.vals).lookup hl, h.wf.all.lookup hl⟩

theorem safe_newFrame {σ : Store} (h : σ.Safe) (p : Option Nat) (hp : ∀ c, p = some c → c < σ.frames.size) :
    (σ.newFrame p).2.Safe :=
  ⟨wf_newFrame h.wf p hp, valsSafe_all.2 ((valsSafe_all.1 h.vals).newFrame p)⟩

theorem safe_of_eq {σ σ' : Store} (h : σ.Safe) (hf : σ'.frames = σ.frames) (hv : σ'.vecs = σ.vecs) : σ'.Safe :=
  ⟨wf_of_eq h.wf hf hv, valsSafe_all.2 ((valsSafe_all.1 h.vals).of_eq hf hv)⟩

/-! ### literals -/

theorem evalPrim_good {p : Prim} (hp : p.ratOk = true) :
    (∀ e, evalPrim p = .error e → ∀ s, e ≠ .panic s) ∧ ∀ v, evalPrim p = .ok v → ∀ σ : Store, VGood σ v := by
  cases p with
  | rat n d =>
    have hd : (d : Int) ≠ 0 := by simp [Prim.ratOk] at hp; exact_mod_cast hp
    obtain ⟨r, hr⟩ := C09.exactRatio_no_panic (n := n) hd
    rw [evalPrim, hr]
    exact ⟨fun _ h => (by cases h), fun v h σ => by cases h; exact ⟨(C09.exactRatio_wf hr).posDen, Value.below_num⟩⟩
  | _ => exact ⟨fun _ h => (by cases h), fun v h σ => by cases h; exact ⟨trivial, by simp [Store.AllocIn]⟩⟩

theorem litInv_safe : LitInv (fun _ => Value.Safe) SErr.NP (fun d => d.ratOk = true) where
  mono := fun _ h => h
  pair := fun ha hd => ⟨ha, hd⟩
  sym := fun _ _ => trivial
  nil := fun _ => trivial
  vec := fun _ _ => trivial
  prim := fun hd => have p := evalPrim_good hd; ⟨fun v hv σ => (p.2 v hv σ).1, fun e he => np_of_kind (p.1 e he)⟩
  dpair := fun h => by simpa only [Datum.ratOk, Bool.and_eq_true] using h
  dvec := fun h => Datum.ratOkList_iff.1 (by simpa only [Datum.ratOk] using h)

theorem readLiteral_post {σ : Store} {d : Datum} {r σ'} (h : readLiteral σ d = (r, σ')) (hσ : σ.Safe)
    (hd : d.ratOk = true) : Post σ' r (VGood σ') := by
  have h1 := readLiteral_all litInv_safe d σ h hd (valsSafe_all.1 hσ.vals)
  have h2 := readLiteral_wf hσ.wf d
  rw [h] at h2
  exact ⟨⟨h2.1, valsSafe_all.2 h1.1⟩, h1.2.2, fun v hv => ⟨h1.2.1 v hv, h2.2 v hv⟩⟩

/-! ### native procedures, `apply`, parameter binding -/

theorem applyPure_post {σ : Store} {b : Builtin} {args : List Value} {r σ'}
    (h : Prim.applyPure σ b args = (r, σ')) (hσ : σ.Safe) (ha : VGoodAll σ args) (hb : b ≠ .apply)
    (har : arityOk b.arity.1 b.arity.2 args.length = true) : Post σ' r (VGood σ') := by
  have h1 := Prim.applyPure_rok hb har ha.safeAll ha.allocAll hσ.vals
  have h2 := Prim.applyPure_valsSafe hσ.vals b ha.safeAll
  have h3 := Prim.applyPure_wf hσ.wf b ha.allocAll
  rw [h] at h1 h2 h3
  exact ⟨⟨h3.1, h2⟩, fun er he => noPanic_iff.1 h1.np er he, fun v hv => ⟨h1.val v hv, h3.2 v hv⟩⟩

/-! ## the evaluator -/

/-! ### what `ok` says of the parts of the code -/

theorem okList_iff {es : List Expr} : Expr.okList es = true ↔ ∀ e ∈ es, e.ok = true :=
  all_of_rec rfl fun _ _ => rfl

theorem defs_ok {ds : List Def} (h : Def.okList ds = true) (x e l) (hx : Def.mk x e l ∈ ds) : e.ok = true :=
  (all_of_rec (f := Def.okList) rfl fun _ _ => rfl).1 h _ hx

theorem ok_call {f : Expr} {args l} : (Expr.call f args l).ok = true ↔ f.ok = true ∧ ∀ e ∈ args, e.ok = true := by
  simp only [Expr.ok, Bool.and_eq_true, okList_iff]

theorem ok_cond {t c : Expr} {a l} :
    (Expr.cond t c a l).ok = true ↔ t.ok = true ∧ c.ok = true ∧ ∀ x, a = some x → x.ok = true := by
  cases a <;> simp [Expr.ok, and_assoc]

theorem ok_lam {lam : Lambda} :
    lam.ok = true ↔ Def.okList lam.defs = true ∧ (∀ e ∈ lam.body, e.ok = true) ∧ lam.body ≠ [] := by
  obtain ⟨formals, defs, body⟩ := lam
  simp only [Lambda.ok, Bool.and_eq_true, Bool.not_eq_true', List.isEmpty_eq_false_iff, okList_iff, and_assoc, Lambda.defs,
    Lambda.body]

@[reducible] def safeInv : EvalInv where
  G := Grows
  I := Store.Safe
  V := VGood
  Env := fun σ ρ => ρ < σ.frames.size
  C := fun e => e.ok = true
  CL := fun lam => lam.ok = true
  Err := SErr.NP

theorem safeInv_sound : safeInv.Sound where
  rel := stepRel_grows
  V_mono := fun g h => h.grows g
  Env_mono := fun g h => lt_grows h g
  of_eq := fun hf hv => ⟨fun h => safe_of_eq h hf hv, fun v h => ⟨h.1, (allocIn_of_eq hf hv v).2 h.2⟩⟩
  lookup := fun h hl => safe_lookup h hl
  define := fun h hv ρ k => safe_define h ρ k hv
  newFrame := fun h hc => ⟨safe_newFrame h _ (fun _ hp => by cases hp; exact hc), newFrame_lt ..⟩
  prim := fun hp => have p := evalPrim_good hp; ⟨p.2, fun e he => np_of_kind (p.1 e he)⟩
  lit := fun hc hσ => have p := readLiteral_post (Prod.eta _).symm hσ (hc.elim id id); ⟨p.store, p.val, p.np⟩
  applyPure := fun hσ ha hb har => have p := applyPure_post (Prod.eta _).symm hσ ha hb har; ⟨p.store, p.val, p.np⟩
  V_pair := vgood_pair
  V_nil := .of_leaf trivial rfl rfl
  V_void := .of_leaf trivial rfl rfl
  V_closure := vgood_closure
  err := fun _ hk => np_of_kind hk
  call := fun h => have h := ok_call.1 h; ⟨h.1, h.2, np_of_kind nofun⟩
  assign := fun h => ⟨h, np_of_kind nofun⟩
  cond := fun h => ok_cond.1 h
  lambda := fun h => h
  sym := fun _ => np_of_kind nofun
  lam := fun h => have h := ok_lam.1 h; ⟨defs_ok h.1, h.2.1, .inr h.2.2⟩

theorem safeInv_tail {σ : Store} {t : TailRes} (h : safeInv.T σ t) : TGood σ t := by
  cases t with
  | value v => exact h
  | tailCall f a env => exact ⟨h.1, okList_iff.2 h.2.1, h.2.2.2⟩

theorem safeAt (fuel : Nat) : SafeAt fuel :=
  have h := safeInv_sound.eval fuel
  { expr := fun σ ρ e _ _ he hσ hρ hc => (h.expr σ ρ e hσ hρ hc).toEnds.toPost he
    args := fun σ ρ es _ _ he hσ hρ hc => (h.args σ ρ es hσ hρ (okList_iff.1 hc)).toEnds.toPost he
    proc := fun σ f as env _ _ he hσ hf ha hq => (h.proc σ f as env hσ hf ha (.inr hq)).toEnds.toPost he
    loop := fun σ f as env _ _ he hσ hf ha hq => (h.loop σ f as env hσ hf ha (.inr hq)).toEnds.toPost he
    scheme := fun σ lam cenv as _ _ he hσ hc hl ha har =>
      (h.scheme σ lam cenv as hσ hc hl ha (.inr har)).toEnds.toPost he fun _ => safeInv_tail
    defs := fun σ ρ ds _ _ he hσ hρ hc => (h.defs σ ρ ds hσ hρ (defs_ok hc)).toEnds.toPost he fun _ _ => trivial
    body := fun σ ρ es _ _ he hσ hρ hc hne =>
      (h.body σ ρ es hσ hρ (okList_iff.1 hc) (.inr (List.isEmpty_eq_false_iff.1 hne))).toEnds.toPost he
        fun _ => safeInv_tail
    tail := fun σ ρ e _ _ he hσ hρ hc => (h.tail σ ρ e hσ hρ hc).toEnds.toPost he fun _ => safeInv_tail }

/-! ### the same facts in other forms (nothing uses them) -/

abbrev PostU {α} (σ' : Store) (r : Except SErr α) (Q : α → Prop) : Prop :=
  σ'.Safe ∧ (∀ er, r = .error er → er.NP) ∧ ∀ a, r = .ok a → Q a

theorem ge_loop' {n σ p a env r σ'} (h : applyLoop n σ p a env = (r, σ')) : Grows σ σ' := by
  have := applyLoop_grows n σ p a env; rwa [h] at this
theorem ge_scheme' {n σ l c a r σ'} (h : applyScheme n σ l c a = (r, σ')) : Grows σ σ' := by
  have := applyScheme_grows n σ l c a; rwa [h] at this
theorem ge_defs' {n σ ρ ds r σ'} (h : evalDefs n σ ρ ds = (r, σ')) : Grows σ σ' := by
  have := evalDefs_grows n σ ρ ds; rwa [h] at this

theorem applyPure_fw {σ : Store} {b : Builtin} {args : List Value} {r σ'}
    (h : Prim.applyPure σ b args = (r, σ')) (hσ : σ.Safe) (ha : VGoodAll σ args) (hb : b ≠ .apply)
    (har : arityOk b.arity.1 b.arity.2 args.length = true) : PostU σ' r (VGood σ') :=
  have p := applyPure_post h hσ ha hb har
  ⟨p.store, p.np, p.val⟩

theorem valsSafe_allocVec' {σ : Store} (h : σ.ValsSafe) (m : Bool) {items : List Value} (hi : SafeAll items) :
    (σ.allocVec m items).2.ValsSafe := valsSafe_all.2 ((valsSafe_all.1 h).allocVec m hi)

def LitOK {α} (Q : α → Prop) (x : Res α) : Prop :=
  x.2.ValsSafe ∧ (∀ er, x.1 = .error er → er.NP) ∧ ∀ v, x.1 = .ok v → Q v

theorem readLiterals_safe : ∀ (ds : List Datum) (σ : Store), σ.ValsSafe → Datum.ratOkList ds = true →
    LitOK SafeAll (readLiterals σ ds) := fun ds σ hσ hd =>
  have h := readLiterals_all litInv_safe ds σ rfl (Datum.ratOkList_iff.1 hd) (valsSafe_all.1 hσ)
  ⟨valsSafe_all.2 h.1, h.2.2, h.2.1⟩

end Eval
end Ruschm
