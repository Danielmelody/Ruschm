/-
Closed samples for the examples of the text-level files, and what lets the kernel check them by
evaluation: a text against a string literal, byte by byte (`eq_toList_of_bytes`), tokens and data against
`SupportedTok` / `SupportedD` by a Bool test (`supTok`, `supD`).
-/
import RuschmProofs.TextLemmas
import RuschmProofs.Same

namespace Ruschm.Text.Samples
open Ruschm Ruschm.Lex Ruschm.Text

/-! `String.toList` of a literal is slow to evaluate (it decodes into an array, element by element), the
bytes of a literal are not: a text of ASCII characters is compared with a literal byte by byte. -/

def asciiBytes (l : List Char) : Option (List UInt8) :=
  if l.all (fun c => decide (c.val.toNat ≤ 127)) then some (l.map fun c => UInt8.ofNat c.val.toNat) else none

theorem eq_toList_of_bytes {s : String} {l : List Char}
    (h : asciiBytes l = some s.toByteArray.data.toList) : l = s.toList := by
  unfold asciiBytes at h
  split at h
  next ha =>
    rw [List.all_eq_true] at ha
    have enc : l.flatMap String.utf8EncodeChar = l.map fun c => UInt8.ofNat c.val.toNat := by
      clear h
      induction l with
      | nil => rfl
      | cons c l ih =>
        have : String.utf8EncodeChar c = [UInt8.ofNat c.val.toNat] :=
          if_pos (of_decide_eq_true (ha c List.mem_cons_self))
        rw [List.flatMap_cons, List.map_cons, ih (fun c hc => ha c (List.mem_cons_of_mem _ hc)), this]
        rfl
    have e : s = String.ofList l := by
      apply String.toByteArray_inj.1
      rw [String.toByteArray_ofList, List.utf8Encode, enc, Option.some.inj h]
      exact ByteArray.ext (by rw [List.data_toByteArray, Array.toArray_toList])
    rw [e, String.toList_ofList]
  next => cases h

theorem ofList_eq_of_bytes {s : String} {l : List Char}
    (h : asciiBytes l = some s.toByteArray.data.toList) : String.ofList l = s := by
  rw [eq_toList_of_bytes h, String.ofList_toList]

/-! A Bool test for `SupportedTok`; it refuses real literals, whose support is an existential. -/

def supTok : Token → Bool
  | .ident s => isPlainIdent s.toList || decide ('|' ∉ s.toList)
  | .prim (.int i) => fitsI32 i
  | .prim (.rat n d) => fitsI32 n && decide (0 < d) && decide (d ≤ 4294967295)
  | .prim (.real _) => false
  | _ => true

theorem supTok_sound : ∀ t, supTok t = true → SupportedTok t
  | .ident s, h => by simpa [supTok, SupportedTok] using h
  | .prim (.int i), h => h
  | .prim (.rat n d), h => by simpa [supTok, SupportedTok, and_assoc] using h
  | .prim (.real _), h => by cases h
  | .prim (.str _), _ | .prim (.chr _), _ | .prim (.bool _), _ => trivial
  | .lparen, _ | .rparen, _ | .vecIntro, _ | .byteVecIntro, _ | .quote, _ | .quasiquote, _
  | .unquote, _ | .unquoteSplicing, _ | .period, _ => trivial

theorem supportedTok_of_all (ts : List Token) (h : ts.all supTok = true) : ∀ t ∈ ts, SupportedTok t :=
  fun t ht => supTok_sound t (List.all_eq_true.1 h t ht)

/-- `( a . "x)" ) ' -5` -/
def toksA : List Token :=
  [.lparen, .ident "a", .period, .prim (.str "x)"), .rparen, .quote, .prim (.int (-5))]

theorem toksA_supported : ∀ t ∈ toksA, SupportedTok t := supportedTok_of_all _ (by decide)

def layoutA : List (List Char) :=
  [" ".toList, [], " ;c\n".toList, [' '], [], ['\t'], [], "; end".toList]
def layoutB : List (List Char) := [[], ['\n'], [' '], [' '], [], [], [], []]

theorem toksA_textA : interleave toksA layoutA = " (a ;c\n. \"x)\")\t'-5; end".toList :=
  eq_toList_of_bytes (by decide +kernel)
theorem toksA_layoutA : ValidLayout toksA layoutA := by decide +kernel
theorem toksA_textB : interleave toksA layoutB = "(\na . \"x)\")'-5".toList :=
  eq_toList_of_bytes (by decide +kernel)
theorem toksA_gapsB : ValidGaps toksA layoutB := by decide +kernel

/-- `(a (b . "s") #(1 'c) . d)` -/
def synA : Syn :=
  .dotted [.atom (.ident "a"), .dotted [.atom (.ident "b")] (.atom (.prim (.str "s"))),
    .vec [.atom (.prim (.int 1)), .quote (.atom (.ident "c"))]] (.atom (.ident "d"))

theorem synA_supported : synA.Supported := by
  simp only [synA, Syn.Supported, Syn.SupportedL, Syn.isAtomTok, SupportedTok, and_true,
    true_and, ne_eq, reduceCtorEq, not_false_eq_true, List.cons_ne_self]
  exact ⟨⟨Or.inl (by decide +kernel), Or.inl (by decide +kernel), by decide, Or.inl (by decide +kernel)⟩,
    Or.inl (by decide +kernel)⟩

def synLayout : List (List Char) :=
  [[], [], [' '], [], " ;the cdr\n".toList, [' '], [], [' '], [], [' '], [], [], [' '], [' '], [],
    ['\n']]

theorem synA_text : synA.render synLayout = "(a (b ;the cdr\n. \"s\") #(1 'c) . d)\n".toList :=
  eq_toList_of_bytes (by decide +kernel)
theorem synA_layout : ValidLayout synA.toks synLayout := by decide +kernel

/-- `( f #\\( "a)" |b)| #( 1` -/
def toksB : List Token :=
  [.lparen, .ident "f", .prim (.chr '('), .prim (.str "a)"), .ident "b)", .vecIntro,
    .prim (.int 1)]

def layoutToksB : List (List Char) :=
  [[], [], [' '], [' '], [' '], " ;)\n".toList, [], []]

theorem toksB_text : interleave toksB layoutToksB = "(f #\\( \"a)\" |b)| ;)\n#(1".toList :=
  eq_toList_of_bytes (by decide +kernel)
theorem toksB_layout : ValidLayout toksB layoutToksB := by decide +kernel

theorem toksB_supported : ∀ t ∈ toksB, SupportedTok t := supportedTok_of_all _ (by decide +kernel)

mutual
def supD : Datum → Bool
  | .prim p _ => supTok (.prim p)
  | .sym s _ => supTok (.ident s)
  | .nil _ => true
  | .vec xs _ => supDs xs
  | .pair a d _ => supD a && supD d
def supDs : List Datum → Bool
  | [] => true
  | x :: xs => supD x && supDs xs
end

mutual
theorem supD_sound : ∀ d, supD d = true → SupportedD d
  | .prim _ _, h => supTok_sound _ h
  | .sym _ _, h => supTok_sound _ h
  | .nil _, _ => trivial
  | .vec xs _, h => supDs_sound xs h
  | .pair a d _, h => by
    rw [supD, Bool.and_eq_true] at h
    exact ⟨supD_sound a h.1, supD_sound d h.2⟩
theorem supDs_sound : ∀ ds, supDs ds = true → SupportedDs ds
  | [], _ => trivial
  | x :: xs, h => by
    rw [supDs, Bool.and_eq_true] at h
    exact ⟨supD_sound x h.1, supDs_sound xs h.2⟩
end

theorem supported_of_all {α : Type} (f : α → Datum) (l : List α)
    (h : l.all (fun a => supD (f a)) = true) : ∀ a ∈ l, SupportedD (f a) :=
  fun a ha => supD_sound _ (List.all_eq_true.1 h a ha)

end Ruschm.Text.Samples
