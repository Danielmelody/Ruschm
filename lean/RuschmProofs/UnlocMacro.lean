/-
Erasing locations commutes with the macro expander: each function on `Datum.strip` of its input
gives its output without locations, an error without its location (`mapE id`). Patterns hold no
locations and come out the same; `Subst.strip` is the binding table without locations.
-/
import RuschmProofs.UnlocLemmas
import RuschmProofs.MacroTmpl
namespace Ruschm
open Macro

theorem mapE_id_map {α γ} (f : α → γ) (x : Except SErr α) : (f <$> mapE id x) = mapE id (f <$> x) := by
  cases x <;> rfl

theorem mapM_mapE {α β γ} (g : α → β) (f : α → Except SErr γ) (f' : β → Except SErr γ)
    (h : ∀ x, f' (g x) = mapE id (f x)) : ∀ (xs : List α), (xs.map g).mapM f' = mapE id (xs.mapM f)
  | [] => rfl
  | x :: xs => by
    simp only [List.map_cons, List.mapM_cons, h x]
    refine mapE_bind id id _ _ _ (fun a => ?_)
    rw [mapM_mapE g f f' h xs]
    exact mapE_bind id id _ _ _ (fun as => rfl)

/-! ## patterns and templates -/

mutual
theorem toPat_strip : ∀ (d : Datum), toPat d.strip = toPat d
  | .sym _ _ | .prim _ _ | .nil _ => by simp [Datum.strip, toPat]
  | .pair a d _ => by simp [Datum.strip, toPat, toPat_strip a, toPat_strip d]
  | .vec xs _ => by simp [Datum.strip, toPat, toPats_strip xs]
theorem toPats_strip : ∀ (xs : List Datum), toPats (Datum.stripList xs) = toPats xs
  | [] => rfl
  | x :: xs => by simp [Datum.stripList, toPats, toPat_strip x, toPats_strip xs]
end

theorem isEllSym_strip (x : Datum) : isEllSym x.strip = isEllSym x := by
  cases x <;> rfl

theorem collectElems_strip_of : ∀ (xs : List Datum),
    (∀ x ∈ xs, toTmpl x.strip = mapE id (toTmpl x)) → ∀ last,
    collectElems (xs.map Datum.strip) last = mapE id (collectElems xs last)
  | [], _, last => by cases last <;> rfl
  | x :: xs, h, last => by
    have ih := collectElems_strip_of xs (fun y hy => h y (List.mem_cons_of_mem _ hy))
    rw [List.map_cons]
    cases hx : isEllSym x
    · rw [collectElems_cons_ne hx, collectElems_cons_ne ((isEllSym_strip x).trans hx), h x List.mem_cons_self]
      refine mapE_bind id id _ _ _ (fun t => ?_)
      rw [ih]
      exact mapE_bind id id _ _ _ (fun es => rfl)
    · obtain ⟨l, rfl⟩ := isEllSym_iff.1 hx
      cases last with
      | none => rw [Datum.strip, collectElems.eq_4, collectElems.eq_4]; rfl
      | some t =>
        rw [Datum.strip, collectElems.eq_3, collectElems.eq_3, ih]
        exact mapE_bind id id _ _ _ (fun es => rfl)

theorem toTmpl_strip : ∀ (d : Datum), toTmpl d.strip = mapE id (toTmpl d) := by
  refine Datum.elems_induct (fun _ _ => rfl) (fun _ _ => rfl) (fun _ => rfl) ?_ ?_
  · intro a d l ih
    have he := Datum.strip_elems (.pair a d l)
    rw [Datum.strip] at he ⊢
    rw [toTmpl_pair, toTmpl_pair, ← (collectElems_spec _).1, ← (collectElems_spec _).1, he,
      collectElems_strip_of _ ih]
    cases collectElems _ none <;> rfl
  · intro xs l ih
    rw [Datum.strip, Datum.stripList_eq_map, toTmpl, toTmpl, collectElems_strip_of _ ih]
    cases collectElems xs none <;> rfl

theorem collectSpine_strip : ∀ (d : Datum) (last : Option Tmpl), collectSpine d.strip last = mapE id (collectSpine d last) := by
  intro d last
  rw [collectSpine_eq, collectSpine_eq, Datum.strip_elems]
  exact collectElems_strip_of _ (fun x _ => toTmpl_strip x) last

theorem collectElems_strip : ∀ (xs : List Datum) (last : Option Tmpl),
    collectElems (Datum.stripList xs) last = mapE id (collectElems xs last) := by
  intro xs last
  rw [Datum.stripList_eq_map]
  exact collectElems_strip_of _ (fun x _ => toTmpl_strip x) last

@[simp] theorem expectList_strip (d : Datum) : expectList d.strip = mapE Datum.strip (expectList d) := by
  cases d <;> simp [Datum.strip, expectList]

@[simp] theorem identOf_strip (d : Datum) : identOf d.strip = mapE id (identOf d) := by
  cases d <;> simp [Datum.strip, identOf, Datum.loc]

@[simp] theorem popProper_strip (d : Datum) :
    popProper d.strip = mapE (Option.map (fun p => (p.1.strip, p.2.strip))) (popProper d) := by
  cases d with
  | pair a d l => cases d <;> simp [Datum.strip, popProper]
  | _ => simp [Datum.strip, popProper]

theorem toRule_strip (k : String) (d : Datum) : toRule k d.strip = mapE id (toRule k d) := by
  unfold toRule
  rw [expectList_strip]
  refine mapE_bind Datum.strip id _ _ _ (fun d1 => ?_)
  rw [Datum.strip_elems]
  cases d1.elems with
  | nil => rfl
  | cons pd rest =>
    simp only [List.map_cons, expectList_strip]
    refine mapE_bind Datum.strip id _ _ _ (fun pd1 => ?_)
    rw [popProper_strip]
    refine mapE_bind _ id _ _ _ (fun o => ?_)
    cases o with
    | none => rfl
    | some p =>
      obtain ⟨first, patRest⟩ := p
      simp only [Option.map_some]
      cases first with
      | sym kk l =>
        simp only [Datum.strip]
        split
        · rfl
        · cases rest with
          | nil => rfl
          | cons td more =>
            simp only [List.map_cons, toTmpl_strip, toPat_strip]
            exact mapE_bind id id _ _ _ (fun t => rfl)
      | _ => rfl

theorem toRules_tail (k : String) (lits ruleData : List Datum) :
    (do let lits ← (lits.map Datum.strip).mapM identOf
        let rules ← (ruleData.map Datum.strip).mapM (toRule k)
        pure ({ literals := lits, rules := rules } : Rules)) =
    mapE id (do let lits ← lits.mapM identOf
                let rules ← ruleData.mapM (toRule k)
                pure ({ literals := lits, rules := rules } : Rules)) := by
  rw [mapM_mapE Datum.strip identOf identOf (fun x => identOf_strip x)]
  refine mapE_bind id id _ _ _ (fun lits' => ?_)
  rw [mapM_mapE Datum.strip (toRule k) (toRule k) (fun x => toRule_strip k x)]
  exact mapE_bind id id _ _ _ (fun rules => rfl)

theorem toRules_strip (k : String) (d : Datum) : toRules k d.strip = mapE id (toRules k d) := by
  unfold toRules
  rw [expectList_strip]
  refine mapE_bind Datum.strip id _ _ _ (fun d1 => ?_)
  rw [Datum.strip_elems, ← List.map_drop]
  cases d1.elems.drop 1 with
  | nil => rfl
  | cons first rest =>
    simp only [List.map_cons]
    have he := Datum.strip_elems first
    have ht := toRules_tail k first.elems rest
    cases first with
    | sym s l =>
      simp only [Datum.strip]
      cases rest with
      | nil => rfl
      | cons ld rest' =>
        simp only [List.map_cons, expectList_strip, bind_assoc]
        refine mapE_bind Datum.strip id _ _ _ (fun x => ?_)
        simp only [pure_bind, Datum.strip_elems]
        exact toRules_tail k _ _
    | pair a b l | nil l => rw [Datum.strip] at he ⊢; simp only [he]; exact ht
    | prim p l | vec xs l => rfl

/-! ## matching -/

def Subst.strip (σ : Subst) : Subst := σ.map (fun p => (p.1, p.2.1.strip, p.2.2.map Datum.strip))

@[simp] theorem Subst.strip_nil : Subst.strip [] = [] := rfl

@[simp] theorem Subst.strip_cons (k : String) (f : Datum) (more : List Datum) (σ : Subst) :
    Subst.strip ((k, f, more) :: σ) = (k, f.strip, more.map Datum.strip) :: Subst.strip σ := rfl

theorem Subst.strip_get? (σ : Subst) (v : String) :
    (Subst.strip σ).get? v = (σ.get? v).map (fun x => (x.1.strip, x.2.map Datum.strip)) := by
  rw [Subst.get?_eq_lookup, Subst.get?_eq_lookup]
  exact Assoc.lookup_map_val (fun _ (x : Datum × List Datum) => (x.1.strip, x.2.map Datum.strip)) v σ

theorem Subst.strip_insert (σ : Subst) (v : String) (x : Datum × List Datum) :
    Subst.strip (σ.insert v x) = (Subst.strip σ).insert v (x.1.strip, x.2.map Datum.strip) :=
  Assoc.insert_map_of (fun x : Datum × List Datum => (x.1.strip, x.2.map Datum.strip))
    Subst.insert_nil Subst.insert_nil Subst.insert_cons Subst.insert_cons v x σ

theorem Subst.strip_push? (σ : Subst) (v : String) (d : Datum) :
    (Subst.strip σ).push? v d.strip = (σ.push? v d).map Subst.strip := by
  induction σ with
  | nil => rfl
  | cons p σ ih =>
    obtain ⟨k, f, more⟩ := p
    simp only [Subst.strip_cons, Subst.push?]
    split
    · simp
    · rw [ih]; cases Subst.push? σ v d <;> simp

theorem pushAll_strip (τ σ : Subst) :
    pushAll (Subst.strip τ) (Subst.strip σ) = (pushAll τ σ).map Subst.strip := by
  induction τ generalizing σ with
  | nil => rfl
  | cons e τ ih =>
    obtain ⟨v, m, more⟩ := e
    rw [Subst.strip_cons, pushAll_cons, pushAll_cons, Subst.strip_push?]
    cases σ.push? v m with
    | none => rfl
    | some σ1 => exact ih σ1

set_option linter.unusedVariables false in
/-- nothing to show: patterns hold no locations -/
theorem Pat.spine_ok (p : Pat) : True := trivial

abbrev mres : Except SErr (Bool × Subst) → Except SErr (Bool × Subst) := mapE (fun r => (r.1, Subst.strip r.2))

structure MatchUnlocAt (n : Nat) : Prop where
  datum : ∀ lits p d σ, matchDatum n lits p d.strip (Subst.strip σ) = mres (matchDatum n lits p d σ)
  stream : ∀ lits ps ds mm σ, matchStream n lits ps (ds.map Datum.strip) mm (Subst.strip σ) =
    mres (matchStream n lits ps ds mm σ)

theorem matchUnlocAt (n : Nat) : MatchUnlocAt n := by
  suffices h : ∀ lits, (∀ p d σ, matchDatum n lits p d.strip (Subst.strip σ) = mres (matchDatum n lits p d σ)) ∧
      (∀ ps ds mm σ, matchStream n lits ps (ds.map Datum.strip) mm (Subst.strip σ) =
        mres (matchStream n lits ps ds mm σ)) from
    ⟨fun lits => (h lits).1, fun lits => (h lits).2⟩
  intro lits
  -- a list pattern against a list: the stream over the spines first
  have listy : ∀ {n p d σ r}, Pat.isListy p = true → Datum.isListy d = true →
      matchStream n lits p.spine.1 (d.spine.1.map Datum.strip) none (Subst.strip σ) = mres r →
      matchDatum (n+1) lits p d.strip (Subst.strip σ) =
        match mres r with
        | .error e => .error e
        | .ok (false, σ1) => .ok (false, σ1)
        | .ok (true, σ1) =>
          match p.spine.2, d.spine.2.map Datum.strip with
          | some lp, some ld => matchDatum n lits lp ld σ1
          | none, none => .ok (true, σ1)
          | _, _ => .ok (false, σ1) := fun {_ _ d _ _} hp hd ih => by
    rw [matchDatum_listy hp (d.strip_isListy ▸ hd), Datum.strip_spine, ih]; rfl
  -- `...` against one more item: the item against the pending sub-pattern in a fresh table first
  have ellStep : ∀ {n ps d ds mp σ r},
      matchDatum (n+1) lits mp (Datum.strip d) [] = mres r →
      matchStream (n+2) lits (.ellipsis :: ps) ((d :: ds).map Datum.strip) (some mp) (Subst.strip σ) =
        match mres r with
        | .error e => .error e
        | .ok (false, _) => .ok (false, Subst.strip σ)
        | .ok (true, τ) =>
          match pushAll τ (Subst.strip σ) with
          | none => .error (.panic "macros.rs get_mut unwrap", none)
          | some σ2 =>
            match matchStream (n+1) lits (.ellipsis :: ps) (ds.map Datum.strip) (some mp) σ2 with
            | .error e => .error e
            | .ok (true, σ3) => .ok (true, σ3)
            | .ok (false, σ3) => matchStream (n+1) lits ps (ds.map Datum.strip) (some mp) σ3 :=
    fun ih => by rw [List.map_cons, matchStream_step_ell, ih]; rfl
  exact match_induct (lits := lits)
    (D := fun n p d σ r => matchDatum n lits p d.strip (Subst.strip σ) = mres r)
    (S := fun n ps ds mm σ r => matchStream n lits ps (ds.map Datum.strip) mm (Subst.strip σ) = mres r)
    (zeroD := matchDatum_zero) (zeroS := matchStream_zero)
    (under := matchDatum_underscore) (ell := matchDatum_ellipsis)
    (var := fun hv => by rw [matchDatum_var hv]; simp [mres, Subst.strip_insert])
    (lit := fun {_ _ d _} hv => by rw [matchDatum_lit hv]; cases d <;> rfl)
    (prim := fun {_ _ d _} => by rw [matchDatum_prim]; cases d <;> rfl)
    (vec := fun ih => by rw [Datum.strip, matchDatum_vec, Datum.stripList_eq_map]; exact ih)
    (vecNo := fun {_ _ d _} h => by
      rw [matchDatum_vec]; cases d <;> first | rfl | exact absurd rfl (h _ _))
    (listNo := fun {_ _ d _} hp hd => matchDatum_listy_atom hp (d.strip_isListy ▸ hd))
    (listStop := fun {_ _ _ _ r} hp hd ih hr => by
      rw [listy hp hd ih]
      rcases r with e | ⟨_ | _, σ1⟩ <;> first | rfl | exact absurd rfl (hr _))
    (listTails := fun hp hd ih1 hlp hld ih2 => by rw [listy hp hd ih1, hlp, hld]; exact ih2)
    (listEnd := fun hp hd ih hlp hld => by rw [listy hp hd ih, hlp, hld]; rfl)
    (listOdd := fun {_ p d _ _} hp hd ih h => by
      rw [listy hp hd ih]
      cases hlp : p.spine.2 <;> cases hld : d.spine.2 <;> simp [hlp, hld] at h <;> rfl)
    (nilNil := matchStream_nil_nil) (nilCons := matchStream_nil_cons)
    (consNil := fun {_ p _ _ _} h => by
      rcases h with h | rfl
      · exact matchStream_cons_nil_ne h
      · cases hp : p.isEllipsis
        · exact matchStream_cons_nil_ne hp
        · cases p <;> cases hp; exact matchStream_ell_nil_none)
    (ellNil := fun ih => by rw [List.map_nil, matchStream_ell_nil_some]; exact ih)
    (stop := fun {_ _ _ _ _ _ _ r} hp ih hr => by
      rw [List.map_cons, matchStream_step_ne hp, ih]
      rcases r with e | ⟨_ | _, σ1⟩ <;> first | rfl | exact absurd rfl (hr _))
    (step := fun hp ih1 ih2 => by rw [List.map_cons, matchStream_step_ne hp, ih1]; exact ih2)
    (ellOne := matchStream_ell_one) (ellNone := matchStream_ell_none)
    (ellErr := fun ih => by rw [ellStep ih]; rfl) (ellFail := fun ih => by rw [ellStep ih]; rfl)
    (ellPanic := fun ih hp => by rw [ellStep ih]; dsimp only [mres, mapE]; rw [pushAll_strip, hp]; rfl)
    (ellStay := fun {_ _ _ _ _ _ _ _ r} ih1 hp ih2 hr => by
      rw [ellStep ih1]; dsimp only [mres, mapE]; rw [pushAll_strip, hp]; dsimp only [Option.map]
      rw [ih2]
      rcases r with e | ⟨_ | _, σ3⟩ <;> first | rfl | exact absurd rfl (hr _))
    (ellOver := fun ih1 hp ih2 ih3 => by
      rw [ellStep ih1]; dsimp only [mres, mapE]; rw [pushAll_strip, hp]; dsimp only [Option.map]
      rw [ih2]; exact ih3) n

/-! ## instantiating templates -/

mutual
theorem substItem_strip : ∀ (t : Tmpl) (σ : Subst) (i : Nat) (loc : Loc),
    substItem t (Subst.strip σ) i none = (substItem t σ i loc).map Datum.strip
  | .list es, σ, i, loc => by
    simp only [substItem, substItems_strip es σ i loc, Option.map_map]
    congr 1; funext xs; simp [Datum.strip_ofList]
  | .vec es, σ, i, loc => by
    simp only [substItem, substItems_strip es σ i loc, Option.map_map]
    congr 1; funext xs; simp [Datum.strip, Datum.stripList_eq_map]
  | .ident v, σ, i, loc => by
    simp only [substItem, Subst.strip_get?]
    cases σ.get? v with
    | none => simp [Datum.strip]
    | some x =>
      obtain ⟨f, more⟩ := x
      simp only [Option.map_some, List.isEmpty_map]
      split
      · rfl
      · simp
  | .prim p, σ, i, loc => by simp [substItem, Datum.strip]
theorem substItems_strip : ∀ (es : List (Tmpl × Bool)) (σ : Subst) (i : Nat) (loc : Loc),
    substItems es (Subst.strip σ) i none = (substItems es σ i loc).map (List.map Datum.strip)
  | [], σ, i, loc => by simp [substItems]
  | (t, b) :: rest, σ, i, loc => by
    simp only [substItems, substItem_strip t σ i loc]
    cases substItem t σ i loc with
    | none => rfl
    | some d =>
      simp only [Option.map_some, substItems_strip rest σ i loc]
      cases substItems rest σ i loc <;> simp
end

theorem substItemLoop_strip : ∀ (n : Nat) (t : Tmpl) (σ : Subst) (i : Nat) (loc : Loc),
    substItemLoop n t (Subst.strip σ) i none = (substItemLoop n t σ i loc).map (List.map Datum.strip)
  | 0, _, _, _, _ => rfl
  | n + 1, t, σ, i, loc => by
    simp only [substItemLoop, substItem_strip t σ i loc]
    cases substItem t σ i loc with
    | none => rfl
    | some d =>
      simp only [Option.map_some, substItemLoop_strip n t σ (i + 1) loc]
      cases substItemLoop n t σ (i + 1) loc <;> simp

mutual
theorem subst_strip (n : Nat) : ∀ (t : Tmpl) (σ : Subst) (loc : Loc),
    subst n t (Subst.strip σ) none = (subst n t σ loc).map Datum.strip
  | .list es, σ, loc => by
    simp only [subst, substElems_strip n es σ loc, Option.map_map]
    congr 1; funext xs; simp [Datum.strip_ofList]
  | .vec es, σ, loc => by
    simp only [subst, substElems_strip n es σ loc, Option.map_map]
    congr 1; funext xs; simp [Datum.strip, Datum.stripList_eq_map]
  | .ident v, σ, loc => by
    simp only [subst, Subst.strip_get?]
    cases σ.get? v with
    | none => simp [Datum.strip]
    | some x => simp
  | .prim p, σ, loc => by simp [subst, Datum.strip]
theorem substElems_strip (n : Nat) : ∀ (es : List (Tmpl × Bool)) (σ : Subst) (loc : Loc),
    substElems n es (Subst.strip σ) none = (substElems n es σ loc).map (List.map Datum.strip)
  | [], σ, loc => by simp [substElems]
  | (t, true) :: rest, σ, loc => by
    simp only [substElems, subst_strip n t σ loc, substItemLoop_strip n t σ 0 loc, substElems_strip n rest σ loc]
    cases subst n t σ loc <;> cases substItemLoop n t σ 0 loc <;> cases substElems n rest σ loc <;> simp
  | (t, false) :: rest, σ, loc => by
    simp only [substElems, subst_strip n t σ loc, substElems_strip n rest σ loc]
    cases subst n t σ loc <;> cases substElems n rest σ loc <;> simp
end

mutual
theorem mentionsVar_strip (σ : Subst) : ∀ (t : Tmpl), mentionsVar (Subst.strip σ) t = mentionsVar σ t
  | .list es | .vec es => by simp [mentionsVar, mentionsVarElems_strip σ es]
  | .ident v => by simp [mentionsVar, Subst.strip_get?]
  | .prim _ => by simp [mentionsVar]
theorem mentionsVarElems_strip (σ : Subst) : ∀ (es : List (Tmpl × Bool)),
    mentionsVarElems (Subst.strip σ) es = mentionsVarElems σ es
  | [] => by simp [mentionsVarElems]
  | (t, b) :: rest => by simp [mentionsVarElems, mentionsVar_strip σ t, mentionsVarElems_strip σ rest]
end

mutual
theorem ellipsisOk_strip (σ : Subst) : ∀ (t : Tmpl), ellipsisOk (Subst.strip σ) t = ellipsisOk σ t
  | .list es | .vec es => by simp [ellipsisOk, ellipsisOkElems_strip σ es]
  | .ident _ | .prim _ => by simp [ellipsisOk]
theorem ellipsisOkElems_strip (σ : Subst) : ∀ (es : List (Tmpl × Bool)),
    ellipsisOkElems (Subst.strip σ) es = ellipsisOkElems σ es
  | [] => by simp [ellipsisOkElems]
  | (t, b) :: rest => by
    simp [ellipsisOkElems, mentionsVar_strip σ t, ellipsisOk_strip σ t, ellipsisOkElems_strip σ rest]
end

theorem transformRules_strip (n : Nat) (lits : List String) : ∀ (rules : List (Pat × Tmpl)) (use : Datum),
    transformRules n lits rules use.strip = mapE Datum.strip (transformRules n lits rules use)
  | [], use => rfl
  | (p, t) :: rest, use => by
    simp only [transformRules]
    have h0 := (matchUnlocAt n).datum lits p use []
    rw [Subst.strip_nil] at h0
    rw [h0]
    refine mapE_bind _ _ _ _ _ (fun ⟨ok, σ⟩ => ?_)
    cases ok with
    | false => exact transformRules_strip n lits rest use
    | true =>
      simp only [if_true, ellipsisOk_strip, Datum.strip_loc, subst_strip n t σ use.loc]
      split
      · rfl
      · cases subst n t σ use.loc <;> rfl

theorem transform_strip (n : Nat) (r : Rules) (use : Datum) :
    Macro.transform n r use.strip = mapE Datum.strip (Macro.transform n r use) :=
  transformRules_strip n r.literals r.rules use

end Ruschm
