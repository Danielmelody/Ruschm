/-
`readLiteral` looks at the constructors of a datum, never at its locations, and touches the store through
`allocVec false` only: it commutes with every relabelling of the datum and every map of stores and values that
commutes with that one operation (`LitHom.readLiteral_relabel`).
-/
import RuschmProofs.EvalHom
import RuschmProofs.DatumLemmas
namespace Ruschm

namespace Eval

structure Relabel (δ : Datum → Datum) : Prop where
  prim : ∀ p l, ∃ l', δ (.prim p l) = .prim p l'
  sym : ∀ s l, ∃ l', δ (.sym s l) = .sym s l'
  nil : ∀ l, ∃ l', δ (.nil l) = .nil l'
  pair : ∀ a d l, ∃ l', δ (.pair a d l) = .pair (δ a) (δ d) l'
  vec : ∀ xs l, ∃ l', δ (.vec xs l) = .vec (xs.map δ) l'

theorem relabel_id : Relabel id :=
  ⟨fun _ l => ⟨l, rfl⟩, fun _ l => ⟨l, rfl⟩, fun l => ⟨l, rfl⟩, fun _ _ l => ⟨l, rfl⟩,
   fun xs l => ⟨l, by rw [List.map_id]; rfl⟩⟩

theorem relabel_strip : Relabel Datum.strip :=
  ⟨fun _ _ => ⟨none, rfl⟩, fun _ _ => ⟨none, rfl⟩, fun _ => ⟨none, rfl⟩, fun _ _ _ => ⟨none, rfl⟩,
   fun xs _ => ⟨none, by rw [Datum.strip, Datum.stripList_eq_map]⟩⟩

structure LitHom (ψ : Store → Store) (φl : Loc → Loc) (v : Value → Value) : Prop where
  loc : φl none = none
  prim : ∀ {p x}, evalPrim p = .ok x → v x = x
  sym : ∀ s, v (.sym s) = .sym s
  nil : v .nil = .nil
  pair : ∀ a d, v (.pair a d) = .pair (v a) (v d)
  alloc : ∀ σ items, (ψ σ).allocVec false (items.map v) =
    (v (σ.allocVec false items).1, ψ (σ.allocVec false items).2)

theorem LitHom.ofStore {ψ : Store → Store}
    (h : ∀ σ items, (ψ σ).allocVec false items = ((σ.allocVec false items).1, ψ (σ.allocVec false items).2)) :
    LitHom ψ id id :=
  ⟨rfl, fun _ => rfl, fun _ => rfl, rfl, fun _ _ => rfl, fun σ items => by rw [List.map_id]; exact h σ items⟩

section
variable {ψ : Store → Store} {φl : Loc → Loc} {v : Value → Value} {δ : Datum → Datum}

mutual
theorem LitHom.readLiteral_relabel (h : LitHom ψ φl v) (hδ : Relabel δ) : ∀ (d : Datum) (σ : Store),
    readLiteral (ψ σ) (δ d) = Res.hom ψ φl v (readLiteral σ d)
  | .prim p l, σ => by
    obtain ⟨l', e⟩ := hδ.prim p l
    rw [e, Eval.readLiteral, Eval.readLiteral]
    cases hp : evalPrim p with
    | ok x => simp only [Res.hom, h.prim hp]
    | error e => simp only [Res.hom, h.loc]
  | .sym s l, σ => by
    obtain ⟨l', e⟩ := hδ.sym s l
    rw [e, Eval.readLiteral, Eval.readLiteral]; simp only [Res.hom, h.sym]
  | .nil l, σ => by
    obtain ⟨l', e⟩ := hδ.nil l
    rw [e, Eval.readLiteral, Eval.readLiteral]; simp only [Res.hom, h.nil]
  | .pair a d l, σ => by
    obtain ⟨l', e⟩ := hδ.pair a d l
    rw [e, readLiteral_pair, readLiteral_pair]
    exact Res.hom_andThen (h.readLiteral_relabel hδ a σ) fun va σ₁ =>
      Res.hom_andThen (h.readLiteral_relabel hδ d σ₁) fun vd σ₂ => by simp only [Res.hom, h.pair]
  | .vec xs l, σ => by
    obtain ⟨l', e⟩ := hδ.vec xs l
    rw [e, readLiteral_vec_eq, readLiteral_vec_eq]
    exact Res.hom_andThen (h.readLiterals_relabel hδ xs σ) fun vs σ₁ => by simp only [Res.hom, h.alloc]
theorem LitHom.readLiterals_relabel (h : LitHom ψ φl v) (hδ : Relabel δ) : ∀ (ds : List Datum) (σ : Store),
    readLiterals (ψ σ) (ds.map δ) = Res.hom ψ φl (List.map v) (readLiterals σ ds)
  | [], σ => by rw [List.map_nil, Eval.readLiterals, Eval.readLiterals]; rfl
  | x :: xs, σ => by
    rw [List.map_cons, readLiterals_cons, readLiterals_cons]
    exact Res.hom_andThen (h.readLiteral_relabel hδ x σ) fun va σ₁ =>
      Res.hom_andThen (h.readLiterals_relabel hδ xs σ₁) fun vs σ₂ => rfl
end

theorem LitHom.readLiteral (h : LitHom ψ φl v) (d : Datum) (σ : Store) :
    readLiteral (ψ σ) d = Res.hom ψ φl v (readLiteral σ d) := h.readLiteral_relabel relabel_id d σ

theorem LitHom.readLiterals (h : LitHom ψ φl v) (ds : List Datum) (σ : Store) :
    readLiterals (ψ σ) ds = Res.hom ψ φl (List.map v) (readLiterals σ ds) := by
  have := h.readLiterals_relabel relabel_id ds σ
  rwa [List.map_id] at this

end

/-! ## literals ignore locations -/

theorem readLiteral_strip (d : Datum) (τ : Store) : readLiteral τ d.strip = readLiteral τ d :=
  ((LitHom.ofStore (ψ := id) fun _ _ => rfl).readLiteral_relabel relabel_strip d τ).trans (Res.hom_id (fun _ => rfl) _)

theorem readLiterals_strip (xs : List Datum) (τ : Store) :
    readLiterals τ (Datum.stripList xs) = readLiterals τ xs := by
  rw [Datum.stripList_eq_map]
  exact ((LitHom.ofStore (ψ := id) fun _ _ => rfl).readLiterals_relabel relabel_strip xs τ).trans
    (Res.hom_id List.map_id _)

end Eval
end Ruschm
