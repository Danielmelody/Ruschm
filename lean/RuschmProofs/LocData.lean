/-
Positions (`RuschmSpec/Loc.lean`) of data. A datum gets its positions from its parts or from where it is built,
so `·.locs ⊆ T` is kept by taking data apart and by building them at a position of `T`: the instance of
`MacroAll` for macro expansion.
-/
import RuschmSpec.Loc
import RuschmProofs.MacroAll

namespace Ruschm

theorem flatMap_subset {α β} {l : List α} {f : α → List β} {T : List β} : l.flatMap f ⊆ T ↔ ∀ x ∈ l, f x ⊆ T :=
  ⟨fun h x hx _ hy => h (List.mem_flatMap.2 ⟨x, hx, hy⟩),
   fun h _ hy => have ⟨x, hx, hy⟩ := List.mem_flatMap.1 hy; h x hx hy⟩

/-! ## `unrole` -/

theorem mem_unrole {l : Pos} {L : List RPos} : l ∈ unrole L ↔ ∃ r, (r, l) ∈ L := by
  simp [unrole]

theorem unrole_append (a b : List RPos) : unrole (a ++ b) = unrole a ++ unrole b := List.map_append

theorem unrole_subset {a b : List RPos} (h : a ⊆ b) : unrole a ⊆ unrole b := List.map_subset _ h

theorem mem_unrole_append {l : Pos} {a b : List RPos} (h : l ∈ unrole (a ++ b)) :
    l ∈ unrole a ∨ l ∈ unrole b :=
  List.mem_append.1 (unrole_append a b ▸ h)

theorem unrole_eq_nil {L : List RPos} (h : unrole L ⊆ []) : L = [] :=
  List.map_eq_nil_iff.1 (List.eq_nil_of_subset_nil h)

/-! ## data -/

theorem Datum.loc_subset (d : Datum) : d.loc.toList ⊆ d.locs := by
  cases d <;> simp [Datum.loc, Datum.locs]

theorem Datum.locs_withLoc (d : Datum) (l : Loc) : (d.withLoc l).locs ⊆ l.toList ++ d.locs := by
  cases d <;> simp only [Datum.withLoc, Datum.locs]
  case pair | vec =>
    exact List.append_subset.2 ⟨List.subset_append_left _ _,
      List.subset_append_of_subset_right _ (List.subset_append_right _ _)⟩
  all_goals exact List.subset_append_left _ _

theorem Datum.withLoc_locs_subset {T : List Pos} {d : Datum} {l : Loc} (hd : d.locs ⊆ T) (hl : l.toList ⊆ T) :
    (d.withLoc l).locs ⊆ T :=
  (Datum.locs_withLoc d l).trans (List.append_subset.2 ⟨hl, hd⟩)

theorem Datum.pair_locs_subset {T : List Pos} (a d : Datum) (l : Loc) :
    (Datum.pair a d l).locs ⊆ T ↔ (l.toList ⊆ T ∧ a.locs ⊆ T) ∧ d.locs ⊆ T := by
  rw [Datum.locs, List.append_subset, List.append_subset, and_assoc]

theorem Datum.locsList_subset {xs : List Datum} {T : List Pos} :
    Datum.locsList xs ⊆ T ↔ ∀ x ∈ xs, x.locs ⊆ T := by
  induction xs with
  | nil => simp [Datum.locsList]
  | cons y ys ih => simp [Datum.locsList, ih]

theorem Datum.locs_subset_locsList {x : Datum} {xs : List Datum} (h : x ∈ xs) :
    x.locs ⊆ Datum.locsList xs :=
  Datum.locsList_subset.1 (List.Subset.refl _) x h

theorem Datum.locs_ofList (l : Loc) (xs : List Datum) :
    (Datum.ofList l xs).locs = l.toList ++ Datum.locsList xs := by
  induction xs generalizing l with
  | nil => simp [Datum.ofList, Datum.locs, Datum.locsList]
  | cons x xs ih => simp [Datum.ofList, Datum.locs, Datum.locsList, ih]

/-! ## data without locations carry no positions -/

mutual
theorem Datum.strip_locs : ∀ (d : Datum), d.strip.locs = []
  | .prim _ _ | .sym _ _ | .nil _ => by simp [Datum.strip, Datum.locs]
  | .pair a d _ => by simp [Datum.strip, Datum.locs, Datum.strip_locs a, Datum.strip_locs d]
  | .vec xs _ => by simp [Datum.strip, Datum.locs, Datum.stripList_locs xs]
theorem Datum.stripList_locs : ∀ (xs : List Datum), Datum.locsList (Datum.stripList xs) = []
  | [] => by simp [Datum.stripList, Datum.locsList]
  | x :: xs => by simp [Datum.stripList, Datum.locsList, Datum.strip_locs x, Datum.stripList_locs xs]
end

/-! ## `loc` is among `rlocs` (expressions, statements) -/

theorem Expr.loc_rlocs (e : Expr) : e.loc.as .node ⊆ e.rlocs := by
  cases e <;> simp [Expr.loc, Expr.rlocs]

theorem Statement.loc_rlocs (s : Statement) : s.loc.as .node ⊆ s.rlocs := by
  cases s with
  | importDecl sets l => simp [Statement.loc, Statement.rlocs]
  | definition d => cases d; simp [Statement.loc, Statement.rlocs, Def.rlocs]
  | syntaxDef n r l => simp [Statement.loc, Statement.rlocs]
  | expr e => simpa [Statement.loc, Statement.rlocs] using Expr.loc_rlocs e
  | libraryDef n d l => simp [Statement.loc, Statement.rlocs]

/-! ## macro expansion -/

namespace Macro

/-- `HLoc.SubstAll (·.locs ⊆ T)` (`MacroAll`), unfolded -/
def SubstIn (T : List Pos) (σ : Subst) : Prop :=
  ∀ e ∈ σ, e.2.1.locs ⊆ T ∧ ∀ m ∈ e.2.2, m.locs ⊆ T

theorem SubstIn.nil (T : List Pos) : SubstIn T [] := nofun

theorem SubstIn.insert {T : List Pos} {σ : Subst} (h : SubstIn T σ) (v : String) {d : Datum}
    (hd : d.locs ⊆ T) : SubstIn T (σ.insert v (d, [])) :=
  HLoc.SubstAll.insert (P := (·.locs ⊆ T)) h v hd

theorem locsIn_elemClosed (T : List Pos) : ElemClosed (·.locs ⊆ T) where
  spine := fun d _ =>
    Datum.spine_all (P := (·.locs ⊆ T)) (Q := (·.locs ⊆ T))
      (fun h => have h := (Datum.pair_locs_subset ..).1 h; ⟨h.1.2, h.2⟩) (fun _ h => h) d
  vec := fun _ _ hd _ hx =>
    (Datum.locs_subset_locsList hx).trans ((List.subset_append_right _ _).trans hd)

theorem _root_.Ruschm.Datum.elems_locs {d x : Datum} (h : x ∈ d.elems) : x.locs ⊆ d.locs :=
  (locsIn_elemClosed d.locs).elems (List.Subset.refl _) x h

theorem locsIn_builds {T : List Pos} {loc : Loc} (hl : loc.toList ⊆ T) :
    Builds (·.locs ⊆ T) (fun _ => True) loc where
  list := fun _ _ _ => trivial
  vec := fun _ _ _ => trivial
  sym := fun _ => hl
  prim := fun _ => hl
  ofList := fun h => Datum.locs_ofList .. ▸ List.append_subset.2 ⟨hl, Datum.locsList_subset.2 h⟩
  mkVec := fun h => List.append_subset.2 ⟨hl, Datum.locsList_subset.2 h⟩

theorem matchDatum_locs {T : List Pos} {n lits p d σ b σ'} (h : matchDatum n lits p d σ = .ok (b, σ'))
    (hd : d.locs ⊆ T) (hσ : SubstIn T σ) : SubstIn T σ' :=
  (match_all (locsIn_elemClosed T) lits n).1 p d σ hd hσ b σ' h

theorem substItems_locs {T : List Pos} : ∀ (es : List (Tmpl × Bool)) (σ : Subst) (i : Nat) (loc : Loc)
    (ds : List Datum), SubstIn T σ → loc.toList ⊆ T → substItems es σ i loc = some ds →
    Datum.locsList ds ⊆ T :=
  fun es _ i _ ds hσ hl h => Datum.locsList_subset.2
    ((substItem_all (locsIn_builds hl) hσ i).2 es (fun _ _ => trivial) ds h)

theorem subst_locs {T : List Pos} (fuel : Nat) : ∀ (t : Tmpl) (σ : Subst) (loc : Loc) (d : Datum),
    SubstIn T σ → loc.toList ⊆ T → subst fuel t σ loc = some d → d.locs ⊆ T :=
  fun t _ _ d hσ hl h => (subst_all (locsIn_builds hl) hσ fuel).1 t trivial d h

theorem substElems_locs {T : List Pos} (fuel : Nat) : ∀ (es : List (Tmpl × Bool)) (σ : Subst) (loc : Loc)
    (ds : List Datum), SubstIn T σ → loc.toList ⊆ T → substElems fuel es σ loc = some ds →
    Datum.locsList ds ⊆ T :=
  fun es _ _ ds hσ hl h => Datum.locsList_subset.2
    ((subst_all (locsIn_builds hl) hσ fuel).2 es (fun _ _ => trivial) ds h)

theorem transformRules_locs {T : List Pos} {fuel : Nat} {lits : List String} {use : Datum}
    (hu : use.locs ⊆ T) : ∀ (rules : List (Pat × Tmpl)) (d : Datum),
    transformRules fuel lits rules use = .ok d → d.locs ⊆ T :=
  fun rules d => transformRules_all (locsIn_elemClosed T)
    (locsIn_builds ((Datum.loc_subset use).trans hu)) hu rules d (fun _ _ => trivial)

end Macro

end Ruschm
