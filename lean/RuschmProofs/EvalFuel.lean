/-
Fuel monotonicity of the evaluator's block, each function by `Below.andThen` on its sequence form; and the fuel-free
judgements, DEFINED from the executable functions: `Stable f r σ'` — from some fuel on `f` returns `(r, σ')`, which is
not the fuel error — and `Evals`, `Applies`, … which are `Stable` of the eight functions. A function whose one
unfolding is a sequence settles exactly when its parts do (`Stable.seq_iff`): that turns each equation of `EvalSeq`
into a big-step rule (`EvalRules`).
-/
import RuschmProofs.EvalSeq
import RuschmProofs.Fuel
namespace Ruschm.Eval
open Prim

/-! ## Fuel monotonicity

`Mono n` states the induction on the fuel, in equation form; `Mono.le_*` are its fields as `Below`, for the walk;
`fuelMono_*` is the result in the form every user takes it; `*_mono` are the corollaries for `n + k`. -/

structure Mono (n : Nat) : Prop where
  expr : ∀ {σ ρ e r σ'}, evalExpr n σ ρ e = (r, σ') → NotFuel r → evalExpr (n+1) σ ρ e = (r, σ')
  args : ∀ {σ ρ es r σ'}, evalArgs n σ ρ es = (r, σ') → NotFuel r → evalArgs (n+1) σ ρ es = (r, σ')
  proc : ∀ {σ p as env r σ'}, applyProcedure n σ p as env = (r, σ') → NotFuel r → applyProcedure (n+1) σ p as env = (r, σ')
  loop : ∀ {σ p as env r σ'}, applyLoop n σ p as env = (r, σ') → NotFuel r → applyLoop (n+1) σ p as env = (r, σ')
  scheme : ∀ {σ lam cenv as r σ'}, applyScheme n σ lam cenv as = (r, σ') → NotFuel r → applyScheme (n+1) σ lam cenv as = (r, σ')
  defs : ∀ {σ ρ ds r σ'}, evalDefs n σ ρ ds = (r, σ') → NotFuel r → evalDefs (n+1) σ ρ ds = (r, σ')
  body : ∀ {σ ρ es r σ'}, evalBody n σ ρ es = (r, σ') → NotFuel r → evalBody (n+1) σ ρ es = (r, σ')
  tail : ∀ {σ ρ e r σ'}, evalTail n σ ρ e = (r, σ') → NotFuel r → evalTail (n+1) σ ρ e = (r, σ')

theorem nonProcAfter_notFuel {α} (loc : Loc) (x : Except SErr α) : NotFuel (nonProcAfter loc x) ↔ NotFuel x := by
  unfold nonProcAfter; split
  · simp
  · rename_i h; exact ⟨fun _ => .of_ne fun l hl => h l hl, fun _ => .error_of (by simp)⟩

theorem nonProcAfter_of {α} (loc : Loc) {x : Except SErr α} (h : NotFuel x) :
    nonProcAfter loc x = .error (.nonProcedure, loc) := by
  unfold nonProcAfter; split
  · simp at h
  · rfl

namespace Mono
variable {n : Nat} (ih : Mono n)
include ih

theorem le_expr (σ ρ e) : Below (evalExpr n σ ρ e) (evalExpr (n+1) σ ρ e) := fun h => ih.expr rfl h
theorem le_args (σ ρ es) : Below (evalArgs n σ ρ es) (evalArgs (n+1) σ ρ es) := fun h => ih.args rfl h
theorem le_proc (σ p as env) : Below (applyProcedure n σ p as env) (applyProcedure (n+1) σ p as env) :=
  fun h => ih.proc rfl h
theorem le_loop (σ p as env) : Below (applyLoop n σ p as env) (applyLoop (n+1) σ p as env) := fun h => ih.loop rfl h
theorem le_scheme (σ lam cenv as) : Below (applyScheme n σ lam cenv as) (applyScheme (n+1) σ lam cenv as) :=
  fun h => ih.scheme rfl h
theorem le_defs (σ ρ ds) : Below (evalDefs n σ ρ ds) (evalDefs (n+1) σ ρ ds) := fun h => ih.defs rfl h
theorem le_body (σ ρ es) : Below (evalBody n σ ρ es) (evalBody (n+1) σ ρ es) := fun h => ih.body rfl h
theorem le_tail (σ ρ e) : Below (evalTail n σ ρ e) (evalTail (n+1) σ ρ e) := fun h => ih.tail rfl h

theorem expr_succ (σ ρ e) : Below (evalExpr (n+1) σ ρ e) (evalExpr (n+2) σ ρ e) := by
  cases e with
  | assign x e l => simp only [evalExpr_assign]; exact .andThen (ih.le_expr _ _ _) fun _ _ => .refl
  | cond t c a l =>
    simp only [evalExpr_cond]
    refine .andThen (ih.le_expr _ _ _) fun tv σ₁ => ?_
    split
    · exact ih.le_expr _ _ _
    · cases a
      · exact .refl
      · exact ih.le_expr _ _ _
  | call f args l =>
    simp only [evalExpr_call]
    refine .andThen (ih.le_expr _ _ _) fun fv σ₁ => ?_
    split
    · exact .andThen (ih.le_args _ _ _) fun _ _ => ih.le_proc _ _ _ _
    · exact (ih.le_args _ _ _).map (fun r => (nonProcAfter_notFuel f.loc r).1) id
  | _ => rw [evalExpr, evalExpr]; exact .refl

theorem args_succ (σ ρ es) : Below (evalArgs (n+1) σ ρ es) (evalArgs (n+2) σ ρ es) := by
  cases es with
  | nil => simp only [evalArgs_nil]; exact .refl
  | cons a as =>
    simp only [evalArgs_cons]; exact .andThen (ih.le_expr _ _ _) fun _ _ => .andThen (ih.le_args _ _ _) fun _ _ => .refl

theorem proc_succ (σ p as env) : Below (applyProcedure (n+1) σ p as env) (applyProcedure (n+2) σ p as env) := by
  simp only [applyProcedure_succ]; exact (ih.le_loop _ _ _ _).map (φ := id) (fun _ => id) leave

theorem pending (σ₁ tenv f targs env) :
    Below (pendingCall n σ₁ tenv f targs env) (pendingCall (n+1) σ₁ tenv f targs env) :=
  .andThen (ih.le_expr _ _ _) fun fv _ => .andThen (ih.le_args _ _ _) fun _ _ => by
    split
    · exact ih.le_loop _ _ _ _
    · exact .refl

theorem loop_succ (σ p as env) : Below (applyLoop (n+1) σ p as env) (applyLoop (n+2) σ p as env) := by
  rcases applied_cases p as with hp | ⟨f, v, hp, ha⟩ | ⟨lam, cenv, rfl, ha⟩ | ⟨rfl, ha⟩ | ⟨b, rfl, hb, ha⟩
  · rw [applyLoop_not_proc _ _ _ _ hp, applyLoop_not_proc _ _ _ _ hp]; exact .refl
  · rw [applyLoop_arity_gate _ _ _ hp ha, applyLoop_arity_gate _ _ _ hp ha]; exact .refl
  · simp only [applyLoop_closure _ _ _ _ ha]
    refine .andThen (ih.le_scheme _ _ _ _) fun t σ₁ => ?_
    cases t
    · exact .refl
    · exact ih.pending _ _ _ _ _
  · simp only [applyLoop_apply _ _ _ ha]
    split
    · exact .refl
    · exact ih.le_loop _ _ _ _
  · rw [applyLoop_builtin_step _ _ _ hb ha, applyLoop_builtin_step _ _ _ hb ha]; exact .refl

theorem scheme_succ (σ lam cenv as) : Below (applyScheme (n+1) σ lam cenv as) (applyScheme (n+2) σ lam cenv as) := by
  simp only [applyScheme_seq]
  split
  · exact .refl
  · exact .andThen (ih.le_defs _ _ _) fun _ _ => ih.le_body _ _ _

theorem defs_succ (σ ρ ds) : Below (evalDefs (n+1) σ ρ ds) (evalDefs (n+2) σ ρ ds) := by
  cases ds with
  | nil => simp only [evalDefs_nil]; exact .refl
  | cons d ds =>
    obtain ⟨x, e, l⟩ := d; simp only [evalDefs_cons]; exact .andThen (ih.le_expr _ _ _) fun _ _ => ih.le_defs _ _ _

theorem body_succ (σ ρ es) : Below (evalBody (n+1) σ ρ es) (evalBody (n+2) σ ρ es) := by
  match es with
  | [] => simp only [evalBody_nil]; exact .refl
  | [e] => simp only [evalBody_last]; exact ih.le_tail _ _ _
  | e :: e' :: es => simp only [evalBody_cons]; exact .andThen (ih.le_expr _ _ _) fun _ _ => ih.le_body _ _ _

theorem tail_succ (σ ρ e) : Below (evalTail (n+1) σ ρ e) (evalTail (n+2) σ ρ e) := by
  rcases e.tail_cases with ⟨f, as, l, rfl⟩ | ⟨t, c, a, l, rfl⟩ | ⟨h₁, h₂⟩
  · simp only [evalTail_call]; exact .refl
  · simp only [evalTail_cond]
    refine .andThen (ih.le_expr _ _ _) fun tv σ₁ => ?_
    split
    · exact ih.le_tail _ _ _
    · cases a
      · exact .refl
      · exact ih.le_tail _ _ _
  · simp only [evalTail_other h₁ h₂]; exact .andThen (ih.le_expr _ _ _) fun _ _ => .refl

end Mono

theorem mono_all : ∀ n, Mono n
  | 0 =>
    ⟨(Below.of_fuel (evalExpr_zero ..)).run, (Below.of_fuel (evalArgs_zero ..)).run,
      (Below.of_fuel (applyProcedure_zero ..)).run, (Below.of_fuel (applyLoop_zero ..)).run,
      (Below.of_fuel (applyScheme_zero ..)).run, (Below.of_fuel (evalDefs_zero ..)).run,
      (Below.of_fuel (evalBody_zero ..)).run, (Below.of_fuel (evalTail_zero ..)).run⟩
  | n+1 =>
    have ih := mono_all n
    ⟨(ih.expr_succ _ _ _).run, (ih.args_succ _ _ _).run, (ih.proc_succ _ _ _ _).run, (ih.loop_succ _ _ _ _).run,
      (ih.scheme_succ _ _ _ _).run, (ih.defs_succ _ _ _).run, (ih.body_succ _ _ _).run, (ih.tail_succ _ _ _).run⟩

theorem fuelMono_expr (σ ρ e) : FuelMono (evalExpr · σ ρ e) := fun n => (mono_all n).le_expr σ ρ e
theorem fuelMono_args (σ ρ es) : FuelMono (evalArgs · σ ρ es) := fun n => (mono_all n).le_args σ ρ es
theorem fuelMono_proc (σ p as env) : FuelMono (applyProcedure · σ p as env) := fun n => (mono_all n).le_proc σ p as env
theorem fuelMono_loop (σ p as env) : FuelMono (applyLoop · σ p as env) := fun n => (mono_all n).le_loop σ p as env
theorem fuelMono_scheme (σ lam cenv as) : FuelMono (applyScheme · σ lam cenv as) :=
  fun n => (mono_all n).le_scheme σ lam cenv as
theorem fuelMono_defs (σ ρ ds) : FuelMono (evalDefs · σ ρ ds) := fun n => (mono_all n).le_defs σ ρ ds
theorem fuelMono_body (σ ρ es) : FuelMono (evalBody · σ ρ es) := fun n => (mono_all n).le_body σ ρ es
theorem fuelMono_tail (σ ρ e) : FuelMono (evalTail · σ ρ e) := fun n => (mono_all n).le_tail σ ρ e

theorem evalExpr_mono {n σ ρ e r σ'} (h : evalExpr n σ ρ e = (r, σ')) (hr : NotFuel r) (k : Nat) :
    evalExpr (n+k) σ ρ e = (r, σ') := mono_le (fuelMono_expr σ ρ e) h hr (Nat.le_add_right _ _)
theorem evalArgs_mono {n σ ρ es r σ'} (h : evalArgs n σ ρ es = (r, σ')) (hr : NotFuel r) (k : Nat) :
    evalArgs (n+k) σ ρ es = (r, σ') := mono_le (fuelMono_args σ ρ es) h hr (Nat.le_add_right _ _)
theorem applyProcedure_mono {n σ p as env r σ'} (h : applyProcedure n σ p as env = (r, σ')) (hr : NotFuel r)
    (k : Nat) : applyProcedure (n+k) σ p as env = (r, σ') :=
  mono_le (fuelMono_proc σ p as env) h hr (Nat.le_add_right _ _)
theorem applyLoop_mono {n σ p as env r σ'} (h : applyLoop n σ p as env = (r, σ')) (hr : NotFuel r)
    (k : Nat) : applyLoop (n+k) σ p as env = (r, σ') :=
  mono_le (fuelMono_loop σ p as env) h hr (Nat.le_add_right _ _)
theorem applyScheme_mono {n σ lam cenv as r σ'} (h : applyScheme n σ lam cenv as = (r, σ')) (hr : NotFuel r)
    (k : Nat) : applyScheme (n+k) σ lam cenv as = (r, σ') :=
  mono_le (fuelMono_scheme σ lam cenv as) h hr (Nat.le_add_right _ _)
theorem evalDefs_mono {n σ ρ ds r σ'} (h : evalDefs n σ ρ ds = (r, σ')) (hr : NotFuel r) (k : Nat) :
    evalDefs (n+k) σ ρ ds = (r, σ') := mono_le (fuelMono_defs σ ρ ds) h hr (Nat.le_add_right _ _)
theorem evalBody_mono {n σ ρ es r σ'} (h : evalBody n σ ρ es = (r, σ')) (hr : NotFuel r) (k : Nat) :
    evalBody (n+k) σ ρ es = (r, σ') := mono_le (fuelMono_body σ ρ es) h hr (Nat.le_add_right _ _)
theorem evalTail_mono {n σ ρ e r σ'} (h : evalTail n σ ρ e = (r, σ')) (hr : NotFuel r) (k : Nat) :
    evalTail (n+k) σ ρ e = (r, σ') := mono_le (fuelMono_tail σ ρ e) h hr (Nat.le_add_right _ _)

/-! ## Fuel-free judgements -/

def Stable {α} (f : Nat → Res α) (r : Except SErr α) (σ' : Store) : Prop :=
  NotFuel r ∧ ∃ N, ∀ n, N ≤ n → f n = (r, σ')

theorem Stable.unique {α} {f : Nat → Res α} {r₁ r₂ σ₁ σ₂} (h₁ : Stable f r₁ σ₁) (h₂ : Stable f r₂ σ₂) :
    r₁ = r₂ ∧ σ₁ = σ₂ := by
  obtain ⟨_, N₁, h₁⟩ := h₁; obtain ⟨_, N₂, h₂⟩ := h₂
  have := (h₁ (max N₁ N₂) (Nat.le_max_left ..)).symm.trans (h₂ (max N₁ N₂) (Nat.le_max_right ..))
  exact ⟨congrArg Prod.fst this, congrArg Prod.snd this⟩

theorem Stable.notFuel {α} {f : Nat → Res α} {r σ'} (h : Stable f r σ') : NotFuel r := h.1

theorem Stable.store {α} {f : Nat → Res α} {r σ'} {P : Store → Prop} (h : Stable f r σ') (hP : ∀ n, P (f n).2) :
    P σ' :=
  let ⟨N, hN⟩ := h.2; by have := hP N; rwa [hN N (Nat.le_refl N)] at this

def Evals (σ : Store) (ρ : Nat) (e : Expr) (r : Except SErr Value) (σ' : Store) : Prop :=
  Stable (fun n => evalExpr n σ ρ e) r σ'
def EvalsArgs (σ : Store) (ρ : Nat) (es : List Expr) (r : Except SErr (List Value)) (σ' : Store) : Prop :=
  Stable (fun n => evalArgs n σ ρ es) r σ'
/-- one activation of `apply_procedure` (`applyProcedure`: depth bookkeeping around the loop) -/
def AppliesProc (σ : Store) (p : Value) (args : List Value) (env : Nat) (r : Except SErr Value) (σ' : Store) : Prop :=
  Stable (fun n => applyProcedure n σ p args env) r σ'
/-- the trampoline loop `applyLoop` started with procedure `p` and arguments `args` -/
def Applies (σ : Store) (p : Value) (args : List Value) (env : Nat) (r : Except SErr Value) (σ' : Store) : Prop :=
  Stable (fun n => applyLoop n σ p args env) r σ'
def AppliesScheme (σ : Store) (lam : Lambda) (cenv : Nat) (args : List Value) (r : Except SErr TailRes) (σ' : Store) : Prop :=
  Stable (fun n => applyScheme n σ lam cenv args) r σ'
def EvalsDefs (σ : Store) (ρ : Nat) (ds : List Def) (r : Except SErr Unit) (σ' : Store) : Prop :=
  Stable (fun n => evalDefs n σ ρ ds) r σ'
def EvalsBody (σ : Store) (ρ : Nat) (es : List Expr) (r : Except SErr TailRes) (σ' : Store) : Prop :=
  Stable (fun n => evalBody n σ ρ es) r σ'
def EvalsTail (σ : Store) (ρ : Nat) (e : Expr) (r : Except SErr TailRes) (σ' : Store) : Prop :=
  Stable (fun n => evalTail n σ ρ e) r σ'

/-! ### from one run to the judgement and back (for the other judgements: `Stable.intro (fuelMono_args σ ρ es) h hr` …) -/

theorem Stable.run {α} {f : Nat → Res α} {r σ'} (h : Stable f r σ') : ∃ n, f n = (r, σ') :=
  h.2.imp fun N h => h N (Nat.le_refl N)

theorem Stable.intro {α} {f : Nat → Res α} (step : FuelMono f) {n r σ'} (h : f n = (r, σ')) (hr : NotFuel r) :
    Stable f r σ' :=
  ⟨hr, n, fun _ => mono_le step h hr⟩

theorem Evals.intro {n σ ρ e r σ'} (h : evalExpr n σ ρ e = (r, σ')) (hr : NotFuel r) : Evals σ ρ e r σ' :=
  Stable.intro (fuelMono_expr σ ρ e) h hr
theorem Applies.intro {n σ p as env r σ'} (h : applyLoop n σ p as env = (r, σ')) (hr : NotFuel r) :
    Applies σ p as env r σ' := Stable.intro (fuelMono_loop σ p as env) h hr

theorem evals_iff {σ ρ e r σ'} : Evals σ ρ e r σ' ↔ NotFuel r ∧ ∃ n, evalExpr n σ ρ e = (r, σ') :=
  ⟨fun h => ⟨h.1, h.run⟩, fun ⟨hr, _, h⟩ => Evals.intro h hr⟩
theorem applies_iff {σ p as env r σ'} : Applies σ p as env r σ' ↔ NotFuel r ∧ ∃ n, applyLoop n σ p as env = (r, σ') :=
  ⟨fun h => ⟨h.1, h.run⟩, fun ⟨hr, _, h⟩ => Applies.intro h hr⟩

theorem Evals.run_eq {σ ρ e r σ' n r₂ σ₂} (h : Evals σ ρ e r σ') (h₂ : evalExpr n σ ρ e = (r₂, σ₂))
    (hr₂ : NotFuel r₂) : r₂ = r ∧ σ₂ = σ' := Stable.unique (Evals.intro h₂ hr₂) h
theorem Evals.unique {σ ρ e r₁ σ₁ r₂ σ₂} (h₁ : Evals σ ρ e r₁ σ₁) (h₂ : Evals σ ρ e r₂ σ₂) :
    r₁ = r₂ ∧ σ₁ = σ₂ := Stable.unique h₁ h₂
theorem EvalsArgs.unique {σ ρ es r₁ σ₁ r₂ σ₂} (h₁ : EvalsArgs σ ρ es r₁ σ₁) (h₂ : EvalsArgs σ ρ es r₂ σ₂) :
    r₁ = r₂ ∧ σ₁ = σ₂ := Stable.unique h₁ h₂
theorem Applies.unique {σ p as env r₁ σ₁ r₂ σ₂} (h₁ : Applies σ p as env r₁ σ₁) (h₂ : Applies σ p as env r₂ σ₂) :
    r₁ = r₂ ∧ σ₁ = σ₂ := Stable.unique h₁ h₂
theorem AppliesProc.unique {σ p as env r₁ σ₁ r₂ σ₂} (h₁ : AppliesProc σ p as env r₁ σ₁)
    (h₂ : AppliesProc σ p as env r₂ σ₂) : r₁ = r₂ ∧ σ₁ = σ₂ := Stable.unique h₁ h₂

/-! ## Settled runs and sequencing -/

theorem Stable.shift {α} {f : Nat → Res α} {r σ'} : Stable (fun n => f (n+1)) r σ' ↔ Stable f r σ' :=
  ⟨fun ⟨hr, N, h⟩ => ⟨hr, N+1, fun n hn => by
      obtain ⟨m, rfl⟩ : ∃ m, n = m + 1 := ⟨n - 1, by omega⟩
      exact h m (by omega)⟩,
   fun ⟨hr, N, h⟩ => ⟨hr, N, fun n hn => h (n+1) (by omega)⟩⟩

theorem Stable.unfold {α} {f g : Nat → Res α} (h : ∀ n, f (n+1) = g n) {r σ'} : Stable f r σ' ↔ Stable g r σ' := by
  rw [← Stable.shift, show (fun n => f (n+1)) = g from funext h]

theorem Stable.pure_iff {α} {x : Res α} {r σ'} : Stable (fun _ => x) r σ' ↔ x = (r, σ') ∧ NotFuel r :=
  ⟨fun ⟨hr, N, h⟩ => ⟨h N (Nat.le_refl N), hr⟩, fun ⟨h, hr⟩ => ⟨hr, 0, fun _ _ => h⟩⟩

theorem Stable.const {α} {f : Nat → Res α} {r σ'} (hr : NotFuel r) (h : ∀ n, f (n+1) = (r, σ')) : Stable f r σ' :=
  (Stable.unfold h).2 (Stable.pure_iff.2 ⟨rfl, hr⟩)

theorem Stable.ok_iff {α} {a : α} {σ : Store} {r σ'} : Stable (fun _ => (.ok a, σ)) r σ' ↔ r = .ok a ∧ σ' = σ :=
  Stable.pure_iff.trans ⟨fun ⟨h, _⟩ => by cases h; exact ⟨rfl, rfl⟩, fun ⟨h₁, h₂⟩ => by subst h₁ h₂; exact ⟨rfl, .ok a⟩⟩

theorem Stable.error_iff {α} {k : Err} {l : Loc} (hk : k ≠ .fuel) {σ : Store} {r : Except SErr α} {σ'} :
    Stable (fun _ => (.error (k, l), σ)) r σ' ↔ r = .error (k, l) ∧ σ' = σ :=
  Stable.pure_iff.trans ⟨fun ⟨h, _⟩ => by cases h; exact ⟨rfl, rfl⟩, fun ⟨h₁, h₂⟩ => by subst h₁ h₂; exact ⟨rfl, .error_of hk⟩⟩

theorem Stable.ite {α} {c : Prop} [Decidable c] {f g : Nat → Res α} {r σ'} :
    Stable (fun n => if c then f n else g n) r σ' ↔ if c then Stable f r σ' else Stable g r σ' := by
  split <;> rfl

theorem Stable.andThen_intro {α β} {g : Nat → Res α} {k : Nat → α → Store → Res β} {r σ'}
    (h : (∃ e, Stable g (.error e) σ' ∧ r = .error e) ∨ ∃ a σ₁, Stable g (.ok a) σ₁ ∧ Stable (k · a σ₁) r σ') :
    Stable (fun n => andThen (g n) (k n)) r σ' := by
  rcases h with ⟨e, S, rfl⟩ | ⟨a, σ₁, S₁, S₂⟩
  · exact ⟨S.1.cast, S.2.imp fun N h n hn => by show andThen (g n) (k n) = _; rw [h n hn]; rfl⟩
  · obtain ⟨_, N₁, h₁⟩ := S₁; obtain ⟨hr, N₂, h₂⟩ := S₂
    exact ⟨hr, max N₁ N₂, fun n hn => by
      show andThen (g n) (k n) = _; rw [h₁ n (by omega)]; exact h₂ n (by omega)⟩

/-- SEQUENCING: the converse of `andThen_intro` asks for a first part that is monotone in the fuel -/
theorem Stable.andThen_iff {α β} {g : Nat → Res α} (hg : FuelMono g) {k : Nat → α → Store → Res β} {r σ'} :
    Stable (fun n => andThen (g n) (k n)) r σ' ↔
      (∃ e, Stable g (.error e) σ' ∧ r = .error e) ∨ ∃ a σ₁, Stable g (.ok a) σ₁ ∧ Stable (k · a σ₁) r σ' := by
  refine ⟨?_, Stable.andThen_intro⟩
  rintro ⟨hr, N, h⟩
  have h : ∀ n, N ≤ n → andThen (g n) (k n) = (r, σ') := h
  have hN := h N (Nat.le_refl N)
  rcases hgN : g N with ⟨_ | a, σ₁⟩
  · rw [hgN] at hN; cases hN
    exact .inl ⟨_, .intro hg hgN hr.cast, rfl⟩
  · have S := Stable.intro hg hgN (.ok a)
    refine .inr ⟨a, σ₁, S, hr, ?_⟩
    obtain ⟨M, hM⟩ := S.2
    exact ⟨max N M, fun n hn => by
      have := h n (by omega); rw [hM n (by omega)] at this; exact this⟩

theorem Stable.seq_iff {α β} {f : Nat → Res β} {g : Nat → Res α} {k : Nat → α → Store → Res β}
    (h : ∀ n, f (n+1) = andThen (g n) (k n)) (hg : FuelMono g) {r σ'} :
    Stable f r σ' ↔
      (∃ e, Stable g (.error e) σ' ∧ r = .error e) ∨ ∃ a σ₁, Stable g (.ok a) σ₁ ∧ Stable (k · a σ₁) r σ' :=
  (Stable.unfold h).trans (Stable.andThen_iff hg)

theorem Stable.seq_intro {α β} {f : Nat → Res β} {g : Nat → Res α} {k : Nat → α → Store → Res β}
    (h : ∀ n, f (n+1) = andThen (g n) (k n)) {r σ'}
    (hs : (∃ e, Stable g (.error e) σ' ∧ r = .error e) ∨ ∃ a σ₁, Stable g (.ok a) σ₁ ∧ Stable (k · a σ₁) r σ') :
    Stable f r σ' :=
  (Stable.unfold h).2 (Stable.andThen_intro hs)

/-- the right-hand side of `seq_iff` when the first part is known to settle on a value (`Q`, `P`: the rest of the two
disjuncts, which differs from rule to rule) -/
theorem Stable.seq_of_ok {α} {g : Nat → Res α} {a σ₁} (S : Stable g (.ok a) σ₁) {σ' : Store} {Q : SErr → Prop}
    {P : α → Store → Prop} :
    ((∃ e, Stable g (.error e) σ' ∧ Q e) ∨ ∃ a' σ₁', Stable g (.ok a') σ₁' ∧ P a' σ₁') ↔ P a σ₁ := by
  constructor
  · rintro (⟨e, S', _⟩ | ⟨a', σ₁', S', h⟩)
    · cases (S.unique S').1
    · obtain ⟨h₁, rfl⟩ := S.unique S'; cases h₁; exact h
  · exact fun h => .inr ⟨a, σ₁, S, h⟩

theorem Stable.map_iff {α β} {g : Nat → Res α} (hg : FuelMono g) {φ : Except SErr α → Except SErr β}
    (hφ : ∀ x, NotFuel (φ x) ↔ NotFuel x) {h : Store → Store} {r σ'} :
    Stable (fun n => (φ (g n).1, h (g n).2)) r σ' ↔ ∃ x σ₁, Stable g x σ₁ ∧ r = φ x ∧ σ' = h σ₁ := by
  constructor
  · rintro ⟨hr, N, hN⟩
    have hN : (φ (g N).1, h (g N).2) = (r, σ') := hN N (Nat.le_refl N)
    cases hN
    exact ⟨_, _, .intro hg rfl ((hφ _).1 hr), rfl, rfl⟩
  · rintro ⟨x, σ₁, S, rfl, rfl⟩
    exact ⟨(hφ x).2 S.1, S.2.imp fun N hN n hn => by show (φ (g n).1, h (g n).2) = _; rw [hN n hn]⟩

end Ruschm.Eval
