/-
`ruschm FILE` (`cli`), the REPL loop (`replRun`) and a world of instances (`worldStep`) are each `evalText` on a state;
the lemmas here take statements about them to statements about `evalText`, and say what `evalText` keeps of a state.
-/
import RuschmSpec.Front
import RuschmProofs.LibLemmas
import RuschmProofs.StoreLemmas
import RuschmProofs.EvalRules
import RuschmProofs.TextLemmas
import RuschmProofs.XformScope
import RuschmProofs.InterpTop

namespace Ruschm.FrontSpec
open Ruschm Ruschm.Interp Ruschm.Front Ruschm.Eval

/-! ## output only grows -/


theorem OutExt.refl (σ : Store) : OutExt σ σ := ⟨[], rfl⟩
theorem OutExt.trans {a b c : Store} (h1 : OutExt a b) (h2 : OutExt b c) : OutExt a c := by
  obtain ⟨m1, e1⟩ := h1
  obtain ⟨m2, e2⟩ := h2
  exact ⟨m2 ++ m1, by rw [e2, e1, List.append_assoc]⟩
theorem OutExt.of_eq {σ σ' : Store} (h : σ'.out = σ.out) : OutExt σ σ' := ⟨[], by simp [h]⟩

theorem outExt_define (σ : Store) (ρ k v) : OutExt σ (σ.define ρ k v) := .of_eq (by simp)
theorem outExt_newFrame (σ : Store) (p) : OutExt σ (σ.newFrame p).2 := .of_eq rfl
theorem outExt_allocVec (σ : Store) (m items) : OutExt σ (σ.allocVec m items).2 := .of_eq rfl
theorem outExt_enter (σ : Store) : OutExt σ (enter σ) := .of_eq rfl
theorem outExt_leave (σ : Store) : OutExt σ (leave σ) := .of_eq rfl
theorem outExt_applyPure (σ : Store) (b : Builtin) (args : List Value) : OutExt σ (Prim.applyPure σ b args).2 := by
  rcases Prim.applyPure_snd σ b args with h | h <;> rw [h]
  · exact .refl σ
  · cases Prim.eff σ.vecs b args <;> first | exact .of_eq rfl | exact ⟨[_], rfl⟩

/-- nothing uses it, the four `OutAt.*_snd` or `o_newFrame`: the evaluator's case is `stepRel_outExt` -/
structure OutAt (fuel : Nat) : Prop where
  expr : ∀ σ ρ e, OutExt σ (evalExpr fuel σ ρ e).2
  args : ∀ σ ρ es, OutExt σ (evalArgs fuel σ ρ es).2
  proc : ∀ σ p args env, OutExt σ (applyProcedure fuel σ p args env).2
  loop : ∀ σ p args env, OutExt σ (applyLoop fuel σ p args env).2
  scheme : ∀ σ lam cenv args, OutExt σ (applyScheme fuel σ lam cenv args).2
  defs : ∀ σ ρ ds, OutExt σ (evalDefs fuel σ ρ ds).2
  body : ∀ σ ρ es, OutExt σ (evalBody fuel σ ρ es).2
  tail : ∀ σ ρ e, OutExt σ (evalTail fuel σ ρ e).2

section rules
variable {fuel : Nat} (ih : OutAt fuel) {σ₀ σ σ' : Store}
include ih
theorem OutAt.expr_snd {ρ e} (g : OutExt σ₀ σ) : OutExt σ₀ (evalExpr fuel σ ρ e).2 := g.trans (ih.expr ..)
theorem OutAt.args_snd {ρ e} (g : OutExt σ₀ σ) : OutExt σ₀ (evalArgs fuel σ ρ e).2 := g.trans (ih.args ..)
theorem OutAt.loop_snd {p a env} (g : OutExt σ₀ σ) : OutExt σ₀ (applyLoop fuel σ p a env).2 := g.trans (ih.loop ..)
theorem OutAt.defs_snd {ρ ds} (g : OutExt σ₀ σ) : OutExt σ₀ (evalDefs fuel σ ρ ds).2 := g.trans (ih.defs ..)
end rules

section datarules
variable {σ₀ σ σ' : Store}
theorem o_leave (g : OutExt σ₀ σ) : OutExt σ₀ (leave σ) := g.trans (outExt_leave σ)
theorem o_newFrame {p} (g : OutExt σ₀ σ) : OutExt σ₀ (σ.newFrame p).2 := g.trans (outExt_newFrame ..)
end datarules

theorem stepRel_outExt : StepRel OutExt where
  refl := OutExt.refl
  trans := OutExt.trans
  define := outExt_define
  newFrame := outExt_newFrame
  allocVec := outExt_allocVec
  applyPure := outExt_applyPure
  bracket := fun {σ _} g => o_leave ((outExt_enter σ).trans g)

theorem storeRel_outExt : StoreRel OutExt := .of_stepRel stepRel_outExt

theorem evalAst_out {fuel st s r st'} (h : evalAst fuel st s = (r, st')) :
    OutExt st.store st'.store ∧ st'.syn = st.syn ∧ st'.env = st.env := by
  have i := evalAst_inv storeRel_outExt h
  exact ⟨i.store, i.syn, i.env⟩

theorem evalForm_out (fuel : Nat) (st : State) (d : Datum) : OutExt st.store (evalForm fuel st d).2.store :=
  (evalForm_inv storeRel_outExt (Prod.eta _).symm).store

theorem runForms_out (fuel : Nat) (ds : List Datum) (st : State) (last : Option Value) :
    OutExt st.store (runForms fuel st ds last).2.store :=
  runForms_inv (P := fun s => OutExt st.store s.store) (fun st₁ d g => g.trans (evalForm_out fuel st₁ d))
    ds st last (.refl _)

theorem outText_ext {σ σ' : Store} {more : List String} (h : σ'.out = more ++ σ.out) :
    outText σ' = outText σ ++ String.join more.reverse := by
  unfold outText
  rw [h, List.reverse_append, String.join_append]

/-! ## a concrete text -/

theorem lex_rparen : Lex.all [')'] = ([⟨.rparen, some (1, 2)⟩], none) := by
  simp [Lex.all, Lex.allAux, Lex.next, Lex.skipAtmosphere, Lex.token, Lex.isWs, Lex.adv]

theorem evalText_rparen (fuel : Nat) (st : State) :
    evalText fuel st [')'] = (.error (.syntax, some (1, 2)), st) := by
  unfold evalText
  simp only [Read.ofText, lex_rparen]
  have hd : Read.nextDatum { toks := [⟨.rparen, some (1, 2)⟩], lexErr := none } = .error (.syntax, some (1, 2)) := by
    simp [Read.nextDatum, Read.advance, Read.currentDatum, Read.fuelFor, bind, Except.bind]
  rw [List.length_singleton, evalText.go, hd]

/-! ## the state of `Interpreter::default()` -/

theorem default_syn (b : Bool) : (default_ b).syn = [[], grammarScope] := rfl

/-- the factory list of `Interpreter::default()` with the two bundled texts abstracted -/
theorem default_factories (withHost : Bool) : ∃ (b w : String), (default_ withHost).factories =
    [(libRuschmBase, .native nativeBase), (libRuschmWrite, .native nativeWrite)]
      ++ (match factoryOfText libSchemeBase b with | .ok f => [(libSchemeBase, f)] | .error _ => [])
      ++ (match factoryOfText libSchemeWrite w with | .ok f => [(libSchemeWrite, f)] | .error _ => [])
      ++ (if withHost then [(libVerifHost, .native nativeHost)] else []) := by
  refine ⟨Gen.baseLibText, Gen.writeLibText, ?_⟩
  unfold default_
  generalize Gen.baseLibText = b
  generalize Gen.writeLibText = w
  rfl

theorem default_store (withHost : Bool) :
    (default_ withHost).store.frames = #[{ parent := none, defs := [] }] ∧
    (default_ withHost).store.vecs = #[] ∧ (default_ withHost).instances = [] ∧
    (default_ withHost).importEnd = false ∧ (default_ withHost).inProgress = [] ∧
    (default_ withHost).files = [] := by
  unfold default_
  generalize Gen.baseLibText = b
  generalize Gen.writeLibText = w
  exact ⟨rfl, rfl, rfl, rfl, rfl, rfl⟩

theorem default_factory_cases {withHost : Bool} {p : LibName × Factory} (h : p ∈ (default_ withHost).factories) :
    (∃ defs, p.2 = .native defs ∧ ∀ kv ∈ defs, ∃ b, kv.2 = .builtin b) ∨
    ∃ t, factoryOfText p.1 t = .ok p.2 := by
  obtain ⟨b, w, hfac⟩ := default_factories withHost
  rw [hfac] at h
  simp only [List.mem_append, List.mem_cons, List.not_mem_nil, or_false] at h
  have text : ∀ n t, p ∈ (match factoryOfText n t with | .ok f => [(n, f)] | .error _ => []) →
      ∃ t, factoryOfText p.1 t = .ok p.2 := fun n t hp => by
    cases hf : factoryOfText n t with
    | ok f => rw [hf] at hp; cases List.mem_singleton.1 hp; exact ⟨t, hf⟩
    | error _ => rw [hf] at hp; cases hp
  rcases h with (((rfl | rfl) | h) | h) | h
  · exact .inl ⟨_, rfl, List.forall_mem_map.2 fun b _ => ⟨b, rfl⟩⟩
  · exact .inl ⟨_, rfl, List.forall_mem_singleton.2 ⟨_, rfl⟩⟩
  · exact .inr (text _ _ h)
  · exact .inr (text _ _ h)
  · split at h
    · cases List.mem_singleton.1 h
      exact .inl ⟨_, rfl, List.forall_mem_singleton.2 ⟨_, rfl⟩⟩
    · cases h

/-! ## C17: the command line -/

/-- The model's `cli` runs `evalText` on `default_ false`, not `Interp.evalFile` as the Rust `main` runs `eval_file`:
`dir` stays unset and `files = []`, so an import of a library beside the file is `libNotFound` (`C14Dir` is about
`evalFile`). -/
theorem cli_some (fuel : Nat) (text : String) :
    cli fuel (some text) =
      match evalText fuel (default_ false) text.toList with
      | (.ok _, st) => { stdout := outText st.store, diag := none, errKind := none, exitCode := 0 }
      | (.error (e, loc), st) =>
        { stdout := outText st.store, diag := some loc, errKind := some e, exitCode := 255 } := rfl

/-! ## C17: layouts that move the cursor alike give the same located tokens -/

section layout
open Ruschm.Lex Ruschm.Text

theorem validLayout_ne_nil {ts : List Token} {l : List (List Char)} (h : ValidLayout ts l) : l ≠ [] := by
  rintro rfl; cases ts <;> exact h

theorem locate_sameCursor (ts : List Token) : ∀ (l₁ l₂ : List (List Char)) (p : Pos),
    ValidLayout ts l₁ → ValidLayout ts l₂ → SameCursor l₁ l₂ → locate ts l₁ p = locate ts l₂ p := by
  induction ts with
  | nil => intro l₁ l₂ p _ _ _; rfl
  | cons t ts ih =>
    intro l₁ l₂ p h₁ h₂ hc
    match l₁, l₂, h₁, h₂ with
    | a :: l, b :: m, ⟨_, _, h₁⟩, ⟨_, _, h₂⟩ =>
      obtain ⟨a', l, rfl⟩ := List.exists_cons_of_ne_nil (validLayout_ne_nil h₁)
      obtain ⟨b', m, rfl⟩ := List.exists_cons_of_ne_nil (validLayout_ne_nil h₂)
      simp only [locate, List.headD_cons, List.tail_cons, hc.1]
      rw [ih _ _ _ h₁ h₂ hc.2]

theorem evalText_lex_congr (fuel : Nat) (st : State) (t₁ t₂ : List Char) (h : Lex.all t₁ = Lex.all t₂) :
    evalText fuel st t₁ = evalText fuel st t₂ := by
  unfold evalText Read.ofText
  rw [h]


theorem advs_cons (c : Char) (cs : List Char) (p : Pos) : advs (c :: cs) p = advs cs (adv c p) :=
  Text.advs_cons c cs p

theorem advs_crlf (a : List Char) : ∀ p, advs (crlf a) p = advs a p := by
  induction a with
  | nil => intro p; rfl
  | cons c cs ih =>
    intro p
    unfold crlf
    by_cases hc : c = '\n'
    · subst hc
      simp only [if_true, advs_cons]
      rw [ih]
      simp [adv]
    · simp only [hc, if_false, advs_cons]
      rw [ih]

section scan
/- `isAtmos` and `isTrail` step alike (`isAtmos_cons`, `isTrail_cons`); they differ at the end of the text
only, where a last comment may be left open -/
variable {f : Bool → List Char → Bool} (hf : ∀ b c cs, f b (c :: cs) = (atmosStep b c).elim false (f · cs))
include hf

theorem scan_crlf (a : List Char) (b : Bool) : f b (crlf a) = f b a := by
  induction a generalizing b with
  | nil => rfl
  | cons c cs ih =>
    unfold FrontSpec.crlf
    by_cases hc : c = '\n'
    · subst hc
      rw [if_pos rfl, hf, hf _ '\n' cs]
      -- `\r` and `\n` both end a comment and both are blank
      cases b <;> exact (hf _ _ _).trans (ih _)
    · rw [if_neg hc, hf, hf _ c cs]
      cases atmosStep b c with
      | none => rfl
      | some b' => exact ih b'

/-- after a separator that may end the text, a newline begins a fresh separator -/
theorem scan_after_trail (a z : List Char) (b : Bool)
    (hz : isTrail b z = true) : f b (z ++ '\n' :: a) = f false a := by
  induction b, z, hz using atmosStep_induction isTrail_cons with
  | nil b => rw [List.nil_append, hf]; cases b <;> rfl
  | cons hs _ _ ih => rw [List.cons_append, hf, hs]; exact ih

end scan

theorem crlf_isEmpty (a : List Char) : (crlf a).isEmpty = a.isEmpty := by
  cases a with
  | nil => rfl
  | cons c cs => unfold crlf; split <;> rfl

theorem validLayout_crlf (ts : List Token) (hs : ∀ t ∈ ts, SupportedTok t) (l : List (List Char))
    (h : ValidLayout ts l) : ValidLayout ts (l.map crlf) := by
  rw [validLayout_iff_gaps ts hs] at h ⊢
  induction ts generalizing l with
  | nil => match l, h with | [a], h => exact (scan_crlf isTrail_cons a false).trans h
  | cons t ts ih =>
    match l, h with
    | a :: l, ⟨ha, hg, hv⟩ =>
      refine ⟨(scan_crlf isAtmos_cons a false).trans ha, ?_, ih (fun t ht => hs t (by simp [ht])) l hv⟩
      rw [← hg]
      cases l with
      | nil => rfl
      | cons b l' => simp only [gapOK, List.map_cons, List.headD_cons, crlf_isEmpty]

theorem sameCursor_crlf (ts : List Token) : ∀ (l : List (List Char)), ValidLayout ts l → SameCursor l (l.map crlf) := by
  induction ts with
  | nil => intro l h; match l, h with | [a], _ => trivial
  | cons t ts ih =>
    intro l h
    match l, h with
    | a :: l, ⟨_, _, h⟩ =>
      obtain ⟨a', l, rfl⟩ := List.exists_cons_of_ne_nil (validLayout_ne_nil h)
      exact ⟨fun p => (advs_crlf a p).symm, ih _ h⟩

theorem sameCursor_last : ∀ (l : List (List Char)) (a b : List Char), SameCursor (l ++ [a]) (l ++ [b])
  | [], _, _ => trivial
  | [_], _, _ => ⟨fun _ => rfl, trivial⟩
  | _ :: y :: l, a, b => ⟨fun _ => rfl, sameCursor_last (y :: l) a b⟩

end layout

/-! ## C18: the REPL loop -/

theorem replStep_eq (fuel : Nat) (rs : ReplState) (line : String) :
    replStep fuel rs line =
      if line.isEmpty then (rs, {})
      else if Bracket.closed (rs.pending ++ line).toList then
        ({ st := (submit fuel rs.st (rs.pending ++ line)).1, pending := "" }, (submit fuel rs.st (rs.pending ++ line)).2)
      else ({ rs with pending := rs.pending ++ line ++ "\n" }, {}) := by
  unfold replStep submit clearOut
  split
  · rfl
  · dsimp only
    split
    · generalize evalText fuel _ _ = x
      obtain ⟨r, st'⟩ := x
      cases r with
      | ok v => cases v with
        | none => rfl
        | some v => cases v <;> rfl
      | error e => obtain ⟨e, l⟩ := e; rfl
    · rfl

theorem submit_submitted (fuel : Nat) (st : State) (source : String) :
    (submit fuel st source).2.submitted = true := by
  unfold submit
  split <;> rfl

/-- the session loop as a recursion on the lines -/
def replList (fuel : Nat) : ReplState → List String → ReplState × List ReplOut
  | rs, [] => (rs, [])
  | rs, l :: ls =>
    ((replList fuel (replStep fuel rs l).1 ls).1, (replStep fuel rs l).2 :: (replList fuel (replStep fuel rs l).1 ls).2)

theorem foldl_replStep (fuel : Nat) (lines : List String) : ∀ (rs : ReplState) (acc : List ReplOut),
    lines.foldl (fun (acc : ReplState × List ReplOut) l =>
      let (rs, o) := replStep fuel acc.1 l
      (rs, acc.2 ++ [o])) (rs, acc) = ((replList fuel rs lines).1, acc ++ (replList fuel rs lines).2) := by
  induction lines with
  | nil => intro rs acc; simp [replList]
  | cons l ls ih =>
    intro rs acc
    simp only [List.foldl_cons, replList]
    rw [ih]
    simp

theorem replRun_eq (fuel : Nat) (lines : List String) :
    replRun fuel lines = replList fuel { st := withStdlib fuel false } lines := by
  unfold replRun
  rw [foldl_replStep]
  simp

theorem replList_groups (fuel : Nat) (lines : List String) : ∀ (rs : ReplState),
    (replList fuel rs lines).1 =
      { st := (session fuel rs.st (groupsAux rs.pending lines).1).1, pending := (groupsAux rs.pending lines).2 } ∧
    (replList fuel rs lines).2.filter (·.submitted) = (session fuel rs.st (groupsAux rs.pending lines).1).2 ∧
    ∀ o ∈ (replList fuel rs lines).2, o.submitted = false → o.stdout = "" ∧ o.err = none := by
  induction lines with
  | nil => intro rs; simp [replList, groupsAux, session]
  | cons l ls ih =>
    intro rs
    simp only [replList, groupsAux]
    rw [replStep_eq]
    by_cases he : l.isEmpty
    · simp only [he, if_true]
      obtain ⟨a, b, c⟩ := ih rs
      exact ⟨a, by rw [List.filter_cons]; simpa using b, List.forall_mem_cons.2 ⟨fun _ => ⟨rfl, rfl⟩, c⟩⟩
    · simp only [he, Bool.false_eq_true, if_false]
      by_cases hc : Bracket.closed (rs.pending ++ l).toList
      · simp only [hc, if_true]
        obtain ⟨a, b, c⟩ := ih { st := (submit fuel rs.st (rs.pending ++ l)).1, pending := "" }
        simp only at a b c
        exact ⟨by rw [a]; simp [session], by rw [List.filter_cons, submit_submitted]; simp [session, b],
          List.forall_mem_cons.2 ⟨fun hs => (by rw [submit_submitted] at hs; cases hs), c⟩⟩
      · simp only [hc, Bool.false_eq_true, if_false]
        obtain ⟨a, b, c⟩ := ih { rs with pending := rs.pending ++ l ++ "\n" }
        simp only at a b c
        exact ⟨a, by rw [List.filter_cons]; simpa using b, List.forall_mem_cons.2 ⟨fun _ => ⟨rfl, rfl⟩, c⟩⟩

theorem transcript_filter (outs : List ReplOut)
    (h : ∀ o ∈ outs, o.submitted = false → o.stdout = "" ∧ o.err = none) :
    transcript (outs.filter (·.submitted)) = transcript outs ∧
    errors (outs.filter (·.submitted)) = errors outs := by
  induction outs with
  | nil => exact ⟨rfl, rfl⟩
  | cons o os ih =>
    obtain ⟨h0, h⟩ := List.forall_mem_cons.1 h
    obtain ⟨i1, i2⟩ := ih h
    unfold transcript errors at *
    cases hs : o.submitted
    · obtain ⟨h1, h2⟩ := h0 hs
      simp only [List.filter_cons, hs, Bool.false_eq_true, if_false, List.map_cons, String.join_cons,
        List.filterMap_cons, h1, h2, String.empty_append]
      exact ⟨i1, i2⟩
    · simp only [List.filter_cons, hs, if_true, List.map_cons, String.join_cons, List.filterMap_cons, i1, i2,
        and_self]

theorem replRun_groups (fuel : Nat) (lines : List String) :
    (replRun fuel lines).1 =
      { st := (session fuel (withStdlib fuel false) (groups lines)).1, pending := unfinished lines } ∧
    (replRun fuel lines).2.filter (·.submitted) = (session fuel (withStdlib fuel false) (groups lines)).2 ∧
    ∀ o ∈ (replRun fuel lines).2, o.submitted = false → o.stdout = "" ∧ o.err = none := by
  rw [replRun_eq]
  exact replList_groups fuel lines { st := withStdlib fuel false }

theorem replRun_sequential (fuel : Nat) (lines : List String) :
    (replRun fuel lines).1.st = (session fuel (withStdlib fuel false) (groups lines)).1 ∧
    transcript (replRun fuel lines).2 = transcript (session fuel (withStdlib fuel false) (groups lines)).2 ∧
    errors (replRun fuel lines).2 = errors (session fuel (withStdlib fuel false) (groups lines)).2 := by
  obtain ⟨h1, h2, h3⟩ := replRun_groups fuel lines
  obtain ⟨t1, t2⟩ := transcript_filter _ h3
  rw [h1, ← h2, t1, t2]
  exact ⟨rfl, rfl, rfl⟩

/-! ## C18: splitting lines -/

theorem isEmpty_append_false (x y : String) (h : x.isEmpty = false) : (x ++ y).isEmpty = false := by
  rw [String.isEmpty_eq_false_iff] at h ⊢
  exact fun he => h (String.append_eq_empty_iff.1 he).1

theorem groupsAux_split (pending x y : String) (ls : List String)
    (hx : x.isEmpty = false) (hy : y.isEmpty = false)
    (hc : Bracket.closed (pending ++ x).toList = false) :
    groupsAux pending (x :: y :: ls) = groupsAux pending ((x ++ "\n" ++ y) :: ls) := by
  have hxy : (x ++ "\n" ++ y).isEmpty = false := by
    rw [String.append_assoc]; exact isEmpty_append_false _ _ hx
  have e : pending ++ (x ++ "\n" ++ y) = pending ++ x ++ "\n" ++ y := by
    simp [String.append_assoc]
  simp only [groupsAux, hx, hy, hxy, hc, Bool.false_eq_true, if_false, e]


theorem groupsAux_append (a b : List String) : ∀ (p : String),
    groupsAux p (a ++ b) =
      ((groupsAux p a).1 ++ (groupsAux (groupsAux p a).2 b).1, (groupsAux (groupsAux p a).2 b).2) := by
  induction a with
  | nil => intro p; simp [groupsAux]
  | cons l ls ih =>
    intro p
    simp only [List.cons_append, groupsAux]
    split
    · exact ih p
    · split
      · rw [ih ""]; simp
      · exact ih _

theorem session_congr (fuel : Nat) : ∀ (gs₁ gs₂ : List String) (st : State),
    SameLocTokens gs₁ gs₂ → session fuel st gs₁ = session fuel st gs₂
  | [], [], _, _ => rfl
  | g :: gs, h :: hs, st, hh => by
    have hs' : ∀ st, submit fuel st g = submit fuel st h := fun st => by
      unfold submit
      rw [evalText_lex_congr fuel (clearOut st) _ _ hh.1]
    simp only [session, hs', session_congr fuel gs hs _ hh.2]
  | [], _ :: _, _, hh => by cases hh
  | _ :: _, [], _, hh => by cases hh


theorem sameLocTokens_refl : ∀ (gs : List String), SameLocTokens gs gs
  | [] => trivial
  | _ :: gs => ⟨rfl, sameLocTokens_refl gs⟩

/-! ## C19: worlds -/

theorem worldStep_none (fuel : Nat) (w : World) (i : Nat) (text : List Char) (h : w[i]? = none) :
    worldStep fuel w i text = (none, w) := by
  unfold worldStep
  simp [h]

theorem worldStep_some (fuel : Nat) {w : World} {i : Nat} {st : State} (text : List Char) (h : w[i]? = some st) :
    worldStep fuel w i text = (some (evalText fuel st text).1, w.set i (evalText fuel st text).2) := by
  unfold worldStep
  rw [h]

theorem worldStep_length (fuel : Nat) (w : World) (i : Nat) (text : List Char) :
    (worldStep fuel w i text).2.length = w.length := by
  cases h : w[i]? with
  | none => rw [worldStep_none fuel w i text h]
  | some st => rw [worldStep_some fuel text h]; exact List.length_set ..

theorem worldStep_other (fuel : Nat) (w : World) (i j : Nat) (text : List Char) (h : j ≠ i) :
    (worldStep fuel w i text).2[j]? = w[j]? := by
  cases hi : w[i]? with
  | none => rw [worldStep_none fuel w i text hi]
  | some st => rw [worldStep_some fuel text hi]; exact List.getElem?_set_ne (Ne.symm h)

theorem worldStep_self (fuel : Nat) {w : World} {i : Nat} {st : State} (text : List Char) (h : w[i]? = some st) :
    (worldStep fuel w i text).2[i]? = some (evalText fuel st text).2 := by
  rw [worldStep_some fuel text h, List.getElem?_set_self', h]; rfl

theorem textsFor_cons (j i : Nat) (text : List Char) (rest : Steps) :
    textsFor j ((i, text) :: rest) = if i = j then text :: textsFor j rest else textsFor j rest := by
  unfold textsFor
  by_cases h : i = j <;> simp [h]

theorem runSteps_length (fuel : Nat) (steps : Steps) : ∀ (w : World),
    (runSteps fuel w steps).2.length = w.length := by
  induction steps with
  | nil => intro w; rfl
  | cons s rest ih =>
    intro w
    obtain ⟨i, text⟩ := s
    simp only [runSteps]
    rw [ih, worldStep_length]

theorem runSteps_alone (fuel : Nat) (j : Nat) : ∀ (steps : Steps) (w : World) (st : State), w[j]? = some st →
    ((runSteps fuel w steps).1.filter (fun r => r.1 = j)).map (·.2)
        = (runAlone fuel st (textsFor j steps)).1.map some ∧
      (runSteps fuel w steps).2[j]? = some (runAlone fuel st (textsFor j steps)).2
  | [], _, _, h => ⟨rfl, h⟩
  | (i, text) :: rest, w, st, h => by
    rw [textsFor_cons]
    by_cases hij : i = j
    · subst hij
      obtain ⟨g1, g2⟩ := runSteps_alone fuel i rest _ _ (worldStep_self fuel text h)
      simp only [runSteps, runAlone, List.filter_cons, decide_true, if_true, List.map_cons]
      exact ⟨by rw [g1, worldStep_some fuel text h], g2⟩
    · obtain ⟨g1, g2⟩ := runSteps_alone fuel j rest _ st
        ((worldStep_other fuel w i j text (Ne.symm hij)).trans h)
      simp only [runSteps, List.filter_cons, hij, decide_false, Bool.false_eq_true, if_false]
      exact ⟨g1, g2⟩

/-! ## C19: `define-syntax` writes to the instance's own scope only -/

section synbase
open Ruschm.Xform

theorem evalForm_syn (fuel : Nat) (st : State) (d : Datum) (own : List (String × Macro.Rules)) (base : SynEnv)
    (h : st.syn = own :: base) : ∃ own', (evalForm fuel st d).2.syn = own' :: base := by
  obtain ⟨own', h'⟩ := toStatement_base (xformFuel d) d own base
  rw [← h] at h'
  rcases hx : toStatement (xformFuel d) d st.syn with ⟨_ | stmt, syn⟩ <;> rw [hx] at h'
  · rw [evalForm_error hx]; exact ⟨own', h'⟩
  · rw [evalForm_ok hx]; exact ⟨own', (evalAst_out (Prod.eta _).symm).2.1.trans h'⟩

theorem evalText_syn (fuel : Nat) (st : State) (text : List Char) (own : List (String × Macro.Rules))
    (base : SynEnv) (h : st.syn = own :: base) : ∃ own', (evalText fuel st text).2.syn = own' :: base :=
  evalText_keeps (P := fun s => ∃ own', s.syn = own' :: base)
    (fun st₁ d ⟨o, g⟩ => evalForm_syn fuel st₁ d o base g) text st ⟨own, h⟩

theorem withStdlib_syn (fuel : Nat) (b : Bool) : (withStdlib fuel b).syn = [[], grammarScope] := by
  unfold withStdlib
  exact (run_inv (R := fun _ _ => True) storeRel_true fuel (default_ b)
    (.import_ [.direct libSchemeBase none, .direct libSchemeWrite none] (default_ b).env)).syn


theorem runAlone_syn (fuel : Nat) (texts : List (List Char)) : ∀ (st : State)
    (own : List (String × Macro.Rules)) (base : SynEnv), st.syn = own :: base →
    ∃ own', (runAlone fuel st texts).2.syn = own' :: base := by
  induction texts with
  | nil => intro st own base h; exact ⟨own, h⟩
  | cons t ts ih =>
    intro st own base h
    obtain ⟨own', h'⟩ := evalText_syn fuel st t own base h
    exact ih _ own' base h'
end synbase

end Ruschm.FrontSpec
