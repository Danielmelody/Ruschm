/-
Property C18 (bracket part) — "Text entered at the REPL is evaluated as soon as the lines entered
so far close every list they opened, and not before".

The REPL decides whether the text entered so far is complete with a private character-level
counter (`check_bracket_closed`, modelled by `Bracket.closed`). The theorem below says that this
counter sees exactly the brackets the lexer sees: whenever the text tokenises without error, the
count it arrives at is the number of opening tokens `(`, `#(`, `#u8(` minus the number of closing
tokens `)` — parentheses inside strings, `|quoted|` identifiers, character literals and comments
are not counted, by either. Only property theorems live here; helper lemmas are in
`RuschmProofs/BracketLemmas.lean` (the shape of the text of a token: `TokShape` in `LexToken.lean`).
-/
import RuschmProofs.BracketLemmas
import RuschmProofs.TextLemmas
import RuschmProofs.TextSamples

namespace Ruschm.C18
open Ruschm Ruschm.Lex Ruschm.Text Ruschm.Text.Samples

/-- The counter's final count is the nesting depth of the token stream. No side condition beyond
"the text tokenises": a `,` as very last character (dropped by the lexer) and a comment that
reaches the end of the text (which leaves the counter in comment mode) do not change the count. -/
theorem bracket_count_is_depth (cs : List Char) (ts : List LToken)
    (h : Lex.all cs = (ts, none)) : (Bracket.run cs).2 = depth (ts.map (·.tok)) :=
  bracket_run_eq cs ts h

/-- `check_bracket_closed` answers "closed" exactly when the tokens read so far contain at least
as many `)` as `(`, `#(` and `#u8(`. -/
theorem bracket_agrees_with_reader (cs : List Char) (ts : List LToken)
    (h : Lex.all cs = (ts, none)) :
    Bracket.closed cs = decide (depth (ts.map (·.tok)) ≤ 0) :=
  bracket_closed_eq cs ts h

/-- the same, without naming the token list -/
theorem bracket_agrees_with_reader' (cs : List Char) (h : (Lex.all cs).2 = none) :
    Bracket.closed cs = decide (depth ((Lex.all cs).1.map (·.tok)) ≤ 0) :=
  bracket_closed_eq cs _ (Prod.ext rfl h)

/-- End to end on written token sequences: for supported tokens under any valid layout the
counter answers "closed" iff the sequence has at least as many `)` as opening tokens — whatever
parentheses occur inside its strings, characters, quoted identifiers and comments. -/
theorem bracket_of_rendered (ts : List Token) (layout : List (List Char))
    (hs : ∀ t ∈ ts, SupportedTok t) (hl : ValidLayout ts layout) :
    Bracket.closed (interleave ts layout) = decide (depth ts ≤ 0) := by
  obtain ⟨h1, h2⟩ := all_render ts layout hs hl
  rw [bracket_agrees_with_reader' _ h2, h1]

section Example
/-- `(f #\( "a)" |b)| ;)` + newline + `#(1`: two lists are open; the parentheses in the character
literal, the string, the quoted identifier and the comment count for neither side. -/
example : interleave toksB layoutToksB = "(f #\\( \"a)\" |b)| ;)\n#(1".toList := toksB_text

example : (Lex.all "(f #\\( \"a)\" |b)| ;)\n#(1".toList).1.map (·.tok) = toksB ∧
    (Lex.all "(f #\\( \"a)\" |b)| ;)\n#(1".toList).2 = none := by
  rw [← toksB_text]
  exact all_render toksB layoutToksB toksB_supported toksB_layout

example : depth toksB = 2 := by decide +kernel

example : Bracket.closed "(f #\\( \"a)\" |b)| ;)\n#(1".toList = false := by
  rw [← toksB_text]
  exact bracket_of_rendered toksB layoutToksB toksB_supported toksB_layout

/-- … and the counter computes the same answer by itself -/
example : Bracket.closed "(f #\\( \"a)\" |b)| ;)\n#(1".toList = false := by decide +kernel

/-- closing both lists closes the text -/
example : Bracket.closed "(f #\\( \"a)\" |b)| ;)\n#(1))".toList = true := by decide +kernel
end Example

end Ruschm.C18
