/-
What the transformer makes its code of. `Statement.Made L D s` says of a statement what can be said without
looking at the datum it was made from: every literal (quoted data, vectors, atoms and variable references taken
as data) satisfies `D`, the position of every other node satisfies `L`, no procedure body is empty.
`XM.Hered.all` is the one induction over the eleven functions for any `D` that passes from a datum to its
parts and through macro expansion; an instance gives a dozen closure facts and a walk from `Made` to its own
predicate.
-/
import RuschmProofs.XformInduction
import RuschmProofs.MacroMoreLemmas
import RuschmProofs.MacroAll

namespace Ruschm

mutual
def Expr.Made (L : Loc → Prop) (D : Datum → Prop) : Expr → Prop
  | .sym s l => D (.sym s l)
  | .prim p l => D (.prim p l)
  | .assign _ e l => L l ∧ e.Made L D
  | .lambda lam l => L l ∧ lam.Made L D
  -- `L f.loc` follows from `f.Made L D` (`Expr.Made.loc`); kept for the role `operator` of `Expr.rlocs`
  | .call f args l => L l ∧ (L f.loc ∧ f.Made L D) ∧ Expr.MadeList L D args
  | .cond t c a l => L l ∧ t.Made L D ∧ c.Made L D ∧ Expr.MadeOpt L D a
  | .quote d l => L l ∧ D d
  | .datum d l => L l ∧ D d
def Expr.MadeOpt (L : Loc → Prop) (D : Datum → Prop) : Option Expr → Prop
  | none => True
  | some e => e.Made L D
def Expr.MadeList (L : Loc → Prop) (D : Datum → Prop) : List Expr → Prop
  | [] => True
  | e :: es => e.Made L D ∧ Expr.MadeList L D es
def Lambda.Made (L : Loc → Prop) (D : Datum → Prop) : Lambda → Prop
  | .mk _ defs body => Def.MadeList L D defs ∧ Expr.MadeList L D body ∧ body ≠ []
def Def.Made (L : Loc → Prop) (D : Datum → Prop) : Def → Prop
  | .mk _ e l => L l ∧ e.Made L D
def Def.MadeList (L : Loc → Prop) (D : Datum → Prop) : List Def → Prop
  | [] => True
  | d :: ds => d.Made L D ∧ Def.MadeList L D ds
end

def ImportSet.Made (L : Loc → Prop) : ImportSet → Prop
  | .direct _ l => L l
  | .only s _ => s.Made L
  | .except s _ => s.Made L
  | .prefix s _ => s.Made L
  | .rename s _ => s.Made L

def ExportSpec.Made (L : Loc → Prop) : ExportSpec → Prop
  | .direct _ l => L l
  | .rename _ _ l => L l

mutual
def Statement.Made (L : Loc → Prop) (D : Datum → Prop) : Statement → Prop
  | .importDecl sets l => L l ∧ ∀ s ∈ sets, s.Made L
  | .definition d => d.Made L D
  | .syntaxDef _ _ l => L l
  | .expr e => e.Made L D
  | .libraryDef _ decls l => L l ∧ LibDecl.MadeList L D decls
def Statement.MadeList (L : Loc → Prop) (D : Datum → Prop) : List Statement → Prop
  | [] => True
  | s :: ss => s.Made L D ∧ Statement.MadeList L D ss
def LibDecl.Made (L : Loc → Prop) (D : Datum → Prop) : LibDecl → Prop
  | .importDecl sets => ∀ s ∈ sets, s.Made L
  | .export specs => ∀ s ∈ specs, s.Made L
  | .begin_ body => Statement.MadeList L D body
def LibDecl.MadeList (L : Loc → Prop) (D : Datum → Prop) : List LibDecl → Prop
  | [] => True
  | d :: ds => d.Made L D ∧ LibDecl.MadeList L D ds
end

section lists
variable {L : Loc → Prop} {D : Datum → Prop}

theorem Expr.madeList_iff : ∀ {es : List Expr}, Expr.MadeList L D es ↔ ∀ e ∈ es, e.Made L D
  | [] => by simp [Expr.MadeList]
  | e :: es => by simp [Expr.MadeList, madeList_iff (es := es)]
theorem Def.madeList_iff : ∀ {ds : List Def}, Def.MadeList L D ds ↔ ∀ d ∈ ds, d.Made L D
  | [] => by simp [Def.MadeList]
  | d :: ds => by simp [Def.MadeList, madeList_iff (ds := ds)]

theorem Expr.Made.loc {e : Expr} (h : e.Made L D) (hD : ∀ {d}, D d → L d.loc) : L e.loc := by
  cases e with
  | sym | prim => exact hD h
  | _ => exact h.1

end lists

namespace Xform

def SynEnv.All (P : Macro.Rules → Prop) (env : SynEnv) : Prop := ∀ scope ∈ env, ∀ kr ∈ scope, P kr.2

namespace SynEnv.All
variable {P : Macro.Rules → Prop} {env : SynEnv}

theorem scopeInsert {sc : List (String × Macro.Rules)} (h : ∀ kr ∈ sc, P kr.2) (k : String) {r : Macro.Rules}
    (hr : P r) : ∀ kr ∈ scopeInsert sc k r, P kr.2 := fun kr hkr =>
  (Assoc.mem_insert_of (fun _ _ => rfl) (fun _ _ _ _ _ => rfl) hkr).elim (fun e => e ▸ hr) (h kr)

theorem define (h : SynEnv.All P env) (k : String) {r : Macro.Rules} (hr : P r) : SynEnv.All P (env.define k r) := by
  cases env with
  | nil => exact List.forall_mem_cons.2 ⟨scopeInsert (sc := []) nofun k hr, nofun⟩
  | cons sc rest =>
    exact List.forall_mem_cons.2 ⟨scopeInsert (h sc List.mem_cons_self) k hr, fun s hs => h s (List.mem_cons_of_mem _ hs)⟩

theorem get (h : SynEnv.All P env) {k : String} {r : Macro.Rules} (hg : env.get? k = some r) : P r := by
  induction env with
  | nil => simp [SynEnv.get?] at hg
  | cons sc rest ih =>
    simp only [SynEnv.get?] at hg
    split at hg
    · rename_i r' hl
      cases hg
      exact h sc List.mem_cons_self (k, r) (Assoc.mem_of_lookup hl)
    · exact ih (List.forall_mem_cons.1 h).2 hg

theorem push (h : SynEnv.All P env) : SynEnv.All P ([] :: env) := List.forall_mem_cons.2 ⟨nofun, h⟩

theorem pop (h : SynEnv.All P env) : SynEnv.All P (popScope env) := by
  cases env with
  | nil => exact h
  | cons sc env => exact (List.forall_mem_cons.1 h).2

end SynEnv.All

/-- `D` of data, `L` of their positions, `R` of the rules in the syntax environment, `E` of syntax errors -/
structure XM.Hered (E : SErr → Prop) (R : Macro.Rules → Prop) (L : Loc → Prop)
    (D : Datum → Prop) : Prop where
  failS : E (.syntax, none)
  failF : E (.fuel, none)
  err : ∀ {l}, L l → E (.syntax, l)
  loc : ∀ {d}, D d → L d.loc
  pair : ∀ {a b l}, D (.pair a b l) → L l ∧ D a ∧ D b
  parts : Macro.ElemClosed D
  withLoc : ∀ {b l}, D b → L l → D (b.withLoc l)
  rules : ∀ {k spec}, D spec →
    (∀ r, Macro.toRules k spec = .ok r → R r) ∧ ∀ e, Macro.toRules k spec = .error e → E e
  expand : ∀ {fuel r use}, R r → D use →
    (∀ x, Macro.transform fuel r use = .ok x → D x) ∧ ∀ e, Macro.transform fuel r use = .error e → E e

structure XM.MadeAt (E : SErr → Prop) (R : Macro.Rules → Prop) (L : Loc → Prop) (D : Datum → Prop)
    (n : Nat) : Prop where
  stmt : ∀ d, D d → XM.Sat (SynEnv.All R) E (toStatement n d) (Statement.Made L D)
  expr : ∀ d, D d → XM.Sat (SynEnv.All R) E (toExpr n d) (Expr.Made L D)
  call : ∀ first args loc, D first → (∀ a ∈ args, D a) → L loc →
    XM.Sat (SynEnv.All R) E (toCall n first args loc) (Expr.Made L D)
  exprs : ∀ ds, (∀ a ∈ ds, D a) → XM.Sat (SynEnv.All R) E (toExprs n ds) (Expr.MadeList L D)
  defn : ∀ args, (∀ a ∈ args, D a) → XM.Sat (SynEnv.All R) E (toDefinition n args) (fun p => p.2.Made L D)
  lam : ∀ args, (∀ a ∈ args, D a) → XM.Sat (SynEnv.All R) E (toLambda n args) (Lambda.Made L D)
  body : ∀ ds defs exprs, (∀ a ∈ ds, D a) → Def.MadeList L D defs → Expr.MadeList L D exprs →
    XM.Sat (SynEnv.All R) E (toBody n ds defs exprs)
      (fun p => Def.MadeList L D p.1 ∧ Expr.MadeList L D p.2 ∧ p.2 ≠ [])
  lib : ∀ args loc, (∀ a ∈ args, D a) → L loc → XM.Sat (SynEnv.All R) E (toLibrary n args loc) (Statement.Made L D)
  decls : ∀ ds, (∀ a ∈ ds, D a) → XM.Sat (SynEnv.All R) E (toLibDecls n ds) (LibDecl.MadeList L D)
  decl : ∀ d, D d → XM.Sat (SynEnv.All R) E (toLibDecl n d) (LibDecl.Made L D)
  stmts : ∀ ds, (∀ a ∈ ds, D a) → XM.Sat (SynEnv.All R) E (toStatements n ds) (Statement.MadeList L D)

namespace XM.Hered

theorem head {D : Datum → Prop} {ds : List Datum} (h : ∀ a ∈ ds, D a) (n : Nat) {d : Datum}
    (hd : (ds.drop n).head? = some d) : D d :=
  h d (List.mem_of_mem_drop (List.mem_of_head? hd))

theorem drop {D : Datum → Prop} {ds : List Datum} (h : ∀ a ∈ ds, D a) (n : Nat) : ∀ a ∈ ds.drop n, D a :=
  fun a ha => h a (List.mem_of_mem_drop ha)

variable {E : SErr → Prop} {R : Macro.Rules → Prop} {L : Loc → Prop}
  {D : Datum → Prop} (H : XM.Hered E R L D)
include H

theorem need {α} {o : Option α} : XM.Sat (SynEnv.All R) E (Xform.need o) (fun a => o = some a) := .need (H.failS)

theorem identOf (d : Datum) (hd : D d) : XM.Sat (SynEnv.All R) E (identOf d) (fun _ => True) :=
  (identOf_sat (H.err (H.loc hd))).weaken fun _ _ => trivial

theorem expectList (d : Datum) : XM.Sat (SynEnv.All R) E (expectList d) (fun d' => d' = d) :=
  .expectList H.failS

theorem toFormals (d : Datum) (hd : D d) : XM.Sat (SynEnv.All R) E (toFormals d) (fun _ => True) :=
  toFormals_cases (M := fun m => XM.Sat _ E m _) d (fun _ => .pure trivial) fun b hb =>
    .fail (H.err (H.loc (hb.elim (· ▸ hd) (H.parts.spine_all hd b))))

theorem toLibName (ds : List Datum) (hd : ∀ a ∈ ds, D a) : XM.Sat (SynEnv.All R) E (toLibName ds) (fun _ => True) := by
  refine .weaken (.mapM (P := fun _ => True) fun d hdm => ?_) (fun _ _ => trivial)
  have := hd d hdm
  split
  · exact .pure trivial
  · split
    · exact .pure trivial
    · exact .fail (H.err (H.loc this))
  · exact .fail (H.err (H.loc this))

theorem exportRename {es : List Datum} {l : Loc} (he : ∀ a ∈ es, D a) (hl : L l) :
    XM.Sat (SynEnv.All R) E (exportRename es l) (ExportSpec.Made L) :=
  .bind H.need fun _ _ => .ite _
    (.bind H.need fun a ha => .bind (H.identOf a (head he 1 ha)) fun _ _ =>
      .bind H.need fun b hb => .bind (H.identOf b (head he 2 hb)) fun _ _ => .pure hl)
    (.fail (H.failS))

theorem toExportSpec (d : Datum) (hd : D d) : XM.Sat (SynEnv.All R) E (toExportSpec d) (ExportSpec.Made L) := by
  have hl := H.loc hd
  have he := H.parts.elems hd
  rw [toExportSpec_eq]
  cases d
  case sym => exact .pure hl
  case prim => exact .fail (H.failS)
  case vec => exact .fail (H.failS)
  all_goals exact H.exportRename he hl

theorem toImportSet : ∀ (n : Nat) (d : Datum), D d → XM.Sat (SynEnv.All R) E (toImportSet n d) (ImportSet.Made L)
  | 0, d, _ => by rw [Xform.toImportSet]; exact .fail (H.failF)
  | n + 1, d, hd => by
    rw [Xform.toImportSet]
    refine .bind (H.expectList d) fun d' hd' => ?_
    subst hd'
    have he := H.parts.elems hd
    refine .bind H.need fun first hf => ?_
    have hfirst := head he 0 hf
    refine .bind (H.identOf first hfirst) fun spec _ => ?_
    have ids : ∀ {ds : List Datum}, (∀ a ∈ ds, D a) → XM.Sat (SynEnv.All R) E (ds.mapM Xform.identOf) (fun _ => True) :=
      fun h => .weaken (.mapM (P := fun _ => True) fun d hdm => H.identOf d (h d hdm)) (fun _ _ => trivial)
    -- the four modifiers start alike: the set modified is the second element
    have sub : ∀ {k : ImportSet → XM ImportSet},
        (∀ s, s.Made L → XM.Sat (SynEnv.All R) E (k s) (ImportSet.Made L)) → XM.Sat (SynEnv.All R) E (do
          let s ← Xform.need (d'.elems.drop 1).head?
          let s ← Xform.toImportSet n s
          k s) (ImportSet.Made L) :=
      fun hk => .bind H.need fun s0 hs0 => .bind (toImportSet n s0 (head he 1 hs0)) hk
    have hr := drop he 2
    refine .ite _ (sub fun s hs => .bind (ids hr) fun _ _ => .pure hs) ?_
    refine .ite _ (sub fun s hs => .bind (ids hr) fun _ _ => .pure hs) ?_
    refine .ite _ (sub fun s hs => .bind H.need fun p hp => .bind (H.identOf p (head hr 0 hp)) fun _ _ =>
      .pure hs) ?_
    refine .ite _ (sub fun s hs => .bind (.mapM (P := fun _ => True) fun pd hpd => ?_) fun _ _ => .pure hs) ?_
    · refine .bind (H.expectList pd) fun pd' hpd' => ?_
      subst hpd'
      have hpe := H.parts.elems (hr pd' hpd)
      exact .bind H.need fun a ha => .bind (H.identOf a (head hpe 0 ha)) fun _ _ =>
        .bind H.need fun b hb => .bind (H.identOf b (head hpe 1 hb)) fun _ _ => .pure trivial
    · exact .bind (H.toLibName _ he) fun _ _ => .pure (H.loc hfirst)

theorem all_zero : XM.MadeAt E R L D 0 := by
  constructor <;> intros <;>
    simp only [toStatement, toExpr, toCall, toExprs, toDefinition, toLambda, toBody, toLibrary, toLibDecls,
      toLibDecl, toStatements] <;> exact .fail (H.failF)

theorem all_succ {n : Nat} (ih : XM.MadeAt E R L D n) : XM.MadeAt E R L D (n + 1) where
  stmt := by
    have call : ∀ {a b : Datum} {l : Loc}, D (.pair a b l) →
        XM.Sat (SynEnv.All R) E (callOf n a b.elems l) (Statement.Made L D) := fun hd =>
      .bind (ih.call _ _ _ (H.pair hd).2.1 (H.parts.elems (H.pair hd).2.2) (H.pair hd).1) fun c hc => .pure hc
    refine toStatement_succ_cases (M := fun d m => D d → XM.Sat (SynEnv.All R) E m (Statement.Made L D)) n
      ?_ ?_ ?_ ?_ ?_ ?_ ?_ ?_
    · exact fun p l hd => .pure hd
    · exact fun s l hd => .pure hd
    · exact fun xs l hd => .pure ⟨H.loc hd, hd⟩
    · exact fun _ _ => .fail (H.failS)
    · exact fun _ _ _ _ _ => .fail (H.failS)
    · intro k _ b l hd
      have hloc := (H.pair hd).1
      have hargs := H.parts.elems (H.pair hd).2.2
      cases k <;> dsimp only [formOf]
      · exact .bind (ih.defn _ hargs) fun p hp => .pure ⟨hloc, hp⟩
      · exact ih.lib _ _ hargs hloc
      · exact .bind (ih.lam _ hargs) fun lam hlam => .pure ⟨hloc, hlam⟩
      · refine .bind H.need fun t ht => .bind (ih.expr t (head hargs 0 ht)) fun t' ht' =>
          .bind H.need fun c hc => .bind (ih.expr c (head hargs 1 hc)) fun c' hc' => ?_
        split
        · rename_i ad had
          exact .bind (ih.expr ad (head hargs 2 had)) fun x hx =>
            .pure (a := Statement.expr (.cond t' c' (some x) l)) ⟨hloc, ht', hc', hx⟩
        · exact .pure (a := Statement.expr (.cond t' c' none l)) ⟨hloc, ht', hc', trivial⟩
      · exact .bind (.mapM fun x hx => H.toImportSet n x (hargs x hx)) fun sets hs => .pure ⟨hloc, hs⟩
      · exact .bind H.need fun q hq => .pure ⟨hloc, head hargs 0 hq⟩
      · refine .bind H.need fun target htarget => ?_
        have htl := head hargs 0 htarget
        split
        · rename_i name targetLoc
          refine .bind H.need fun v hv => .bind (ih.expr v (head hargs 1 hv)) fun v' hv' => .pure ⟨?_, hv'⟩
          cases targetLoc with
          | none => exact hloc
          | some p => exact H.loc htl
        · exact .fail (H.failS)
      · refine .bind H.need fun k hk => .bind (H.identOf k (head hargs 0 hk)) fun k' _ =>
          .bind H.need fun spec hspec => ?_
        have hr := H.rules (k := k') (head hargs 1 hspec)
        exact .bind (.lift hr.1 hr.2) fun rules hrules =>
          .bind (.defineSyntax fun _ hs => hs.define _ hrules) fun _ _ => .pure hloc
    · intro kw lk b l _ hd
      rw [useOf]
      refine .bind .getEnv fun env henv => ?_
      split
      · rename_i rules hr
        have hx := H.expand (fuel := Macro.matchFuel (.pair (.sym kw lk) b l) + n) (henv.get hr)
          (H.withLoc (H.pair hd).2.2 (H.pair hd).1)
        exact .bind (.lift hx.1 hx.2) fun expanded hex => ih.stmt expanded hex
      · exact call hd
    · exact fun a b l _ hd => call hd
  expr d hd := by
    rw [toExpr]
    refine .bind (ih.stmt d hd) fun s hs => ?_
    split
    · exact .pure hs
    · exact .fail (H.failS)
  call first args loc hf ha hl := by
    rw [toCall]
    exact .bind (ih.expr first hf) fun f hf' => .bind (ih.exprs args ha) fun as has =>
      .pure ⟨hl, ⟨hf'.loc H.loc, hf'⟩, has⟩
  exprs ds hd := by
    cases ds <;> rw [toExprs]
    · exact .pure trivial
    · rw [List.forall_mem_cons] at hd
      exact .bind (ih.expr _ hd.1) fun e he => .bind (ih.exprs _ hd.2) fun es hes => .pure ⟨he, hes⟩
  defn args ha := by
    rw [toDefinition]
    refine .bind H.need fun first hf => ?_
    have hfirst := head ha 0 hf
    split
    · exact .bind H.need fun b hb => .bind (ih.expr b (head ha 1 hb)) fun e he => .pure he
    · have hp := H.pair hfirst
      exact .bind (H.identOf _ hp.2.1) fun name _ => .bind (H.toFormals _ hp.2.2) fun formals _ =>
        .bind (ih.body _ [] [] (drop ha 1) trivial trivial) fun p hp' => .pure ⟨H.loc hp.2.1, hp'⟩
    · exact .fail (H.err (H.loc hfirst))
    · exact .fail (H.err (H.loc hfirst))
  lam args ha := by
    rw [toLambda]
    exact .bind H.need fun f hf => .bind (H.toFormals f (head ha 0 hf)) fun formals _ =>
      .bind (.inChild (fun _ h => h.push) (fun _ h => h.pop) (ih.body _ [] [] (drop ha 1) trivial trivial)) fun p hp => .pure hp
  body ds defs exprs hd hdefs hexprs := by
    cases ds <;> rw [toBody]
    · split
      · exact .fail (H.failS)
      · rename_i hne
        refine .pure ⟨?_, ?_, ?_⟩
        · rw [Def.madeList_iff] at hdefs ⊢; exact fun x hx => hdefs x (List.mem_reverse.1 hx)
        · rw [Expr.madeList_iff] at hexprs ⊢; exact fun x hx => hexprs x (List.mem_reverse.1 hx)
        · simpa using hne
    · rename_i d ds
      rw [List.forall_mem_cons] at hd
      refine .bind (ih.stmt d hd.1) fun s hs => ?_
      split
      · rename_i df
        split
        · exact ih.body ds _ _ hd.2 ⟨hs, hdefs⟩ hexprs
        · cases df with
          | mk nm e l => exact .fail (H.err hs.1)
      · exact ih.body ds _ _ hd.2 hdefs ⟨hs, hexprs⟩
      · exact .fail (H.err (H.loc hd.1))
  lib args loc ha hl := by
    rw [toLibrary]
    refine .bind H.need fun nd hnd => .bind (H.expectList nd) fun nd' hnd' => ?_
    subst hnd'
    exact .bind (H.toLibName _ (H.parts.elems (head ha 0 hnd))) fun name _ =>
      .bind (ih.decls _ (drop ha 1)) fun decls hdecls => .pure ⟨hl, hdecls⟩
  decls ds hd := by
    cases ds <;> rw [toLibDecls]
    · exact .pure trivial
    · rw [List.forall_mem_cons] at hd
      exact .bind (ih.decl _ hd.1) fun x hx => .bind (ih.decls _ hd.2) fun xs hxs => .pure ⟨hx, hxs⟩
  decl d hd := by
    rw [toLibDecl]
    refine .bind (H.expectList d) fun d' hd' => ?_
    subst hd'
    have he := H.parts.elems hd
    refine .bind H.need fun first hf => ?_
    split
    · exact .bind (.mapM fun x hx => H.toExportSpec x (drop he 1 x hx)) fun specs hs => .pure hs
    · exact .bind (ih.stmts _ (drop he 1)) fun body hb => .pure hb
    · exact .bind (.mapM fun x hx => H.toImportSet n x (drop he 1 x hx)) fun sets hs => .pure hs
  stmts ds hd := by
    cases ds <;> rw [toStatements]
    · exact .pure trivial
    · rw [List.forall_mem_cons] at hd
      exact .bind (ih.stmt _ hd.1) fun x hx => .bind (ih.stmts _ hd.2) fun xs hxs => .pure ⟨hx, hxs⟩

theorem all : ∀ n, XM.MadeAt E R L D n
  | 0 => H.all_zero
  | n + 1 => H.all_succ (all n)

end XM.Hered

end Xform

end Ruschm
