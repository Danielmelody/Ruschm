/-
Erasing locations commutes with the interpreter around the evaluator (imports, libraries,
`eval_ast`): `unlocIHom`, an instance of `Interp.Hom`. The claims read
`EI (run on erased input) = IU g (run)`, with only the error's location erased on the left too: a
library file that does not tokenise reports the lexer's position in that file, in both runs alike.
-/
import RuschmProofs.UnlocXform
import RuschmProofs.LibModelLemmas
namespace Ruschm
open Interp Eval Prim

abbrev bindsU (l : List (String × Value)) : List (String × Value) := l.map (fun p => (p.1, p.2.unloc))

abbrev IRes (α : Type) := Except SErr α × State

def IU {α} (g : α → α) (r : IRes α) : IRes α := (mapE g r.1, r.2.unloc)
def EI {α} (r : IRes α) : IRes α := (eraseErr r.1, r.2)

@[simp] theorem IU_ok {α} (g : α → α) (a : α) (st : State) : IU g (.ok a, st) = (.ok (g a), st.unloc) := rfl
@[simp] theorem IU_error {α} (g : α → α) (e : SErr) (st : State) : IU g ((.error e, st) : IRes α) = (.error e.unloc, st.unloc) := rfl
@[simp] theorem EI_ok {α} (a : α) (st : State) : EI ((.ok a, st) : IRes α) = (.ok a, st) := rfl
@[simp] theorem EI_error {α} (e : SErr) (st : State) : EI ((.error e, st) : IRes α) = (.error e.unloc, st) := rfl

@[simp] theorem State.unloc_store (st : State) : st.unloc.store = st.store.unloc := rfl
@[simp] theorem State.unloc_env (st : State) : st.unloc.env = st.env := rfl
@[simp] theorem State.unloc_syn (st : State) : st.unloc.syn = st.syn := rfl
@[simp] theorem State.unloc_inProgress (st : State) : st.unloc.inProgress = st.inProgress := rfl
@[simp] theorem State.unloc_importEnd (st : State) : st.unloc.importEnd = st.importEnd := rfl
@[simp] theorem State.unloc_files (st : State) : st.unloc.files = st.files := rfl
@[simp] theorem State.unloc_dir (st : State) : st.unloc.dir = st.dir := rfl
@[simp] theorem State.unloc_factories (st : State) :
    st.unloc.factories = st.factories.map (fun p => (p.1, p.2.unloc)) := rfl
@[simp] theorem State.unloc_instances (st : State) :
    st.unloc.instances = st.instances.map (fun p => (p.1, bindsU p.2)) := rfl

theorem libLookup_map {α β} (f : α → β) (l : List (LibName × α)) (k : LibName) :
    libLookup (l.map (fun p => (p.1, f p.2))) k = (libLookup l k).map f :=
  Assoc.lookup_map_of f (fun _ => rfl) (fun _ => rfl) (fun _ _ _ _ => rfl) (fun _ _ _ _ => rfl) k l

theorem libInsert_map {α β} (f : α → β) (l : List (LibName × α)) (k : LibName) (v : α) :
    (libInsert l k v).map (fun p => (p.1, f p.2)) = libInsert (l.map (fun p => (p.1, f p.2))) k (f v) :=
  Assoc.insert_map_of f (fun _ _ => rfl) (fun _ _ => rfl) (fun _ _ _ _ _ => rfl) (fun _ _ _ _ _ => rfl) k v l

theorem evalExprOrDef_unloc (fuel : Nat) (st : State) (s : Statement) (ρ : Nat) :
    evalExprOrDef fuel st.unloc s.unloc ρ = IU (Option.map Value.unloc) (evalExprOrDef fuel st s ρ) := by
  cases s with
  | expr e =>
    simp only [Statement.unloc, evalExprOrDef, State.unloc_store, evalExpr_unloc]
    rcases evalExpr fuel st.store ρ e with ⟨_ | v, σ⟩ <;> rfl
  | definition d =>
    obtain ⟨name, e, l⟩ := d
    simp only [Statement.unloc, Def.unloc, evalExprOrDef, State.unloc_store, evalExpr_unloc]
    rcases evalExpr fuel st.store ρ e with ⟨_ | v, σ⟩
    · rfl
    · simp only [Res.unloc_ok, IU_ok, Option.map_none]
      simp [State.unloc]
  | syntaxDef name rules l =>
    simp only [Statement.unloc, evalExprOrDef, State.unloc_store, IU_ok, Option.map_none]
    simp [State.unloc]
  | importDecl _ _ | libraryDef _ _ _ => rfl

theorem EI_cases {α} {g : α → α} {x' x : IRes α} (hx : EI x' = IU g x) :
    (∃ e e' st, x = (.error e, st) ∧ x' = (.error e', st.unloc) ∧ e'.unloc = e.unloc) ∨
    (∃ a st, x = (.ok a, st) ∧ x' = (.ok (g a), st.unloc)) := by
  obtain ⟨r, st⟩ := x
  obtain ⟨r', st'⟩ := x'
  obtain ⟨h1, rfl⟩ := Prod.mk.inj hx
  rcases mapE_id_cases (x' := r') (by cases r' <;> exact h1) with ⟨e, e', rfl, rfl, he⟩ | ⟨a, rfl, rfl⟩
  · exact .inl ⟨e, e', st, rfl, rfl, he⟩
  · exact .inr ⟨a, st, rfl, rfl⟩

theorem EI_of_eq {α} {g : α → α} {x' x : IRes α} (h : x' = IU g x) : EI x' = IU g x := by
  rw [h]
  obtain ⟨r, st⟩ := x
  cases r <;> rfl

theorem toStatement_stripped_unloc {n : Nat} {d : Datum} {env env' : Xform.SynEnv} {stmt : Statement}
    (h : Xform.toStatement n d.strip env = (.ok stmt, env')) : stmt.unloc = stmt := by
  have h2 := toStatement_strip n d.strip env
  rw [Datum.strip_strip, h] at h2
  simp only [mapE_ok, Prod.mk.injEq, Except.ok.injEq] at h2
  exact h2.1.symm

/-- its declarations come out of `toStatement` on a stripped datum -/
theorem factoryOfText_unloc {name : LibName} {t : String} {f : Factory}
    (h : factoryOfText name t = .ok f) : f.unloc = f := by
  obtain ⟨decls, rfl, s, env, d, s', loc, env', -, -, hx⟩ := factoryOfText_ok h
  have := toStatement_stripped_unloc hx
  simp only [Statement.unloc, Statement.libraryDef.injEq] at this
  simp [Factory.unloc, this.2.1]

structure IUnlocAt (fuel : Nat) : Prop where
  importSet : ∀ st s, EI (evalImportSet fuel (State.unloc st) (ImportSet.unloc s)) = IU bindsU (evalImportSet fuel st s)
  getLibrary : ∀ st name loc, EI (getLibrary fuel (State.unloc st) name none) = IU bindsU (getLibrary fuel st name loc)
  import_ : ∀ st sets ρ, EI (evalImport fuel (State.unloc st) (sets.map ImportSet.unloc) ρ) = IU id (evalImport fuel st sets ρ)
  importSets : ∀ st sets acc, EI (evalImportSets fuel (State.unloc st) (sets.map ImportSet.unloc) (bindsU acc)) =
    IU bindsU (evalImportSets fuel st sets acc)
  libraryDef : ∀ st decls, EI (evalLibraryDef fuel (State.unloc st) (LibDecl.unlocList decls)) =
    IU bindsU (evalLibraryDef fuel st decls)
  libDecls : ∀ st ρ decls acc, EI (evalLibDecls fuel (State.unloc st) ρ (LibDecl.unlocList decls) (acc.map ExportSpec.unloc)) =
    IU (List.map ExportSpec.unloc) (evalLibDecls fuel st ρ decls acc)
  statements : ∀ st ρ ss, EI (evalStatements fuel (State.unloc st) ρ (Statement.unlocList ss)) =
    IU id (evalStatements fuel st ρ ss)

theorem i_findFactory (st : State) (name : LibName) (loc : Loc) :
    EI (findFactory st.unloc name none) = IU Factory.unloc (findFactory st name loc) := by
  unfold findFactory
  simp only [State.unloc_factories, libLookup_map, State.unloc_files, State.unloc_dir]
  cases libLookup st.factories name with
  | some f => rfl
  | none =>
    simp only [Option.map_none]
    cases st.files.lookup (fileKey st.dir (libPath name)) with
    | none => rfl
    | some fe =>
      cases fe with
      | unreadable => rfl
      | text t =>
        simp only
        cases hf : factoryOfText name t with
        | error e => rfl
        | ok f =>
          have hu := factoryOfText_unloc hf
          simp only [EI_ok, IU_ok, hu]
          congr 1
          simp only [State.unloc, libInsert_map, hu]

theorem sim_iff_EI {α} {g : α → α} {x' x : IRes α} :
    HSim State.unloc (fun e' e => e'.unloc = e.unloc) g x' x ↔ EI x' = IU g x := by
  constructor
  · rintro (⟨e', e, st, rfl, rfl, he⟩ | ⟨a, st, rfl, rfl⟩)
    · simp [EI, IU, he]
    · rfl
  · intro h
    rcases EI_cases h with ⟨e, e', st, rfl, rfl, he⟩ | ⟨a, st, rfl, rfl⟩
    · exact .err he
    · exact .ok

def unlocIHom : Interp.Hom where
  st := State.unloc
  store := Store.unloc
  value := Value.unloc
  loc := fun _ => none
  stmt := Statement.unloc
  decl := LibDecl.unloc
  iset := ImportSet.unloc
  xspec := ExportSpec.unloc
  fac := Factory.unloc
  E := fun e' e => e'.unloc = e.unloc
  I := fun _ => True
  E_none _ := rfl
  E_loc _ _ := rfl
  iset_direct _ _ := rfl
  iset_wrap := ImportOp.unloc_wrap
  decl_eq d := by cases d <;> simp [LibDecl.unloc, Statement.unlocList_eq_map]
  xspec_eq x := by cases x <;> rfl
  fac_eq f := by cases f <;> simp [Factory.unloc, LibDecl.unlocList_eq_map, mapBinds]
  inProgress _ := rfl
  setInProgress _ _ := rfl
  instances s name := libLookup_map _ _ _
  cache s name defs := by simp only [State.unloc, libInsert_map, mapBinds]
  store_eq _ := rfl
  setStore _ _ := rfl
  keep _ _ _ := trivial
  find s name l _ := sim_iff_EI.2 (i_findFactory s name l)
  exprOrDef n s x ρ _ := sim_iff_EI.2 (EI_of_eq (evalExprOrDef_unloc n s x ρ))
  define σ ρ k v := (Store.unloc_define σ ρ k v).symm
  newFrame σ := Store.unloc_newFrame σ none
  lookup := Store.unloc_lookup
  derivedEq σ := derivedEq_unloc σ

theorem iUnlocAt (fuel : Nat) : IUnlocAt fuel :=
  have h {α} (st : State) (c : Call α) := sim_iff_EI.1 (unlocIHom.run fuel st c trivial)
  { importSet := fun st s => h st (.importSet s)
    getLibrary := fun st name loc => h st (.getLibrary name loc)
    import_ := fun st sets ρ => h st (.import_ sets ρ)
    importSets := fun st sets acc => h st (.importSets sets acc)
    libraryDef := fun st decls => LibDecl.unlocList_eq_map decls ▸ h st (.libraryDef decls)
    libDecls := fun st ρ decls acc => LibDecl.unlocList_eq_map decls ▸ h st (.libDecls ρ decls acc)
    statements := fun st ρ ss => Statement.unlocList_eq_map ss ▸ h st (.statements ρ ss) }

theorem evalAst_unloc (fuel : Nat) (st : State) (s : Statement) :
    EI (evalAst fuel st.unloc s.unloc) = IU (Option.map Value.unloc) (evalAst fuel st s) := by
  have inner : EI (ProgramText.astInner fuel st.unloc s.unloc) =
      IU (Option.map Value.unloc) (ProgramText.astInner fuel st s) := by
    unfold ProgramText.astInner
    simp only [State.unloc_importEnd, State.unloc_env]
    by_cases hi : st.importEnd = true
    · simp only [hi, Bool.not_true, Bool.false_eq_true, if_false]
      exact EI_of_eq (evalExprOrDef_unloc fuel st s st.env)
    · simp only [hi, Bool.not_false, if_true]
      cases s with
      | importDecl sets l =>
        rcases EI_cases ((iUnlocAt fuel).import_ st sets st.env) with ⟨e1, e1', st1, h1, h2, h3⟩ | ⟨a, st1, h1, h2⟩
        · simp only [Statement.unloc, h1, h2]; simp [EI, IU, h3]
        · simp only [Statement.unloc, h1, h2]; rfl
      | libraryDef nm decls l => rfl
      | _ => exact EI_of_eq (evalExprOrDef_unloc fuel { st with importEnd := true } _ st.env)
  rw [ProgramText.evalAst_eq, ProgramText.evalAst_eq]
  rcases EI_cases inner with ⟨⟨k, lk⟩, ⟨k', lk'⟩, st1, h1, h2, h3⟩ | ⟨a, st1, h1, h2⟩
  · cases h3; rw [h1, h2]; rfl
  · rw [h1, h2]; rfl

end Ruschm
