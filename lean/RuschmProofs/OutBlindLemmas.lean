/-
`Store.out` is pushed onto by `display` and `newline` and read by nothing in the evaluator and the
interpreter. Stated as an equation to rewrite with: with a text `o` BELOW everything in the buffer
(`addOut`; the buffer is most recent first) every function returns the same outcome and the same
store with `o` still below. For the evaluator this is an instance of `EvalHom.eval`, for the
interpreter of `Interp.comm_run`. From the equation follows the relation `SameButOut` between the
run from `σ` and the run from `σ` with ANY other buffer (`sameButOut_of_addOut`).
-/
import RuschmProofs.LibLemmas
import RuschmProofs.EvalHom
import RuschmProofs.InterpTop

namespace Ruschm
open Interp Eval Prim

/-! ## vocabulary -/

/-- `o` goes BELOW everything in the buffer: `out` is most recent first -/
def Store.addOut (σ : Store) (o : List String) : Store := { σ with out := σ.out ++ o }

def Store.withOut (σ : Store) (o : List String) : Store := { σ with out := o }

def AO {ε α : Type} (o : List String) (r : Except ε α × Store) : Except ε α × Store := (r.1, r.2.addOut o)

/-- `Session.pushOut o st` of `SessionLemmas`, by `rfl` -/
def Interp.State.addOut (st : State) (o : List String) : State := { st with store := st.store.addOut o }
/-- `Session.setOut o st` of `SessionLemmas`, by `rfl` -/
def Interp.State.withOut (st : State) (o : List String) : State := { st with store := st.store.withOut o }

/-- `mapSt (·.addOut o)` of `InterpInduction` -/
def IAO {ε α : Type} (o : List String) (r : Except ε α × State) : Except ε α × State := (r.1, r.2.addOut o)

/-- `r` comes from a run that started with the buffer `o`, `r'` from one that started with `o'`: the same
outcome, the same store but for `out`, and ONE list `pushed`, what the run wrote, on top of both buffers -/
def SameButOut {ε α : Type} (o o' : List String) (r r' : Except ε α × Store) : Prop :=
  ∃ pushed : List String, r'.1 = r.1 ∧ r.2.out = pushed ++ o ∧ r'.2 = r.2.withOut (pushed ++ o')

def SameButOutS {ε α : Type} (o o' : List String) (r r' : Except ε α × State) : Prop :=
  ∃ pushed : List String, r'.1 = r.1 ∧ r.2.store.out = pushed ++ o ∧ r'.2 = r.2.withOut (pushed ++ o')

@[simp] theorem AO_ok {ε α : Type} (o : List String) (a : α) (σ : Store) :
    AO o ((.ok a, σ) : Except ε α × Store) = (.ok a, σ.addOut o) := rfl
@[simp] theorem AO_error {ε α : Type} (o : List String) (e : ε) (σ : Store) :
    AO o ((.error e, σ) : Except ε α × Store) = (.error e, σ.addOut o) := rfl
@[simp] theorem IAO_ok {ε α : Type} (o : List String) (a : α) (st : State) :
    IAO o ((.ok a, st) : Except ε α × State) = (.ok a, st.addOut o) := rfl
@[simp] theorem IAO_error {ε α : Type} (o : List String) (e : ε) (st : State) :
    IAO o ((.error e, st) : Except ε α × State) = (.error e, st.addOut o) := rfl

@[simp] theorem Store.addOut_frames (σ : Store) (o : List String) : (σ.addOut o).frames = σ.frames := rfl
@[simp] theorem Store.addOut_vecs (σ : Store) (o : List String) : (σ.addOut o).vecs = σ.vecs := rfl
@[simp] theorem Store.addOut_out (σ : Store) (o : List String) : (σ.addOut o).out = σ.out ++ o := rfl
@[simp] theorem Store.addOut_ticks (σ : Store) (o : List String) : (σ.addOut o).ticks = σ.ticks := rfl
@[simp] theorem Store.addOut_depth (σ : Store) (o : List String) : (σ.addOut o).depth = σ.depth := rfl
@[simp] theorem Store.addOut_maxDepth (σ : Store) (o : List String) : (σ.addOut o).maxDepth = σ.maxDepth := rfl

theorem Store.addOut_nil (σ : Store) : σ.addOut [] = σ := by
  cases σ
  simp [Store.addOut]

theorem Store.withOut_nil_addOut (σ : Store) (o : List String) : (σ.withOut []).addOut o = σ.withOut o := rfl

theorem Store.withOut_out (σ : Store) : σ.withOut σ.out = σ := rfl

@[simp] theorem Interp.State.addOut_store (st : State) (o : List String) : (st.addOut o).store = st.store.addOut o := rfl
@[simp] theorem Interp.State.addOut_env (st : State) (o : List String) : (st.addOut o).env = st.env := rfl
@[simp] theorem Interp.State.addOut_syn (st : State) (o : List String) : (st.addOut o).syn = st.syn := rfl
@[simp] theorem Interp.State.addOut_factories (st : State) (o : List String) : (st.addOut o).factories = st.factories := rfl
@[simp] theorem Interp.State.addOut_instances (st : State) (o : List String) : (st.addOut o).instances = st.instances := rfl
@[simp] theorem Interp.State.addOut_inProgress (st : State) (o : List String) : (st.addOut o).inProgress = st.inProgress := rfl
@[simp] theorem Interp.State.addOut_importEnd (st : State) (o : List String) : (st.addOut o).importEnd = st.importEnd := rfl
@[simp] theorem Interp.State.addOut_files (st : State) (o : List String) : (st.addOut o).files = st.files := rfl
@[simp] theorem Interp.State.addOut_dir (st : State) (o : List String) : (st.addOut o).dir = st.dir := rfl

theorem Interp.State.withOut_nil_addOut (st : State) (o : List String) : (st.withOut []).addOut o = st.withOut o := rfl
theorem Interp.State.withOut_out (st : State) : st.withOut st.store.out = st := rfl

/-! ## from the equation to the relation -/

/-- Both stores are the store with the EMPTY buffer and a text put below, `σ.out` resp. `o'`; by `h` both
runs are the run from the empty buffer with that text below what it wrote: `pushed`. -/
theorem sameButOut_of_addOut {ε α : Type} (f : Store → Except ε α × Store)
    (h : ∀ σ o, f (σ.addOut o) = AO o (f σ)) (σ : Store) (o' : List String) :
    SameButOut σ.out o' (f σ) (f (σ.withOut o')) := by
  have e : ∀ o, f (σ.withOut o) = AO o (f (σ.withOut [])) := fun o => by rw [← Store.withOut_nil_addOut σ o, h]
  have e0 := e σ.out
  rw [Store.withOut_out] at e0
  rw [e0, e o']
  exact ⟨(f (σ.withOut [])).2.out, rfl, rfl, rfl⟩

theorem sameButOutS_of_addOut {ε α : Type} (f : State → Except ε α × State)
    (h : ∀ st o, f (st.addOut o) = IAO o (f st)) (st : State) (o' : List String) :
    SameButOutS st.store.out o' (f st) (f (st.withOut o')) := by
  have e : ∀ o, f (st.withOut o) = IAO o (f (st.withOut [])) := fun o => by rw [← State.withOut_nil_addOut st o, h]
  have e0 := e st.store.out
  rw [State.withOut_out] at e0
  rw [e0, e o']
  exact ⟨(f (st.withOut [])).2.store.out, rfl, rfl, rfl⟩

/-! ## the store operations -/

theorem Store.blind_addOut (o : List String) : Store.Blind (·.addOut o) :=
  ⟨fun _ => rfl, fun _ => rfl, fun _ _ => rfl, fun _ _ => rfl, fun _ _ => rfl, fun _ _ => rfl⟩

theorem Store.addOut_lookup (σ : Store) (o : List String) (ρ : Nat) (k : String) :
    (σ.addOut o).lookup ρ k = σ.lookup ρ k := (Store.blind_addOut o).lookup σ ρ k

theorem Store.addOut_define (σ : Store) (o : List String) (ρ : Nat) (k : String) (v : Value) :
    (σ.addOut o).define ρ k v = (σ.define ρ k v).addOut o := (Store.blind_addOut o).define σ ρ k v

theorem Store.addOut_newFrame (σ : Store) (o : List String) (p : Option Nat) :
    (σ.addOut o).newFrame p = ((σ.newFrame p).1, (σ.newFrame p).2.addOut o) := rfl

theorem Store.addOut_allocVec (σ : Store) (o : List String) (m : Bool) (items : List Value) :
    (σ.addOut o).allocVec m items = ((σ.allocVec m items).1, (σ.allocVec m items).2.addOut o) := rfl

theorem addOut_enter (σ : Store) (o : List String) : enter (σ.addOut o) = (enter σ).addOut o := rfl
theorem addOut_leave (σ : Store) (o : List String) : leave (σ.addOut o) = (leave σ).addOut o := rfl

/-! ## functions that read the vectors only -/

@[simp] theorem derivedEq_addOut (σ : Store) (o : List String) (n : Nat) (a b : Value) :
    derivedEq (σ.addOut o) n a b = derivedEq σ n a b :=
  congrFun (congrFun (derivedEq_vecs (σ := σ) (σ' := σ.addOut o) rfl n).1 a) b

/-! ## literals, parameters, native procedures -/

theorem readLiteral_addOut (o : List String) (d : Datum) (σ : Store) :
    readLiteral (σ.addOut o) d = AO o (readLiteral σ d) := (Store.blind_addOut o).readLiteral d σ

theorem readLiterals_addOut (o : List String) : ∀ (ds : List Datum) (σ : Store),
    readLiterals (σ.addOut o) ds = AO o (readLiterals σ ds) := (Store.blind_addOut o).readLiterals

theorem bindFixed_addOut (o : List String) (names : List String) (args : List Value) (σ : Store) (ρ : Nat) :
    bindFixed (σ.addOut o) ρ names args = AO o (bindFixed σ ρ names args) :=
  (Store.blind_addOut o).bindFixed names args σ ρ

theorem applyPure_pushes (σ : Store) :
    applyPure σ .newline [] = (.ok .void, { σ with out := "\n" :: σ.out }) ∧
    ∀ x rest, applyPure σ .display (x :: rest) = (.ok .void, { σ with out := display σ 100000 x :: σ.out }) :=
  ⟨rfl, fun _ _ => rfl⟩

theorem applyPure_addOut (σ : Store) (o : List String) (b : Builtin) (args : List Value) :
    applyPure (σ.addOut o) b args = AO o (applyPure σ b args) := (Store.blind_addOut o).applyPure σ b args

/-! ## the evaluator -/

structure OBAt (fuel : Nat) : Prop where
  expr : ∀ σ o ρ e, evalExpr fuel (Store.addOut σ o) ρ e = AO o (evalExpr fuel σ ρ e)
  args : ∀ σ o ρ es, evalArgs fuel (Store.addOut σ o) ρ es = AO o (evalArgs fuel σ ρ es)
  proc : ∀ σ o p args env, applyProcedure fuel (Store.addOut σ o) p args env = AO o (applyProcedure fuel σ p args env)
  loop : ∀ σ o p args env, applyLoop fuel (Store.addOut σ o) p args env = AO o (applyLoop fuel σ p args env)
  scheme : ∀ σ o lam cenv args, applyScheme fuel (Store.addOut σ o) lam cenv args = AO o (applyScheme fuel σ lam cenv args)
  defs : ∀ σ o ρ ds, evalDefs fuel (Store.addOut σ o) ρ ds = AO o (evalDefs fuel σ ρ ds)
  body : ∀ σ o ρ es, evalBody fuel (Store.addOut σ o) ρ es = AO o (evalBody fuel σ ρ es)
  tail : ∀ σ o ρ e, evalTail fuel (Store.addOut σ o) ρ e = AO o (evalTail fuel σ ρ e)

theorem addOut_res {α : Type} (o : List String) (f : α → α) (hf : ∀ a, f a = a) (r : Res α) :
    Res.hom (·.addOut o) id f r = AO o r := by
  rcases r with ⟨e | a, σ⟩
  · rfl
  · exact congrArg (fun a => (Except.ok a, σ.addOut o)) (hf a)

@[reducible] def addOutHom (o : List String) : EvalHom where
  store := (·.addOut o)
  value := id
  loc := id
  datum := id
  expr := id
  lam := id
  defn := id
  expr_eq := fun e => by cases e <;> simp only [id, List.map_id, Option.map_id_apply]
  lam_eq := fun f ds b => by simp only [id, List.map_id]
  defn_eq := fun _ _ _ => rfl
  loc_none := rfl
  closure := fun _ _ => rfl
  builtin := fun _ => rfl
  void := rfl
  truthy := fun _ => rfl
  procArity := fun _ => rfl
  ofList := fun vs => by rw [List.map_id]; rfl
  evalPrim := fun _ _ _ => rfl
  spreadApply := fun args => by
    rw [List.map_id]
    rcases spreadApply args with _ | ⟨f, as⟩
    · rfl
    · simp only [id, List.map_id]
  lookup := fun σ ρ k => by rw [Option.map_id_apply]; exact Store.addOut_lookup σ o ρ k
  set := fun σ ρ k v => (Store.blind_addOut o).set σ ρ k v
  define := fun σ ρ k v => Store.addOut_define σ o ρ k v
  newFrame := fun _ _ => rfl
  enter := fun _ => rfl
  leave := fun _ => rfl
  readLiteral := fun σ d => by rw [addOut_res o id (fun _ => rfl)]; exact readLiteral_addOut o d σ
  applyPure := fun σ b args => by
    rw [List.map_id, addOut_res o id (fun _ => rfl)]; exact applyPure_addOut σ o b args

theorem addOutHom_tail (o : List String) (t : TailRes) : (addOutHom o).tail t = t := by
  cases t with
  | value v => rfl
  | tailCall f args env => simp only [EvalHom.tail, id, List.map_id]

theorem obAt (fuel : Nat) : OBAt fuel where
  expr σ o ρ e := (((addOutHom o).eval fuel).expr σ ρ e).trans (addOut_res o _ (fun _ => rfl) _)
  args σ o ρ es := by
    simpa only [List.map_id, addOut_res o _ List.map_id] using ((addOutHom o).eval fuel).args σ ρ es
  proc σ o p args env := by
    simpa only [List.map_id, id_eq, addOut_res o id (fun _ => rfl)] using ((addOutHom o).eval fuel).proc σ p args env
  loop σ o p args env := by
    simpa only [List.map_id, id_eq, addOut_res o id (fun _ => rfl)] using ((addOutHom o).eval fuel).loop σ p args env
  scheme σ o lam cenv args := by
    simpa only [List.map_id, id_eq, addOut_res o _ (addOutHom_tail o)] using
      ((addOutHom o).eval fuel).scheme σ lam cenv args
  defs σ o ρ ds := by
    simpa only [List.map_id, id_eq, addOut_res o id (fun _ => rfl)] using ((addOutHom o).eval fuel).defs σ ρ ds
  body σ o ρ es := by
    simpa only [List.map_id, id_eq, addOut_res o _ (addOutHom_tail o)] using ((addOutHom o).eval fuel).body σ ρ es
  tail σ o ρ e := (((addOutHom o).eval fuel).tail σ ρ e).trans (addOut_res o _ (addOutHom_tail o) _)

/-! ## the interpreter around the evaluator -/

structure IOBAt (fuel : Nat) : Prop where
  importSet : ∀ st o s, evalImportSet fuel (State.addOut st o) s = IAO o (evalImportSet fuel st s)
  getLibrary : ∀ st o name loc, getLibrary fuel (State.addOut st o) name loc = IAO o (getLibrary fuel st name loc)
  import_ : ∀ st o sets ρ, evalImport fuel (State.addOut st o) sets ρ = IAO o (evalImport fuel st sets ρ)
  importSets : ∀ st o sets acc, evalImportSets fuel (State.addOut st o) sets acc = IAO o (evalImportSets fuel st sets acc)
  libraryDef : ∀ st o decls, evalLibraryDef fuel (State.addOut st o) decls = IAO o (evalLibraryDef fuel st decls)
  libDecls : ∀ st o ρ decls acc, evalLibDecls fuel (State.addOut st o) ρ decls acc = IAO o (evalLibDecls fuel st ρ decls acc)
  statements : ∀ st o ρ ss, evalStatements fuel (State.addOut st o) ρ ss = IAO o (evalStatements fuel st ρ ss)

theorem unobservedTop_addOut (o : List String) :
    UnobservedTop (State.addOut · o) (Store.addOut · o) (fun _ => True) where
  base := {
    inProgress := fun _ => rfl
    instances := fun _ => rfl
    store := fun _ => rfl
    setInProgress := fun _ _ => rfl
    setInstances := fun _ _ => rfl
    setStore := fun _ _ => rfl
    factories := fun _ => rfl
    setFactories := fun _ _ => rfl
    fileAt := fun _ _ _ => rfl
    expr := fun n σ ρ e => (obAt n).expr σ o ρ e
    define := fun σ ρ k v => Store.addOut_define σ o ρ k v
    newFrame := fun σ => Store.addOut_newFrame σ o none
    lookup := fun σ ρ k => Store.addOut_lookup σ o ρ k
    derivedEq := fun σ n a b => derivedEq_addOut σ o n a b
    keep := fun _ _ _ => trivial }
  importEnd _ := rfl
  env _ := rfl
  syn _ := rfl
  setImportEnd _ _ := rfl
  setSyn _ _ := rfl

theorem iobAt (fuel : Nat) : IOBAt fuel :=
  have c := fun o {α} st (c : Call α) => comm_run (unobservedTop_addOut o).base fuel st c trivial
  ⟨fun st o s => c o st (.importSet s), fun st o name loc => c o st (.getLibrary name loc),
   fun st o sets ρ => c o st (.import_ sets ρ), fun st o sets acc => c o st (.importSets sets acc),
   fun st o decls => c o st (.libraryDef decls), fun st o ρ decls acc => c o st (.libDecls ρ decls acc),
   fun st o ρ ss => c o st (.statements ρ ss)⟩

/-! ## `eval_expression_or_definition`, `eval_ast` and `Interpreter::eval` -/

theorem evalExprOrDef_addOut (fuel : Nat) (st : State) (o : List String) (s : Statement) (ρ : Nat) :
    evalExprOrDef fuel (st.addOut o) s ρ = IAO o (evalExprOrDef fuel st s ρ) :=
  (unobservedTop_addOut o).base.exprOrDef fuel st s ρ

theorem evalAst_addOut (fuel : Nat) (st : State) (o : List String) (s : Statement) :
    evalAst fuel (st.addOut o) s = IAO o (evalAst fuel st s) :=
  evalAst_comm (unobservedTop_addOut o) fuel st s trivial

theorem evalText_addOut (fuel : Nat) (st : State) (o : List String) (text : List Char) :
    evalText fuel (st.addOut o) text = IAO o (evalText fuel st text) :=
  evalText_comm (unobservedTop_addOut o) fuel st text trivial

end Ruschm
