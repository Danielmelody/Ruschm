/-
The bundled derived forms in a syntax environment that has them (`StdEnv`): a use is one expansion step, and the
shape theorems of `C05Shapes` say which (`toStatement_expand`, `XE.expand_inv`).
-/
import RuschmProofs.XformInverse
import RuschmProofs.C05Shapes
import RuschmProofs.GrammarScope

/-! ## uses of derived forms, as the templates build them -/

namespace Ruschm.Macro
open Ruschm.C05

/-- the shape theorems locate what they build at `(rest.withLoc l).loc`; this computes it to `l` (`withLoc_loc`) -/
macro "at_loc " t:term : term =>
  `((by have h' := $t; (try simp only [withLoc_loc] at h'); exact h'))

theorem isPairs_built (loc : Loc) : ∀ nvs : List (Datum × Datum),
    IsPairs (nvs.map fun nv => L loc [nv.1, nv.2]) nvs
  | [] => .nil
  | _ :: nvs => .cons (isList_ofList _ _) (isPairs_built loc nvs)

/-- `let_empty_shape` and `let_shape` in one: the second rule of `let` on no bindings builds what the first does -/
theorem let_any_shape {fuel use bs bds nvs bodies} (hu : IsList use (bs :: bodies)) (hbs : IsList bs bds)
    (hp : IsPairs bds nvs) (hne : bodies ≠ []) (hf : matchFuel use ≤ fuel) :
    expand1 fuel "let" use =
      .ok (L use.loc (L use.loc (S use.loc "lambda" :: L use.loc (nvs.map (·.1)) :: bodies) :: nvs.map (·.2))) := by
  by_cases hnv : nvs = []
  · subst hnv
    cases hp
    exact let_empty_shape hu hbs hne hf
  · exact let_shape hu hbs hp hnv hne hf

end Ruschm.Macro

/-! ## `StdEnv` -/

namespace Ruschm.Xform
open Keep Macro

theorem derived_not_core {kw : String} (h : kw ∈ C05.keywords) : kw ∉ CoreSyntax.keywords := by
  revert kw; decide +kernel

/-- the weakest of the three conditions on a syntax environment: `Desugar.Std` (every name resolves as in the
interpreter's own `[[], Interp.grammarScope]`) gives `Meaning.StdSyn` (`Desugar.Std.stdSyn`), which has this as a field -/
def StdEnv (env : SynEnv) : Prop := ∀ kw ∈ C05.keywords, env.get? kw = Macro.grammarRules kw

theorem StdEnv.child {env : SynEnv} (h : StdEnv env) : StdEnv ([] :: env) := fun kw hkw => by
  rw [← h kw hkw]; rfl

theorem toStatement_expand {kw l₁ rest l d' env} (m : Nat) (hstd : StdEnv env) (hkw : kw ∈ C05.keywords)
    (hb : rest.isListy = true)
    (hxp : ∀ fuel, matchFuel (rest.withLoc l) ≤ fuel → expand1 fuel kw (rest.withLoc l) = .ok d') :
    toStatement (m+1) (.pair (.sym kw l₁) rest l) env = toStatement m d' env :=
  MacroProgram.toStatement_step (MacroProgram.step_bundled (hstd kw hkw) (derived_not_core hkw) hb hxp) m

theorem stdEnv_default : StdEnv [[], Interp.grammarScope] := by
  rw [StdEnv, Macro.grammarScope_eq]
  simp only [C05.keywords, List.forall_mem_cons]
  exact ⟨begin_rules.symm, let_rules.symm, letstar_rules.symm, cond_rules.symm, case_rules.symm, and_rules.symm,
    or_rules.symm, when_rules.symm, unless_rules.symm, nofun⟩

end Ruschm.Xform

namespace Ruschm.Meaning
open Ruschm Ruschm.Xform Ruschm.Xform.Keep Ruschm.Macro

theorem XE.expand_inv {env kw l₁ rest l d' e} (hx : XE env (.pair (.sym kw l₁) rest l) e) (hstd : StdEnv env)
    (hkw : kw ∈ C05.keywords)
    (hxp : ∀ fuel, matchFuel (rest.withLoc l) ≤ fuel → expand1 fuel kw (rest.withLoc l) = .ok d') : XE env d' e := by
  obtain ⟨n, hx⟩ := hx
  obtain ⟨m, rfl⟩ := toStatement_ok_succ hx
  cases hb : rest.isListy with
  | false => rw [toStatement_dotted m hb] at hx; cases hx
  | true => exact ⟨m, toStatement_expand m hstd hkw hb hxp ▸ hx⟩

/-! ## `StdSyn` -/

/-- what the evaluation rules of `C05Meaning` need of the syntax environment: the procedures the templates call are
no macros -/
structure StdSyn (env : SynEnv) : Prop where
  std : StdEnv env
  not_ : env.get? "not" = none
  memv : env.get? "memv" = none
  null : env.get? "null?" = none

theorem StdSyn.child {env : SynEnv} (h : StdSyn env) : StdSyn ([] :: env) :=
  ⟨h.std.child, h.not_, h.memv, h.null⟩

theorem Ordinary.sym {env : SynEnv} {s : String} (loc : Loc) (h₁ : s ∉ coreKeywords) (h₂ : env.get? s = none) :
    Ordinary env (.sym s loc) := by
  intro s' l' e; cases e; exact ⟨h₁, h₂⟩

theorem StdSyn.ordinary_not {env} (h : StdSyn env) (loc : Loc) : Ordinary env (C05.S loc "not") :=
  .sym loc (by decide +kernel) h.not_

theorem StdSyn.ordinary_null {env} (h : StdSyn env) (loc : Loc) : Ordinary env (C05.S loc "null?") :=
  .sym loc (by decide +kernel) h.null

theorem StdSyn.ordinary_memv {env} (h : StdSyn env) (loc : Loc) : Ordinary env (C05.S loc "memv") :=
  .sym loc (by decide +kernel) h.memv

theorem stdSyn_default : StdSyn [[], Interp.grammarScope] :=
  ⟨stdEnv_default, by rw [Macro.grammarScope_eq]; rfl, by rw [Macro.grammarScope_eq]; rfl,
    by rw [Macro.grammarScope_eq]; rfl⟩

end Ruschm.Meaning
