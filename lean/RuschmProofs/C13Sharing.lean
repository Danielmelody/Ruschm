/-
Property C13, what two DIFFERENT libraries — and a library and its importers — do and do not share
in the MODEL (`Interp.evalLibraryDef` / `getLibrary` / `evalImport` / `evalImportSet`; Rust:
`eval_library_definition`, `get_library`, `eval_import` in `src/interpreter/interpreter.rs`).

1. `library_frames_disjoint` (+ `library_frames_disjoint_nested`) — the frames of two instantiated
   libraries are different fresh roots, neither on the other's chain, whatever their import
   declarations are: equal import declarations give SEPARATE copies of the imported bindings;
2. `assignment_to_imported_name_is_local` — a `set!` on a name library L1 imported changes the
   binding in L1's frame only;
3. `imported_binding_is_a_copy` — importing copies the VALUE the export table holds (the value the
   exporting library's frame had when its body FINISHED, not even the value at import time); a later
   `set!` inside the exporting library is not seen through the importer's binding;
   `exported_closure_sees_library_state` — an exported closure still reads and shares the
   library's own frame;
4. `nested_import_single_instance` — a diamond: the library both sides import is instantiated
   once, the second import evaluates nothing, both sides get the same values (closures over the
   same frame).

Helpers: `RuschmProofs/LibLemmas.lean` (`Lib.IsRoot`), `RuschmProofs/LibSharingLemmas.lean` (`Lib.evalImport_ok`, `Lib.importSet_cached`, …),
`RuschmProofs/StoreLemmas.lean` (`Store.set_resolved`, `Store.chain_child`, …).
-/
import RuschmProofs.LibSharingLemmas
import RuschmProofs.C12
import RuschmProofs.C13More
import RuschmProofs.C03
import RuschmProofs.Same

namespace Ruschm.C13Sharing
open Ruschm Ruschm.Interp

/-! ## vocabulary for the examples -/

def int (n : Int) : Expr := .prim (.int n) none
def defn (x : String) (e : Expr) : Statement := .definition (.mk x e none)
/-- `(lambda () x)` -/
def getter (x : String) : Lambda := .mk ⟨[], none⟩ [] [.sym x none]
/-- `(lambda () (set! x v))` -/
def setter (x : String) (v : Int) : Lambda := .mk ⟨[], none⟩ [] [.assign x (int v) none]

/-- a native library `(m)` exporting `a ↦ 1` -/
def libM : LibName := [.ident "m"]
/-- an interpreter with a global frame (frame 0) and the native library `(m)` -/
def stM : State := { store := Store.root, factories := [(libM, .native [("a", .num (.int 1))])] }

/-- `(import (m)) (begin (set! a 5))` -/
def declsL1 : List LibDecl := [.importDecl [.direct libM none], .begin_ [.expr (.assign "a" (int 5) none)]]
/-- `(import (m)) (export a)`: the SAME import declaration as `declsL1` -/
def declsL2 : List LibDecl := [.importDecl [.direct libM none], .export [.direct "a" none]]

/-! ## 1. the frames of two libraries -/

/-- two roots of one store, the first older -/
private theorem disjoint_core {σ : Store} {ρ₁ ρ₂ : Nat} (h₁ : Lib.IsRoot σ ρ₁) (h₂ : Lib.IsRoot σ ρ₂)
    (hlt : ρ₁ < ρ₂) :
    σ.parentOf ρ₁ = none ∧ σ.parentOf ρ₂ = none ∧
    σ.chain ρ₁ = [ρ₁] ∧ σ.chain ρ₂ = [ρ₂] ∧ ρ₁ ∉ σ.chain ρ₂ ∧ ρ₂ ∉ σ.chain ρ₁ ∧
    (∀ ρ', ρ' < ρ₁ → ρ₁ ∉ σ.chain ρ' ∧ ρ₂ ∉ σ.chain ρ') ∧
    (∀ k v x, (σ.define ρ₁ k v).lookup ρ₂ x = σ.lookup ρ₂ x ∧ (σ.set ρ₁ k v).2.lookup ρ₂ x = σ.lookup ρ₂ x ∧
      (σ.define ρ₂ k v).lookup ρ₁ x = σ.lookup ρ₁ x ∧ (σ.set ρ₂ k v).2.lookup ρ₁ x = σ.lookup ρ₁ x) := by
  have c₁ := h₁.chain
  have c₂ := h₂.chain
  have n12 : ρ₁ ∉ σ.chain ρ₂ := fun h => Nat.ne_of_lt hlt (List.mem_singleton.1 (c₂ ▸ h))
  have n21 : ρ₂ ∉ σ.chain ρ₁ := fun h => Nat.ne_of_gt hlt (List.mem_singleton.1 (c₁ ▸ h))
  refine ⟨h₁.2, h₂.2, c₁, c₂, n12, n21,
    fun ρ' h => ⟨Store.not_mem_chain_of_lt h, Store.not_mem_chain_of_lt (Nat.lt_trans h hlt)⟩, fun k v x => ?_⟩
  have a := C13.importer_redefinition_harmless σ ρ₁ ρ₂ k v (c₂ ▸ List.forall_mem_singleton.2 n21) x
  have b := C13.importer_redefinition_harmless σ ρ₂ ρ₁ k v (c₁ ▸ List.forall_mem_singleton.2 n12) x
  exact ⟨a.1, a.2, b.1, b.2⟩

/-- Two libraries instantiated one after the other. Library 1 (declarations `d₁`, ANY) is
instantiated on `st`: its frame is `ρ₁ = st.store.frames.size`. The interpreter goes on — any
evaluation whatever: `st₂` is any state whose store `Grows` from the result — and library 2
(declarations `d₂`, ANY, possibly `d₂ = d₁`, possibly the same import declarations) is
instantiated on `st₂`: its frame is `ρ₂ = st₂.store.frames.size`. Then in every later store `σ`:
both frames were fresh when allocated; they are different (`ρ₁ < ρ₂`); both are roots (no parent:
chain = the frame alone); neither is on the other's chain; neither is on the chain of a frame
older than library 1 (the importing program's frames). Consequently a `define` or `set!` executed
in one library's frame — on ANY name `k`, a name both libraries imported from the same third
library included — leaves EVERY lookup from the other library's frame unchanged: the two libraries
hold separate copies of the bindings they import. -/
theorem library_frames_disjoint (f₁ f₂ : Nat) (st st₂ : State) (d₁ d₂ : List LibDecl) (σ : Store)
    (h12 : Store.Grows (evalLibraryDef (f₁ + 1) st d₁).2.store st₂.store)
    (h2σ : Store.Grows (evalLibraryDef (f₂ + 1) st₂ d₂).2.store σ) :
    let ρ₁ := st.store.frames.size
    let ρ₂ := st₂.store.frames.size
    st.store.frames[ρ₁]? = none ∧ st₂.store.frames[ρ₂]? = none ∧
    ρ₁ < ρ₂ ∧ ρ₂ < σ.frames.size ∧
    σ.parentOf ρ₁ = none ∧ σ.parentOf ρ₂ = none ∧
    σ.chain ρ₁ = [ρ₁] ∧ σ.chain ρ₂ = [ρ₂] ∧ ρ₁ ∉ σ.chain ρ₂ ∧ ρ₂ ∉ σ.chain ρ₁ ∧
    (∀ ρ', ρ' < ρ₁ → ρ₁ ∉ σ.chain ρ' ∧ ρ₂ ∉ σ.chain ρ') ∧
    (∀ k v x, (σ.define ρ₁ k v).lookup ρ₂ x = σ.lookup ρ₂ x ∧ (σ.set ρ₁ k v).2.lookup ρ₂ x = σ.lookup ρ₂ x ∧
      (σ.define ρ₂ k v).lookup ρ₁ x = σ.lookup ρ₁ x ∧ (σ.set ρ₂ k v).2.lookup ρ₁ x = σ.lookup ρ₁ x) := by
  intro ρ₁ ρ₂
  have r₁ : Lib.IsRoot st₂.store ρ₁ := (Lib.libraryDef_root f₁ st d₁).grows h12
  have hlt : ρ₁ < ρ₂ := r₁.1
  have r₁σ : Lib.IsRoot σ ρ₁ := (r₁.grows (Lib.libraryDef_grows (f₂ + 1) st₂ d₂)).grows h2σ
  have r₂σ : Lib.IsRoot σ ρ₂ := (Lib.libraryDef_root f₂ st₂ d₂).grows h2σ
  exact ⟨by simp [ρ₁], by simp [ρ₂], hlt, r₂σ.1, disjoint_core r₁σ r₂σ hlt⟩

/-- The same when library 2 is instantiated WHILE library 1 is being instantiated (library 1, or
something it imports, imports library 2): `st₂` is any state reached after library 1's frame
`ρ₁` was allocated (`Grows` from the store with that fresh frame), `σ` any store after library 2's
instantiation — e.g. the one library 1's instantiation ends in. -/
theorem library_frames_disjoint_nested (f₂ : Nat) (st st₂ : State) (d₂ : List LibDecl) (σ : Store)
    (h12 : Store.Grows (st.store.newFrame none).2 st₂.store)
    (h2σ : Store.Grows (evalLibraryDef (f₂ + 1) st₂ d₂).2.store σ) :
    let ρ₁ := st.store.frames.size
    let ρ₂ := st₂.store.frames.size
    ρ₁ < ρ₂ ∧ ρ₂ < σ.frames.size ∧
    σ.parentOf ρ₁ = none ∧ σ.parentOf ρ₂ = none ∧
    σ.chain ρ₁ = [ρ₁] ∧ σ.chain ρ₂ = [ρ₂] ∧ ρ₁ ∉ σ.chain ρ₂ ∧ ρ₂ ∉ σ.chain ρ₁ ∧
    (∀ ρ', ρ' < ρ₁ → ρ₁ ∉ σ.chain ρ' ∧ ρ₂ ∉ σ.chain ρ') ∧
    (∀ k v x, (σ.define ρ₁ k v).lookup ρ₂ x = σ.lookup ρ₂ x ∧ (σ.set ρ₁ k v).2.lookup ρ₂ x = σ.lookup ρ₂ x ∧
      (σ.define ρ₂ k v).lookup ρ₁ x = σ.lookup ρ₁ x ∧ (σ.set ρ₂ k v).2.lookup ρ₁ x = σ.lookup ρ₁ x) := by
  intro ρ₁ ρ₂
  have r₀ : Lib.IsRoot (st.store.newFrame none).2 ρ₁ :=
    Lib.IsRoot.of_frame (f := { parent := none, defs := [] }) (by simp [ρ₁]) rfl
  have r₁ : Lib.IsRoot st₂.store ρ₁ := r₀.grows h12
  have hlt : ρ₁ < ρ₂ := r₁.1
  have r₁σ : Lib.IsRoot σ ρ₁ := (r₁.grows (Lib.libraryDef_grows (f₂ + 1) st₂ d₂)).grows h2σ
  have r₂σ : Lib.IsRoot σ ρ₂ := (Lib.libraryDef_root f₂ st₂ d₂).grows h2σ
  exact ⟨hlt, r₂σ.1, disjoint_core r₁σ r₂σ hlt⟩

/-- what instantiating `declsL1` on `stM` does: frame 1 binds `a ↦ 5` -/
private theorem run_L1 : (evalLibraryDef 9 stM declsL1).1 = .ok [] ∧
    (evalLibraryDef 9 stM declsL1).2.store.frames.size = 2 ∧
    (evalLibraryDef 9 stM declsL1).2.store.lookup 1 "a" = some (.num (.int 5)) := by
  refine ⟨?_, ?_, ?_⟩ <;> with_unfolding_all rfl

/-- Non-vacuity, with EQUAL import declarations `(import (m))`: library 1 imports `a` and executes
`(set! a 5)`; library 2, instantiated next with the same import declaration, exports `a` — still
`1`: it got its own copy. The frames are 1 and 2, both roots. -/
example : (evalLibraryDef 9 (evalLibraryDef 9 stM declsL1).2 declsL2).1 = .ok [("a", .num (.int 1))] ∧
    (evalLibraryDef 9 (evalLibraryDef 9 stM declsL1).2 declsL2).2.store.chain 1 = [1] ∧
    (evalLibraryDef 9 (evalLibraryDef 9 stM declsL1).2 declsL2).2.store.chain 2 = [2] := by
  have hd := library_frames_disjoint 8 8 stM (evalLibraryDef 9 stM declsL1).2 declsL1 declsL2 _
    (Store.Grows.refl _) (Store.Grows.refl _)
  rw [run_L1.2.1] at hd
  exact ⟨by exact eq_of_same (by decide +kernel), hd.2.2.2.2.2.2.1, hd.2.2.2.2.2.2.2.1⟩

/-- Non-vacuity of the nested form: library 1's frame (1) has just been allocated on `stM` when
library 2 (`declsL2`) is instantiated: its frame is 2, and afterwards 1 and 2 are separate roots. -/
example :
    let st₂ : State := { stM with store := (stM.store.newFrame none).2 }
    (evalLibraryDef 9 st₂ declsL2).2.store.chain 1 = [1] ∧ (evalLibraryDef 9 st₂ declsL2).2.store.chain 2 = [2] ∧
    1 ∉ (evalLibraryDef 9 st₂ declsL2).2.store.chain 2 := by
  intro st₂
  have hd := library_frames_disjoint_nested 8 stM st₂ declsL2 _ (Store.Grows.refl _) (Store.Grows.refl _)
  exact ⟨hd.2.2.2.2.1, hd.2.2.2.2.2.1, hd.2.2.2.2.2.2.1⟩

/-! ## 2. `set!` on an imported name -/

/-- Let an import declaration into frame `ρ₁` (library L1's frame: `evalLibDecls` evaluates
`(import …)` with `evalImport … ρ₁`) succeed. It evaluated the sets to a binding list `defs` and
`define`d those bindings IN FRAME `ρ₁` (`binding ρ₁ x` = the last binding of `x` in `defs`, other
names of `ρ₁` as before): the imported names are bindings OF L1's frame, holding copies of the
values. Hence for every imported name `x`, in every later store `σ`: `x` resolves from `ρ₁` to
`ρ₁` itself; and a `set! x` executed from any frame `ρ` that resolves `x` to `ρ₁` — L1's body
(`ρ = ρ₁`) or the call frame of any of L1's procedures that does not shadow `x`, called later from
anywhere — succeeds, writes to frame `ρ₁` (the store differs exactly in `ρ₁`'s binding of `x`;
the evaluator's `(set! x e)` does precisely this), is seen from `ρ₁` and from every frame sharing
that binding, and leaves EVERY lookup of EVERY name unchanged from every frame `ρ'` whose chain
does not contain `ρ₁`: every frame older than `ρ₁` (the importing program's frames), every other
parentless frame (the frame of any other library L2, of the exporting library itself — see
`library_frames_disjoint`), and every frame whose chain ends in another frame than the root `ρ₁`
(call frames of procedures of other libraries or of the program). -/
theorem assignment_to_imported_name_is_local {fuel : Nat} {st st' : State} {sets : List ImportSet} {ρ₁ : Nat}
    (himp : evalImport fuel st sets ρ₁ = (.ok (), st')) (hρ₁ : ρ₁ < st.store.frames.size) :
    ∃ defs st₀,
      (∃ k, fuel = k + 1 ∧ evalImportSets k st sets [] = (.ok defs, st₀)) ∧
      st' = { st₀ with store := defs.foldl (fun σ p => σ.define ρ₁ p.1 p.2) st₀.store } ∧
      (∀ x, st'.store.binding ρ₁ x = S.override (S.asMap defs) (st₀.store.binding ρ₁) x) ∧
      ∀ x ∈ defs.map Prod.fst, ∀ σ, Store.Grows st'.store σ →
        σ.resolve ρ₁ x = some ρ₁ ∧
        ∀ ρ v, σ.resolve ρ x = some ρ₁ →
          σ.set ρ x v = (true, σ.define ρ₁ x v) ∧
          Store.SameExceptBinding σ (σ.define ρ₁ x v) ρ₁ x ∧
          (σ.set ρ x v).2.lookup ρ₁ x = some v ∧
          (∀ ρc, σ.resolve ρc x = some ρ₁ → (σ.set ρ x v).2.lookup ρc x = some v) ∧
          (∀ ρ', ρ₁ ∉ σ.chain ρ' → ∀ y, (σ.set ρ x v).2.lookup ρ' y = σ.lookup ρ' y) ∧
          (∀ ρ', (ρ' < ρ₁ ∨ (ρ' ≠ ρ₁ ∧ σ.parentOf ρ' = none)) →
            ∀ y, (σ.set ρ x v).2.lookup ρ' y = σ.lookup ρ' y) ∧
          (∀ ρ' q, σ.parentOf ρ₁ = none → (σ.chain ρ').getLast? = some q → q ≠ ρ₁ →
            ∀ y, (σ.set ρ x v).2.lookup ρ' y = σ.lookup ρ' y) ∧
          (∀ (n : Nat) (ve : Expr) (loc : Loc) (σ₀ : Store), Eval.evalExpr n σ₀ ρ ve = (.ok v, σ) →
            Eval.evalExpr (n + 1) σ₀ ρ (.assign x ve loc) = (.ok .void, σ.define ρ₁ x v)) := by
  obtain ⟨k, defs, st₀, rfl, he, rfl, hdef⟩ := Lib.evalImport_ok himp
  have g0 : Store.Grows st.store st₀.store := ((invAt storeRel_grows k).importSets he).store
  have hρ0 : ρ₁ < st₀.store.frames.size := Nat.lt_of_lt_of_le hρ₁ g0.frames_size
  refine ⟨defs, st₀, ⟨k, rfl, he⟩, rfl, fun x => hdef.bindings hρ0 x, ?_⟩
  intro x hx σ g
  have hb := hdef.definesAt hρ0 (x := x)
    (Option.isSome_iff_ne_none.2 fun hm => (Lib.asMap_eq_none_iff defs x).1 hm hx)
  have hself := Store.resolve_self (Store.definesAt_grows g hb)
  refine ⟨hself, fun ρ v hr => ?_⟩
  obtain ⟨h1, h2, h3, h4, h5⟩ := Store.set_resolved hr v
  exact ⟨h1, h2, h3, h4, h5, fun ρ' hρ' => h5 ρ' (Lib.not_mem_chain_of_older_or_root hρ'),
    fun ρ' q hroot hq hne => h5 ρ' (Lib.not_mem_chain_of_getLast_ne hroot hq hne),
    fun n ve loc σ₀ he => Lib.evalExpr_assign_ok loc he hr⟩

/-- Non-vacuity: the importer (frame 0) imports `(m)`, then a library frame (frame 1) imports `(m)`
too; `(set! a 5)` from frame 1 is seen in frame 1 only — frame 0 still reads `1`. -/
example :
    let st₁ := (evalImport 5 stM [.direct libM none] 0).2
    let st₂ : State := { st₁ with store := (st₁.store.newFrame none).2 }
    let st₃ := (evalImport 5 st₂ [.direct libM none] 1).2
    (evalImport 5 st₂ [.direct libM none] 1).1 = .ok () ∧
    (st₃.store.set 1 "a" (.num (.int 5))).2.lookup 1 "a" = some (.num (.int 5)) ∧
    (st₃.store.set 1 "a" (.num (.int 5))).2.lookup 0 "a" = some (.num (.int 1)) := by
  intro st₁ st₂ st₃
  have h1 : (evalImport 5 st₂ [.direct libM none] 1).1 = .ok () := by exact eq_of_same (by decide +kernel)
  have h0 : st₃.store.lookup 0 "a" = some (.num (.int 1)) := by exact eq_of_same (by decide +kernel)
  obtain ⟨defs, st₀, ⟨k, hk, hsets⟩, -, -, hloc⟩ := assignment_to_imported_name_is_local
    (st := st₂) (st' := st₃) (sets := [.direct libM none]) (ρ₁ := 1) (fuel := 5) (Prod.ext h1 rfl)
    (by with_unfolding_all decide)
  have hdefs : defs = [("a", .num (.int 1))] := by
    have : k = 4 := by omega
    subst this
    have h4 : (evalImportSets 4 st₂ [.direct libM none] []).1 = .ok [("a", .num (.int 1))] := by
      exact eq_of_same (by decide +kernel)
    rw [hsets] at h4
    exact Except.ok.inj h4
  subst hdefs
  obtain ⟨hself, hset⟩ := hloc "a" (by simp) st₃.store (Store.Grows.refl _)
  obtain ⟨-, -, hsee, -, -, holder, -⟩ := hset 1 (.num (.int 5)) hself
  exact ⟨h1, hsee, by rw [holder 0 (.inl (by decide)) "a", h0]⟩

/-! ## 3. importing copies values; exported closures share the library's frame -/

/-- Let library `E` have been instantiated by `evalLibraryDef … stE declsE` with export table
`defs` (its frame is `ρE = stE.store.frames.size`; `st₀` is the state in which its body FINISHED),
and let `st` be ANY later state of the interpreter whose instance cache still maps `E` to `defs`
(it always does: `C13.instances_only_grow`) — whatever happened to `E`'s variables in between.
Then `(import E)` into an allocated frame `ρI` succeeds and `define`s in `ρI`, for every exported
name `y`, the VALUE the table holds for `y` — which is the value `E`'s frame bound to the internal
name of `y`'s export spec in `st₀`, i.e. when `E`'s body finished: not a reference to `E`'s
binding, and not even `E`'s value at import time (`st.store` does not occur in it). Other names of
`ρI` and all other frames (`E`'s frame in particular) are untouched by the import.
Afterwards, in any store `σ`, a `set! x` that resolves to a frame `r` which is not on `ρI`'s chain
— `r = ρE` whenever the importer's frame is older than `E`'s frame or is itself a parentless frame
other than `ρE` (a library frame) — succeeds, is seen from `r` (`E`'s own frame and procedures read
the new value) and leaves EVERY lookup from the importer's frame `ρI` unchanged: the importer keeps
the value it copied. This is the interpreter's behaviour (`definitions.insert(to, value.clone())`
in `eval_library_definition`, `value.clone()` again in `eval_import_set`), not R7RS's. -/
theorem imported_binding_is_a_copy {fuelE : Nat} {stE st₀ : State} {declsE : List LibDecl} {defs : S.Bindings}
    (hE : evalLibraryDef fuelE stE declsE = (.ok defs, st₀))
    {st : State} {E : LibName} (hc : libLookup st.instances E = some defs) (hip : E ∉ st.inProgress)
    {ρI : Nat} (hρI : ρI < st.store.frames.size) (k : Nat) (loc : Loc) :
    let ρE := stE.store.frames.size
    ∃ st', evalImport (k + 4) st [.direct E loc] ρI = (.ok (), st') ∧
      (∀ y, st'.store.binding ρI y =
        match defs.lookup y with
        | some v => some v
        | none => st.store.binding ρI y) ∧
      (∀ y, defs.lookup y =
        (S.exportFor (S.exportSpecs declsE) y).bind (fun sp => st₀.store.lookup ρE sp.internal)) ∧
      (∀ i, i ≠ ρI → st'.store.frames[i]? = st.store.frames[i]?) ∧
      (∀ (σ : Store) (ρ r : Nat) (x : String) (v : Value), σ.resolve ρ x = some r → r ∉ σ.chain ρI →
        (σ.set ρ x v).1 = true ∧ (σ.set ρ x v).2.lookup r x = some v ∧
        ∀ y, (σ.set ρ x v).2.lookup ρI y = σ.lookup ρI y) ∧
      (∀ (σ : Store) (ρ : Nat) (x : String) (v : Value), σ.resolve ρ x = some ρE →
        (ρI < ρE ∨ (ρI ≠ ρE ∧ σ.parentOf ρI = none)) →
        (σ.set ρ x v).2.lookup ρE x = some v ∧ ∀ y, (σ.set ρ x v).2.lookup ρI y = σ.lookup ρI y) := by
  intro ρE
  obtain ⟨-, hnd, h3, -⟩ := C13.exports_exact hE
  have hd : S.denoteAll [.direct E loc] (exportsOf st) = some defs := by
    simp [S.denoteAll, S.denote, exportsOf, hc]
  obtain ⟨st', himp, hb, hother, -⟩ := C12.import_union [.direct E loc] (k + 4) st ρI defs
    (Nat.le_add_left ..) (by simpa [S.leaf] using hip) hd (Lib.not_clash_of_admissible hnd) hρI
  have hlater : ∀ (σ : Store) (ρ r : Nat) (x : String) (v : Value), σ.resolve ρ x = some r → r ∉ σ.chain ρI →
      (σ.set ρ x v).1 = true ∧ (σ.set ρ x v).2.lookup r x = some v ∧
      ∀ y, (σ.set ρ x v).2.lookup ρI y = σ.lookup ρI y := by
    intro σ ρ r x v hr hnot
    obtain ⟨h1, -, h3', -, h5⟩ := Store.set_resolved hr v
    exact ⟨by rw [h1], h3', h5 ρI hnot⟩
  refine ⟨st', himp, fun y => ?_, h3, hother, hlater, fun σ ρ x v hr hwho => ?_⟩
  · rw [hb y, S.override, Lib.asMap_eq_lookup hnd]
    cases List.lookup y defs <;> rfl
  · exact (hlater σ ρ ρE x v hr (Lib.not_mem_chain_of_older_or_root hwho)).2

/-- `(define-library (e) (export n get bump!) (begin (define n 0) (define get (lambda () n))
(define bump! (lambda () (set! n 7)))))` -/
def libE : LibName := [.ident "e"]
def declsE : List LibDecl :=
  [.export [.direct "n" none, .direct "get" none, .direct "bump!" none],
   .begin_ [defn "n" (int 0), defn "get" (.lambda (getter "n") none), defn "bump!" (.lambda (setter "n" 7) none)]]
/-- the export table of `(e)` instantiated on a store with one frame: closures over frame 1 -/
def tableE : S.Bindings :=
  [("n", .num (.int 0)), ("get", .closure (getter "n") 1), ("bump!", .closure (setter "n" 7) 1)]

private theorem run_E : evalLibraryDef 9 { store := Store.root } declsE =
    (.ok tableE, { store := ⟨#[⟨none, []⟩, ⟨none, tableE⟩], #[], [], [], 0, 0⟩ }) := by
  with_unfolding_all rfl

/-- Non-vacuity: `(e)` is instantiated (frame 1), the program (frame 0) imports it; then
`(set! n 7)` from `(e)`'s frame: frame 1 reads 7, the importer's `n` is still 0. -/
example :
    let stI : State := { store := ⟨#[⟨none, []⟩, ⟨none, tableE⟩], #[], [], [], 0, 0⟩, instances := [(libE, tableE)] }
    ∃ st', evalImport 4 stI [.direct libE none] 0 = (.ok (), st') ∧
      st'.store.binding 0 "n" = some (.num (.int 0)) ∧
      (st'.store.set 1 "n" (.num (.int 7))).2.lookup 1 "n" = some (.num (.int 7)) ∧
      (st'.store.set 1 "n" (.num (.int 7))).2.lookup 0 "n" = st'.store.lookup 0 "n" := by
  intro stI
  obtain ⟨st', himp, hb, -, hother, -, hE⟩ := imported_binding_is_a_copy run_E (st := stI) (E := libE)
    (by rfl) List.not_mem_nil (ρI := 0) (by decide) 0 none
  have hr : st'.store.resolve 1 "n" = some 1 := by
    apply Store.resolve_self
    simp only [Store.definesAt, Store.binding, hother 1 (by decide)]
    rfl
  have h := hE st'.store 1 "n" (.num (.int 7)) hr (.inl (by decide))
  exact ⟨st', himp, (hb "n").trans rfl, h.1, h.2 "n"⟩

/-- Non-vacuity of "not even the value at import time": `(e)`'s frame already holds `n ↦ 7` (its
`bump!` was called after instantiation) when a SECOND importer (frame 0 here) imports `(e)`: it is
given the table's `n ↦ 0`. -/
example :
    let stI : State := { store := ⟨#[⟨none, []⟩, ⟨none, [("n", .num (.int 7))]⟩], #[], [], [], 0, 0⟩,
                         instances := [(libE, tableE)] }
    ∃ st', evalImport 4 stI [.direct libE none] 0 = (.ok (), st') ∧
      st'.store.binding 0 "n" = some (.num (.int 0)) ∧ st'.store.binding 1 "n" = some (.num (.int 7)) := by
  intro stI
  obtain ⟨st', himp, hb, -, hother, -⟩ := imported_binding_is_a_copy run_E (st := stI) (E := libE)
    (by rfl) List.not_mem_nil (ρI := 0) (by decide) 0 none
  refine ⟨st', himp, (hb "n").trans rfl, ?_⟩
  simp only [Store.binding, hother 1 (by decide)]
  rfl

/-- A procedure a library exports is a closure over the LIBRARY's frame: a `lambda` evaluated in
frame `ρE` yields `.closure lam ρE`; and a call of such a closure (`applyScheme`, from anywhere —
the importer's code included) runs in a fresh frame `ρc = σ.frames.size` whose parent is `ρE`.
In every store `σ₂` during or after the call: the call frame's chain is `ρc` followed by the
library frame's chain; a name `x` the call frame does not bind itself (neither a parameter nor an
internal definition) resolves exactly as from the library's frame and reads the library's CURRENT
binding; and after a `set! x` through ANY frame that designates that same binding (the library's
body, another exported procedure's call frame) both the call frame and the library frame read the
new value: state kept in the library is shared by its procedures, while the importers' copies of
the exported VARIABLES are not (`imported_binding_is_a_copy`). -/
theorem exported_closure_sees_library_state {fuel : Nat} {σ σ₁ σ₂ : Store} {lam : Lambda} {ρE : Nat}
    {args : List Value} {r : Except SErr Eval.TailRes}
    (hcall : Eval.applyScheme (fuel + 1) σ lam ρE args = (r, σ₁)) (hρE : ρE < σ.frames.size)
    (hg : Store.Grows σ₁ σ₂) :
    let ρc := σ.frames.size
    (∀ (n : Nat) (loc : Loc) (σ' : Store),
      Eval.evalExpr (n + 1) σ' ρE (.lambda lam loc) = (.ok (.closure lam ρE), σ')) ∧
    σ.frames[ρc]? = none ∧ σ₂.parentOf ρc = some ρE ∧
    σ₂.chain ρc = ρc :: σ₂.chain ρE ∧
    ∀ x, σ₂.definesAt ρc x = false →
      σ₂.resolve ρc x = σ₂.resolve ρE x ∧ σ₂.lookup ρc x = σ₂.lookup ρE x ∧
      ∀ rr, σ₂.resolve ρE x = some rr → ∀ ρ v, σ₂.resolve ρ x = some rr →
        (σ₂.set ρ x v).2.lookup ρc x = some v ∧ (σ₂.set ρ x v).2.lookup ρE x = some v := by
  intro ρc
  obtain ⟨hfresh, -, -, -, -, hpar, hlt, -⟩ := C03.fresh_frame_per_call hcall hg
  rcases hf : σ₂.frames[σ.frames.size]? with _ | f
  · exact absurd hpar (by rw [Store.parentOf, hf]; nofun)
  have hp := (Store.parentOf_of_frame hf).symm.trans hpar
  refine ⟨fun n loc σ' => by rw [Eval.evalExpr], hfresh, hpar, Store.chain_child hf hp hρE, fun x hx => ?_⟩
  have hres := Store.resolve_child hf hp hρE hx
  refine ⟨hres, by rw [Store.lookup_eq_bind, Store.lookup_eq_bind, hres], fun rr hrr ρ v hr => ?_⟩
  obtain ⟨-, -, -, hvis, -⟩ := Store.set_resolved hr v
  exact ⟨hvis ρc (by rw [hres, hrr]), hvis ρE hrr⟩

/-- Non-vacuity: in the store `(e)`'s instantiation leaves, a call of the exported `get` (closure
over frame 1) runs in frame 2 under frame 1; after `(set! n 7)` from frame 1 — what `bump!` does —
frame 2 reads 7. -/
example :
    let σ : Store := ⟨#[⟨none, []⟩, ⟨none, tableE⟩], #[], [], [], 0, 0⟩
    let σ₁ := (Eval.applyScheme 4 σ (getter "n") 1 []).2
    σ₁.chain 2 = [2, 1] ∧ (σ₁.set 1 "n" (.num (.int 7))).2.lookup 2 "n" = some (.num (.int 7)) := by
  intro σ σ₁
  obtain ⟨-, -, -, hchain, hx⟩ := exported_closure_sees_library_state (σ := σ) (σ₁ := σ₁) (σ₂ := σ₁)
    (fuel := 3) (lam := getter "n") (ρE := 1) (args := []) (r := _) rfl (by decide) (Store.Grows.refl _)
  have hsz : σ.frames.size = 2 := rfl
  rw [hsz] at hchain hx
  have hroot : Lib.IsRoot σ₁ 1 :=
    (Lib.IsRoot.of_frame (σ := σ) (f := ⟨none, tableE⟩) rfl rfl).grows (Eval.applyScheme_grows 4 σ (getter "n") 1 [])
  have h1 : σ₁.definesAt 1 "n" = true :=
    Store.definesAt_grows (Eval.applyScheme_grows 4 σ (getter "n") 1 []) (by rfl)
  have h2 : σ₁.definesAt 2 "n" = false := by decide +kernel
  refine ⟨by rw [hchain, hroot.chain], ?_⟩
  exact ((hx "n" h2).2.2 1 (Store.resolve_self h1) 1 (.num (.int 7)) (Store.resolve_self h1)).1

/-! ## 4. a diamond: one instance of the library both sides import -/

/-- The diamond "A imports C, B imports C, the program imports A and B".
Let library `A` (not yet instantiated) have a definition that begins with an import declaration
whose first set `sA` names `C = S.leaf sA`. Loading `A` evaluates that import first, in the state
`stA` (`A`'s factory registered, `A`'s fresh frame allocated). If it succeeds — `C` is instantiated
on the way (or was already), with export list `d` — then `A` got `S.transform sA d`, and `C ↦ d`
is in the instance cache after `getLibrary … A`, whatever the rest of `A` does. From then on, for
EVERY state `st₂` whose cache has `C ↦ d`:
(a) every further step of the interpreter (imports, statements, top-level forms) keeps `C ↦ d`;
(b) an import set `sB` of ANY shape over `C` yields `S.transform sB d` and returns the state
UNCHANGED — no frame is allocated, nothing is written, no output: `C`'s body is not evaluated again;
(c) in particular when a second library `B` (not yet instantiated, its definition beginning with
`(import sB …)` over `C`) is loaded: `getLibrary` evaluates `B`'s definition on `stG` (= `st₂` with
`B`'s factory registered), and the first import of that definition, evaluated in `B`'s fresh
frame, yields `S.transform sB d` and evaluates nothing;
(d) every value in what `A` and `B` got is a value of the ONE list `d` — the operators only select
and rename — so a procedure of `C` reaches `A` and `B` as the same `.closure lam ρ`: the same code
over the SAME frame `ρ` (`C`'s frame or a frame under it), whose state they therefore share
(`exported_closure_sees_library_state`). -/
theorem nested_import_single_instance (k : Nat) (st : State) (A : LibName) (locA : Loc)
    (sA : ImportSet) (moreA : List ImportSet) (restA : List LibDecl)
    (hiA : libLookup st.instances A = none)
    (hfA : factoryFor st A = some (.ast (.importDecl (sA :: moreA) :: restA))) (hne : S.leaf sA ≠ A) :
    let C := S.leaf sA
    let stF := (findFactory st A locA).2
    let stA : State := { stF with store := (stF.store.newFrame none).2 }
    ∀ defsA st1, evalImportSet k stA sA = (.ok defsA, st1) →
      ∃ d, defsA = S.transform sA d ∧
        libLookup (getLibrary (k + 5) st A locA).2.instances C = some d ∧
        ∀ st₂ : State, libLookup st₂.instances C = some d →
          (∀ fuel, (∀ sets ρ, libLookup (evalImport fuel st₂ sets ρ).2.instances C = some d) ∧
            (∀ ρ ss, libLookup (evalStatements fuel st₂ ρ ss).2.instances C = some d) ∧
            (∀ s, libLookup (evalAst fuel st₂ s).2.instances C = some d)) ∧
          (∀ (sB : ImportSet) (n : Nat), S.leaf sB = C → C ∉ st₂.inProgress →
            evalImportSet (n + 2 + S.depth sB) st₂ sB = (.ok (S.transform sB d), st₂)) ∧
          (∀ (B : LibName) (locB : Loc) (sB : ImportSet) (moreB : List ImportSet) (restB : List LibDecl) (n : Nat),
            S.leaf sB = C → C ∉ st₂.inProgress → libLookup st₂.instances B = none →
            factoryFor st₂ B = some (.ast (.importDecl (sB :: moreB) :: restB)) →
            let stG := (findFactory st₂ B locB).2
            let stB : State := { stG with store := (stG.store.newFrame none).2 }
            getLibrary (n + 1) st₂ B locB =
              cacheInstance B (evalLibraryDef n stG (.importDecl (sB :: moreB) :: restB)) ∧
            evalImportSet (n + 2 + S.depth sB) stB sB = (.ok (S.transform sB d), stB)) ∧
          (∀ sB, ∀ p ∈ S.transform sB d, ∃ q ∈ d, q.2 = p.2) := by
  intro C stF stA defsA st1 h1
  obtain ⟨d, -, hdefs, hfinal, -⟩ :=
    C13More.instance_cache_only_grows_across_nested_loads k st A locA sA moreA restA hiA hfA hne defsA st1 h1
  refine ⟨d, hdefs, hfinal, fun st₂ hc => ⟨fun fuel => ?_, ?_, ?_, fun sB => Lib.transform_values sB d⟩⟩
  · have h := C13.instances_only_grow fuel st₂ C d hc
    exact ⟨h.2.2.1, h.2.2.2.2.1, h.2.2.2.2.2.1⟩
  · intro sB n hl hip
    exact Lib.importSet_cached sB n (st := st₂) (d := d) (by rw [hl]; exact hc) (by rw [hl]; exact hip)
  · intro B locB sB moreB restB n hl hip hiB hfB stG stB
    have hfr := findFactory_frame st₂ B locB
    have hi : (findFactory st₂ B locB).2.instances = st₂.instances := by rw [hfr]
    have hp : (findFactory st₂ B locB).2.inProgress = st₂.inProgress := by rw [hfr]
    refine ⟨(getLibrary_of_factoryFor hiB hfB).2.2.2, ?_⟩
    exact Lib.importSet_cached sB n (st := stB) (d := d)
      (by show libLookup stG.instances (S.leaf sB) = some d; rw [hi, hl]; exact hc)
      (by show S.leaf sB ∉ stG.inProgress; rw [hp, hl]; exact hip)

/-- the diamond: `(c)` keeps a variable `n` and exports the getter; `(a)` and `(b)` both
`(import (c))` and re-export the getter as `a-get` / `b-get` -/
def libA : LibName := [.ident "a"]
def libB : LibName := [.ident "b"]
def libC : LibName := [.ident "c"]
def declsC : List LibDecl :=
  [.export [.direct "get" none], .begin_ [defn "n" (int 0), defn "get" (.lambda (getter "n") none)]]
def declsA : List LibDecl := [.importDecl [.direct libC none], .export [.rename "get" "a-get" none]]
def declsB : List LibDecl := [.importDecl [.direct libC none], .export [.rename "get" "b-get" none]]
def stD : State :=
  { store := Store.root, factories := [(libA, .ast declsA), (libB, .ast declsB), (libC, .ast declsC)] }

/-- the one closure `(c)` exports: the getter over `(c)`'s frame 2 -/
def cloC : Value := .closure (getter "n") 2
/-- the state after the program imported `(a)`: frames 1 (`(a)`) and 2 (`(c)`), both instances cached -/
def stAfterA : State :=
  { stD with
    store := ⟨#[⟨none, []⟩, ⟨none, [("get", cloC)]⟩, ⟨none, [("n", .num (.int 0)), ("get", cloC)]⟩], #[], [], [], 0, 0⟩
    instances := [(libC, [("get", cloC)]), (libA, [("a-get", cloC)])] }
/-- … and after it imported `(b)`: one more frame, 3 (`(b)`); NO second frame for `(c)` -/
def stAfterB : State :=
  { stD with
    store := ⟨#[⟨none, []⟩, ⟨none, [("get", cloC)]⟩, ⟨none, [("n", .num (.int 0)), ("get", cloC)]⟩,
                ⟨none, [("get", cloC)]⟩], #[], [], [], 0, 0⟩
    instances := [(libC, [("get", cloC)]), (libA, [("a-get", cloC)]), (libB, [("b-get", cloC)])] }

private theorem run_A : evalImportSet 18 stD (.direct libA none) = (.ok [("a-get", cloC)], stAfterA) := by
  with_unfolding_all rfl

private theorem run_B : evalImportSet 17 stAfterA (.direct libB none) = (.ok [("b-get", cloC)], stAfterB) := by
  with_unfolding_all rfl

/-- Non-vacuity 1 (the whole diamond, computed): the program imports `(a)` and `(b)`. Four frames
exist afterwards — the program's, `(a)`'s (1), `(c)`'s (2), `(b)`'s (3): `(c)` was instantiated
ONCE — and `a-get` and `b-get` are the same closure over `(c)`'s frame 2. -/
example :
    (evalImport 20 stD [.direct libA none, .direct libB none] 0).1 = .ok () ∧
    (evalImport 20 stD [.direct libA none, .direct libB none] 0).2.store.frames.size = 4 ∧
    (evalImport 20 stD [.direct libA none, .direct libB none] 0).2.store.lookup 0 "a-get" = some cloC ∧
    (evalImport 20 stD [.direct libA none, .direct libB none] 0).2.store.lookup 0 "b-get" = some cloC := by
  have h : evalImportSets 19 stD [.direct libA none, .direct libB none] [] =
      (.ok [("a-get", cloC), ("b-get", cloC)], stAfterB) := by
    rw [evalImportSets_cons_eq, run_A]
    show evalImportSets 18 stAfterA [.direct libB none] [("a-get", cloC)] = _
    rw [evalImportSets_cons_eq, run_B]
    rfl
  rw [evalImport, h]
  exact ⟨rfl, rfl, rfl, rfl⟩

/-- Non-vacuity 2 (the hypotheses of the theorem): loading `(a)` on `stD` — its first import set
`(c)` evaluates to `(c)`'s table — leaves `(c)` cached with that table. -/
example : libLookup (getLibrary 17 stD libA none).2.instances libC =
    some [("get", .closure (getter "n") 2)] := by
  have h1 : (evalImportSet 12 { stD with store := (stD.store.newFrame none).2 } (.direct libC none)).1 =
      .ok [("get", .closure (getter "n") 2)] := by
    with_unfolding_all rfl
  obtain ⟨d, hd, hfinal, -⟩ := nested_import_single_instance 12 stD libA none (.direct libC none) []
    [.export [.rename "get" "a-get" none]] (by rfl) (by rfl) (by decide) _ _ (Prod.ext h1 rfl)
  cases hd
  exact hfinal

end Ruschm.C13Sharing
