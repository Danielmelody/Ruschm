/-
Property C06, the stretch theorem `lex_eq_spec` of DESIGN.md: the model lexer
(`RuschmModel/Lex.lean`: `Lex.all`, one function per Rust scanner, peek / advance discipline)
REFINES the declarative delimiter-splitting tokenizer `RuschmSpec/LexSpec.lean`
(`LexSpec.tokens`: skip the atmosphere, read self-delimiting tokens by their own closing rule, take
every other token as the maximal chunk of non-delimiter characters and classify the chunk with the
pure function `LexSpec.classify`).

The equivalence is FULL: it holds for every text, with the tokens read before a lexical error
included, and it is an equality of functions — so it covers both directions (model ok ⇒ spec ok
with the same tokens, and spec ok ⇒ model ok) as well as agreement on failure.

Only property theorems live here; the helper lemmas are in `RuschmProofs/LexSpecLemmas.lean` and
`RuschmProofs/LexToken.lean`.
-/
import RuschmProofs.TextLemmas

namespace Ruschm.C06More
open Ruschm Ruschm.Lex Ruschm.Text Ruschm.LexSpecLemmas

/-- the result of one step of the model lexer with the cursor positions forgotten -/
abbrev stepOf (r : Except LexErr (Option (Token × List Char × Pos))) : LexSpec.Step := forget r

/-! ## 1. One step -/

/-- ONE STEP. Whatever the text and wherever the cursor: `Lexer::try_next` (skip the atmosphere,
scan one token with the scanner chosen by the first character) and the declarative tokenizer's step
(skip the atmosphere, cut off one self-delimiting token or one maximal chunk, classify it) give the
same outcome — the same error status, the same end-of-input status, or the same token with the
same remaining text. Error branches are not totalised away: where the model reports a syntax
error, so does the specification, and conversely. -/
theorem lex_step_eq_spec (cs : List Char) (p : Pos) :
    stepOf (Lex.next cs p) = LexSpec.next cs :=
  next_spec cs p

/-- the documented quirk: `#t#f` is split after `#t` without a delimiter, by both -/
example : stepOf (Lex.next "#t#f".toList (1, 1)) = .tok (.prim (.bool true)) "#f".toList := by
  rw [lex_step_eq_spec]; decide +kernel

/-- … and `1/2/3` is a lexical error for both (the chunk is no token) -/
example : stepOf (Lex.next " 1/2/3 x".toList (1, 1)) = .error := by
  rw [lex_step_eq_spec]; decide +kernel

/-! ## 2. The whole text -/

/-- LEX_EQ_SPEC (the refinement). For EVERY text `s` the model lexer `Lex.all` and the declarative
tokenizer `LexSpec.tokens` produce the same token sequence (positions ignored) and agree on whether
the text has a lexical error; in the error case the sequences are the tokens read before the
error. -/
theorem lex_eq_spec (s : List Char) :
    (Lex.all s).1.map (·.tok) = (LexSpec.tokens s).1 ∧
      (Lex.all s).2.isSome = (LexSpec.tokens s).2 := by
  rw [LexSpec.tokens, (all_stream s).run _ (Nat.lt_succ_self _)]
  exact ⟨rfl, rfl⟩

example : (Lex.all "(a . \"x)\") '-5 ; end".toList).1.map (·.tok)
    = [.lparen, .ident "a", .period, .prim (.str "x)"), .rparen, .quote, .prim (.int (-5))] := by
  rw [(lex_eq_spec _).1]; decide +kernel

/-- The same as an `iff` on successful runs, in the form of the design document: `Lex.all s`
succeeds with tokens `ts` iff the specification tokenizer does, with the same tokens. Both
directions (soundness: model ok ⇒ spec ok; completeness: spec ok ⇒ model ok) are included, and so
is agreement on failure (`lex_fails_iff_spec`). -/
theorem lex_ok_iff_spec (s : List Char) (ts : List Token) :
    ((Lex.all s).2 = none ∧ (Lex.all s).1.map (·.tok) = ts) ↔ LexSpec.tokenize s = some ts := by
  obtain ⟨h1, h2⟩ := lex_eq_spec s
  unfold LexSpec.tokenize
  rw [← h1, ← h2]
  cases (Lex.all s).2 <;> simp

private theorem tokenize_vec : LexSpec.tokenize "#(1 #\\a) ; c".toList
    = some [.vecIntro, .prim (.int 1), .prim (.chr 'a'), .rparen] := by decide +kernel

example : LexSpec.tokenize "#(1 #\\a) ; c".toList
    = some [.vecIntro, .prim (.int 1), .prim (.chr 'a'), .rparen] := tokenize_vec

example : (Lex.all "#(1 #\\a) ; c".toList).2 = none ∧
    (Lex.all "#(1 #\\a) ; c".toList).1.map (·.tok)
      = [.vecIntro, .prim (.int 1), .prim (.chr 'a'), .rparen] :=
  (lex_ok_iff_spec _ _).mpr tokenize_vec

/-- The model lexer reports a lexical error exactly on the texts the specification rejects. -/
theorem lex_fails_iff_spec (s : List Char) :
    (Lex.all s).2.isSome = true ↔ LexSpec.tokenize s = none := by
  obtain ⟨-, h2⟩ := lex_eq_spec s
  unfold LexSpec.tokenize
  rw [← h2]
  cases (Lex.all s).2 <;> simp

example : (Lex.all "(a 1e)".toList).2.isSome = true := (lex_fails_iff_spec _).mpr (by decide +kernel)

/-- The specification tokenizer does not depend on its fuel either (every token consumes a
character): more fuel than `length + 1` changes nothing. -/
theorem spec_total (s : List Char) (k : Nat) :
    LexSpec.run (s.length + 1 + k) s = LexSpec.run (s.length + 1) s := by
  rw [(all_stream s).run _ (by omega), (all_stream s).run _ (Nat.lt_succ_self _)]

/-! ## 3. Chunks: tokens are never split inside a maximal chunk -/

/-- the characters that start a self-delimiting token or a `#`-token (the list `Text.punct` of the
lemma modules) -/
def punctuation : List Char := ['(', ')', '\'', '`', ',', '"', '|', '#']

/-- CLASSIFY. A maximal chunk `w` — non-empty, free of delimiters, not starting with a punctuation
character or `#` — that is followed by a delimiter or by the end of the text is read by the model
lexer as exactly the token `LexSpec.classify w` (numbers of all three kinds, identifiers
including the peculiar ones, the period), leaving exactly the text after the chunk; and it is a
syntax error exactly when the chunk is no token. All word classes at once. -/
theorem lex_one_chunk (c : Char) (w rest : List Char) (p : Pos)
    (hw : ∀ x ∈ c :: w, isDelimiter x = false) (hc : c ∉ punctuation)
    (hr : startsDelim rest = true) :
    stepOf (Lex.token (c :: w ++ rest) p) = LexSpec.ofClass (LexSpec.classify (c :: w)) rest :=
  (word_spec c w rest p (Chunk.tail hw) hr hc).2 (Chunk.head hw)

example : stepOf (Lex.token "-12.5e3)".toList (1, 1))
    = .tok (.prim (.real "-12.5e3")) [')'] := by
  simp only [String.reduceToList]
  exact (lex_one_chunk '-' ['1', '2', '.', '5', 'e', '3'] [')'] (1, 1) (by decide +kernel) (by decide +kernel)
    (by decide +kernel)).trans (by decide +kernel)

example : stepOf (Lex.token "1+ x".toList (1, 1)) = .error := by
  simp only [String.reduceToList]
  exact (lex_one_chunk '1' ['+'] [' ', 'x'] (1, 1) (by decide +kernel) (by decide +kernel)
    (by decide +kernel)).trans (by decide +kernel)

/-- NO SPLIT INSIDE A CHUNK. Whenever the model lexer reads a token `t` from a text that starts
with a character that is neither atmosphere nor punctuation nor `#`, the characters it consumed are
exactly the MAXIMAL chunk of non-delimiter characters at the head of the text — the token boundary
falls at the first delimiter (or at the end), never inside the chunk — and `t` is the
classification of that chunk. Strengthens `C06.boundaries_at_delimiters` (which only says that a
delimiter follows) for all word classes at once. -/
theorem chunk_not_split {c : Char} {cs : List Char} {p p' : Pos} {t : Token} {rest : List Char}
    (hs : startsTok (c :: cs) = true) (hc : c ∉ punctuation)
    (h : Lex.token (c :: cs) p = .ok (some (t, rest, p'))) :
    rest = (c :: cs).dropWhile LexSpec.nonDelim ∧
      LexSpec.classify ((c :: cs).takeWhile LexSpec.nonDelim) = some t ∧
      c :: cs = (c :: cs).takeWhile LexSpec.nonDelim ++ rest := by
  have he := (token_spec (c :: cs) p).2 hs
  rw [h] at he
  obtain ⟨h1, h2, h3, h4, h5, h6, h7, h8⟩ := not_mem_punct.1 hc
  simp only [forget, LexSpec.token, h1, h2, h3, h4, h5, h6, h7, h8, if_false] at he
  obtain ⟨h1, rfl⟩ := ofClass_tok he
  exact ⟨rfl, h1, (List.takeWhile_append_dropWhile).symm⟩

/-- `ab+c d`: the identifier scanner stops exactly where the maximal chunk `ab+c` ends -/
example : [' ', 'd'] = (['a', 'b', '+', 'c', ' ', 'd']).dropWhile LexSpec.nonDelim ∧
    LexSpec.classify ((['a', 'b', '+', 'c', ' ', 'd']).takeWhile LexSpec.nonDelim)
      = some (.ident (String.ofList ['a', 'b', '+', 'c'])) := by
  have h : Lex.token ('a' :: ['b', '+', 'c', ' ', 'd']) (1, 1)
      = .ok (some (.ident (String.ofList ['a', 'b', '+', 'c']), [' ', 'd'],
          advs ['a', 'b', '+', 'c'] (1, 1))) :=
    token_plainIdent ['a', 'b', '+', 'c'] [' ', 'd'] (1, 1) (by decide +kernel) (by decide +kernel)
  have := chunk_not_split (by decide +kernel) (by decide +kernel) h
  exact ⟨this.1, this.2.1⟩

/-- The same for `#`-tokens other than `#(` and `#u8(`: booleans and characters consume exactly the
`#`-chunk — up to the next delimiter or, the documented quirk, the next `#`; after `#\` one
character is taken whatever it is — and denote its classification. -/
theorem sharp_chunk_not_split {cs : List Char} {p p' : Pos} {t : Token} {rest : List Char}
    (h : Lex.token ('#' :: cs) p = .ok (some (t, rest, p')))
    (hv : t ≠ .vecIntro) (hb : t ≠ .byteVecIntro) :
    rest = (LexSpec.sharpChunk cs).2 ∧ LexSpec.classify (LexSpec.sharpChunk cs).1 = some t := by
  have he := (sharp_spec cs p).2
  rw [h] at he
  simp only [forget, LexSpec.sharpToken] at he
  split at he
  · simp only [LexSpec.Step.tok.injEq] at he; exact absurd he.1 hv
  · split at he
    · simp only [LexSpec.Step.tok.injEq] at he; exact absurd he.1 hb
    · exact (ofClass_tok he).symm

/-- `#\\a#\\b`: the `#`-chunk of the first token is `#\\a` -/
example : ['#', '\\', 'b'] = (LexSpec.sharpChunk ['\\', 'a', '#', '\\', 'b']).2 ∧
    LexSpec.classify (LexSpec.sharpChunk ['\\', 'a', '#', '\\', 'b']).1 = some (.prim (.chr 'a')) := by
  have h := token_char 'a' ['#', '\\', 'b'] (1, 1) (Or.inr (by decide))
  exact sharp_chunk_not_split h (by decide) (by decide)

end Ruschm.C06More
