/-
Properties C01 / C17 / C06, the END-TO-END GLUE: a whole program TEXT is the run of its STATEMENTS.

The stages exist separately:
* C06 `read_render_many`: a text written under any valid layout is read back as the data written;
* C01More `transform_render*` / C12More `importDecl_roundtrip_top`: the transformer turns the printed
  form of a core statement / of an import declaration into that statement, up to locations;
* C17 `evalText_eq_fold`: `Interpreter::eval` is the fold of `eval_ast` over the forms of the text;
* `RuschmProofs/Unloc*.lean`: locations matter for the position an error reports, and for nothing else.

Here they are composed at the level of a whole program.  Vocabulary (`RuschmProofs/ProgramTextLemmas.lean`):
`runStmts fuel st sts last` — the statements evaluated one after another by `eval_ast`, stopping at the
first error; `printStmt` — the printed form of a program statement (a core expression or definition,
`CoreSyntax.renderStmt`; an import declaration, `ImportSyntax.renderImport`); `okStmt` — the side
condition (`CoreSyntax.coreStmt` w.r.t. the macro keywords of the interpreter's syntax environment;
`ImportSyntax.WF` for import sets); `programText sts layout` — the tokens of the printed forms
(`Syn.ofDatum`, `Syn.toksL`) under a layout (`Text.interleave`, `ValidLayout`); `PrintsAs syn ps sts` —
the location-free data `ps` are ANY way of writing `sts` (the transformer turns each into the statement).

WHAT IS EQUAL.  The statements `evalText` evaluates carry the positions of the text; the given `sts`
carry whatever locations they have.  The two runs agree on
* the outcome up to locations (`outcomeUnloc`): the same error KIND, or the same value but for the
  positions recorded inside the code of closures;
* the final interpreter state up to such positions (`State.unloc`: store frames and vectors, library
  instances and factories; the syntax environment, root frame, import flag, files EXACTLY);
* the output written (`Store.out`) EXACTLY.
What may differ is the LOCATION an error reports.  (`program_text_reads_as_its_statements` is the
exact form: `evalText` IS `runStmts` on statements that equal `sts` up to locations.)

FUEL.  `evalText fuel` has three budgets. (a) The reader's loop counter is `number of tokens + 1`,
set by `evalText` itself and never exhausted (C17 `evalText_eq_fold`). (b) The transformer gets
`xformFuel d` for each top-level datum `d`, computed from the size of `d`; C01More `transform_render`
needs `2 * size`, C12More `importDecl_roundtrip` needs the nesting depth of the import sets: both are
below `xformFuel d`, so no hypothesis on it appears. (c) The evaluator gets the caller's `fuel` for
every statement: the theorems hold for EVERY `fuel`, with the SAME `fuel` on both sides (a fuel error
on one side is a fuel error on the other); `program_text_fuel_monotone` adds that an outcome other
than the fuel error is kept with any larger `fuel` (from `EvalFuel`/`LoaderMono` `*_mono`).
-/
import RuschmProofs.ProgramTextLemmas
import RuschmProofs.ProgramSamples


namespace Ruschm.C17More
open Ruschm Ruschm.Interp Ruschm.Front Ruschm.FrontSpec Ruschm.Xform Ruschm.CoreSyntax Ruschm.Text
open Ruschm.ProgramText
open Ruschm.Eval (NotFuel)

/-! ## sample program, used by the `example`s -/

/-- `(import (scheme write))  (define x 1)  (display x)` -/
private def samplePgm : List Statement :=
  [.importDecl [.direct [.ident "scheme", .ident "write"] none] none,
   .definition (.mk "x" (.prim (.int 1) none) none),
   .expr (.call (.sym "display" none) [.sym "x" none] none)]

/-- one form per line -/
private def layoutA : List (List Char) :=
  [[], [], [' '], [], [' '], [], [], ['\n'], [], [' '], [' '], [], ['\n'], [], [' '], [], ['\n']]

/-- indented, with a comment, no final newline -/
private def layoutB : List (List Char) :=
  [";p\n".toList, [], ['\n', ' '], [' '], ['\n'], [' '], [], [' '], [], [' '], [' '], [], [' '], [], ['\t'], [], []]

private theorem sample_textA :
    programText samplePgm layoutA = "(import (scheme write))\n(define x 1)\n(display x)\n".toList :=
  Text.Samples.eq_toList_of_bytes (by decide +kernel)

private theorem sample_ok : ∀ s ∈ samplePgm, okStmt C01More.isStdMacro s :=
  Samples.ok_of_all _ _ (by decide +kernel)

private theorem sample_sup : ∀ s ∈ samplePgm, SupportedD (printStmt s) :=
  Text.Samples.supported_of_all printStmt samplePgm (by decide +kernel)

private theorem sample_layoutA : ValidLayout (programToks samplePgm) layoutA := by decide +kernel
private theorem sample_layoutB : ValidLayout (programToks samplePgm) layoutB := by decide +kernel

private theorem sample_ok_default : ∀ s ∈ samplePgm, okStmt (C01More.macroOf (default_ false).syn) s := by
  rw [default_macros]; exact sample_ok

/-! ## 1. a program text evaluates as its statements -/

/-- PARSING-LEVEL COMPOSITION (exact).  Let `sts` be program statements — core expressions and
definitions satisfying `CoreSyntax.coreStmt` for the macro keywords of the interpreter's syntax
environment `st.syn`, and import declarations of writable import sets — whose literals the lexer can
spell (`SupportedD`).  Under ANY valid layout of the tokens of their printed forms, the reader reads
the text to its end without error, and `Interpreter::eval` on that text IS the evaluation, by `eval_ast`
one after another and stopping at the first error, of a list of statements `sts'` that equals `sts`
up to source locations: `sts'` is the sequence of `toStatement` results along `evalText`'s loop.  The
syntax environment is never changed.  For every evaluation fuel. -/
theorem program_text_reads_as_its_statements (fuel : Nat) (st : State) (sts : List Statement)
    (layout : List (List Char))
    (hok : ∀ s ∈ sts, okStmt (C01More.macroOf st.syn) s) (hsup : ∀ s ∈ sts, SupportedD (printStmt s))
    (hl : ValidLayout (programToks sts) layout) :
    (formsOf (programText sts layout)).2 = none ∧
    ReadsAs st.syn (formsOf (programText sts layout)).1 sts ∧
    ∃ sts', Statement.unlocList sts' = Statement.unlocList sts ∧
      evalText fuel st (programText sts layout) = runStmts fuel st sts' none := by
  obtain ⟨h1, h2⟩ := formsText_readsAs st.syn _ sts layout (printsAs_printStmt st.syn sts hok)
    (List.forall_mem_map.2 hsup) hl
  exact ⟨h1, h2, evalText_readsAs fuel st _ sts h1 h2⟩

example : (∀ s ∈ samplePgm, okStmt (C01More.macroOf (default_ false).syn) s) ∧
    (∀ s ∈ samplePgm, SupportedD (printStmt s)) ∧ ValidLayout (programToks samplePgm) layoutA :=
  ⟨sample_ok_default, sample_sup, sample_layoutA⟩

/-- A PROGRAM TEXT EVALUATES AS ITS STATEMENTS.  Same hypotheses.  `Interpreter::eval` on the text,
from the interpreter state `st`, and the evaluation of the statements `sts` themselves one after
another by `eval_ast` from `st`, stopping at the first error (`runStmts`), with the same fuel, give:
the same outcome up to locations — the value of the last statement (identical but for the positions
inside the code of closures) or the KIND of the first error; the same final interpreter state up to
the positions stored in code; exactly the same output.  Only the location reported with an error can
differ (the text's statements carry the positions of the text). -/
theorem program_text_evaluates_as_its_statements (fuel : Nat) (st : State) (sts : List Statement)
    (layout : List (List Char))
    (hok : ∀ s ∈ sts, okStmt (C01More.macroOf st.syn) s) (hsup : ∀ s ∈ sts, SupportedD (printStmt s))
    (hl : ValidLayout (programToks sts) layout) :
    outcomeUnloc (evalText fuel st (programText sts layout)).1 = outcomeUnloc (runStmts fuel st sts none).1 ∧
    (evalText fuel st (programText sts layout)).2.unloc = (runStmts fuel st sts none).2.unloc ∧
    (evalText fuel st (programText sts layout)).2.store.out = (runStmts fuel st sts none).2.store.out :=
  programText_sameRun fuel rfl sts layout hok hsup hl

example : (∀ s ∈ samplePgm, okStmt (C01More.macroOf (default_ false).syn) s) ∧
    (∀ s ∈ samplePgm, SupportedD (printStmt s)) ∧ ValidLayout (programToks samplePgm) layoutB :=
  ⟨sample_ok_default, sample_sup, sample_layoutB⟩

/-- … in the vocabulary of C01More alone: a list of CORE statements (`coreStmt`), the tokens of their
`renderStmt` forms. -/
theorem core_program_text_evaluates_as_its_statements (fuel : Nat) (st : State) (sts : List Statement)
    (layout : List (List Char))
    (hc : ∀ s ∈ sts, coreStmt (C01More.macroOf st.syn) s = true)
    (hsup : ∀ s ∈ sts, SupportedD (renderStmt s))
    (hl : ValidLayout (Syn.toksL ((sts.map renderStmt).map Syn.ofDatum)) layout) :
    let text := interleave (Syn.toksL ((sts.map renderStmt).map Syn.ofDatum)) layout
    outcomeUnloc (evalText fuel st text).1 = outcomeUnloc (runStmts fuel st sts none).1 ∧
    (evalText fuel st text).2.unloc = (runStmts fuel st sts none).2.unloc ∧
    (evalText fuel st text).2.store.out = (runStmts fuel st sts none).2.store.out := by
  have e : sts.map renderStmt = sts.map printStmt :=
    List.map_congr_left (fun s hs => (printStmt_of_core (hc s hs)).symm)
  intro text
  have := program_text_evaluates_as_its_statements fuel st sts layout
    (fun s hs => okStmt_of_core (hc s hs)) (fun s hs => by rw [printStmt_of_core (hc s hs)]; exact hsup s hs)
    (by unfold programToks formsToks; rw [← e]; exact hl)
  unfold programText formsText formsToks at this
  rw [← e] at this
  exact this

/-- `(define x 1) (f x)` in the syntax environment of a fresh interpreter -/
example : (∀ s ∈ [Statement.definition (.mk "x" (.prim (.int 1) none) none),
        .expr (.call (.sym "f" none) [.sym "x" none] none)],
      coreStmt (C01More.macroOf (default_ false).syn) s = true) := by
  rw [default_macros]; decide +kernel

/-- THE SAME FOR ANY WAY OF WRITING THE STATEMENTS.  Let the location-free data `ps` be a way of
writing `sts` in `st.syn` (`PrintsAs`: the transformer, with the fuel the interpreter uses, turns each
datum into the corresponding statement and leaves the syntax environment alone) — the canonical
printed forms are one (`program_text_evaluates_as_its_statements`), `(define (f . formals) body…)`
for a procedure definition is another (`define_sugar_same_run`).  Then the text of `ps` under any valid
layout evaluates as the statements `sts`: same outcome up to locations, same state up to locations,
same output. -/
theorem written_program_evaluates_as_its_statements (fuel : Nat) (st : State) (ps : List Datum)
    (sts : List Statement) (layout : List (List Char))
    (hp : PrintsAs st.syn ps sts) (hsup : ∀ p ∈ ps, SupportedD p) (hl : ValidLayout (formsToks ps) layout) :
    (∃ sts', Statement.unlocList sts' = Statement.unlocList sts ∧
      evalText fuel st (formsText ps layout) = runStmts fuel st sts' none) ∧
    outcomeUnloc (evalText fuel st (formsText ps layout)).1 = outcomeUnloc (runStmts fuel st sts none).1 ∧
    (evalText fuel st (formsText ps layout)).2.unloc = (runStmts fuel st sts none).2.unloc ∧
    (evalText fuel st (formsText ps layout)).2.store.out = (runStmts fuel st sts none).2.store.out := by
  obtain ⟨h1, h2⟩ := formsText_readsAs st.syn ps sts layout hp hsup hl
  exact ⟨evalText_readsAs fuel st _ sts h1 h2, formsText_sameRun fuel rfl ps sts layout hp hsup hl⟩

example : PrintsAs (default_ false).syn (samplePgm.map printStmt) samplePgm ∧
    (∀ p ∈ samplePgm.map printStmt, SupportedD p) ∧ ValidLayout (formsToks (samplePgm.map printStmt)) layoutA :=
  ⟨printsAs_printStmt _ _ sample_ok_default, List.forall_mem_map.2 sample_sup, sample_layoutA⟩

/-! ## stopping at the first error -/

private theorem sample_fail (st : State) : ∃ loc st₂,
    evalAst 2 st (.expr (.call (.prim (.int 1) none) [] none)) = (.error (.nonProcedure, loc), st₂) :=
  lit_call_fails st

private theorem one_core :
    coreStmt (C01More.macroOf (default_ false).syn) (.expr (.call (.prim (.int 1) none) [] none)) = true := by
  rw [default_macros]; decide

private theorem one_sup : SupportedD (printStmt (.expr (.call (.prim (.int 1) none) [] none))) :=
  ⟨(by decide : fitsI32 1 = true), trivial⟩

/-- NOTHING IS EVALUATED AFTER THE FIRST FAILING STATEMENT: when the statements `pre` succeed, leaving
the state `st₁`, and the next statement `s` fails there, the run of `pre ++ s :: post` is that failure,
in the state `s` left — whatever follows. -/
theorem statements_stop_at_first_error (fuel : Nat) (st st₁ st₂ : State) (pre post : List Statement)
    (s : Statement) (last v : Option Value) (e : SErr)
    (hpre : runStmts fuel st pre last = (.ok v, st₁)) (hfail : evalAst fuel st₁ s = (.error e, st₂)) :
    runStmts fuel st (pre ++ s :: post) last = (.error e, st₂) :=
  runStmts_stops post hpre hfail

example : runStmts 2 (default_ false) [] none = (.ok none, default_ false) ∧
    ∃ loc st₂, evalAst 2 (default_ false) (.expr (.call (.prim (.int 1) none) [] none)) =
      (.error (.nonProcedure, loc), st₂) :=
  ⟨rfl, sample_fail _⟩

example : (∀ s' ∈ [] ++ Statement.expr (.call (.prim (.int 1) none) [] none) :: samplePgm,
      okStmt (C01More.macroOf (default_ false).syn) s') :=
  List.forall_mem_cons.2 ⟨okStmt_of_core one_core, sample_ok_default⟩

/-- … hence for the program TEXT: if the statements `pre` succeed (leaving `st₁`) and the next
statement `s` fails in `st₁` with an error of kind `e` (leaving `st₂`), then `Interpreter::eval` on the
text of `pre ++ s :: post`, under any valid layout, returns an error of that kind, having written what
`pre` and the completed effects of `s` wrote (`part`) and nothing of `post`; the state is `st₂` up to
locations. -/
theorem program_text_stops_at_first_failure (fuel : Nat) (st st₁ st₂ : State) (pre post : List Statement)
    (s : Statement) (v : Option Value) (e : Err) (loc : Loc) (layout : List (List Char))
    (hok : ∀ s' ∈ pre ++ s :: post, okStmt (C01More.macroOf st.syn) s')
    (hsup : ∀ s' ∈ pre ++ s :: post, SupportedD (printStmt s'))
    (hl : ValidLayout (programToks (pre ++ s :: post)) layout)
    (hpre : runStmts fuel st pre none = (.ok v, st₁)) (hfail : evalAst fuel st₁ s = (.error (e, loc), st₂)) :
    (∃ loc', (evalText fuel st (programText (pre ++ s :: post) layout)).1 = .error (e, loc')) ∧
    (evalText fuel st (programText (pre ++ s :: post) layout)).2.unloc = st₂.unloc ∧
    ∃ part : List String, st₂.store.out = part ++ st₁.store.out ∧
      (evalText fuel st (programText (pre ++ s :: post) layout)).2.store.out = part ++ st₁.store.out :=
  stops_of_sameRun (programText_sameRun fuel rfl _ layout hok hsup hl) hpre hfail

/-! ## fuel -/

/-- FUEL.  If the statements, evaluated with fuel `n`, end in an outcome `r` that is not the fuel error
(a value, or a genuine error), then `Interpreter::eval` on their text with ANY fuel `m ≥ n` ends in that
outcome up to locations, in that state up to locations, with that output: more fuel changes nothing.
(The reader's and the transformer's budgets are internal to `evalText` and always sufficient.) -/
theorem program_text_fuel_monotone (n m : Nat) (hnm : n ≤ m) (st st' : State) (sts : List Statement)
    (layout : List (List Char)) (r : Except SErr (Option Value))
    (hok : ∀ s ∈ sts, okStmt (C01More.macroOf st.syn) s) (hsup : ∀ s ∈ sts, SupportedD (printStmt s))
    (hl : ValidLayout (programToks sts) layout)
    (hrun : runStmts n st sts none = (r, st')) (hr : NotFuel r) :
    outcomeUnloc (evalText m st (programText sts layout)).1 = outcomeUnloc r ∧
    (evalText m st (programText sts layout)).2.unloc = st'.unloc ∧
    (evalText m st (programText sts layout)).2.store.out = st'.store.out := by
  have h := program_text_evaluates_as_its_statements m st sts layout hok hsup hl
  rw [runStmts_mono_le hnm sts st none hrun hr] at h
  exact h

example : runStmts 0 (default_ false) [] none = (.ok none, default_ false) ∧ NotFuel (.ok none : Except SErr (Option Value)) :=
  ⟨rfl, rfl⟩

/-! ## 2. the same through `ruschm FILE` -/

/-- `ruschm FILE` ON A PROGRAM TEXT.  For program statements `sts` (side conditions w.r.t. the nine
bundled derived forms, `C01More.isStdMacro`: the syntax environment of `Interpreter::default()`) written
to a file under any valid layout: standard output is exactly what the statements, evaluated one after
another from the fresh interpreter and stopping at the first error, wrote; the exit status is 0 exactly
when EVERY statement succeeded (`AllOk`), and then there is no diagnostic; otherwise it is 255, with ONE
diagnostic whose error kind is the kind of the first failing statement's error. -/
theorem cli_runs_the_statements (fuel : Nat) (sts : List Statement) (layout : List (List Char))
    (hok : ∀ s ∈ sts, okStmt C01More.isStdMacro s) (hsup : ∀ s ∈ sts, SupportedD (printStmt s))
    (hl : ValidLayout (programToks sts) layout) :
    (cli fuel (some (String.ofList (programText sts layout)))).stdout =
      String.join (runStmts fuel (default_ false) sts none).2.store.out.reverse ∧
    ((cli fuel (some (String.ofList (programText sts layout)))).exitCode = 0 ↔
      AllOk fuel (default_ false) sts) ∧
    (∀ v, (runStmts fuel (default_ false) sts none).1 = .ok v →
      (cli fuel (some (String.ofList (programText sts layout)))).exitCode = 0 ∧
      (cli fuel (some (String.ofList (programText sts layout)))).diag = none ∧
      (cli fuel (some (String.ofList (programText sts layout)))).errKind = none) ∧
    (∀ e loc, (runStmts fuel (default_ false) sts none).1 = .error (e, loc) →
      (cli fuel (some (String.ofList (programText sts layout)))).exitCode = 255 ∧
      (cli fuel (some (String.ofList (programText sts layout)))).diag.isSome = true ∧
      (cli fuel (some (String.ofList (programText sts layout)))).errKind = some e) :=
  cli_of_runStmts (programText_sameRun fuel rfl sts layout (default_macros false ▸ hok) hsup hl)

example : (∀ s ∈ samplePgm, okStmt C01More.isStdMacro s) ∧ (∀ s ∈ samplePgm, SupportedD (printStmt s)) ∧
    ValidLayout (programToks samplePgm) layoutA ∧
    String.ofList (programText samplePgm layoutA) = "(import (scheme write))\n(define x 1)\n(display x)\n" :=
  ⟨sample_ok, sample_sup, sample_layoutA, by rw [sample_textA, String.ofList_toList]⟩

/-- STANDARD OUTPUT AT A FAILURE.  When the statements `pre` succeed from the fresh interpreter, leaving
`st₁`, and the next statement `s` fails there (kind `e`), leaving `st₂`: `ruschm FILE` on the text of
`pre ++ s :: post` has written exactly what `pre` wrote, followed by what `s` itself wrote before it
failed (`part`, its completed effects) — nothing of `post`; it exits with 255 and one diagnostic of
kind `e`. -/
theorem cli_stdout_is_output_before_failure (fuel : Nat) (pre post : List Statement) (s : Statement)
    (layout : List (List Char)) (v : Option Value) (st₁ st₂ : State) (e : Err) (loc : Loc)
    (hok : ∀ s' ∈ pre ++ s :: post, okStmt C01More.isStdMacro s')
    (hsup : ∀ s' ∈ pre ++ s :: post, SupportedD (printStmt s'))
    (hl : ValidLayout (programToks (pre ++ s :: post)) layout)
    (hpre : runStmts fuel (default_ false) pre none = (.ok v, st₁))
    (hfail : evalAst fuel st₁ s = (.error (e, loc), st₂)) :
    ∃ part : List String, st₂.store.out = part ++ st₁.store.out ∧
      (cli fuel (some (String.ofList (programText (pre ++ s :: post) layout)))).stdout =
        String.join st₁.store.out.reverse ++ String.join part.reverse ∧
      (cli fuel (some (String.ofList (programText (pre ++ s :: post) layout)))).errKind = some e ∧
      (cli fuel (some (String.ofList (programText (pre ++ s :: post) layout)))).diag.isSome = true ∧
      (cli fuel (some (String.ofList (programText (pre ++ s :: post) layout)))).exitCode = 255 := by
  obtain ⟨c1, _, _, c4⟩ := cli_runs_the_statements fuel _ layout hok hsup hl
  rw [runStmts_stops post hpre hfail] at c1 c4
  obtain ⟨part, hp⟩ := (evalAst_out hfail).1
  obtain ⟨a, b, c⟩ := c4 e loc rfl
  refine ⟨part, hp, ?_, c, b, a⟩
  rw [c1]
  exact outText_ext hp

/-- the program `(1)` followed by the sample program: the hypotheses hold with `pre = []` -/
example : runStmts 2 (default_ false) [] none = (.ok none, default_ false) ∧
    (∃ loc st₂, evalAst 2 (default_ false) (.expr (.call (.prim (.int 1) none) [] none)) =
      (.error (.nonProcedure, loc), st₂)) ∧
    ValidLayout (programToks ([] ++ Statement.expr (.call (.prim (.int 1) none) [] none) :: samplePgm))
      ([] :: [] :: [] :: layoutA) ∧
    SupportedD (printStmt (Statement.expr (.call (.prim (.int 1) none) [] none))) :=
  ⟨rfl, sample_fail _, by decide +kernel, one_sup⟩

/-! ## 3. layout independence; the statements determine the run -/

/-- LAYOUT INDEPENDENCE AS A COROLLARY.  Two valid layouts of the same program statements — different
line breaks, indentation, comments, LF or CRLF, a final newline or none — give the same run through the
library interface: the same outcome up to locations (value, or error kind), the same state up to
locations, the same output.  (C17 `layout_irrelevant` says this for a token sequence; here both runs
are moreover THE run of the statements, `program_text_evaluates_as_its_statements`.) -/
theorem program_layout_independent (fuel : Nat) (st : State) (sts : List Statement) (l₁ l₂ : List (List Char))
    (hok : ∀ s ∈ sts, okStmt (C01More.macroOf st.syn) s) (hsup : ∀ s ∈ sts, SupportedD (printStmt s))
    (h₁ : ValidLayout (programToks sts) l₁) (h₂ : ValidLayout (programToks sts) l₂) :
    outcomeUnloc (evalText fuel st (programText sts l₁)).1 = outcomeUnloc (evalText fuel st (programText sts l₂)).1 ∧
    (evalText fuel st (programText sts l₁)).2.unloc = (evalText fuel st (programText sts l₂)).2.unloc ∧
    (evalText fuel st (programText sts l₁)).2.store.out = (evalText fuel st (programText sts l₂)).2.store.out :=
  (programText_sameRun fuel rfl sts l₁ hok hsup h₁).trans (programText_sameRun fuel rfl sts l₂ hok hsup h₂).symm

example : ValidLayout (programToks samplePgm) layoutA ∧ ValidLayout (programToks samplePgm) layoutB :=
  ⟨sample_layoutA, sample_layoutB⟩

/-- … and through `ruschm FILE`: same standard output, same exit status, same error kind. -/
theorem cli_program_layout_independent (fuel : Nat) (sts : List Statement) (l₁ l₂ : List (List Char))
    (hok : ∀ s ∈ sts, okStmt C01More.isStdMacro s) (hsup : ∀ s ∈ sts, SupportedD (printStmt s))
    (h₁ : ValidLayout (programToks sts) l₁) (h₂ : ValidLayout (programToks sts) l₂) :
    (cli fuel (some (String.ofList (programText sts l₁)))).stdout =
      (cli fuel (some (String.ofList (programText sts l₂)))).stdout ∧
    (cli fuel (some (String.ofList (programText sts l₁)))).exitCode =
      (cli fuel (some (String.ofList (programText sts l₂)))).exitCode ∧
    (cli fuel (some (String.ofList (programText sts l₁)))).errKind =
      (cli fuel (some (String.ofList (programText sts l₂)))).errKind := by
  obtain ⟨a, b, c, _⟩ := cli_congr_of_sameRun_text
    (program_layout_independent fuel _ sts l₁ l₂ (default_macros false ▸ hok) hsup h₁ h₂)
  exact ⟨a, b, c⟩

/-- THE STATEMENTS, NOT THE TOKENS, DETERMINE THE RUN.  This is what is new w.r.t. C17
`layout_irrelevant` / `forms_layout_invariant` (same TOKENS ⇒ same run): two texts with DIFFERENT tokens
run alike as soon as they are two ways of writing the same statements.  Let `ps₁` and `ps₂` be two ways
of writing (`PrintsAs`) statement lists that are equal up to locations; then their texts, each under any
valid layout of its own tokens, give the same outcome up to locations, the same state up to locations
and the same output. -/
theorem same_statements_same_run (fuel : Nat) (st : State) (ps₁ ps₂ : List Datum) (sts₁ sts₂ : List Statement)
    (l₁ l₂ : List (List Char))
    (hp₁ : PrintsAs st.syn ps₁ sts₁) (hp₂ : PrintsAs st.syn ps₂ sts₂)
    (hsame : Statement.unlocList sts₁ = Statement.unlocList sts₂)
    (hs₁ : ∀ p ∈ ps₁, SupportedD p) (hs₂ : ∀ p ∈ ps₂, SupportedD p)
    (h₁ : ValidLayout (formsToks ps₁) l₁) (h₂ : ValidLayout (formsToks ps₂) l₂) :
    outcomeUnloc (evalText fuel st (formsText ps₁ l₁)).1 = outcomeUnloc (evalText fuel st (formsText ps₂ l₂)).1 ∧
    (evalText fuel st (formsText ps₁ l₁)).2.unloc = (evalText fuel st (formsText ps₂ l₂)).2.unloc ∧
    (evalText fuel st (formsText ps₁ l₁)).2.store.out = (evalText fuel st (formsText ps₂ l₂)).2.store.out :=
  ((formsText_sameRun fuel rfl ps₁ sts₁ l₁ hp₁ hs₁ h₁).trans
    (sameRun_of_IU (runStmts_unloc fuel sts₁ sts₂ st st none none hsame rfl rfl))).trans
    (formsText_sameRun fuel rfl ps₂ sts₂ l₂ hp₂ hs₂ h₂).symm

/-- AN INSTANCE WITH DIFFERENT TOKENS: the two spellings of a procedure definition.  For every core
procedure `lam` (any formals, internal definitions, body), the texts `(define (x . formals) def… body…)`
and `(define x (lambda formals def… body…))`, each under any valid layout, followed by the same further
program statements `rest`, give the same run: same outcome up to locations, same state up to
locations, same output. -/
theorem define_sugar_same_run (fuel : Nat) (st : State) (x : String) (lam : Lambda) (rest : List Statement)
    (l₁ l₂ : List (List Char))
    (hc : coreLambda (C01More.macroOf st.syn) lam = true)
    (hok : ∀ s ∈ rest, okStmt (C01More.macroOf st.syn) s)
    (hs₁ : SupportedD (defineSugarD x lam))
    (hs₂ : SupportedD (renderStmt (.definition (.mk x (.lambda lam none) none))))
    (hsr : ∀ s ∈ rest, SupportedD (printStmt s))
    (h₁ : ValidLayout (formsToks (defineSugarD x lam :: rest.map printStmt)) l₁)
    (h₂ : ValidLayout (programToks (.definition (.mk x (.lambda lam none) none) :: rest)) l₂) :
    outcomeUnloc (evalText fuel st (formsText (defineSugarD x lam :: rest.map printStmt) l₁)).1 =
      outcomeUnloc (evalText fuel st (programText (.definition (.mk x (.lambda lam none) none) :: rest) l₂)).1 ∧
    (evalText fuel st (formsText (defineSugarD x lam :: rest.map printStmt) l₁)).2.unloc =
      (evalText fuel st (programText (.definition (.mk x (.lambda lam none) none) :: rest) l₂)).2.unloc ∧
    (evalText fuel st (formsText (defineSugarD x lam :: rest.map printStmt) l₁)).2.store.out =
      (evalText fuel st (programText (.definition (.mk x (.lambda lam none) none) :: rest) l₂)).2.store.out := by
  have hdef : okStmt (C01More.macroOf st.syn) (.definition (.mk x (.lambda lam none) none)) := by
    simpa [okStmt, coreStmt, coreDef, core] using hc
  have hp₁ : PrintsAs st.syn (defineSugarD x lam :: rest.map printStmt)
      (.definition (.mk x (.lambda lam none) none) :: rest) :=
    ⟨⟨strip_defineSugarD x lam, C01More.transform_define_sugar x lam none none st.syn _ hc (by simp only [xformFuel]; omega)⟩,
      printsAs_printStmt st.syn rest hok⟩
  have hp₂ := printsAs_printStmt st.syn (.definition (.mk x (.lambda lam none) none) :: rest)
    (List.forall_mem_cons.2 ⟨hdef, hok⟩)
  exact same_statements_same_run fuel st _ _ _ _ l₁ l₂ hp₁ hp₂ rfl
    (List.forall_mem_cons.2 ⟨hs₁, List.forall_mem_map.2 hsr⟩)
    (List.forall_mem_map.2 (List.forall_mem_cons.2 ⟨hs₂, hsr⟩)) h₁ h₂

/-- `(define (g y) y)` and `(define g (lambda (y) y))`, followed by `(g 1)` -/
private def sampleLam : Lambda := .mk ⟨["y"], none⟩ [] [.sym "y" none]
private def sampleRest : List Statement := [.expr (.call (.sym "g" none) [.prim (.int 1) none] none)]

example : formsText (defineSugarD "g" sampleLam :: sampleRest.map printStmt)
      [[], [], [' '], [], [' '], [], [' '], [], ['\n'], [], [' '], [], []] = "(define (g y) y)\n(g 1)".toList ∧
    programText (.definition (.mk "g" (.lambda sampleLam none) none) :: sampleRest)
      [[], [], [' '], [' '], [], [' '], [], [], [' '], [], [], [' '], [], [' '], [], []]
      = "(define g (lambda (y) y)) (g 1)".toList :=
  ⟨Text.Samples.eq_toList_of_bytes (by decide +kernel), Text.Samples.eq_toList_of_bytes (by decide +kernel)⟩

example : coreLambda (C01More.macroOf (default_ false).syn) sampleLam = true ∧
    (∀ s ∈ sampleRest, okStmt (C01More.macroOf (default_ false).syn) s) ∧
    ValidLayout (formsToks (defineSugarD "g" sampleLam :: sampleRest.map printStmt))
      [[], [], [' '], [], [' '], [], [' '], [], ['\n'], [], [' '], [], []] ∧
    ValidLayout (programToks (.definition (.mk "g" (.lambda sampleLam none) none) :: sampleRest))
      [[], [], [' '], [' '], [], [' '], [], [], [' '], [], [], [' '], [], [' '], [], []] := by
  rw [default_macros]
  exact ⟨by decide +kernel, Samples.ok_of_all _ _ (by decide +kernel), by decide +kernel, by decide +kernel⟩

/-! ## 4. down to the reference semantics (C01) -/

/-- STATEMENTS REFINE THE REFERENCE.  For a program of top-level expressions and definitions, run by the
interpreter (`eval_ast` one after another from the state `st`, first error ends the run): every outcome
other than the fuel error is the outcome the REFERENCE RUN (`RefRuns`: R7RS 5.1 over `Ref.evalTop`, the
evaluation rules written from R7RS) assigns to the program in the root frame — the same value of the
last statement, or the same error kind (`AgreeKind`: up to the order of the operator/operand checks that
R7RS leaves open) — with the same final store (activation counters erased).  Composition of C01
`toplevel_refines_ref` along the program. -/
theorem statements_refine_reference (fuel : Nat) (st st' : State) (sts : List Statement)
    (r : Except SErr (Option Value)) (hs : ∀ s ∈ sts, CoreShape s)
    (hrun : runStmts fuel st sts none = (r, st')) (hr : NotFuel r) :
    ∃ r', RefRuns st.env st.store.erase sts none r' st'.store.erase ∧ AgreeKind r r' :=
  runStmts_refines_ref fuel sts st st' none r hs hrun hr

example : (∀ s ∈ [Statement.expr (.call (.prim (.int 1) none) [] none)], CoreShape s) ∧
    runStmts 0 (default_ false) [] none = (.ok none, default_ false) ∧
    NotFuel (.ok none : Except SErr (Option Value)) :=
  ⟨List.forall_mem_singleton.2 trivial, rfl, rfl⟩

/-- FROM THE TEXT TO THE REFERENCE (C06 ∘ C01More ∘ C17 ∘ C01).  Let `sts` be core statements written as
a text under any valid layout, and let `Interpreter::eval` on that text, from the state `st`, end in an
outcome `r` other than the fuel error, in the state `st'`.  Then there are statements `sts'`, equal to
`sts` up to source locations (the statements with the positions of the text), to which the reference run
assigns — in the interpreter's root frame, from its store — an outcome that agrees with `r` (same value,
same error kind) and the final store of `st'`. -/
theorem core_program_text_refines_reference (fuel : Nat) (st st' : State) (sts : List Statement)
    (layout : List (List Char)) (r : Except SErr (Option Value))
    (hc : ∀ s ∈ sts, coreStmt (C01More.macroOf st.syn) s = true)
    (hsup : ∀ s ∈ sts, SupportedD (printStmt s))
    (hl : ValidLayout (programToks sts) layout)
    (hrun : evalText fuel st (programText sts layout) = (r, st')) (hr : NotFuel r) :
    ∃ sts' r', Statement.unlocList sts' = Statement.unlocList sts ∧
      RefRuns st.env st.store.erase sts' none r' st'.store.erase ∧ AgreeKind r r' := by
  obtain ⟨_, _, sts', h1, h2⟩ := program_text_reads_as_its_statements fuel st sts layout
    (fun s hs => okStmt_of_core (hc s hs)) hsup hl
  rw [h2] at hrun
  have hshape := coreShape_of_unlocList sts' sts h1 (fun s hs => coreShape_of_core (hc s hs))
  obtain ⟨r', h3, h4⟩ := statements_refine_reference fuel st st' sts' r hshape hrun hr
  exact ⟨sts', r', h1, h3, h4⟩

/-- the empty program: the hypotheses hold (and the sample side conditions above for a longer one) -/
example : evalText 0 (default_ false) (programText [] [[]]) = (.ok none, default_ false) ∧
    NotFuel (.ok none : Except SErr (Option Value)) ∧ ValidLayout (programToks []) [[]] := by
  refine ⟨?_, rfl, by decide⟩
  obtain ⟨_, _, sts', h1, h2⟩ := program_text_reads_as_its_statements 0 (default_ false) [] [[]]
    (fun _ h => by simp at h) (fun _ h => by simp at h) (by decide)
  rw [h2]
  cases sts' with
  | nil => rfl
  | cons a as => simp [Statement.unlocList] at h1

/-- the program `(1)`: `Interpreter::eval` on its text ends in an outcome that is not the fuel error
(the non-procedure error of `program_text_stops_at_first_failure`) — the hypotheses are satisfiable by
a run that does something -/
example : ∃ r st', evalText 2 (default_ false)
      (programText [Statement.expr (.call (.prim (.int 1) none) [] none)] [[], [], [], []]) = (r, st') ∧
    NotFuel r ∧
    (∀ s ∈ [Statement.expr (.call (.prim (.int 1) none) [] none)],
      coreStmt (C01More.macroOf (default_ false).syn) s = true) := by
  obtain ⟨loc, st₂, hf⟩ := sample_fail (default_ false)
  obtain ⟨⟨loc', h⟩, _⟩ := program_text_stops_at_first_failure 2 (default_ false) (default_ false) st₂ [] []
    (.expr (.call (.prim (.int 1) none) [] none)) none .nonProcedure loc [[], [], [], []]
    (List.forall_mem_singleton.2 (okStmt_of_core one_core)) (List.forall_mem_singleton.2 one_sup) (by decide) rfl hf
  exact ⟨.error (.nonProcedure, loc'), _, Prod.ext h rfl, rfl, List.forall_mem_singleton.2 one_core⟩

end Ruschm.C17More
