/-
One expansion step of the transformer as a relation, `Step env d d'`, so that what happens to a macro use is stated
without the transformer's fuel: `toStatement (n+1) d env = toStatement n d' env` (`toStatement_step`).
-/
import RuschmProofs.XformEquations
import RuschmSpec.Macro

namespace Ruschm.Meaning

/-- `CoreSyntax.keywords` again (`coreKeywords_eq`, by `rfl`), the name with which `Step` and `Meaning.Ordinary` are
stated; in namespace `Meaning` with its first users -/
def coreKeywords : List String := ["define", "define-library", "lambda", "if", "import", "quote", "set!", "define-syntax"]

theorem coreKeywords_eq : coreKeywords = CoreSyntax.keywords := rfl

end Ruschm.Meaning

namespace Ruschm.MacroProgram
open Ruschm Ruschm.Xform Ruschm.Macro
open Ruschm.Meaning (coreKeywords coreKeywords_eq)

/-- `d` is a use `(kw . rest)` of rules bound in `env`, and the expander turns it into `d'` with the fuel
`toStatement` gives it OR MORE: the transformer passes its remaining fuel on top of `matchFuel d` -/
def Step (env : SynEnv) (d d' : Datum) : Prop :=
  ∃ kw l₁ rest l rules, d = .pair (.sym kw l₁) rest l ∧ kw ∉ coreKeywords ∧ rest.isListy = true ∧
    env.get? kw = some rules ∧
    ∀ fuel, Macro.matchFuel d ≤ fuel → Macro.transform fuel rules (rest.withLoc l) = .ok d'

inductive Steps (env : SynEnv) : Nat → Datum → Datum → Prop
  | refl (d : Datum) : Steps env 0 d d
  | step {k : Nat} {d d' d'' : Datum} : Step env d d' → Steps env k d' d'' → Steps env (k + 1) d d''

theorem toStatement_step {env : SynEnv} {d d' : Datum} (h : Step env d d') (n : Nat) :
    toStatement (n + 1) d env = toStatement n d' env := by
  obtain ⟨kw, l₁, rest, l, rules, rfl, hkw, hrest, henv, ht⟩ := h
  rw [toStatement_macro n hrest hkw henv, ht _ (Nat.le_add_right _ _)]

theorem toStatement_steps {env : SynEnv} {k : Nat} {d d' : Datum} (h : Steps env k d d') (n : Nat) :
    toStatement (n + k) d env = toStatement n d' env := by
  induction h with
  | refl d => rfl
  | step hs _ ih => rw [← Nat.add_assoc, toStatement_step hs, ih]

theorem toStatement_steps_sub {env : SynEnv} {k n : Nat} {d d' : Datum} (h : Steps env k d d') (hk : k ≤ n) :
    toStatement n d env = toStatement (n - k) d' env := by
  rw [← toStatement_steps h, Nat.sub_add_cancel hk]

theorem toStatement_step_self {env : SynEnv} {d d' : Datum} (h : Step env d d') (h' : Step env d' d') (n : Nat) :
    toStatement n d env = (.error (.fuel, none), env) := by
  have self : ∀ n, toStatement n d' env = (.error (.fuel, none), env) := fun n => by
    induction n with
    | zero => rw [toStatement_zero]; rfl
    | succ n ih => rw [toStatement_step h' n, ih]
  cases n with
  | zero => rw [toStatement_zero]; rfl
  | succ n => rw [toStatement_step h n, self n]

theorem Steps.one {env : SynEnv} {d d' : Datum} (h : Step env d d') : Steps env 1 d d' :=
  .step h (.refl _)

theorem Steps.trans {env : SynEnv} {j k : Nat} {a b c : Datum} (h₁ : Steps env j a b)
    (h₂ : Steps env k b c) : Steps env (j + k) a c := by
  induction h₁ with
  | refl d => simpa using h₂
  | step hs _ ih => exact Nat.add_right_comm .. ▸ Steps.step hs (ih h₂)

theorem matchFuel_use_le {kw : String} {l₁ l : Loc} {rest : Datum} :
    Macro.matchFuel (rest.withLoc l) ≤ Macro.matchFuel (.pair (.sym kw l₁) rest l) := by
  simp only [Macro.matchFuel, Datum.size_withLoc, Datum.size]; omega

theorem step_bundled {env : SynEnv} {kw : String} {l₁ l : Loc} {rest d' : Datum}
    (hget : env.get? kw = grammarRules kw) (hcore : kw ∉ coreKeywords) (hrest : rest.isListy = true)
    (hxp : ∀ fuel, Macro.matchFuel (rest.withLoc l) ≤ fuel → expand1 fuel kw (rest.withLoc l) = .ok d') :
    Step env (.pair (.sym kw l₁) rest l) d' := by
  cases hr : grammarRules kw with
  | none =>
    have := hxp _ (Nat.le_refl _)
    simp only [expand1, hr] at this
    cases this
  | some rules =>
    refine ⟨kw, l₁, rest, l, rules, rfl, hcore, hrest, hget.trans hr, fun fuel hf => ?_⟩
    simpa only [expand1, hr] using hxp fuel (Nat.le_trans matchFuel_use_le hf)

end Ruschm.MacroProgram
