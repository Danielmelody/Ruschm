/-
Positions on the text side, below the data: the lexer (token and error positions are cursors inside the
text), the reader (a datum takes its positions from the tokens consumed; where a reader error is located),
and the two together on a whole text.
-/
import RuschmProofs.LocData
import RuschmProofs.ReadSpecLemmas
import RuschmProofs.LexToken

namespace Ruschm

/-! ## the lexer: token and error positions are cursors inside the text -/

namespace LexLoc
open Lex Text

/-- the cursors of a token list: each token's position is reached after a further non-empty chunk
of the text -/
def TokCursors : List Char → Lex.Pos → List LToken → Prop
  | _, _, [] => True
  | cs, p, t :: ts => ∃ pre rest, pre ≠ [] ∧ cs = pre ++ rest ∧ t.loc = some (advs pre p) ∧
      TokCursors rest (advs pre p) ts

theorem stream_cursors {cs : List Char} {p : Lex.Pos} {ts : List LToken} {e : Option LexErr}
    (h : Stream cs p ts e) : TokCursors cs p ts ∧ ∀ pe, e = some pe → Cur cs p pe := by
  induction h with
  | eof => exact ⟨trivial, fun _ h => nomatch h⟩
  | err hn => exact ⟨trivial, fun pe hpe => by cases hpe; exact next_err hn⟩
  | tok hn _ ih =>
    obtain ⟨a, used, rfl, h2, -, hshape⟩ := next_inv hn
    have hp1 := h2.trans (advs_append a used _).symm
    exact ⟨⟨a ++ used, _, fun e => hshape.ne_nil (List.append_eq_nil_iff.mp e).2,
      (List.append_assoc ..).symm, congrArg some hp1, hp1 ▸ ih.1⟩,
      fun pe hpe => Cur.used ⟨(List.append_assoc ..).symm, hp1⟩ (ih.2 pe hpe)⟩

theorem TokCursors.mem {cs p ts} (h : TokCursors cs p ts) : ∀ t ∈ ts,
    ∃ pre, pre ≠ [] ∧ pre <+: cs ∧ t.loc = some (advs pre p) := by
  induction ts generalizing cs p with
  | nil => exact fun _ ht => nomatch ht
  | cons t ts ih =>
    obtain ⟨pre, rest, hne, rfl, hl, hrest⟩ := h
    intro t' ht'
    rcases List.mem_cons.1 ht' with rfl | ht'
    · exact ⟨pre, hne, List.prefix_append _ _, hl⟩
    · obtain ⟨pre', -, hp', hl'⟩ := ih hrest t' ht'
      exact ⟨pre ++ pre', fun e => hne (List.append_eq_nil_iff.mp e).1,
        (List.prefix_append_right_inj pre).2 hp', by rw [hl', advs_append]⟩

end LexLoc

/-! ## the reader: data take their positions from the tokens consumed -/

namespace ReadLoc
open Read

/-- the positions the parser state holds: `Parser.location` and the position of the current token -/
def here (s : PState) : List Pos :=
  s.loc.toList ++ (match s.cur with | some t => t.loc.toList | none => [])

/-- every position an error raised from state `s` may carry -/
def errs (s : PState) : List Pos := here s ++ (tokLocs s.toks ++ s.lexErr.toList)

theorem tokLocs_nil : tokLocs [] = [] := rfl
theorem tokLocs_append (a b : List LToken) : tokLocs (a ++ b) = tokLocs a ++ tokLocs b :=
  List.flatMap_append

theorem tokLocs_subset {ts : List LToken} {T : List Pos} :
    tokLocs ts ⊆ T ↔ ∀ t ∈ ts, t.loc.toList ⊆ T := flatMap_subset

/-- `Held` and `Steps.held` in terms of `here`, with "is one of the positions `T`" for `L` -/
theorem here_subset {s : PState} {T : List Pos} : here s ⊆ T ↔ Held (fun l => l.toList ⊆ T) s := by
  rw [here, List.append_subset, Held, HeldP]
  cases s.cur with
  | none => exact and_congr_right fun _ => ⟨fun _ _ h => (nomatch h), fun _ => List.nil_subset _⟩
  | some t => exact and_congr_right fun _ => ⟨fun h _ e => Option.some.inj e ▸ h, fun h => h t rfl⟩

theorem _root_.Ruschm.Read.Steps.here {s s' : PState} {used : List LToken} (h : Steps s s' used) :
    ReadLoc.here s' ⊆ ReadLoc.here s ++ tokLocs used :=
  here_subset.2 (h.held id (here_subset.1 (List.subset_append_left _ _))
    (tokLocs_subset.1 (List.subset_append_right _ _)))

theorem errs_dropCur (s : PState) : errs { s with cur := none } ⊆ errs s :=
  List.append_subset.2 ⟨(here_subset.2 ((steps_dropCur s).held id (here_subset.1 (List.Subset.refl _))
    fun _ h => nomatch h)).trans (List.subset_append_left _ _), List.subset_append_right _ _⟩

theorem locs_closed (T : List Pos) : Closed (fun t => t.loc.toList ⊆ T) (fun l => l.toList ⊆ T)
    (fun d => d.locs ⊆ T) (fun d => d.locs ⊆ T) where
  loc := id
  prim := fun _ _ hl => hl
  sym := fun hl => hl
  nil := List.nil_subset _
  snoc := fun ha hx => snoc_closed (A := fun d => d.locs ⊆ T) Datum.pair_locs_subset
    ((Datum.pair_locs_subset ..).2 ⟨⟨List.nil_subset _, hx⟩, List.nil_subset _⟩) _ ha
  tail := fun ha hx => setTail_closed (A := fun d => d.locs ⊆ T) Datum.pair_locs_subset hx _ ha
  withLoc := Datum.withLoc_locs_subset
  relabel := Datum.withLoc_locs_subset
  vec := fun h hl => List.append_subset.2 ⟨hl, Datum.locsList_subset.2 h⟩
  quote := fun hd hl => by
    rw [mkQuote, Datum.pair_locs_subset, Datum.pair_locs_subset]
    exact ⟨⟨hl, hl⟩, ⟨List.nil_subset _, hd⟩, List.nil_subset _⟩

theorem currentDatum_ok {fuel : Nat} {s s' : PState} {od : Option Datum}
    (h : currentDatum fuel s = .ok (od, s')) :
    ∃ used, Steps s s' used ∧ ∀ d, od = some d → d.locs ⊆ here s ++ tokLocs used := by
  cases hc : s.cur with
  | none =>
    cases fuel with
    | zero => rw [currentDatum] at h; cases h
    | succ f => rw [cur_none f hc] at h; cases h; exact ⟨[], Steps.refl s, fun _ hd => nomatch hd⟩
  | some t =>
    obtain ⟨d, lpre, rfl, st, hloc, -⟩ := (ReadSpec.snd_all fuel).1 s t od s' hc h
    refine ⟨lpre, st, fun _ hd => ?_⟩
    cases hd
    exact hloc (L := fun l => l.toList ⊆ here s ++ tokLocs lpre) (locs_closed _)
      (here_subset.1 (List.subset_append_left _ _))
      (tokLocs_subset.1 (List.subset_append_right _ _))

theorem nextDatum_read {s s' : PState} {od : Option Datum} (h : nextDatum s = .ok (od, s')) :
    ∃ used, s.toks = used ++ s'.toks ∧ s'.lexErr = s.lexErr ∧
      ∀ d, od = some d → Steps s s' used ∧ d.locs ⊆ tokLocs used := by
  obtain ⟨used, ht, hl, hd⟩ := ReadSpec.nextDatum_sound h
  refine ⟨used, ht, hl, fun d hd' => ?_⟩
  obtain ⟨st, hq, -⟩ := hd d hd'
  exact ⟨st, (hq (L := fun l => l.toList ⊆ tokLocs used) (locs_closed _)
    (tokLocs_subset.1 (List.Subset.refl _))).1⟩

/-- `nextDatum_read` without the steps -/
theorem nextDatum_ok {s s' : PState} {od : Option Datum} (h : nextDatum s = .ok (od, s')) :
    ∃ used, s.toks = used ++ s'.toks ∧ s'.lexErr = s.lexErr ∧ ∀ d, od = some d → d.locs ⊆ tokLocs used := by
  obtain ⟨used, ht, hl, hd⟩ := nextDatum_read h
  exact ⟨used, ht, hl, fun d hd' => (hd d hd').2⟩

theorem nextDatum_err {s : PState} {e : SErr} (h : nextDatum s = .error e) : e.2.toList ⊆ errs s := by
  rcases ReadSpec.nextDatum_errOK h with rfl | ⟨-, he⟩
  · exact List.nil_subset _
  · refine he (L := fun l => l.toList ⊆ errs s) (List.nil_subset _)
      ⟨here_subset.1 (List.subset_append_left _ _), tokLocs_subset.1 ?_, fun p hp => ?_⟩
    · exact (List.subset_append_left _ _).trans (List.subset_append_right _ _)
    · rw [errs, hp]
      exact (List.subset_append_right _ _).trans (List.subset_append_right _ _)

end ReadLoc

/-! ## a whole text -/

namespace ProgLoc
open ReadLoc LexLoc Text

theorem all_cursors (cs : List Char) :
    TokCursors cs (1, 1) (Lex.all cs).1 ∧ ∀ pe, (Lex.all cs).2 = some pe → Cur cs (1, 1) pe :=
  stream_cursors (Text.all_stream cs)

theorem text_positions (cs : List Char) (l : Pos)
    (h : l ∈ tokLocs (Lex.all cs).1 ++ (Lex.all cs).2.toList) : Cur cs (1, 1) l := by
  obtain ⟨hc, he⟩ := all_cursors cs
  rcases List.mem_append.1 h with h | h
  · simp only [tokLocs, List.mem_flatMap] at h
    obtain ⟨t, ht, hl⟩ := h
    obtain ⟨pre, -, hp, hloc⟩ := hc.mem t ht
    rw [hloc] at hl
    simp only [Option.toList_some, List.mem_singleton] at hl
    exact ⟨pre, hp, hl⟩
  · exact he l (by simpa using h)

/-- the reader moves forward -/
theorem nextDatum_errs {s s' : Read.PState} {d : Datum} (h : Read.nextDatum s = .ok (some d, s')) :
    errs s' ⊆ errs s ∧ d.locs ⊆ errs s := by
  obtain ⟨used, -, -, hd⟩ := nextDatum_read h
  obtain ⟨hs, hdl⟩ := hd d rfl
  simp only [errs, hs.toks, hs.lexErr, tokLocs_append]
  refine ⟨fun p hp => ?_, fun p hp => ?_⟩
  · simp only [List.mem_append] at hp ⊢
    rcases hp with hp | hp | hp
    · exact (List.mem_append.1 (hs.here hp)).imp_right fun h => .inl (.inl h)
    · exact .inr (.inl (.inr hp))
    · exact .inr (.inr hp)
  · simp only [List.mem_append]
    exact .inr (.inl (.inl (hdl hp)))

end ProgLoc

end Ruschm
