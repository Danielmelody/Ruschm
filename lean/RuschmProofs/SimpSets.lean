/-
The simp sets of the development, declared here because an attribute cannot be used in the module
that declares it.
-/
import Lean.Meta.Tactic.Simp.RegisterCommand

/-- from the results of matching the patterns of a rule set to the expansion: the first matching rule, and
`Macro.specInst` of a template whose ellipsis sub-templates are variables -/
register_simp_attr spec_inst

/-- the equations of `Desugar.print`, `Desugar.cost` and the size of a printed datum: they reduce
`cost s + 7 ≤ 8 * (print s).size` to linear arithmetic -/
register_simp_attr print_size

/-- the definitions of the model reader that `simp [read_eval]` unfolds to run it on a closed token list -/
register_simp_attr read_eval
