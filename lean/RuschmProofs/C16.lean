/-
Property C16 — what `display` prints can be read back.

"The text display produces for a value built from booleans, exact integers and ratios, finite
reals, characters, plain symbols, proper and improper lists and vectors is valid source text that,
quoted and read back, yields an equal value of the same exactness. Lists print with single spaces
and a dotted tail only when improper, nested structure is preserved, and distinct values print
differently."

Only property theorems live here (each is audited with `#print axioms`); helper lemmas are in
`RuschmProofs/PrintLemmas.lean`. The vocabulary (`Readable`, `datumOf`, `showDatum`,
`printerLayout`, `EqualV`, `Enough`, `consTail`, …) is defined in `RuschmSpec/Print.lean`; the
model of the Rust code is `Prim.display` (`Display for Value`, `RuschmModel/Prim.lean`), `Read.all`
(`RuschmModel/Read.lean`) and `Eval.readLiteral` (`RuschmModel/Eval.lean`).

REALS ARE NOT COVERED: the model prints a placeholder for them (`{:?}` of `f32` is not modelled),
so `Readable` excludes them; the correspondence check validates reals against the real code by
round trip.
-/
import RuschmProofs.PrintLemmas
import RuschmProofs.C06

namespace Ruschm.C16
open Ruschm Ruschm.Text Ruschm.Print Ruschm.Print.Samples

/-! ## 1. The shape of printed lists (all values, readable or not) -/

/-- A proper list prints as `(` its elements separated by single spaces `)`: no dot, no other
blanks. For *all* values `xs`; `f` is any fuel that is enough for each element. -/
theorem list_format_proper (σ : Store) (f : Nat) (x : Value) (xs : List Value)
    (hx : ∀ y ∈ x :: xs, Enough σ f y) (F : Nat) (hF : f + (x :: xs).length < F) :
    Prim.display σ F (Value.ofList (x :: xs))
      = "(" ++ " ".intercalate ((x :: xs).map (Prim.display σ f)) ++ ")" := by
  have h := display_consTail σ f x xs .nil hx (Or.inl rfl) F hF
  rw [consTail_nil] at h
  simpa [endText] using h

/-- An improper list `(x₁ … xₙ . t)` (`t` neither a pair nor `()`) prints as `(` its elements
separated by single spaces, then ` . `, then the tail, then `)`. -/
theorem list_format_dotted (σ : Store) (f : Nat) (x : Value) (xs : List Value) (t : Value)
    (hx : ∀ y ∈ x :: xs, Enough σ f y) (ht : isAtomic t = true) (ht' : Enough σ f t)
    (F : Nat) (hF : f + (x :: xs).length < F) :
    Prim.display σ F (consTail (x :: xs) t)
      = "(" ++ " ".intercalate ((x :: xs).map (Prim.display σ f)) ++ " . "
          ++ Prim.display σ f t ++ ")" := by
  have h := display_consTail σ f x xs t hx (Or.inr ⟨ht, ht'⟩) F hF
  rw [endText_atomic σ f ht] at h
  simpa [String.append_assoc] using h

/-- The defining equations behind the two theorems above, with the exact fuel of every call:
the empty list, a last element, a middle element, a dotted tail. -/
theorem list_format (σ : Store) (f : Nat) (a d : Value) :
    Prim.display σ (f + 1) .nil = "()" ∧
      Prim.display σ (f + 1) (.pair a d)
        = "(" ++ Prim.display σ f a ++ Prim.displayTail σ f d ++ ")" ∧
      Prim.displayTail σ (f + 1) .nil = "" ∧
      Prim.displayTail σ (f + 1) (.pair a d)
        = " " ++ Prim.display σ f a ++ Prim.displayTail σ f d ∧
      (isAtomic d = true → Prim.displayTail σ (f + 1) d = " . " ++ Prim.display σ f d) :=
  ⟨rfl, rfl, rfl, rfl, displayTail_atomic σ f d⟩

/-- `(a b . c)` prints as `(` a ` ` b ` . ` c `)` -/
example (σ : Store) (f : Nat) (a b c : Value) (hc : isAtomic c = true) :
    Prim.display σ (f + 3) (.pair a (.pair b c))
      = "(" ++ Prim.display σ (f + 2) a ++ (" " ++ Prim.display σ (f + 1) b
          ++ (" . " ++ Prim.display σ f c)) ++ ")" := by
  rw [(list_format σ (f + 2) a (.pair b c)).2.1, (list_format σ (f + 1) b c).2.2.2.1,
    (list_format σ f b c).2.2.2.2 hc]

/-- the sample `(1 -1/2 #\\a (x . y) #(#t ()))` is its five elements, single spaces between -/
example : Prim.display store 100000 value
    = "(" ++ " ".intercalate ([.num (.int 1), .num (.rat (-1) 2), .char 'a',
        .pair (.sym "x") (.sym "y"), .vec 1].map (Prim.display store 15)) ++ ")" := by
  refine list_format_proper store 15 _ _ (fun y hy => ?_) 100000 (by decide +kernel)
  have hr : Readable store y ∧ (datumOf store y).size ≤ 15 := by
    simp only [List.mem_cons, List.not_mem_nil, or_false] at hy
    rcases hy with rfl | rfl | rfl | rfl | rfl <;> exact ⟨by decide +kernel, by decide +kernel⟩
  exact (enough_of_readable store y hr.1).mono hr.2

/-- `(x y . z)`: the dot appears exactly because the tail `z` is not a list -/
example : Prim.display store 10 (consTail [.sym "x", .sym "y"] (.sym "z"))
    = "(" ++ " ".intercalate [Prim.display store 1 (.sym "x"), Prim.display store 1 (.sym "y")]
        ++ " . " ++ Prim.display store 1 (.sym "z") ++ ")" := by
  exact list_format_dotted store 1 _ _ _ (List.forall_mem_cons.2 ⟨enough_sym _ _,
    List.forall_mem_singleton.2 (enough_sym _ _)⟩) rfl (enough_sym _ _) 10 (by decide)

/-! ## 2. `display` writes the datum of the value, under the printer's layout -/

/-- DISPLAY_IS_RENDER. For a readable value and enough fuel (at least the number of nodes of its
datum), the text `display` prints is the canonical written form of the datum `datumOf σ v` under
the printer's layout — no blank after `(` / `#(` and before `)`, one space between any other two
tokens (so ` . ` before an improper tail) —, that layout is valid and all atoms of the datum are
supported tokens: the output of `display` is one of the texts the theorems of C06 cover. -/
theorem display_is_render (σ : Store) (v : Value) (fuel : Nat) (hv : Readable σ v)
    (hf : (datumOf σ v).size ≤ fuel) :
    (Prim.display σ fuel v).toList = renderDatum (datumOf σ v) (printerLayout (datumOf σ v)) ∧
      ValidLayout (Syn.ofDatum (datumOf σ v)).toks (printerLayout (datumOf σ v)) ∧
      SupportedD (datumOf σ v) := by
  have hs := supportedD_readable σ v hv
  exact ⟨by rw [renderDatum_printerLayout]; exact (display_readable σ v hv fuel).1 hf,
    validLayout_printerLayout _ hs, hs⟩

/-- The same without the vocabulary of C06: `display` prints what the specification's printer
`showDatum` writes for the datum. -/
theorem display_is_show (σ : Store) (v : Value) (fuel : Nat) (hv : Readable σ v)
    (hf : (datumOf σ v).size ≤ fuel) :
    Prim.display σ fuel v = String.ofList (showDatum (datumOf σ v)) := by
  apply String.toList_injective
  rw [String.toList_ofList]
  exact (display_readable σ v hv fuel).1 hf

/-- More fuel than the size of the datum prints the same text: the fuel `100000` the `display`
procedure and the REPL use is enough for every value with fewer nodes. -/
theorem display_fuel_enough (σ : Store) (v : Value) (hv : Readable σ v) :
    Enough σ (datumOf σ v).size v :=
  enough_of_readable σ v hv

/-- `Readable` — defined by a computation that descends at most `σ.vecs.size` levels into
vectors — is exactly the inductive predicate `ReadableI` (finite derivations: vectors nest to any
depth, but not cyclically): by the pigeonhole principle, a chain of nested vectors longer than
the number of cells contains a cycle. Likewise the datum does not depend on the level. -/
theorem readable_iff_inductive (σ : Store) (v : Value) :
    (Readable σ v ↔ ReadableI σ v) ∧
      (∀ n, readableN σ n v = true → Readable σ v ∧ datumN σ n v = datumOf σ v) :=
  ⟨readable_iff_readableI σ v, fun n h => ⟨readableN_size σ n v h, datumOf_eq_datumN σ n v h⟩⟩

/-- a store whose only cell contains itself: its vector prints forever, and is not readable -/
example : ¬ Readable { vecs := #[{ mutable := true, items := [.vec 0] }] } (.vec 0) := by decide

section Example
/- `Samples.value` = `(1 -1/2 #\a (x . y) #(#t ()))`, the vector in cell 1 of `Samples.store` -/
private theorem sample_readable : Readable store value := by decide +kernel
private theorem sample_size : (datumOf store value).size ≤ 100000 := by decide +kernel
private theorem sample_text : Prim.display store 100000 value = text := by
  rw [display_is_show store value 100000 sample_readable sample_size]
  exact Text.Samples.ofList_eq_of_bytes (by decide +kernel)

example : Readable store value := sample_readable
example : datumOf store value = datum := rfl
example : (datumOf store value).size = 15 := by decide +kernel
example : printerLayout datum
    = [[], [], [' '], [' '], [' '], [], [' '], [' '], [], [' '], [], [' '], [], [], [], []] := by
  decide +kernel

example : Prim.display store 100000 value = text := sample_text
end Example

/-! ## 3. The printed text is valid source text: it reads back as one datum -/

/-- DISPLAY_READ_ROUNDTRIP. The text `display` prints for a readable value is read by the reader
without error as exactly one datum, and that datum is — up to source locations — `datumOf σ v`.
(By `C06.read_render_datum` applied to `display_is_render`.) -/
theorem display_read_roundtrip (σ : Store) (v : Value) (fuel : Nat) (hv : Readable σ v)
    (hf : (datumOf σ v).size ≤ fuel) :
    ∃ d, Read.all (Prim.display σ fuel v).toList = ([d], none) ∧
      d.strip = (datumOf σ v).strip := by
  obtain ⟨ht, hl, hs⟩ := display_is_render σ v fuel hv hf
  obtain ⟨h1, h2⟩ := C06.read_render_datum (datumOf σ v) hs _ hl
  rw [← ht] at h1 h2
  obtain ⟨d, hd, h1⟩ := List.map_eq_singleton_iff.mp h1
  exact ⟨d, Prod.ext hd h2, h1⟩

/-- The datum of a value carries no source locations, so "up to locations" can be dropped on
that side. -/
theorem datumOf_strip (σ : Store) (v : Value) : (datumOf σ v).strip = datumOf σ v :=
  strip_datumN σ _ v

/-- the sample text reads back as one datum, the sample datum -/
example : ∃ d, Read.all text.toList = ([d], none) ∧ d.strip = datum := by
  have h := display_read_roundtrip store value 100000 sample_readable sample_size
  rw [sample_text, datumOf_strip] at h
  exact h

/-! ## 4. Read back, the datum becomes an equal value of the same exactness -/

/-- READ_BACK_EQUAL. `read_literal` (what evaluating `(quote d)` does) turns any datum `d` that
is, up to locations, the datum of a readable value `v` into a value `w` structurally equal to
`v`, in *any* store `τ` — the one `v` lives in or another: integers come back as the same
integers; a ratio `n/d` comes back through `exact_ratio n d`, which returns the same ratio
because `n/d` is in lowest terms (`Num.WF`), so exactness and value are preserved; characters,
booleans, symbols and `()` are identical; pairs are equal component-wise; every vector is a fresh
(immutable) cell whose items are equal item-wise. No error, and `τ` only grows. -/
theorem read_back_equal (σ : Store) (v : Value) (hv : Readable σ v) (d : Datum)
    (hd : d.strip = (datumOf σ v).strip) (τ : Store) :
    ∃ w τ', Eval.readLiteral τ d = (.ok w, τ') ∧ Extends τ τ' ∧ equalV σ v τ' w := by
  obtain ⟨w, τ', h, q⟩ := readsBack_readable σ v hv τ
  rw [← Eval.readLiteral_strip d τ, hd, datumOf_strip]
  exact ⟨w, τ', h, extends_readLiteral h, q⟩

/-- The usual case: `v` lives in the store `σ` in which its text is read back. Then both values
live in the final store. -/
theorem read_back_equal_same_store (σ : Store) (v : Value) (hv : Readable σ v) (d : Datum)
    (hd : d.strip = (datumOf σ v).strip) :
    ∃ w σ', Eval.readLiteral σ d = (.ok w, σ') ∧ Extends σ σ' ∧ equalV σ' v σ' w := by
  obtain ⟨w, σ', h1, h2, h3⟩ := read_back_equal σ v hv d hd σ
  exact ⟨w, σ', h1, h2, h3.mono_left h2⟩

/-- The exactness part spelled out: the value read back for a printed number is *the same*
number (same representation, in particular the same exactness). -/
theorem read_back_number (σ : Store) (x : Num) (hv : Readable σ (.num x)) (d : Datum)
    (hd : d.strip = (datumOf σ (.num x)).strip) (τ : Store) :
    Eval.readLiteral τ d = (.ok (.num x), τ) := by
  obtain ⟨w, τ', h1, -, h3⟩ := read_back_equal σ (.num x) hv d hd τ
  cases h3
  obtain ⟨p, hp⟩ := datumOf_num hv
  have hs : (Eval.readLiteral τ d).2 = τ := readLiteral_prim_store τ d p (hd.trans (by rw [hp]; rfl))
  rw [h1] at hs
  exact h1.trans (congrArg (Prod.mk _) hs)

/-- `-1/2`, wherever it was written, comes back as the exact ratio `-1/2` -/
example (τ : Store) : Eval.readLiteral τ (.prim (.rat (-1) 2) (some (3, 4)))
    = (.ok (.num (.rat (-1) 2)), τ) :=
  read_back_number store (.rat (-1) 2) (by decide +kernel) (.prim (.rat (-1) 2) (some (3, 4))) rfl τ

/-- DISPLAY_QUOTE_READ_EQUAL (2 and 3 combined). The text `display` prints for a readable value
is read as one datum `d`, and evaluating the expression `(quote d)` — in any store, environment
and with any non-zero fuel — yields, without error, a value structurally equal to the one that
was printed. -/
theorem display_quote_read_equal (σ : Store) (v : Value) (fuel : Nat) (hv : Readable σ v)
    (hf : (datumOf σ v).size ≤ fuel) (τ : Store) (ρ k : Nat) (loc : Loc) :
    ∃ d w τ', Read.all (Prim.display σ fuel v).toList = ([d], none) ∧
      Eval.readLiteral τ d = (.ok w, τ') ∧
      Eval.evalExpr (k + 1) τ ρ (.quote d loc) = (.ok w, τ') ∧
      Extends τ τ' ∧ equalV σ v τ' w := by
  obtain ⟨d, h1, h2⟩ := display_read_roundtrip σ v fuel hv hf
  obtain ⟨w, τ', h3, h4, h5⟩ := read_back_equal σ v hv d h2 τ
  exact ⟨d, w, τ', h1, h3, by simp only [Eval.evalExpr, h3], h4, h5⟩

section Example
/-- the sample, read back into the store it came from: the new vector is a fresh cell (2) -/
example : ∃ d, Read.all (Prim.display store 100000 value).toList = ([d], none) ∧
    Eval.readLiteral store d
      = (.ok (Value.ofList [.num (.int 1), .num (.rat (-1) 2), .char 'a',
          .pair (.sym "x") (.sym "y"), .vec 2]),
         { store with vecs := store.vecs.push { mutable := false, items := [.bool true, .nil] } })
    := by
  obtain ⟨d, h1, h2⟩ := display_read_roundtrip store value 100000 sample_readable sample_size
  refine ⟨d, h1, ?_⟩
  rw [← Eval.readLiteral_strip d store, h2, datumOf_strip]
  rfl

example : ∃ d w τ', Read.all (Prim.display store 100000 value).toList = ([d], none) ∧
    Eval.readLiteral store d = (.ok w, τ') ∧ equalV store value τ' w := by
  obtain ⟨d, w, τ', h1, h2, -, -, h3⟩ :=
    display_quote_read_equal store value 100000 sample_readable sample_size store 0 0 none
  exact ⟨d, w, τ', h1, h2, h3⟩
end Example

/-! ## 5. Distinct values print differently -/

/-- DISPLAY_INJECTIVE. If two readable values — in the same store or in two different ones, with
whatever (sufficient) fuel — print the same text, they are structurally equal: same atoms, same
numbers of the same exactness, equal components, equal vector items. Contrapositive: distinct
values print differently. (Reading is a function: both data are what the common text reads as.) -/
theorem display_injective (σ₁ σ₂ : Store) (v₁ v₂ : Value) (f₁ f₂ : Nat)
    (h₁ : Readable σ₁ v₁) (h₂ : Readable σ₂ v₂)
    (hf₁ : (datumOf σ₁ v₁).size ≤ f₁) (hf₂ : (datumOf σ₂ v₂).size ≤ f₂)
    (h : Prim.display σ₁ f₁ v₁ = Prim.display σ₂ f₂ v₂) : equalV σ₁ v₁ σ₂ v₂ := by
  obtain ⟨d₁, r₁, e₁⟩ := display_read_roundtrip σ₁ v₁ f₁ h₁ hf₁
  obtain ⟨d₂, r₂, e₂⟩ := display_read_roundtrip σ₂ v₂ f₂ h₂ hf₂
  rw [h, r₂] at r₁
  cases r₁
  rw [e₂, datumOf_strip, datumOf_strip] at e₁
  exact equalV_of_datumOf σ₁ σ₂ v₁ v₂ h₁ h₂ e₁.symm

/-- In particular for atoms: readable numbers, booleans, characters and symbols that print the
same are the same. -/
theorem display_injective_atoms (σ : Store) (v₁ v₂ : Value) (f₁ f₂ : Nat)
    (h₁ : Readable σ v₁) (h₂ : Readable σ v₂)
    (hf₁ : (datumOf σ v₁).size ≤ f₁) (hf₂ : (datumOf σ v₂).size ≤ f₂)
    (ha : isAtomic v₁ = true) (hn : ∀ id, v₁ ≠ .vec id)
    (h : Prim.display σ f₁ v₁ = Prim.display σ f₂ v₂) : v₁ = v₂ :=
  (display_injective σ σ v₁ v₂ f₁ f₂ h₁ h₂ hf₁ hf₂ h).eq_of_atomic ha hn

section Example
/-- `1/2` and `-1/2`, `(x . y)` and `(x y)` print differently -/
example : Prim.display store 10 (.num (.rat 1 2)) ≠ Prim.display store 10 (.num (.rat (-1) 2)) := by
  intro h
  have := display_injective_atoms store _ _ 10 10 (by decide +kernel) (by decide +kernel) (by decide +kernel) (by decide +kernel)
    rfl (by simp) h
  simp at this

example : ¬ equalV store (.pair (.sym "x") (.sym "y")) store (Value.ofList [.sym "x", .sym "y"]) := by
  intro h
  cases h with
  | pair _ h2 => cases h2
end Example

/-- EQUAL_VALUES_PRINT_THE_SAME (the converse). A value structurally equal to a readable one is
readable, has the same datum and prints the same text. -/
theorem equal_values_print_same (σ₁ σ₂ : Store) (v₁ v₂ : Value) (he : equalV σ₁ v₁ σ₂ v₂)
    (h₁ : Readable σ₁ v₁) (f₁ f₂ : Nat) (hf₁ : (datumOf σ₁ v₁).size ≤ f₁)
    (hf₂ : (datumOf σ₁ v₁).size ≤ f₂) :
    Readable σ₂ v₂ ∧ datumOf σ₂ v₂ = datumOf σ₁ v₁ ∧
      Prim.display σ₁ f₁ v₁ = Prim.display σ₂ f₂ v₂ := by
  obtain ⟨h₂, e⟩ := equal_datumOf σ₁ σ₂ v₁ v₂ he h₁
  refine ⟨h₂, e, ?_⟩
  rw [display_is_show σ₁ v₁ f₁ h₁ hf₁, display_is_show σ₂ v₂ f₂ h₂ (by rw [e]; exact hf₂), e]

/-- Both directions: readable values print the same text exactly when they are structurally
equal. -/
theorem display_eq_iff_equalV (σ₁ σ₂ : Store) (v₁ v₂ : Value) (h₁ : Readable σ₁ v₁)
    (h₂ : Readable σ₂ v₂) (f₁ f₂ : Nat) (hf₁ : (datumOf σ₁ v₁).size ≤ f₁)
    (hf₂ : (datumOf σ₂ v₂).size ≤ f₂) :
    Prim.display σ₁ f₁ v₁ = Prim.display σ₂ f₂ v₂ ↔ equalV σ₁ v₁ σ₂ v₂ :=
  ⟨display_injective σ₁ σ₂ v₁ v₂ f₁ f₂ h₁ h₂ hf₁ hf₂, fun he =>
    (equal_values_print_same σ₁ σ₂ v₁ v₂ he h₁ f₁ f₂ hf₁
      ((equal_datumOf σ₁ σ₂ v₁ v₂ he h₁).2 ▸ hf₂)).2.2⟩

section Example
/-- the sample and the copy obtained by reading it back (its vector in the fresh cell 2) print
the same text -/
example : Prim.display store 100000 value = Prim.display store2 100000 value2 :=
  (equal_values_print_same store store2 value value2 value_equal_value2 sample_readable 100000 100000
    sample_size sample_size).2.2

example : Prim.display store 100000 value = Prim.display store2 100000 value2 ↔
    equalV store value store2 value2 :=
  display_eq_iff_equalV store store2 value value2 sample_readable (by decide +kernel) 100000 100000
    sample_size (by decide +kernel)
end Example

/-! ## 6. Nested structure is preserved -/

/-- NESTED_STRUCTURE_PRESERVED. `datumOf` maps pairs to pairs, lists to lists of the same length
(improper tails to improper tails) and vectors to vectors of the same length, element by
element, to any depth; and a pair / list / vector is readable exactly when its components are
(for a vector: and its cell exists). So the text printed for a compound value is the written
form of a datum of exactly the same shape, which (`display_quote_read_equal`) reads back as a
value of that shape again. -/
theorem nested_structure_preserved (σ : Store) :
    (∀ a d, datumOf σ (.pair a d) = .pair (datumOf σ a) (datumOf σ d) none ∧
      (Readable σ (.pair a d) ↔ Readable σ a ∧ Readable σ d)) ∧
    (∀ xs t, datumOf σ (consTail xs t)
        = (xs.map (datumOf σ)).foldr (fun x acc => .pair x acc none) (datumOf σ t) ∧
      (Readable σ (consTail xs t) ↔ (∀ x ∈ xs, Readable σ x) ∧ Readable σ t)) ∧
    (∀ xs, datumOf σ (Value.ofList xs) = Datum.ofList none (xs.map (datumOf σ)) ∧
      (Datum.ofList none (xs.map (datumOf σ))).elems.length = xs.length) ∧
    (∀ id, Readable σ (.vec id) →
      ∃ cell, σ.vecs[id]? = some cell ∧ (∀ x ∈ cell.items, Readable σ x) ∧
        datumOf σ (.vec id) = .vec (cell.items.map (datumOf σ)) none ∧
        (cell.items.map (datumOf σ)).length = cell.items.length ∧
        ∀ i (h : i < cell.items.length),
          (cell.items.map (datumOf σ))[i]'(by simpa using h) = datumOf σ cell.items[i]) := by
  refine ⟨fun a d => ⟨datumOf_pair σ a d, readable_pair σ a d⟩,
    fun xs t => ⟨datumOf_consTail σ xs t, readable_consTail σ xs t⟩,
    fun xs => ⟨datumOf_ofList σ xs, by rw [Datum.elems_ofList, List.length_map]⟩, fun id hv => ?_⟩
  obtain ⟨cell, h1, h2, h3⟩ := readable_vec σ id hv
  exact ⟨cell, h1, h2, h3, by simp, fun i h => by simp⟩

section Example
/-- the sample: a list of five elements, the fourth a pair, the fifth a vector of two items -/
example : (datumOf store value).elems.length = 5 := by
  have h := ((nested_structure_preserved store).2.2.1
    [.num (.int 1), .num (.rat (-1) 2), .char 'a', .pair (.sym "x") (.sym "y"), .vec 1])
  exact h.1 ▸ h.2

example : datumOf store (.vec 1) = .vec [datumOf store (.bool true), datumOf store .nil] none := by
  obtain ⟨cell, h1, -, h3, -⟩ := (nested_structure_preserved store).2.2.2 1 (by decide)
  cases (h1 : some { mutable := true, items := [.bool true, .nil] } = some cell)
  exact h3
end Example

/-! ## 7. End to end: evaluating the quoted text -/

/-- QUOTED_TEXT_EVALUATES_EQUAL. Take the text `display` prints for a readable value `v` (of a
store `σ`), put a quote mark in front of it and hand it to the interpreter (`Interpreter::eval`,
in any state `st`, with any non-zero fuel): the lexer, the reader, `transform_to_statement` and
the evaluator together deliver — without error — a value structurally equal to `v`, of the same
exactness; the only effect on the interpreter is that its store has grown (by the cells of the
vectors read back). -/
theorem quoted_text_evaluates_equal (σ : Store) (v : Value) (fuel : Nat) (hv : Readable σ v)
    (hf : (datumOf σ v).size ≤ fuel) (st : Interp.State) (k : Nat) :
    ∃ w st', Interp.evalText (k + 1) st ('\'' :: (Prim.display σ fuel v).toList)
        = (.ok (some w), st') ∧
      Extends st.store st'.store ∧ st'.env = st.env ∧ equalV σ v st'.store w := by
  obtain ⟨ht, -, hs⟩ := display_is_render σ v fuel hv hf
  obtain ⟨w, τ', h1, h3⟩ := readsBack_readable σ v hv st.store
  have h2 := extends_readLiteral h1
  obtain ⟨st', e1, e2, e3⟩ := evalText_quote k st (datumOf σ v) hs (datumOf_strip σ v) w τ' h1
  rw [← ht] at e1
  exact ⟨w, st', e1, e2 ▸ h2, e3, e2 ▸ h3⟩

/-- The usual case: the value is printed and read back by the same interpreter. -/
theorem quoted_text_evaluates_equal_same (st : Interp.State) (v : Value) (fuel : Nat)
    (hv : Readable st.store v) (hf : (datumOf st.store v).size ≤ fuel) (k : Nat) :
    ∃ w st', Interp.evalText (k + 1) st ('\'' :: (Prim.display st.store fuel v).toList)
        = (.ok (some w), st') ∧
      Extends st.store st'.store ∧ equalV st'.store v st'.store w := by
  obtain ⟨w, st', h1, h2, -, h3⟩ := quoted_text_evaluates_equal st.store v fuel hv hf st k
  exact ⟨w, st', h1, h2, h3.mono_left h2⟩

section Example
/-- `'(1 -1/2 #\a (x . y) #(#t ()))` evaluates to a value equal to the sample -/
example : ∃ w st', Interp.evalText 1 { store := store } ('\'' :: text.toList) = (.ok (some w), st')
    ∧ equalV store value st'.store w := by
  obtain ⟨w, st', h1, -, -, h3⟩ :=
    quoted_text_evaluates_equal store value 100000 sample_readable sample_size { store := store } 0
  rw [sample_text] at h1
  exact ⟨w, st', h1, h3⟩
end Example

/-! ## Where a fuller statement fails -/

/-- FULL symbol coverage: the round trip for *every* symbol, whatever its spelling. -/
def display_read_roundtrip_full : Prop :=
  ∀ (σ : Store) (s : String) (fuel : Nat), 0 < fuel →
    ∃ d, Read.all (Prim.display σ fuel (.sym s)).toList = ([d], none) ∧ d.strip = .sym s none

/-- It fails: `display` writes a symbol's spelling as it is (no bars, no escapes), so the symbol
with the empty spelling prints as nothing at all — and, likewise, `a b` (which `'|a b|`
evaluates to) prints as the two symbols `a` and `b`, `1` as a number. Hence "plain symbols" in the
property and `isPlainIdent` in `Readable`. -/
theorem display_read_roundtrip_full_fails : ¬ display_read_roundtrip_full := by
  intro h
  obtain ⟨d, h1, -⟩ := h {} "" 1 (by decide)
  have h2 : (Read.all []).1.map Datum.strip = [] := (C06.read_render_many [] trivial [[]] (by decide)).1
  have h1 : Read.all [] = ([d], none) := h1
  rw [h1] at h2
  cases h2

/-- a second witness: the symbol `a b` is printed as `a b`, which reads as two data -/
example : (Read.all (Prim.display {} 1 (.sym "a b")).toList).1.map Datum.strip
    = [.sym "a" none, .sym "b" none] := by
  have h := (C06.read_render_many [.atom (.ident "a"), .atom (.ident "b")]
    ⟨⟨rfl, Or.inl (by decide)⟩, ⟨rfl, Or.inl (by decide)⟩, trivial⟩ [[], [' '], []] (by decide)).1
  exact h

/-- the partial version: `display_read_roundtrip` (plain symbols) -/
theorem display_read_roundtrip_partial (σ : Store) (s : String) (fuel : Nat) (hf : 0 < fuel)
    (hs : isPlainIdent s.toList = true) :
    ∃ d, Read.all (Prim.display σ fuel (.sym s)).toList = ([d], none) ∧ d.strip = .sym s none := by
  obtain ⟨e, hr⟩ := datumOf_atom σ (v := .sym s) rfl nofun
  have h := display_read_roundtrip σ (.sym s) fuel (hr.2 hs) (by rw [e]; exact hf)
  rwa [e] at h

example : ∃ d, Read.all (Prim.display store 1 (.sym "list->vector")).toList = ([d], none) ∧
    d.strip = .sym "list->vector" none :=
  display_read_roundtrip_partial store "list->vector" 1 (by decide) (by decide +kernel)

/-- Strings are outside the property for the same reason: `display` writes the characters of a
string without quotes, so the text does not read back as a string (`x y` reads as two symbols). -/
theorem string_display_unquoted (σ : Store) (f : Nat) (s : String) :
    Prim.display σ (f + 1) (.str s) = s := rfl

example : Prim.display store 7 (.str "x y") = "x y" := string_display_unquoted store 6 "x y"

end Ruschm.C16
