/-
The two unfoldings of the vocabulary of `RuschmSpec/Safe.lean` met everywhere: `NoPanic` of an outcome
is `SErr.NP` of its error, and a list of data is free of `n/0` when its members are.
-/
import RuschmSpec.Safe

namespace Ruschm

theorem noPanic_iff {α} {r : Except SErr α} : NoPanic r ↔ ∀ e, r = .error e → SErr.NP e := by
  constructor
  · intro h e he s hs
    obtain ⟨k, l⟩ := e
    simp only at hs
    subst hs
    exact h s l he
  · intro h s l he
    exact h _ he s rfl

theorem np_of_kind {e : Err} {l : Loc} (h : ∀ s, e ≠ .panic s) : SErr.NP (e, l) := fun s hs => h s hs

@[simp] theorem np_syntax {l} : SErr.NP (.syntax, l) := by intro s h; cases h
@[simp] theorem np_fuel {l} : SErr.NP (.fuel, l) := by intro s h; cases h

/-- the specification's tests of lists are written by recursion, in mutual blocks with the test of a member -/
theorem all_of_rec {α} {f : List α → Bool} {g : α → Bool} (h0 : f [] = true)
    (h1 : ∀ x xs, f (x :: xs) = (g x && f xs)) : ∀ {xs}, f xs = true ↔ ∀ x ∈ xs, g x = true
  | [] => by simp [h0]
  | x :: xs => by simp [h1, all_of_rec h0 h1 (xs := xs)]

theorem Datum.ratOkList_iff {xs : List Datum} : Datum.ratOkList xs = true ↔ ∀ x ∈ xs, x.ratOk = true :=
  all_of_rec rfl fun _ _ => rfl

end Ruschm
