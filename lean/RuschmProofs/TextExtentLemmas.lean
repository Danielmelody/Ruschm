/-
Property C15 at the level of program text (vocabulary: `ProgramTextLemmas`). The extent of the `i`-th form is a
pair of cursors, each `Text.advs` of a prefix of the program text (`startText`, `endText`); the prefixes form a
chain, so every fact about the order of extents is `advs_prefix_le`, with no arithmetic on lines and columns.
The reader on located tokens gives each datum positions of its own tokens (`FormsIn`, from `Text.Reads`); the run
form by form keeps the positions of the state among those of the earlier data (`runForms_locs`). `text_fails_at`
(`FailsAt`) puts these together for the text of `pre ++ s :: post` where `pre` succeeds and `s` fails: what
`C15More` builds on.
-/
import RuschmProofs.LocProg
import RuschmProofs.ProgramTextLemmas
import RuschmProofs.LibNamePosLemmas

namespace Ruschm.TextExtent
open Ruschm Ruschm.Interp Ruschm.Front Ruschm.FrontSpec Ruschm.Xform Ruschm.CoreSyntax Ruschm.Text
open Ruschm.Lex (adv)
open Ruschm.ProgramText
open Ruschm.LibNamePos (NoLib evalForm_noLib noLib_of_locs_nil)

/-! ## the order of positions -/

def posLt (a b : Pos) : Prop := a.1 < b.1 ∨ (a.1 = b.1 ∧ a.2 < b.2)

def posLe (a b : Pos) : Prop := a.1 < b.1 ∨ (a.1 = b.1 ∧ a.2 ≤ b.2)

instance (a b : Pos) : Decidable (posLt a b) := by unfold posLt; infer_instance
instance (a b : Pos) : Decidable (posLe a b) := by unfold posLe; infer_instance

theorem posLe_refl (a : Pos) : posLe a a := Or.inr ⟨rfl, Nat.le_refl _⟩
theorem posLt_le {a b : Pos} (h : posLt a b) : posLe a b := by
  unfold posLt at h; unfold posLe; omega
theorem posLe_trans {a b c : Pos} (h1 : posLe a b) (h2 : posLe b c) : posLe a c := by
  unfold posLe at *; omega
theorem posLt_of_lt_le {a b c : Pos} (h1 : posLt a b) (h2 : posLe b c) : posLt a c := by
  unfold posLe posLt at *; omega
theorem posLt_of_le_lt {a b c : Pos} (h1 : posLe a b) (h2 : posLt b c) : posLt a c := by
  unfold posLe posLt at *; omega
theorem posLt_irrefl_of_le {a b : Pos} (h1 : posLt a b) (h2 : posLe b a) : False := by
  unfold posLe posLt at *; omega

theorem adv_lt (c : Char) (p : Pos) : posLt p (adv c p) := by
  unfold adv posLt
  by_cases h : c = '\n' <;> simp [h]

theorem advs_le : ∀ (cs : List Char) (p : Pos), posLe p (advs cs p)
  | [], p => posLe_refl p
  | c :: cs, p => posLe_trans (posLt_le (adv_lt c p)) (advs_le cs (adv c p))

theorem advs_lt : ∀ (cs : List Char) (p : Pos), cs ≠ [] → posLt p (advs cs p)
  | [], _, h => absurd rfl h
  | c :: cs, p, _ => posLt_of_lt_le (adv_lt c p) (advs_le cs (adv c p))

theorem advs_prefix_le {pre full : List Char} (h : pre <+: full) (p : Pos) :
    posLe (advs pre p) (advs full p) := by
  obtain ⟨r, rfl⟩ := h
  rw [advs_append]
  exact advs_le r _

/-! ## the text up to a token -/

/-- `a₀ t₁ a₁ t₂ … tₙ`: through the last token, no separator after it -/
def textThrough : List Token → List (List Char) → List Char
  | [], _ => []
  | t :: ts, l => l.headD [] ++ (renderTok t ++ textThrough ts l.tail)

theorem textThrough_append (a b : List Token) (l : List (List Char)) :
    textThrough (a ++ b) l = textThrough a l ++ textThrough b (l.drop a.length) := by
  induction a generalizing l with
  | nil => rfl
  | cons t a ih =>
    simp only [List.cons_append, textThrough, List.length_cons, ih, List.append_assoc]
    cases l <;> simp

theorem interleave_append (a b : List Token) (l : List (List Char)) :
    interleave (a ++ b) l = textThrough a l ++ interleave b (l.drop a.length) := by
  induction a generalizing l with
  | nil => rfl
  | cons t a ih =>
    simp only [List.cons_append, interleave, textThrough, List.length_cons, ih, List.append_assoc]
    cases l <;> simp

theorem textThrough_prefix (ts : List Token) (l : List (List Char)) :
    textThrough ts l <+: interleave ts l :=
  ⟨_, (List.append_nil ts ▸ interleave_append ts [] l).symm⟩

theorem locate_append (a b : List Token) (l : List (List Char)) (p : Pos) :
    locate (a ++ b) l p = locate a l p ++ locate b (l.drop a.length) (advs (textThrough a l) p) := by
  induction a generalizing l p with
  | nil => rfl
  | cons t a ih =>
    simp only [List.cons_append, locate, textThrough, List.length_cons, ih, advs_append]
    cases l <;> simp

theorem locate_length (ts : List Token) (l : List (List Char)) (p : Pos) :
    (locate ts l p).length = ts.length := by
  rw [← List.length_map (f := (·.tok)), locate_toks]

theorem locate_within : ∀ (ts : List Token) (l : List (List Char)) (p : Pos),
    (∀ t ∈ ts, SupportedTok t) →
    ∀ x ∈ tokLocs (locate ts l p), posLt (advs (l.headD []) p) x ∧ posLe x (advs (textThrough ts l) p)
  | [], _, _, _, x, hx => by simp [locate, tokLocs] at hx
  | t :: ts, l, p, hs, x, hx => by
    have hpos : renderTok t ≠ [] := List.ne_nil_of_length_pos (renderTok_length_pos t (hs t (by simp)))
    simp only [locate, tokLocs, List.flatMap_cons, Option.toList_some, List.mem_append,
      List.mem_singleton] at hx
    simp only [textThrough, advs_append]
    rcases hx with rfl | hx
    · exact ⟨advs_lt _ _ hpos, advs_le _ _⟩
    · have ih := locate_within ts l.tail (advs (renderTok t) (advs (l.headD []) p))
        (fun t' ht' => hs t' (by simp [ht'])) x hx
      refine ⟨?_, ih.2⟩
      exact posLt_of_lt_le (advs_lt _ _ hpos) (posLe_trans (advs_le _ _) (posLt_le ih.1))

/-! ## extents -/

/-- where the first token of form `i` (0-based) starts — the cursor after the text of the earlier forms and the
separator before that token — and the cursor after its last token -/
def extent (sts : List Statement) (layout : List (List Char)) (i : Nat) : Pos × Pos :=
  (advs (textThrough (programToks (sts.take i)) layout ++ layout.getD (programToks (sts.take i)).length [])
      (1, 1),
   advs (textThrough (programToks (sts.take (i + 1))) layout) (1, 1))

/-- `(start, end]`: the positions the interpreter reports are cursors after a token, and the cursor after the
first token of a form is already strictly behind the form's start -/
def Within (ext : Pos × Pos) (l : Pos) : Prop := posLt ext.1 l ∧ posLe l ext.2

instance (ext : Pos × Pos) (l : Pos) : Decidable (Within ext l) := by unfold Within; infer_instance

def startText (sts : List Statement) (layout : List (List Char)) (i : Nat) : List Char :=
  textThrough (programToks (sts.take i)) layout ++ layout.getD (programToks (sts.take i)).length []
def endText (sts : List Statement) (layout : List (List Char)) (i : Nat) : List Char :=
  textThrough (programToks (sts.take (i + 1))) layout

theorem extent_eq (sts : List Statement) (layout : List (List Char)) (i : Nat) :
    extent sts layout i = (advs (startText sts layout i) (1, 1), advs (endText sts layout i) (1, 1)) := rfl

theorem headD_drop (l : List (List Char)) (n : Nat) : (l.drop n).headD [] = l.getD n [] := by
  simp only [List.headD_eq_head?_getD, List.head?_drop, List.getD_eq_getElem?_getD]

theorem extent_at (pre post : List Statement) (s : Statement) (layout : List (List Char)) :
    extent (pre ++ s :: post) layout pre.length =
      (advs ((layout.drop (programToks pre).length).headD []) (advs (textThrough (programToks pre) layout) (1, 1)),
       advs (textThrough (stmtToks s) (layout.drop (programToks pre).length))
         (advs (textThrough (programToks pre) layout) (1, 1))) := by
  have h1 : (pre ++ s :: post).take pre.length = pre := by simp
  have h2 : (pre ++ s :: post).take (pre.length + 1) = pre ++ [s] := by
    rw [List.take_length_add_append]; simp
  unfold extent
  rw [h1, h2, programToks_append, programToks_cons, programToks_nil, List.append_nil,
    textThrough_append, advs_append, advs_append, headD_drop]

theorem extent_prefix (pre rest : List Statement) (layout : List (List Char)) (j : Nat) (hj : j < pre.length) :
    extent (pre ++ rest) layout j = extent pre layout j := by
  have h1 : (pre ++ rest).take j = pre.take j := List.take_append_of_le_length (by omega)
  have h2 : (pre ++ rest).take (j + 1) = pre.take (j + 1) := List.take_append_of_le_length (by omega)
  unfold extent
  rw [h1, h2]

theorem locate_in_some_extent (layout : List (List Char)) : ∀ (sts : List Statement),
    (∀ t ∈ programToks sts, SupportedTok t) →
    ∀ x ∈ tokLocs (locate (programToks sts) layout (1, 1)), ∃ j, j < sts.length ∧ Within (extent sts layout j) x := by
  intro sts
  generalize hn : sts.length = n
  induction n generalizing sts with
  | zero =>
    intro _ x hx
    have : sts = [] := List.eq_nil_of_length_eq_zero hn
    subst this
    simp [programToks_nil, locate, tokLocs] at hx
  | succ n ih =>
    intro hs x hx
    have hne : sts ≠ [] := by intro h; subst h; simp at hn
    obtain ⟨pre, s, rfl⟩ : ∃ pre s, sts = pre ++ [s] :=
      ⟨sts.dropLast, sts.getLast hne, (List.dropLast_concat_getLast hne).symm⟩
    have hlen : pre.length = n := by simp at hn; exact hn
    rw [programToks_append, programToks_cons, programToks_nil, List.append_nil] at hs hx
    rw [locate_append, ReadLoc.tokLocs_append, List.mem_append] at hx
    rcases hx with hx | hx
    · obtain ⟨j, hj, hw⟩ := ih pre hlen (fun t ht => hs t (List.mem_append_left _ ht)) x hx
      exact ⟨j, by omega, by rw [extent_prefix pre [s] layout j (by omega)]; exact hw⟩
    · refine ⟨pre.length, by omega, ?_⟩
      rw [extent_at pre [] s layout]
      exact locate_within _ _ _ (fun t ht => hs t (List.mem_append_right _ ht)) x hx

/-! ## the order of the extents

Both ends of an extent are cursors after a prefix of the program text, and these prefixes form a chain:
`startText 0 <+: endText 0 <+: startText 1 <+: …  <+: programText`. -/

theorem programToks_supported (sts : List Statement) (hsup : ∀ s ∈ sts, SupportedD (printStmt s)) :
    ∀ t ∈ programToks sts, SupportedTok t := by
  exact toksL_supported _ (supportedL_ofDatums _ (List.forall_mem_map.2 hsup))

theorem programToks_take_prefix (sts : List Statement) {i j : Nat} (h : i ≤ j) :
    programToks (sts.take i) <+: programToks (sts.take j) := by
  obtain ⟨r, hr⟩ := List.take_prefix_take_left (l := sts) h
  rw [← hr, programToks_append]
  exact List.prefix_append _ _

theorem textThrough_mono {a b : List Token} (h : a <+: b) (l : List (List Char)) :
    textThrough a l <+: textThrough b l := by
  obtain ⟨r, rfl⟩ := h
  rw [textThrough_append]
  exact List.prefix_append _ _

section chain
variable (sts : List Statement) (layout : List (List Char))

theorem endText_mono {i j : Nat} (h : i ≤ j) : endText sts layout i <+: endText sts layout j :=
  textThrough_mono (programToks_take_prefix sts (Nat.succ_le_succ h)) layout

theorem endText_prefix_startText {i j : Nat} (h : i < j) : endText sts layout i <+: startText sts layout j :=
  (textThrough_mono (programToks_take_prefix sts h) layout).trans (List.prefix_append _ _)

theorem endText_prefix_text (i : Nat) : endText sts layout i <+: programText sts layout := by
  have h := programToks_take_prefix sts (Nat.le_max_left (i + 1) sts.length)
  rw [List.take_of_length_le (Nat.le_max_right _ _)] at h
  exact (textThrough_mono h layout).trans (textThrough_prefix _ _)

/-- form `i` begins with a token, and a token is not empty -/
theorem endText_eq {i : Nat} (hi : i < sts.length) (hsup : ∀ s ∈ sts, SupportedD (printStmt s)) :
    ∃ t rest, renderTok t ≠ [] ∧ endText sts layout i = startText sts layout i ++ (renderTok t ++ rest) := by
  have htoks := programToks_supported _ hsup
  rw [← List.take_append_drop (i + 1) sts, List.take_succ_eq_append_getElem hi, programToks_append,
    programToks_append, programToks_cons, programToks_nil, List.append_nil] at htoks
  rw [endText, startText, List.take_succ_eq_append_getElem hi, programToks_append, programToks_cons,
    programToks_nil, List.append_nil, textThrough_append, ← headD_drop]
  cases hst : stmtToks sts[i] with
  | nil => exact absurd hst (stmtToks_ne_nil _)
  | cons t ts =>
    refine ⟨t, textThrough ts (layout.drop (programToks (sts.take i)).length).tail,
      List.ne_nil_of_length_pos (renderTok_length_pos t (htoks t (by simp [hst]))), ?_⟩
    simp only [textThrough, List.append_assoc]

theorem extent_start_lt_end (i : Nat) (hi : i < sts.length)
    (hsup : ∀ s ∈ sts, SupportedD (printStmt s)) :
    posLt (extent sts layout i).1 (extent sts layout i).2 := by
  obtain ⟨t, rest, hne, h⟩ := endText_eq sts layout hi hsup
  rw [extent_eq, h, advs_append, advs_append]
  exact posLt_of_lt_le (advs_lt _ _ hne) (advs_le _ _)

theorem extent_end_le_text (i : Nat) :
    posLe (extent sts layout i).2 (advs (programText sts layout) (1, 1)) :=
  advs_prefix_le (endText_prefix_text sts layout i) _

theorem extent_end_le_start {i j : Nat} (h : i < j) :
    posLe (extent sts layout i).2 (extent sts layout j).1 :=
  advs_prefix_le (endText_prefix_startText sts layout h) _

theorem extent_end_mono {i j : Nat} (h : i ≤ j) :
    posLe (extent sts layout i).2 (extent sts layout j).2 :=
  advs_prefix_le (endText_mono sts layout h) _

theorem not_later_of_le_end {i : Nat} {l : Pos} (h : posLe l (extent sts layout i).2) :
    posLe l (advs (programText sts layout) (1, 1)) ∧ ∀ j, i < j → ¬ Within (extent sts layout j) l :=
  ⟨posLe_trans h (extent_end_le_text sts layout i), fun _ hj hw =>
    posLt_irrefl_of_le hw.1 (posLe_trans h (extent_end_le_start sts layout hj))⟩

end chain

/-! ## the reader on a located token stream -/

theorem locate_loc : ∀ (ts : List Token) (l : List (List Char)) (p : Pos), ∀ t ∈ locate ts l p, t.loc ≠ none
  | [], _, _, t, ht => by simp [locate] at ht
  | t0 :: ts, l, p, t, ht => by
    simp only [locate, List.mem_cons] at ht
    rcases ht with rfl | ht
    · simp
    · exact locate_loc ts _ _ t ht

/-- the data `ds` are the forms `xs` written from the cursor `p` with the separators `lay`: each is the datum
written (up to locations), located at every element, with its positions at its own tokens -/
def FormsIn : List Syn → List (List Char) → Pos → List Datum → Prop
  | [], _, _, [] => True
  | x :: xs, lay, p, d :: ds =>
    (d.strip = x.denote ∧ d.HL ∧ ∀ l ∈ locs d, l ∈ tokLocs (locate x.toks lay p)) ∧
    FormsIn xs (lay.drop x.toks.length) (advs (textThrough x.toks lay) p) ds
  | _, _, _, _ => False

/-- each segment of the run is the located tokens of its form -/
theorem formsIn_of_reads {xs : List Syn} {s : Read.PState} {ds : List Datum} (h : Reads xs s ds) :
    ∀ (lay : List (List Char)) (p : Pos), s.toks = locate (Syn.toksL xs) lay p → FormsIn xs lay p ds := by
  induction h with
  | done => exact fun _ _ _ => trivial
  | @form x xs s s' seg d ds hseg hs hn hd _ ih =>
    intro lay p ht
    rw [Syn.toksL, locate_append, hs] at ht
    obtain ⟨rfl, hrest⟩ := List.append_inj ht (by
      rw [← List.length_map (f := (·.tok)), hseg, locate_length])
    have hloc : ∀ t ∈ s.toks, t.loc ≠ none := by
      rw [hs, hrest, ← locate_append]; exact locate_loc _ _ _
    obtain ⟨used, hu, -, hl⟩ := ReadLoc.nextDatum_ok hn
    obtain rfl := List.append_cancel_right (hs ▸ hu)
    exact ⟨⟨hd, (HLoc.nextDatum_hl hn hloc).1, fun l h => hl d rfl h⟩, ih _ _ hrest⟩

theorem FormsIn_length : ∀ (xs : List Syn) (lay : List (List Char)) (p : Pos) (ds : List Datum),
    FormsIn xs lay p ds → ds.length = xs.length
  | [], _, _, [], _ => rfl
  | x :: xs, lay, p, d :: ds, h => by simp [FormsIn_length xs _ _ ds h.2]
  | [], _, _, _ :: _, h | _ :: _, _, _, [], h => h.elim

theorem FormsIn_append (xs₁ xs₂ : List Syn) (lay : List (List Char)) (p : Pos) (ds : List Datum)
    (h : FormsIn (xs₁ ++ xs₂) lay p ds) :
    ∃ ds₁ ds₂, ds = ds₁ ++ ds₂ ∧ FormsIn xs₁ lay p ds₁ ∧
      FormsIn xs₂ (lay.drop (Syn.toksL xs₁).length) (advs (textThrough (Syn.toksL xs₁) lay) p) ds₂ := by
  induction xs₁ generalizing lay p ds with
  | nil => exact ⟨[], ds, rfl, trivial, by simpa [Syn.toksL, textThrough] using h⟩
  | cons x xs₁ ih =>
    cases ds with
    | nil => exact h.elim
    | cons d ds =>
      obtain ⟨h1, h2⟩ := h
      obtain ⟨ds₁, ds₂, rfl, k1, k2⟩ := ih _ _ ds h2
      refine ⟨d :: ds₁, ds₂, rfl, ⟨h1, k1⟩, ?_⟩
      simp only [Syn.toksL, List.length_append, textThrough_append, advs_append]
      rw [List.drop_drop] at k2
      exact k2

theorem FormsIn_locs (xs : List Syn) (lay : List (List Char)) (p : Pos) (ds : List Datum)
    (h : FormsIn xs lay p ds) :
    ∀ d ∈ ds, ∀ l ∈ locs d, l ∈ tokLocs (locate (Syn.toksL xs) lay p) := by
  induction xs generalizing lay p ds with
  | nil =>
    cases ds with
    | nil => exact fun _ hd => nomatch hd
    | cons _ _ => exact h.elim
  | cons x xs ih =>
    cases ds with
    | nil => exact h.elim
    | cons d0 ds =>
      intro d hd l hl
      simp only [Syn.toksL, locate_append, ReadLoc.tokLocs_append, List.mem_append]
      rcases List.mem_cons.1 hd with rfl | hd
      · exact Or.inl (h.1.2.2 l hl)
      · exact Or.inr (ih _ _ ds h.2 d hd l hl)

theorem formsOf_located (ps : List Datum) (layout : List (List Char))
    (hsup : ∀ p ∈ ps, SupportedD p) (hl : ValidLayout (formsToks ps) layout) :
    (formsOf (formsText ps layout)).2 = none ∧
      FormsIn (ps.map Syn.ofDatum) layout (1, 1) (formsOf (formsText ps layout)).1 := by
  have hxs := supportedL_ofDatums ps hsup
  obtain ⟨ds, k1, k2⟩ := all_reads (ps.map Syn.ofDatum) hxs
    (all_render_located (formsToks ps) layout (toksL_supported _ hxs) hl) (locate_toks ..)
  rw [show formsOf (formsText ps layout) = (ds, none) from k1]
  exact ⟨rfl, formsIn_of_reads k2 layout (1, 1) rfl⟩

/-! ## evaluation, form by form, with the positions tracked -/

theorem readsAs_append (syn : SynEnv) (d₁ d₂ : List Datum) (s₁ s₂ : List Statement)
    (hl : d₁.length = s₁.length) (h : ReadsAs syn (d₁ ++ d₂) (s₁ ++ s₂)) :
    ReadsAs syn d₁ s₁ ∧ ReadsAs syn d₂ s₂ := by
  induction d₁ generalizing s₁ with
  | nil =>
    cases s₁ with
    | nil => exact ⟨trivial, h⟩
    | cons _ _ => cases hl
  | cons d d₁ ih =>
    cases s₁ with
    | nil => cases hl
    | cons s s₁ =>
      obtain ⟨k1, k2⟩ := ih s₁ (Nat.succ.inj hl) h.2
      exact ⟨⟨h.1, k1⟩, k2⟩

theorem runForms_ok_of_readsAs {fuel : Nat} {dpre : List Datum} {pre : List Statement} {st₀ st st₁ : State}
    {last v : Option Value} (hr : ReadsAs st.syn dpre pre) (hu : st.unloc = st₀.unloc)
    (hrun : runStmts fuel st₀ pre last = (.ok v, st₁)) :
    ∃ v' st₁', runForms fuel st dpre last = (.ok v', st₁') ∧ st₁'.unloc = st₁.unloc ∧ st₁'.syn = st.syn := by
  obtain ⟨sts', h1, h2⟩ := runForms_readsAs fuel dpre pre st last hr
  rcases (sameRun_of_IU (runStmts_unloc fuel sts' pre st st₀ last last h1 hu rfl)).cases with
    ⟨a, _, s₁, _, k1, k2, -, k4⟩ | ⟨_, _, _, _, _, _, k2, _⟩ <;> cases hrun.symm.trans k2
  exact ⟨a, s₁, h2.trans k1, k4, by have := runStmts_syn fuel sts' st last; rwa [k1] at this⟩

theorem runForms_locs {fuel : Nat} {T : List Pos} {st : State} (ds : List Datum) (last : Option Value)
    (hT : LocsIn T st) (hN : NoLib st.rlocs) :
    LocsIn (T ++ ds.flatMap (fun d => locs d)) (runForms fuel st ds last).2 ∧
      NoLib (runForms fuel st ds last).2.rlocs :=
  runForms_inv_mem (P := fun st => LocsIn (T ++ ds.flatMap (fun d => locs d)) st ∧ NoLib st.rlocs) ds st last
    (fun _ d hd h => ⟨fun l hl => (List.mem_append.1 ((ProgLoc.evalForm_loc (Prod.eta _).symm).1 hl)).elim (h.1 l)
      fun hl => List.mem_append_right _ (List.mem_flatMap.2 ⟨d, hd, hl⟩), evalForm_noLib h.2⟩)
    ⟨fun l hl => List.mem_append_left _ (hT l hl), hN⟩

/-! ## a whole program text -/

/-- the positions the lexer gives to the tokens of the form that follows `pre` -/
def formTokLocs (pre : List Statement) (s : Statement) (layout : List (List Char)) : List Pos :=
  tokLocs (locate (stmtToks s) (layout.drop (programToks pre).length)
    (advs (textThrough (programToks pre) layout) (1, 1)))

theorem formTokLocs_within (pre post : List Statement) (s : Statement) (layout : List (List Char))
    (hs : ∀ t ∈ stmtToks s, SupportedTok t) :
    ∀ l ∈ formTokLocs pre s layout, Within (extent (pre ++ s :: post) layout pre.length) l := by
  intro l hl
  rw [extent_at]
  exact locate_within _ _ _ hs l hl

/-- how the text of `pre ++ s :: post` fails when `pre` succeeds (leaving `st₁`) and `s` fails (leaving `st₂`): it is
the failure, at a position `l`, of the statement `s'` made from the datum `d` read for form `|pre|`, in `st₁'`;
the primed are the unprimed up to locations -/
structure FailsAt (fuel : Nat) (st st₁ st₂ : State) (pre : List Statement) (s : Statement)
    (post : List Statement) (e : Err) (layout : List (List Char))
    (d : Datum) (s' : Statement) (st₁' : State) (l : Pos) (st₂' : State) : Prop where
  run : evalText fuel st (programText (pre ++ s :: post) layout) = (.error (e, some l), st₂')
  state : st₂'.unloc = st₂.unloc
  made : toStatement (xformFuel d) d st.syn = (.ok s', st.syn)
  same : s'.unloc = s.unloc
  before : st₁'.unloc = st₁.unloc
  fails : evalAst fuel st₁' s' = (.error (e, some l), st₂')
  form_locs : ∀ q ∈ locs d, q ∈ formTokLocs pre s layout
  state_locs : ∀ q ∈ locs st₁', q ∈ tokLocs (locate (programToks pre) layout (1, 1))
  noLib : NoLib st₁'.rlocs

theorem text_fails_at (fuel : Nat) (st st₁ st₂ : State) (pre post : List Statement) (s : Statement)
    (v : Option Value) (e : Err) (loc : Loc) (layout : List (List Char))
    (hst : locs st = [])
    (hok : ∀ s' ∈ pre ++ s :: post, okStmt (C01More.macroOf st.syn) s')
    (hsup : ∀ s' ∈ pre ++ s :: post, SupportedD (printStmt s'))
    (hl : ValidLayout (programToks (pre ++ s :: post)) layout)
    (hpre : runStmts fuel st pre none = (.ok v, st₁)) (hfail : evalAst fuel st₁ s = (.error (e, loc), st₂)) :
    ∃ d s' st₁' l st₂', FailsAt fuel st st₁ st₂ pre s post e layout d s' st₁' l st₂' := by
  have hsup' := List.forall_mem_map.2 hsup
  obtain ⟨herr, hreads⟩ := formsText_readsAs st.syn _ _ layout (printsAs_printStmt st.syn _ hok) hsup' hl
  obtain ⟨-, hforms⟩ := formsOf_located _ layout hsup' hl
  have hsplit : ((pre ++ s :: post).map printStmt).map Syn.ofDatum =
      (pre.map printStmt).map Syn.ofDatum ++
        Syn.ofDatum (printStmt s) :: (post.map printStmt).map Syn.ofDatum := by simp
  rw [hsplit] at hforms
  obtain ⟨dpre, ds₂, hds, hf1, hf2⟩ := FormsIn_append _ _ _ _ _ hforms
  match ds₂, hf2 with
  | d :: dpost, hf2 =>
    obtain ⟨⟨-, hHL, hdl⟩, -⟩ := hf2
    rw [hds] at hreads
    obtain ⟨hr1, ⟨s', h1, h2⟩, -⟩ := readsAs_append st.syn dpre (d :: dpost) pre (s :: post)
      (by simpa using FormsIn_length _ _ _ _ hf1) hreads
    obtain ⟨v', st₁', g1, g2, g3⟩ := runForms_ok_of_readsAs hr1 rfl hpre
    have hp := runForms_locs (fuel := fuel) (T := []) dpre none (fun _ hl => by rw [hst] at hl; exact hl)
      (noLib_of_locs_nil hst)
    rw [g1] at hp
    rcases (evalAst_sameRun fuel h2 g2).cases with
      ⟨_, _, _, _, _, k2, _, _⟩ | ⟨_, loc', _, st₂', _, k1, k2, k4⟩ <;> cases hfail.symm.trans k2
    obtain ⟨l, rfl⟩ := Option.ne_none_iff_exists'.1
      (HLoc.evalAst_located k1 (HLoc.stmt_loc_some _ d hHL _ s' (by rw [h1])))
    refine ⟨d, s', st₁', l, st₂', ?_, k4, h1, h2, g2, k1, hdl, fun q hq => ?_, hp.2⟩
    · exact (evalText_of_read (text := programText (pre ++ s :: post) layout) herr).trans
        ((congrArg (runForms fuel st · none) hds).trans
          (runForms_stops dpost g1 ((evalForm_ok (g3 ▸ h1)).trans k1)))
    · obtain ⟨d', hd', hl'⟩ := List.mem_flatMap.1 (hp.1 q hq)
      exact FormsIn_locs _ _ _ _ hf1 d' hd' q hl'

/-! ## a failing expression or definition; a bare identifier -/

theorem evalAst_unbound_sym (n : Nat) (st : State) (x : String) (loc : Loc)
    (h : st.store.lookup st.env x = none) :
    ∃ st', evalAst (n + 1) st (.expr (.sym x loc)) = (.error (.unbound, loc), st') := by
  rw [evalAst_expr, show Eval.evalExpr (n + 1) st.store st.env (.sym x loc) = (.error (.unbound, loc), st.store) by
    simp [Eval.evalExpr, h]]
  exact ⟨_, by cases loc <;> rfl⟩

theorem stmtToks_sym (x : String) (loc : Loc) : stmtToks (.expr (.sym x loc)) = [.ident x] := rfl

theorem formTokLocs_sym (pre post : List Statement) (x : String) (loc : Loc) (layout : List (List Char)) :
    formTokLocs pre (.expr (.sym x loc)) layout =
      [(extent (pre ++ .expr (.sym x loc) :: post) layout pre.length).2] := by
  rw [extent_at]
  simp only [formTokLocs, stmtToks_sym, locate, tokLocs, textThrough, List.flatMap_cons, List.flatMap_nil,
    Option.toList_some, List.append_nil, advs_append]

theorem lookup_none_of_unloc {st st' : State} (hu : st'.unloc = st.unloc) {x : String}
    (h : st.store.lookup st.env x = none) : st'.store.lookup st'.env x = none := by
  have := congrArg (fun s : State => s.store.lookup s.env x) hu
  simpa [h] using this

end Ruschm.TextExtent
