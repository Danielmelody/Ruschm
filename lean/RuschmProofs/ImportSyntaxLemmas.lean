/-
For `C12More.lean`. The parsers of import sets, library names and export specs (`RuschmModel/Xform.lean`)
never touch the syntax environment (`XM.StateFree`), so they are pure functions into `Except SErr` (`parseP`,
`pairP`, `libNameP`). What the model's parsers accept and how they fail is one Hoare triple each
(`toImportSet_sat`, `pairX_sat`); that what has the shape is parsed goes by the step equation `parseP_succ`
of the pure function.
-/
import RuschmSpec.ImportSyntax
import RuschmProofs.XformInduction

namespace Ruschm.ImportSyntax
open Ruschm Xform

/-! ## the transformer monad: the equations of `XformEquations.lean`, under the names used here -/

theorem bind_def {α β} (m : XM α) (f : α → XM β) (s : SynEnv) :
    (m >>= f) s = match m s with
      | (.ok a, s') => f a s'
      | (.error e, s') => (.error e, s') := XM.bind_def m f s
theorem pure_def {α} (a : α) (s : SynEnv) : (pure a : XM α) s = (.ok a, s) := XM.pure_def a s

theorem need_some {α} (a : α) : need (some a) = pure a := rfl
theorem need_none {α} : need (none : Option α) = Xform.fail (.syntax, none) := rfl

/-! ## data -/

theorem elems_nil (l : Loc) : (Datum.nil l).elems = [] := Datum.elems_nil l

theorem elems_lst (xs : List Datum) : (lst xs).elems = xs := Datum.elems_ofList none xs

theorem isListy_of_isList {d : Datum} (h : IsList d) : d.isListy = true := by
  cases d <;> first | rfl | exact h.elim

theorem isList_lst (xs : List Datum) : IsList (lst xs) := by
  cases xs <;> exact trivial

theorem expectList_isList {d : Datum} (h : IsList d) (s : SynEnv) : expectList d s = (.ok d, s) := by
  cases d <;> first | rfl | exact h.elim

theorem expectList_sat {I : SynEnv → Prop} {E : SErr → Prop} {d : Datum} (h : E (.syntax, none)) :
    XM.Sat I E (expectList d) (fun d' => IsList d ∧ d' = d) :=
  .lift (fun d' hd => by cases d <;> cases hd <;> exact ⟨trivial, rfl⟩)
    fun e he => by cases d <;> cases he <;> exact h

/-! ## the pure parsers -/

/-- `transform_library_name_part` -/
def partP (d : Datum) : Except SErr LibElem :=
  match d with
  | .sym s _ => .ok (.ident s)
  | .prim (.int i) l => if i ≥ 0 then .ok (.int i.toNat) else .error (.syntax, l)
  | other => .error (.syntax, other.loc)

def libNameP (ds : List Datum) : Except SErr LibName := ds.mapM partP

theorem toLibName_eq (ds : List Datum) (s : SynEnv) : toLibName ds s = (libNameP ds, s) := by
  unfold toLibName libNameP
  apply mapM_lift
  intro d _
  cases d with
  | sym x l => rfl
  | prim p l =>
    cases p <;> try rfl
    simp only [partP]; split <;> rfl
  | _ => rfl

theorem identOf_eq (d : Datum) (s : SynEnv) : Xform.identOf d s = (Macro.identOf d, s) := rfl

theorem mapM_identOf_eq (ds : List Datum) (s : SynEnv) :
    ds.mapM Xform.identOf s = (ds.mapM Macro.identOf, s) :=
  mapM_lift ds (fun d _ => identOf_eq d s)

/-- `transform_identifier_pair` -/
def pairX (pd : Datum) : XM (String × String) := do
  let pd ← expectList pd
  let a ← need pd.elems.head?
  let a ← identOf a
  let b ← need (pd.elems.drop 1).head?
  let b ← identOf b
  pure (a, b)

theorem pairX_stateFree (pd : Datum) : XM.StateFree (pairX pd) :=
  have b := XM.StateFree.basic
  b.bind (b.elist _) fun _ => b.bind (b.need _) fun _ => b.bind (b.ident _) fun _ =>
    b.bind (b.need _) fun _ => b.bind (b.ident _) fun _ => b.pure _

def pairP (pd : Datum) : Except SErr (String × String) := (pairX pd).run₀

theorem pairX_eq (pd : Datum) (s : SynEnv) : pairX pd s = (pairP pd, s) := pairX_stateFree pd s

theorem pairX_sat (pd : Datum) :
    XM.Sat (fun _ => True) (fun e => e.1 = .syntax) (pairX pd) (PairOf false pd) :=
  .bind (expectList_sat rfl) fun pd' hd => by
    obtain ⟨hl, rfl⟩ := hd
    refine .bind (.need rfl) fun a ha => .bind (identOf_sat rfl) fun x hx =>
      .bind (.need rfl) fun b hb => .bind (identOf_sat rfl) fun y hy => .pure ?_
    obtain ⟨la, rfl⟩ := hx
    obtain ⟨lb, rfl⟩ := hy
    match h : pd'.elems, ha, hb with
    | _ :: _ :: junk, ha, hb => cases ha; cases hb; exact ⟨hl, la, lb, junk, h, nofun⟩

/-- the part common to the four operators: the next element is the inner set -/
def subP (rec : Datum → Except SErr ImportSet) (r : List Datum)
    (k : ImportSet → List Datum → Except SErr ImportSet) : Except SErr ImportSet :=
  match r with
  | [] => .error (.syntax, none)
  | sd :: rest =>
    match rec sd with
    | .error e => .error e
    | .ok t => k t rest

/-- `only` and `except`: the rest are identifiers -/
def idsK (c : ImportSet → List String → ImportSet) (t : ImportSet) (rest : List Datum) : Except SErr ImportSet :=
  match rest.mapM Macro.identOf with | .ok ids => .ok (c t ids) | .error e => .error e

def prefixK (t : ImportSet) (rest : List Datum) : Except SErr ImportSet :=
  match rest with
  | [] => .error (.syntax, none)
  | p :: _ => match Macro.identOf p with | .ok p => .ok (.prefix t p) | .error e => .error e
def renameK (t : ImportSet) (rest : List Datum) : Except SErr ImportSet :=
  match rest.mapM pairP with | .ok ps => .ok (.rename t ps) | .error e => .error e

def elemsP (rec : Datum → Except SErr ImportSet) (es : List Datum) : Except SErr ImportSet :=
  match es with
  | [] => .error (.syntax, none)
  | .sym spec loc :: r =>
    if spec = "only" then subP rec r (idsK .only)
    else if spec = "except" then subP rec r (idsK .except)
    else if spec = "prefix" then subP rec r prefixK
    else if spec = "rename" then subP rec r renameK
    else match libNameP (.sym spec loc :: r) with
      | .ok n => .ok (.direct n loc)
      | .error e => .error e
  | other :: _ => .error (.syntax, other.loc)

/-- the body of `transform_import_set` as a pure function -/
def stepP (rec : Datum → Except SErr ImportSet) (d : Datum) : Except SErr ImportSet :=
  match d with
  | .pair .. | .nil _ => elemsP rec d.elems
  | _ => .error (.syntax, none)

theorem stepP_of_isList {rec d} (h : IsList d) : stepP rec d = elemsP rec d.elems := by
  cases d <;> first | rfl | exact h.elim

theorem stepP_not_isList {rec d} (h : ¬ IsList d) : stepP rec d = .error (.syntax, none) := by
  cases d <;> first | rfl | exact (h trivial).elim

theorem ite_run {α} {c : Prop} [Decidable c] {a b : XM α} {x y : Except SErr α} {s : SynEnv}
    (h₁ : a s = (x, s)) (h₂ : b s = (y, s)) : (if c then a else b) s = (if c then x else y, s) := by
  split <;> assumption

/-- `transform_import_set` as a pure function (with the model's recursion bound) -/
def parseP (fuel : Nat) (d : Datum) : Except SErr ImportSet := (toImportSet fuel d).run₀

theorem toImportSet_eq (fuel : Nat) (d : Datum) (s : SynEnv) : toImportSet fuel d s = (parseP fuel d, s) :=
  toImportSet_stateFree fuel d s

theorem toImportSet_run_iff {fuel : Nat} {d : Datum} {s s' : SynEnv} {r : Except SErr ImportSet} :
    toImportSet fuel d s = (r, s') ↔ parseP fuel d = r ∧ s' = s :=
  (toImportSet_stateFree fuel d).run_iff

theorem parseP_succ (fuel : Nat) (d : Datum) : parseP (fuel + 1) d = stepP (parseP fuel) d := by
  suffices h : toImportSet (fuel + 1) d [] = (stepP (parseP fuel) d, []) from congrArg Prod.fst h
  by_cases hd : IsList d
  · rw [stepP_of_isList hd, toImportSet]
    simp only [bind_def, expectList_isList hd]
    cases d.elems with
    | nil => rfl
    | cons first r =>
      simp only [List.head?_cons, need_some, pure_def, identOf_eq, List.drop_succ_cons, List.drop_zero]
      cases first with
      | sym spec loc =>
        simp only [Macro.identOf, elemsP]
        have hsub : ∀ (k : ImportSet → List Datum → XM ImportSet)
            (kP : ImportSet → List Datum → Except SErr ImportSet),
            (∀ t rest, k t rest [] = (kP t rest, [])) →
            (do let x ← need r.head?
                let t ← toImportSet fuel x
                k t (r.drop 1)) [] = (subP (parseP fuel) r kP, []) := by
          intro k kP hk
          cases r with
          | nil => rfl
          | cons sd rest =>
            simp only [List.head?_cons, need_some, bind_def, pure_def, toImportSet_eq, subP, List.drop_succ_cons,
              List.drop_zero]
            cases parseP fuel sd with
            | error e => rfl
            | ok t => exact hk t rest
        have hids : ∀ (c : ImportSet → List String → ImportSet) t rest,
            (do let ids ← rest.mapM identOf; pure (c t ids) : XM ImportSet) [] = (idsK c t rest, []) := fun c t rest => by
          simp only [bind_def, mapM_identOf_eq, idsK]
          cases List.mapM Macro.identOf rest <;> rfl
        refine ite_run (hsub _ _ (hids .only)) (ite_run (hsub _ _ (hids .except))
          (ite_run (hsub (fun t rest => do let p ← need rest.head?; let p ← identOf p; pure (.prefix t p)) prefixK
            fun t rest => ?_)
          (ite_run (hsub (fun t rest => do let ps ← rest.mapM pairX; pure (.rename t ps)) renameK fun t rest => ?_) ?_)))
        · cases rest with
          | nil => rfl
          | cons p rest' =>
            simp only [List.head?_cons, need_some, bind_def, pure_def, identOf_eq, prefixK]
            cases Macro.identOf p <;> rfl
        · simp only [bind_def, mapM_lift rest (fun pd _ => pairX_eq pd []), renameK]
          cases List.mapM pairP rest <;> rfl
        · simp only [bind_def, toLibName_eq, Datum.loc]
          cases libNameP (Datum.sym spec loc :: r) <;> rfl
      | _ => rfl
  · rw [stepP_not_isList hd, toImportSet]
    cases d <;> first | rfl | exact (hd trivial).elim

/-! ## the pure parsers and the shapes -/

theorem mapM_ok_iff_all2 {α β} {g : α → Except SErr β} {R : α → β → Prop} (hg : ∀ a b, g a = .ok b ↔ R a b) :
    ∀ (l : List α) (bs : List β), l.mapM g = .ok bs ↔ All2 R l bs
  | [], [] => ⟨fun _ => trivial, fun _ => rfl⟩
  | [], b :: bs => ⟨nofun, False.elim⟩
  | a :: l, [] => by rw [mapM_cons_ok_iff]; exact ⟨nofun, False.elim⟩
  | a :: l, b :: bs => by
    rw [mapM_cons_ok_iff, All2, ← hg a b, ← mapM_ok_iff_all2 hg l bs]
    exact ⟨fun ⟨_, _, h1, h2, e⟩ => by cases e; exact ⟨h1, h2⟩, fun ⟨h1, h2⟩ => ⟨b, bs, h1, h2, rfl⟩⟩

theorem idents_iff (ds : List Datum) (ids : List String) :
    ds.mapM Macro.identOf = .ok ids ↔ Idents ds ids := mapM_ok_iff_all2 Macro.identOf_ok_iff ds ids

theorem partP_ok_iff (d : Datum) (e : LibElem) : partP d = .ok e ↔ PartOf d e := by
  cases d with
  | sym s l => cases e <;> simp [partP, PartOf, eq_comm]
  | prim p l =>
    cases p with
    | int i => cases i <;> cases e <;> simp [partP, PartOf, eq_comm, Int.ofNat_inj]
    | _ => simp [partP, PartOf]
  | _ => simp [partP, PartOf]

theorem libNameP_ok_iff (ds : List Datum) (n : LibName) : libNameP ds = .ok n ↔ All2 PartOf ds n :=
  mapM_ok_iff_all2 partP_ok_iff ds n

theorem pairP_ok_iff (pd : Datum) (p : String × String) : pairP pd = .ok p ↔ PairOf false pd p := by
  refine ⟨(pairX_sat pd [] trivial).ok p, fun ⟨hl, la, lb, junk, he, _⟩ => ?_⟩
  show (pairX pd []).1 = .ok p
  simp only [pairX, bind_def, expectList_isList hl, he, List.head?_cons, need_some, pure_def, List.drop_succ_cons,
    List.drop_zero]
  rfl

theorem pairs_iff (ds : List Datum) (ps : List (String × String)) :
    ds.mapM pairP = .ok ps ↔ All2 (PairOf false) ds ps := mapM_ok_iff_all2 pairP_ok_iff ds ps

theorem all2_mono {α β} {R R' : α → β → Prop} (h : ∀ a b, R a b → R' a b) :
    ∀ (l : List α) (bs : List β), All2 R l bs → All2 R' l bs
  | [], [], _ => trivial
  | [], _ :: _, h' => h'.elim
  | _ :: _, [], h' => h'.elim
  | a :: l, b :: bs, h' => ⟨h a b h'.1, all2_mono h l bs h'.2⟩

theorem all2_map_eq {α β γ} {R : α → β → Prop} {f : α → γ} {g : β → γ} (h : ∀ a b, R a b → f a = g b) :
    ∀ (l : List α) (bs : List β), All2 R l bs → l.map f = bs.map g
  | [], [], _ => rfl
  | [], _ :: _, h' => h'.elim
  | _ :: _, [], h' => h'.elim
  | a :: l, b :: bs, h' => by rw [List.map_cons, List.map_cons, h a b h'.1, all2_map_eq h l bs h'.2]

theorem all2_map_self {α β} {R : α → β → Prop} {g : β → α} (h : ∀ b, R (g b) b) :
    ∀ bs : List β, All2 R (bs.map g) bs
  | [] => trivial
  | b :: bs => ⟨h b, all2_map_self h bs⟩

theorem pairOf_mono {b : Bool} {pd p} (h : PairOf b pd p) : PairOf false pd p := by
  obtain ⟨h1, la, lb, junk, h2, _⟩ := h
  exact ⟨h1, la, lb, junk, h2, nofun⟩

theorem Accepts.mono {b : Bool} {d t} (h : Accepts b d t) : Accepts false d t := by
  induction h with
  | direct h1 h2 h3 h4 h5 => exact .direct h1 h2 h3 h4 nofun
  | only h1 h2 _ h4 h5 ih => exact .only h1 h2 ih h4 nofun
  | except h1 h2 _ h4 h5 ih => exact .except h1 h2 ih h4 nofun
  | «prefix» h1 h2 _ h4 ih => exact .prefix h1 h2 ih nofun
  | rename h1 h2 _ h4 h5 ih =>
    exact .rename h1 h2 ih (all2_mono (fun _ _ => pairOf_mono) _ _ h4) nofun

theorem Accepts.wf {b : Bool} {d t} (h : Accepts b d t) : WF t := by
  induction h with
  | @direct d s l rest n h1 h2 h3 h4 h5 =>
    rw [h2] at h4
    cases n with
    | nil => exact h4.elim
    | cons e n' =>
      obtain ⟨h6, _⟩ := h4
      rcases h6 with ⟨s', l', e1, rfl⟩ | ⟨n'', l', e1, _⟩
      · cases e1; exact ⟨s, n', rfl, h3⟩
      · cases e1
  | only _ _ _ _ _ ih | except _ _ _ _ _ ih | rename _ _ _ _ _ ih | «prefix» _ _ _ _ ih => exact ih

theorem not_kw {s : String} (h : s ∉ keywords) : s ≠ "only" ∧ s ≠ "except" ∧ s ≠ "prefix" ∧ s ≠ "rename" := by
  simp only [keywords, List.mem_cons, List.not_mem_nil, or_false, not_or] at h
  exact h

theorem parseP_of_accepts {d t} (h : Accepts false d t) : ∀ fuel, S.depth t < fuel → parseP fuel d = .ok t := by
  induction h with (intro fuel hf; obtain ⟨fuel, rfl⟩ := Nat.exists_eq_add_one.2 (Nat.zero_lt_of_lt hf))
  | @direct d s l rest n h1 h2 h3 h4 h5 =>
    obtain ⟨k1, k2, k3, k4⟩ := not_kw h3
    rw [parseP_succ, stepP_of_isList h1, h2, elemsP, if_neg k1, if_neg k2, if_neg k3, if_neg k4, ← h2,
      (libNameP_ok_iff _ _).2 h4]
  | @only d l sd rest t ids h1 h2 _ h4 h5 ih =>
    rw [parseP_succ, stepP_of_isList h1, h2, elemsP, if_pos rfl, subP, ih fuel (Nat.lt_of_succ_lt_succ hf)]
    simp only [idsK, (idents_iff _ _).2 h4]
  | @except d l sd rest t ids h1 h2 _ h4 h5 ih =>
    rw [parseP_succ, stepP_of_isList h1, h2, elemsP, if_neg (by decide), if_pos rfl, subP,
      ih fuel (Nat.lt_of_succ_lt_succ hf)]
    simp only [idsK, (idents_iff _ _).2 h4]
  | @«prefix» d l sd p lp junk t h1 h2 _ h4 ih =>
    rw [parseP_succ, stepP_of_isList h1, h2, elemsP, if_neg (by decide), if_neg (by decide), if_pos rfl, subP,
      ih fuel (Nat.lt_of_succ_lt_succ hf)]
    rfl
  | @rename d l sd rest t ps h1 h2 _ h4 h5 ih =>
    rw [parseP_succ, stepP_of_isList h1, h2, elemsP, if_neg (by decide), if_neg (by decide), if_neg (by decide),
      if_pos rfl, subP, ih fuel (Nat.lt_of_succ_lt_succ hf)]
    simp only [renameK, (pairs_iff _ _).2 h4]

/-! ## rendered data have the strict shape -/

theorem idents_syms (ids : List String) : Idents (ids.map sym) ids := all2_map_self (fun _ => ⟨none, rfl⟩) ids

theorem parts_render (n : LibName) : All2 PartOf (n.map renderElem) n :=
  all2_map_self (fun e => match e with
    | .ident s => .inl ⟨s, none, rfl, rfl⟩
    | .int k => .inr ⟨k, none, rfl, rfl⟩) n

theorem pairs_render (ps : List (String × String)) : All2 (PairOf true) (ps.map renderPair) ps :=
  all2_map_self (fun _ => ⟨trivial, none, none, [], rfl, fun _ => ⟨rfl, rfl⟩⟩) ps

theorem spine_lst (xs : List Datum) : (lst xs).spine.2 = none := by
  simp only [lst, Datum.spine_ofList]

theorem accepts_render : ∀ t : ImportSet, WF t → Accepts true (renderSet t) t.unloc
  | .direct n l, h => by
    obtain ⟨s, rest, rfl, hs⟩ := h
    exact .direct (isList_lst _) (elems_lst _) hs (by show All2 PartOf (lst _).elems _; rw [elems_lst]; exact parts_render _)
      (fun _ => spine_lst _)
  | .only t ids, h =>
    .only (isList_lst _) (elems_lst _) (accepts_render t h) (idents_syms ids) (fun _ => spine_lst _)
  | .except t ids, h =>
    .except (isList_lst _) (elems_lst _) (accepts_render t h) (idents_syms ids) (fun _ => spine_lst _)
  | .prefix t p, h =>
    .prefix (isList_lst _) (elems_lst _) (accepts_render t h) (fun _ => ⟨rfl, spine_lst _⟩)
  | .rename t ps, h =>
    .rename (isList_lst _) (elems_lst _) (accepts_render t h) (pairs_render ps) (fun _ => spine_lst _)

theorem depth_unloc (t : ImportSet) : S.depth t.unloc = S.depth t := by
  induction t <;> simp only [ImportSet.unloc, S.depth, *]

theorem fuelNeeded_unloc (t : ImportSet) : S.fuelNeeded t.unloc = S.fuelNeeded t := by
  induction t <;> simp only [ImportSet.unloc, S.fuelNeeded, *]

theorem leaf_unloc (t : ImportSet) : S.leaf t.unloc = S.leaf t := by
  induction t <;> simp only [ImportSet.unloc, S.leaf, *]

theorem denote_unloc (t : ImportSet) (ex) : S.denote t.unloc ex = S.denote t ex := by
  induction t <;> simp only [ImportSet.unloc, S.denote, *]

theorem wf_unloc (t : ImportSet) : WF t.unloc ↔ WF t := by
  induction t <;> simp only [ImportSet.unloc, WF, *]

theorem unloc_unloc : ∀ t : ImportSet, t.unloc.unloc = t.unloc := by
  intro t; induction t <;> simp only [ImportSet.unloc, *]

theorem renderSet_unloc (t : ImportSet) : renderSet t.unloc = renderSet t := by
  induction t <;> simp only [ImportSet.unloc, renderSet, *]


/-! ## the strict shape is the rendering -/

theorem strip_proper : ∀ d : Datum, d.spine.2 = none → d.strip = lst (d.elems.map Datum.strip)
  | .nil l, _ => rfl
  | .pair a b l, h => by
    rw [Datum.spine_pair_snd] at h
    rw [Datum.elems_pair, Datum.strip, strip_proper b h]
    rfl
  | .prim _ _, h | .sym _ _, h | .vec _ _, h => nomatch h

theorem idents_strip (ds : List Datum) (ids : List String) (h : Idents ds ids) : ds.map Datum.strip = ids.map sym :=
  all2_map_eq (fun _ _ ⟨_, hd⟩ => hd ▸ rfl) ds ids h

theorem parts_strip (ds : List Datum) (n : LibName) (h : All2 PartOf ds n) : ds.map Datum.strip = n.map renderElem :=
  all2_map_eq (fun _ _ hd => by rcases hd with ⟨s, l, rfl, rfl⟩ | ⟨k, l, rfl, rfl⟩ <;> rfl) ds n h

theorem pairs_strip (ds : List Datum) (ps : List (String × String)) (h : All2 (PairOf true) ds ps) :
    ds.map Datum.strip = ps.map renderPair :=
  all2_map_eq (fun d _ ⟨h1, la, lb, junk, h2, h3⟩ => by
    obtain ⟨rfl, h4⟩ := h3 rfl
    rw [strip_proper d h4, h2]; rfl) ds ps h

theorem strip_of_accepts_strict {d t} (h : Accepts true d t) : d.strip = renderSet t.unloc := by
  induction h with
  | @direct d s l rest n h1 h2 h3 h4 h5 =>
    rw [strip_proper d (h5 rfl), parts_strip _ _ h4]; rfl
  | @only d l sd rest t ids h1 h2 _ h4 h5 ih | @except d l sd rest t ids h1 h2 _ h4 h5 ih =>
    rw [strip_proper d (h5 rfl), h2]
    simp only [List.map_cons, ih, idents_strip _ _ h4]; rfl
  | @«prefix» d l sd p lp junk t h1 h2 _ h4 ih =>
    obtain ⟨rfl, h5⟩ := h4 rfl
    rw [strip_proper d h5, h2]
    simp only [List.map_cons, ih]; rfl
  | @rename d l sd rest t ps h1 h2 _ h4 h5 ih =>
    rw [strip_proper d (h5 rfl), h2]
    simp only [List.map_cons, ih, pairs_strip _ _ h4]; rfl

/-! ## sizes and fuel -/

theorem depth_lt_size {b : Bool} {d t} (h : Accepts b d t) : S.depth t < d.size := by
  induction h with
  | direct => exact Datum.size_pos _
  | @only d _ sd _ _ _ h1 h2 _ _ _ ih | @except d _ sd _ _ _ h1 h2 _ _ _ ih | @rename d _ sd _ _ _ h1 h2 _ _ _ ih
  | @«prefix» d _ sd _ _ _ _ h1 h2 _ _ ih =>
    have := Datum.size_lt_of_mem_elems (x := sd) (isListy_of_isList h1) (by rw [h2]; simp); simp only [S.depth]; omega

theorem partP_error {d : Datum} {e : SErr} (h : partP d = .error e) : e = (.syntax, d.loc) := by
  cases d with
  | prim p l =>
    cases p <;> simp only [partP] at h <;> try (cases h; rfl)
    split at h <;> cases h; rfl
  | sym _ _ => cases h
  | _ => cases h; rfl

theorem identOf_error_kind (d : Datum) (e : SErr) (h : Macro.identOf d = .error e) : e.1 = .syntax :=
  Macro.identOf_error h ▸ rfl

theorem partP_error_kind (d : Datum) (e : SErr) (h : partP d = .error e) : e.1 = .syntax :=
  partP_error h ▸ rfl

theorem pairP_error_kind (pd : Datum) (e : SErr) (h : pairP pd = .error e) : e.1 = .syntax :=
  (pairX_sat pd [] trivial).err e h

/-! ## the parser of import sets against the shapes -/

theorem toImportSet_sat : ∀ (fuel : Nat) (d : Datum),
    XM.Sat (fun _ => True) (fun e => e.1 = .syntax ∨ (e.1 = .fuel ∧ fuel < d.size)) (toImportSet fuel d)
      (Accepts false d)
  | 0, d => by rw [toImportSet]; exact .fail (.inr ⟨rfl, d.size_pos⟩)
  | fuel + 1, d => by
    rw [toImportSet]
    have hS : ∀ l, (fun e : SErr => e.1 = .syntax ∨ (e.1 = .fuel ∧ fuel + 1 < d.size)) (.syntax, l) :=
      fun _ => .inl rfl
    refine .bind (expectList_sat (hS none)) fun d' hd => ?_
    obtain ⟨hl, rfl⟩ := hd
    refine .bind (.need (hS none)) fun first hfirst => ?_
    refine .bind (identOf_sat (hS _)) fun spec hspec => ?_
    obtain ⟨loc, rfl⟩ := hspec
    obtain ⟨r, he⟩ := List.head?_eq_some_iff.1 hfirst
    simp only [he, List.drop_succ_cons, List.drop_zero, Datum.loc]
    have hcons : ∀ {sd}, r.head? = some sd → d'.elems = .sym spec loc :: sd :: r.drop 1 ∧ sd.size < d'.size :=
      fun {sd} h => by
        obtain ⟨r', rfl⟩ := List.head?_eq_some_iff.1 h
        exact ⟨he, Datum.size_lt_of_mem_elems (isListy_of_isList hl) (by rw [he]; simp)⟩
    -- the inner set, then what the operator does with it
    have sub : ∀ {Q : ImportSet → ImportSet → Prop} (k : ImportSet → XM ImportSet),
        (∀ t', XM.Sat (fun _ => True) (fun e => e.1 = .syntax ∨ (e.1 = .fuel ∧ fuel + 1 < d'.size)) (k t') (Q t')) →
        XM.Sat (fun _ => True) (fun e => e.1 = .syntax ∨ (e.1 = .fuel ∧ fuel + 1 < d'.size))
          (do let s ← need r.head?; let s ← toImportSet fuel s; k s)
          (fun t => ∃ sd t', d'.elems = .sym spec loc :: sd :: r.drop 1 ∧ Accepts false sd t' ∧ Q t' t) :=
      fun k hk => .bind (.need (hS none)) fun sd hsd =>
        .bind ((toImportSet_sat fuel sd).weakenE fun e h => h.imp id fun h' =>
          ⟨h'.1, by have := (hcons hsd).2; omega⟩) fun t' ht' =>
            (hk t').weaken fun t hq => ⟨sd, t', (hcons hsd).1, ht', hq⟩
    have ids : ∀ (c : ImportSet → List String → ImportSet) (t' : ImportSet),
        XM.Sat (fun _ => True) (fun e => e.1 = .syntax ∨ (e.1 = .fuel ∧ fuel + 1 < d'.size))
          (do let ids ← (r.drop 1).mapM identOf; pure (c t' ids))
          (fun t => ∃ ids, Idents (r.drop 1) ids ∧ t = c t' ids) :=
      fun c t' => .bind (.of_run (mapM_identOf_eq _) (fun _ h => (idents_iff _ _).1 h)
        fun e h => .inl (mapM_error_of identOf_error_kind h)) fun ids hids => .pure ⟨ids, hids, rfl⟩
    refine ite_cases (P := fun m => XM.Sat _ _ m _) _ (fun hs => ?_) fun k1 =>
      ite_cases (P := fun m => XM.Sat _ _ m _) _ (fun hs => ?_) fun k2 =>
      ite_cases (P := fun m => XM.Sat _ _ m _) _ (fun hs => ?_) fun k3 =>
      ite_cases (P := fun m => XM.Sat _ _ m _) _ (fun hs => ?_) fun k4 => ?_
    · subst hs
      exact (sub _ (ids .only)).weaken fun t ⟨sd, t', e, hacc, ids, hids, ht⟩ =>
        ht ▸ .only hl e hacc hids nofun
    · subst hs
      exact (sub _ (ids .except)).weaken fun t ⟨sd, t', e, hacc, ids, hids, ht⟩ =>
        ht ▸ .except hl e hacc hids nofun
    · subst hs
      refine (sub (Q := fun t' t => ∃ p lp junk, r.drop 1 = .sym p lp :: junk ∧ t = .prefix t' p) _ fun t' =>
        .bind (.need (hS none)) fun pd hpd => .bind (identOf_sat (hS _)) fun p hp => .pure ?_).weaken
          fun t ⟨sd, t', e, hacc, p, lp, junk, hj, ht⟩ => ht ▸ .prefix hl (hj ▸ e) hacc nofun
      obtain ⟨lp, rfl⟩ := hp
      obtain ⟨junk, hj⟩ := List.head?_eq_some_iff.1 hpd
      exact ⟨p, lp, junk, hj, rfl⟩
    · subst hs
      exact (sub (Q := fun t' t => ∃ ps, All2 (PairOf false) (r.drop 1) ps ∧ t = .rename t' ps) _ fun t' =>
        .bind (.of_run (fun s => mapM_lift _ fun pd _ => pairX_eq pd s) (fun _ h => (pairs_iff _ _).1 h)
          fun e h => .inl (mapM_error_of pairP_error_kind h)) fun ps hps => .pure ⟨ps, hps, rfl⟩).weaken
          fun t ⟨sd, t', e, hacc, ps, hps, ht⟩ => ht ▸ .rename hl e hacc hps nofun
    · refine .bind (.of_run (toLibName_eq _) (fun n h => (libNameP_ok_iff _ _).1 h)
        fun e h => .inl (mapM_error_of partP_error_kind h)) fun n hn => .pure ?_
      refine .direct hl he ?_ (he ▸ hn) nofun
      simp only [keywords, List.mem_cons, List.not_mem_nil, or_false, not_or]
      exact ⟨k1, k2, k3, k4⟩

theorem accepts_of_parseP (fuel : Nat) (d : Datum) (t : ImportSet) (h : parseP fuel d = .ok t) : Accepts false d t :=
  (toImportSet_sat fuel d [] trivial).ok t h

theorem parseP_error (fuel : Nat) (d : Datum) (e : SErr) (h : parseP fuel d = .error e) :
    e.1 = .syntax ∨ (e.1 = .fuel ∧ fuel < d.size) :=
  (toImportSet_sat fuel d [] trivial).err e h


/-! ## declarations -/

theorem popProper_lst (x : Datum) (xs : List Datum) :
    Macro.popProper (lst (x :: xs)) = .ok (some (x, Datum.ofList none xs)) := by
  cases xs <;> rfl

theorem exportRename_sat (es : List Datum) (l : Loc) :
    XM.Yields (exportRename es l) fun e =>
      ∃ lr a la b lb junk, es = .sym "rename" lr :: .sym a la :: .sym b lb :: junk ∧ e = .rename a b l := by
  refine .bind (.need trivial) fun x hx =>
    ite_cases (P := fun m => XM.Sat _ _ m _) _ (fun hk => ?_) fun _ => .fail trivial
  refine .bind (.need trivial) fun a' ha => .bind (identOf_sat trivial) fun a hxa =>
    .bind (.need trivial) fun b' hb => .bind (identOf_sat trivial) fun b hxb => .pure ?_
  obtain ⟨la, rfl⟩ := hxa
  obtain ⟨lb, rfl⟩ := hxb
  match es, hx, ha, hb with
  | _ :: _ :: _ :: junk, hx, ha, hb =>
    cases hx; cases ha; cases hb
    unfold isRenameKw at hk
    split at hk
    · exact ⟨_, _, _, _, _, junk, rfl, rfl⟩
    · cases hk

theorem toExportSpec_render (e : ExportSpec) (s : SynEnv) : toExportSpec (renderExport e) s = (.ok e.unloc, s) := by
  cases e <;> rfl

theorem toStatement_import_eq (fuel : Nat) (li l : Loc) (rest : Datum) (h : IsList rest) (s : SynEnv) :
    toStatement (fuel + 1) (.pair (.sym "import" li) rest l) s =
      ((rest.elems.mapM (parseP fuel)).map (fun sets => Statement.importDecl sets l), s) := by
  rw [toStatement_form fuel (isListy_of_isList h) kwOf_import, formOf, bind_def,
    mapM_lift rest.elems (fun d _ => toImportSet_eq fuel d s)]
  cases List.mapM (parseP fuel) rest.elems <;> rfl

/-- inside a library, anything that is not an `export` or a `begin` is read as an import declaration -/
theorem toLibDecl_import_eq (fuel : Nat) (d first : Datum) (r : List Datum) (h : IsList d)
    (he : d.elems = first :: r) (h1 : ∀ l, first ≠ .sym "export" l) (h2 : ∀ l, first ≠ .sym "begin" l)
    (s : SynEnv) :
    toLibDecl (fuel + 1) d s = ((r.mapM (parseP fuel)).map LibDecl.importDecl, s) := by
  rw [toLibDecl]
  simp only [bind_def, expectList_isList h, he, List.head?_cons, need_some, pure_def, List.drop_succ_cons, List.drop_zero]
  simp only [mapM_lift r (fun d _ => toImportSet_eq fuel d s)]
  cases List.mapM (parseP fuel) r <;> rfl

theorem parseP_render {t : ImportSet} {fuel : Nat} (hwf : WF t) (hf : S.depth t < fuel) :
    parseP fuel (renderSet t) = .ok t.unloc :=
  parseP_of_accepts (accepts_render t hwf).mono fuel (by rw [depth_unloc]; exact hf)

theorem mapM_parseP_render (fuel : Nat) (sets : List ImportSet) (h : ∀ t ∈ sets, WF t ∧ S.depth t < fuel) :
    (sets.map renderSet).mapM (parseP fuel) = .ok (sets.map ImportSet.unloc) :=
  mapM_map_ok sets fun t ht => parseP_render (h t ht).1 (h t ht).2

theorem mapM_toExportSpec_render (specs : List ExportSpec) (s : SynEnv) :
    (specs.map renderExport).mapM toExportSpec s = (.ok (specs.map ExportSpec.unloc), s) := by
  rw [mapM_lift _ (fun d _ => toExportSpec_stateFree d s),
    mapM_map_ok (f := fun d => (toExportSpec d).run₀) (r := renderExport) (g := ExportSpec.unloc) specs
      fun e _ => congrArg Prod.fst (toExportSpec_render e [])]

theorem toLibDecl_export (fuel : Nat) (specs : List ExportSpec) (s : SynEnv) :
    toLibDecl (fuel + 1) (lst (sym "export" :: specs.map renderExport)) s =
      (.ok (.export (specs.map ExportSpec.unloc)), s) := by
  rw [toLibDecl]
  simp only [bind_def, expectList_isList (isList_lst _), elems_lst, List.head?_cons, need_some, pure_def,
    List.drop_succ_cons, List.drop_zero, sym, mapM_toExportSpec_render]

theorem toLibDecl_begin (fuel : Nat) (body : List Datum) (s : SynEnv) :
    toLibDecl (fuel + 1) (lst (sym "begin" :: body)) s =
      (do let b ← toStatements fuel body; pure (LibDecl.begin_ b)) s := by
  rw [toLibDecl]
  simp only [bind_def, expectList_isList (isList_lst _), elems_lst, List.head?_cons, need_some, pure_def,
    List.drop_succ_cons, List.drop_zero, sym]

theorem toLibDecl_render : ∀ (fuel : Nat) (x : DeclSyn), DeclOk (fuel - 1) x → ∀ s,
    toLibDecl fuel (renderDecl x) s = expectDecl fuel x s
  | 0, _, _, _ => by rw [toLibDecl]; rfl
  | fuel + 1, .importDecl sets, h, s => by
    rw [renderDecl, renderImport,
      toLibDecl_import_eq fuel _ (sym "import") (sets.map renderSet) (isList_lst _) (elems_lst _)
        (fun l => by simp [sym]) (fun l => by simp [sym]),
      mapM_parseP_render fuel sets h]
    rfl
  | fuel + 1, .export specs, _, s => toLibDecl_export fuel specs s
  | fuel + 1, .begin_ body, _, s => toLibDecl_begin fuel body s

theorem DeclOk.mono {k k' : Nat} {x : DeclSyn} (h : DeclOk k x) (hk : k ≤ k') : DeclOk k' x := by
  cases x with
  | importDecl sets => exact fun t ht => ⟨(h t ht).1, Nat.lt_of_lt_of_le (h t ht).2 hk⟩
  | _ => trivial

theorem toLibDecls_render (k : Nat) : ∀ (fuel : Nat) (decls : List DeclSyn), (∀ x ∈ decls, DeclOk k x) →
    k + decls.length + 1 ≤ fuel → ∀ s, toLibDecls fuel (decls.map renderDecl) s = expectDecls fuel decls s
  | 0, _, _, hf, _ => by omega
  | fuel + 1, [], _, _, s => by rw [List.map_nil, toLibDecls]; rfl
  | fuel + 1, x :: xs, h, hf, s => by
    simp only [List.length_cons] at hf
    rw [List.map_cons, toLibDecls, expectDecls]
    simp only [bind_def, toLibDecl_render fuel x ((h x (List.mem_cons_self ..)).mono (by omega))]
    generalize expectDecl fuel x s = y
    obtain ⟨r, s1⟩ := y
    cases r with
    | error e => rfl
    | ok a =>
      simp only [toLibDecls_render k fuel xs (fun y hy => h y (List.mem_cons_of_mem _ hy)) (by omega)]

theorem toLibName_render (n : LibName) (s : SynEnv) : toLibName (n.map renderElem) s = (.ok n, s) := by
  rw [toLibName_eq, (libNameP_ok_iff _ _).2 (parts_render n)]

theorem toStatement_library_eq (fuel : Nat) (name : LibName) (decls : List DeclSyn) (s : SynEnv) :
    toStatement (fuel + 2) (renderLibrary name decls) s =
      (do let ds ← toLibDecls fuel (decls.map renderDecl); pure (Statement.libraryDef name ds none)) s := by
  rw [renderLibrary, lst, Datum.ofList, sym, toStatement_form (fuel+1) (Datum.isListy_ofList ..) kwOf_define_library,
    formOf, Datum.elems_ofList, toLibrary]
  simp only [bind_def, List.head?_cons, need_some, pure_def, List.drop_succ_cons, List.drop_zero,
    expectList_isList (isList_lst _), renderName, elems_lst, toLibName_render]

theorem expectDecls_flat : ∀ (fuel : Nat) (decls : List DeclSyn) (s s' : SynEnv) (ds : List LibDecl),
    expectDecls fuel decls s = (.ok ds, s') →
    S.exportSpecs ds = (writtenExports decls).map ExportSpec.unloc ∧
    parsedImports ds = (writtenImports decls).map ImportSet.unloc ∧
    ds.length = decls.length
  | 0, _, _, _, _, h => by cases h
  | fuel + 1, [], s, s', ds, h => by cases h; exact ⟨rfl, rfl, rfl⟩
  | fuel + 1, x :: xs, s, s', ds, h => by
    rw [expectDecls] at h
    obtain ⟨a, s1, hx, h⟩ := XM.bind_eq_ok h
    obtain ⟨as, s2, hxs, h⟩ := XM.bind_eq_ok h
    cases h
    obtain ⟨i1, i2, i3⟩ := expectDecls_flat fuel xs s1 _ as hxs
    cases fuel with
    | zero => cases hx
    | succ f =>
      cases x with
      | importDecl _ | «export» _ =>
        cases hx
        simp only [S.exportSpecs, parsedImports, writtenExports, writtenImports, i1, i2, i3,
          List.map_append, List.length_cons, and_self]
      | begin_ body =>
        obtain ⟨b, s3, _, hx⟩ := XM.bind_eq_ok hx
        cases hx
        simp only [S.exportSpecs, parsedImports, writtenExports, writtenImports, i1, i2, i3,
          List.length_cons, and_self]

end Ruschm.ImportSyntax
