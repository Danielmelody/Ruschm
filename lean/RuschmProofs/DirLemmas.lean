/-
For C14Dir: the lookup directory (`State.dir`, the model of `program_directory` / the working directory) and
the file map keyed by directory-qualified paths. The loader and `Interpreter::eval` read `files` only at the
keys `fileKey st.dir (libPath n)`, so another file map with the same entries at those keys changes nothing but
the file map itself: an instance of `comm_run` (`unobservedTop_withFiles`, `evalText_irr`).
-/
import RuschmProofs.LibLemmas
import RuschmProofs.InterpTop

namespace Ruschm.Interp
open Ruschm

/-! ## `fileKey` -/

@[simp] theorem fileKey_empty (p : String) : fileKey "" p = p := by simp [fileKey]

theorem fileKey_ne {d : String} (h : d ≠ "") (p : String) : fileKey d p = d ++ "/" ++ p := by
  simp [fileKey, h]

/-! ## the empty program text -/

theorem evalText_empty (fuel : Nat) (st : State) : evalText fuel st [] = (.ok none, st) := by
  rw [evalText, evalText.go]
  simp [Read.ofText_nil, Read.nextDatum, Read.advance, Read.fuelFor, Read.currentDatum, bind, Except.bind]

/-! ## `files` is read only at the library paths of the current directory -/

@[reducible] def withFiles (fs : List (String × FileEntry)) (st : State) : State := { st with files := fs }

/-- the file map `fs` shows the same entry as the state's own at every library path of the
state's lookup directory -/
def SameView (st : State) (fs : List (String × FileEntry)) : Prop :=
  ∀ n : LibName, fs.lookup (fileKey st.dir (libPath n)) = st.files.lookup (fileKey st.dir (libPath n))

theorem SameView.congr {st st' : State} {fs} (h : SameView st fs) (hf : st'.files = st.files)
    (hd : st'.dir = st.dir) : SameView st' fs := by
  intro n; rw [hf, hd]; exact h n

/-- `comm_run` at `withFiles` for each of the seven functions by name; nothing builds it -/
structure IrrAt (fs : List (String × FileEntry)) (fuel : Nat) : Prop where
  importSet : ∀ {st s r st'}, evalImportSet fuel st s = (r, st') → SameView st fs →
    evalImportSet fuel (withFiles fs st) s = (r, withFiles fs st')
  getLibrary : ∀ {st name loc r st'}, getLibrary fuel st name loc = (r, st') → SameView st fs →
    Interp.getLibrary fuel (withFiles fs st) name loc = (r, withFiles fs st')
  import_ : ∀ {st sets ρ r st'}, evalImport fuel st sets ρ = (r, st') → SameView st fs →
    evalImport fuel (withFiles fs st) sets ρ = (r, withFiles fs st')
  importSets : ∀ {st sets acc r st'}, evalImportSets fuel st sets acc = (r, st') → SameView st fs →
    evalImportSets fuel (withFiles fs st) sets acc = (r, withFiles fs st')
  libraryDef : ∀ {st decls r st'}, evalLibraryDef fuel st decls = (r, st') → SameView st fs →
    evalLibraryDef fuel (withFiles fs st) decls = (r, withFiles fs st')
  libDecls : ∀ {st ρ decls acc r st'}, evalLibDecls fuel st ρ decls acc = (r, st') → SameView st fs →
    evalLibDecls fuel (withFiles fs st) ρ decls acc = (r, withFiles fs st')
  statements : ∀ {st ρ ss r st'}, evalStatements fuel st ρ ss = (r, st') → SameView st fs →
    evalStatements fuel (withFiles fs st) ρ ss = (r, withFiles fs st')

variable {fs : List (String × FileEntry)}

theorem unobservedTop_withFiles (fs : List (String × FileEntry)) :
    UnobservedTop (withFiles fs) id (SameView · fs) where
  base := {
    inProgress := fun _ => rfl
    instances := fun _ => rfl
    store := fun _ => rfl
    setInProgress := fun _ _ => rfl
    setInstances := fun _ _ => rfl
    setStore := fun _ _ => rfl
    factories := fun _ => rfl
    setFactories := fun _ _ => rfl
    fileAt := fun _ name hv => hv name
    expr := fun _ _ _ _ => rfl
    define := fun _ _ _ _ => rfl
    newFrame := fun _ => rfl
    lookup := fun _ _ _ => rfl
    derivedEq := fun _ _ _ _ => rfl
    keep := fun hf hd h => h.congr hf hd }
  importEnd _ := rfl
  env _ := rfl
  syn _ := rfl
  setImportEnd _ _ := rfl
  setSyn _ _ := rfl

theorem evalText_irr {fuel st text r st'} (h : evalText fuel st text = (r, st')) (hv : SameView st fs) :
    evalText fuel (withFiles fs st) text = (r, withFiles fs st') := by
  rw [evalText_comm (unobservedTop_withFiles fs) fuel st text hv, h]; rfl

end Ruschm.Interp
