/-
`Interp.Safe` and the entry points that deal with files: the invariant reads neither `State.dir` nor
`State.files`, so `evalFile` keeps it on ANY path.
-/
import RuschmProofs.SafeInterp
import RuschmProofs.SafeUsable
import RuschmProofs.LibModelLemmas

namespace Ruschm
namespace Interp

theorem safe_withDir {st : State} (h : Interp.Safe st) (d : String) : Interp.Safe { st with dir := d } :=
  h.congr

theorem safe_withFiles {st : State} (h : Interp.Safe st) (fs : List (String × FileEntry)) :
    Interp.Safe { st with files := fs } :=
  h.congr

theorem safe_withFilesDir {st : State} (h : Interp.Safe st) (fs : List (String × FileEntry)) (d : String) :
    Interp.Safe { st with files := fs, dir := d } :=
  h.congr

theorem evalFile_post (fuel : Nat) (st : State) (path : String) (hst : Interp.Safe st) :
    Ends Interp.Safe SErr.NP (fun _ _ => True) (evalFile fuel st path) := by
  have hd := safe_withDir hst (dirOf path)
  cases h : st.files.lookup path with
  | none => rw [evalFile_missing h]; exact .ofErr hd (by simp [SErr.NP])
  | some en =>
    cases en with
    | unreadable => rw [evalFile_unreadable h]; exact .ofErr hd (by simp [SErr.NP])
    | text t => rw [evalFile_text h]; exact evalText_post fuel _ _ hd

/-- `factoryOfText_empty` of `LibModelLemmas` again -/
theorem factoryOfText_empty' (n : LibName) : factoryOfText n "" = .error (.libNotFound, none) :=
  factoryOfText_empty n

/-- no location: library files are read by a lexer without locations -/
theorem factoryOfText_rparen (n : LibName) : factoryOfText n ")" = .error (.syntax, none) := by
  have lexR : Lex.all [')'] = ([⟨.rparen, some (1, 2)⟩], none) := by
    simp [Lex.all, Lex.allAux, Lex.next, Lex.skipAtmosphere, Lex.token, Lex.adv, Lex.isWs]
  have h1 : ")".toList = [')'] := by decide
  unfold factoryOfText
  simp only [h1, Read.ofText, lexR, List.map_cons, List.map_nil, List.length_cons, List.length_nil]
  rw [factoryOfText.go]
  simp [Read.nextDatum, Read.advance, bind, Except.bind, Read.currentDatum, Read.fuelFor]

end Interp
end Ruschm
