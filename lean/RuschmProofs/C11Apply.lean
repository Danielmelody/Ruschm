/-
Property C11 / C08 (addition) — `apply` goes through the SAME arity gate as a direct call.

`(apply b lead … last)` for a native procedure `b`: the trampoline iteration that meets `apply`
continues with `b` and the spread arguments, i.e. it IS the direct call `(b lead … elements-of-last)`
and so meets the arity test of `apply_procedure` again — with `lead.length + last.length`
arguments. Also the nested `(apply apply (list b lead … last))`, and what counts as a list for the
last argument. Builds on `C01.apply_spread(_iff)`, `C08.arity_checked_everywhere`,
`C11.apply_spec(_edge)`; motivated by a seeded change (no arity test for natives reached through
`apply`) that the differential checks had missed at first.

`Applies σ p args env r σ'`: the loop of `apply_procedure` started with `p` and `args` ends with the
outcome `r` (a value or an error other than the model's fuel error) in store `σ'`.
-/
import RuschmProofs.C01
import RuschmProofs.C08
import RuschmProofs.C11

namespace Ruschm.C11Apply
open Ruschm Ruschm.Eval Ruschm.ListSpec

/-- THE RUN, for every amount of fuel. `(apply b lead … last)` with `b` a native procedure other
than `apply` and `last` the proper list of `vs`: two iterations of the loop, the result is the
`arity` error with the store untouched when `b`'s parameter list does not accept
`lead.length + vs.length` arguments, and otherwise what the native returns on `lead ++ vs`; the
direct call `(b lead … vs …)` (one iteration) gives exactly the same. -/
theorem apply_native_run {σ : Store} {b : Builtin} (hb : b ≠ .apply) (lead vs : List Value) (env n : Nat) :
    applyLoop (n+2) σ (.builtin .apply) (.builtin b :: (lead ++ [Value.ofList vs])) env =
      (if arityOk b.arity.1 b.arity.2 (lead.length + vs.length) then Prim.applyPure σ b (lead ++ vs)
       else (.error (.arity, none), σ)) ∧
    applyLoop (n+1) σ (.builtin b) (lead ++ vs) env =
      (if arityOk b.arity.1 b.arity.2 (lead.length + vs.length) then Prim.applyPure σ b (lead ++ vs)
       else (.error (.arity, none), σ)) := by
  rw [C01.apply_spread (f := .builtin b) rfl (ListLib.ofList_shape vs), elems_ofList, and_self]
  cases ha : arityOk b.arity.1 b.arity.2 (lead.length + vs.length) with
  | true =>
    rw [Eval.applyLoop_builtin_step n σ env hb (by rw [List.length_append]; exact ha)]; rfl
  | false =>
    rw [Eval.applyLoop_arity_gate n σ env (p := .builtin b) rfl (by rw [List.length_append]; exact ha)]; rfl

/-- THE SAME GATE, fuel-free and for EVERY native `b` (`apply` itself included). (1) When `b`'s
parameter list does not accept `lead.length + vs.length` arguments, `(apply b lead … last)` is the
`arity` error and nothing has happened — exactly as for the direct call. (2) In every case the
`apply` form has an outcome exactly when the direct call `(b lead … vs …)` has it, the same outcome
and the same store. -/
theorem apply_same_gate {σ : Store} (b : Builtin) (lead vs : List Value) (env : Nat) :
    (arityOk b.arity.1 b.arity.2 (lead.length + vs.length) = false →
      Applies σ (.builtin .apply) (.builtin b :: (lead ++ [Value.ofList vs])) env (.error (.arity, none)) σ ∧
      Applies σ (.builtin b) (lead ++ vs) env (.error (.arity, none)) σ) ∧
    (∀ r σ', Applies σ (.builtin .apply) (.builtin b :: (lead ++ [Value.ofList vs])) env r σ' ↔
      Applies σ (.builtin b) (lead ++ vs) env r σ') := by
  refine ⟨fun ha => ?_, fun r σ' => C01.apply_spread_iff (f := .builtin b) rfl⟩
  have ha' : arityOk b.arity.1 b.arity.2 (lead ++ vs).length = false := by rw [List.length_append]; exact ha
  refine ⟨?_, C08.arity_checked_everywhere .refl rfl ha'⟩
  refine C08.arity_checked_everywhere (q := .builtin b) (qargs := lead ++ vs) (.apply (by simp) ?_ .refl) rfl ha'
  rw [spreadApply_snoc (f := .builtin b) rfl (ListLib.ofList_shape vs), elems_ofList]

/-- The `arity` error belongs to the gate alone: no native procedure ever returns it (nor the
model's fuel error), whatever the store and the arguments. -/
theorem native_never_arity {σ σ' : Store} {b : Builtin} {args : List Value} {e : Err} {l : Loc}
    (h : Prim.applyPure σ b args = (.error (e, l), σ')) : e ≠ .arity ∧ e ≠ .fuel :=
  Prim.applyPure_ne_arity_fuel h

/-- an error a native does report (`(car 5)`: the type error), to which the theorem applies -/
example : Err.type ≠ .arity ∧ Err.type ≠ .fuel :=
  native_never_arity (σ := {}) (b := .car) (args := [.num (.int 5)]) (l := none) (σ' := {}) rfl

/-- EXACTLY. For a native `b` other than `apply`, `last` the proper list of `vs`, in every store:
`(apply b lead … last)` has the outcome `r` in store `σ'` if and only if EITHER `b` does not accept
`lead.length + vs.length` arguments and `r` is the `arity` error, `σ'` the store untouched, OR it
does and `(r, σ')` is what the native returns on `lead ++ vs`. In particular the `apply` form always
has an outcome (no hypothesis on `r`). -/
theorem apply_native_outcome {σ : Store} {b : Builtin} (hb : b ≠ .apply) (lead vs : List Value) (env : Nat)
    (r : Except SErr Value) (σ' : Store) :
    Applies σ (.builtin .apply) (.builtin b :: (lead ++ [Value.ofList vs])) env r σ' ↔
      (r, σ') = (if arityOk b.arity.1 b.arity.2 (lead.length + vs.length) then Prim.applyPure σ b (lead ++ vs)
                 else (.error (.arity, none), σ)) := by
  rw [C01.apply_spread_iff (f := .builtin b) rfl, Applies.builtin_outcome hb, List.length_append]

/-- … so `(apply b lead … last)` is the `arity` error EXACTLY WHEN `b`'s parameter list does not
accept `lead.length + vs.length` arguments (and then the store is untouched) — the criterion of the
direct call. -/
theorem apply_native_arity_iff {σ : Store} {b : Builtin} (hb : b ≠ .apply) (lead vs : List Value) (env : Nat) :
    ((∃ σ', Applies σ (.builtin .apply) (.builtin b :: (lead ++ [Value.ofList vs])) env (.error (.arity, none)) σ') ↔
      arityOk b.arity.1 b.arity.2 (lead.length + vs.length) = false) ∧
    ((∃ σ', Applies σ (.builtin b) (lead ++ vs) env (.error (.arity, none)) σ') ↔
      arityOk b.arity.1 b.arity.2 (lead.length + vs.length) = false) ∧
    (∀ σ', Applies σ (.builtin .apply) (.builtin b :: (lead ++ [Value.ofList vs])) env (.error (.arity, none)) σ' →
      σ' = σ) := by
  have key : ∀ σ', Applies σ (.builtin .apply) (.builtin b :: (lead ++ [Value.ofList vs])) env (.error (.arity, none)) σ' →
      arityOk b.arity.1 b.arity.2 (lead.length + vs.length) = false ∧ σ' = σ := by
    intro σ' h
    rw [apply_native_outcome hb] at h
    split at h
    · exact absurd rfl (native_never_arity h.symm).1
    · next ha => cases h; exact ⟨Bool.eq_false_iff.2 ha, rfl⟩
  refine ⟨⟨fun ⟨σ', h⟩ => (key σ' h).1, fun ha => ⟨σ, ((apply_same_gate b lead vs env).1 ha).1⟩⟩,
    ⟨fun ⟨σ', h⟩ => (key σ' (((apply_same_gate b lead vs env).2 _ _).mpr h)).1,
     fun ha => ⟨σ, ((apply_same_gate b lead vs env).1 ha).2⟩⟩, fun σ' h => (key σ' h).2⟩

/-- … and when the count IS accepted, the outcome of `(apply b lead … last)` is what the native
returns on `lead ++ vs` — value or error, and its store. -/
theorem apply_native_accepted {σ σ' : Store} {b : Builtin} (hb : b ≠ .apply) {lead vs : List Value} {env : Nat}
    {r : Except SErr Value} (ha : arityOk b.arity.1 b.arity.2 (lead.length + vs.length) = true)
    (h : Prim.applyPure σ b (lead ++ vs) = (r, σ')) :
    Applies σ (.builtin .apply) (.builtin b :: (lead ++ [Value.ofList vs])) env r σ' := by
  rw [apply_native_outcome hb, ha, if_pos rfl, h]

/-- NESTED: `(apply apply (list b lead … last))` — `apply` applied through `apply` — is again the
direct call `(b lead … vs …)`: same outcomes, and the `arity` error with nothing done when `b`
does not accept `lead.length + vs.length` arguments. -/
theorem apply_apply_nested {σ : Store} (b : Builtin) (lead vs : List Value) (env : Nat) :
    (arityOk b.arity.1 b.arity.2 (lead.length + vs.length) = false →
      Applies σ (.builtin .apply)
        [.builtin .apply, Value.ofList (.builtin b :: (lead ++ [Value.ofList vs]))] env (.error (.arity, none)) σ) ∧
    (∀ r σ', Applies σ (.builtin .apply)
        [.builtin .apply, Value.ofList (.builtin b :: (lead ++ [Value.ofList vs]))] env r σ' ↔
      Applies σ (.builtin b) (lead ++ vs) env r σ') := by
  have key : ∀ r σ', Applies σ (.builtin .apply)
        [.builtin .apply, Value.ofList (.builtin b :: (lead ++ [Value.ofList vs]))] env r σ' ↔
      Applies σ (.builtin b) (lead ++ vs) env r σ' := fun r σ' =>
    (C01.apply_spread_iff (f := .builtin .apply) (as := []) rfl).trans ((apply_same_gate b lead vs env).2 r σ')
  exact ⟨fun ha => (key _ _).mpr ((apply_same_gate b lead vs env).1 ha).2, key⟩

/-- WHAT COUNTS AS A LIST for the last argument of `apply` (`spread_apply_arguments`): a pair or the
empty list — nothing else. For every procedure `f` (native or user, whatever its arity and however
many leading arguments there are): the spreading fails with the type error exactly when `last` is
neither; then `(apply f lead … last)` is the type error with nothing done, BEFORE any arity test
of `f`. DEVIATION from R7RS (recorded in `C11.apply_spec`): a pair whose chain of `cdr`s does not
end in `()` is accepted, its final tail becoming one more argument. -/
theorem apply_last_must_be_list {σ : Store} {f : Value} (hf : (procArity f).isSome) (lead : List Value)
    (last : Value) (env : Nat) :
    (spreadApply (f :: (lead ++ [last])) = .error .type ↔ (isPair last = false ∧ last ≠ .nil)) ∧
    (isPair last = true ∨ last = .nil → spreadApply (f :: (lead ++ [last])) = .ok (f, lead ++ last.elems)) ∧
    (isPair last = false → last ≠ .nil →
      Applies σ (.builtin .apply) (f :: (lead ++ [last])) env (.error (.type, none)) σ) := by
  obtain ⟨a, ha⟩ := Option.isSome_iff_exists.mp hf
  refine ⟨?_, fun hl => spreadApply_snoc hf (hl.symm.imp_right ListLib.exists_pair),
    fun hp hn => C11.apply_spec_edge.2.1 lead last hf hp hn⟩
  simp only [spreadApply, ha, List.getLast?_append, List.getLast?_singleton, List.dropLast_concat]
  cases last <;> simp [isPair]

/-! ## closed examples: `cons`, `car`, `eqv?` through `apply`, lists of length 1, 2, 3 -/

private def num (i : Int) : Value := .num (.int i)
private def σ₀ : Store := {}

/-- `cons` (two parameters): `(apply cons '(1))` and `(apply cons '(1 2 3))` are arity errors,
`(apply cons '(1 2))` is `(1 . 2)`; also with a leading argument: `(apply cons 1 '(2))`,
`(apply cons 1 '(2 3))` -/
example :
    applyLoop 5 σ₀ (.builtin .apply) [.builtin .cons, Value.ofList [num 1]] 0 = (.error (.arity, none), σ₀) ∧
    applyLoop 5 σ₀ (.builtin .apply) [.builtin .cons, Value.ofList [num 1, num 2]] 0 = (.ok (.pair (num 1) (num 2)), σ₀) ∧
    applyLoop 5 σ₀ (.builtin .apply) [.builtin .cons, Value.ofList [num 1, num 2, num 3]] 0 = (.error (.arity, none), σ₀) ∧
    applyLoop 5 σ₀ (.builtin .apply) [.builtin .cons, num 1, Value.ofList [num 2]] 0 = (.ok (.pair (num 1) (num 2)), σ₀) ∧
    applyLoop 5 σ₀ (.builtin .apply) [.builtin .cons, num 1, Value.ofList [num 2, num 3]] 0 = (.error (.arity, none), σ₀) :=
  ⟨(apply_native_run (b := .cons) (by decide) [] [num 1] 0 3).1,
   (apply_native_run (b := .cons) (by decide) [] [num 1, num 2] 0 3).1,
   (apply_native_run (b := .cons) (by decide) [] [num 1, num 2, num 3] 0 3).1,
   (apply_native_run (b := .cons) (by decide) [num 1] [num 2] 0 3).1,
   (apply_native_run (b := .cons) (by decide) [num 1] [num 2, num 3] 0 3).1⟩

/-- `car` (one parameter): `(apply car '((1)))` is `1`; two or three elements are arity errors
(whatever the elements: the native is not run) -/
example :
    applyLoop 5 σ₀ (.builtin .apply) [.builtin .car, Value.ofList [Value.ofList [num 1]]] 0 = (.ok (num 1), σ₀) ∧
    applyLoop 5 σ₀ (.builtin .apply) [.builtin .car, Value.ofList [Value.ofList [num 1], num 2]] 0 = (.error (.arity, none), σ₀) ∧
    applyLoop 5 σ₀ (.builtin .apply) [.builtin .car, Value.ofList [num 1, num 2, num 3]] 0 = (.error (.arity, none), σ₀) :=
  ⟨(apply_native_run (b := .car) (by decide) [] [Value.ofList [num 1]] 0 3).1,
   (apply_native_run (b := .car) (by decide) [] [Value.ofList [num 1], num 2] 0 3).1,
   (apply_native_run (b := .car) (by decide) [] [num 1, num 2, num 3] 0 3).1⟩

/-- `eqv?` (two parameters): one or three elements are arity errors, two are compared -/
example :
    applyLoop 5 σ₀ (.builtin .apply) [.builtin .eqv, Value.ofList [num 1]] 0 = (.error (.arity, none), σ₀) ∧
    applyLoop 5 σ₀ (.builtin .apply) [.builtin .eqv, Value.ofList [num 1, num 1]] 0 = (.ok (.bool true), σ₀) ∧
    applyLoop 5 σ₀ (.builtin .apply) [.builtin .eqv, Value.ofList [num 1, num 1, num 1]] 0 = (.error (.arity, none), σ₀) :=
  ⟨(apply_native_run (b := .eqv) (by decide) [] [num 1] 0 3).1,
   (apply_native_run (b := .eqv) (by decide) [] [num 1, num 1] 0 3).1,
   (apply_native_run (b := .eqv) (by decide) [] [num 1, num 1, num 1] 0 3).1⟩

/-- the hypothesis of the arity clause of `apply_same_gate` / `apply_apply_nested` holds of `cons`
with three elements, `car` with two, `eqv?` with one: the judgement, in any store -/
example (σ : Store) :
    Applies σ (.builtin .apply) [.builtin .cons, Value.ofList [num 1, num 2, num 3]] 0 (.error (.arity, none)) σ ∧
    Applies σ (.builtin .apply) [.builtin .car, num 1, Value.ofList [num 2]] 0 (.error (.arity, none)) σ ∧
    Applies σ (.builtin .apply) [.builtin .apply, Value.ofList [.builtin .eqv, Value.ofList [num 1]]] 0
      (.error (.arity, none)) σ ∧
    Applies σ (.builtin .apply) [.builtin .apply, Value.ofList [.builtin .cons, Value.ofList [num 1, num 2]]] 0
      (.ok (.pair (num 1) (num 2))) σ :=
  ⟨((apply_same_gate .cons [] [num 1, num 2, num 3] 0).1 rfl).1,
   ((apply_same_gate .car [num 1] [num 2] 0).1 rfl).1,
   (apply_apply_nested .eqv [] [num 1] 0).1 rfl,
   ((apply_apply_nested .cons [] [num 1, num 2] 0).2 _ _).mpr (C11.cons_spec _ _ _ _)⟩

/-- `apply_native_outcome` / `apply_native_arity_iff` on `(apply car '(1 2))` (rejected) and
`(apply car '((1) ))` (accepted), in any store -/
example (σ : Store) :
    Applies σ (.builtin .apply) [.builtin .car, Value.ofList [num 1, num 2]] 0 (.error (.arity, none)) σ ∧
    Applies σ (.builtin .apply) [.builtin .car, Value.ofList [Value.ofList [num 1]]] 0 (.ok (num 1)) σ ∧
    ¬ ∃ σ', Applies σ (.builtin .apply) [.builtin .car, Value.ofList [Value.ofList [num 1]]] 0 (.error (.arity, none)) σ' :=
  ⟨(apply_native_outcome (b := .car) (by decide) [] [num 1, num 2] 0 _ _).mpr rfl,
   (apply_native_outcome (b := .car) (by decide) [] [Value.ofList [num 1]] 0 _ _).mpr rfl,
   fun h => absurd ((apply_native_arity_iff (σ := σ) (b := .car) (by decide) [] [Value.ofList [num 1]] 0).1.mp h) (by decide)⟩

/-- the accepted case as a judgement: `(apply eqv? 1 '(1))` -/
example (σ : Store) : Applies σ (.builtin .apply) [.builtin .eqv, num 1, Value.ofList [num 1]] 0 (.ok (.bool true)) σ :=
  apply_native_accepted (b := .eqv) (by decide) (lead := [num 1]) (vs := [num 1]) rfl rfl

/-- a last argument that is not a list: `(apply cons 1 2)`, `(apply car 5)`, `(apply eqv? 1 2 "s")`
are type errors — also where the count would have been wrong or right; and the improper `(1 . 2)` is
accepted: `(apply cons '(1 . 2))` is `(cons 1 2)` -/
example (σ : Store) :
    Applies σ (.builtin .apply) [.builtin .cons, num 1, num 2] 0 (.error (.type, none)) σ ∧
    Applies σ (.builtin .apply) [.builtin .car, num 5] 0 (.error (.type, none)) σ ∧
    Applies σ (.builtin .apply) [.builtin .eqv, num 1, num 2, .str "s"] 0 (.error (.type, none)) σ ∧
    Applies σ (.builtin .apply) [.builtin .cons, .pair (num 1) (num 2)] 0 (.ok (.pair (num 1) (num 2))) σ :=
  ⟨(apply_last_must_be_list (f := .builtin .cons) rfl [num 1] (num 2) 0).2.2 rfl (by simp [num]),
   (apply_last_must_be_list (f := .builtin .car) rfl [] (num 5) 0).2.2 rfl (by simp [num]),
   (apply_last_must_be_list (f := .builtin .eqv) rfl [num 1, num 2] (.str "s") 0).2.2 rfl (by simp),
   C11.apply_spec (init := []) rfl (.inl rfl) (C11.cons_spec _ _ _ _)⟩

end Ruschm.C11Apply
