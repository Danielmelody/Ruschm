/-
Property C10, second part — `max`/`min` and comparison chains with MIXED exact and inexact operands.

"... compare an exact with an inexact operand after converting the exact one to binary32, and an n-ary
comparison is the conjunction of its adjacent pairs. max and min return the numerically extreme argument
(inexact if any argument is inexact) ..."

`C10.lean` has `max`/`min` on exact operands (`maxAll_extreme`), the contagion of inexactness
(`max_contagion`) and one mixed comparison (`cmp_mixed`). Here:

1. `max`/`min` with an inexact operand: the operands before the first inexact one are compared exactly
   (the result is the extreme one of them), that one is converted to binary32, and from there on the fold
   is the binary32 fold `Num.realFold Num.fmax` of the converted operands, where `Num.fmax x y` is `x` if the
   binary32 comparison `x > y` HOLDS and `y` otherwise - which is all that is said about NaN: `Float32` is
   opaque, no theorem assumes that there is no NaN;
2. comparison chains with mixed operands: every adjacent pair means `Num.Cmp`: the order of ℚ on two exact
   operands, the binary32 relation of the converted operands otherwise;
3. the native procedures: every argument is type-checked, also after the pair that decides the result; on
   numbers they are `Num.cmpChain`, `Num.maxAll`, `Num.minAll`.

Vocabulary: `RuschmSpec/NumMore.lean`. Helper lemmas: `RuschmProofs/NumMoreLemmas.lean`, `RuschmProofs/ArgLists.lean`.

An `example` after a theorem shows that its hypotheses can be met (non-vacuity), or the statement on numbers.
-/
import RuschmProofs.C10
import RuschmProofs.NumMoreLemmas

namespace Ruschm.C10More
open Ruschm

/-! ## 1. max / min with an inexact operand -/

/-- The binary32 `max`/`min` the interpreter uses, spelled out: the LEFT operand is returned exactly when
the comparison (`>` for `max`, `<` for `min`) holds, otherwise the RIGHT one. No case is excluded: when
the comparison is false because an operand is a NaN, the right operand is the result (so a NaN accumulator
is dropped, a NaN operand is kept). -/
theorem fmax_fmin_spec (x y : Float32) :
    (x > y → Num.fmax x y = x) ∧ (¬ x > y → Num.fmax x y = y) ∧
    (x < y → Num.fmin x y = x) ∧ (¬ x < y → Num.fmin x y = y) := by
  unfold Num.fmax Num.fmin
  exact ⟨fun h => if_pos h, fun h => if_neg h, fun h => if_pos h, fun h => if_neg h⟩

/-- One step with an inexact operand: both operands are converted to binary32 and the step is the binary32
`fmax` (`fmin`); the result is inexact also when the exact operand is the one kept. -/
theorem maxStep_minStep_inexact {a b : Num} (h : a.isExact = false ∨ b.isExact = false) :
    Num.maxStep a b = .real (Num.fmax a.toReal b.toReal) ∧
    Num.minStep a b = .real (Num.fmin a.toReal b.toReal) :=
  ⟨Num.maxStep_fmax h, Num.minStep_fmin h⟩

example : (Num.int 16777217).isExact = false ∨ (Num.real 0.5).isExact = false := Or.inr rfl

/-- Once the running extreme is inexact, the rest is the pure binary32 fold of the converted operands. -/
theorem max_min_inexact_acc (g : Float32) (ys : List Num) :
    ys.foldl Num.maxStep (.real g) = .real (Num.realFold Num.fmax g ys) ∧
    ys.foldl Num.minStep (.real g) = .real (Num.realFold Num.fmin g ys) :=
  ⟨Num.foldl_real_acc (fun _ _ h => Num.maxStep_fmax h) ys g,
   Num.foldl_real_acc (fun _ _ h => Num.minStep_fmin h) ys g⟩

/-- `max`/`min` with an inexact operand `z` at any position, no hypothesis on the other operands. `z` first:
the binary32 fold from `z`. Otherwise the operands `x :: pre` before `z` are folded as `max` folds them on
their own (`m`), `m` is converted and compared with `z` in binary32, and the operands after `z` follow in the
binary32 fold. The result is always inexact. -/
theorem maxAll_minAll_inexact {z : Num} (hz : z.isExact = false) (post : List Num) :
    Num.maxAll (z :: post) = .ok (.real (Num.realFold Num.fmax z.toReal post)) ∧
    Num.minAll (z :: post) = .ok (.real (Num.realFold Num.fmin z.toReal post)) ∧
    (∀ (x : Num) (pre : List Num), ∃ m, Num.maxAll (x :: pre) = .ok m ∧
      Num.maxAll (x :: (pre ++ z :: post)) =
        .ok (.real (Num.realFold Num.fmax (Num.fmax m.toReal z.toReal) post))) ∧
    (∀ (x : Num) (pre : List Num), ∃ m, Num.minAll (x :: pre) = .ok m ∧
      Num.minAll (x :: (pre ++ z :: post)) =
        .ok (.real (Num.realFold Num.fmin (Num.fmin m.toReal z.toReal) post))) := by
  obtain ⟨g, rfl⟩ := Num.eq_real_of_inexact hz
  exact ⟨congrArg Except.ok (max_min_inexact_acc g post).1, congrArg Except.ok (max_min_inexact_acc g post).2,
    fun x pre => ⟨_, rfl, Num.maxAll_split x pre post hz⟩, fun x pre => ⟨_, rfl, Num.minAll_split x pre post hz⟩⟩

example : (Num.real 2.5).isExact = false ∧
    ∀ f, Num.maxAll [.int 1, .real f, .int 3] =
      .ok (.real (Num.fmax (Num.fmax (Float32.ofInt 1) f) (Float32.ofInt 3))) :=
  ⟨rfl, fun f => by
    obtain ⟨m, hm, h⟩ := (maxAll_minAll_inexact (z := .real f) rfl [.int 3]).2.2.1 (.int 1) []
    obtain rfl : Num.int 1 = m := Except.ok.inj hm
    simpa only [List.nil_append, Num.realFold, List.foldl, Num.toReal] using h⟩

/-- The usual case spelled out: `z` is the FIRST inexact operand and the exact operands before it have
positive denominators. Then the exact part is settled in ℚ: `m` is (literally) one of those operands and its
value is ≥ (for `min`: ≤) the value of each of them; `m` is then converted, and the result is the binary32
fold from `fmax m z`. The exact operands AFTER `z` are converted one by one (never compared exactly). -/
theorem maxAll_minAll_first_inexact {x z : Num} {pre : List Num} (post : List Num)
    (hz : z.isExact = false) (hpre : ∀ y ∈ x :: pre, y.isExact = true ∧ y.PosDen) :
    (∃ m ∈ x :: pre, (∀ y ∈ x :: pre, y.valD ≤ m.valD) ∧
      Num.maxAll (x :: (pre ++ z :: post)) =
        .ok (.real (Num.realFold Num.fmax (Num.fmax m.toReal z.toReal) post))) ∧
    (∃ m ∈ x :: pre, (∀ y ∈ x :: pre, m.valD ≤ y.valD) ∧
      Num.minAll (x :: (pre ++ z :: post)) =
        .ok (.real (Num.realFold Num.fmin (Num.fmin m.toReal z.toReal) post))) := by
  obtain ⟨mem, dom⟩ := Num.foldl_maxStep_spec pre x hpre
  obtain ⟨mem', dom'⟩ := Num.foldl_minStep_spec pre x hpre
  exact ⟨⟨_, mem, dom, Num.maxAll_split x pre post hz⟩, ⟨_, mem', dom', Num.minAll_split x pre post hz⟩⟩

example : (Num.real 2.5).isExact = false ∧
    ∀ y ∈ [Num.int 1, .rat 7 2], y.isExact = true ∧ y.PosDen := ⟨rfl, by decide⟩

/-- Hence: with some inexact operand (and at least one operand) `max` and `min` return an inexact number
(the converse, an inexact result only then, is `C10.max_contagion`). -/
theorem max_min_inexact_result {xs : List Num} (hx : ∃ y ∈ xs, y.isExact = false) :
    (∃ g, Num.maxAll xs = .ok (.real g)) ∧ (∃ g, Num.minAll xs = .ok (.real g)) := by
  obtain ⟨z, hm, hz⟩ := hx
  obtain ⟨pre, post, rfl⟩ := List.append_of_mem hm
  obtain ⟨h1, h2, h3, h4⟩ := maxAll_minAll_inexact hz post
  cases pre with
  | nil => exact ⟨⟨_, h1⟩, ⟨_, h2⟩⟩
  | cons x pre =>
    obtain ⟨_, _, e3⟩ := h3 x pre
    obtain ⟨_, _, e4⟩ := h4 x pre
    exact ⟨⟨_, e3⟩, ⟨_, e4⟩⟩

example : ∃ y ∈ [Num.int 3, .real 0.5, .rat 1 2], y.isExact = false := ⟨.real 0.5, by simp, rfl⟩

/-! ## 2. comparison chains with mixed operands -/

/-- ONE comparison, any mixture of operands with positive denominators: two exact operands are compared by
their values in ℚ; as soon as one operand is inexact the other one is converted to binary32
(`Float32.ofInt i`, `ofInt n / ofInt d`) and the binary32 relation decides (`Num.Cmp`). -/
theorem cmp_pair {a b : Num} (pa : a.PosDen) (pb : b.PosDen) :
    (Num.lt a b = true ↔ Num.Cmp (· < ·) (· < ·) a b) ∧
    (Num.gt a b = true ↔ Num.Cmp (· > ·) (· > ·) a b) ∧
    (Num.le a b = true ↔ Num.Cmp (· ≤ ·) (· ≤ ·) a b) ∧
    (Num.ge a b = true ↔ Num.Cmp (· ≥ ·) (· ≥ ·) a b) ∧
    (Num.eq a b = true ↔ Num.Cmp (· = ·) (fun x y => (x == y) = true) a b) :=
  ⟨Num.cmp_of Num.lt_iff Num.lt_real pa pb, Num.cmp_of Num.gt_iff Num.gt_real pa pb,
   Num.cmp_of Num.le_iff Num.le_real pa pb, Num.cmp_of Num.ge_iff Num.ge_real pa pb,
   Num.cmp_of Num.eq_iff (fun h => by rw [Num.eq_real h, Bool.decide_eq_true]) pa pb⟩

example : (Num.rat 1 2).PosDen ∧ (Num.real 0.5).PosDen := ⟨by decide, trivial⟩

/-- What `Num.Cmp` says in the two cases. -/
theorem Cmp_cases (R : Rat → Rat → Prop) (F : Float32 → Float32 → Prop) (a b : Num) :
    (∀ x y, a.val = some x → b.val = some y → (Num.Cmp R F a b ↔ R x y)) ∧
    (a.isExact = false ∨ b.isExact = false → (Num.Cmp R F a b ↔ F a.toReal b.toReal)) :=
  ⟨fun x y hx hy => by rw [Num.Cmp_exact R F hx hy], fun h => by rw [Num.Cmp_real R F h]⟩

example : (Num.rat 1 2).val = some (1 / 2) ∧
    ((Num.rat 1 2).isExact = false ∨ (Num.real 0.5).isExact = false) :=
  ⟨by decide +kernel, Or.inr rfl⟩

/-- AN N-ARY COMPARISON WITH MIXED OPERANDS (positive denominators): it holds iff EVERY adjacent pair is
related in the sense of `Num.Cmp` - each pair on its own terms: an exact pair in ℚ, a pair with an inexact
member in binary32 after conversion of the other. (Consequently a chain is not a statement about one common
order: `(= 16777217 16777216. 16777216)` compares `16777217` with `16777216.` in binary32 and `16777216.`
with `16777216` in binary32.) -/
theorem cmpChain_mixed {xs : List Num} (hxs : ∀ x ∈ xs, x.PosDen) :
    (Num.cmpChain Num.lt xs = true ↔ ∀ (i : Nat) (h : i + 1 < xs.length),
      Num.Cmp (· < ·) (· < ·) (xs[i]'(by omega)) (xs[i + 1]'h)) ∧
    (Num.cmpChain Num.gt xs = true ↔ ∀ (i : Nat) (h : i + 1 < xs.length),
      Num.Cmp (· > ·) (· > ·) (xs[i]'(by omega)) (xs[i + 1]'h)) ∧
    (Num.cmpChain Num.le xs = true ↔ ∀ (i : Nat) (h : i + 1 < xs.length),
      Num.Cmp (· ≤ ·) (· ≤ ·) (xs[i]'(by omega)) (xs[i + 1]'h)) ∧
    (Num.cmpChain Num.ge xs = true ↔ ∀ (i : Nat) (h : i + 1 < xs.length),
      Num.Cmp (· ≥ ·) (· ≥ ·) (xs[i]'(by omega)) (xs[i + 1]'h)) ∧
    (Num.cmpChain Num.eq xs = true ↔ ∀ (i : Nat) (h : i + 1 < xs.length),
      Num.Cmp (· = ·) (fun x y => (x == y) = true) (xs[i]'(by omega)) (xs[i + 1]'h)) :=
  ⟨Num.cmpChain_cmp (fun _ _ pa pb => (cmp_pair pa pb).1) xs hxs,
   Num.cmpChain_cmp (fun _ _ pa pb => (cmp_pair pa pb).2.1) xs hxs,
   Num.cmpChain_cmp (fun _ _ pa pb => (cmp_pair pa pb).2.2.1) xs hxs,
   Num.cmpChain_cmp (fun _ _ pa pb => (cmp_pair pa pb).2.2.2.1) xs hxs,
   Num.cmpChain_cmp (fun _ _ pa pb => (cmp_pair pa pb).2.2.2.2) xs hxs⟩

example : ∀ x ∈ [Num.int 1, .real 1.5, .rat 7 2], x.PosDen := by decide

/-- The same without any hypothesis, in terms of the model's own predicates: in a chain, every pair with an
inexact member is decided by the binary32 comparison of the converted operands (`C10.cmp_mixed` lifted to
chains; the pairs of two exact operands are decided by `Num.lt` etc. on exact operands, `C10.lt_iff`). -/
theorem cmpChain_mixed_pairs (xs : List Num) :
    (Num.cmpChain Num.lt xs = true ↔ ∀ (i : Nat) (h : i + 1 < xs.length),
      if (xs[i]'(by omega)).isExact = true ∧ (xs[i + 1]'h).isExact = true
      then Num.lt (xs[i]'(by omega)) (xs[i + 1]'h) = true
      else (xs[i]'(by omega)).toReal < (xs[i + 1]'h).toReal) ∧
    (Num.cmpChain Num.eq xs = true ↔ ∀ (i : Nat) (h : i + 1 < xs.length),
      if (xs[i]'(by omega)).isExact = true ∧ (xs[i + 1]'h).isExact = true
      then Num.eq (xs[i]'(by omega)) (xs[i + 1]'h) = true
      else ((xs[i]'(by omega)).toReal == (xs[i + 1]'h).toReal) = true) := by
  constructor
  · rw [(C10.cmpChain_iff Num.lt xs).2]
    exact forall_congr' fun i => forall_congr' fun h =>
      Num.cmp_exact_or_real (F := (· < ·)) (fun a b h => by rw [Num.lt_real h]; exact decide_eq_true_iff) _ _
  · rw [(C10.cmpChain_iff Num.eq xs).2]
    exact forall_congr' fun i => forall_congr' fun h =>
      Num.cmp_exact_or_real (F := fun x y => (x == y) = true) (fun a b h => by rw [Num.eq_real h]) _ _

/-! ## 3. the native procedures -/

/-- THE COMPARISON PROCEDURES TYPE-CHECK EVERY ARGUMENT. On arguments that are all numbers `= < > <= >=`
return the chain of section 2 (true for no and for one argument); if SOME argument is not a number the result
is a type error - wherever it stands, also after a pair that already made the chain false:
`(< 2 1 'a)` is an error, not `#f`. The store is unchanged. -/
theorem compare_builtins (σ : Store) :
    (∀ ns : List Num,
      Prim.applyPure σ .numEq (ns.map Value.num) = Prim.ok (.bool (Num.cmpChain Num.eq ns)) σ ∧
      Prim.applyPure σ .lt (ns.map Value.num) = Prim.ok (.bool (Num.cmpChain Num.lt ns)) σ ∧
      Prim.applyPure σ .le (ns.map Value.num) = Prim.ok (.bool (Num.cmpChain Num.le ns)) σ ∧
      Prim.applyPure σ .gt (ns.map Value.num) = Prim.ok (.bool (Num.cmpChain Num.gt ns)) σ ∧
      Prim.applyPure σ .ge (ns.map Value.num) = Prim.ok (.bool (Num.cmpChain Num.ge ns)) σ) ∧
    (∀ args : List Value, (∃ x ∈ args, ¬ Prim.IsNum x) →
      ∀ b ∈ [Builtin.numEq, .lt, .le, .gt, .ge], Prim.applyPure σ b args = Prim.err .type σ) := by
  constructor
  · intro ns
    simp only [Prim.applyPure, Prim.cmpNum_nums]
    exact ⟨rfl, rfl, rfl, rfl, rfl⟩
  · intro args hx b hb
    obtain ⟨pre, x, post, rfl, hnx⟩ := Prim.split_first_nonnum args hx
    simp only [List.mem_cons, List.mem_nil_iff, or_false] at hb
    rcases hb with rfl | rfl | rfl | rfl | rfl
    all_goals (simp only [Prim.applyPure, Prim.cmpNum_nonnum hnx]; rfl)

example : ∃ x ∈ [Value.num (.int 2), .num (.int 1), .sym "a"], ¬ Prim.IsNum x :=
  ⟨.sym "a", by simp, fun h => h⟩

/-- `max` and `min` as native procedures: on numbers (at least one, as the arity check guarantees) they are
`Num.maxAll`/`Num.minAll`, so sections 1 above and 4 of `C10` speak about them; a non-number anywhere is a
type error. -/
theorem max_min_builtins (σ : Store) :
    (∀ ns : List Num, ns ≠ [] →
      Prim.applyPure σ .max (ns.map Value.num) = Prim.lift σ (Num.maxAll ns) .num ∧
      Prim.applyPure σ .min (ns.map Value.num) = Prim.lift σ (Num.minAll ns) .num) ∧
    (∀ args : List Value, (∃ x ∈ args, ¬ Prim.IsNum x) →
      Prim.applyPure σ .max args = Prim.err .type σ ∧ Prim.applyPure σ .min args = Prim.err .type σ) := by
  constructor
  · intro ns hne
    match ns, hne with
    | x :: ys, _ =>
      simp only [Prim.applyPure, Prim.extremum_nums]
      exact ⟨rfl, rfl⟩
  · intro args hx
    obtain ⟨pre, x, post, rfl, hnx⟩ := Prim.split_first_nonnum args hx
    simp only [Prim.applyPure, Prim.extremum_nonnum hnx]
    exact ⟨rfl, rfl⟩

example : ([Num.int 1, .real 2.5, .int 3] : List Num) ≠ [] := by simp

end Ruschm.C10More
