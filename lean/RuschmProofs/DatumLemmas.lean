/-
Data as lists — `Datum.spine`, `elems`, `ofList`, the sizes of the parts —, data without locations
(`strip`) and their structural equality (`beq`): what the proofs about the matcher, the transformer and the printers all use.
-/
import RuschmModel.Datum
import RuschmProofs.ExceptLemmas

namespace Ruschm
namespace Datum

def isListy : Datum → Bool
  | .pair _ _ _ => true
  | .nil _ => true
  | _ => false

/-! ## elements -/

theorem elems_eq (d : Datum) : d.elems = d.spine.1 ++ d.spine.2.toList := by
  unfold elems
  rcases d.spine with ⟨xs, _ | t⟩ <;> simp

theorem elems_pair (a d : Datum) (l : Loc) : (pair a d l).elems = a :: d.elems := by
  simp only [elems, spine]
  rcases d.spine with ⟨xs, _ | t⟩ <;> rfl

theorem elems_nil (l : Loc) : (nil l).elems = [] := rfl

theorem spine_atom {d : Datum} (h : d.isListy = false) : d.spine = ([], some d) := by
  cases d <;> first | rfl | cases h

theorem spine_pair_snd (a b : Datum) (l : Loc) : (pair a b l).spine.2 = b.spine.2 := by
  simp only [spine]

theorem elems_atom {d : Datum} (h : d.isListy = false) : d.elems = [d] := by
  rw [elems, spine_atom h]; rfl

theorem spine_ofList (l : Loc) : ∀ xs : List Datum, (ofList l xs).spine = (xs, none)
  | [] => rfl
  | x :: xs => by rw [ofList, spine, spine_ofList none xs]

theorem elems_ofList (l : Loc) (xs : List Datum) : (ofList l xs).elems = xs := by
  rw [elems, spine_ofList]

theorem isListy_ofList (l : Loc) (xs : List Datum) : (ofList l xs).isListy = true := by
  cases xs <;> rfl

/-! ## sizes -/

theorem size_pos (d : Datum) : 0 < d.size := by
  cases d <;> simp [size]

theorem size_le_sizeList {x : Datum} {xs : List Datum} (h : x ∈ xs) : x.size ≤ sizeList xs := by
  induction xs with
  | nil => cases h
  | cons y ys ih =>
    rw [sizeList]
    rcases List.mem_cons.1 h with rfl | h
    · exact Nat.le_add_right ..
    · exact Nat.le_trans (ih h) (Nat.le_add_left ..)

theorem size_withLoc (d : Datum) (l : Loc) : (d.withLoc l).size = d.size := by
  cases d <;> simp [withLoc, size]

theorem size_ofList (l : Loc) (xs : List Datum) : (ofList l xs).size = sizeList xs + xs.length + 1 := by
  induction xs generalizing l with
  | nil => rfl
  | cons x xs ih => simp only [ofList, size, sizeList, ih, List.length_cons]; omega

def tsize : Option Datum → Nat
  | some d => d.size
  | none => 0

theorem spine_size (d : Datum) :
    sizeList d.spine.1 + tsize d.spine.2 + (if d.isListy then 1 else 0) ≤ d.size := by
  fun_induction spine d with
  | case1 a d l xs t h ih =>
    simp only [h] at ih
    simp only [sizeList, size, isListy, if_true]
    split at ih <;> omega
  | case2 => simp [sizeList, tsize, size, isListy]
  | case3 p h1 h2 =>
    cases p <;> simp_all [sizeList, tsize, isListy]

theorem size_lt_of_mem_elems {x d : Datum} (hl : d.isListy = true) (h : x ∈ d.elems) : x.size < d.size := by
  have hs := d.spine_size
  rw [hl] at hs
  rw [elems_eq, List.mem_append] at h
  rcases h with h | h
  · have := size_le_sizeList h; simp only [if_true] at hs; omega
  · cases ht : d.spine.2 with
    | none => rw [ht] at h; cases h
    | some t =>
      rw [ht] at h hs
      cases List.mem_singleton.1 h
      simp only [tsize, if_true] at hs; omega

theorem size_le_of_mem_elems {x d : Datum} (h : x ∈ d.elems) : x.size ≤ d.size := by
  cases hl : d.isListy
  · rw [elems_atom hl, List.mem_singleton] at h; exact h ▸ Nat.le_refl _
  · exact Nat.le_of_lt (size_lt_of_mem_elems hl h)

theorem sizeList_spine_le (d : Datum) : sizeList d.spine.1 ≤ d.size := by
  have := d.spine_size; omega

theorem elems_induct {Q : Datum → Prop}
    (sym : ∀ s l, Q (.sym s l)) (prim : ∀ p l, Q (.prim p l)) (nil : ∀ l, Q (.nil l))
    (pair : ∀ a d l, (∀ x ∈ (Datum.pair a d l).elems, Q x) → Q (.pair a d l))
    (vec : ∀ xs l, (∀ x ∈ xs, Q x) → Q (.vec xs l)) : ∀ d, Q d := by
  suffices ∀ n (d : Datum), d.size ≤ n → Q d from fun d => this _ d (Nat.le_refl _)
  intro n
  induction n with
  | zero => intro d hd; have := d.size_pos; omega
  | succ n ih =>
    intro d hd
    cases d with
    | sym s l => exact sym s l
    | prim q l => exact prim q l
    | nil l => exact nil l
    | vec xs l =>
      refine vec xs l fun x hx => ih x ?_
      have := size_le_sizeList hx
      simp only [size] at hd; omega
    | pair a d' l =>
      refine pair a d' l fun x hx => ih x ?_
      have := size_lt_of_mem_elems rfl hx
      omega

end Datum

/-! ## the structural equality of data is reflexive -/

mutual
theorem Datum.beq_refl : ∀ d : Datum, Datum.beq d d = true
  | .prim p l => by simp [Datum.beq]
  | .sym s l => by simp [Datum.beq]
  | .pair a d l => by simp [Datum.beq, Datum.beq_refl a, Datum.beq_refl d]
  | .nil l => by simp [Datum.beq]
  | .vec xs l => by simp [Datum.beq, Datum.beqList_refl xs]
theorem Datum.beqList_refl : ∀ ds : List Datum, Datum.beqList ds ds = true
  | [] => by simp [Datum.beqList]
  | x :: xs => by simp [Datum.beqList, Datum.beq_refl x, Datum.beqList_refl xs]
end


/-! ## strip -/

theorem Datum.stripList_eq_map (ds : List Datum) : Datum.stripList ds = ds.map Datum.strip := by
  induction ds with
  | nil => rfl
  | cons d ds ih => simp only [Datum.stripList, ih, List.map_cons]

mutual
theorem Datum.strip_size : ∀ (d : Datum), d.strip.size = d.size
  | .prim _ _ | .sym _ _ | .nil _ => by simp [Datum.strip, Datum.size]
  | .pair a d _ => by simp [Datum.strip, Datum.size, Datum.strip_size a, Datum.strip_size d]
  | .vec xs _ => by simp [Datum.strip, Datum.size, Datum.stripList_size xs]
theorem Datum.stripList_size : ∀ (xs : List Datum), Datum.sizeList (Datum.stripList xs) = Datum.sizeList xs
  | [] => rfl
  | x :: xs => by simp [Datum.stripList, Datum.sizeList, Datum.strip_size x, Datum.stripList_size xs]
end

theorem Datum.strip_ofList (l : Loc) : ∀ (xs : List Datum),
    (Datum.ofList l xs).strip = Datum.ofList none (xs.map Datum.strip)
  | [] => by simp [Datum.ofList, Datum.strip]
  | x :: xs => by simp [Datum.ofList, Datum.strip, Datum.strip_ofList none xs]

@[simp] theorem Datum.strip_loc (d : Datum) : d.strip.loc = none := by
  cases d <;> simp [Datum.strip, Datum.loc]

theorem Datum.strip_withLoc_none (d : Datum) : d.strip.withLoc none = d.strip := by
  cases d <;> simp [Datum.withLoc, Datum.strip]

theorem Datum.strip_isListy (d : Datum) : d.strip.isListy = d.isListy := by
  cases d <;> rfl

@[simp] theorem Datum.strip_strip : ∀ (d : Datum), d.strip.strip = d.strip
  | .prim _ _ | .sym _ _ | .nil _ => by simp [Datum.strip]
  | .pair a d _ => by simp [Datum.strip, Datum.strip_strip a, Datum.strip_strip d]
  | .vec xs _ => by
    simp only [Datum.strip, Datum.stripList_eq_map, List.map_map]
    congr 1
    apply List.map_congr_left
    intro x hx
    exact Datum.strip_strip x
decreasing_by
  all_goals simp_wf
  all_goals first
    | omega
    | (have := List.sizeOf_lt_of_mem hx; omega)

theorem Datum.strip_spine : ∀ (d : Datum),
    d.strip.spine = (d.spine.1.map Datum.strip, d.spine.2.map Datum.strip)
  | .pair a d _ => by simp [Datum.strip, Datum.spine, Datum.strip_spine d]
  | .nil _ => by simp [Datum.strip, Datum.spine]
  | .prim _ _ | .sym _ _ | .vec _ _ => by simp [Datum.strip, Datum.spine]

@[simp] theorem Datum.strip_elems (d : Datum) : d.strip.elems = d.elems.map Datum.strip := by
  unfold Datum.elems
  rw [Datum.strip_spine]
  rcases d.spine with ⟨xs, _ | t⟩ <;> simp

end Ruschm
