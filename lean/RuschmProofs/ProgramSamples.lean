/-
Bool tests for the side conditions on closed sample programs (`ImportSyntax.WF`, `okStmt`), with their
soundness, so that a sample's side conditions are checked by one evaluation.
-/
import RuschmProofs.ProgramTextLemmas

namespace Ruschm.ProgramText.Samples
open Ruschm Ruschm.CoreSyntax Ruschm.ProgramText

def wfSet : ImportSet → Bool
  | .direct n _ => decide (ImportSyntax.NameOk n)
  | .only s _ | .except s _ | .prefix s _ | .rename s _ => wfSet s

theorem wfSet_sound : ∀ t, wfSet t = true → ImportSyntax.WF t
  | .direct n _, h => (of_decide_eq_true h : ImportSyntax.NameOk n)
  | .only s _, h | .except s _, h | .prefix s _, h | .rename s _, h => wfSet_sound s h

theorem wf_of_all (sets : List ImportSet) (h : sets.all wfSet = true) : ∀ t ∈ sets, ImportSyntax.WF t :=
  fun t ht => wfSet_sound t (List.all_eq_true.1 h t ht)

def okStmtB (isMacro : String → Bool) : Statement → Bool
  | .importDecl sets _ => sets.all wfSet
  | .expr e => coreStmt isMacro (.expr e)
  | .definition d => coreStmt isMacro (.definition d)
  | _ => false

theorem ok_of_all (isMacro : String → Bool) (l : List Statement) (h : l.all (okStmtB isMacro) = true) :
    ∀ s ∈ l, okStmt isMacro s := by
  intro s hs
  have hs := List.all_eq_true.1 h s hs
  cases s with
  | importDecl sets _ => exact wf_of_all sets hs
  | expr e => exact hs
  | definition d => exact hs
  | _ => cases hs

end Ruschm.ProgramText.Samples
