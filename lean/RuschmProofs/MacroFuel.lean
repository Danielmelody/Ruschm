/-
For SUPPORTED patterns the fuel need of the matcher depends on the datum only: `2 * d.size + 2` units
suffice, hence so does the model's `matchFuel d`. That gives the refinement the form a user wants,
`transform_eq_spec_matchFuel`: a supported rule set, run with the fuel `toStatement` gives it, is the
declarative expander. (`transformRules_eq_spec_of` in `MacroSubst.lean` is the general statement behind it.)
-/
import RuschmProofs.MacroSubst

namespace Ruschm.Macro
open Ruschm

/-- the patterns a stream of a supported pattern is run with: the elements of a list or vector, or
the final `...` with its sub-pattern pending -/
def okRest (lits : List String) (ps : List Pat) (mm : Option Pat) : Prop :=
  Pat.okList lits ps = true ∨ ps = [.ellipsis] ∧ ∃ q, mm = some q ∧ Pat.ok lits q = true

/-- Fuel bounds the DEPTH of the calls. A stream goes one level down per item and the item must fit below it:
`1 + max (need d) (need ds) ≤ need (d :: ds)`; a list needs one level more than the stream of its items, and
`()` is only one larger than they are. Sizes counted once, that unit does not pay for both; counted twice it
does: `2 * size + c` for a datum, `2 * sizeList + c + 1` for a stream, here with `c = 2`. -/
def fuelS : List Pat → List Datum → Nat
  | [], _ => 1
  | _ :: _, ds => 2 * Datum.sizeList ds + 3

theorem okRest_ell {lits ps mm} (h : okRest lits (.ellipsis :: ps) mm) :
    ps = [] ∧ ∃ q, mm = some q ∧ Pat.ok lits q = true :=
  h.elim (fun h => by simp [Pat.okList, Pat.ok] at h) fun h => ⟨(List.cons.inj h.1).2, h.2⟩

theorem okRest_cons {lits p ps mm} (hp : p.isEllipsis = false) (h : okRest lits (p :: ps) mm) :
    Pat.ok lits p = true ∧ okRest lits ps (nextMM lits p) := by
  rcases h with h | ⟨h, -⟩
  · rcases Pat.okList_cons h with ⟨he, hok, -, hl⟩ | ⟨-, hok, hps⟩
    · exact ⟨hok, .inr ⟨he, p, nextMM_not_lit hl, hok⟩⟩
    · exact ⟨hok, .inl hps⟩
  · cases h; cases hp

theorem match_fuel_supported_aux (lits : List String) (n : Nat) :
    (∀ p d σ l, Pat.ok lits p = true → 2 * d.size + 2 ≤ n →
      matchDatum n lits p d σ ≠ .error (.fuel, l)) ∧
    (∀ ps ds mm σ l, okRest lits ps mm → fuelS ps ds ≤ n →
      matchStream n lits ps ds mm σ ≠ .error (.fuel, l)) :=
  have ok : ∀ {r : Bool × Subst} {l : Loc}, (.ok r : Outcome) ≠ .error (.fuel, l) := nofun
  match_induct (lits := lits)
    (D := fun n p d _ r => ∀ l, Pat.ok lits p = true → 2 * d.size + 2 ≤ n → r ≠ .error (.fuel, l))
    (S := fun n ps ds mm _ r => ∀ l, okRest lits ps mm → fuelS ps ds ≤ n → r ≠ .error (.fuel, l))
    (zeroD := fun _ _ h => by omega)
    (zeroS := fun {ps _ _ _} _ _ h => by cases ps <;> simp [fuelS] at h)
    (under := fun _ _ _ => ok) (ell := fun _ _ _ => ok) (var := fun _ _ _ _ => ok)
    (lit := fun _ _ _ _ => ok) (prim := fun _ _ _ => ok)
    (vec := fun {_ ps _ _ _ _} ih l hok h => ih l (.inl hok) (by
      simp only [Datum.size] at h; cases ps <;> simp only [fuelS] <;> omega))
    (vecNo := fun _ _ _ _ => ok) (listNo := fun _ _ _ _ _ => ok)
    (listStop := fun {_ p d _ _} hp hd ih _ l hok h =>
      ih l (.inl (Pat.okTail_spine _ (Pat.ok_okTail hok hp)).2) (by
        have := d.spine_size; simp only [hd, if_true] at this
        cases p.spine.1 <;> simp only [fuelS] <;> omega))
    (listTails := fun hp _ _ hlp _ _ _ hok _ =>
      absurd ((Pat.okTail_spine _ (Pat.ok_okTail hok hp)).1 ▸ hlp) nofun)
    (listEnd := fun _ _ _ _ _ _ _ _ => ok) (listOdd := fun _ _ _ _ _ _ _ => ok)
    (nilNil := fun _ _ _ => ok) (nilCons := fun _ _ _ => ok) (consNil := fun _ _ _ _ => ok)
    (ellNil := fun ih l hok h => by
      obtain ⟨rfl, -⟩ := okRest_ell hok
      exact ih l (.inl rfl) (by simp only [fuelS] at h ⊢; omega))
    (stop := fun hp ih _ l hok h => ih l (okRest_cons hp hok).1 (by
      simp only [fuelS, Datum.sizeList] at h; omega))
    (step := fun {_ _ ps d _ _ _ _ _} hp _ ih l hok h => ih l (okRest_cons hp hok).2 (by
      have := d.size_pos
      simp only [fuelS, Datum.sizeList] at h; cases ps <;> simp only [fuelS] <;> omega))
    (ellOne := fun _ _ h => by simp only [fuelS] at h; omega)
    (ellNone := fun _ _ _ => nofun)
    (ellErr := fun ih l hok h => by
      obtain ⟨-, q, hq, hok⟩ := okRest_ell hok
      cases hq; exact ih l hok (by simp only [fuelS, Datum.sizeList] at h; omega))
    (ellFail := fun _ _ _ _ => ok) (ellPanic := fun _ _ _ _ _ => nofun)
    (ellStay := fun {_ _ d _ _ _ _ _ _} _ _ ih _ l hok h => ih l hok (by
      have := d.size_pos; simp only [fuelS, Datum.sizeList] at h ⊢; omega))
    (ellOver := fun _ _ _ ih l hok h => by
      obtain ⟨rfl, -⟩ := okRest_ell hok
      exact ih l (.inl rfl) (by simp only [fuelS] at h ⊢; omega)) n

theorem matchDatum_fuel_supported {lits n p d σ l} (hok : Pat.ok lits p = true)
    (h : 2 * d.size + 2 ≤ n) : matchDatum n lits p d σ ≠ .error (.fuel, l) :=
  (match_fuel_supported_aux lits n).1 p d σ l hok h

theorem transformRules_eq_spec_wf {lits fuel use} (hf : matchFuel use ≤ fuel)
    (rules : List (Pat × Tmpl))
    (hs : ∀ r ∈ rules, Supported lits r.1 = true ∧ r.2.wf (r.1.vars lits) = true) :
    transformRules fuel lits rules use = specTransform lits rules use := by
  unfold matchFuel at hf
  exact transformRules_eq_spec_of (by omega) rules fun r hr =>
    ⟨hs r hr, matchDatum_fuel_supported (supported_iff.1 (hs r hr).1).1 (by omega)⟩

theorem transform_eq_spec_matchFuel {fuel r use} (hs : SupportedRules r = true) (hf : matchFuel use ≤ fuel) :
    transform fuel r use = specTransform r.literals r.rules use :=
  transformRules_eq_spec_wf hf r.rules fun rule h => SupportedRule.wf (List.all_eq_true.1 hs rule h)

end Ruschm.Macro
