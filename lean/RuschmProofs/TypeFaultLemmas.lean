/-
A non-number handed to `+ - * /` at any position is answered with the type error once the fold has come that far:
it does on numbers with positive denominators, where the operations of the tower return (`Num.Tower`), for `/`
when the zero check has not fired.
-/
import RuschmProofs.NumMoreLemmas

namespace Ruschm.Prim
open Ruschm Ruschm.Eval

theorem foldNum_nonnum_of_tower {f : Num → Num → Except Err Num} {fop : Float32 → Float32 → Float32} {q : ℚ → ℚ → ℚ}
    (T : Num.Tower f fop q fun _ => True) {pre : List Num} {init : Num} {x : Value} {post : List Value}
    (hi : init.PosDen) (hp : ∀ n ∈ pre, n.PosDen) (hx : ¬ IsNum x) :
    foldNum f init (pre.map Value.num ++ x :: post) = .error .type := by
  obtain ⟨acc, hacc⟩ := T.foldlM_isOk pre init hi hp
  rw [foldNum_split f init pre hx, hacc]; rfl

/-- `-`, `/` up to the first argument that is not a number: the first two arguments are checked before anything is
computed -/
theorem subDiv_split (f : Num → Num → Except Err Num) (unit : Num) (pre : List Num) {x : Value} (hx : ¬ IsNum x)
    (post : List Value) :
    subDiv f unit (pre.map Value.num ++ x :: post) =
      match pre with
      | a :: rest@(_ :: _) => rest.foldlM f a >>= fun _ => .error .type
      | _ => .error .type := by
  match pre with
  | [] => show subDiv f unit (x :: post) = _; simp only [subDiv, expectNumber_err hx]; rfl
  | [a] => show subDiv f unit (.num a :: x :: post) = _; simp only [subDiv, expectNumber_err hx]; rfl
  | a :: b :: more =>
    show subDiv f unit (.num a :: .num b :: (more.map Value.num ++ x :: post)) = _
    simp only [subDiv, expectNumber, List.foldlM_cons, bind_assoc]
    exact bind_congr fun init => foldNum_split f init more hx post

theorem subDiv_nonnum {f : Num → Num → Except Err Num} {unit a acc : Num} {rest : List Num} {x : Value}
    {post : List Value} (hx : ¬ IsNum x) (hacc : rest.foldlM f a = .ok acc) :
    subDiv f unit ((a :: rest).map Value.num ++ x :: post) = .error .type := by
  rw [subDiv_split f unit (a :: rest) hx]
  cases rest with
  | nil => rfl
  | cons b more => show ((b :: more).foldlM f a >>= fun _ => _) = _; rw [hacc]; rfl

theorem subDiv_nonnum_of_tower {f : Num → Num → Except Err Num} {fop : Float32 → Float32 → Float32} {q : ℚ → ℚ → ℚ}
    (T : Num.Tower f fop q fun _ => True) {unit : Num} {pre : List Num} {x : Value} {post : List Value}
    (hs : ∀ n ∈ pre, n.PosDen) (hx : ¬ IsNum x) : subDiv f unit (pre.map Value.num ++ x :: post) = .error .type := by
  match pre, hs with
  | [], _ => exact subDiv_split f unit [] hx post
  | a :: rest, hs =>
    obtain ⟨acc, hacc⟩ := T.foldlM_isOk rest a (hs a (List.mem_cons_self ..)) fun n hn => hs n (List.mem_cons_of_mem _ hn)
    exact subDiv_nonnum hx hacc

/-! ## `/` -/

/-- `hz` is the model's own check (`exact_so_far` in base.rs) on the numbers before the non-number -/
theorem divArgs_nonnum {pre : List Num} {x : Value} {post : List Value} (hx : ¬ IsNum x)
    (hp : ∀ n ∈ pre, n.PosDen) (hz : ((exactPrefix (pre.map Value.num)).drop 1).any Num.isExactZero = false) :
    divArgs (pre.map Value.num ++ x :: post) = .error .type := by
  rw [exactPrefix_map_num] at hz
  match pre, hp, hz with
  | [], _, _ => exact (divArgs_first_nonnum hx).trans (subDiv_split _ _ [] hx post)
  | [a], _, _ => exact (divArgs_second_nonnum hx).trans (subDiv_nonnum (rest := []) hx rfl)
  | a :: b :: more, hp, hz =>
    have hcheck : divArgs ((a :: b :: more).map Value.num ++ x :: post) =
        subDiv Num.div (.int 1) ((a :: b :: more).map Value.num ++ x :: post) := by
      show divArgs (.num a :: .num b :: (more.map Value.num ++ x :: post)) = _
      rw [divArgs_cons_cons]
      have : exactPrefix (.num a :: .num b :: (more.map Value.num ++ x :: post)) =
          (a :: b :: more).takeWhile Num.notReal := exactPrefix_nums_nonnum hx post (a :: b :: more)
      rw [this, hz]; rfl
    -- the zero check is the hypothesis under which the fold of the numbers returns
    obtain ⟨acc, hacc, _⟩ := Num.foldlM_div_ok (b :: more) a (hp a (List.mem_cons_self ..))
      (fun n hn => hp n (List.mem_cons_of_mem _ hn)) fun ea => by
        rw [List.takeWhile_cons, Num.notReal_eq_isExact, ea] at hz
        simpa using hz
    exact hcheck.trans (subDiv_nonnum hx hacc)

/-! ## whatever the numbers before it: never a value -/

theorem subDiv_has_nonnum {f : Num → Num → Except Err Num} {unit : Num} {args : List Value}
    (h : ∃ x ∈ args, ¬ IsNum x) : ∃ e, subDiv f unit args = .error e := by
  obtain ⟨pre, x, post, rfl, hx⟩ := split_first_nonnum args h
  rw [subDiv_split f unit pre hx]
  match pre with
  | a :: b :: more => show ∃ e, ((b :: more).foldlM f a >>= fun _ => _) = _; cases (b :: more).foldlM f a <;> exact ⟨_, rfl⟩
  | [] | [_] => exact ⟨_, rfl⟩

theorem divArgs_has_nonnum {args : List Value} (h : ∃ x ∈ args, ¬ IsNum x) : ∃ e, divArgs args = .error e := by
  rcases divArgs_cases args with h' | h' <;> rw [h']
  · exact ⟨_, rfl⟩
  · exact subDiv_has_nonnum h

end Ruschm.Prim
