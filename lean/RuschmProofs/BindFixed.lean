/-
Binding the fixed parameters of a call (`Eval.bindFixed`) in closed form: whether it fails depends on the two
lengths alone, and what it does to the store is `define`, name by name (`Ref.bindAll` of the reference semantics),
with the induction rule of that.
-/
import RuschmSpec.Ref
namespace Ruschm.Eval

theorem bindFixed_eq (σ : Store) (ρ : Nat) : ∀ (names : List String) (args : List Value),
    bindFixed σ ρ names args =
      (if names.length ≤ args.length then .ok (args.drop names.length)
        else .error (.panic "apply_scheme_procedure: arg_iter.next().unwrap()"), Ref.bindAll σ ρ names args)
  | [], _ => rfl
  | _ :: _, [] => rfl
  | f :: fs, a :: as => by
    rw [bindFixed, bindFixed_eq (σ.define ρ f a) ρ fs as, Ref.bindAll]
    simp only [List.length_cons, Nat.add_le_add_iff_right, List.drop_succ_cons]

theorem bindAll_induct {ρ : Nat} {P : Store → Store → Prop} (base : ∀ σ, P σ σ) :
    ∀ (names : List String) (args : List Value),
      (∀ σ x v τ, x ∈ names → v ∈ args → P (σ.define ρ x v) τ → P σ τ) → ∀ σ, P σ (Ref.bindAll σ ρ names args)
  | [], _, _, σ => base σ
  | _ :: _, [], _, σ => base σ
  | x :: xs, v :: vs, step, σ =>
    step σ x v _ (List.mem_cons_self ..) (List.mem_cons_self ..)
      (bindAll_induct base xs vs (fun σ y w τ hy hw => step σ y w τ (List.mem_cons_of_mem _ hy) (List.mem_cons_of_mem _ hw)) _)

theorem bindFixed_ok {σ σ' : Store} {ρ : Nat} {names : List String} {args rest : List Value}
    (h : bindFixed σ ρ names args = (.ok rest, σ')) :
    names.length ≤ args.length ∧ rest = args.drop names.length ∧ σ' = Ref.bindAll σ ρ names args := by
  rw [bindFixed_eq] at h
  split at h
  · next hl => cases h; exact ⟨hl, rfl, rfl⟩
  · cases h

end Ruschm.Eval
