/-
The two rules of `InterpInduction.lean` carried from the mutual block up to `eval_ast`, `Interpreter::eval` and
`eval_file`. These may change the syntax scopes and end the import phase, so `Inv` is stated from the state
with those two fields as they end up; `Inv.trans_top` composes such steps.
-/
import RuschmProofs.InterpInduction
import RuschmProofs.EvalAst
import RuschmProofs.EvalTextForms

namespace Ruschm
namespace Interp
open Lib ProgramText FrontSpec

/-! ## what every step preserves -/

variable {R : Store → Store → Prop}


/-- `eval_ast` may end the import phase; everything else is as in `Inv` -/
theorem evalAst_inv (hR : StoreRel R) {fuel st s r st'} (h : evalAst fuel st s = (r, st')) :
    Inv R { st with importEnd := st'.importEnd } st' := by
  have hs : st' = (astInner fuel st s).2 := by
    rw [evalAst_eq] at h; rw [← astPost_snd s, h]
  subst hs
  rcases astInner_cases fuel st s with ⟨b, hx⟩ | ⟨sets, l, rfl, hx⟩ | ⟨_, _, loc, _, hx⟩
  · rw [hx]
    generalize hy : evalExprOrDef fuel { st with importEnd := b } s st.env = y
    have i := evalExprOrDef_inv hR (r := y.1) (st' := y.2) hy
    have hb : y.2.importEnd = b := i.importEnd
    rw [hb]; exact i
  · rw [hx, andThen_snd fun _ _ => rfl]
    have i : Inv R st (evalImport fuel st sets st.env).2 := run_inv hR fuel st (.import_ sets st.env)
    rw [i.importEnd]; exact i
  · rw [hx]; exact Inv.refl hR st

theorem Inv.trans_top (hR : StoreRel R) {a b c : State}
    (h1 : Inv R { a with syn := b.syn, importEnd := b.importEnd } b)
    (h2 : Inv R { b with syn := c.syn, importEnd := c.importEnd } c) :
    Inv R { a with syn := c.syn, importEnd := c.importEnd } c :=
  ⟨h2.inProgress.trans h1.inProgress, fun n d h => h2.instances n d (h1.instances n d h),
   fun n f h => h2.factories n f (h1.factories n f h), h2.files.trans h1.files, h2.env.trans h1.env, rfl, rfl,
   hR.trans h1.store h2.store, h2.dir.trans h1.dir⟩

theorem evalForm_inv (hR : StoreRel R) {fuel st d r st'} (h : evalForm fuel st d = (r, st')) :
    Inv R { st with syn := st'.syn, importEnd := st'.importEnd } st' := by
  rcases hx : Xform.toStatement (Xform.xformFuel d) d st.syn with ⟨_ | stmt, syn⟩
  · cases (evalForm_error hx).symm.trans h; exact Inv.refl hR _
  · have i := evalAst_inv hR ((evalForm_ok hx).symm.trans h)
    have hsyn : st'.syn = syn := i.syn
    rw [← hsyn] at i; exact i

theorem evalText_inv (hR : StoreRel R) (fuel : Nat) (st : State) (text : List Char) :
    Inv R { st with syn := (evalText fuel st text).2.syn, importEnd := (evalText fuel st text).2.importEnd }
      (evalText fuel st text).2 :=
  evalText_keeps (P := fun st' => Inv R { st with syn := st'.syn, importEnd := st'.importEnd } st')
    (fun _ _ h => Inv.trans_top hR h (evalForm_inv hR (Prod.eta _).symm)) text st (Inv.refl hR st)

theorem evalText_frame (fuel : Nat) (st : State) (text : List Char) :
    (evalText fuel st text).2.inProgress = st.inProgress ∧
    (evalText fuel st text).2.files = st.files ∧ (evalText fuel st text).2.env = st.env :=
  have i := evalText_inv storeRel_true fuel st text
  ⟨i.inProgress, i.files, i.env⟩

theorem evalFile_frame (fuel : Nat) (st : State) (path : String) :
    (evalFile fuel st path).2.inProgress = st.inProgress ∧
    (evalFile fuel st path).2.files = st.files ∧ (evalFile fuel st path).2.env = st.env ∧
    (evalFile fuel st path).2.dir = dirOf path := by
  cases h : st.files.lookup path with
  | none => rw [evalFile_missing h]; exact ⟨rfl, rfl, rfl, rfl⟩
  | some en =>
    cases en with
    | unreadable => rw [evalFile_unreadable h]; exact ⟨rfl, rfl, rfl, rfl⟩
    | text t =>
      rw [evalFile_text h]
      have i := evalText_inv storeRel_true fuel { st with dir := dirOf path } t.toList
      exact ⟨i.inProgress, i.files, i.env, i.dir⟩

/-! ## the unary rule up to `eval_ast` -/

/-- `unary_run` carried to `eval_ast`: its error is one of the block, or the refusal of a library definition after the
import phase, with the position of the statement where it had none -/
theorem evalAst_ends {I : State → Prop} {V : Store → Value → Prop} {Fr : Store → Nat → Prop} {E : SErr → Prop}
    {L : Loc → Prop} {X : ExportSpec → Prop} {P : Statement → Prop} (lv : Leaves R I V Fr E L X P)
    (importEnd : ∀ {st} b, I st → I { st with importEnd := b }) (fuel : Nat) {st : State} {s : Statement}
    (hI : I st) (hρ : Fr st.store st.env) (hs : P s)
    (hsets : ∀ sets l, s = .importDecl sets l → ∀ x ∈ sets, L (S.leafLoc x)) :
    Ends I (fun e => ∃ loc0, (E (e.1, loc0) ∨ (e.1, loc0) = (.syntax, s.loc)) ∧ e.2 = loc0.orElse fun _ => s.loc)
      (fun _ _ => True) (evalAst fuel st s) := by
  have key : Ends I (fun e => E e ∨ e = (.syntax, s.loc)) (fun _ _ => True) (astInner fuel st s) := by
    rcases astInner_cases fuel st s with ⟨b, hx⟩ | ⟨sets, l, rfl, hx⟩ | ⟨_, _, loc, rfl, hx⟩ <;> rw [hx]
    · have i := lv.exprOrDef fuel { st with importEnd := b } s st.env (importEnd b hI) hρ hs
      exact ⟨i.inv, i.ok, fun e he => .inl (i.err e he)⟩
    · have i := (unary_run lv fuel st (.import_ sets st.env) hI (hsets sets l rfl)).toEnds
      exact Ends.andThen (Q := fun _ _ => True) ⟨i.inv, fun _ _ => trivial, fun e he => .inl (i.err e he)⟩
        fun _ _ h _ => .ofOk h trivial
    · exact .ofErr hI (.inr rfl)
  rw [evalAst_eq]
  unfold astPost
  split
  · exact .ofOk key.inv trivial
  · rename_i e loc hv
    exact .ofErr key.inv ⟨loc, key.err _ hv, rfl⟩

/-! ## changes of the state that are not observed -/

/-- `φ` moreover leaves alone what `eval_ast` and `Interpreter::eval` read of the importer -/
structure UnobservedTop (φ : State → State) (ψ : Store → Store) (I : State → Prop) : Prop where
  base : Unobserved φ ψ I
  importEnd : ∀ st, (φ st).importEnd = st.importEnd
  env : ∀ st, (φ st).env = st.env
  syn : ∀ st, (φ st).syn = st.syn
  setImportEnd : ∀ st b, φ { st with importEnd := b } = { φ st with importEnd := b }
  setSyn : ∀ st x, φ { st with syn := x } = { φ st with syn := x }

section top
variable {φ : State → State} {ψ : Store → Store} {I : State → Prop} (v : UnobservedTop φ ψ I)
include v

theorem astInner_comm (fuel : Nat) (st : State) (s : Statement) (hI : I st) :
    astInner fuel (φ st) s = mapSt φ (astInner fuel st s) := by
  unfold astInner
  rw [v.importEnd]
  split
  · cases s with
    | importDecl sets l =>
      simp only [v.env, evalImport_comm v.base fuel st sets st.env hI]
      rcases evalImport fuel st sets st.env with ⟨_ | u, st1⟩ <;> rfl
    | libraryDef nm decls l => rfl
    | _ => simp only; rw [← v.setImportEnd, v.base.exprOrDef, v.env]
  · rw [v.base.exprOrDef, v.env]

theorem evalAst_comm (fuel : Nat) (st : State) (s : Statement) (hI : I st) :
    evalAst fuel (φ st) s = mapSt φ (evalAst fuel st s) := by
  rw [evalAst_eq, evalAst_eq, astInner_comm v fuel st s hI]
  rcases astInner fuel st s with ⟨_ | x, st1⟩ <;> rfl

theorem evalForm_comm (fuel : Nat) (st : State) (d : Datum) (hI : I st) :
    evalForm fuel (φ st) d = mapSt φ (evalForm fuel st d) := by
  rcases hx : Xform.toStatement (Xform.xformFuel d) d st.syn with ⟨_ | stmt, syn⟩
  · rw [evalForm_error hx, evalForm_error (v.syn st ▸ hx), ← v.setSyn]; rfl
  · rw [evalForm_ok hx, evalForm_ok (v.syn st ▸ hx), ← v.setSyn]
    exact evalAst_comm v fuel _ stmt (v.base.keep (st := st) rfl rfl hI)

theorem runForms_comm (fuel : Nat) : ∀ (ds : List Datum) (st : State) (last : Option Value), I st →
    runForms fuel (φ st) ds last = mapSt φ (runForms fuel st ds last)
  | [], _, _, _ => rfl
  | d :: ds, st, _, hI => by
    rw [runForms, runForms, evalForm_comm v fuel st d hI]
    rcases he : evalForm fuel st d with ⟨_ | x, st1⟩
    · rfl
    · have i := evalForm_inv storeRel_true he
      exact runForms_comm fuel ds st1 x (v.base.keep (st := st) i.files i.dir hI)

theorem evalText_comm (fuel : Nat) (st : State) (text : List Char) (hI : I st) :
    evalText fuel (φ st) text = mapSt φ (evalText fuel st text) := by
  rw [evalText_eq_runText, evalText_eq_runText]
  unfold runText
  rw [runForms_comm v fuel _ st none hI]
  rcases runForms fuel st (formsOf text).1 none with ⟨_ | x, st1⟩
  · rfl
  · cases (formsOf text).2 <;> rfl

end top

end Interp
end Ruschm
