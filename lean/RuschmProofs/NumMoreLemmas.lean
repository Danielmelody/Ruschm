/-
What an inexact operand does to the n-ary operations. By `Contagious`, once the accumulator is a real the rest of a
fold is the binary32 fold `realFold` (`foldlM_real_acc`), so a fold splits at its first inexact operand
(`foldlM_split`); `max`/`min`, whose steps cannot fail, and the zero check of `divAll` are read off that split. Then
the meaning `Cmp` of one comparison: the order of ℚ on exact operands, the binary32 relation otherwise.
-/
import RuschmProofs.NumLemmas
import RuschmSpec.NumMore

namespace Ruschm
namespace Num

/-! ### folds of a binary operation that dispatches on inexactness -/

theorem foldlM_split {op : Num → Num → Except Err Num} {fop : Float32 → Float32 → Float32}
    (h : Contagious op fop) (pre : List Num) {z : Num} (post : List Num) (init : Num)
    (hz : z.isExact = false) :
    (pre ++ z :: post).foldlM op init =
      (pre.foldlM op init >>= fun a => .ok (.real (realFold fop (fop a.toReal z.toReal) post))) := by
  rw [List.foldlM_append]
  congr 1; funext a
  rw [List.foldlM_cons, h a z (Or.inr hz)]
  exact foldlM_real_acc h post _

section
variable {op : Num → Num → Except Err Num} {fop : Float32 → Float32 → Float32} {q : ℚ → ℚ → ℚ} {dom : ℚ → Prop}
  (T : Tower op fop q dom)
include T

theorem foldlM_inexact_result {xs : List Num} {init r : Num}
    (hx : init.isExact = false ∨ ∃ x ∈ xs, x.isExact = false) (hr : xs.foldlM op init = .ok r) :
    r.isExact = false :=
  Bool.eq_false_iff.mpr fun er =>
    have ⟨ei, exs, _⟩ := T.foldlM_sound xs init r hr er
    hx.elim (fun hi => by rw [ei] at hi; cases hi) fun ⟨z, hz, ez⟩ => by rw [exs z hz] at ez; cases ez

theorem fold1_inexact_result {u x r : Num} {ys : List Num} (hx : ∃ z ∈ x :: ys, z.isExact = false)
    (hr : fold1 op u x ys = .ok r) : r.isExact = false := by
  obtain ⟨z, hz, ez⟩ := hx
  cases ys with
  | nil =>
    rw [List.mem_singleton] at hz; subst hz
    rw [fold1, T.real u z (Or.inr ez)] at hr; cases hr; rfl
  | cons y ys => exact foldlM_inexact_result T ((List.mem_cons.mp hz).imp (· ▸ ez) fun hz => ⟨z, hz, ez⟩) hr

end

theorem realFold_nil (op : Float32 → Float32 → Float32) (g : Float32) : realFold op g [] = g := rfl

theorem realFold_cons (op : Float32 → Float32 → Float32) (g : Float32) (y : Num) (ys : List Num) :
    realFold op g (y :: ys) = realFold op (op g y.toReal) ys := rfl

/-! ### `divAll`: the zero check on a list whose first inexact operand is known -/

theorem exactDivisors_split {x : Num} {pre : List Num} {z : Num} (post : List Num)
    (ex : x.isExact = true) (hpre : ∀ y ∈ pre, y.isExact = true) (hz : z.isExact = false) :
    exactDivisors (x :: (pre ++ z :: post)) = pre := by
  rw [exactDivisors_cons (by simp), notReal_eq_isExact, ex, if_pos rfl,
    List.takeWhile_append_of_pos fun y hy => (notReal_eq_isExact y).trans (hpre y hy), List.takeWhile_cons,
    notReal_eq_isExact, hz]
  exact List.append_nil _

theorem exactDivisors_real_first (f : Float32) (ys : List Num) :
    (exactDivisors (.real f :: ys)).any isExactZero = false := by
  cases ys <;> rfl

/-- the last hypothesis is conditional: once the accumulator is inexact no divisor makes `/` fail -/
theorem foldlM_div_ok : ∀ (more : List Num) (acc : Num), acc.PosDen → (∀ y ∈ more, y.PosDen) →
    (acc.isExact = true → (more.takeWhile notReal).any isExactZero = false) →
    ∃ r, more.foldlM div acc = .ok r ∧ r.PosDen
  | [], acc, ha, _, _ => ⟨acc, rfl, ha⟩
  | b :: more, acc, ha, hp, hz => by
    rcases div_cases ha (hp b (List.mem_cons_self ..)) with ⟨ea, eb, n0, _⟩ | ⟨_, r, hr⟩
    · have := hz ea
      rw [List.takeWhile_cons, notReal_eq_isExact, eb, if_pos rfl, List.any_cons, isExactZero_iff.mpr ⟨eb, n0⟩] at this
      cases this
    · obtain ⟨r', hr', pr'⟩ := foldlM_div_ok more r (tower_div.wf hr).posDen
        (fun m hm => hp m (List.mem_cons_of_mem _ hm)) fun er => by
          obtain ⟨ea, eb⟩ := tower_div.real.exact_inv hr er
          have := hz ea
          rw [List.takeWhile_cons, notReal_eq_isExact, eb, if_pos rfl, List.any_cons, Bool.or_eq_false_iff] at this
          exact this.2
      exact ⟨r', by rw [List.foldlM_cons, hr]; exact hr', pr'⟩

/-! ### `max` / `min` steps as binary32 `fmax` / `fmin` -/

theorem maxStep_fmax {a b : Num} (h : a.isExact = false ∨ b.isExact = false) :
    maxStep a b = .real (fmax a.toReal b.toReal) := by
  rw [picks_max.real h, gt_real h]; unfold fmax
  by_cases c : a.toReal > b.toReal <;> simp [c]

theorem minStep_fmin {a b : Num} (h : a.isExact = false ∨ b.isExact = false) :
    minStep a b = .real (fmin a.toReal b.toReal) := by
  rw [picks_min.real h, lt_real h]; unfold fmin
  by_cases c : a.toReal < b.toReal <;> simp [c]

/-! a step that cannot fail is an operation that always returns: `foldlM_real_acc` (of `NumLemmas`) and `foldlM_split`,
for `foldl` -/

section
variable {step : Num → Num → Num} {fop : Float32 → Float32 → Float32}
  (h : ∀ a b, a.isExact = false ∨ b.isExact = false → step a b = .real (fop a.toReal b.toReal))
include h

theorem foldl_real_acc (ys : List Num) (g : Float32) : ys.foldl step (.real g) = .real (realFold fop g ys) :=
  Except.ok.inj <| (List.foldlM_pure (m := Except Err)).symm.trans <|
    foldlM_real_acc (op := fun a b => pure (step a b)) (fun a b hh => congrArg pure (h a b hh)) ys g

theorem foldl_split (pre : List Num) {z : Num} (post : List Num) (init : Num) (hz : z.isExact = false) :
    (pre ++ z :: post).foldl step init =
      .real (realFold fop (fop (pre.foldl step init).toReal z.toReal) post) :=
  Except.ok.inj <| (List.foldlM_pure (m := Except Err)).symm.trans <| by
    rw [foldlM_split (op := fun a b => pure (step a b)) (fun a b hh => congrArg pure (h a b hh)) pre post init hz,
      List.foldlM_pure]; rfl

end

theorem maxAll_split (x : Num) (pre : List Num) {z : Num} (post : List Num) (hz : z.isExact = false) :
    maxAll (x :: (pre ++ z :: post)) =
      .ok (.real (realFold fmax (fmax (pre.foldl maxStep x).toReal z.toReal) post)) :=
  congrArg Except.ok (foldl_split (fun _ _ h => maxStep_fmax h) pre post x hz)

theorem minAll_split (x : Num) (pre : List Num) {z : Num} (post : List Num) (hz : z.isExact = false) :
    minAll (x :: (pre ++ z :: post)) =
      .ok (.real (realFold fmin (fmin (pre.foldl minStep x).toReal z.toReal) post)) :=
  congrArg Except.ok (foldl_split (fun _ _ h => minStep_fmin h) pre post x hz)

/-! ### the meaning of one comparison -/

theorem Cmp_exact (R : Rat → Rat → Prop) (F : Float32 → Float32 → Prop) {a b : Num} {x y : Rat}
    (hx : a.val = some x) (hy : b.val = some y) : Cmp R F a b = R x y := by
  unfold Cmp; rw [hx, hy]

theorem Cmp_real (R : Rat → Rat → Prop) (F : Float32 → Float32 → Prop) {a b : Num}
    (h : a.isExact = false ∨ b.isExact = false) : Cmp R F a b = F a.toReal b.toReal := by
  cases a <;> cases b <;> first | rfl | (rcases h with h | h <;> cases h)

theorem cmp_of {op : Num → Num → Bool} {R : Rat → Rat → Prop} {F : Float32 → Float32 → Prop}
    [∀ x y, Decidable (F x y)]
    (hex : ∀ {a b : Num} {x y : Rat}, a.PosDen → b.PosDen → a.val = some x → b.val = some y →
      (op a b = true ↔ R x y))
    (hre : ∀ {a b : Num}, a.isExact = false ∨ b.isExact = false →
      op a b = decide (F a.toReal b.toReal))
    {a b : Num} (pa : a.PosDen) (pb : b.PosDen) : op a b = true ↔ Cmp R F a b := by
  rcases exact_or_real a b with ⟨ea, eb⟩ | h
  · rw [Cmp_exact R F (val_of_exact ea) (val_of_exact eb)]
    exact hex pa pb (val_of_exact ea) (val_of_exact eb)
  · rw [Cmp_real R F h, hre h]; exact decide_eq_true_iff

theorem cmp_exact_or_real {op : Num → Num → Bool} {F : Float32 → Float32 → Prop}
    (hF : ∀ a b, a.isExact = false ∨ b.isExact = false → (op a b = true ↔ F a.toReal b.toReal)) (a b : Num) :
    op a b = true ↔
      if a.isExact = true ∧ b.isExact = true then op a b = true else F a.toReal b.toReal := by
  rcases exact_or_real a b with he | h
  · rw [if_pos he]
  · rw [if_neg fun he => by rcases h with h | h <;> simp [he.1, he.2] at h]
    exact hF a b h

theorem cmpChain_cmp {op : Num → Num → Bool} {P : Num → Num → Prop}
    (hop : ∀ a b, a.PosDen → b.PosDen → (op a b = true ↔ P a b)) (xs : List Num)
    (hxs : ∀ x ∈ xs, x.PosDen) :
    cmpChain op xs = true ↔
      ∀ (i : Nat) (h : i + 1 < xs.length), P (xs[i]'(by omega)) (xs[i + 1]'h) := by
  rw [cmpChain_iff, adjacent_iff_index]
  exact forall_congr' fun i => forall_congr' fun h => hop _ _ (hxs _ (List.getElem_mem _)) (hxs _ (List.getElem_mem _))

end Num

namespace Prim

/-- `asReal` is the model's name (`Number::as_real`, Prim.lean), `toReal` the specification's -/
theorem asReal_eq_toReal (n : Num) : asReal n = n.toReal := by cases n <;> rfl

end Prim

end Ruschm
