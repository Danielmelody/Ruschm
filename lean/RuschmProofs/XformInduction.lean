/-
The datum→AST transformer (`RuschmModel/Xform.lean`) is a block of eleven mutually recursive functions
on fuel in the monad `XM`. A property of the whole block is proved once, for a predicate on computations
that is the same at every result type: it has to respect the combinators the block is written with
(`XM.Closed`), and `XM.Closed.all` is the induction. `toStatement_succ_cases` gives the branches of
`toStatement` as a case principle; `XM.Sat` is the Hoare triple of `XM`.
-/
import RuschmProofs.XformEquations
import RuschmProofs.AndThen

namespace Ruschm.Xform

/-! ## a Hoare triple -/

/-- the claim `Ends` of the unary rules of the evaluator and the loader, from every start environment
that satisfies `I` -/
def XM.Sat {α} (I : SynEnv → Prop) (E : SErr → Prop) (m : XM α) (P : α → Prop) : Prop :=
  ∀ s, I s → Ends I E (fun _ => P) (m s)

theorem XM.bind_andThen {α β} (m : XM α) (f : α → XM β) (s : SynEnv) :
    (m >>= f) s = andThen (m s) fun a s' => f a s' := by
  rw [XM.bind_def]; rcases m s with ⟨_ | _, _⟩ <;> rfl

abbrev XM.Yields {α} (m : XM α) (P : α → Prop) : Prop := XM.Sat (fun _ => True) (fun _ => True) m P

namespace XM.Sat
variable {I : SynEnv → Prop} {E : SErr → Prop} {α β : Type}

theorem pure {a : α} {P : α → Prop} (h : P a) : Sat I E (Pure.pure a) P :=
  fun _ hs => .ofOk hs h

theorem fail {e : SErr} {P : α → Prop} (h : E e) : Sat I E (fail e) P :=
  fun _ hs => .ofErr hs h

theorem lift {x : Except SErr α} {P : α → Prop} (hok : ∀ a, x = .ok a → P a)
    (herr : ∀ e, x = .error e → E e) : Sat I E (lift x) P :=
  fun _ hs => ⟨hs, hok, herr⟩

theorem of_run {m : XM α} {x : Except SErr α} {P : α → Prop} (hm : ∀ s, m s = (x, s))
    (hok : ∀ a, x = .ok a → P a) (herr : ∀ e, x = .error e → E e) : Sat I E m P :=
  fun s hs => by rw [hm s]; exact ⟨hs, hok, herr⟩

theorem need {o : Option α} (h : E (.syntax, none)) : Sat I E (need o) (fun a => o = some a) := by
  cases o
  · exact fail h
  · exact pure rfl

theorem getEnv : Sat I E getEnv I :=
  fun _ hs => .ofOk hs hs

theorem defineSyntax {k r} (h : ∀ s, I s → I (s.define k r)) :
    Sat I E (defineSyntax k r) (fun _ => True) :=
  fun s hs => .ofOk (h s hs) trivial

theorem expectList {d : Datum} (h : E (.syntax, none)) : Sat I E (expectList d) (fun d' => d' = d) :=
  lift (fun _ => Macro.expectList_ok) fun _ he => Macro.expectList_error he ▸ h

theorem bind {m : XM α} {f : α → XM β} {P : α → Prop} {Q : β → Prop}
    (hm : Sat I E m P) (hf : ∀ a, P a → Sat I E (f a) Q) : Sat I E (m >>= f) Q :=
  fun s hs => XM.bind_andThen m f s ▸ (hm s hs).andThen fun a s1 h1 ha => hf a ha s1 h1

theorem skip {m : XM α} {f : α → XM β} {Q : β → Prop} (hf : ∀ a, XM.Yields (f a) Q) : XM.Yields (m >>= f) Q :=
  bind (P := fun _ => True) (fun _ _ => ⟨trivial, fun _ _ => trivial, fun _ _ => trivial⟩) fun a _ => hf a

theorem weaken {m : XM α} {P Q : α → Prop} (hm : Sat I E m P) (h : ∀ a, P a → Q a) :
    Sat I E m Q :=
  fun s hs => ⟨(hm s hs).inv, fun a ha => h a ((hm s hs).ok a ha), (hm s hs).err⟩

theorem weakenE {E' : SErr → Prop} {m : XM α} {P : α → Prop} (hm : Sat I E m P) (h : ∀ e, E e → E' e) :
    Sat I E' m P :=
  fun s hs => ⟨(hm s hs).inv, (hm s hs).ok, fun e he => h e ((hm s hs).err e he)⟩

theorem ite (c : Prop) [Decidable c] {a b : XM α} {P : α → Prop} (ha : Sat I E a P) (hb : Sat I E b P) :
    Sat I E (if c then a else b) P :=
  ite_of (P := fun m => Sat I E m P) c ha hb

theorem inChild {m : XM α} {P : α → Prop} (push : ∀ s, I s → I ([] :: s))
    (pop : ∀ s, I s → I (popScope s)) (hm : Sat I E m P) : Sat I E (inChild m) P := by
  intro s hs
  rw [inChild_run]
  exact ⟨pop _ (hm _ (push s hs)).inv, (hm _ (push s hs)).ok, (hm _ (push s hs)).err⟩

theorem mapM {f : α → XM β} {P : β → Prop} {l : List α} (hf : ∀ a ∈ l, Sat I E (f a) P) :
    Sat I E (l.mapM f) (fun bs => ∀ b ∈ bs, P b) := by
  induction l with
  | nil => exact pure nofun
  | cons a l ih =>
    rw [List.mapM_cons]
    exact bind (hf a (List.mem_cons_self ..)) fun b hb =>
      bind (ih fun x hx => hf x (List.mem_cons_of_mem _ hx)) fun bs hbs =>
        pure (List.forall_mem_cons.2 ⟨hb, hbs⟩)

end XM.Sat

theorem identOf_sat {I : SynEnv → Prop} {E : SErr → Prop} {d : Datum} (h : E (.syntax, d.loc)) :
    XM.Sat I E (identOf d) (fun x => ∃ l, d = .sym x l) :=
  .lift (fun x => (Macro.identOf_ok_iff d x).1) fun _ he => Macro.identOf_error he ▸ h

/-! ## the branches of `toStatement` -/

theorem toStatement_succ_cases {M : Datum → XM Statement → Prop} (n : Nat)
    (prim : ∀ p l, M (.prim p l) (pure (.expr (.prim p l))))
    (sym : ∀ s l, M (.sym s l) (pure (.expr (.sym s l))))
    (vec : ∀ xs l, M (.vec xs l) (pure (.expr (.datum (.vec xs l) l))))
    (nil : ∀ l, M (.nil l) (fail (.syntax, none)))
    (dotted : ∀ a b l, b.isListy = false → M (.pair a b l) (fail (.syntax, none)))
    (form : ∀ k lk b l, M (.pair (.sym k.name lk) b l) (formOf n k b.elems l))
    (use : ∀ kw lk b l, kw ∉ CoreSyntax.keywords → M (.pair (.sym kw lk) b l) (useOf n kw lk b l))
    (call : ∀ a b l, (∀ kw lk, a ≠ .sym kw lk) → M (.pair a b l) (callOf n a b.elems l))
    (d : Datum) : M d (toStatement (n+1) d) := by
  cases d with
  | prim p l => rw [toStatement_prim]; exact prim p l
  | sym s l => rw [toStatement_sym]; exact sym s l
  | vec xs l => rw [toStatement_vec]; exact vec xs l
  | nil l => rw [toStatement_nil]; exact nil l
  | pair a b l =>
    cases hb : b.isListy with
    | false => rw [toStatement_dotted n hb]; exact dotted a b l hb
    | true =>
      rw [toStatement_pair n hb]
      cases a with
      | sym kw lk => exact kwCase_cases (P := M _) (fun k hk => hk ▸ form k lk b l) (use kw lk b l)
      | _ => exact call _ b l nofun

/-! ## a predicate that is the same at every result type -/

/-- for the helpers that do not touch the environment: `toFormals`, `toLibName`, `toExportSpec`,
`toImportSet` -/
structure XM.Basic (P : ∀ {α : Type}, XM α → Prop) : Prop where
  pure : ∀ {α} (a : α), P (pure a)
  failS : ∀ {α} (l : Loc), P (fail (.syntax, l) : XM α)
  failF : ∀ {α}, P (fail (.fuel, none) : XM α)
  bind : ∀ {α β} {m : XM α} {f : α → XM β}, P m → (∀ a, P (f a)) → P (m >>= f)
  ident : ∀ d, P (identOf d)
  elist : ∀ d, P (expectList d)

/-- The environment is read in one place only, `useOf`, which goes on as a macro use (`A`) or as a call
(`B`): `look` is the closure under that. -/
structure XM.Closed (P : ∀ {α : Type}, XM α → Prop) : Prop extends XM.Basic P where
  child : ∀ {α} {m : XM α}, P m → P (inChild m)
  pop : ∀ d, P (lift (Macro.popProper d))
  rules : ∀ k spec, P (lift (Macro.toRules k spec))
  expand : ∀ fuel r use, P (lift (Macro.transform fuel r use))
  define : ∀ k r, P (defineSyntax k r)
  look : ∀ {β} (kw : String) {A : Macro.Rules → XM β} {B : XM β}, (∀ r, P (A r)) → P B →
    P (getEnv >>= fun env => match env.get? kw with
      | some r => A r
      | none => B)

namespace XM.Basic
variable {P : ∀ {α : Type}, XM α → Prop} (h : XM.Basic P)
include h

theorem need {α} (x : Option α) : P (need x) := by
  cases x
  · exact h.failS none
  · exact h.pure _

theorem mapM {α β} {f : α → XM β} (hf : ∀ a, P (f a)) (l : List α) : P (l.mapM f) := by
  induction l with
  | nil => exact h.pure _
  | cons a l ih => rw [List.mapM_cons]; exact h.bind (hf a) fun _ => h.bind ih fun _ => h.pure _

theorem toFormals (d : Datum) : P (toFormals d) :=
  toFormals_cases d h.pure fun _ _ => h.failS _

theorem toLibName (ds : List Datum) : P (toLibName ds) := by
  refine h.mapM (fun d => ?_) ds
  split
  · exact h.pure _
  · split
    · exact h.pure _
    · exact h.failS _
  · exact h.failS _

theorem exportRename (es : List Datum) (l : Loc) : P (exportRename es l) :=
  h.bind (h.need _) fun _ => ite_of _
    (h.bind (h.need _) fun _ => h.bind (h.ident _) fun _ => h.bind (h.need _) fun _ =>
      h.bind (h.ident _) fun _ => h.pure _)
    (h.failS _)

theorem toExportSpec (d : Datum) : P (toExportSpec d) := by
  rw [toExportSpec_eq]
  cases d
  case sym => exact h.pure _
  case prim => exact h.failS _
  case vec => exact h.failS _
  all_goals exact h.exportRename _ _

theorem toImportSet : ∀ (n : Nat) (d : Datum), P (toImportSet n d)
  | 0, d => by rw [Xform.toImportSet]; exact h.failF
  | n + 1, d => by
    rw [Xform.toImportSet]
    refine h.bind (h.elist d) fun d => h.bind (h.need _) fun first => h.bind (h.ident _) fun spec => ?_
    -- the four modifiers start alike: the set modified is the second element
    have sub : ∀ {k : ImportSet → XM ImportSet}, (∀ s, P (k s)) → P (do
        let s ← Xform.need (d.elems.drop 1).head?
        let s ← Xform.toImportSet n s
        k s) :=
      fun hk => h.bind (h.need _) fun s => h.bind (toImportSet n s) hk
    have ids : ∀ rest : List Datum, P (rest.mapM identOf) := h.mapM h.ident
    refine ite_of _ (sub fun s => h.bind (ids _) fun _ => h.pure _) ?_
    refine ite_of _ (sub fun s => h.bind (ids _) fun _ => h.pure _) ?_
    refine ite_of _ (sub fun s => h.bind (h.need _) fun _ => h.bind (h.ident _) fun _ => h.pure _) ?_
    refine ite_of _ (sub fun s => h.bind (h.mapM (fun pd => ?_) _) fun _ => h.pure _)
      (h.bind (h.toLibName _) fun _ => h.pure _)
    exact h.bind (h.elist pd) fun _ => h.bind (h.need _) fun _ => h.bind (h.ident _) fun _ =>
      h.bind (h.need _) fun _ => h.bind (h.ident _) fun _ => h.pure _

end XM.Basic

theorem XM.Sat.basic {I : SynEnv → Prop} {E : SErr → Prop} (hS : ∀ l, E (.syntax, l))
    (hF : E (.fuel, none)) : XM.Basic (fun m => XM.Sat I E m (fun _ => True)) where
  pure _ := .pure trivial
  failS l := .fail (hS l)
  failF := .fail hF
  bind hm hf := .bind hm fun a _ => hf a
  ident _ := (identOf_sat (hS _)).weaken fun _ _ => trivial
  elist _ := (XM.Sat.expectList (hS _)).weaken fun _ _ => trivial

/-! ## computations that neither read nor write the syntax environment -/

/-- read off in the empty environment; for a `StateFree` computation the result in every environment -/
def XM.run₀ {α} (m : XM α) : Except SErr α := (m []).1

def XM.StateFree {α} (m : XM α) : Prop := ∀ s, m s = (m.run₀, s)

theorem XM.run₀_bind {α β} {m : XM α} {f : α → XM β} (h : XM.StateFree m) :
    (m >>= f).run₀ = m.run₀ >>= fun a => (f a).run₀ := by
  unfold XM.run₀
  rw [XM.bind_def, h []]
  cases m.run₀ <;> rfl

theorem XM.StateFree.run_iff {α} {m : XM α} (h : XM.StateFree m) {s s' : SynEnv} {r : Except SErr α} :
    m s = (r, s') ↔ m.run₀ = r ∧ s' = s := by
  rw [h s, Prod.mk.injEq, eq_comm (a := s)]

theorem XM.StateFree.basic : XM.Basic @XM.StateFree where
  pure _ _ := rfl
  failS _ _ := rfl
  failF _ := rfl
  bind {_ _ m f} hm hf s := by
    rw [XM.run₀_bind hm, XM.bind_def, hm s]
    cases m.run₀ with
    | error e => rfl
    | ok a => exact hf a s
  ident _ _ := rfl
  elist _ _ := rfl

theorem mapM_lift {α β} {f : α → XM β} {g : α → Except SErr β} {s : SynEnv} :
    ∀ (l : List α), (∀ a ∈ l, f a s = (g a, s)) → l.mapM f s = (l.mapM g, s)
  | [], _ => rfl
  | a :: l, h => by
    rw [List.mapM_cons, XM.bind_def, h a (List.mem_cons_self ..), mapM_cons]
    cases g a with
    | error e => rfl
    | ok b =>
      simp only [XM.bind_def, mapM_lift l fun x hx => h x (List.mem_cons_of_mem _ hx)]
      cases l.mapM g <;> rfl

theorem toExportSpec_stateFree (d : Datum) : XM.StateFree (toExportSpec d) := XM.StateFree.basic.toExportSpec d
theorem toImportSet_stateFree (n : Nat) (d : Datum) : XM.StateFree (toImportSet n d) :=
  XM.StateFree.basic.toImportSet n d

/-! ## the whole block -/

structure XM.All (P : ∀ {α : Type}, XM α → Prop) (n : Nat) : Prop where
  stmt : ∀ d, P (toStatement n d)
  expr : ∀ d, P (toExpr n d)
  call : ∀ first args loc, P (toCall n first args loc)
  exprs : ∀ ds, P (toExprs n ds)
  defn : ∀ args, P (toDefinition n args)
  lam : ∀ args, P (toLambda n args)
  body : ∀ ds defs exprs, P (toBody n ds defs exprs)
  lib : ∀ args loc, P (toLibrary n args loc)
  decls : ∀ ds, P (toLibDecls n ds)
  decl : ∀ d, P (toLibDecl n d)
  stmts : ∀ ds, P (toStatements n ds)

namespace XM.Closed
variable {P : ∀ {α : Type}, XM α → Prop} (h : XM.Closed P)
include h

theorem all_zero : XM.All P 0 := by
  constructor <;> intros <;>
    simp only [toStatement, toExpr, toCall, toExprs, toDefinition, toLambda, toBody, toLibrary, toLibDecls,
      toLibDecl, toStatements] <;> exact h.failF

theorem all_succ {n : Nat} (ih : XM.All P n) : XM.All P (n + 1) where
  stmt := by
    have b := h.toBasic
    have call : ∀ a args l, P (callOf n a args l) := fun _ _ _ => h.bind (ih.call _ _ _) fun _ => h.pure _
    refine toStatement_succ_cases (M := fun _ m => P m) n ?_ ?_ ?_ ?_ ?_ ?_ ?_ ?_
    · exact fun _ _ => h.pure _
    · exact fun _ _ => h.pure _
    · exact fun _ _ => h.pure _
    · exact fun _ => h.failS _
    · exact fun _ _ _ _ => h.failS _
    · intro k _ _ _
      cases k <;> dsimp only [formOf]
      · exact h.bind (ih.defn _) fun _ => h.pure _
      · exact ih.lib _ _
      · exact h.bind (ih.lam _) fun _ => h.pure _
      · refine h.bind (b.need _) fun _ => h.bind (ih.expr _) fun _ => h.bind (b.need _) fun _ =>
          h.bind (ih.expr _) fun _ => ?_
        split
        · exact h.bind (ih.expr _) fun _ => h.bind (h.pure _) fun _ => h.pure _
        · exact h.bind (h.pure _) fun _ => h.pure _
      · exact h.bind (b.mapM (b.toImportSet n) _) fun _ => h.pure _
      · exact h.bind (b.need _) fun _ => h.pure _
      · refine h.bind (b.need _) fun _ => ?_
        split
        · exact h.bind (b.need _) fun _ => h.bind (ih.expr _) fun _ => h.pure _
        · exact h.failS _
      · exact h.bind (b.need _) fun _ => h.bind (h.ident _) fun _ => h.bind (b.need _) fun _ =>
          h.bind (h.rules _ _) fun _ => h.bind (h.define _ _) fun _ => h.pure _
    · exact fun kw _ _ _ _ => h.look kw (fun _ => h.bind (h.expand _ _ _) fun _ => ih.stmt _) (call _ _ _)
    · exact fun _ _ _ _ => call _ _ _
  expr d := by
    rw [toExpr]
    refine h.bind (ih.stmt d) fun s => ?_
    split
    · exact h.pure _
    · exact h.failS _
  call first args loc := by
    rw [toCall]
    exact h.bind (ih.expr _) fun _ => h.bind (ih.exprs _) fun _ => h.pure _
  exprs ds := by
    cases ds <;> rw [toExprs]
    · exact h.pure _
    · exact h.bind (ih.expr _) fun _ => h.bind (ih.exprs _) fun _ => h.pure _
  defn args := by
    have b := h.toBasic
    rw [toDefinition]
    refine h.bind (b.need _) fun first => ?_
    split
    · exact h.bind (b.need _) fun _ => h.bind (ih.expr _) fun _ => h.pure _
    · exact h.bind (h.ident _) fun _ => h.bind (b.toFormals _) fun _ => h.bind (ih.body _ _ _) fun _ =>
        h.pure _
    · exact h.failS _
    · exact h.failS _
  lam args := by
    have b := h.toBasic
    rw [toLambda]
    exact h.bind (b.need _) fun _ => h.bind (b.toFormals _) fun _ =>
      h.bind (h.child (ih.body _ _ _)) fun _ => h.pure _
  body ds defs exprs := by
    cases ds <;> rw [toBody]
    · split
      · exact h.failS _
      · exact h.pure _
    · refine h.bind (ih.stmt _) fun s => ?_
      split
      · split
        · exact ih.body _ _ _
        · split; exact h.failS _
      · exact ih.body _ _ _
      · exact h.failS _
  lib args loc := by
    have b := h.toBasic
    rw [toLibrary]
    exact h.bind (b.need _) fun _ => h.bind (h.elist _) fun _ => h.bind (b.toLibName _) fun _ =>
      h.bind (ih.decls _) fun _ => h.pure _
  decls ds := by
    cases ds <;> rw [toLibDecls]
    · exact h.pure _
    · exact h.bind (ih.decl _) fun _ => h.bind (ih.decls _) fun _ => h.pure _
  decl d := by
    have b := h.toBasic
    rw [toLibDecl]
    refine h.bind (h.elist d) fun d => h.bind (b.need _) fun first => ?_
    split
    · exact h.bind (b.mapM b.toExportSpec _) fun _ => h.pure _
    · exact h.bind (ih.stmts _) fun _ => h.pure _
    · exact h.bind (b.mapM (b.toImportSet n) _) fun _ => h.pure _
  stmts ds := by
    cases ds <;> rw [toStatements]
    · exact h.pure _
    · exact h.bind (ih.stmt _) fun _ => h.bind (ih.stmts _) fun _ => h.pure _

theorem all : ∀ n, XM.All P n
  | 0 => h.all_zero
  | n + 1 => h.all_succ (all n)

end XM.Closed

end Ruschm.Xform
