/-
Property C10 — numeric comparison is the mathematical order.

"=, <, >, <= and >= agree with the mathematical order of their arguments for all exact operands,
compare an exact with an inexact operand after converting the exact one to binary32, and an n-ary
comparison is the conjunction of its adjacent pairs. max and min return the numerically extreme
argument (inexact if any argument is inexact), and eqv? on two numbers is true exactly when they
have the same exactness and are numerically equal."

Only property theorems live here (each is audited with `#print axioms`); helper lemmas are in
`RuschmProofs/NumLemmas.lean`, vocabulary in `RuschmSpec/Num.lean`.

The order theorems need only positive denominators (`PosDen`); `eqv_iff` needs the full
representation invariant `WF` (lowest terms, denominator never 1), which every arithmetic result
has (C09 `ops_wf`).

An `example` after a theorem shows that its hypotheses can be met (non-vacuity), or the statement on numbers.
-/
import RuschmProofs.NumLemmas

namespace Ruschm.C10
open Ruschm

/-! ## 1. the five predicates on exact operands -/

theorem lt_iff {a b : Num} {x y : Rat} (pa : a.PosDen) (pb : b.PosDen)
    (ha : a.val = some x) (hb : b.val = some y) : Num.lt a b = true ↔ x < y :=
  Num.lt_iff pa pb ha hb

example : (Num.rat (-1) 2).PosDen ∧ (Num.int 0).PosDen ∧ (Num.rat (-1) 2).val = some (-1 / 2) ∧
    (Num.int 0).val = some 0 ∧ Num.lt (.rat (-1) 2) (.int 0) = true :=
  ⟨by decide, by decide, by decide +kernel, by decide +kernel, rfl⟩

theorem gt_iff {a b : Num} {x y : Rat} (pa : a.PosDen) (pb : b.PosDen)
    (ha : a.val = some x) (hb : b.val = some y) : Num.gt a b = true ↔ x > y :=
  Num.gt_iff pa pb ha hb

example : (Num.rat 2 3).PosDen ∧ (Num.rat 1 2).PosDen ∧ Num.gt (.rat 2 3) (.rat 1 2) = true :=
  ⟨by decide, by decide, rfl⟩

theorem le_iff {a b : Num} {x y : Rat} (pa : a.PosDen) (pb : b.PosDen)
    (ha : a.val = some x) (hb : b.val = some y) : Num.le a b = true ↔ x ≤ y :=
  Num.le_iff pa pb ha hb

example : (Num.rat 1 2).PosDen ∧ Num.le (.rat 1 2) (.rat 1 2) = true ∧
    Num.le (.int 1) (.rat 1 2) = false := ⟨by decide, rfl, rfl⟩

theorem ge_iff {a b : Num} {x y : Rat} (pa : a.PosDen) (pb : b.PosDen)
    (ha : a.val = some x) (hb : b.val = some y) : Num.ge a b = true ↔ x ≥ y :=
  Num.ge_iff pa pb ha hb

example : (Num.int 1).PosDen ∧ (Num.rat 1 2).PosDen ∧ Num.ge (.int 1) (.rat 1 2) = true :=
  ⟨by decide, by decide, rfl⟩

/-- `=` on exact operands is equality of values (also for unreduced representations). -/
theorem eq_iff {a b : Num} {x y : Rat} (pa : a.PosDen) (pb : b.PosDen)
    (ha : a.val = some x) (hb : b.val = some y) : Num.eq a b = true ↔ x = y :=
  Num.eq_iff pa pb ha hb

example : (Num.rat 2 4).PosDen ∧ (Num.rat 1 2).PosDen ∧ Num.eq (.rat 2 4) (.rat 1 2) = true ∧
    Num.eq (.int 1) (.rat 1 2) = false := ⟨by decide, by decide, rfl, rfl⟩

/-- The cross products formed by the comparisons fit the `i64` the Rust code computes them in
(for `i32` components), so the unbounded-`Int` model is faithful there. -/
theorem cross_product_fits_i64 {a b : Int} (ha : fitsI32 a = true) (hb : fitsI32 b = true) :
    -9223372036854775808 ≤ a * b ∧ a * b ≤ 9223372036854775807 := by
  rw [Num.fitsI32_iff] at ha hb
  have := Num.natAbs_mul_le (k := 2147483648) (x := a) (y := b) (by omega) (by omega)
  omega

example : fitsI32 (-2147483648) = true := by decide

/-! ## 2. comparisons with an inexact operand -/

/-- With an inexact operand every predicate is the binary32 comparison of the converted
operands. -/
theorem cmp_mixed {a b : Num} (h : a.isExact = false ∨ b.isExact = false) :
    Num.lt a b = decide (a.toReal < b.toReal) ∧
    Num.gt a b = decide (a.toReal > b.toReal) ∧
    Num.le a b = decide (a.toReal ≤ b.toReal) ∧
    Num.ge a b = decide (a.toReal ≥ b.toReal) ∧
    Num.eq a b = (a.toReal == b.toReal) :=
  ⟨Num.lt_real h, Num.gt_real h, Num.le_real h, Num.ge_real h, Num.eq_real h⟩

example : (Num.rat 1 2).isExact = false ∨ (Num.real 0.5).isExact = false := Or.inr rfl

/-! ## 3. n-ary comparison = conjunction over adjacent pairs -/

/-- `cmpChain op xs` holds iff every adjacent pair satisfies `op` (recursive and index form);
in particular it holds for no and for one argument. -/
theorem cmpChain_iff (op : Num → Num → Bool) (xs : List Num) :
    (Num.cmpChain op xs = true ↔ Num.Adjacent op xs) ∧
    (Num.cmpChain op xs = true ↔
      ∀ (i : Nat) (h : i + 1 < xs.length), op (xs[i]'(by omega)) (xs[i + 1]'h) = true) :=
  ⟨Num.cmpChain_iff op xs, (Num.cmpChain_iff op xs).trans (Num.adjacent_iff_index op xs)⟩

example : Num.cmpChain Num.lt [.int 1, .rat 3 2, .int 2] = true ∧
    Num.cmpChain Num.lt [.int 1, .int 3, .int 2] = false := ⟨rfl, rfl⟩

theorem cmpChain_nil_singleton (op : Num → Num → Bool) (x : Num) :
    Num.cmpChain op [] = true ∧ Num.cmpChain op [x] = true := ⟨rfl, rfl⟩

/-! ## 4. max / min -/

/-- `max` of a non-empty list of exact numbers with positive denominators: the result is (literally)
one of the arguments — hence exact, with that argument's value, and well-formed when the arguments
are — and its value is ≥ the value of every argument. -/
theorem maxAll_extreme {xs : List Num} (hne : xs ≠ [])
    (hxs : ∀ y ∈ xs, y.isExact = true ∧ y.PosDen) :
    ∃ r, Num.maxAll xs = .ok r ∧ r ∈ xs ∧ r.isExact = true ∧
      ((∀ y ∈ xs, y.WF) → r.WF) ∧ ∀ y ∈ xs, y.valD ≤ r.valD := by
  cases xs with
  | nil => exact absurd rfl hne
  | cons x rest =>
    obtain ⟨mem, dom⟩ := Num.foldl_maxStep_spec rest x hxs
    exact ⟨_, rfl, mem, (hxs _ mem).1, fun h => h _ mem, dom⟩

example : (∀ y ∈ [Num.int 0, .rat 1 2, .rat 1 3], y.isExact = true ∧ y.PosDen) ∧
    Num.maxAll [.int 0, .rat 1 2, .rat 1 3] = .ok (.rat 1 2) := ⟨by decide, rfl⟩

theorem minAll_extreme {xs : List Num} (hne : xs ≠ [])
    (hxs : ∀ y ∈ xs, y.isExact = true ∧ y.PosDen) :
    ∃ r, Num.minAll xs = .ok r ∧ r ∈ xs ∧ r.isExact = true ∧
      ((∀ y ∈ xs, y.WF) → r.WF) ∧ ∀ y ∈ xs, r.valD ≤ y.valD := by
  cases xs with
  | nil => exact absurd rfl hne
  | cons x rest =>
    obtain ⟨mem, dom⟩ := Num.foldl_minStep_spec rest x hxs
    exact ⟨_, rfl, mem, (hxs _ mem).1, fun h => h _ mem, dom⟩

example : (∀ y ∈ [Num.int 0, .rat 1 2, .rat (-1) 3], y.isExact = true ∧ y.PosDen) ∧
    Num.minAll [.int 0, .rat 1 2, .rat (-1) 3] = .ok (.rat (-1) 3) ∧
    Num.minAll [.int 0, .rat 1 2] = .ok (.int 0) := ⟨by decide, rfl, rfl⟩

/-- The result of `max` is inexact iff some argument is inexact (no hypothesis needed). -/
theorem max_contagion {xs : List Num} {r : Num} (h : Num.maxAll xs = .ok r) :
    r.isExact = false ↔ ∃ y ∈ xs, y.isExact = false := by
  cases xs with
  | nil => cases h
  | cons x rest => cases h; exact Num.picks_max.foldl_inexact_iff rest x

theorem min_contagion {xs : List Num} {r : Num} (h : Num.minAll xs = .ok r) :
    r.isExact = false ↔ ∃ y ∈ xs, y.isExact = false := by
  cases xs with
  | nil => cases h
  | cons x rest => cases h; exact Num.picks_min.foldl_inexact_iff rest x

example : ∃ f, Num.maxAll [.int 3, .real 0.5, .rat 1 2] = .ok (.real f) := by
  obtain ⟨r, h⟩ : ∃ r, Num.maxAll [.int 3, .real 0.5, .rat 1 2] = .ok r := ⟨_, rfl⟩
  have e := (max_contagion h).2 ⟨.real 0.5, .tail _ (.head _), rfl⟩
  cases r with
  | real f => exact ⟨f, h⟩
  | _ => cases e

/-- One `max`/`min` step with an inexact operand: the kept operand is the binary32 conversion of
the argument selected by the binary32 comparison. -/
theorem maxStep_minStep_mixed {a b : Num} (h : a.isExact = false ∨ b.isExact = false) :
    Num.maxStep a b = (if Num.gt a b = true then .real a.toReal else .real b.toReal) ∧
    Num.minStep a b = (if Num.lt a b = true then .real a.toReal else .real b.toReal) :=
  ⟨Num.picks_max.real h, Num.picks_min.real h⟩

example : (Num.int 3).isExact = false ∨ (Num.real 0.5).isExact = false := Or.inr rfl

/-- `max`/`min` are left folds of the binary step from the first argument; no argument is the
`unwrap` panic (excluded by the arity check). -/
theorem maxAll_minAll_eq_fold (x : Num) (rest : List Num) :
    Num.maxAll (x :: rest) = .ok (rest.foldl Num.maxStep x) ∧
    Num.minAll (x :: rest) = .ok (rest.foldl Num.minStep x) := ⟨rfl, rfl⟩

/-! ## 5. eqv? -/

/-- `eqv?` on well-formed numbers: true exactly when both are exact with the same value, or both
are inexact and binary32-equal. -/
theorem eqv_iff {a b : Num} (ha : a.WF) (hb : b.WF) :
    Num.exactEqv a b = true ↔
      (∃ v, a.val = some v ∧ b.val = some v) ∨
      (∃ r s, a = .real r ∧ b = .real s ∧ (r == s) = true) := by
  constructor
  · intro h
    cases a <;> cases b <;> try contradiction
    · exact .inl ⟨_, rfl, by rw [beq_iff_eq.mp h]; rfl⟩
    · exact .inr ⟨_, _, rfl, rfl, h⟩
    · rename_i n d n' d'
      have c := Num.cross_eq (a := .rat n d) (b := .rat n' d') ha.2.2.1 hb.2.2.1
      refine .inl ⟨_, rfl, congrArg some (c.mpr ?_).symm⟩
      have := beq_iff_eq.mp h
      simp only [Num.num, Num.den]; rw [this, Int.mul_comm]
  · rintro (⟨v, va, vb⟩ | ⟨r, s, rfl, rfl, h⟩)
    -- equal values of well-formed numbers are equal representations
    · obtain rfl := Num.wf_val_inj ha hb va vb
      cases a with
      | int i => exact beq_self_eq_true i
      | rat n d => show (n * d == d * n) = true; rw [Int.mul_comm]; exact beq_self_eq_true _
      | real r => cases va
    · exact h

example : (Num.rat 1 2).WF ∧ (Num.int 1).WF ∧ Num.exactEqv (.rat 1 2) (.rat 1 2) = true ∧
    Num.exactEqv (.int 1) (.rat 1 2) = false := ⟨by decide, by decide, rfl, rfl⟩

/-- In particular for well-formed exact numbers `eqv?` is equality of values, and an exact and an
inexact number are never `eqv?`. -/
theorem eqv_exact_iff {a b : Num} (ha : a.WF) (hb : b.WF) {x y : Rat}
    (va : a.val = some x) (vb : b.val = some y) : Num.exactEqv a b = true ↔ x = y := by
  rw [eqv_iff ha hb]
  constructor
  · rintro (⟨v, h1, h2⟩ | ⟨r, s, h, _⟩)
    · rw [va] at h1; rw [vb] at h2
      exact (Option.some.inj h1).trans (Option.some.inj h2).symm
    · rw [h] at va; cases va
  · rintro rfl; exact Or.inl ⟨x, va, vb⟩

example : (Num.int 1).WF ∧ (Num.int 1).val = some 1 := ⟨by decide, by decide +kernel⟩

theorem eqv_mixed_false {a b : Num} (h : a.isExact ≠ b.isExact) : Num.exactEqv a b = false := by
  cases a <;> cases b <;> first | rfl | exact absurd rfl h

example : (Num.int 1).isExact ≠ (Num.real 1.0).isExact := by decide

/-- Without reducedness the statement fails — the invariant is needed: `2/2` and `1` have the same
value but are not `eqv?`. (Such a `2/2` is never produced: C09 `ops_wf`.) -/
theorem eqv_needs_wf :
    (Num.rat 2 2).val = (Num.int 1).val ∧ Num.exactEqv (.rat 2 2) (.int 1) = false ∧
      ¬ (Num.rat 2 2).WF :=
  ⟨by decide +kernel, rfl, by decide⟩

end Ruschm.C10
