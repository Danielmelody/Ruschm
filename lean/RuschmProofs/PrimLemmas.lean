/-
The native procedures (`Prim.applyPure`), characterised once (`applyPure_spec`): a call reads the vector store only,
reports no location, leaves the store alone when it fails and otherwise writes through one of five effects (`Eff`);
every result with its effect is among `Outcome`, every error among `PrimErr`. A property of all native calls is
proved by cases on `Outcome` (`applyPure_outcome`). What is said of the numbers and errors of the numeric procedures
holds for every `Num.TowerInv`: a set of numbers and a set of errors that the operations of the tower respect.
-/
import RuschmModel.Eval

namespace Ruschm.Prim

/-! ## the numeric wrappers are `lift` of a function of the arguments -/

def numArg1 (b : Builtin) (f : Num → Except Err Num) : List Value → Except Err Num
  | x :: _ => expectNumber x >>= f
  | [] => .error (.panic ("base.rs unwrap: " ++ b.name))

def numArg2 (b : Builtin) (f : Num → Num → Except Err Num) : List Value → Except Err Num
  | x :: y :: _ => do let n ← expectNumber x; let m ← expectNumber y; f n m
  | _ => .error (.panic ("base.rs unwrap: " ++ b.name))

theorem num1_eq (σ : Store) (args : List Value) (b : Builtin) (f : Num → Except Err Num) :
    num1 σ args b f = lift σ (numArg1 b f args) .num := by
  cases args with
  | nil => rfl
  | cons x _ =>
    simp only [num1, numArg1]
    cases expectNumber x with
    | error e => rfl
    | ok n => show _ = lift σ (f n) .num; dsimp only; cases f n <;> rfl

theorem num2_eq (σ : Store) (args : List Value) (b : Builtin) (f : Num → Num → Except Err Num) :
    num2 σ args b f = lift σ (numArg2 b f args) .num := by
  match args with
  | [] | [_] => rfl
  | x :: y :: _ =>
    simp only [num2, numArg2]
    cases expectNumber x with
    | error e => rfl
    | ok n =>
      cases expectNumber y with
      | error e => rfl
      | ok m => show _ = lift σ (f n m) .num; dsimp only; cases f n m <;> rfl

/-! ## functions that read the vector store only -/

theorem display_vecs {σ σ' : Store} (h : σ'.vecs = σ.vecs) : ∀ (n : Nat),
    display σ' n = display σ n ∧ displayTail σ' n = displayTail σ n
  | 0 => ⟨funext fun v => by unfold display; rfl, funext fun v => by unfold displayTail; rfl⟩
  | n + 1 => by
    obtain ⟨e1, e2⟩ := display_vecs h n
    exact ⟨funext fun v => by unfold display; rw [e1, e2, h], funext fun v => by unfold displayTail; rw [e1, e2]⟩

theorem canon_vecs {σ σ' : Store} (h : σ'.vecs = σ.vecs) : ∀ (n : Nat),
    canon σ' n = canon σ n ∧ canonTail σ' n = canonTail σ n
  | 0 => ⟨funext fun v => by unfold canon; rfl, funext fun v => by unfold canonTail; rfl⟩
  | n + 1 => by
    obtain ⟨e1, e2⟩ := canon_vecs h n
    exact ⟨funext fun v => by unfold canon; rw [e1, e2, h], funext fun v => by unfold canonTail; rw [e1, e2]⟩

theorem derivedEq_vecs {σ σ' : Store} (h : σ'.vecs = σ.vecs) : ∀ (n : Nat),
    derivedEq σ' n = derivedEq σ n ∧ derivedEqList σ' n = derivedEqList σ n := by
  intro n
  induction n with
  | zero =>
    exact ⟨funext fun a => funext fun b => by unfold derivedEq; rfl,
      funext fun a => funext fun b => by unfold derivedEqList; rfl⟩
  | succ n ih =>
    obtain ⟨e1, e2⟩ := ih
    refine ⟨funext fun a => funext fun b => ?_, funext fun a => funext fun b => ?_⟩
    · rw [derivedEq.eq_def, derivedEq.eq_def]
      try dsimp only
      simp only [h, e1, e2]
    · cases a <;> cases b <;> simp only [derivedEqList, e1, e2]

/-! ## what a native procedure reads and writes -/

theorem listSet_eq : ∀ (xs : List Value) (n : Nat) (v : Value),
    listSet xs n v = if n < xs.length then some (xs.set n v) else none
  | [], n, v => by simp [listSet]
  | x :: xs, 0, v => by simp [listSet]
  | x :: xs, n + 1, v => by
    simp only [listSet, listSet_eq xs n v, List.length_cons, List.set_cons_succ, Nat.add_lt_add_iff_right]
    split <;> simp

theorem listSet_map (φ : Value → Value) : ∀ (xs : List Value) (n : Nat) (v : Value),
    listSet (xs.map φ) n (φ v) = (listSet xs n v).map (List.map φ)
  | [], _, _ => rfl
  | _ :: _, 0, _ => rfl
  | x :: xs, n + 1, v => by
    simp only [List.map_cons, listSet, listSet_map φ xs n v]
    cases listSet xs n v <;> rfl

def vsetStore (σ : Store) (id : Nat) (cell : VecCell) (n : Nat) (obj : Value) : Store :=
  { σ with vecs := σ.vecs.set! id { cell with items := cell.items.set n obj } }

inductive Eff where
  | none
  | alloc (items : List Value)
  | set (id : Nat) (cell : VecCell) (n : Nat) (obj : Value)
  | out (s : String)
  | tick (s : String)

def Eff.run : Eff → Store → Store
  | .none, σ => σ
  | .alloc items, σ => (σ.allocVec true items).2
  | .set id cell n obj, σ => vsetStore σ id cell n obj
  | .out s, σ => { σ with out := s :: σ.out }
  | .tick s, σ => { σ with ticks := s :: σ.ticks }

/-- `100000` is the fuel `applyPure` gives `display` and `canon` (`RuschmModel/Prim.lean`, the `display` and `tick`
cases): `applyPure_spec` needs the same number here -/
def eff (V : Array VecCell) : Builtin → List Value → Eff
  | .newline, _ => .out "\n"
  | .display, x :: _ => .out (display { vecs := V } 100000 x)
  | .tick, x :: _ => .tick (canon { vecs := V } 100000 x)
  | .vector, a => .alloc a
  | .makeVector, .num (.int n) :: fill :: _ => .alloc (List.replicate n.toNat fill)
  | .vectorSet, .vec id :: .num (.int n) :: obj :: _ =>
    match V[id]? with
    | some cell => .set id cell n.toNat obj
    | none => .none
  | _, _ => .none

def result (V : Array VecCell) (b : Builtin) (a : List Value) : Except Err Value :=
  (applyPure { vecs := V } b a).1.mapError (·.1)

def settle (σ : Store) (r : Except Err Value) (e : Eff) : Res Value :=
  match r with
  | .ok v => (.ok v, e.run σ)
  | .error k => (.error (k, none), σ)

theorem settle_snd (σ : Store) (r : Except Err Value) (e : Eff) :
    (settle σ r e).2 = σ ∨ (settle σ r e).2 = e.run σ := by
  cases r <;> simp [settle]

theorem settle_error {σ σ' : Store} {r : Except Err Value} {e : Eff} {k : SErr}
    (h : settle σ r e = (.error k, σ')) : k.2 = none ∧ σ' = σ := by
  cases r <;> cases h <;> exact ⟨rfl, rfl⟩

theorem settle_comm {g : Store → Store} {e : Eff} (h : ∀ σ, e.run (g σ) = g (e.run σ)) (σ : Store)
    (r : Except Err Value) : settle (g σ) r e = ((settle σ r e).1, g (settle σ r e).2) := by
  cases r <;> simp [settle, h]

namespace Eff

def Quiet : Eff → Prop
  | .alloc _ | .set .. => False
  | _ => True

theorem run_frames (e : Eff) (σ : Store) : (e.run σ).frames = σ.frames := by cases e <;> rfl
theorem run_depth (e : Eff) (σ : Store) : (e.run σ).depth = σ.depth := by cases e <;> rfl
theorem run_maxDepth (e : Eff) (σ : Store) : (e.run σ).maxDepth = σ.maxDepth := by cases e <;> rfl
theorem run_vecs {e : Eff} (h : e.Quiet) (σ : Store) : (e.run σ).vecs = σ.vecs := by
  cases e <;> first | rfl | exact h.elim
theorem run_out {e : Eff} (h : ∀ s, e ≠ .out s) (σ : Store) : (e.run σ).out = σ.out := by
  cases e <;> first | rfl | exact absurd rfl (h _)

end Eff

theorem eff_quiet {b : Builtin} (h1 : b ≠ .vector) (h2 : b ≠ .makeVector) (h3 : b ≠ .vectorSet)
    (V : Array VecCell) (a : List Value) : (eff V b a).Quiet := by
  unfold eff
  split <;> first | trivial | contradiction

theorem eff_ne_out {b : Builtin} (h1 : b ≠ .newline) (h2 : b ≠ .display) (V : Array VecCell) (a : List Value)
    (s : String) : eff V b a ≠ .out s := by
  unfold eff
  split <;> first | contradiction | (split <;> exact nofun) | exact nofun

end Ruschm.Prim

/-! ## the errors of the number tower -/

namespace Ruschm

def ErrsIn {α : Type} (P : Err → Prop) (x : Except Err α) : Prop := ∀ e, x = .error e → P e

section
variable {α β : Type} {P Q : Err → Prop}

theorem errsIn_ok (a : α) : ErrsIn P (.ok a) := nofun
theorem errsIn_error {e : Err} (h : P e) : ErrsIn P (.error e : Except Err α) := by
  rintro _ ⟨⟩; exact h
theorem ErrsIn.bind {x : Except Err α} {f : α → Except Err β} (hx : ErrsIn P x) (hf : ∀ a, ErrsIn P (f a)) :
    ErrsIn P (x >>= f) := by
  cases x with
  | error e => rintro _ ⟨⟩; exact hx _ rfl
  | ok a => exact hf a
theorem ErrsIn.mono {x : Except Err α} (hx : ErrsIn P x) (h : ∀ e, P e → Q e) : ErrsIn Q x :=
  fun e he => h e (hx e he)

end

def Yields {α : Type} (I : α → Prop) (P : Err → Prop) (x : Except Err α) : Prop := (∀ a, x = .ok a → I a) ∧ ErrsIn P x

section
variable {α β : Type} {I : α → Prop} {J : β → Prop} {P : Err → Prop}

theorem yields_ok {a : α} (h : I a) : Yields I P (.ok a) := ⟨by rintro _ ⟨⟩; exact h, nofun⟩
theorem yields_error {e : Err} (h : P e) : Yields I P (.error e : Except Err α) := ⟨nofun, errsIn_error h⟩
theorem Yields.bind {x : Except Err α} {f : α → Except Err β} (hx : Yields I P x) (hf : ∀ a, I a → Yields J P (f a)) :
    Yields J P (x >>= f) := by
  cases x with
  | error e => exact yields_error (hx.2 e rfl)
  | ok a => exact hf a (hx.1 a rfl)

end

namespace Num

inductive TowerErr : Err → Prop
  | divZero : TowerErr .divZero
  | inexact : TowerErr .inexactConversion
  | ratio : TowerErr (.panic "exact_ratio: zero denominator")
  | floor : TowerErr (.panic "floor: zero denominator")
  | ceiling : TowerErr (.panic "ceiling: zero denominator")

theorem exactRatio_errs (n d : Int) : ErrsIn TowerErr (exactRatio n d) := by
  unfold exactRatio
  dsimp only
  split
  · exact errsIn_error .ratio
  · split
    · split <;> exact errsIn_ok _
    · exact errsIn_ok _

theorem add_errs (a b : Num) : ErrsIn TowerErr (add a b) := by
  unfold add; split <;> first | exact exactRatio_errs _ _ | exact errsIn_ok _
theorem sub_errs (a b : Num) : ErrsIn TowerErr (sub a b) := by
  unfold sub; split <;> first | exact exactRatio_errs _ _ | exact errsIn_ok _
theorem mul_errs (a b : Num) : ErrsIn TowerErr (mul a b) := by
  unfold mul; split <;> first | exact exactRatio_errs _ _ | exact errsIn_ok _
theorem abs_errs (a : Num) : ErrsIn TowerErr (abs a) := by
  unfold abs; split <;> first | exact exactRatio_errs _ _ | exact errsIn_ok _

theorem div_errs (a b : Num) : ErrsIn TowerErr (div a b) := by
  have z : ErrsIn TowerErr (.error .divZero : Except Err Num) := errsIn_error .divZero
  unfold div
  split
  · split
    · exact z
    · exact exactRatio_errs _ _
  · exact errsIn_ok _
  · split
    · exact z
    · split
      · exact z
      · split
        · exact z
        · exact exactRatio_errs _ _

theorem floor_errs (a : Num) : ErrsIn TowerErr (floor a) := by
  cases a with
  | rat a b =>
    simp only [floor]
    split
    · exact errsIn_error .floor
    · exact exactRatio_errs _ _
  | _ => exact errsIn_ok _

theorem ceiling_errs (a : Num) : ErrsIn TowerErr (ceiling a) := by
  cases a with
  | rat a b =>
    simp only [ceiling]
    split
    · exact errsIn_error .ceiling
    · exact exactRatio_errs _ _
  | _ => exact errsIn_ok _

theorem exact_errs (a : Num) : ErrsIn TowerErr (exact a) := by
  cases a with
  | real r =>
    simp only [exact]
    split
    · exact errsIn_ok _
    · exact errsIn_error .inexact
  | _ => exact errsIn_ok _

theorem floorQuotient_errs (a b : Num) : ErrsIn TowerErr (floorQuotient a b) :=
  (div_errs a b).bind fun _ => floor_errs _
theorem floorRemainder_errs (a b : Num) : ErrsIn TowerErr (floorRemainder a b) :=
  (floorQuotient_errs a b).bind fun _ => (mul_errs _ _).bind fun _ => sub_errs _ _

/-- instances: `SafeLemmas.towerInv_posDen` (positive denominators stay positive, and then nothing panics); `ofErrs`
(all numbers), `towerInv_true` (and all errors) -/
structure TowerInv (I : Num → Prop) (P : Err → Prop) : Prop where
  type : P .type
  divZero : P .divZero
  int : ∀ i, I (.int i)
  real : ∀ r, I (.real r)
  add : ∀ a b, I a → I b → Yields I P (add a b)
  sub : ∀ a b, I a → I b → Yields I P (sub a b)
  mul : ∀ a b, I a → I b → Yields I P (mul a b)
  div : ∀ a b, I a → I b → Yields I P (div a b)
  floorQuotient : ∀ a b, I a → I b → Yields I P (floorQuotient a b)
  floorRemainder : ∀ a b, I a → I b → Yields I P (floorRemainder a b)
  abs : ∀ a, I a → Yields I P (abs a)
  floor : ∀ a, I a → Yields I P (floor a)
  ceiling : ∀ a, I a → Yields I P (ceiling a)
  exact : ∀ a, I a → Yields I P (exact a)
  maxStep : ∀ a b, I a → I b → I (maxStep a b)
  minStep : ∀ a b, I a → I b → I (minStep a b)

theorem TowerInv.ofErrs {P : Err → Prop} (ht : P .type) (hT : ∀ e, TowerErr e → P e) : TowerInv (fun _ => True) P :=
  have h : ∀ {x : Except Err Num}, ErrsIn TowerErr x → Yields (fun _ => True) P x := fun hx => ⟨fun _ _ => trivial, hx.mono hT⟩
  { type := ht, divZero := hT _ .divZero, int := fun _ => trivial, real := fun _ => trivial
    add := fun a b _ _ => h (add_errs a b), sub := fun a b _ _ => h (sub_errs a b), mul := fun a b _ _ => h (mul_errs a b)
    div := fun a b _ _ => h (div_errs a b), floorQuotient := fun a b _ _ => h (floorQuotient_errs a b)
    floorRemainder := fun a b _ _ => h (floorRemainder_errs a b), abs := fun a _ => h (abs_errs a)
    floor := fun a _ => h (floor_errs a), ceiling := fun a _ => h (ceiling_errs a), exact := fun a _ => h (exact_errs a)
    maxStep := fun _ _ _ _ => trivial, minStep := fun _ _ _ _ => trivial }

theorem towerInv_true : TowerInv (fun _ => True) fun _ => True := .ofErrs trivial fun _ _ => trivial

/-! ### integers that fit -/

theorem fitsI32_iff (x : Int) : fitsI32 x = true ↔ -2147483648 ≤ x ∧ x ≤ 2147483647 := by
  simp [fitsI32]

theorem exactRatio_one {n : Int} (h : fitsI32 n = true) : exactRatio n 1 = .ok (.int n) := by
  simp [exactRatio, h, show fitsI32 1 = true from rfl]
theorem add_int {a c : Int} (h : fitsI32 (a + c) = true) : add (.int a) (.int c) = .ok (.int (a + c)) :=
  exactRatio_one h
theorem sub_int {a c : Int} (h : fitsI32 (a - c) = true) : sub (.int a) (.int c) = .ok (.int (a - c)) :=
  exactRatio_one h

end Num

/-! ## the errors of the argument lists: `P` holds of the type error and of the errors of the operation -/

namespace Prim
section
variable {P : Err → Prop}

theorem expectNumber_errs (ht : P .type) (v : Value) : ErrsIn P (expectNumber v) := by
  cases v <;> first | exact errsIn_ok _ | exact errsIn_error ht

end

theorem divArgs_cases (args : List Value) :
    divArgs args = .error .divZero ∨ divArgs args = subDiv Num.div (.int 1) args := by
  unfold divArgs
  dsimp only
  split <;> split <;> first | exact .inl rfl | exact .inr rfl

/-! ## the numeric argument lists respect every invariant of the tower -/

section
variable {I : Num → Prop} {P : Err → Prop} (T : Num.TowerInv I P) {args : List Value}
include T

theorem expectNumber_yields {v : Value} (hv : ∀ n, v = .num n → I n) : Yields I P (expectNumber v) := by
  cases v <;> first | exact yields_ok (hv _ rfl) | exact yields_error T.type

theorem foldNum_yields {f : Num → Num → Except Err Num} (hf : ∀ a b, I a → I b → Yields I P (f a b)) :
    ∀ (args : List Value) (init : Num), I init → (∀ n, .num n ∈ args → I n) → Yields I P (foldNum f init args)
  | [], _, hi, _ => yields_ok hi
  | v :: rest, init, hi, ha => by
    simp only [foldNum, List.foldlM_cons]
    exact ((expectNumber_yields T fun n hn => ha n (hn ▸ List.mem_cons_self ..)).bind fun _ hb => hf _ _ hi hb).bind
      fun r hr => foldNum_yields hf rest r hr fun n hn => ha n (List.mem_cons_of_mem _ hn)

theorem subDiv_yields {f : Num → Num → Except Err Num} (hf : ∀ a b, I a → I b → Yields I P (f a b)) {unit : Num}
    (hu : I unit) (ha : ∀ n, .num n ∈ args → I n) (h0 : args ≠ []) : Yields I P (subDiv f unit args) := by
  unfold subDiv
  match args, h0 with
  | [x], _ => exact (expectNumber_yields T fun n hn => ha n (by simp [hn])).bind fun _ hx => hf _ _ hu hx
  | x :: y :: more, _ =>
    exact (expectNumber_yields T fun n hn => ha n (by simp [hn])).bind fun _ hx =>
      (expectNumber_yields T fun n hn => ha n (by simp [hn])).bind fun _ hy =>
        (hf _ _ hx hy).bind fun _ hr => foldNum_yields T hf _ _ hr fun n hn => ha n (by simp [hn])

theorem divArgs_yields (ha : ∀ n, .num n ∈ args → I n) (h0 : args ≠ []) : Yields I P (divArgs args) := by
  rcases divArgs_cases args with h | h <;> rw [h]
  · exact yields_error T.divZero
  · exact subDiv_yields T T.div (T.int 1) ha h0

theorem extremum_yields {step : Num → Num → Num} (hs : ∀ a b, I a → I b → I (step a b))
    (ha : ∀ n, .num n ∈ args → I n) (h0 : args ≠ []) : Yields I P (extremum step args) := by
  unfold extremum
  match args, h0 with
  | x :: rest, _ =>
    exact (expectNumber_yields T fun n hn => ha n (by simp [hn])).bind fun init hi =>
      foldNum_yields T (f := fun a b => pure (step a b)) (fun _ _ ha hb => yields_ok (hs _ _ ha hb)) rest init hi
        fun n hn => ha n (List.mem_cons_of_mem _ hn)

end

section
variable {P : Err → Prop}

theorem cmpNum_errs (ht : P .type) (op : Num → Num → Bool) (args : List Value) : ErrsIn P (cmpNum op args) := by
  unfold cmpNum
  cases args with
  | nil => exact errsIn_ok _
  | cons x rest =>
    refine (expectNumber_errs ht x).bind fun first => ?_
    generalize true = acc
    induction rest generalizing first acc with
    | nil => exact errsIn_ok _
    | cons v vs ih =>
      simp only [cmpNum.go]
      exact (expectNumber_errs ht v).bind fun cur => ih cur _

theorem cmpBool_go_errs (ht : P .type) : ∀ (vs : List Value) (last acc : Bool), ErrsIn P (cmpBool.go last acc vs)
  | [], _, _ => errsIn_ok _
  | v :: vs, last, acc => by
    cases v with
    | bool cur => exact cmpBool_go_errs ht vs _ _
    | _ => exact errsIn_error ht

theorem cmpBool_errs (ht : P .type) : ∀ (args : List Value), ErrsIn P (cmpBool args)
  | [] => errsIn_ok _
  | x :: rest => by
    cases x with
    | bool first => exact cmpBool_go_errs ht rest _ _
    | _ => exact errsIn_error ht

end

/-! ## every outcome of a native procedure -/

/-- the 28 procedures of the number tower (they are `C08Types.numericBuiltins`) -/
def numeric : Builtin → Bool
  | .add | .sub | .mul | .div | .numEq | .lt | .le | .gt | .ge | .max | .min | .abs | .sqrt | .exp | .ln | .log
  | .sin | .cos | .tan | .asin | .acos | .atan | .atan2 | .floor | .ceiling | .exact | .floorQuotient
  | .floorRemainder => true
  | _ => false

inductive PrimErr (V : Array VecCell) (b : Builtin) (a : List Value) : Err → Prop
  | type : PrimErr V b a .type
  | negativeLength : PrimErr V b a .negativeLength
  | vectorIndex : PrimErr V b a .vectorIndex
  | immutable : PrimErr V b a .immutable
  | tower {e} (hb : numeric b = true)
      (h : ∀ {I : Num → Prop} {P : Err → Prop}, Num.TowerInv I P → (∀ m, .num m ∈ a → I m) → P e) : PrimErr V b a e
  | apply (hb : b = .apply) : PrimErr V b a (.panic "applyPure: apply")
  | dangling {id} (hid : .vec id ∈ a) (hV : V[id]? = none) : PrimErr V b a (.panic "dangling vector")
  | missing (s) (har : Eval.arityOk b.arity.1 b.arity.2 a.length = false) : PrimErr V b a (.panic s)

/-- `int` is `vector-length` (any integer); `arg` with an effect that is not `none` is `tick`, which returns its
argument; `void` with an effect is `newline` / `display` -/
inductive Outcome (V : Array VecCell) (b : Builtin) (a : List Value) : Except Err Value → Eff → Prop
  | err {e eff} (h : PrimErr V b a e) : Outcome V b a (.error e) eff
  | num (hb : numeric b = true) (n : Num)
      (h : ∀ {I : Num → Prop} {P : Err → Prop}, Num.TowerInv I P → (∀ m, .num m ∈ a → I m) → I n) :
    Outcome V b a (.ok (.num n)) .none
  | int (i : Int) : Outcome V b a (.ok (.num (.int i))) .none
  | bool (x : Bool) : Outcome V b a (.ok (.bool x)) .none
  | void {eff} (h : eff.Quiet) : Outcome V b a (.ok .void) eff
  | part {x y v} (h : .pair x y ∈ a) (hv : v = x ∨ v = y) : Outcome V b a (.ok v) .none
  | arg {v eff} (h : v ∈ a) (he : eff.Quiet) : Outcome V b a (.ok v) eff
  | cons {x y} (hx : x ∈ a) (hy : y ∈ a) : Outcome V b a (.ok (.pair x y)) .none
  | item {id cell v} (hid : .vec id ∈ a) (hc : V[id]? = some cell) (hv : v ∈ cell.items) :
    Outcome V b a (.ok v) .none
  | alloc {items} (h : ∀ x ∈ items, x ∈ a) : Outcome V b a (.ok (.vec V.size)) (.alloc items)
  | set {id cell n obj} (hid : .vec id ∈ a) (hc : V[id]? = some cell) (hm : cell.mutable = true)
    (hn : n < cell.items.length) (ho : obj ∈ a) : Outcome V b a (.ok .void) (.set id cell n obj)

section
variable {V : Array VecCell} {b : Builtin} {a : List Value} {σ τ : Store}

def Spec (σ : Store) (b : Builtin) (a : List Value) (x : Res Value) (r : Except Err Value) (e : Eff) : Prop :=
  x = settle σ r e ∧ Outcome σ.vecs b a r e

/-- In `spec_lift_*` and `spec_num*` the store `τ` is free: in `applyPure_spec` unification with
`result σ.vecs b a = (applyPure { vecs := σ.vecs } b a).1.mapError (·.1)` sets `τ := { vecs := σ.vecs }`. -/
theorem spec_lift_num (hb : numeric b = true) {r : Except Err Num}
    (hr : ∀ {I : Num → Prop} {P : Err → Prop}, Num.TowerInv I P → (∀ m, .num m ∈ a → I m) → Yields I P r) :
    Spec σ b a (lift σ r .num) ((lift τ r .num).1.mapError (·.1)) .none := by
  cases r with
  | ok n => exact ⟨rfl, .num hb n fun T hI => (hr T hI).1 n rfl⟩
  | error e => exact ⟨rfl, .err (.tower hb fun T hI => (hr T hI).2 e rfl)⟩

theorem spec_lift_bool {r : Except Err Bool} (hr : ErrsIn (PrimErr σ.vecs b a) r) :
    Spec σ b a (lift σ r .bool) ((lift τ r .bool).1.mapError (·.1)) .none := by
  cases r with
  | ok n => exact ⟨rfl, .bool n⟩
  | error e => exact ⟨rfl, .err (hr e rfl)⟩

theorem spec_missing {x : Res Value} {r : Except Err Value} {e : Eff} (h : x = settle σ r e) {s : String}
    (hr : r = .error (.panic s)) (har : Eval.arityOk b.arity.1 b.arity.2 a.length = false) : Spec σ b a x r e :=
  ⟨h, hr ▸ .err (.missing s har)⟩

theorem spec_num1 (hb : numeric b = true) (h1 : b.arity = (1, false)) {f : Num → Except Err Num}
    (hf : ∀ {I : Num → Prop} {P : Err → Prop}, Num.TowerInv I P → ∀ n, I n → Yields I P (f n)) (b' : Builtin) :
    Spec σ b a (num1 σ a b' f) ((num1 τ a b' f).1.mapError (·.1)) .none := by
  rw [num1_eq, num1_eq]
  cases a with
  | nil => exact spec_missing rfl rfl (by rw [h1]; rfl)
  | cons x rest =>
    exact spec_lift_num hb fun T hI => (expectNumber_yields T fun n hn => hI n (by simp [hn])).bind (hf T)

theorem spec_num2 (hb : numeric b = true) (h2 : b.arity = (2, false)) {f : Num → Num → Except Err Num}
    (hf : ∀ {I : Num → Prop} {P : Err → Prop}, Num.TowerInv I P → ∀ n m, I n → I m → Yields I P (f n m)) (b' : Builtin) :
    Spec σ b a (num2 σ a b' f) ((num2 τ a b' f).1.mapError (·.1)) .none := by
  rw [num2_eq, num2_eq]
  match a with
  | [] | [_] => exact spec_missing rfl rfl (by rw [h2]; rfl)
  | x :: y :: rest =>
    exact spec_lift_num hb fun T hI => (expectNumber_yields T fun n hn => hI n (by simp [hn])).bind fun _ hx =>
      (expectNumber_yields T fun n hn => hI n (by simp [hn])).bind fun _ hy => hf T _ _ hx hy

end

section
variable {σ : Store} {b : Builtin} {a : List Value}

theorem spec_err {k : Err} (h : ∀ τ : Store, τ.vecs = σ.vecs → applyPure τ b a = (.error (k, none), τ))
    (hk : PrimErr σ.vecs b a k) : Spec σ b a (applyPure σ b a) (result σ.vecs b a) (eff σ.vecs b a) := by
  have hr : result σ.vecs b a = .error k := by rw [result, h { vecs := σ.vecs } rfl]; rfl
  rw [hr, h σ rfl]; exact ⟨rfl, .err hk⟩

theorem spec_ok {v : Value} (h : ∀ τ : Store, τ.vecs = σ.vecs → applyPure τ b a = (.ok v, τ))
    (he : eff σ.vecs b a = .none) (ho : Outcome σ.vecs b a (.ok v) .none) :
    Spec σ b a (applyPure σ b a) (result σ.vecs b a) (eff σ.vecs b a) := by
  have hr : result σ.vecs b a = .ok v := by rw [result, h { vecs := σ.vecs } rfl]; rfl
  rw [hr, he, h σ rfl]; exact ⟨rfl, ho⟩

end

theorem applyPure_spec (σ : Store) (b : Builtin) (a : List Value) :
    Spec σ b a (applyPure σ b a) (result σ.vecs b a) (eff σ.vecs b a) := by
  cases b
  case apply => exact spec_err (fun _ _ => rfl) (.apply rfl)
  case car | cdr =>
    cases a with
    | nil => exact spec_err (fun _ _ => rfl) (.missing _ rfl)
    | cons x _ =>
      cases x with
      | pair x y =>
        exact spec_ok (fun _ _ => rfl) rfl (.part (List.mem_cons_self ..) (by first | exact .inl rfl | exact .inr rfl))
      | _ => exact spec_err (fun _ _ => rfl) .type
  case eqv | eq =>
    match a with
    | [] | [_] => exact spec_err (fun _ _ => rfl) (.missing _ rfl)
    | _ :: _ :: _ => exact spec_ok (fun _ _ => rfl) rfl (.bool _)
  case cons =>
    match a with
    | [] | [_] => exact spec_err (fun _ _ => rfl) (.missing _ rfl)
    | _ :: _ :: _ =>
      exact spec_ok (fun _ _ => rfl) rfl (.cons (List.mem_cons_self ..) (List.mem_cons_of_mem _ (List.mem_cons_self ..)))
  case isBoolean | isChar | isNumber | isString | isSymbol | isPair | isProcedure | isVector | not =>
    cases a with
    | nil => exact spec_err (fun _ _ => rfl) (.missing _ rfl)
    | cons _ _ => exact spec_ok (fun _ _ => rfl) rfl (.bool _)
  case booleanEq => exact spec_lift_bool (cmpBool_errs .type a)
  case add => exact spec_lift_num rfl fun T hI => foldNum_yields T T.add a _ (T.int 0) hI
  case mul => exact spec_lift_num rfl fun T hI => foldNum_yields T T.mul a _ (T.int 1) hI
  case sub =>
    cases a with
    | nil => exact spec_missing rfl rfl rfl
    | cons _ _ => exact spec_lift_num rfl fun T hI => subDiv_yields T T.sub (T.int 0) hI nofun
  case div =>
    cases a with
    | nil => exact spec_missing rfl rfl rfl
    | cons _ _ => exact spec_lift_num rfl fun T hI => divArgs_yields T hI nofun
  case numEq | lt | le | gt | ge => exact spec_lift_bool (cmpNum_errs .type _ a)
  case max | min =>
    cases a with
    | nil => exact spec_missing rfl rfl rfl
    | cons _ _ => exact spec_lift_num rfl fun T hI => extremum_yields T (by first | exact T.maxStep | exact T.minStep) hI nofun
  case abs => exact spec_num1 rfl rfl (fun T => T.abs) _
  case floor => exact spec_num1 rfl rfl (fun T => T.floor) _
  case ceiling => exact spec_num1 rfl rfl (fun T => T.ceiling) _
  case exact => exact spec_num1 rfl rfl (fun T => T.exact) _
  case floorQuotient => exact spec_num2 rfl rfl (fun T => T.floorQuotient) _
  case floorRemainder => exact spec_num2 rfl rfl (fun T => T.floorRemainder) _
  case sqrt | exp | ln | sin | cos | tan | asin | acos | atan =>
    exact spec_num1 rfl rfl (fun T _ _ => yields_ok (T.real _)) _
  case log | atan2 => exact spec_num2 rfl rfl (fun T _ _ _ _ => yields_ok (T.real _)) _
  case newline => exact ⟨rfl, .void trivial⟩
  case display =>
    cases a with
    | nil => exact spec_err (fun _ _ => rfl) (.missing _ rfl)
    | cons x _ =>
      refine ⟨?_, .void trivial⟩
      show (Except.ok Value.void, { σ with out := display σ 100000 x :: σ.out }) =
        (Except.ok Value.void, { σ with out := display { vecs := σ.vecs } 100000 x :: σ.out })
      rw [(display_vecs (σ := σ) (σ' := { vecs := σ.vecs }) rfl _).1]
  case tick =>
    cases a with
    | nil => exact spec_err (fun _ _ => rfl) (.missing _ rfl)
    | cons x _ =>
      refine ⟨?_, .arg (List.mem_cons_self ..) trivial⟩
      show (Except.ok x, { σ with ticks := canon σ 100000 x :: σ.ticks }) =
        (Except.ok x, { σ with ticks := canon { vecs := σ.vecs } 100000 x :: σ.ticks })
      rw [(canon_vecs (σ := σ) (σ' := { vecs := σ.vecs }) rfl _).1]
  case vector => exact ⟨rfl, .alloc fun _ h => h⟩
  case makeVector =>
    match a with
    | [] | [_] => exact spec_err (fun _ _ => rfl) (.missing _ rfl)
    | k :: fill :: _ =>
      cases k with
      | num n =>
        cases n with
        | int i =>
          simp only [Spec, applyPure, result, eff]
          split
          · exact ⟨rfl, .err .negativeLength⟩
          · exact ⟨rfl, .alloc fun x hx => by
              rw [List.eq_of_mem_replicate hx]; exact List.mem_cons_of_mem _ (List.mem_cons_self ..)⟩
        | _ => exact spec_err (fun _ _ => rfl) .type
      | _ => exact spec_err (fun _ _ => rfl) .type
  case vectorLength =>
    cases a with
    | nil => exact spec_err (fun _ _ => rfl) (.missing _ rfl)
    | cons x _ =>
      cases x with
      | vec id =>
        simp only [Spec, applyPure, result]
        cases h : σ.vecs[id]? with
        | none => exact ⟨rfl, .err (.dangling (List.mem_cons_self ..) h)⟩
        | some cell => exact ⟨rfl, .int _⟩
      | _ => exact spec_err (fun _ _ => rfl) .type
  case vectorRef =>
    match a with
    | [] | [_] => exact spec_err (fun _ _ => rfl) (.missing _ rfl)
    | v :: k :: _ =>
      cases v with
      | vec id =>
        cases k with
        | num n =>
          cases n with
          | int i =>
            simp only [Spec, applyPure, result]
            cases h : σ.vecs[id]? with
            | none => exact ⟨rfl, .err (.dangling (List.mem_cons_self ..) h)⟩
            | some cell =>
              by_cases h0 : i < 0
              · simp only [if_pos h0]; exact ⟨rfl, .err .vectorIndex⟩
              · simp only [if_neg h0]
                cases hx : cell.items[i.toNat]? with
                | none => exact ⟨rfl, .err .vectorIndex⟩
                | some x => exact ⟨rfl, .item (List.mem_cons_self ..) h (List.mem_of_getElem? hx)⟩
          | _ => exact spec_err (fun _ _ => rfl) .type
        | _ => exact spec_err (fun _ _ => rfl) .type
      | _ => exact spec_err (fun _ _ => rfl) .type
  case vectorSet =>
    match a with
    | [] | [_] | [_, _] => exact spec_err (fun _ _ => rfl) (.missing _ rfl)
    | v :: k :: obj :: _ =>
      cases v with
      | vec id =>
        cases k with
        | num n =>
          cases n with
          | int i =>
            simp only [Spec, applyPure, result, eff, listSet_eq]
            cases h : σ.vecs[id]? with
            | none => exact ⟨rfl, .err (.dangling (List.mem_cons_self ..) h)⟩
            | some cell =>
              obtain ⟨m, items⟩ := cell
              cases m
              · exact ⟨rfl, .err .immutable⟩
              · by_cases h0 : i < 0
                · simp only [Bool.not_true, Bool.false_eq_true, if_false, if_pos h0]; exact ⟨rfl, .err .vectorIndex⟩
                · by_cases hl : i.toNat < items.length
                  · simp only [Bool.not_true, Bool.false_eq_true, if_false, if_neg h0, if_pos hl]
                    exact ⟨rfl, .set (List.mem_cons_self ..) h rfl hl
                      (List.mem_cons_of_mem _ (List.mem_cons_of_mem _ (List.mem_cons_self ..)))⟩
                  · simp only [Bool.not_true, Bool.false_eq_true, if_false, if_neg h0, if_neg hl]
                    exact ⟨rfl, .err .vectorIndex⟩
          | _ => exact spec_err (fun _ _ => rfl) .type
        | _ => exact spec_err (fun _ _ => rfl) .type
      | _ => exact spec_err (fun _ _ => rfl) .type

theorem applyPure_eq (σ : Store) (b : Builtin) (a : List Value) :
    applyPure σ b a = settle σ (result σ.vecs b a) (eff σ.vecs b a) :=
  (applyPure_spec σ b a).1

theorem applyPure_snd (σ : Store) (b : Builtin) (a : List Value) :
    (applyPure σ b a).2 = σ ∨ (applyPure σ b a).2 = (eff σ.vecs b a).run σ := by
  rw [applyPure_eq]; exact settle_snd ..

theorem applyPure_outcome (σ : Store) (b : Builtin) (a : List Value) :
    ∃ r e, Outcome σ.vecs b a r e ∧ applyPure σ b a = settle σ r e :=
  ⟨_, _, (applyPure_spec σ b a).2, (applyPure_spec σ b a).1⟩

theorem applyPure_error {σ σ' : Store} {b : Builtin} {a : List Value} {k : SErr}
    (h : applyPure σ b a = (.error k, σ')) : k.2 = none ∧ σ' = σ :=
  settle_error (applyPure_eq σ b a ▸ h)

theorem applyPure_error_congr {σ τ σ' : Store} (hv : τ.vecs = σ.vecs) {b : Builtin} {a : List Value} {k : SErr}
    (h : applyPure σ b a = (.error k, σ')) : applyPure τ b a = (.error k, τ) := by
  rw [applyPure_eq] at h ⊢
  rw [hv]
  cases hr : result σ.vecs b a with
  | ok v => rw [hr] at h; cases h
  | error e => rw [hr] at h; cases h; rfl

/-- `arity` belongs to the gate of `apply_procedure` alone, `fuel` to the model: neither is among `PrimErr` -/
theorem applyPure_ne_arity_fuel {σ σ' : Store} {b : Builtin} {args : List Value} {e l}
    (h : applyPure σ b args = (.error (e, l), σ')) : e ≠ .arity ∧ e ≠ .fuel := by
  obtain ⟨r, eff, ho, heq⟩ := applyPure_outcome σ b args
  rw [heq] at h
  cases ho with
  | err hp =>
    cases h
    cases hp with
    | tower _ ht =>
      exact ht (P := fun e => e ≠ .arity ∧ e ≠ .fuel)
        (.ofErrs ⟨nofun, nofun⟩ fun _ he => by cases he <;> exact ⟨nofun, nofun⟩) fun _ _ => trivial
    | _ => exact ⟨nofun, nofun⟩
  | _ => cases h

theorem applyPure_ne_fuel {σ : Store} {b : Builtin} {args : List Value} {r σ'} (h : applyPure σ b args = (r, σ'))
    (l : Loc) : r ≠ .error (.fuel, l) := fun e => (applyPure_ne_arity_fuel (e ▸ h)).2 rfl

/-! ## comparisons and `-` on two numbers -/

theorem cmpNum_pair (op : Num → Num → Bool) (a c : Num) : cmpNum op [.num a, .num c] = .ok (op a c) := by
  simp only [cmpNum, cmpNum.go, expectNumber, bind, Except.bind, Bool.true_and]

theorem applyPure_numEq (σ : Store) (a c : Num) :
    applyPure σ .numEq [.num a, .num c] = (.ok (.bool (Num.eq a c)), σ) := by
  simp only [applyPure, cmpNum_pair]; rfl

theorem applyPure_gt (σ : Store) (a c : Num) :
    applyPure σ .gt [.num a, .num c] = (.ok (.bool (Num.gt a c)), σ) := by
  simp only [applyPure, cmpNum_pair]; rfl

theorem applyPure_sub (σ : Store) (a c : Num) :
    applyPure σ .sub [.num a, .num c] = lift σ (Num.sub a c) .num := by
  simp only [applyPure, subDiv, expectNumber, bind, Except.bind, foldNum, List.foldlM, pure, Except.pure]
  cases Num.sub a c <;> rfl

/-! ## `-`, `+` on two integers that fit -/

theorem _root_.Ruschm.fits_of_bounds {x : Int} (h₁ : -2147483648 ≤ x) (h₂ : x ≤ 2147483647) : fitsI32 x = true :=
  (Num.fitsI32_iff x).mpr ⟨h₁, h₂⟩

theorem applyPure_sub_int (σ : Store) {a c : Int} (h : fitsI32 (a - c) = true) :
    applyPure σ .sub [.num (.int a), .num (.int c)] = (.ok (.num (.int (a - c))), σ) := by
  rw [applyPure_sub, Num.sub_int h]; rfl

theorem applyPure_add_int (σ : Store) {a c : Int} (ha : fitsI32 a = true) (h : fitsI32 (a + c) = true) :
    applyPure σ .add [.num (.int a), .num (.int c)] = (.ok (.num (.int (a + c))), σ) := by
  have h0 : Num.add (.int 0) (.int a) = .ok (.int a) := by rw [Num.add_int (by rwa [Int.zero_add]), Int.zero_add]
  simp only [applyPure, foldNum, List.foldlM, expectNumber, bind, Except.bind, h0, Num.add_int h]; rfl

end Prim
end Ruschm
