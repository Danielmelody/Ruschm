/-
The recursive blocks of the model return an outcome with the state reached (`Except SErr α × S`: the store for the
evaluator, the interpreter's state for the loader) and go on after a step only if it succeeded; the model writes
that as a `match` at every step. `andThen` names it: the one-step unfolding of a function is then a sequence of its
parts, and what is shown of a whole block needs one lemma about `andThen` (marked SEQUENCING) in place of a case
analysis at every step. `Ends`/`EndsFrom` is the claim the unary rules of both blocks make of a step.
-/
import RuschmModel.Read -- for `SErr`, an error with its location

namespace Ruschm

def andThen {S α β : Type} (x : Except SErr α × S) (k : α → S → Except SErr β × S) : Except SErr β × S :=
  match x with
  | (.error e, s) => (.error e, s)
  | (.ok a, s) => k a s

@[simp] theorem andThen_ok {S α β : Type} (a : α) (s : S) (k : α → S → Except SErr β × S) :
    andThen (.ok a, s) k = k a s := rfl

@[simp] theorem andThen_error {S α β : Type} (e : SErr) (s : S) (k : α → S → Except SErr β × S) :
    andThen ((.error e, s) : Except SErr α × S) k = (.error e, s) := rfl

theorem andThen_eq {S α β : Type} {x : Except SErr α × S} {k : α → S → Except SErr β × S} {r s'}
    (h : andThen x k = (r, s')) :
    (∃ e, x = (.error e, s') ∧ r = .error e) ∨ ∃ a s, x = (.ok a, s) ∧ k a s = (r, s') := by
  obtain ⟨_ | a, s⟩ := x
  · cases h; exact .inl ⟨_, rfl, rfl⟩
  · exact .inr ⟨a, s, rfl, h⟩

theorem andThen_value {S α β : Type} {x : Except SErr α × S} {k : α → S → Except SErr β × S} {b s'}
    (h : andThen x k = (.ok b, s')) : ∃ a s, x = (.ok a, s) ∧ k a s = (.ok b, s') := by
  rcases andThen_eq h with ⟨_, _, ⟨⟩⟩ | h
  exact h

theorem andThen_snd {S α β : Type} {x : Except SErr α × S} {k : α → S → Except SErr β × S}
    (hk : ∀ a s, (k a s).2 = s) : (andThen x k).2 = x.2 := by
  obtain ⟨_ | a, s⟩ := x
  · rfl
  · exact hk a s

/-- SEQUENCING for a transitive relation between the state a step starts in and the state it ends in -/
theorem andThen_rel {S α β : Type} {R : S → S → Prop} (trans : ∀ {a b c}, R a b → R b c → R a c) {s : S}
    {x : Except SErr α × S} {k : α → S → Except SErr β × S} (hx : R s x.2)
    (hk : ∀ a s₁, x = (.ok a, s₁) → R s₁ (k a s₁).2) : R s (andThen x k).2 := by
  obtain ⟨_ | a, s₁⟩ := x
  · exact hx
  · exact trans hx (hk a s₁ rfl)

/-! ## how a step ends: `I` of the state reached, `Q` of a value in it, `E` of an error; `EndsFrom`: and `G` from the
state `s` the step started in -/

structure Ends {S : Type} (I : S → Prop) (E : SErr → Prop) {α : Type} (Q : S → α → Prop)
    (x : Except SErr α × S) : Prop where
  inv : I x.2
  ok : ∀ a, x.1 = .ok a → Q x.2 a
  err : ∀ e, x.1 = .error e → E e

structure EndsFrom {S : Type} (G : S → S → Prop) (I : S → Prop) (E : SErr → Prop) {α : Type}
    (Q : S → α → Prop) (s : S) (x : Except SErr α × S) : Prop extends Ends I E Q x where
  rel : G s x.2

section ends
variable {S : Type} {G : S → S → Prop} {I : S → Prop} {E : SErr → Prop} {α β : Type} {Q : S → α → Prop}
  {Q' : S → β → Prop}

theorem Ends.ofOk {s : S} {a : α} (h : I s) (ha : Q s a) : Ends I E Q (.ok a, s) :=
  ⟨h, fun _ e => by cases e; exact ha, fun _ e => nomatch e⟩

theorem Ends.ofErr {s : S} {e : SErr} (h : I s) (he : E e) : Ends I E Q (.error e, s) :=
  ⟨h, fun _ e => (nomatch e), fun _ h' => by cases h'; exact he⟩

theorem Ends.of_eq {x : Except SErr α × S} {r s'} (i : Ends I E Q x) (h : x = (r, s')) :
    I s' ∧ (∀ a, r = .ok a → Q s' a) ∧ ∀ e, r = .error e → E e := by
  subst h; exact ⟨i.inv, i.ok, i.err⟩

/-- SEQUENCING -/
theorem Ends.andThen {x : Except SErr α × S} {k : α → S → Except SErr β × S} (hx : Ends I E Q x)
    (hk : ∀ a s1, I s1 → Q s1 a → Ends I E Q' (k a s1)) : Ends I E Q' (andThen x k) := by
  obtain ⟨_ | a, s1⟩ := x
  · exact .ofErr hx.inv (hx.err _ rfl)
  · exact hk a s1 hx.inv (hx.ok _ rfl)

theorem EndsFrom.ofOk {s s' : S} {a : α} (h : I s') (ha : Q s' a) (g : G s s') :
    EndsFrom G I E Q s (.ok a, s') := ⟨.ofOk h ha, g⟩

theorem EndsFrom.ofErr {s s' : S} {e : SErr} (h : I s') (he : E e) (g : G s s') :
    EndsFrom G I E Q s (.error e, s') := ⟨.ofErr h he, g⟩

theorem EndsFrom.ofPure {s : S} {r : Except SErr α} (hs : I s)
    (h : (∀ a, r = .ok a → Q s a) ∧ ∀ e, r = .error e → E e) (g : G s s) : EndsFrom G I E Q s (r, s) :=
  ⟨⟨hs, h.1, h.2⟩, g⟩

theorem EndsFrom.after {s s1 : S} {x : Except SErr α × S} (p : EndsFrom G I E Q s1 x)
    (trans : ∀ {a b c}, G a b → G b c → G a c) (g : G s s1) : EndsFrom G I E Q s x :=
  ⟨p.toEnds, trans g p.rel⟩

/-- the continuation measured from the state before the step: no transitivity of `G` is asked for -/
theorem EndsFrom.andThenFrom {s : S} {x : Except SErr α × S} {k : α → S → Except SErr β × S}
    (hx : EndsFrom G I E Q s x)
    (hk : ∀ a s1, x = (.ok a, s1) → I s1 → Q s1 a → G s s1 → EndsFrom G I E Q' s (k a s1)) :
    EndsFrom G I E Q' s (andThen x k) := by
  obtain ⟨_ | a, s1⟩ := x
  · exact .ofErr hx.inv (hx.err _ rfl) hx.rel
  · exact hk a s1 rfl hx.inv (hx.ok _ rfl) hx.rel

/-- SEQUENCING -/
theorem EndsFrom.andThen {s : S} {x : Except SErr α × S} {k : α → S → Except SErr β × S}
    (hx : EndsFrom G I E Q s x) (trans : ∀ {a b c}, G a b → G b c → G a c)
    (hk : ∀ a s1, I s1 → Q s1 a → G s s1 → EndsFrom G I E Q' s1 (k a s1)) :
    EndsFrom G I E Q' s (andThen x k) :=
  hx.andThenFrom fun a s1 _ h1 hq g => (hk a s1 h1 hq g).after trans g

end ends

end Ruschm
