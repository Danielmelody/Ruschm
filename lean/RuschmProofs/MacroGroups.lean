/-
In the supported class the number of copies of an ellipsis sub-template is unambiguous: all
variables under one ellipsis of the pattern matched the same number of items (`copies_eq_length`).
-/
import RuschmProofs.MacroSubst

namespace Ruschm.Macro
open Ruschm

/-! ## what a run binds -/

theorem lookup_zipB (β β' : Bindings) (v : String) :
    (zipB β β').lookup v = (β.lookup v).map fun ms => ms ++ (β'.lookup v).getD [] :=
  Assoc.lookup_map_val (fun k ms => ms ++ (β'.lookup k).getD []) v β

theorem foldl_zipB_lookup (v : String) :
    ∀ (βs : List Bindings) (acc : Bindings),
      (βs.foldl zipB acc).lookup v =
        (acc.lookup v).map fun ms => ms ++ βs.flatMap fun b => (b.lookup v).getD [] := by
  intro βs
  induction βs with
  | nil => intro acc; simp
  | cons b bs ih =>
    intro acc
    simp only [List.foldl_cons, ih, lookup_zipB, Option.map_map, List.flatMap_cons]
    cases acc.lookup v <;> simp

theorem combine_lookup {βs : List Bindings} {β : Bindings} (h : combine βs = some β) :
    ∃ β1 rest, βs = β1 :: rest ∧ β.map Prod.fst = β1.map Prod.fst ∧
      ∀ v ∈ β1.map Prod.fst, β.lookup v = some (βs.flatMap fun b => (b.lookup v).getD []) := by
  cases βs with
  | nil => simp [combine] at h
  | cons β1 rest =>
    simp only [combine, Option.some.injEq] at h
    subst h
    refine ⟨β1, rest, rfl, foldl_zipB_keys, fun v hv => ?_⟩
    obtain ⟨ms, hl, -⟩ := Assoc.lookup_of_mem_keys hv
    rw [foldl_zipB_lookup, hl]
    simp [hl]

/-! ## one group of variables per ellipsis of the pattern -/

theorem mapOpt_all {α β : Type} {f : α → Option β} {xs ys} (h : mapOpt f xs = some ys) :
    ∀ y ∈ ys, ∃ x ∈ xs, f x = some y := by
  induction xs generalizing ys with
  | nil => simp [mapOpt] at h; subst h; simp
  | cons x xs ih =>
    obtain ⟨y, ys', hy, hys, rfl⟩ := mapOpt_cons_some.1 h
    exact List.forall_mem_cons.2 ⟨⟨x, by simp, hy⟩, fun y' hy' =>
      (ih hys y' hy').imp fun x' h' => ⟨List.mem_cons_of_mem _ h'.1, h'.2⟩⟩

theorem Pat.ellGroups_subset (lits : List String) :
    (∀ p, ∀ g ∈ Pat.ellGroups lits p, ∀ v ∈ g, v ∈ p.vars lits) ∧
    (∀ ps, ∀ g ∈ Pat.ellGroupsList lits ps, ∀ v ∈ g, v ∈ Pat.varsList lits ps) := by
  have step : ∀ {c : Bool} {va vr : List String} {ga gr : List (List String)},
      (∀ g ∈ ga, ∀ v ∈ g, v ∈ va) → (∀ g ∈ gr, ∀ v ∈ g, v ∈ vr) →
      ∀ g ∈ (if c then [va] else ga ++ gr), ∀ v ∈ g, v ∈ va ++ vr := fun {c} _ _ _ _ ha hr g hg v hv => by
    cases c
    · exact List.mem_append.2 ((List.mem_append.1 hg).imp (ha g · v hv) (hr g · v hv))
    · cases List.mem_singleton.1 hg; exact List.mem_append_left _ hv
  exact Pat.ind nofun nofun (fun _ _ => step) nofun (fun _ ih => ih) (fun _ => nofun) (fun _ => nofun)
    nofun (fun _ _ => step)

def GroupsOk (groups : List (List String)) (β : Bindings) : Prop :=
  ∀ g ∈ groups, ∃ n, ∀ v ∈ g, (β.lookup v).map List.length = some n

theorem specMatch_groups_aux (lits : List String) :
    (∀ p, ∀ d β, specMatch lits p d = some β → Pat.ok lits p = true → (p.vars lits).Nodup →
      GroupsOk (p.ellGroups lits) β) ∧
    (∀ ps, ∀ ds β, specMatchList lits ps ds = some β → Pat.okList lits ps = true →
      (Pat.varsList lits ps).Nodup → GroupsOk (Pat.ellGroupsList lits ps) β) := by
  have happ : ∀ {β₁ β₂ : Bindings} {g1 g2 : List (List String)} {v1 v2 : List String},
      β₁.map Prod.fst = v1 → (v1 ++ v2).Nodup →
      (∀ g ∈ g1, ∀ v ∈ g, v ∈ v1) → (∀ g ∈ g2, ∀ v ∈ g, v ∈ v2) →
      GroupsOk g1 β₁ → GroupsOk g2 β₂ → GroupsOk (g1 ++ g2) (β₁ ++ β₂) := by
    intro β₁ β₂ g1 g2 v1 v2 hk hnd hs1 hs2 h1 h2 g hg
    rw [List.nodup_append] at hnd
    rcases List.mem_append.1 hg with hg | hg
    · obtain ⟨n, hn⟩ := h1 g hg
      exact ⟨n, fun v hv => by rw [Assoc.lookup_append_left (hk ▸ hs1 g hg v hv)]; exact hn v hv⟩
    · obtain ⟨n, hn⟩ := h2 g hg
      refine ⟨n, fun v hv => ?_⟩
      rw [Assoc.lookup_append_right]
      · exact hn v hv
      · rw [hk]; intro h; exact hnd.2.2 v h v (hs2 g hg v hv) rfl
  have none : ∀ {β : Bindings}, GroupsOk [] β := fun _ hg => nomatch hg
  refine specMatch_induct lits
    (D := fun p _ β => Pat.ok lits p = true → (p.vars lits).Nodup → GroupsOk (p.ellGroups lits) β)
    (L := fun ps _ β => Pat.okList lits ps = true → (Pat.varsList lits ps).Nodup →
      GroupsOk (Pat.ellGroupsList lits ps) β)
    (R := fun a _ β => Pat.ok lits a = true → a.ellFree = true → GroupsOk [a.vars lits] β)
    (fun _ _ _ => none) (fun _ _ _ _ _ => none) (fun _ _ _ _ _ => none) (fun _ _ _ _ => none)
    (fun _ _ _ => none) ?_ ?_ ?_ (fun _ _ => none) ?_ ?_ ?_
  · intro a d ds β _ h hok _
    simp only [Pat.ok, Pat.isEllTail, if_true, Bool.and_eq_true] at hok
    exact h hok.1.1 hok.1.2
  · intro a r x y l β₁ β₂ he m1 _ h1 h2 hok hnd
    simp only [Pat.ok, he, Bool.false_eq_true, if_false, Bool.and_eq_true] at hok
    simp only [Pat.vars] at hnd
    simp only [Pat.ellGroups, he, Bool.false_eq_true, if_false]
    have hnd' := List.nodup_append.1 hnd
    exact happ (specMatch_keys m1) hnd ((Pat.ellGroups_subset lits).1 a) ((Pat.ellGroups_subset lits).1 r)
      (h1 hok.1 hnd'.1) (h2 (Pat.okTail_ok hok.2) hnd'.2.1)
  · exact fun ps ds l β h => h
  · intro p ds β h hok _
    simp only [Pat.okList, Pat.isEllOnly, if_true, Bool.and_eq_true] at hok
    exact h hok.1.1 hok.1.2
  · intro p ps d ds β₁ β₂ he m1 _ h1 h2 hok hnd
    simp only [Pat.okList, he, Bool.false_eq_true, if_false, Bool.and_eq_true] at hok
    simp only [Pat.varsList] at hnd
    simp only [Pat.ellGroupsList, he, Bool.false_eq_true, if_false]
    have hnd' := List.nodup_append.1 hnd
    exact happ (specMatch_keys m1) hnd ((Pat.ellGroups_subset lits).1 p) ((Pat.ellGroups_subset lits).2 ps)
      (h1 hok.1 hnd'.1) (h2 hok.2 hnd'.2.1)
  · intro a d ds β1 βs h1 h2 _ _ hef g hg
    cases List.mem_singleton.1 hg
    refine ⟨1 + βs.length, fun v hv => ?_⟩
    -- every item binds `v` to one datum, the run to their sequence
    have one : ∀ {x b}, specMatch lits a x = some b → ∃ m, b.lookup v = some [m] := fun hx => by
      obtain ⟨ms, hl, hmem⟩ := Assoc.lookup_of_mem_keys (specMatch_keys hx ▸ hv)
      obtain ⟨m, rfl⟩ := specMatch_single hx hef _ hmem
      exact ⟨m, hl⟩
    obtain ⟨m, hm⟩ := one h1
    rw [foldl_zipB_lookup, hm]
    simp only [Option.map_some, List.length_append, List.length_flatMap, List.length_cons, List.length_nil]
    rw [List.map_congr_left (g := fun _ => 1) fun b hb => by
      obtain ⟨x, -, hx⟩ := mapOpt_all h2 b hb
      obtain ⟨m', hm'⟩ := one hx
      rw [hm']; rfl]
    simp only [List.map_const', List.sum_replicate_nat, Nat.zero_add, Nat.mul_one]

theorem mem_seqLens_iff {β : Bindings} {t : Tmpl} {l : Nat} :
    l ∈ seqLens β t ↔ ∃ v ∈ t.vars, ∃ ms, β.lookup v = some ms ∧ ms.length = l := by
  simp only [seqLens, List.mem_filterMap, Option.map_eq_some_iff]

theorem seqLens_eq_copies {lits p d β u} (hs : Supported lits p = true)
    (hm : specMatch lits p d = some β)
    (hu : Tmpl.ellOk (p.vars lits) (p.ellGroups lits) u = true) :
    ∀ l ∈ seqLens β u, l = copies β u := by
  have hs := supported_iff.1 hs
  simp only [Tmpl.ellOk, Tmpl.boundVars, Bool.and_eq_true, Bool.not_eq_true', List.any_eq_true,
    List.all_eq_true, List.mem_filter, List.isEmpty_eq_false_iff_exists_mem, List.contains_iff_mem] at hu
  obtain ⟨⟨-, v0, hv0, hp0⟩, g, hg, hsub⟩ := hu
  obtain ⟨n, hn⟩ := (specMatch_groups_aux lits).1 p d β hm hs.1 hs.2 g hg
  have hkeys := specMatch_keys hm
  -- a variable of `u` that the match binds is in the group `g`
  have hall : ∀ l ∈ seqLens β u, l = n := fun l hl => by
    obtain ⟨v, hv, ms, hms, rfl⟩ := mem_seqLens_iff.1 hl
    have := hn v (hsub v ⟨hv, hkeys ▸ List.mem_map_of_mem (f := Prod.fst) (Assoc.mem_of_lookup hms)⟩)
    rwa [hms, Option.map_some, Option.some.injEq] at this
  obtain ⟨ms0, hl0, -⟩ := Assoc.lookup_of_mem_keys (l := β) (hkeys ▸ hp0)
  rw [copies, minLen_const (List.ne_nil_of_mem (mem_seqLens_iff.2 ⟨v0, hv0, ms0, hl0, rfl⟩)) hall]
  exact hall

theorem copies_eq_length {lits p d β u} (hs : Supported lits p = true)
    (hm : specMatch lits p d = some β)
    (hu : Tmpl.ellOk (p.vars lits) (p.ellGroups lits) u = true) :
    ∀ v ∈ u.vars, ∀ ms, β.lookup v = some ms → ms.length = copies β u :=
  fun v hv ms hl => seqLens_eq_copies hs hm hu _ (mem_seqLens_iff.2 ⟨v, hv, ms, hl, rfl⟩)

end Ruschm.Macro
