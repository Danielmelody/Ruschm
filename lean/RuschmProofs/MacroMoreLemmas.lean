/-
For `C04More.lean`. Where every ellipsis sub-template mentions runs of one length (`EqualRuns`), the
shortest-run instantiation `specInst` is the R7RS one (`specInst_eq_r7`); the supported class guarantees it
(`EqualRuns_of_ok`). The front that reads a `syntax-rules` form accepts exactly the written shape, image by
image (`toRules_ok_iff`), and fails only with the syntax error, located inside the form (`toRules_error`).
-/
import RuschmProofs.MacroFuel
import RuschmProofs.MacroGroups
import RuschmProofs.MacroTmpl

namespace Ruschm.Macro
open Ruschm

/-! ## Equal runs -/

theorem specInst_eq_r7_aux (β : Bindings) (loc : Loc) :
    (∀ t, EqualRuns β t = true → ∀ i, specInstAt β loc i t = specInstR7At β loc i t) ∧
    (∀ es, EqualRunsElems β es = true → ∀ i, specElemsAt β loc i es = specElemsR7At β loc i es) := by
  refine Tmpl.ind (fun _ ih h i => congrArg (Datum.ofList loc) (ih h i))
    (fun _ ih h i => congrArg (Datum.vec · loc) (ih h i)) (fun _ _ _ => rfl) (fun _ _ _ => rfl) (fun _ _ => rfl) ?_
  intro t b rest iht ihr h i
  cases b with
  | false =>
    simp only [EqualRunsElems, Bool.and_eq_true] at h
    simp [specElemsAt, specElemsR7At, iht h.1 i, ihr h.2 i]
  | true =>
    simp only [EqualRunsElems, Bool.and_eq_true] at h
    obtain ⟨⟨h1, h2⟩, h3⟩ := h
    have hc : copies β t = copiesR7 β t := minLen_eq_head h1
    simp only [specElemsAt, specElemsR7At, hc, ihr h3 i, iht h2]

theorem specInst_eq_r7 {β t loc} (h : EqualRuns β t = true) :
    specInst t β loc = specInstR7 t β loc :=
  (specInst_eq_r7_aux β loc).1 t h 0

theorem specTransform_eq_r7 {lits use} : ∀ rules : List (Pat × Tmpl),
    (∀ rule ∈ rules, ∀ β, specMatch lits rule.1 use = some β → EqualRuns β rule.2 = true) →
    specTransform lits rules use = specTransformR7 lits rules use
  | [], _ => rfl
  | (p, t) :: rules, heq => by
    simp only [specTransform, specTransformR7]
    cases hm : specMatch lits p use with
    | some β => simp only []; rw [specInst_eq_r7 (heq (p, t) (by simp) β hm)]
    | none => exact specTransform_eq_r7 rules fun rule hr => heq rule (by simp [hr])

theorem EqualRuns_of_flagFree (β : Bindings) :
    (∀ u, u.flagFree = true → EqualRuns β u = true) ∧
    (∀ es, Tmpl.flagFreeElems es = true → EqualRunsElems β es = true) := by
  refine Tmpl.ind (fun _ ih => ih) (fun _ ih => ih) (fun _ _ => rfl) (fun _ _ => rfl) (fun _ => rfl) ?_
  intro u b rest ihu ihr h
  simp only [Tmpl.flagFreeElems, Bool.and_eq_true, Bool.not_eq_true'] at h
  obtain ⟨⟨rfl, h2⟩, h3⟩ := h
  simp [EqualRunsElems, ihu h2, ihr h3]

theorem EqualRuns_of_ok {lits p d β} (hs : Supported lits p = true) (hm : specMatch lits p d = some β) :
    (∀ u, Tmpl.ok (p.vars lits) (p.ellGroups lits) u = true → EqualRuns β u = true) ∧
    (∀ es, Tmpl.okElems (p.vars lits) (p.ellGroups lits) es = true → EqualRunsElems β es = true) := by
  refine Tmpl.ind (fun _ ih => ih) (fun _ ih => ih) (fun _ _ => rfl) (fun _ _ => rfl) (fun _ => rfl) ?_
  intro u b rest ihu ihr h
  cases b with
  | false =>
    simp only [Tmpl.okElems, Bool.and_eq_true] at h
    simp [EqualRunsElems, ihu h.1, ihr h.2]
  | true =>
    simp only [Tmpl.okElems, Bool.and_eq_true] at h
    have hall := seqLens_eq_copies hs hm h.1
    have hff : u.flagFree = true := by
      have := h.1; simp only [Tmpl.ellOk, Bool.and_eq_true] at this; exact this.1.1
    refine Bool.and_eq_true_iff.2 ⟨Bool.and_eq_true_iff.2 ⟨?_, (EqualRuns_of_flagFree β).1 u hff⟩, ihr h.2⟩
    -- all the lengths are `copies β u`, so they are the first of them
    unfold copiesR7
    cases hsl : seqLens β u with
    | nil => rfl
    | cons x xs =>
      rw [hsl] at hall
      exact List.all_eq_true.2 fun l hl => beq_iff_eq.2 ((hall l hl).trans (hall x (List.mem_cons_self ..)).symm)

/-! ## `toPat` -/

theorem toPat_sym (s : String) (l : Loc) :
    toPat (.sym s l) = if s = "_" then .underscore else if s = "..." then .ellipsis else .ident s := by
  rw [toPat]

theorem toPats_eq_map (xs : List Datum) : toPats xs = xs.map toPat := by
  induction xs with
  | nil => rfl
  | cons x xs ih => simp [toPats, ih]

theorem toPat_isList : ∀ {es : List Datum} {d : Datum}, IsList d es → toPat d = Pat.ofList (es.map toPat)
  | [], d, h => by
    cases d with
    | nil l => rfl
    | pair a d' l => cases (Datum.elems_pair a d' l).symm.trans h.elems
    | _ => cases h
  | e :: es, d, h => by
    obtain ⟨dd, l, rfl, h'⟩ := isList_cons_iff.1 h
    rw [toPat, toPat_isList h']; rfl

/-! ## `toRule`, `toRules` -/

theorem toRule_pair {kw : String} {k : String} {lk : Loc} {patRest d' : Datum} {la l : Loc}
    (hp : patRest.isListy = true) :
    toRule kw (.pair (.pair (.sym k lk) patRest la) d' l) =
      if k ≠ kw then .error (.syntax, lk) else
      match d'.elems with
      | td :: _ => (toTmpl td).map fun t => (toPat patRest, t)
      | [] => .error (.syntax, none) := by
  simp only [toRule, expectList, Datum.elems_pair, bind, Except.bind, popProper_pair, hp, if_true]
  by_cases hk : k = kw
  · simp only [hk, ne_eq, not_true_eq_false, if_false]
    cases d'.elems with
    | nil => rfl
    | cons td more => simp only []; cases toTmpl td <;> rfl
  · simp [hk]

theorem ruleOf_pair_listy {kw k lk patRest la d' l} (hp : patRest.isListy = true) :
    ruleOf kw (.pair (.pair (.sym k lk) patRest la) d' l) =
      if k = kw then (match d'.elems with | td :: _ => some (patRest, td) | [] => none) else none := by
  simp only [ruleOf, Datum.elems_pair]
  cases patRest with
  | pair _ _ _ | nil _ => cases d'.elems <;> simp
  | prim _ _ | sym _ _ | vec _ _ => simp [Datum.isListy] at hp

theorem toRule_shape (kw : String) (d : Datum) :
    (∃ k lk patRest la d' l, d = .pair (.pair (.sym k lk) patRest la) d' l ∧
      patRest.isListy = true) ∨
    toRule kw d = .error (.syntax, none) ∧ ruleOf kw d = none := by
  cases d with
  | prim _ _ | sym _ _ | vec _ _ | nil _ => exact .inr ⟨rfl, rfl⟩
  | pair a d' l =>
    cases a with
    | prim _ _ | sym _ _ | vec _ _ | nil _ =>
      exact .inr ⟨by simp [toRule, expectList, bind, Except.bind, Datum.elems_pair, popProper],
        by simp [ruleOf, Datum.elems_pair]⟩
    | pair f patRest la =>
      cases hp : patRest.isListy
      · refine .inr ⟨by simp [toRule, expectList, bind, Except.bind, Datum.elems_pair, popProper_pair, hp], ?_⟩
        simp only [ruleOf, Datum.elems_pair]
        cases patRest with
        | pair _ _ _ | nil _ => cases hp
        | prim _ _ | sym _ _ | vec _ _ => cases f <;> cases d'.elems <;> simp
      · cases f with
        | sym k lk => exact .inl ⟨k, lk, patRest, la, d', l, rfl, hp⟩
        | prim _ _ | pair _ _ _ | nil _ | vec _ _ =>
          exact .inr ⟨by simp [toRule, expectList, bind, Except.bind, Datum.elems_pair, popProper_pair, hp],
            by simp only [ruleOf, Datum.elems_pair]⟩

theorem toRule_ok_iff {kw : String} {d : Datum} {pt : Pat × Tmpl} :
    toRule kw d = .ok pt ↔
      ∃ patRest td t, ruleOf kw d = some (patRest, td) ∧ toTmpl td = .ok t ∧
        pt = (toPat patRest, t) := by
  rcases toRule_shape kw d with ⟨k, lk, patRest, la, d', l, rfl, hp⟩ | ⟨h1, h2⟩
  · rw [toRule_pair hp, ruleOf_pair_listy hp]
    by_cases hk : k = kw
    · simp only [hk, ne_eq, not_true_eq_false, if_false, if_true]
      cases hd : d'.elems with
      | nil => simp
      | cons td more =>
        simp only [Option.some.injEq, Prod.mk.injEq]
        constructor
        · intro h
          obtain ⟨t, ht, rfl⟩ := map_ok h
          exact ⟨patRest, td, t, ⟨rfl, rfl⟩, ht, rfl⟩
        · rintro ⟨_, _, t, ⟨rfl, rfl⟩, ht, rfl⟩; rw [ht]; rfl
    · simp [hk]
  · simp [h1, h2]

theorem toRule_error {kw d e} (h : toRule kw d = .error e) : FrontErr d e := by
  rcases toRule_shape kw d with ⟨k, lk, patRest, la, d', l, rfl, hp⟩ | ⟨h1, -⟩
  · rw [toRule_pair hp] at h
    split at h
    · cases h
      exact ((FrontErr.at (.sym k lk)).elem (Datum.elems_pair .. ▸ List.mem_cons_self ..)).elem
        (Datum.elems_pair .. ▸ List.mem_cons_self ..)
    · split at h
      · rename_i td _ htd
        exact (toTmpl_error _ _ (map_error h)).elem (by simp [Datum.elems_pair, htd])
      · cases h; exact .inl rfl
  · exact .inl (by rw [h1] at h; cases h; rfl)

theorem mapM_ok_iff_mapOk {α β ε : Type} (f : α → Except ε β) (xs : List α) (ys : List β) :
    xs.mapM f = .ok ys ↔ MapOk f xs ys := by
  induction xs generalizing ys with
  | nil => exact ⟨fun h => by cases h; exact .nil, fun h => by cases h; rfl⟩
  | cons x xs ih =>
    rw [mapM_cons_ok_iff]
    constructor
    · rintro ⟨y, ys', hx, hxs, rfl⟩; exact .cons hx ((ih _).1 hxs)
    · intro h; cases h with | cons hx hxs => exact ⟨_, _, hx, (ih _).2 hxs, rfl⟩

theorem MapOk.length {α β ε : Type} {f : α → Except ε β} {xs ys} (h : MapOk f xs ys) :
    ys.length = xs.length := by
  induction h with
  | nil => rfl
  | cons _ _ ih => simp [ih]

theorem MapOk.get {α β ε : Type} {f : α → Except ε β} {xs ys} (h : MapOk f xs ys) :
    ∀ (i : Nat) (h1 : i < xs.length) (h2 : i < ys.length), f xs[i] = .ok ys[i] := by
  induction h with
  | nil => intro i h1; cases h1
  | cons hx _ ih =>
    intro i h1 h2
    cases i with
    | zero => exact hx
    | succ j => exact ih j (by simpa using h1) (by simpa using h2)

theorem MapOk.mem {α β ε : Type} {f : α → Except ε β} {xs ys} (h : MapOk f xs ys) :
    ∀ y ∈ ys, ∃ x ∈ xs, f x = .ok y := by
  induction h with
  | nil => nofun
  | cons hx _ ih =>
    exact List.forall_mem_cons.2 ⟨⟨_, by simp, hx⟩, fun y hy =>
      (ih y hy).imp fun x h => ⟨List.mem_cons_of_mem _ h.1, h.2⟩⟩

theorem ruleOf_mem {kw d p td} (h : ruleOf kw d = some (p, td)) : td ∈ d.elems := by
  unfold ruleOf at h
  split at h
  · split at h
    · rename_i he
      split at h
      · rw [he]; split at h <;> cases h <;> simp
      · cases h
    · cases h
  · cases h

/-- the model's reading of the parts of a `syntax-rules` form, from its elements after the head -/
def partsOf : List Datum → Except SErr (List Datum × List Datum)
  | [] => .error (.syntax, none)
  | first :: rest =>
    match first with
    | .sym _ _ =>
      match rest with
      | ld :: rest' =>
        match ld with
        | .pair _ _ _ | .nil _ => .ok (ld.elems, rest')
        | _ => .error (.syntax, none)
      | [] => .error (.syntax, none)
    | .pair _ _ _ | .nil _ => .ok (first.elems, rest)
    | _ => .error (.syntax, first.loc)

def partsE (d : Datum) : Except SErr (List Datum × List Datum) :=
  if d.isListy then partsOf (d.elems.drop 1) else .error (.syntax, none)

theorem toRules_eq (kw : String) (d : Datum) :
    toRules kw d =
      (partsE d).bind fun x => (x.1.mapM identOf).bind fun lits =>
        (x.2.mapM (toRule kw)).bind fun rules => .ok { literals := lits, rules := rules } := by
  cases d with
  | prim _ _ | sym _ _ | vec _ _ => rfl
  | pair _ _ _ | nil _ =>
    simp only [toRules, expectList, partsE, Datum.isListy, if_true, bind, Except.bind, pure,
      Except.pure]
    generalize List.drop 1 (Datum.elems _) = es
    cases es with
    | nil => rfl
    | cons first rest =>
      cases first with
      | sym _ _ =>
        cases rest with
        | nil => rfl
        | cons ld rest' => cases ld <;> rfl
      | _ => rfl

theorem partsE_toOption (d : Datum) : (partsE d).toOption = synRulesParts d := by
  cases d with
  | prim _ _ | sym _ _ | vec _ _ | nil _ => rfl
  | pair _ _ _ =>
    simp only [partsE, Datum.isListy, if_true, synRulesParts, listElems?, Option.bind_some]
    generalize List.drop 1 (Datum.elems _) = es
    cases es with
    | nil => rfl
    | cons first rest =>
      cases first with
      | sym _ _ =>
        cases rest with
        | nil => rfl
        | cons ld rest' => cases ld <;> rfl
      | _ => rfl

theorem partsE_ok_iff (d : Datum) (x : List Datum × List Datum) :
    partsE d = .ok x ↔ synRulesParts d = some x := by
  rw [← partsE_toOption]
  cases partsE d <;> simp [Except.toOption]

theorem partsE_cases {d : Datum} {r} (h : partsE d = r) :
    match r with
    | .ok x => (∃ ld ∈ d.elems, x.1 = ld.elems) ∧ ∀ y ∈ x.2, y ∈ d.elems
    | .error e => FrontErr d e := by
  unfold partsE at h
  split at h
  · generalize hd : d.elems.drop 1 = es at h
    have hm : ∀ y ∈ es, y ∈ d.elems := fun y hy => List.mem_of_mem_drop (hd ▸ hy)
    have ok : ∀ {ld : Datum} {rs : List Datum}, ld ∈ es → (∀ y ∈ rs, y ∈ es) →
        (∃ ld' ∈ d.elems, ld.elems = ld'.elems) ∧ ∀ y ∈ rs, y ∈ d.elems :=
      fun hl hr => ⟨⟨_, hm _ hl, rfl⟩, fun y hy => hm y (hr y hy)⟩
    cases es with
    | nil => subst h; exact .inl rfl
    | cons first rest =>
      have hfirst := ok (ld := first) (rs := rest) (by simp) (fun y hy => by simp [hy])
      cases first with
      | sym _ _ =>
        cases rest with
        | nil => subst h; exact .inl rfl
        | cons ld rest' =>
          have hld := ok (ld := ld) (rs := rest') (by simp) (fun y hy => by simp [hy])
          cases ld <;> subst h <;> first | exact .inl rfl | exact hld
      | pair _ _ _ | nil _ => subst h; exact hfirst
      | prim _ _ | vec _ _ => subst h; exact (FrontErr.at _).elem (hm _ (by simp))
  · subst h; exact .inl rfl

theorem toRules_ok_iff (kw : String) (d : Datum) (r : Rules) :
    toRules kw d = .ok r ↔
      ∃ litDs ruleDs, synRulesParts d = some (litDs, ruleDs) ∧
        MapOk identOf litDs r.literals ∧ MapOk (toRule kw) ruleDs r.rules := by
  rw [toRules_eq]
  constructor
  · intro h
    obtain ⟨⟨litDs, ruleDs⟩, hp, h⟩ := bind_eq_ok h
    obtain ⟨lits, hl, h⟩ := bind_eq_ok h
    obtain ⟨rules, hr, h⟩ := bind_eq_ok h
    cases h
    exact ⟨litDs, ruleDs, (partsE_ok_iff d _).1 hp, (mapM_ok_iff_mapOk _ _ _).1 hl, (mapM_ok_iff_mapOk _ _ _).1 hr⟩
  · rintro ⟨litDs, ruleDs, hp, hl, hr⟩
    rw [(partsE_ok_iff d _).2 hp]
    simp only [Except.bind, (mapM_ok_iff_mapOk _ _ _).2 hl, (mapM_ok_iff_mapOk _ _ _).2 hr]

/-! ## Every failure of the front is a syntax error -/

theorem toRules_error {kw d e} (h : toRules kw d = .error e) : FrontErr d e := by
  rw [toRules_eq] at h
  rcases bind_eq_error h with hx | ⟨x, hx, h⟩
  · exact partsE_cases hx
  obtain ⟨⟨ld, hld, hlits⟩, hrules⟩ := partsE_cases hx
  rcases bind_eq_error h with hl | ⟨lits, -, h⟩
  · obtain ⟨y, hy, he⟩ := mapM_error_elem hl
    exact identOf_error he ▸ ((FrontErr.at y).elem (hlits ▸ hy)).elem hld
  rcases bind_eq_error h with hr | ⟨rules, -, h⟩
  · obtain ⟨y, hy, he⟩ := mapM_error_elem hr
    exact (toRule_error he).elem (hrules y hy)
  · cases h

theorem toTmpl_error_syntax {d e} (h : toTmpl d = .error e) : e.1 = .syntax :=
  (toTmpl_error d e h).syntax

theorem toRule_error_syntax {kw d e} (h : toRule kw d = .error e) : e.1 = .syntax :=
  (toRule_error h).syntax

theorem toRules_error_syntax {kw d e} (h : toRules kw d = .error e) : e.1 = .syntax :=
  (toRules_error h).syntax

end Ruschm.Macro
