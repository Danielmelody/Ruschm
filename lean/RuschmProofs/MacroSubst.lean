/-
The model's template substitution `subst` is the declarative instantiation `specInst` on well-formed
templates (`subst_spec`). The copy loop of an ellipsis sub-template has no counter: it stops when a variable
has no further match, so the number of copies is the least length of the sequences the sub-template mentions
(`minLen`), and the fuel it needs is the longest sequence of the table. With the matcher this gives the
expander rule by rule, wherever no match runs out of fuel (`transformRules_eq_spec_of`).
-/
import RuschmSpec.MacroMore
import RuschmProofs.MacroMatch

namespace Ruschm.Macro
open Ruschm

/-! ## The table as bindings -/

theorem Subst.lookup_toBindings (σ : Subst) (v : String) :
    σ.toBindings.lookup v = (σ.get? v).map fun x => x.1 :: x.2 := by
  rw [Subst.get?_eq_lookup]
  exact Assoc.lookup_map_val (fun _ x => x.1 :: x.2) v σ

/-! ## `minLen` -/

theorem minLen_le_of_mem : ∀ {ls : List Nat} {l}, l ∈ ls → minLen ls ≤ l
  | [x], l, h => Nat.le_of_eq (List.mem_singleton.1 h).symm
  | x :: y :: ys, l, h => by
    rcases List.mem_cons.1 h with rfl | h
    · exact Nat.min_le_left ..
    · exact Nat.le_trans (Nat.min_le_right ..) (minLen_le_of_mem h)

theorem minLen_mem : ∀ {ls : List Nat}, ls ≠ [] → minLen ls ∈ ls
  | [x], _ => List.mem_singleton.2 rfl
  | x :: y :: ys, _ => by
    show min x (minLen (y :: ys)) ∈ _
    rw [Nat.min_def]
    split
    · exact List.mem_cons_self ..
    · exact List.mem_cons_of_mem _ (minLen_mem (List.cons_ne_nil _ _))

theorem lt_minLen_iff {ls : List Nat} (hne : ls ≠ []) (k : Nat) : k < minLen ls ↔ ∀ l ∈ ls, k < l :=
  ⟨fun h _ hl => Nat.lt_of_lt_of_le h (minLen_le_of_mem hl), fun h => h _ (minLen_mem hne)⟩

theorem minLen_const {ls : List Nat} {n} (hne : ls ≠ []) (h : ∀ l ∈ ls, l = n) : minLen ls = n :=
  h _ (minLen_mem hne)

theorem minLen_eq_head {ls : List Nat} (h : ls.all (fun l => l == ls.headD 0) = true) :
    minLen ls = ls.headD 0 := by
  cases ls with
  | nil => rfl
  | cons x xs =>
    apply minLen_const (by simp)
    intro l hl
    simp only [List.all_eq_true, beq_iff_eq] at h
    simpa using h l hl

/-! ## Well-formed templates

`t.wf bound`: every element followed by an ellipsis contains no nested ellipsis and mentions at
least one bound variable (otherwise the copy loop of the Rust code does not end). This is all the
substitution theorem needs; `Tmpl.ok` (the supported class) implies it. -/

mutual
def Tmpl.wf (bound : List String) : Tmpl → Bool
  | .ident _ => true
  | .prim _ => true
  | .list es => Tmpl.wfElems bound es
  | .vec es => Tmpl.wfElems bound es
def Tmpl.wfElems (bound : List String) : List (Tmpl × Bool) → Bool
  | [] => true
  | (t, false) :: rest => t.wf bound && Tmpl.wfElems bound rest
  | (t, true) :: rest => t.flagFree && t.vars.any bound.contains && Tmpl.wfElems bound rest
end

theorem Tmpl.ellOk_ellOk' {pv groups u} (h : Tmpl.ellOk pv groups u = true) :
    Tmpl.ellOk' pv groups u = true := by
  simp only [Tmpl.ellOk, Tmpl.ellOk', Bool.and_eq_true, List.any_eq_true, List.all_eq_true] at h ⊢
  obtain ⟨h12, g, hg, hall⟩ := h
  exact ⟨h12, fun v hv => ⟨g, hg, hall v hv⟩⟩

theorem Tmpl.ok_ok' (pv : List String) (groups : List (List String)) :
    (∀ t, Tmpl.ok pv groups t = true → Tmpl.ok' pv groups t = true) ∧
    (∀ es, Tmpl.okElems pv groups es = true → Tmpl.okElems' pv groups es = true) := by
  refine Tmpl.ind (fun _ ih => ih) (fun _ ih => ih) (fun _ h => h) (fun _ _ => rfl) (fun _ => rfl) ?_
  · intro t b rest iht ihr h
    cases b with
    | false =>
      simp only [Tmpl.okElems, Bool.and_eq_true] at h
      simp [Tmpl.okElems', iht h.1, ihr h.2]
    | true =>
      simp only [Tmpl.okElems, Bool.and_eq_true] at h
      simp [Tmpl.okElems', Tmpl.ellOk_ellOk' h.1, ihr h.2]

theorem Tmpl.ok'_wf (pv : List String) (groups : List (List String)) :
    (∀ t, Tmpl.ok' pv groups t = true → t.wf pv = true) ∧
    (∀ es, Tmpl.okElems' pv groups es = true → Tmpl.wfElems pv es = true) := by
  refine Tmpl.ind (fun _ ih => ih) (fun _ ih => ih) (fun _ _ => rfl) (fun _ _ => rfl) (fun _ => rfl) ?_
  · intro t b rest iht ihr h
    cases b with
    | false =>
      simp only [Tmpl.okElems', Bool.and_eq_true] at h
      simp [Tmpl.wfElems, iht h.1, ihr h.2]
    | true =>
      simp only [Tmpl.okElems', Tmpl.ellOk', Bool.and_eq_true] at h
      obtain ⟨⟨⟨h1, h2⟩, -⟩, h4⟩ := h
      simp only [Tmpl.wfElems, h1, ihr h4, Bool.and_true, Bool.true_and]
      simp only [Tmpl.boundVars, Bool.not_eq_true', List.isEmpty_eq_false_iff_exists_mem] at h2
      obtain ⟨v, hv⟩ := h2
      simp only [List.mem_filter] at hv
      simp only [List.any_eq_true]
      exact ⟨v, hv.1, hv.2⟩

theorem Tmpl.ok_wf (pv : List String) (groups : List (List String)) (t : Tmpl)
    (h : Tmpl.ok pv groups t = true) : t.wf pv = true :=
  (Tmpl.ok'_wf pv groups).1 t ((Tmpl.ok_ok' pv groups).1 t h)

theorem Tmpl.wf_of_flagFree (bound : List String) :
    (∀ t : Tmpl, t.flagFree = true → t.wf bound = true) ∧
    (∀ es, Tmpl.flagFreeElems es = true → Tmpl.wfElems bound es = true) := by
  refine Tmpl.ind (fun _ ih => ih) (fun _ ih => ih) (fun _ _ => rfl) (fun _ _ => rfl) (fun _ => rfl) ?_
  · intro t b rest iht ihr h
    simp only [Tmpl.flagFreeElems, Bool.and_eq_true, Bool.not_eq_true'] at h
    obtain ⟨⟨rfl, h2⟩, h3⟩ := h
    simp [Tmpl.wfElems, iht h2, ihr h3]

/-! ## The copies of an ellipsis sub-template -/

def Avail (σ : Subst) (vs : List String) (i : Nat) : Prop :=
  ∀ v ∈ vs, ∀ x, σ.get? v = some x → i < x.2.length

theorem Avail.append {σ vs ws i} : Avail σ (vs ++ ws) i ↔ Avail σ vs i ∧ Avail σ ws i := by
  simp only [Avail, List.mem_append, or_imp, forall_and]

/-- for all templates: the copies ignore nested ellipses -/
theorem substItem_none (σ : Subst) (loc : Loc) (i : Nat) :
    (∀ t, ¬ Avail σ t.vars i → substItem t σ i loc = none) ∧
    (∀ es, ¬ Avail σ (Tmpl.varsElems es) i → substItems es σ i loc = none) := by
  apply Tmpl.ind
  · intro es ih h; simp [substItem, ih h]
  · intro es ih h; simp [substItem, ih h]
  · intro v h
    simp only [Tmpl.vars, Avail, List.mem_singleton, forall_eq] at h
    simp only [substItem]
    cases hg : σ.get? v with
    | none => simp [hg] at h
    | some x =>
      obtain ⟨f, more⟩ := x
      simp only [hg, Option.some.injEq, forall_eq'] at h
      simp only
      cases hm : more.isEmpty
      · simp only [Bool.false_eq_true, if_false, List.getElem?_eq_none_iff]; omega
      · simp
  · intro p h; exact absurd (fun v hv => by simp [Tmpl.vars] at hv) h
  · intro h; exact absurd (fun v hv => by simp [Tmpl.varsElems] at hv) h
  · intro t b rest iht ihr h
    simp only [Tmpl.varsElems, Avail.append] at h
    simp only [substItems]
    by_cases ha : Avail σ t.vars i
    · have hb : ¬ Avail σ (Tmpl.varsElems rest) i := fun hb => h ⟨ha, hb⟩
      rw [ihr hb]; cases substItem t σ i loc <;> rfl
    · rw [iht ha]

theorem substItem_spec (σ : Subst) (loc : Loc) (i : Nat) :
    (∀ t, t.flagFree = true → Avail σ t.vars i →
      substItem t σ i loc = some (specInstAt σ.toBindings loc (i+1) t)) ∧
    (∀ es, Tmpl.flagFreeElems es = true → Avail σ (Tmpl.varsElems es) i →
      substItems es σ i loc = some (specElemsAt σ.toBindings loc (i+1) es)) := by
  apply Tmpl.ind
  · intro es ih hf h; simp only [substItem, specInstAt, ih hf h]; rfl
  · intro es ih hf h; simp only [substItem, specInstAt, ih hf h]; rfl
  · intro v _ h
    simp only [Tmpl.vars, Avail, List.mem_singleton, forall_eq] at h
    simp only [substItem, specInstAt, Subst.lookup_toBindings]
    cases hg : σ.get? v with
    | none => rfl
    | some x =>
      obtain ⟨f, more⟩ := x
      have hi := h _ hg
      have : more.isEmpty = false := by cases more <;> simp_all
      simp [this, hi]
  · intro p _ _; rfl
  · intro _ _; rfl
  · intro t b rest iht ihr hf h
    simp only [Tmpl.flagFreeElems, Bool.and_eq_true, Bool.not_eq_true'] at hf
    obtain ⟨⟨rfl, hft⟩, hfr⟩ := hf
    simp only [Tmpl.varsElems, Avail.append] at h
    simp only [substItems, specElemsAt, iht hft h.1, ihr hfr h.2]; rfl

theorem mem_seqLens {σ : Subst} {t : Tmpl} {l : Nat} :
    l ∈ seqLens σ.toBindings t ↔ ∃ v ∈ t.vars, ∃ x, σ.get? v = some x ∧ x.2.length + 1 = l := by
  simp only [seqLens, List.mem_filterMap, Subst.lookup_toBindings, Option.map_map,
    Option.map_eq_some_iff, Function.comp, List.length_cons]

theorem seqLens_ne_nil {σ : Subst} {t : Tmpl} (hb : ∃ v ∈ t.vars, v ∈ Subst.keys σ) :
    seqLens σ.toBindings t ≠ [] := by
  obtain ⟨v, hv, hk⟩ := hb
  obtain ⟨x, hg⟩ := Option.isSome_iff_exists.1 (Subst.get?_isSome_iff.2 hk)
  exact fun h => List.not_mem_nil (h ▸ mem_seqLens.2 ⟨v, hv, x, hg, rfl⟩)

theorem avail_iff_copies {σ : Subst} {t : Tmpl} {i : Nat}
    (hb : ∃ v ∈ t.vars, v ∈ Subst.keys σ) :
    Avail σ t.vars i ↔ i + 1 < copies σ.toBindings t := by
  rw [copies, lt_minLen_iff (seqLens_ne_nil hb)]
  constructor
  · intro h l hl
    obtain ⟨v, hv, x, hx, rfl⟩ := mem_seqLens.1 hl
    have := h v hv x hx; omega
  · intro h v hv x hx
    have := h _ (mem_seqLens.2 ⟨v, hv, x, hx, rfl⟩); omega

theorem copies_pos {σ : Subst} {t : Tmpl} (hb : ∃ v ∈ t.vars, v ∈ Subst.keys σ) :
    0 < copies σ.toBindings t := by
  rw [copies, lt_minLen_iff (seqLens_ne_nil hb)]
  intro l hl
  obtain ⟨v, hv, x, hx, rfl⟩ := mem_seqLens.1 hl
  omega

theorem copies_le {σ : Subst} {t : Tmpl} {v x} (hv : v ∈ t.vars) (hx : σ.get? v = some x) :
    copies σ.toBindings t ≤ x.2.length + 1 :=
  minLen_le_of_mem (mem_seqLens.2 ⟨v, hv, x, hx, rfl⟩)

theorem substItemLoop_prim (q : Prim) (loc : Loc) :
    ∀ fuel i, substItemLoop fuel (.prim q) [] i loc = none := by
  intro fuel
  induction fuel with
  | zero => intro i; rfl
  | succ n ih => intro i; simp [substItemLoop, substItem, ih]

theorem substItemLoop_spec {σ : Subst} {t : Tmpl} {loc : Loc} (hf : t.flagFree = true)
    (hb : ∃ v ∈ t.vars, v ∈ Subst.keys σ) :
    ∀ k i fuel, i + 1 + k = copies σ.toBindings t → k < fuel →
      substItemLoop fuel t σ i loc =
        some ((List.range' (i+1) k).map fun j => specInstAt σ.toBindings loc j t) := by
  intro k
  induction k with
  | zero =>
    intro i fuel hc hfu
    obtain ⟨n, rfl⟩ := Nat.exists_eq_add_one.2 (Nat.zero_lt_of_lt hfu)
    have : ¬ Avail σ t.vars i := by rw [avail_iff_copies hb]; omega
    simp [substItemLoop, (substItem_none σ loc i).1 t this]
  | succ k ih =>
    intro i fuel hc hfu
    obtain ⟨n, rfl⟩ := Nat.exists_eq_add_one.2 (Nat.zero_lt_of_lt hfu)
    have : Avail σ t.vars i := by rw [avail_iff_copies hb]; omega
    simp only [substItemLoop, (substItem_spec σ loc i).1 t hf this]
    rw [ih (i+1) n (by omega) (by omega)]
    simp [List.range'_succ]

theorem specElemsAt_flagFree (β : Bindings) (loc : Loc) (i : Nat) :
    ∀ es, Tmpl.flagFreeElems es = true →
      specElemsAt β loc i es = es.map fun e => specInstAt β loc i e.1 := by
  intro es
  induction es with
  | nil => intro _; rfl
  | cons e es ih =>
    obtain ⟨t, b⟩ := e
    intro h
    simp only [Tmpl.flagFreeElems, Bool.and_eq_true, Bool.not_eq_true'] at h
    obtain ⟨⟨rfl, -⟩, h3⟩ := h
    simp [specElemsAt, ih h3]

theorem subst_spec (σ : Subst) (loc : Loc) (fuel : Nat)
    (hfu : ∀ e ∈ σ, e.2.2.length < fuel) :
    (∀ t, t.wf (Subst.keys σ) = true →
      subst fuel t σ loc = some (specInstAt σ.toBindings loc 0 t)) ∧
    (∀ es, Tmpl.wfElems (Subst.keys σ) es = true →
      substElems fuel es σ loc = some (specElemsAt σ.toBindings loc 0 es)) := by
  apply Tmpl.ind
  · intro es ih h; simp [subst, specInstAt, ih h]
  · intro es ih h; simp [subst, specInstAt, ih h]
  · intro v _
    simp only [subst, specInstAt, Subst.lookup_toBindings]
    cases σ.get? v <;> simp
  · intro p _; rfl
  · intro _; rfl
  · intro t b rest iht ihr h
    cases b with
    | false =>
      simp only [Tmpl.wfElems, Bool.and_eq_true] at h
      simp [substElems, specElemsAt, iht h.1, ihr h.2]
    | true =>
      simp only [Tmpl.wfElems, Bool.and_eq_true, List.any_eq_true, List.contains_iff_mem] at h
      obtain ⟨⟨hff, hb⟩, hr⟩ := h
      obtain ⟨v, hv, hk⟩ := hb
      have hb' : ∃ v ∈ t.vars, v ∈ Subst.keys σ := ⟨v, hv, hk⟩
      obtain ⟨c, hc⟩ : ∃ c, copies σ.toBindings t = c + 1 := ⟨_, (Nat.succ_pred_eq_of_pos (copies_pos hb')).symm⟩
      obtain ⟨x, hg⟩ := Option.isSome_iff_exists.1 (Subst.get?_isSome_iff.2 hk)
      have hle := Nat.le_trans (copies_le hv hg) (hfu (v, x) (Subst.get?_mem hg))
      have hloop := substItemLoop_spec (loc := loc) hff hb' c 0 fuel (by omega) (by omega)
      simp only [substElems, specElemsAt, iht ((Tmpl.wf_of_flagFree _).1 t hff), hloop, ihr hr, hc,
        List.range_eq_range', List.range'_succ]
      rfl

/-! ## The ellipsis test of `transform`, and termination of `subst` for all templates -/

theorem mentionsVar_iff (σ : Subst) :
    (∀ t, mentionsVar σ t = true ↔ ∃ v ∈ t.vars, v ∈ Subst.keys σ) ∧
    (∀ es, mentionsVarElems σ es = true ↔ ∃ v ∈ Tmpl.varsElems es, v ∈ Subst.keys σ) := by
  refine Tmpl.ind (fun _ ih => ih) (fun _ ih => ih) ?_ ?_ ?_ ?_
  · intro v; simp [mentionsVar, Tmpl.vars, Subst.get?_isSome_iff]
  · intro p; simp [mentionsVar, Tmpl.vars]
  · simp [mentionsVarElems, Tmpl.varsElems]
  · intro t b rest iht ihr
    simp only [mentionsVarElems, Tmpl.varsElems, Bool.or_eq_true, iht, ihr, List.mem_append, or_and_right,
      exists_or]

theorem ellipsisOk_of_wf (σ : Subst) :
    (∀ t, t.wf (Subst.keys σ) = true → ellipsisOk σ t = true) ∧
    (∀ es, Tmpl.wfElems (Subst.keys σ) es = true → ellipsisOkElems σ es = true) := by
  refine Tmpl.ind (fun _ ih => ih) (fun _ ih => ih) (fun _ _ => rfl) (fun _ _ => rfl) (fun _ => rfl) ?_
  · intro t b rest iht ihr h
    cases b with
    | false =>
      simp only [Tmpl.wfElems, Bool.and_eq_true] at h
      simp [ellipsisOkElems, iht h.1, ihr h.2]
    | true =>
      simp only [Tmpl.wfElems, Bool.and_eq_true, List.any_eq_true, List.contains_iff_mem] at h
      obtain ⟨⟨hff, hb⟩, hr⟩ := h
      have hm : mentionsVar σ t = true := ((mentionsVar_iff σ).1 t).2 hb
      simp [ellipsisOkElems, hm, iht ((Tmpl.wf_of_flagFree _).1 t hff), ihr hr]

theorem substItemLoop_isSome {σ : Subst} {t : Tmpl} {loc : Loc} {v x}
    (hv : v ∈ t.vars) (hx : σ.get? v = some x) :
    ∀ k i fuel, x.2.length ≤ i + k → k < fuel → (substItemLoop fuel t σ i loc).isSome = true := by
  intro k
  induction k with
  | zero =>
    intro i fuel hk hfu
    obtain ⟨n, rfl⟩ := Nat.exists_eq_add_one.2 (Nat.zero_lt_of_lt hfu)
    have : ¬ Avail σ t.vars i := fun h => by have := h v hv x hx; omega
    simp [substItemLoop, (substItem_none σ loc i).1 t this]
  | succ k ih =>
    intro i fuel hk hfu
    obtain ⟨n, rfl⟩ := Nat.exists_eq_add_one.2 (Nat.zero_lt_of_lt hfu)
    simp only [substItemLoop]
    cases substItem t σ i loc with
    | none => rfl
    | some d =>
      have := ih (i + 1) n (by omega) (by omega)
      cases hl : substItemLoop n t σ (i + 1) loc with
      | none => simp [hl] at this
      | some ds => rfl

theorem subst_isSome (σ : Subst) (loc : Loc) (fuel : Nat)
    (hfu : ∀ e ∈ σ, e.2.2.length < fuel) :
    (∀ t, ellipsisOk σ t = true → (subst fuel t σ loc).isSome = true) ∧
    (∀ es, ellipsisOkElems σ es = true → (substElems fuel es σ loc).isSome = true) := by
  apply Tmpl.ind
  · intro es ih h
    obtain ⟨ds, hs⟩ := Option.isSome_iff_exists.1 (ih h)
    rw [subst, hs]; rfl
  · intro es ih h
    obtain ⟨ds, hs⟩ := Option.isSome_iff_exists.1 (ih h)
    rw [subst, hs]; rfl
  · intro v _; simp only [subst]; cases σ.get? v <;> rfl
  · intro p _; rfl
  · intro _; rfl
  · intro t b rest iht ihr h
    simp only [ellipsisOkElems, Bool.and_eq_true, Bool.or_eq_true, Bool.not_eq_true'] at h
    obtain ⟨⟨hflag, hok⟩, hrest⟩ := h
    obtain ⟨d, h1⟩ := Option.isSome_iff_exists.1 (iht hok)
    obtain ⟨r, h2⟩ := Option.isSome_iff_exists.1 (ihr hrest)
    cases b with
    | false => rw [substElems, h1, h2]; rfl
    | true =>
      have hm : mentionsVar σ t = true := by simpa using hflag
      obtain ⟨v, hv, hk⟩ := ((mentionsVar_iff σ).1 t).1 hm
      obtain ⟨x, hg⟩ := Option.isSome_iff_exists.1 (Subst.get?_isSome_iff.2 hk)
      have hlen := hfu (v, x) (Subst.get?_mem hg)
      obtain ⟨more, h3⟩ := Option.isSome_iff_exists.1
        (substItemLoop_isSome (loc := loc) hv hg x.2.length 0 fuel (by omega) hlen)
      rw [substElems, h1, h3, h2]; rfl

/-! ## Match, then fill — for any template that is well-formed for the pattern's variables -/

theorem subst_of_match_wf {lits p t d β fuel loc} (hwf : t.wf (p.vars lits) = true)
    (hm : specMatch lits p d = some β) (hfu : d.size ≤ fuel) :
    subst fuel t β.toSubst loc = some (specInst t β loc) := by
  have hk : Subst.keys β.toSubst = p.vars lits := by
    rw [Bindings.keys_toSubst, specMatch_keys hm]
  have hne := specMatch_nonEmpty hm
  have hlen := specMatch_len hm
  have := (subst_spec β.toSubst loc fuel (by
    intro e he
    simp only [Bindings.toSubst, List.mem_map] at he
    obtain ⟨e0, he0, rfl⟩ := he
    have h1 := hlen e0 he0
    have h2 := hne e0 he0
    simp only [List.length_tail]
    have : 0 < e0.2.length := List.length_pos_iff.2 h2
    omega)).1 t (hk ▸ hwf)
  rw [this, Bindings.toBindings_toSubst hne, specInst]

theorem fill_of_match_wf {lits p t d β fuel loc} (hwf : t.wf (p.vars lits) = true)
    (hm : specMatch lits p d = some β) (hfu : d.size ≤ fuel) :
    fill fuel t β.toSubst loc = .ok (specInst t β loc) :=
  fill_eq_ok_iff.2 ⟨(ellipsisOk_of_wf β.toSubst).1 t (by rwa [Bindings.keys_toSubst, specMatch_keys hm]),
    subst_of_match_wf hwf hm hfu⟩

/-! ## The rules, one after the other -/

def specTry (lits : List String) (use : Datum) (r : Pat × Tmpl) : Option (Except SErr Datum) :=
  (specMatch lits r.1 use).map fun β => .ok (specInst r.2 β use.loc)

theorem specTransform_eq_findSome (lits : List String) (use : Datum) :
    ∀ rules, specTransform lits rules use = (rules.findSome? (specTry lits use)).getD (.error (.syntax, none))
  | [] => rfl
  | (p, t) :: rest => by
    rw [specTransform, List.findSome?_cons, specTry]
    cases specMatch lits p use
    · exact specTransform_eq_findSome lits use rest
    · rfl

theorem transformRules_error {fuel lits use e} {rules : List (Pat × Tmpl)}
    (h : transformRules fuel lits rules use = .error e) :
    e = (.syntax, none) ∨ e = (.fuel, none) ∨ ∃ r ∈ rules, matchDatum fuel lits r.1 use [] = .error e := by
  rcases transformRules_cases fuel lits rules use with ⟨t, σ, -, h2⟩ | ⟨-, h2⟩ | ⟨r, hr, e', he, h2⟩
  · rcases fill_eq_error_iff.1 (h2 ▸ h) with ⟨-, rfl⟩ | ⟨-, -, rfl⟩
    · exact .inl rfl
    · exact .inr (.inl rfl)
  · cases h2.symm.trans h; exact .inl rfl
  · cases h2.symm.trans h; exact .inr (.inr ⟨r, hr, he⟩)

theorem SupportedRule.wf {lits} {r : Pat × Tmpl} (hr : SupportedRule lits r = true) :
    Supported lits r.1 = true ∧ r.2.wf (r.1.vars lits) = true := by
  simp only [SupportedRule, SupportedTmpl, Bool.and_eq_true] at hr
  exact ⟨hr.1, Tmpl.ok_wf _ _ _ hr.2⟩

theorem SupportedRule'.wf {lits} {r : Pat × Tmpl} (hr : SupportedRule' lits r = true) :
    Supported lits r.1 = true ∧ r.2.wf (r.1.vars lits) = true := by
  simp only [SupportedRule', SupportedTmpl', Bool.and_eq_true] at hr
  exact ⟨hr.1, (Tmpl.ok'_wf _ _).1 _ hr.2⟩

theorem transformRules_eq_spec_of {lits fuel use} (hu : use.size ≤ fuel) (rules : List (Pat × Tmpl))
    (hs : ∀ r ∈ rules, (Supported lits r.1 = true ∧ r.2.wf (r.1.vars lits) = true) ∧
        matchDatum fuel lits r.1 use [] ≠ .error (.fuel, none)) :
    transformRules fuel lits rules use = specTransform lits rules use := by
  rw [transformRules_eq_findSome, specTransform_eq_findSome, findSome?_congr fun r hr => ?_]
  obtain ⟨⟨hsp, hwf⟩, hnf⟩ := hs r hr
  obtain ⟨h1, h2⟩ := matchDatum_eq_spec_cases hsp hnf
  rw [tryRule, specTry]
  cases hm : specMatch lits r.1 use with
  | some β => rw [(h1 β hm).1]; simp only [fill_of_match_wf hwf hm hu, Option.map_some]
  | none => obtain ⟨σ', h'⟩ := h2 hm; rw [h']; rfl

theorem specTransform_cases (lits : List String) (rules : List (Pat × Tmpl)) (use : Datum) :
    (∃ pre p t post β, rules = pre ++ (p, t) :: post ∧
      (∀ q ∈ pre, specMatch lits q.1 use = none) ∧ specMatch lits p use = some β ∧
      specTransform lits rules use = .ok (specInst t β use.loc)) ∨
    ((∀ q ∈ rules, specMatch lits q.1 use = none) ∧
      specTransform lits rules use = .error (.syntax, none)) := by
  rw [specTransform_eq_findSome]
  cases hf : rules.findSome? (specTry lits use) with
  | none => exact .inr ⟨fun q hq => by simpa [specTry] using List.findSome?_eq_none_iff.1 hf q hq, rfl⟩
  | some x =>
    obtain ⟨pre, ⟨p, t⟩, post, rfl, hr, hpre⟩ := List.findSome?_eq_some_iff.1 hf
    obtain ⟨β, hβ, rfl⟩ := Option.map_eq_some_iff.1 hr
    exact .inl ⟨pre, p, t, post, β, rfl, fun q hq => by simpa [specTry] using hpre q hq, hβ, rfl⟩

end Ruschm.Macro
