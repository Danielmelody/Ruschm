/-
The transformer: a successfully transformed expression leaves the syntax environment as it was
(`keepAll`; `toExpr_keep`, `toStatement_keep`).
-/
import RuschmProofs.XformInduction

namespace Ruschm.Xform
namespace Keep

/-- conditional on the result, unlike `XM.StateFree` and `XPure`: `define-syntax` does change the environment, and
its result is not an expression -/
structure KeepIf {α} (P : α → Prop) (m : XM α) : Prop where
  keep : ∀ s a s', m s = (.ok a, s') → P a → s' = s
abbrev Never {α} (P : α → Prop) (m : XM α) : Prop := XM.Yields m (fun a => ¬ P a)

/-- no condition -/
abbrev Tt {α} : α → Prop := fun _ => True

variable {α β : Type} {P : β → Prop} {Q : α → Prop}

theorem KeepIf.of_snd {m : XM β} (h : ∀ s, (m s).2 = s) : KeepIf P m :=
  ⟨fun s _ _ hr _ => by have := h s; rwa [hr] at this⟩

theorem KeepIf.pure (b : β) : KeepIf P (pure b : XM β) := .of_snd fun _ => rfl
theorem KeepIf.fail (e : SErr) : KeepIf P (fail e : XM β) := .of_snd fun _ => rfl
theorem KeepIf.lift (x : Except SErr β) : KeepIf P (lift x) := .of_snd fun _ => rfl
theorem KeepIf.need (x : Option β) : KeepIf P (need x) := .of_snd fun _ => by cases x <;> rfl
theorem KeepIf.identOf (d : Datum) : KeepIf Q' (identOf d) := KeepIf.lift _
theorem KeepIf.expectList (d : Datum) : KeepIf Q' (expectList d) := KeepIf.lift _
theorem KeepIf.getEnv {Q' : SynEnv → Prop} : KeepIf Q' getEnv := .of_snd fun _ => rfl
theorem KeepIf.toFormals {Q' : Formals → Prop} (d : Datum) : KeepIf Q' (toFormals d) := .of_snd (toFormals_env d)

theorem KeepIf.of_never {m : XM β} (h : Never P m) : KeepIf P m :=
  ⟨fun s a _ hr hp => absurd hp ((h s trivial).ok a (by rw [hr]))⟩

/-- the second step need keep the environment only after a `Q`; after anything else it must not produce a `P` -/
theorem KeepIf.bind_if {m : XM α} {f : α → XM β} (hm : KeepIf Q m) (hf : ∀ a, Q a → KeepIf P (f a))
    (hn : ∀ a, ¬ Q a → Never P (f a)) : KeepIf P (m >>= f) := by
  refine ⟨fun s b s' h hp => ?_⟩
  obtain ⟨a, s₁, h₁, h₂⟩ := XM.bind_eq_ok h
  by_cases hq : Q a
  · have := hm.keep s a s₁ h₁ hq
    subst this
    exact (hf a hq).keep _ _ _ h₂ hp
  · exact absurd hp (((hn a hq) s₁ trivial).ok b (by rw [h₂]))

theorem KeepIf.bind {m : XM α} {f : α → XM β} (hm : KeepIf Tt m) (hf : ∀ a, KeepIf P (f a)) : KeepIf P (m >>= f) :=
  KeepIf.bind_if (Q := Tt) hm (fun a _ => hf a) (fun _ h => absurd trivial h)

theorem KeepIf.inChild {m : XM β} (hm : KeepIf P m) : KeepIf P (inChild m) := by
  refine ⟨fun s b s' h hp => ?_⟩
  simp only [inChild_run, Prod.mk.injEq] at h
  have := hm.keep ([] :: s) b _ (Prod.ext h.1 rfl) hp
  exact h.2.symm.trans (congrArg popScope this)

/-- the statements an expression context accepts: expressions and definitions -/
def IsED : Statement → Prop
  | .expr _ => True
  | .definition _ => True
  | _ => False

theorem never_lib : ∀ n args loc, Never IsED (toLibrary n args loc)
  | 0, _, _ => by rw [toLibrary]; exact .fail trivial
  | n+1, _, _ => by
    rw [toLibrary]
    exact .skip fun _ => .skip fun _ => .skip fun _ => .skip fun _ => .pure id

structure KeepAll (n : Nat) : Prop where
  stmt : ∀ d, KeepIf IsED (toStatement n d)
  expr : ∀ d, KeepIf Tt (toExpr n d)
  call : ∀ f a l, KeepIf Tt (toCall n f a l)
  exprs : ∀ ds, KeepIf Tt (toExprs n ds)
  defn : ∀ args, KeepIf Tt (toDefinition n args)
  lam : ∀ args, KeepIf Tt (toLambda n args)
  body : ∀ ds defs exprs, KeepIf Tt (toBody n ds defs exprs)

theorem keepAll_zero : KeepAll 0 := by
  constructor <;> intros <;>
    simp only [toStatement, toExpr, toCall, toExprs, toDefinition, toLambda, toBody] <;> exact .fail _

theorem keepAll_succ {n : Nat} (ih : KeepAll n) : KeepAll (n + 1) where
  stmt := by
    have call : ∀ a args l, KeepIf IsED (callOf n a args l) := fun _ _ _ => .bind (ih.call _ _ _) fun _ => .pure _
    refine toStatement_succ_cases (M := fun _ m => KeepIf IsED m) n
      (prim := fun _ _ => .pure _) (sym := fun _ _ => .pure _) (vec := fun _ _ => .pure _)
      (nil := fun _ => .fail _) (dotted := fun _ _ _ _ => .fail _) (form := ?_) (use := ?_)
      (call := fun _ _ _ _ => call _ _ _)
    · intro k _ _ _
      cases k with dsimp only [formOf]
      | define => exact .bind (ih.defn _) fun _ => .pure _
      | defineLibrary => exact .of_never (never_lib _ _ _)
      | lambda => exact .bind (ih.lam _) fun _ => .pure _
      | if_ =>
        refine .bind (.need _) fun _ => .bind (ih.expr _) fun _ => .bind (.need _) fun _ =>
          .bind (ih.expr _) fun _ => ?_
        split
        · exact .bind (ih.expr _) fun _ => .bind (.pure _) fun _ => .pure _
        · exact .bind (.pure _) fun _ => .pure _
      | import_ => exact .of_never (.skip fun _ => .pure id)
      | quote => exact .bind (.need _) fun _ => .pure _
      | set =>
        refine .bind (.need _) fun _ => ?_
        split
        · exact .bind (.need _) fun _ => .bind (ih.expr _) fun _ => .pure _
        · exact .fail _
      | defineSyntax =>
        exact .of_never (.skip fun _ => .skip fun _ => .skip fun _ => .skip fun _ => .skip fun _ => .pure id)
    · -- a macro use is expanded and the expansion transformed; any other head is the operator of a call
      refine fun _ _ _ _ _ => .bind .getEnv fun env => ?_
      split
      · exact .bind (.lift _) fun x => ih.stmt x
      · exact call _ _ _
  expr d := by
    rw [toExpr]
    refine .bind_if (Q := IsED) (ih.stmt d) (fun a _ => ?_) (fun a hq => ?_)
    · split
      · exact .pure _
      · exact .fail _
    · cases a <;> first | exact absurd trivial hq | exact .fail trivial
  call f a l := by
    rw [toCall]
    exact .bind (ih.expr _) fun _ => .bind (ih.exprs _) fun _ => .pure _
  exprs ds := by
    cases ds <;> rw [toExprs]
    · exact .pure _
    · exact .bind (ih.expr _) fun _ => .bind (ih.exprs _) fun _ => .pure _
  defn args := by
    rw [toDefinition]
    refine .bind (.need _) fun _ => ?_
    split
    · exact .bind (.need _) fun _ => .bind (ih.expr _) fun _ => .pure _
    · exact .bind (.identOf _) fun _ => .bind (.toFormals _) fun _ => .bind (ih.body _ _ _) fun _ => .pure _
    · exact .fail _
    · exact .fail _
  lam args := by
    rw [toLambda]
    exact .bind (.need _) fun _ => .bind (.toFormals _) fun _ => .bind (.inChild (ih.body _ _ _)) fun _ =>
      .pure _
  body ds defs exprs := by
    cases ds <;> rw [toBody]
    · split
      · exact .fail _
      · exact .pure _
    · refine .bind_if (Q := IsED) (ih.stmt _) (fun a _ => ?_) (fun a hq => ?_)
      · split
        · split
          · exact ih.body _ _ _
          · split; exact .fail _
        · exact ih.body _ _ _
        · exact .fail _
      · cases a <;> first | exact absurd trivial hq | exact .fail trivial

theorem keepAll : ∀ n, KeepAll n
  | 0 => keepAll_zero
  | n + 1 => keepAll_succ (keepAll n)

end Keep
open Keep

theorem toExpr_keep {n d env e env'} (h : toExpr n d env = (.ok e, env')) : env' = env :=
  ((keepAll n).expr d).keep env e env' h trivial

theorem toStatement_keep {n d env st env'} (h : toStatement n d env = (.ok st, env')) (hst : IsED st) : env' = env :=
  ((keepAll n).stmt d).keep env st env' h hst

theorem toFormals_keep {d env F env'} (h : toFormals d env = (.ok F, env')) : env' = env :=
  (KeepIf.toFormals (Q' := Tt) d).keep env F env' h trivial

end Ruschm.Xform
