/-
One step of each function of the reader (`RuschmModel/Read.lean`) at `fuel + 1`: every induction over
the reader's fuel starts from these. Then what those inductions share: the tokens a run consumes
(`Read.Steps`) and what a property of data must be closed under for the reader to keep it (`Read.Closed`).
Positions appear only as a predicate `L` on the locations the parser holds and the tokens carry.
-/
import RuschmModel.Read
import RuschmProofs.DatumLemmas
namespace Ruschm

/-! ## data as the reader builds them

`snoc` appends whatever the last cdr is. The Rust asserts that it is empty (`assert_eq!`, parser.rs:711;
`unwrap`, :714), the model does not: the assertion cannot fail, since every append moves `tail` to the
new cell and the one assignment of a non-empty cdr (:707) is followed by `break`. -/

namespace Read

theorem snoc_eq_setTail : (acc x : Datum) → snoc acc x = setTail acc (.pair x (.nil none) none)
  | .pair a d l, x => by rw [snoc, setTail, snoc_eq_setTail d x]
  | .prim _ _, _ | .sym _ _, _ | .nil _, _ | .vec _ _, _ => rfl

theorem setTail_closed {A : Datum → Prop} {B : Datum → Loc → Prop}
    (hp : ∀ a d l, A (.pair a d l) ↔ B a l ∧ A d) {t : Datum} (ht : A t) :
    ∀ acc, A acc → A (setTail acc t)
  | .pair a d l, h => by
    rw [setTail, hp]; exact ⟨((hp a d l).1 h).1, setTail_closed hp ht d ((hp a d l).1 h).2⟩
  | .prim _ _, _ | .sym _ _, _ | .nil _, _ | .vec _ _, _ => ht

theorem snoc_closed {A : Datum → Prop} {B : Datum → Loc → Prop}
    (hp : ∀ a d l, A (.pair a d l) ↔ B a l ∧ A d) {x : Datum} (hx : A (.pair x (.nil none) none))
    (acc : Datum) (h : A acc) : A (snoc acc x) :=
  snoc_eq_setTail acc x ▸ setTail_closed hp hx acc h

end Read

namespace Text
open Read

theorem strip_withLoc (l : Loc) (d : Datum) : (d.withLoc l).strip = d.strip := by
  cases d <;> rfl

theorem strip_setTail : (acc e : Datum) → (setTail acc e).strip = setTail acc.strip e.strip
  | .pair a d l, e => by simp only [setTail, Datum.strip, strip_setTail d e]
  | .prim _ _, e | .sym _ _, e | .nil _, e | .vec _ _, e => by simp only [setTail, Datum.strip]

theorem strip_snoc (acc e : Datum) : (snoc acc e).strip = snoc acc.strip e.strip := by
  rw [snoc_eq_setTail, strip_setTail, snoc_eq_setTail]; rfl

theorem map_tok_append {lts : List LToken} {a b : List Token}
    (h : lts.map (·.tok) = a ++ b) :
    ∃ la lb, lts = la ++ lb ∧ la.map (·.tok) = a ∧ lb.map (·.tok) = b :=
  List.map_eq_append_iff.mp h

theorem map_tok_cons {lts : List LToken} {a : Token} {b : List Token}
    (h : lts.map (·.tok) = a :: b) :
    ∃ la lb, lts = la :: lb ∧ la.tok = a ∧ lb.map (·.tok) = b :=
  List.map_eq_cons_iff.mp h

/-- what completeness says of a run; `Read.Steps`, for soundness, also says which tokens were consumed -/
def Leaves (s s' : PState) (lrest : List LToken) : Prop :=
  s'.toks = lrest ∧ s'.lexErr = s.lexErr

namespace Syn
def isStartTok : Token → Bool
  | .prim _ | .ident _ | .lparen | .vecIntro | .quote => true
  | _ => false
end Syn

theorem start_ne {t : Token} (h : Syn.isStartTok t = true) : t ≠ .period ∧ t ≠ .rparen := by
  constructor <;> (rintro rfl; cases h)

end Text

namespace Read

/-! ## pulling a token -/

theorem advance_cons {s : PState} {t : LToken} {rest : List LToken} (h : s.toks = t :: rest) :
    advance s = .ok { s with toks := rest, cur := some t, loc := t.loc } := by
  simp only [advance, h]

theorem advanceUnwrap_cons {s : PState} {t : LToken} {rest : List LToken}
    (h : s.toks = t :: rest) :
    advanceUnwrap s = .ok (t, { s with toks := rest, cur := some t, loc := t.loc }) := by
  simp only [advanceUnwrap, advance_cons h]; rfl

theorem peek_cons {s : PState} {t : LToken} {rest : List LToken} (h : s.toks = t :: rest) :
    peek s = .ok (some t) := by
  simp only [peek, h]

theorem advance_cases (s : PState) :
    (∃ t rest, s.toks = t :: rest ∧
      advance s = .ok { s with toks := rest, cur := some t, loc := t.loc }) ∨
    (s.toks = [] ∧ ∃ p, s.lexErr = some p ∧ advance s = .error (.syntax, some p)) ∨
    (s.toks = [] ∧ s.lexErr = none ∧ advance s = .ok { s with cur := none, loc := none }) := by
  cases hs : s.toks with
  | cons t rest => exact .inl ⟨t, rest, rfl, advance_cons hs⟩
  | nil =>
    cases he : s.lexErr with
    | none => exact .inr (.inr ⟨rfl, rfl, by simp only [advance, hs, he]⟩)
    | some p => exact .inr (.inl ⟨rfl, p, rfl, by simp only [advance, hs, he]⟩)

theorem advanceUnwrap_cases (s : PState) :
    (∃ t rest, s.toks = t :: rest ∧
      advanceUnwrap s = .ok (t, { s with toks := rest, cur := some t, loc := t.loc })) ∨
    (s.toks = [] ∧ ∃ l, (l = s.loc ∨ l = s.lexErr) ∧ advanceUnwrap s = .error (.syntax, l)) := by
  rcases advance_cases s with ⟨t, rest, hs, -⟩ | ⟨hs, p, he, h⟩ | ⟨hs, -, h⟩
  · exact .inl ⟨t, rest, hs, advanceUnwrap_cons hs⟩
  · exact .inr ⟨hs, some p, .inr he.symm, by simp only [advanceUnwrap, h]; rfl⟩
  · exact .inr ⟨hs, s.loc, .inl rfl, by simp only [advanceUnwrap, h]; rfl⟩

theorem peek_cases (s : PState) :
    (∃ t rest, s.toks = t :: rest ∧ peek s = .ok (some t)) ∨
    (s.toks = [] ∧ ∃ p, s.lexErr = some p ∧ peek s = .error (.syntax, some p)) ∨
    (s.toks = [] ∧ s.lexErr = none ∧ peek s = .ok none) := by
  cases hs : s.toks with
  | cons t rest => exact .inl ⟨t, rest, rfl, peek_cons hs⟩
  | nil =>
    cases he : s.lexErr with
    | none => exact .inr (.inr ⟨rfl, rfl, by simp only [peek, hs, he]⟩)
    | some p => exact .inr (.inl ⟨rfl, p, rfl, by simp only [peek, hs, he]⟩)

theorem advance_ok_inv {s s' : PState} (h : advance s = .ok s') :
    (∃ t rest, s.toks = t :: rest ∧ s' = { s with toks := rest, cur := some t, loc := t.loc }) ∨
    (s.toks = [] ∧ s' = { s with cur := none, loc := none }) := by
  rcases advance_cases s with ⟨t, rest, hs, ha⟩ | ⟨-, p, -, ha⟩ | ⟨hs, -, ha⟩ <;> rw [ha] at h <;>
    cases h
  · exact .inl ⟨t, rest, hs, rfl⟩
  · exact .inr ⟨hs, rfl⟩

theorem advanceUnwrap_ok_inv {s s' : PState} {t : LToken} (h : advanceUnwrap s = .ok (t, s')) :
    ∃ rest, s.toks = t :: rest ∧ s' = { s with toks := rest, cur := some t, loc := t.loc } := by
  rcases advanceUnwrap_cases s with ⟨t', rest, hs, ha⟩ | ⟨-, l, -, ha⟩ <;> rw [ha] at h <;> cases h
  exact ⟨rest, hs, rfl⟩

theorem peek_some {s : PState} {t : LToken} (h : peek s = .ok (some t)) :
    ∃ rest, s.toks = t :: rest := by
  rcases peek_cases s with ⟨t', rest, hs, hp⟩ | ⟨-, p, -, hp⟩ | ⟨-, -, hp⟩ <;> rw [hp] at h <;> cases h
  exact ⟨rest, hs⟩

end Read

/-! ## the tokens a run of the reader consumes -/

namespace Read

def HeldP (P : LToken → Prop) (L : Loc → Prop) (s : PState) : Prop :=
  L s.loc ∧ ∀ t, s.cur = some t → P t

abbrev Held (L : Loc → Prop) (s : PState) : Prop := HeldP (fun t => L t.loc) L s

/-- the reader went from `s` to `s'` consuming the tokens `used`: what it holds afterwards it held
before or took from one of them -/
structure Steps (s s' : PState) (used : List LToken) : Prop where
  toks : s.toks = used ++ s'.toks
  lexErr : s'.lexErr = s.lexErr
  held : ∀ {P : LToken → Prop} {L : Loc → Prop}, (∀ {t}, P t → L t.loc) → HeldP P L s →
    (∀ t ∈ used, P t) → HeldP P L s'

theorem Steps.refl (s : PState) : Steps s s [] := ⟨rfl, rfl, fun _ h _ => h⟩

theorem Steps.trans {s₁ s₂ s₃ : PState} {u₁ u₂ : List LToken} (h₁ : Steps s₁ s₂ u₁)
    (h₂ : Steps s₂ s₃ u₂) : Steps s₁ s₃ (u₁ ++ u₂) :=
  ⟨by rw [h₁.toks, h₂.toks, List.append_assoc], h₂.lexErr.trans h₁.lexErr, fun hl hh hu =>
    h₂.held hl (h₁.held hl hh fun t ht => hu t (List.mem_append_left _ ht))
      fun t ht => hu t (List.mem_append_right _ ht)⟩

theorem steps_dropCur (s : PState) : Steps s { s with cur := none } [] :=
  ⟨rfl, rfl, fun _ h _ => ⟨h.1, fun _ h => nomatch h⟩⟩

theorem held_cons {P : LToken → Prop} {L : Loc → Prop} (hl : ∀ {t}, P t → L t.loc) {s : PState}
    {t : LToken} {rest : List LToken} (ht : P t) :
    HeldP P L { s with toks := rest, cur := some t, loc := t.loc } :=
  ⟨hl ht, fun _ h => Option.some.inj h ▸ ht⟩

theorem Steps.cons {s : PState} {t : LToken} {rest : List LToken} (hs : s.toks = t :: rest) :
    Steps s { s with toks := rest, cur := some t, loc := t.loc } [t] :=
  ⟨hs, rfl, fun hl _ hu => held_cons hl (hu t List.mem_cons_self)⟩


/-! ## one step of each reader function -/

/-- `match tail { DatumList::Some(..) … }` in the list loop -/
def isPair : Datum → Bool
  | .pair _ _ _ => true
  | _ => false

theorem listLoop_succ (f : Nat) (s : PState) (loc : Loc) (acc : Datum) (dot : Bool) :
    listLoop (f + 1) s loc acc dot = (do
      let (t, s1) ← advanceUnwrap s
      if t.tok = .period then
        if dot then .error (.syntax, t.loc) else listLoop f s1 loc acc true
      else if t.tok = .rparen then pure (acc.withLoc loc, s1)
      else do
        let (od, s2) ← currentDatum f s1
        match od with
        | none => .error (.syntax, none)
        | some e =>
          if isPair acc && dot then do
            let (t2, s3) ← advanceUnwrap s2
            if t2.tok = .rparen then pure ((setTail acc e).withLoc loc, s3)
            else .error (.syntax, s3.loc)
          else listLoop f s2 loc (snoc acc e) dot) := by
  rw [listLoop]
  congr 1; funext ⟨t, s1⟩
  dsimp only
  split
  · rename_i h; rw [if_pos h]
  · rename_i h; rw [h]; rfl
  · rename_i h1 h2
    rw [if_neg h1, if_neg h2]
    congr 1; funext ⟨od, s2⟩
    cases od with
    | none => rfl
    | some e => cases acc <;> cases dot <;> rfl

theorem repeatDatum_succ (f : Nat) (s : PState) (acc : List Datum) :
    repeatDatum (f + 1) s acc = (do
      match ← peek s with
      | none => .error (.syntax, s.loc)
      | some t =>
        let s1 ← advance s
        if t.tok = .rparen then pure (acc.reverse, s1)
        else do
          let (d, s2) ← datum f s1
          repeatDatum f s2 (d :: acc)) := by
  rw [repeatDatum]
  congr 1; funext o
  cases o with
  | none => rfl
  | some t => by_cases h : t.tok = .rparen <;> simp only [h, if_true, if_false]

theorem parseQuoted_succ (f : Nat) (s : PState) :
    parseQuoted (f + 1) s = (do
      let (d, s') ← datum f s
      pure (mkQuote s.loc d, s')) := by
  rw [parseQuoted]

theorem listLoop_cur (f : Nat) (s : PState) (c : Option LToken) (loc : Loc) (acc : Datum)
    (dot : Bool) : listLoop f { s with cur := c } loc acc dot = listLoop f s loc acc dot := by
  cases f with
  | zero => rw [listLoop, listLoop]
  | succ f => rw [listLoop, listLoop]; rfl

theorem repeatDatum_cur (f : Nat) (s : PState) (c : Option LToken) (acc : List Datum) :
    repeatDatum f { s with cur := c } acc = repeatDatum f s acc := by
  cases f with
  | zero => rw [repeatDatum, repeatDatum]
  | succ f => rw [repeatDatum, repeatDatum]; rfl

theorem cur_none (f : Nat) {s : PState} (hc : s.cur = none) :
    currentDatum (f + 1) s = .ok (none, s) := by
  rw [currentDatum, hc]

theorem cur_succ (f : Nat) (s : PState) (t : LToken) (hc : s.cur = some t) :
    currentDatum (f + 1) s =
      match t.tok with
      | .prim p => .ok (some (.prim p t.loc), { s with cur := none })
      | .ident a => .ok (some (.sym a t.loc), { s with cur := none })
      | .lparen => do
        let (d, s') ← listLoop f s s.loc (.nil none) false
        pure (some d, s')
      | .vecIntro => do
        let (xs, s') ← repeatDatum f s []
        pure (some (.vec xs s'.loc), s')
      | .quote => do
        let s1 ← advance s
        let (d, s') ← parseQuoted f s1
        pure (some d, s')
      | _ => .error (.syntax, t.loc) := by
  rw [currentDatum, hc]
  dsimp only
  cases t.tok <;> simp only [listOrPair, listLoop_cur, repeatDatum_cur] <;> rfl

open Text in
theorem cur_not_start (f : Nat) {s : PState} {t : LToken} (hc : s.cur = some t)
    (ht : Syn.isStartTok t.tok = false) : currentDatum (f + 1) s = .error (.syntax, t.loc) := by
  rw [cur_succ f s t hc]
  revert ht
  cases t.tok <;> intro ht <;> first | rfl | cases ht

theorem datum_none (f : Nat) {s : PState} (hc : s.cur = none) :
    datum (f + 1) s = .error (.syntax, s.loc) := by
  rw [datum, hc]

theorem datum_succ (f : Nat) (s : PState) (t : LToken) (hc : s.cur = some t) :
    datum (f + 1) s =
      match t.tok with
      | .prim p => .ok (.prim p s.loc, s)
      | .ident a => .ok (.sym a s.loc, s)
      | .lparen => listLoop f s s.loc (.nil none) false
      | .vecIntro => do
        let (xs, s') ← repeatDatum f s []
        pure (.vec xs s.loc, s')
      | .quote => do
        let s1 ← advance s
        parseQuoted f s1
      | _ => .error (.syntax, s.loc) := by
  rw [datum, hc]
  dsimp only
  cases t.tok <;> simp only [listOrPair]

theorem datum_cur_some {f : Nat} {s : PState} {r : Datum × PState} (h : datum f s = .ok r) :
    ∃ t, s.cur = some t := by
  cases hc : s.cur with
  | some t => exact ⟨t, rfl⟩
  | none => cases f <;> simp only [datum, hc] at h <;> cases h

open Text in
theorem datum_not_start (f : Nat) {s : PState} {t : LToken} (hc : s.cur = some t)
    (ht : Syn.isStartTok t.tok = false) : datum (f + 1) s = .error (.syntax, s.loc) := by
  rw [datum_succ f s t hc]
  revert ht
  cases t.tok <;> intro ht <;> first | rfl | cases ht

/-- `current_datum` takes the current token (`self.current.take()`, parser.rs:643) and labels an atom with
the token's position; `datum` only borrows it (`advance_unwrap(0)`, :918), whence `c = s.cur`, and labels
atoms and vectors, and the error on a token that starts no datum, with the parser's position -/
theorem datum_current (f : Nat) (s : PState) (t : LToken) (hc : s.cur = some t) :
    match currentDatum f s with
    | .ok (some d, s') => ∃ d2 c, datum f s = .ok (d2, { s' with cur := c }) ∧
        (d2 = d ∨ d2 = d.withLoc s.loc) ∧ (c = s'.cur ∨ c = s.cur)
    | .ok (none, _) => False
    | .error (e, l) => datum f s = .error (e, l) ∨ (e = .syntax ∧ datum f s = .error (e, s.loc)) := by
  cases f with
  | zero => rw [currentDatum, datum]; exact .inl rfl
  | succ f =>
    rw [cur_succ f s t hc, datum_succ f s t hc]
    cases t.tok <;> dsimp only
    case ident => exact ⟨_, s.cur, rfl, .inr rfl, .inr rfl⟩
    case prim => exact ⟨_, s.cur, rfl, .inr rfl, .inr rfl⟩
    case lparen =>
      cases listLoop f s s.loc (.nil none) false with
      | error e => exact .inl rfl
      | ok r => exact ⟨_, r.2.cur, rfl, .inl rfl, .inl rfl⟩
    case vecIntro =>
      cases repeatDatum f s [] with
      | error e => exact .inl rfl
      | ok r => exact ⟨_, r.2.cur, rfl, .inr rfl, .inl rfl⟩
    case quote =>
      cases advance s with
      | error e => exact .inl rfl
      | ok s1 =>
        simp only [bind, Except.bind]
        cases parseQuoted f s1 with
        | error e => exact .inl rfl
        | ok r => exact ⟨_, r.2.cur, rfl, .inl rfl, .inl rfl⟩
    all_goals exact .inr ⟨rfl, rfl⟩

/-! ## what the reader keeps

A property `Q` of data holds of everything the reader delivers once it is closed under the ways the
reader builds data: `A` is what the list under construction satisfies, `P` what every token of the
stream satisfies, `L` what the positions the parser holds satisfy. -/

/-- `relabel` is for `datum` alone (`datum_current`) -/
structure Closed (P : LToken → Prop) (L : Loc → Prop) (Q A : Datum → Prop) : Prop where
  loc : ∀ {t}, P t → L t.loc
  prim : ∀ {t p l}, P t → t.tok = .prim p → L l → Q (.prim p l)
  sym : ∀ {a l}, L l → Q (.sym a l)
  nil : A (.nil none)
  snoc : ∀ {a x}, A a → Q x → A (snoc a x)
  tail : ∀ {a x}, A a → Q x → A (setTail a x)
  withLoc : ∀ {a l}, A a → L l → Q (a.withLoc l)
  relabel : ∀ {d l}, Q d → L l → Q (d.withLoc l)
  vec : ∀ {xs l}, (∀ x ∈ xs, Q x) → L l → Q (.vec xs l)
  quote : ∀ {d l}, Q d → L l → Q (mkQuote l d)

end Ruschm.Read
