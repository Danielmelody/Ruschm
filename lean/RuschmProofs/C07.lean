/-
Property C07 — no panic, and the interpreter stays usable.

"For every character sequence given to the evaluator as source text, and every file given to it
as a program or library, reading, expanding and evaluating end in a value or in a reported error;
the process never panics, aborts or corrupts the interpreter, and after the error the same
interpreter still evaluates further input."

The claim is about the executable model (`RuschmModel/*.lean`), in which every place where the
Rust code could panic returns the outcome `.error (.panic site, _)` under exactly the condition
under which the Rust would panic. Running out of fuel (`.error (.fuel, _)`) is a different
outcome: it is not an outcome of the real code at all.

Only property theorems live here (each is audited with `#print axioms`); helper lemmas are in
`RuschmProofs/SafeFront.lean` (lexer, reader, macro builders, `toStatement`),
`RuschmProofs/SafeExpand.lean` (macro expansion keeps data `n/0`-free, `toStatement` produces `ok`
code), `RuschmProofs/SafeLemmas.lean` (native procedures), `RuschmProofs/SafeEval.lean` (the evaluator), `RuschmProofs/SafeInterp.lean` (imports, libraries,
`evalText`, the initial states), `RuschmProofs/SafeUsable.lean` (the probe), `RuschmProofs/SafeVocab.lean`
(`NoPanic` against `SErr.NP`, `ratOkList` by members).
Vocabulary (`NoPanic`, `ratOk`, `ok`, `Value.Safe`, `Store.Safe`, `Interp.Safe`) is defined in
`RuschmSpec/Safe.lean`.
-/
import RuschmProofs.SafeFront
import RuschmProofs.SafeExpand
import RuschmProofs.SafeLemmas
import RuschmProofs.SafeUsable
import RuschmProofs.SafeEval
import RuschmProofs.SafeInterp
import RuschmProofs.C14
import RuschmProofs.InterpTop

namespace Ruschm.C07
open Ruschm

/-! ## 1. The front end never panics: all inputs, no hypotheses -/

/-- The lexer has no panic outcome: whatever the characters, the reader sees tokens or a located
syntax error. -/
theorem lex_no_panic (cs : List Char) : NoPanic (lexOutcome cs) := by
  intro s l h
  unfold lexOutcome at h
  split at h <;> cases h

/-- `1/0` is a located syntax error -/
example : lexOutcome ['1', '/', '0'] = .error (.syntax, some (1, 4)) := by
  unfold lexOutcome Lex.all Lex.allAux Lex.next Lex.skipAtmosphere
  rfl

/-- ... and it never delivers a rational literal with denominator 0 (`n/0` is a syntax error). -/
theorem lex_rat_ok (cs : List Char) : ∀ t ∈ (Lex.all cs).1, t.tok.ratOk = true :=
  Lex.all_ratOk cs

/-- The reader never panics: for every parser state (any tokens, any pending lexer error). -/
theorem read_no_panic (s : Read.PState) : NoPanic (Read.nextDatum s) :=
  noPanic_iff.2 fun _ h => Read.nextDatum_np h

/-- The same for a whole text: the data read, or a non-panic error. -/
theorem read_all_no_panic (cs : List Char) : NoPanic (readOutcome cs) := by
  refine noPanic_iff.2 fun e h => ?_
  unfold readOutcome at h
  split at h
  · cases h
  · rename_i ds e' he
    cases h
    unfold Read.all at he
    exact Read.allAux_np _ _ _ _ (by rw [he])

example : Read.nextDatum ⟨[⟨.lparen, some (1, 2)⟩, ⟨.period, some (1, 3)⟩, ⟨.period, some (1, 4)⟩], none, none, none⟩ =
    .error (.syntax, some (1, 4)) := by
  simp [Read.nextDatum, Read.advance, Read.fuelFor, Read.currentDatum, Read.listOrPair, Read.listLoop,
    Read.advanceUnwrap, bind, Except.bind, pure, Except.pure]

/-- Every datum the reader produces is free of `n/0`. -/
theorem read_rat_ok (cs : List Char) : ∀ d ∈ (Read.all cs).1, d.ratOk = true :=
  Read.all_ratOk cs

theorem read_next_rat_ok (cs : List Char) {d : Datum} {s : Read.PState}
    (h : Read.nextDatum (Read.ofText cs) = .ok (some d, s)) : d.ratOk = true :=
  (Read.nextDatum_ratOk h (Read.ofText_ratOK cs)).2 d rfl

/-- the hypothesis of `read_next_rat_ok` is satisfiable: the probe text reads as one datum -/
example : Read.nextDatum (Read.ofText Usable.txt) = .ok (some Usable.d0, Usable.s1) := by
  rw [Usable.ofText_txt]; exact Usable.next0

/-- `toStatement` (datum → AST, with macro expansion) never panics: every datum, every syntax
environment, every fuel. (The only panic site of this stage is the `get_mut(..).unwrap()` of the
matcher, unreachable by `C04.match_no_panic`.) -/
theorem xform_no_panic (fuel : Nat) (d : Datum) (env : Xform.SynEnv) :
    NoPanic (Xform.toStatement fuel d env).1 :=
  noPanic_iff.2 fun _ h => Xform.toStatement_np fuel d env h

example : (Xform.toStatement 10 (.nil none) []).1 = .error (.syntax, none) := rfl

/-! ## 2. What the front end hands to the evaluator is `ok` code -/

/-- Transformers built from `n/0`-free data have `n/0`-free templates. -/
theorem rules_rat_ok {k : String} {d : Datum} {r : Macro.Rules} (h : Macro.toRules k d = .ok r)
    (hd : d.ratOk = true) : r.RatOK :=
  Macro.toRules_ratOk h hd

/-- `(syntax-rules () ((m) 1/2))` -/
example : (Macro.toRules "m" (.pair (.sym "syntax-rules" none) (.pair (.nil none)
    (.pair (.pair (.pair (.sym "m" none) (.nil none) none) (.pair (.prim (.rat 1 2) none) (.nil none) none) none)
      (.nil none) none) none) none)) =
    .ok ⟨[], [(.nil, .prim (.rat 1 2))]⟩ := rfl

/-- Macro expansion keeps data free of `n/0`: the table only ever holds sub-data of the use, and
the template is `n/0`-free. -/
theorem expansion_rat_ok {fuel : Nat} {r : Macro.Rules} {use d : Datum} (hr : r.RatOK)
    (hu : use.ratOk = true) (h : Macro.transform fuel r use = .ok d) : d.ratOk = true :=
  Macro.transform_ratOk hr hu h

example : Macro.transform 10 ⟨[], [(.nil, .prim (.rat 1 2))]⟩ (.nil none) = .ok (.prim (.rat 1 2) none) := rfl

/-- Every statement `toStatement` produces from `n/0`-free data in an `n/0`-free syntax
environment is `ok`: every lambda in it (recursively) has a non-empty body (`toBody` rejects an
empty one) and every literal is free of `n/0`; the syntax environment stays `n/0`-free. -/
theorem xform_bodies_ok {fuel : Nat} {d : Datum} {env : Xform.SynEnv} (hd : d.ratOk = true)
    (he : Xform.SynEnv.RatOK env) :
    Xform.SynEnv.RatOK (Xform.toStatement fuel d env).2 ∧
      ∀ st, (Xform.toStatement fuel d env).1 = .ok st → st.ok = true :=
  Xform.toStatement_ok hd he

/-- an empty body is rejected -/
example : (Xform.toStatement 10 (.pair (.sym "lambda" none) (.pair (.nil none) (.nil none) none) none) []).1 =
    .error (.syntax, none) := rfl
/-- the hypothesis is needed: a datum with `1/0` in it (the reader never produces one) transforms
into code that is not `ok` -/
example : (Xform.toStatement 10 (.prim (.rat 1 0) none) []).1 = .ok (.expr (.prim (.rat 1 0) none)) ∧
    (Statement.expr (.prim (.rat 1 0) none)).ok = false := ⟨rfl, rfl⟩

/-! ## 3. The native procedures -/

/-- `Builtin.arity` is what `apply_procedure` checks before it calls a native procedure. Once
that check has passed, the only panic sites the procedure can still reach are `Prim.pureSites`
(`apply` itself, a dangling vector reference, a zero denominator): NONE of the
`iter.next().unwrap()` sites of `base.rs`. -/
theorem builtin_panic_sites (σ : Store) (b : Builtin) (args : List Value)
    (har : Eval.arityOk b.arity.1 b.arity.2 args.length = true) :
    ∀ s l, (Prim.applyPure σ b args).1 = .error (.panic s, l) → s ∈ Prim.pureSites :=
  Prim.applyPure_sites har

example : Eval.arityOk Builtin.vectorRef.arity.1 Builtin.vectorRef.arity.2 2 = true := rfl

/-- In particular the result is never `Prim.missing b _`, the rendering of a native procedure
reading an argument that is not there. -/
theorem builtin_args_sufficient (σ σ' : Store) (b : Builtin) (args : List Value)
    (har : Eval.arityOk b.arity.1 b.arity.2 args.length = true) :
    Prim.applyPure σ b args ≠ Prim.missing b σ' :=
  fun h => Prim.applyPure_not_unwrap har (l := none) (by rw [h]; rfl) b.name rfl

example : Prim.applyPure {} .car [] = Prim.missing .car {} := rfl
example : Eval.arityOk Builtin.car.arity.1 Builtin.car.arity.2 0 = false := rfl

/-- On safe arguments (numbers with positive denominators) whose ids are allocated, a native
procedure other than `apply` (which the trampoline unpacks and never passes on) whose arity check
has passed does not panic at all, and returns a safe value. -/
theorem applyPure_no_panic {σ : Store} {b : Builtin} {args : List Value} (hb : b ≠ .apply)
    (har : Eval.arityOk b.arity.1 b.arity.2 args.length = true) (ha : ∀ a ∈ args, a.Safe)
    (hal : ∀ a ∈ args, σ.AllocIn a) (hv : σ.ValsSafe) :
    NoPanic (Prim.applyPure σ b args).1 ∧ (∀ v, (Prim.applyPure σ b args).1 = .ok v → v.Safe) ∧
      (Prim.applyPure σ b args).2.ValsSafe :=
  ⟨(Prim.applyPure_rok hb har ha hal hv).np, (Prim.applyPure_rok hb har ha hal hv).val,
    Prim.applyPure_valsSafe hv b ha⟩

/-- the hypotheses are needed: a denominator 0 does reach the `exact_ratio` panic -/
example : (Prim.applyPure {} .floor [.num (.rat 1 0)]).1 =
    .error (.panic "floor: zero denominator", none) := rfl

/-! ## 4. The evaluator -/

/-- MAIN evaluator theorem: the safety invariant `Eval.SafeAt` (RuschmSpec/Safe.lean) holds for
every amount of fuel — for all eight functions of the evaluator's mutual block, from a safe store
(`Store.Safe` = well-formed and every stored value safe), on `ok` code, with good arguments and a
procedure in operator position, the outcome is never a panic, the store stays safe, and the
result is safe and allocated (`Eval.safeAt`, an instance of `EvalInv.Sound.eval`). -/
theorem eval_no_panic (fuel : Nat) : Eval.SafeAt fuel := Eval.safeAt fuel

/-- `evalExpr`, spelled out. -/
theorem evalExpr_no_panic {fuel : Nat} {σ : Store} {ρ : Nat} {e : Expr} (hσ : σ.Safe)
    (hρ : ρ < σ.frames.size) (he : e.ok = true) :
    NoPanic (Eval.evalExpr fuel σ ρ e).1 ∧ (Eval.evalExpr fuel σ ρ e).2.Safe ∧
      ∀ v, (Eval.evalExpr fuel σ ρ e).1 = .ok v → v.Safe ∧ (Eval.evalExpr fuel σ ρ e).2.AllocIn v :=
  have h := (Eval.safeAt fuel).expr σ ρ e _ _ rfl hσ hρ he
  ⟨noPanic_iff.2 h.np, h.store, h.val⟩

/-- `applyProcedure` (the trampoline), spelled out: `p` must be a procedure, as every caller
checks. -/
theorem applyProcedure_no_panic {fuel : Nat} {σ : Store} {p : Value} {args : List Value} {env : Nat}
    (hσ : σ.Safe) (hp : p.Safe ∧ σ.AllocIn p) (ha : ∀ a ∈ args, a.Safe ∧ σ.AllocIn a)
    (hq : (Eval.procArity p).isSome = true) :
    NoPanic (Eval.applyProcedure fuel σ p args env).1 ∧ (Eval.applyProcedure fuel σ p args env).2.Safe ∧
      ∀ v, (Eval.applyProcedure fuel σ p args env).1 = .ok v → v.Safe :=
  have h := (Eval.safeAt fuel).proc σ p args env _ _ rfl hσ hp ha hq
  ⟨noPanic_iff.2 h.np, h.store, fun v hv => (h.val v hv).1⟩

/-- the initial store is safe, and code exists that is `ok` -/
example : Store.root.Safe ∧ (0 : Nat) < Store.root.frames.size ∧
    (Expr.call (.lambda (.mk ⟨["x"], none⟩ [] [.sym "x" none]) none) [.prim (.rat 1 2) none] none).ok = true :=
  ⟨Interp.root_safe, by decide, rfl⟩

/-- the hypotheses are needed: an empty body does reach the `unreachable!`, a non-procedure the
`not a procedure` site, too few arguments the `unwrap` of `apply_scheme_procedure`, and a literal
`1/0` the division in `exact_ratio` -/
example : (Eval.evalBody 1 {} 0 []).1 = .error (.panic "apply_scheme_procedure: empty body", none) := by
  with_unfolding_all rfl
example : (Eval.applyLoop 1 {} (.num (.int 1)) [] 0).1 =
    .error (.panic "apply_procedure: not a procedure", none) := by
  with_unfolding_all rfl
example : (Eval.applyScheme 1 {} (.mk ⟨["x"], none⟩ [] [.sym "x" none]) 0 []).1 =
    .error (.panic "apply_scheme_procedure: arg_iter.next().unwrap()", none) := by
  with_unfolding_all rfl
example : (Eval.evalExpr 1 {} 0 (.prim (.rat 1 0) none)).1 =
    .error (.panic "exact_ratio: zero denominator", none) := by
  with_unfolding_all rfl

/-! ## 5. The interpreter -/

/-- From a safe interpreter state, evaluating ANY text with ANY fuel does not panic, and the
state it leaves is safe again — whatever the outcome (value, reported error, fuel). Covers
reading, macro expansion, evaluation, imports, and libraries loaded from registered factories or
from library FILES (`State.files`: any text; `factoryOfText` of any text yields `ok` code or a
reported error). -/
theorem interp_no_panic (fuel : Nat) (st : Interp.State) (text : List Char) (h : Interp.Safe st) :
    NoPanic (Interp.evalText fuel st text).1 ∧ Interp.Safe (Interp.evalText fuel st text).2 :=
  have i := Interp.evalText_post fuel st text h
  ⟨noPanic_iff.2 i.err, i.inv⟩

/-- Library files: whatever the text of the file, making a factory from it does not panic, and a
factory it yields holds `ok` declarations. -/
theorem library_file_no_panic (name : LibName) (text : String) :
    NoPanic (Interp.factoryOfText name text) ∧
      ∀ f, Interp.factoryOfText name text = .ok f → ∃ decls, f = .ast decls ∧ LibDecl.okList decls = true :=
  ⟨noPanic_iff.2 (Interp.factoryOfText_post name text).1, (Interp.factoryOfText_post name text).2⟩

/-- Imports (any import sets, any target frame of the store) keep the state safe and do not panic. -/
theorem import_no_panic (fuel : Nat) (st : Interp.State) (sets : List ImportSet) (ρ : Nat)
    (h : Interp.Safe st) :
    NoPanic (Interp.evalImport fuel st sets ρ).1 ∧ Interp.Safe (Interp.evalImport fuel st sets ρ).2 :=
  have i := Interp.evalImport_post fuel sets ρ h
  ⟨noPanic_iff.2 i.err, i.inv⟩

/-- The initial states are safe: `Interpreter::default()` (with or without the harness's host
library), `Interpreter::new_with_stdlib()` whatever fuel the import of the standard library is
given, and either of them with any set of files next to the program. -/
theorem initial_safe (b : Bool) (fuel₀ : Nat) (files : List (String × Interp.FileEntry)) :
    Interp.Safe (Interp.default_ b) ∧ Interp.Safe (Interp.withStdlib fuel₀ b) ∧
    Interp.Safe { Interp.default_ b with files := files } ∧
    Interp.Safe { Interp.withStdlib fuel₀ b with files := files } :=
  have h1 := Interp.default_safe b
  have h2 := Interp.withStdlib_safe fuel₀ b
  ⟨h1, h2, h1.congr, h2.congr⟩

/-! ## 6. THE property -/

/-- a session from a safe state: no outcome is a panic and the final state is safe -/
theorem run_no_panic (inputs : List (Nat × List Char)) :
    ∀ (st : Interp.State), Interp.Safe st →
      (∀ r ∈ (Interp.run st inputs).1, NoPanic r) ∧ Interp.Safe (Interp.run st inputs).2 := by
  induction inputs with
  | nil => intro st h; exact ⟨by simp [Interp.run], h⟩
  | cons p rest ih =>
    intro st h
    obtain ⟨fuel, text⟩ := p
    have h1 := interp_no_panic fuel st text h
    have h2 := ih _ h1.2
    simp only [Interp.run]
    exact ⟨List.forall_mem_cons.2 ⟨h1.1, h2.1⟩, h2.2⟩

/-- **C07.** For every sequence of character sequences given one after another, each with any
fuel, to an interpreter created by `new_with_stdlib()` (with any fuel for the import of the
standard library) or by `default()`, with any files next to the program: no outcome is a panic.
Every outcome is a value, a reported error, or the model's fuel outcome. -/
theorem no_panic (b : Bool) (fuel₀ : Nat) (files : List (String × Interp.FileEntry))
    (inputs : List (Nat × List Char)) :
    (∀ r ∈ (Interp.run { Interp.withStdlib fuel₀ b with files := files } inputs).1, NoPanic r) ∧
    (∀ r ∈ (Interp.run { Interp.default_ b with files := files } inputs).1, NoPanic r) :=
  ⟨(run_no_panic inputs _ (initial_safe b fuel₀ files).2.2.2).1,
   (run_no_panic inputs _ (initial_safe b fuel₀ files).2.2.1).1⟩

/-- the session function does evaluate: one probe, one outcome -/
example : (Interp.run {} [(7, "((lambda (x) x) 42)".toList)]).1 = [.ok (some (.num (.int 42)))] := by
  have := Usable.evalText_probe 0 {}
  simp only [Interp.run, List.cons.injEq, and_true]
  exact this

/-! ## 7. After ANY outcome the interpreter still evaluates -/

/-- From EVERY interpreter state — whatever an earlier error left behind in the store, the syntax
environment, the library tables — the probe `((lambda (x) x) 42)` evaluates to 42, given fuel 7
or more. (`lambda` is recognised before the syntax environment is consulted, so no macro can
shadow it; the form refers to no global.) -/
theorem usable_after_error (st : Interp.State) (fuel : Nat) (hf : 7 ≤ fuel) :
    (Interp.evalText fuel st "((lambda (x) x) 42)".toList).1 = .ok (some (.num (.int 42))) := by
  obtain ⟨n, rfl⟩ := Nat.exists_eq_add_of_le' hf
  exact Usable.evalText_probe n st

/-- After ANY outcome of evaluating a text — an error included — the returned state differs from
the input state at most in the store, the syntax environment, the library tables and the
`import_end` flag: the in-progress set is as before (it is restored after every import, failed
or not: `C14.model_in_progress_restored`), and so are the files and the root frame. From a safe
state the returned state is safe, so everything above applies to it again; and by
`usable_after_error` it evaluates the probe whether it is safe or not. -/
theorem state_usable_after_any_outcome (fuel : Nat) (st : Interp.State) (text : List Char) :
    (Interp.evalText fuel st text).2.inProgress = st.inProgress ∧
    (Interp.evalText fuel st text).2.files = st.files ∧
    (Interp.evalText fuel st text).2.env = st.env ∧
    (Interp.Safe st → Interp.Safe (Interp.evalText fuel st text).2) ∧
    (∀ fuel', 7 ≤ fuel' →
      (Interp.evalText fuel' (Interp.evalText fuel st text).2 "((lambda (x) x) 42)".toList).1 =
        .ok (some (.num (.int 42)))) :=
  have f := Interp.evalText_frame fuel st text
  ⟨f.1, f.2.1, f.2.2, fun h => (interp_no_panic fuel st text h).2,
    fun fuel' hf => usable_after_error _ fuel' hf⟩

/-- the in-progress mark of a failed import is removed (the cited theorem) -/
example (fuel : Nat) (st : Interp.State) (s : ImportSet) :
    (Interp.evalImportSet fuel st s).2.inProgress = st.inProgress :=
  (C14.model_in_progress_restored fuel st).1 s

/-- with no fuel the model reports the fuel outcome (not an outcome of the real code) -/
example : (Interp.evalText 0 {} "((lambda (x) x) 42)".toList).1 = .error (.fuel, some (1, 2)) := by
  rw [Usable.txt_eq]
  unfold Interp.evalText
  simp only [Usable.ofText_txt]
  rw [show Usable.s0.toks.length + 1 = 11 from by decide, Interp.evalText.go, Usable.next0]
  simp only [Usable.fuel_d0, Usable.xform0]
  with_unfolding_all rfl

/-! ## 8. Inventory of the panic sites -/

/-- Every panic site of the model is unreachable from a safe interpreter state — in particular
from the initial states (`initial_safe`) and from every state a session reaches (`run_no_panic`).
`panicSites` (RuschmSpec/Safe.lean) lists the `Err.panic` labels that occur in
`RuschmModel/*.lean`; the per-site theorems below give, for each, the local reason. -/
theorem panic_sites_inventory : ∀ site ∈ panicSites, UnreachableFromSafe site :=
  fun _ _ st fuel text s l h _ => (interp_no_panic fuel st text h).1 s l

example : Interp.Safe (Interp.default_ false) := (initial_safe false 0 []).1

/-- `exact_ratio: zero denominator` (and `floor:`/`ceiling: zero denominator`): `exactRatio n d`
panics only for `d = 0` (`C09.exactRatio_panic_iff`); a literal `n/d` has `d ≠ 0` (the lexer
rejects `n/0`: `lex_rat_ok`, `read_rat_ok`; expansion keeps it: `expansion_rat_ok`), and on
operands with positive denominators no numeric operation panics and the results have positive
denominators again. -/
theorem exactRatio_site_unreachable :
    (∀ n d : Int, d ≠ 0 → NoPanicE (Num.exactRatio n d)) ∧
    (∀ p : Prim, p.ratOk = true → NoPanicE (Eval.evalPrim p)) ∧
    (∀ a b : Num, a.PosDen → b.PosDen →
      NoPanicE (Num.add a b) ∧ NoPanicE (Num.sub a b) ∧ NoPanicE (Num.mul a b) ∧ NoPanicE (Num.div a b) ∧
      NoPanicE (Num.abs a) ∧ NoPanicE (Num.floor a) ∧ NoPanicE (Num.ceiling a) ∧
      NoPanicE (Num.floorQuotient a b) ∧ NoPanicE (Num.floorRemainder a b)) := by
  refine ⟨fun n d hd s h => ?_, fun p hp s h => ?_, fun a b pa pb => ?_⟩
  · exact hd (C09.exactRatio_panic_iff.1 ⟨s, h⟩)
  · exact (Eval.evalPrim_good hp).1 _ h s rfl
  · exact ⟨(Num.safe_add pa pb).noPanicE, (Num.safe_sub pa pb).noPanicE, (Num.safe_mul pa pb).noPanicE,
      (Num.safe_div pa pb).noPanicE, (Num.safe_abs pa).noPanicE, (Num.safe_floor pa).noPanicE,
      (Num.safe_ceiling pa).noPanicE, (Num.safe_floorQuotient pa pb).noPanicE,
      (Num.safe_floorRemainder pa pb).noPanicE⟩

example : Num.exactRatio 1 0 = .error (.panic "exact_ratio: zero denominator") := rfl

/-- `base.rs unwrap: …` (a native procedure reading an argument that is not there): unreachable
once the arity check of `apply_procedure` has passed — for every native procedure, `sub`/`div`
and `max`/`min` included. -/
theorem missing_site_unreachable (σ : Store) (b : Builtin) (args : List Value)
    (har : Eval.arityOk b.arity.1 b.arity.2 args.length = true) (s : String) (l : Loc)
    (h : (Prim.applyPure σ b args).1 = .error (.panic s, l)) :
    s ≠ "base.rs unwrap: sub/div" ∧ s ≠ "base.rs unwrap: max/min" ∧
      ∀ b' : Builtin, s ≠ "base.rs unwrap: " ++ b'.name :=
  have pre := Prim.applyPure_not_unwrap har h
  ⟨pre "sub/div", pre "max/min", fun b' => pre b'.name⟩

example : (Prim.applyPure {} .sub []).1 = .error (.panic "base.rs unwrap: sub/div", none) := rfl

/-- `apply_scheme_procedure: arg_iter.next().unwrap()`: binding the fixed parameters cannot fail
when there are at least as many arguments as fixed parameters — which `arityOk`, checked by
`applyLoop` before every `applyScheme`, guarantees. -/
theorem bindFixed_site_unreachable (σ : Store) (ρ : Nat) :
    ∀ (names : List String) (args : List Value), names.length ≤ args.length →
      ∃ rest, (Eval.bindFixed σ ρ names args).1 = .ok rest :=
  fun names args h => ⟨_, by rw [Eval.bindFixed_eq, if_pos h]⟩

example : Eval.arityOk 2 false 1 = false ∧ (2 ≤ 1 → False) := ⟨rfl, by decide⟩

/-- `apply_scheme_procedure: empty body` (`unreachable!`): the body of every procedure the
evaluator runs is non-empty, because `toBody` rejects an empty body (`xform_bodies_ok`) and
`Lambda.ok` is part of `Value.Safe` for closures. -/
theorem emptyBody_site_unreachable {fuel : Nat} {σ : Store} {ρ : Nat} {es : List Expr} (hσ : σ.Safe)
    (hρ : ρ < σ.frames.size) (hes : Expr.okList es = true) (hne : es ≠ []) :
    NoPanic (Eval.evalBody fuel σ ρ es).1 :=
  noPanic_iff.2 ((Eval.safeAt fuel).body σ ρ es _ _ rfl hσ hρ hes (List.isEmpty_eq_false_iff.2 hne)).np

/-- `apply_procedure: not a procedure`: `applyLoop` is only entered with a procedure — `evalExpr`,
the trampoline and `spreadApply` test `procArity` first. -/
theorem notProcedure_site_unreachable {fuel : Nat} {σ : Store} {p : Value} {args : List Value} {env : Nat}
    (hσ : σ.Safe) (hp : p.Safe ∧ σ.AllocIn p) (ha : ∀ a ∈ args, a.Safe ∧ σ.AllocIn a)
    (hq : (Eval.procArity p).isSome = true) : NoPanic (Eval.applyLoop fuel σ p args env).1 :=
  noPanic_iff.2 ((Eval.safeAt fuel).loop σ p args env _ _ rfl hσ hp ha hq).np

/-- `dangling vector` (the site occurs in `vector-length`, `vector-ref`, `vector-set!`): a vector
reference whose cell is allocated (`Store.AllocIn`, kept by `Store.WF`: `C03.store_wf_invariant`)
is never dangling. -/
theorem danglingVector_site_unreachable {σ : Store} {b : Builtin} {args : List Value}
    (hb : b = .vectorLength ∨ b = .vectorRef ∨ b = .vectorSet)
    (hal : ∀ a ∈ args, σ.AllocIn a) (l : Loc) :
    (Prim.applyPure σ b args).1 ≠ .error (.panic "dangling vector", l) := by
  intro h
  rcases hb with rfl | rfl | rfl <;> simp only [Prim.applyPure] at h <;> (repeat' split at h)
  -- the arms of the three procedures: a value or another error; the dangling arm, where the cell is
  -- allocated; the arm for a missing argument, whose label is `base.rs unwrap: …`
  all_goals first
    | (cases h; done)
    | (rename_i hn; exact Prim.vec_alloc_some (hal _ (by simp)) hn)
    | (simp only [Prim.missing_fst, Builtin.name] at h
       simp only [Except.error.injEq, Prod.mk.injEq, Err.panic.injEq] at h
       exact absurd h.1 (by decide))

example : (Prim.applyPure {} .vectorLength [.vec 3]).1 = .error (.panic "dangling vector", none) := rfl

/-- `spread_apply_arguments: unwrap`: `apply` has arity (1, variadic), so the argument list that
reaches `spreadApply` is non-empty. -/
theorem spreadApply_site_unreachable (args : List Value) (hne : args ≠ []) :
    NoPanicE (Eval.spreadApply args) := fun s h => by
  rcases Eval.spreadApply_error h with ⟨h, _⟩ | h | h <;> first | exact hne h | cases h

example : Builtin.apply.arity = (1, true) := rfl

/-- `macros.rs get_mut unwrap`: the matcher never panics, for all inputs (`C04.match_no_panic`). -/
theorem macroUnwrap_site_unreachable (fuel : Nat) (lits : List String) (p : Macro.Pat) (d : Datum)
    (σ : Macro.Subst) : NoPanic (Macro.matchDatum fuel lits p d σ) :=
  fun _ _ => C04.match_no_panic

end Ruschm.C07
