/-
The store (`RuschmModel/Value.lean`, `RuschmSpec/Store.lean`). The lexical chain is taken one step at a time
(`chain_of_frame`) and `resolve`, `lookup` are `find?`, `findSome?` over it: after the first section no statement
mentions fuel, and two stores agree on a lookup when they agree on the chain and on its bindings (`lookup_congr`).
The relations "the store has only grown" are in one table (section of that name). `Store.Grows`, `Store.All Q` and
`Store.WF` are shown for the data-level operations, the native procedures and literals, then for the evaluator as
instances of `EvalInduction`. `Store.Blind`: a map of stores that leaves frames and vectors alone commutes with all
of these operations.
-/
import RuschmSpec.Store
import RuschmSpec.ListLib
import RuschmProofs.EvalInduction
import RuschmProofs.PrimLemmas
import RuschmProofs.LitHom
import RuschmProofs.BindFixed
import RuschmProofs.DefsInsert
import RuschmProofs.ExceptLemmas

namespace Ruschm
open Eval

namespace Store

theorem getElem?_some_lt {α} {xs : Array α} {i : Nat} {a : α} (h : xs[i]? = some a) : i < xs.size :=
  (Array.getElem?_eq_some_iff.mp h).1

theorem getElem?_push_old {α} {xs : Array α} (x : α) {i : Nat} (h : i < xs.size) : (xs.push x)[i]? = xs[i]? :=
  (Array.getElem?_push_lt h).trans (Array.getElem?_eq_getElem h).symm

/-! ## `define` -/

theorem define_frames_getElem? (σ : Store) (ρ : Nat) (k : String) (v : Value) (i : Nat) :
    (σ.define ρ k v).frames[i]? =
      if i = ρ then (σ.frames[i]?).map (fun f => { f with defs := defsInsert f.defs k v })
      else σ.frames[i]? := by
  unfold define
  split
  · rw [Array.getElem?_modify]; exact ite_congr (propext eq_comm) (fun _ => rfl) fun _ => rfl
  · next h =>
    split
    · next hi => rw [hi, Array.getElem?_eq_none (Nat.le_of_not_lt h)]; rfl
    · rfl

@[simp] theorem define_frames_size (σ : Store) (ρ k v) : (σ.define ρ k v).frames.size = σ.frames.size := by
  unfold define; split <;> simp
@[simp] theorem define_vecs (σ : Store) (ρ k v) : (σ.define ρ k v).vecs = σ.vecs := by
  unfold define; split <;> rfl
@[simp] theorem define_out (σ : Store) (ρ k v) : (σ.define ρ k v).out = σ.out := by
  unfold define; split <;> rfl
@[simp] theorem define_ticks (σ : Store) (ρ k v) : (σ.define ρ k v).ticks = σ.ticks := by
  unfold define; split <;> rfl
@[simp] theorem define_depth (σ : Store) (ρ k v) : (σ.define ρ k v).depth = σ.depth := by
  unfold define; split <;> rfl
@[simp] theorem define_maxDepth (σ : Store) (ρ k v) : (σ.define ρ k v).maxDepth = σ.maxDepth := by
  unfold define; split <;> rfl

theorem define_of_not_lt (σ : Store) {ρ : Nat} (k v) (h : ¬ ρ < σ.frames.size) : σ.define ρ k v = σ := by
  unfold define; simp [h]

theorem binding_define (σ : Store) (ρ : Nat) (k : String) (v : Value) (i : Nat) (y : String) :
    (σ.define ρ k v).binding i y =
      if i = ρ ∧ y = k ∧ ρ < σ.frames.size then some v else σ.binding i y := by
  unfold binding
  rw [define_frames_getElem?]
  by_cases hi : i = ρ
  · subst hi
    by_cases hlt : i < σ.frames.size
    · have : σ.frames[i]? = some σ.frames[i] := by simp [hlt]
      simp only [this, if_true, Option.map_some, Assoc.lookup_defsInsert, true_and, hlt, and_true]
    · have : σ.frames[i]? = none := by simp; omega
      simp [hlt]
  · simp [hi]

theorem parentOf_define (σ : Store) (ρ : Nat) (k : String) (v : Value) (i : Nat) :
    (σ.define ρ k v).parentOf i = σ.parentOf i := by
  unfold parentOf
  rw [define_frames_getElem?]
  by_cases hi : i = ρ
  · subst hi
    cases h : σ.frames[i]? <;> simp
  · simp [hi]

theorem parent_lt_iff {σ : Store} :
    (∀ (i : Nat) (f : Frame), σ.frames[i]? = some f → ∀ p, f.parent = some p → p < i) ↔
      ∀ i p, σ.parentOf i = some p → p < i := by
  unfold parentOf
  constructor
  · intro h i p hp
    cases hf : σ.frames[i]? with
    | none => rw [hf] at hp; cases hp
    | some f => rw [hf] at hp; exact h i f hf p hp
  · intro h i f hf p hp
    exact h i p (by rw [hf]; exact hp)

theorem definesAt_define (σ : Store) (ρ : Nat) (k : String) (v : Value) (i : Nat) (y : String) :
    (σ.define ρ k v).definesAt i y =
      ((decide (i = ρ ∧ y = k ∧ ρ < σ.frames.size)) || σ.definesAt i y) := by
  unfold definesAt
  rw [binding_define]
  by_cases h : i = ρ ∧ y = k ∧ ρ < σ.frames.size <;> simp [h]

/-! ## `chain`, `resolve`, `lookup` -/

private theorem resolveAux_eq_find (σ : Store) (k : String) : ∀ fuel ρ,
    σ.resolveAux fuel ρ k = (σ.chainAux fuel ρ).find? (fun r => σ.definesAt r k)
  | 0, _ => by simp [resolveAux, chainAux]
  | fuel + 1, ρ => by
    simp only [resolveAux, chainAux]
    cases hf : σ.frames[ρ]? with
    | none => simp
    | some f =>
      have hd : σ.definesAt ρ k = (f.defs.lookup k).isSome := by simp [definesAt, binding, hf]
      simp only [List.find?_cons, hd]
      cases hl : (f.defs.lookup k).isSome with
      | true => simp
      | false =>
        simp only [Bool.false_eq_true, if_false]
        cases hp : f.parent with
        | none => simp
        | some p =>
          simp only
          split
          · exact resolveAux_eq_find σ k fuel p
          · simp

theorem resolve_eq_find (σ : Store) (ρ : Nat) (k : String) :
    σ.resolve ρ k = (σ.chain ρ).find? (fun r => σ.definesAt r k) :=
  resolveAux_eq_find σ k (ρ + 1) ρ

private theorem lookupAux_eq_bind (σ : Store) (k : String) : ∀ fuel ρ,
    σ.lookupAux fuel ρ k = (σ.resolveAux fuel ρ k).bind (fun r => σ.binding r k)
  | 0, _ => by simp [lookupAux, resolveAux]
  | fuel + 1, ρ => by
    simp only [lookupAux, resolveAux]
    cases hf : σ.frames[ρ]? with
    | none => simp
    | some f =>
      simp only
      cases hl : f.defs.lookup k with
      | some v => simp [binding, hf, hl]
      | none =>
        simp only [Option.isSome_none, Bool.false_eq_true, if_false]
        cases hp : f.parent with
        | none => simp
        | some p =>
          simp only
          split
          · exact lookupAux_eq_bind σ k fuel p
          · simp

theorem lookup_eq_bind (σ : Store) (ρ : Nat) (k : String) :
    σ.lookup ρ k = (σ.resolve ρ k).bind (fun r => σ.binding r k) :=
  lookupAux_eq_bind σ k (ρ + 1) ρ

theorem lookup_eq_findSome (σ : Store) (ρ : Nat) (k : String) :
    σ.lookup ρ k = (σ.chain ρ).findSome? (fun r => σ.binding r k) := by
  rw [lookup_eq_bind, resolve_eq_find]
  exact find?_isSome_bind (fun r => σ.binding r k) _

private theorem chainAux_congr {σ σ' : Store} : ∀ fuel ρ,
    (∀ i ≤ ρ, σ'.frames[i]?.map Frame.parent = σ.frames[i]?.map Frame.parent) →
    σ'.chainAux fuel ρ = σ.chainAux fuel ρ
  | 0, _, _ => rfl
  | fuel + 1, ρ, hp => by
    simp only [chainAux]
    have := hp ρ (Nat.le_refl _)
    cases hf : σ.frames[ρ]? with
    | none =>
      cases hf' : σ'.frames[ρ]? with
      | none => rfl
      | some f' => simp [hf, hf'] at this
    | some f =>
      cases hf' : σ'.frames[ρ]? with
      | none => simp [hf, hf'] at this
      | some f' =>
        simp only [hf, hf', Option.map_some, Option.some.injEq] at this
        simp only [this]
        cases f.parent with
        | none => rfl
        | some p =>
          simp only
          split
          · next hlt => rw [chainAux_congr fuel p fun i hi => hp i (by omega)]
          · rfl

theorem chain_congr {σ σ' : Store} (hp : ∀ i : Nat, σ'.frames[i]?.map Frame.parent = σ.frames[i]?.map Frame.parent) (ρ : Nat) :
    σ'.chain ρ = σ.chain ρ := chainAux_congr _ _ fun i _ => hp i

private theorem chainAux_fuel (σ : Store) : ∀ fuel fuel' ρ, ρ < fuel → ρ < fuel' →
    σ.chainAux fuel ρ = σ.chainAux fuel' ρ
  | 0, _, _, h, _ => absurd h (Nat.not_lt_zero _)
  | _ + 1, 0, _, _, h => absurd h (Nat.not_lt_zero _)
  | f + 1, f' + 1, ρ, h, h' => by
    simp only [chainAux]
    cases σ.frames[ρ]? with
    | none => rfl
    | some fr =>
      simp only
      cases fr.parent with
      | none => rfl
      | some p =>
        simp only
        split
        · rw [chainAux_fuel σ f f' p (by omega) (by omega)]
        · rfl

theorem chain_of_none {σ : Store} {ρ : Nat} (h : σ.frames[ρ]? = none) : σ.chain ρ = [] := by
  simp [chain, chainAux, h]

theorem chain_of_not_lt (σ : Store) {ρ : Nat} (h : ¬ ρ < σ.frames.size) : σ.chain ρ = [] :=
  chain_of_none (by simp; omega)

/-- from here on no statement mentions the fuel; the lemmas about the `…Aux` functions above are private -/
theorem chain_of_frame {σ : Store} {ρ : Nat} {f : Frame} (hf : σ.frames[ρ]? = some f) :
    σ.chain ρ = ρ :: (match f.parent with
      | some p => if p < ρ then σ.chain p else []
      | none => []) := by
  show σ.chainAux (ρ + 1) ρ = _
  rw [chainAux]
  simp only [hf]
  cases f.parent with
  | none => rfl
  | some p =>
    simp only
    by_cases h : p < ρ
    · rw [if_pos h, if_pos h, chainAux_fuel σ ρ (p + 1) p h (Nat.lt_succ_self _)]; rfl
    · rw [if_neg h, if_neg h]

theorem lookup_congr {σ σ' : Store} {ρ : Nat} {x : String} (hc : σ'.chain ρ = σ.chain ρ)
    (hb : ∀ i ∈ σ.chain ρ, σ'.binding i x = σ.binding i x) : σ'.lookup ρ x = σ.lookup ρ x := by
  rw [lookup_eq_findSome, lookup_eq_findSome, hc]
  exact findSome?_congr hb

theorem binding_of_frame {σ : Store} {ρ : Nat} {f : Frame} (hf : σ.frames[ρ]? = some f) (k : String) :
    σ.binding ρ k = f.defs.lookup k := by
  unfold binding; rw [hf]

theorem lookup_of_frame {σ : Store} {ρ : Nat} {f : Frame} (hf : σ.frames[ρ]? = some f) (k : String) :
    σ.lookup ρ k =
      match f.defs.lookup k with
      | some v => some v
      | none =>
        match f.parent with
        | some p => if p < ρ then σ.lookup p k else none
        | none => none := by
  rw [lookup_eq_findSome, chain_of_frame hf, List.findSome?_cons, binding_of_frame hf]
  cases f.defs.lookup k with
  | some v => rfl
  | none =>
    cases f.parent with
    | none => rfl
    | some p =>
      simp only
      split
      · rw [lookup_eq_findSome]
      · rfl

theorem lookup_here {σ : Store} {ρ : Nat} {f : Frame} {k : String} {v : Value} (hf : σ.frames[ρ]? = some f)
    (hk : f.defs.lookup k = some v) : σ.lookup ρ k = some v := by
  rw [lookup_of_frame hf, hk]

theorem define_parent_map (σ : Store) (ρ k v) (i : Nat) :
    (σ.define ρ k v).frames[i]?.map Frame.parent = σ.frames[i]?.map Frame.parent := by
  rw [define_frames_getElem?]
  split
  · cases σ.frames[i]? <;> simp
  · rfl

@[simp] theorem chain_define (σ : Store) (ρ k v) (ρ' : Nat) : (σ.define ρ k v).chain ρ' = σ.chain ρ' :=
  chain_congr (define_parent_map σ ρ k v) ρ'

private theorem mem_chainAux {σ : Store} : ∀ {fuel ρ r}, r ∈ σ.chainAux fuel ρ → r ≤ ρ ∧ r < σ.frames.size
  | 0, _, _, h => by simp [chainAux] at h
  | fuel + 1, ρ, r, h => by
    simp only [chainAux] at h
    cases hf : σ.frames[ρ]? with
    | none => simp [hf] at h
    | some f =>
      simp only [hf, List.mem_cons] at h
      rcases h with rfl | h
      · exact ⟨Nat.le_refl _, getElem?_some_lt hf⟩
      · split at h
        · split at h
          · have := mem_chainAux h
            exact ⟨by omega, this.2⟩
          · simp at h
        · simp at h

theorem lookup_of_frames_le {σ σ' : Store} {ρ : Nat} (h : ∀ i ≤ ρ, σ'.frames[i]? = σ.frames[i]?) (k : String) :
    σ'.lookup ρ k = σ.lookup ρ k :=
  lookup_congr (chainAux_congr _ _ fun i hi => by rw [h i hi]) fun i hi => by
    unfold binding; rw [h i (mem_chainAux hi).1]

theorem resolve_some {σ : Store} {k : String} {ρ r : Nat} (h : σ.resolve ρ k = some r) :
    σ.definesAt r k = true ∧ r ≤ ρ ∧ r < σ.frames.size := by
  rw [resolve_eq_find] at h
  exact ⟨List.find?_some (p := fun r => σ.definesAt r k) h, mem_chainAux (List.mem_of_find?_eq_some h)⟩

theorem mem_chain {σ : Store} {ρ r : Nat} (h : r ∈ σ.chain ρ) : r ≤ ρ ∧ r < σ.frames.size := mem_chainAux h

theorem not_mem_chain_of_lt {σ : Store} {ρ' r : Nat} (h : ρ' < r) : r ∉ σ.chain ρ' :=
  fun hm => Nat.not_le_of_lt h (mem_chain hm).1

theorem self_mem_chain {σ : Store} {ρ : Nat} (h : ρ < σ.frames.size) : ρ ∈ σ.chain ρ := by
  rw [chain_of_frame (Array.getElem?_eq_getElem h)]; exact List.mem_cons_self ..

theorem chain_child {σ : Store} {ρc p : Nat} {f : Frame} (hf : σ.frames[ρc]? = some f)
    (hp : f.parent = some p) (hlt : p < ρc) : σ.chain ρc = ρc :: σ.chain p := by
  rw [chain_of_frame hf, hp]; exact congrArg _ (if_pos hlt)

theorem chain_root {σ : Store} {ρ : Nat} {f : Frame} (hf : σ.frames[ρ]? = some f) (hp : f.parent = none) :
    σ.chain ρ = [ρ] := by
  rw [chain_of_frame hf, hp]

theorem parentOf_of_frame {σ : Store} {ρ : Nat} {f : Frame} (hf : σ.frames[ρ]? = some f) : σ.parentOf ρ = f.parent := by
  unfold parentOf; rw [hf]

theorem not_mem_chain_of_parent_none {σ : Store} {ρ' r : Nat} (hne : ρ' ≠ r) (hp : σ.parentOf ρ' = none) :
    r ∉ σ.chain ρ' := by
  intro hm
  cases hf : σ.frames[ρ']? with
  | none => rw [chain_of_none hf] at hm; cases hm
  | some f =>
    rw [chain_root hf (parentOf_of_frame hf ▸ hp)] at hm
    exact hne (List.mem_singleton.1 hm).symm

theorem chainOlder_eq (σ : Store) (ρ : Nat) : Ref.chainOlder σ ρ = σ.chain ρ :=
  have aux : ∀ k ρ, Ref.chainOlderAux σ k ρ = σ.chainAux k ρ := fun k => by
    induction k with
    | zero => exact fun _ => rfl
    | succ k ih => intro ρ; simp only [Ref.chainOlderAux, chainAux, ih]; rfl
  aux _ ρ

theorem frameBinding_eq (σ : Store) (x : String) (i : Nat) : Ref.frameBinding σ x i = σ.binding i x := by
  unfold Ref.frameBinding binding; cases σ.frames[i]? <;> rfl

theorem chain_getLast_of_root {σ : Store} {r : Nat} (hr : σ.parentOf r = none) :
    ∀ {ρ : Nat}, r ∈ σ.chain ρ → (σ.chain ρ).getLast? = some r := by
  intro ρ
  induction ρ using Nat.strongRecOn with
  | _ ρ ih =>
    intro h
    cases hf : σ.frames[ρ]? with
    | none => rw [chain_of_none hf] at h; cases h
    | some f =>
      rw [chain_of_frame hf, ← parentOf_of_frame hf] at h ⊢
      rcases List.mem_cons.1 h with rfl | hm
      · rw [hr]; rfl
      · cases hp : σ.parentOf ρ with
        | none => rw [hp] at hm; cases hm
        | some p =>
          simp only [hp] at hm ⊢
          split at hm
          · next hlt => rw [if_pos hlt, List.getLast?_cons, ih p hlt hm]; rfl
          · cases hm

theorem resolve_mem_chain {σ : Store} {ρ r : Nat} {k : String} (h : σ.resolve ρ k = some r) : r ∈ σ.chain ρ :=
  List.mem_of_find?_eq_some (resolve_eq_find σ ρ k ▸ h)

theorem resolve_isSome_iff {σ : Store} {ρ : Nat} {x : String} :
    (σ.resolve ρ x).isSome ↔ ∃ r ∈ σ.chain ρ, σ.definesAt r x = true := by
  rw [resolve_eq_find, List.find?_isSome]

theorem resolve_self {σ : Store} {ρ : Nat} {x : String} (hd : σ.definesAt ρ x = true) : σ.resolve ρ x = some ρ := by
  cases hf : σ.frames[ρ]? with
  | none => simp [definesAt, binding, hf] at hd
  | some f => rw [resolve_eq_find, chain_of_frame hf, List.find?_cons, hd]

theorem lookup_of_binding {σ : Store} {ρ : Nat} {x : String} {v : Value} (hb : σ.binding ρ x = some v) :
    σ.lookup ρ x = some v := by
  rw [lookup_eq_bind, resolve_self (by rw [definesAt, hb]; rfl)]; exact hb

theorem resolve_child {σ : Store} {ρc p : Nat} {f : Frame} (hf : σ.frames[ρc]? = some f)
    (hp : f.parent = some p) (hlt : p < ρc) {x : String} (hx : σ.definesAt ρc x = false) :
    σ.resolve ρc x = σ.resolve p x := by
  rw [resolve_eq_find, resolve_eq_find, chain_child hf hp hlt, List.find?_cons, hx]

theorem lookup_of_frames_eq {σ τ : Store} (h : σ.frames = τ.frames) (ρ : Nat) (k : String) :
    σ.lookup ρ k = τ.lookup ρ k :=
  lookup_of_frames_le (fun _ _ => by rw [h]) k

theorem resolve_congr {σ σ' : Store} {ρ : Nat} {x : String} (hc : σ'.chain ρ = σ.chain ρ)
    (hd : ∀ i, σ'.definesAt i x = σ.definesAt i x) : σ'.resolve ρ x = σ.resolve ρ x := by
  rw [resolve_eq_find, resolve_eq_find, hc]
  exact congrArg (List.find? · _) (funext hd)

theorem resolve_of_frames_eq {σ τ : Store} (h : σ.frames = τ.frames) (ρ : Nat) (k : String) :
    σ.resolve ρ k = τ.resolve ρ k :=
  resolve_congr (chain_congr (fun i => by rw [h]) ρ) fun i => by unfold definesAt binding; rw [h]

/-! ## `set` -/

theorem set_eq (σ : Store) (ρ : Nat) (x : String) (v : Value) :
    σ.set ρ x v = match σ.resolve ρ x with
      | some r => (true, σ.define r x v)
      | none => (false, σ) := rfl

theorem set_fst_iff {σ : Store} {ρ : Nat} {x : String} {v : Value} :
    (σ.set ρ x v).1 = true ↔ ∃ r ∈ σ.chain ρ, σ.definesAt r x = true := by
  rw [← resolve_isSome_iff, set_eq]
  cases σ.resolve ρ x <;> simp

theorem sameExceptBinding_define (σ : Store) (r : Nat) (x : String) (v : Value) :
    SameExceptBinding σ (σ.define r x v) r x where
  vecs := by simp
  out := by simp
  ticks := by simp
  depth := by simp
  maxDepth := by simp
  frames_size := by simp
  other_frames := fun i hi => by rw [define_frames_getElem?]; simp [hi]
  parent := parentOf_define σ r x v r
  other_names := fun y hy => by rw [binding_define]; simp [hy]

/-! ## `newFrame`, `allocVec` -/

@[simp] theorem newFrame_fst (σ : Store) (p) : (σ.newFrame p).1 = σ.frames.size := rfl
@[simp] theorem newFrame_frames (σ : Store) (p) :
    (σ.newFrame p).2.frames = σ.frames.push { parent := p, defs := [] } := rfl
@[simp] theorem newFrame_vecs (σ : Store) (p) : (σ.newFrame p).2.vecs = σ.vecs := rfl
theorem newFrame_lt (σ : Store) (p) : (σ.newFrame p).1 < (σ.newFrame p).2.frames.size := by simp
@[simp] theorem allocVec_fst (σ : Store) (m items) : (σ.allocVec m items).1 = .vec σ.vecs.size := rfl
@[simp] theorem allocVec_frames (σ : Store) (m items) : (σ.allocVec m items).2.frames = σ.frames := rfl
@[simp] theorem allocVec_vecs (σ : Store) (m items) :
    (σ.allocVec m items).2.vecs = σ.vecs.push { mutable := m, items := items } := rfl

/-! ### `newFrame` and the chains -/

theorem chain_newFrame_old (σ : Store) (p : Option Nat) {ρ : Nat} (h : ρ < σ.frames.size) :
    (σ.newFrame p).2.chain ρ = σ.chain ρ :=
  chainAux_congr _ ρ fun _ hi => congrArg _ (getElem?_push_old _ (Nat.lt_of_le_of_lt hi h))

theorem chain_newFrame (σ : Store) (p : Option Nat) (ρ : Nat) :
    (σ.newFrame p).2.chain ρ =
      if ρ = σ.frames.size then
        ρ :: (match p with
              | some q => σ.chain q
              | none => [])
      else σ.chain ρ := by
  split
  · next hρ =>
    subst hρ
    rw [chain_of_frame (f := { parent := p, defs := [] }) (by simp)]
    cases p with
    | none => rfl
    | some q =>
      simp only
      split
      · next hq => rw [chain_newFrame_old σ _ hq]
      · next hq => rw [chain_of_not_lt σ hq]
  · next hρ =>
    by_cases hlt : ρ < σ.frames.size
    · exact chain_newFrame_old σ p hlt
    · rw [chain_of_not_lt σ hlt, chain_of_not_lt _ (by simp; omega)]

theorem binding_newFrame (σ : Store) (p : Option Nat) (r : Nat) (x : String) :
    (σ.newFrame p).2.binding r x = σ.binding r x := by
  unfold binding
  simp only [newFrame, Array.getElem?_push]
  by_cases h : r = σ.frames.size
  · subst h; simp
  · rw [if_neg h]

theorem lookup_newFrame_old (σ : Store) (p : Option Nat) {ρ : Nat} (h : ρ < σ.frames.size)
    (x : String) : (σ.newFrame p).2.lookup ρ x = σ.lookup ρ x :=
  lookup_congr (chain_newFrame_old σ p h) (fun i _ => binding_newFrame σ p i x)

theorem lookup_newFrame_new (σ : Store) (x : String) :
    (σ.newFrame none).2.lookup σ.frames.size x = none := by
  have : (σ.newFrame none).2.frames[σ.frames.size]? = some { parent := none, defs := [] } := by
    simp [newFrame]
  exact lookup_of_frame this x

/-! ## who sees a `set!` / a `define` -/

theorem resolve_define (σ : Store) (ρ : Nat) (x : String) (v : Value) (ρ' : Nat) (y : String) :
    (σ.define ρ x v).resolve ρ' y =
      (σ.chain ρ').find? (fun j => decide (j = ρ ∧ y = x ∧ ρ < σ.frames.size) || σ.definesAt j y) := by
  rw [resolve_eq_find, chain_define]
  congr 1
  funext j
  exact definesAt_define σ ρ x v j y

theorem resolve_define_of_definesAt {σ : Store} {r : Nat} {x : String} (hd : σ.definesAt r x = true)
    (v : Value) (ρ' : Nat) (y : String) : (σ.define r x v).resolve ρ' y = σ.resolve ρ' y := by
  rw [resolve_define, resolve_eq_find]
  congr 1
  funext j
  by_cases h : j = r ∧ y = x ∧ r < σ.frames.size
  · obtain ⟨rfl, rfl, _⟩ := h
    simp [hd]
  · simp [h]

theorem lookup_define (σ : Store) (ρ : Nat) (x : String) (v : Value) (ρ' : Nat) (y : String) :
    (σ.define ρ x v).lookup ρ' y =
      (σ.chain ρ').findSome? fun j => if j = ρ ∧ y = x ∧ ρ < σ.frames.size then some v else σ.binding j y := by
  rw [lookup_eq_findSome, chain_define]
  exact congrArg (List.findSome? · _) (funext fun j => binding_define σ ρ x v j y)

theorem set_true {σ σ' : Store} {ρ : Nat} {x : String} {v : Value} (h : σ.set ρ x v = (true, σ')) :
    ∃ r, σ.resolve ρ x = some r ∧ σ' = σ.define r x v := by
  rw [set_eq] at h
  split at h
  · rename_i r hr
    simp only [Prod.mk.injEq, true_and] at h
    exact ⟨r, hr, h.symm⟩
  · simp at h

theorem lookup_define_same (σ : Store) {ρ : Nat} (x : String) (v : Value) (hρ : ρ < σ.frames.size) :
    (σ.define ρ x v).lookup ρ x = some v :=
  lookup_of_binding (by rw [binding_define, if_pos ⟨rfl, rfl, hρ⟩])

theorem lookup_after_define (σ : Store) {ρ : Nat} (x : String) (v : Value) (hρ : ρ < σ.frames.size)
    (ρ' : Nat) (y : String) :
    (y = x ∧ (σ.define ρ x v).resolve ρ' x = some ρ → (σ.define ρ x v).lookup ρ' y = some v) ∧
    (¬ (y = x ∧ (σ.define ρ x v).resolve ρ' x = some ρ) →
      (σ.define ρ x v).lookup ρ' y = σ.lookup ρ' y) := by
  rw [lookup_define, lookup_eq_findSome]
  by_cases hy : y = x
  · subst hy
    simp only [true_and, hρ, and_true]
    have h := findSome?_override (fun j => σ.binding j y) ρ v (σ.chain ρ')
    have hr : (σ.define ρ y v).resolve ρ' y =
        (σ.chain ρ').find? fun j => decide (j = ρ) || (σ.binding j y).isSome := by
      rw [resolve_define]; simp only [hρ, and_true]; rfl
    rw [hr]
    exact ⟨h.1, fun hn => h.2 hn⟩
  · simp only [hy, false_and, and_false, if_false]
    exact ⟨nofun, fun _ => trivial⟩

theorem lookup_set {σ σ' : Store} {ρ : Nat} {x : String} {v : Value} (h : σ.set ρ x v = (true, σ')) (ρ' : Nat)
    (y : String) : ∃ r, σ.resolve ρ x = some r ∧
      σ'.lookup ρ' y = (σ.chain ρ').findSome? fun j => if j = r ∧ y = x then some v else σ.binding j y := by
  obtain ⟨r, hr, rfl⟩ := set_true h
  refine ⟨r, hr, ?_⟩
  rw [lookup_define]
  simp only [(resolve_some hr).2.2, and_true]

theorem lookup_after_set {σ σ' : Store} {ρ : Nat} {x : String} {v : Value}
    (h : σ.set ρ x v = (true, σ')) (ρ' : Nat) (y : String) :
    σ'.resolve ρ' y = σ.resolve ρ' y ∧
    (y = x ∧ σ.resolve ρ' y = σ.resolve ρ x → σ'.lookup ρ' y = some v) ∧
    (¬ (y = x ∧ σ.resolve ρ' y = σ.resolve ρ x) → σ'.lookup ρ' y = σ.lookup ρ' y) := by
  obtain ⟨r, hr, rfl⟩ := set_true h
  have hs := resolve_some hr
  have hres := resolve_define_of_definesAt hs.1 v ρ'
  have had := lookup_after_define σ x v hs.2.2 ρ' y
  exact ⟨hres y, fun ⟨hy, hsame⟩ => had.1 ⟨hy, by rw [hres, ← hy, hsame, hr]⟩,
    fun hnot => had.2 fun ⟨hy, hr'⟩ => hnot ⟨hy, by rw [hr, hy, ← hres, hr']⟩⟩

/-! ### unbound names: `lookup`, `resolve` and `set` walk the same chain -/

theorem lookup_eq_none_iff {σ : Store} {ρ : Nat} {k : String} : σ.lookup ρ k = none ↔ σ.resolve ρ k = none := by
  rw [lookup_eq_findSome, resolve_eq_find, List.findSome?_eq_none_iff, List.find?_eq_none]
  exact forall_congr' fun r => forall_congr' fun _ => Option.not_isSome_iff_eq_none.symm

theorem set_fst_eq_false_iff {σ : Store} {ρ : Nat} {k : String} {v : Value} :
    (σ.set ρ k v).1 = false ↔ σ.lookup ρ k = none := by
  rw [lookup_eq_none_iff, set_eq]
  cases σ.resolve ρ k with
  | none => exact iff_of_true rfl rfl
  | some r => exact iff_of_false nofun nofun

theorem set_unbound {σ : Store} {ρ : Nat} {k : String} (v : Value) (h : σ.lookup ρ k = none) :
    σ.set ρ k v = (false, σ) := by
  rw [set_eq, lookup_eq_none_iff.1 h]

theorem set_false {σ σ' : Store} {ρ : Nat} {k : String} {v : Value} (h : σ.set ρ k v = (false, σ')) :
    σ.lookup ρ k = none ∧ σ' = σ := by
  have hn := set_fst_eq_false_iff.1 (congrArg Prod.fst h)
  rw [set_unbound v hn] at h
  exact ⟨hn, (congrArg Prod.snd h).symm⟩

theorem lookup_root_none {σ : Store} {ρ : Nat} {f : Frame} {k : String} (hf : σ.frames[ρ]? = some f)
    (hp : f.parent = none) (hk : f.defs.lookup k = none) : σ.lookup ρ k = none := by
  rw [lookup_of_frame hf, hk, hp]

theorem lookup_off_frame {σ σ' : Store} {ρ ρ' : Nat}
    (hp : ∀ i : Nat, σ'.frames[i]?.map Frame.parent = σ.frames[i]?.map Frame.parent)
    (ho : ∀ i, i ≠ ρ → σ'.frames[i]? = σ.frames[i]?) (hoff : ρ ∉ σ.chain ρ') (y : String) :
    σ'.lookup ρ' y = σ.lookup ρ' y :=
  lookup_congr (chain_congr hp ρ') fun i hi => by
    unfold binding; rw [ho i fun e => hoff (e ▸ hi)]

theorem lookup_define_off_chain (σ : Store) {r ρ : Nat} (k : String) (v : Value) (x : String)
    (h : r ∉ σ.chain ρ) : (σ.define r k v).lookup ρ x = σ.lookup ρ x :=
  lookup_off_frame (define_parent_map σ r k v) (sameExceptBinding_define σ r k v).other_frames h x

theorem set_resolved {σ : Store} {ρ r : Nat} {x : String} (hr : σ.resolve ρ x = some r) (v : Value) :
    σ.set ρ x v = (true, σ.define r x v) ∧
    SameExceptBinding σ (σ.define r x v) r x ∧
    (σ.set ρ x v).2.lookup r x = some v ∧
    (∀ ρc, σ.resolve ρc x = some r → (σ.set ρ x v).2.lookup ρc x = some v) ∧
    (∀ ρ', r ∉ σ.chain ρ' → ∀ y, (σ.set ρ x v).2.lookup ρ' y = σ.lookup ρ' y) := by
  have hset : σ.set ρ x v = (true, σ.define r x v) := by rw [set_eq, hr]
  have hvis : ∀ ρc, σ.resolve ρc x = some r → (σ.set ρ x v).2.lookup ρc x = some v := fun ρc hc =>
    (lookup_after_set (σ' := (σ.set ρ x v).2) (by rw [hset]) ρc x).2.1 ⟨rfl, by rw [hc, hr]⟩
  refine ⟨hset, sameExceptBinding_define σ r x v, hvis r (resolve_self (resolve_some hr).1), hvis, fun ρ' hnot y => ?_⟩
  rw [hset]
  exact lookup_define_off_chain σ x v y hnot

end Store

/-! ## `enter`, `leave`, `bindFixed` -/

namespace Eval

@[simp] theorem enter_frames (σ : Store) : (enter σ).frames = σ.frames := rfl
@[simp] theorem enter_vecs (σ : Store) : (enter σ).vecs = σ.vecs := rfl
@[simp] theorem leave_frames (σ : Store) : (leave σ).frames = σ.frames := rfl
@[simp] theorem leave_vecs (σ : Store) : (leave σ).vecs = σ.vecs := rfl

end Eval

/-! ## the frame a procedure body runs in -/

namespace Store

def pushFrame (σ : Store) (parent : Nat) (defs : List (String × Value)) : Store :=
  { σ with frames := σ.frames.push { parent := some parent, defs := defs } }

theorem newFrame_eq (σ : Store) (p : Nat) : σ.newFrame (some p) = (σ.frames.size, σ.pushFrame p []) := rfl

theorem modify_push_last {α} (A : Array α) (x : α) (f : α → α) : (A.push x).modify A.size f = A.push (f x) :=
  Array.ext_getElem? fun i => by
    rw [Array.getElem?_modify, Array.getElem?_push, Array.getElem?_push]
    by_cases h : i = A.size
    · rw [if_pos h, if_pos h, if_pos h.symm]; rfl
    · rw [if_neg h, if_neg h, if_neg (Ne.symm h)]

theorem define_push (σ : Store) (f : Frame) (k : String) (v : Value) :
    ({ σ with frames := σ.frames.push f } : Store).define σ.frames.size k v =
      { σ with frames := σ.frames.push { f with defs := defsInsert f.defs k v } } := by
  unfold define
  simp only [Array.size_push, Nat.lt_succ_self, dite_true, modify_push_last]

theorem define_pushFrame (σ : Store) (p : Nat) (D : List (String × Value)) (k : String) (v : Value) :
    (σ.pushFrame p D).define σ.frames.size k v = σ.pushFrame p (defsInsert D k v) := define_push σ _ k v

@[simp] theorem pushFrame_depth (σ : Store) (p D) : (σ.pushFrame p D).depth = σ.depth := rfl
@[simp] theorem pushFrame_maxDepth (σ : Store) (p D) : (σ.pushFrame p D).maxDepth = σ.maxDepth := rfl

theorem pushFrame_size (σ : Store) (p D) : (σ.pushFrame p D).frames.size = σ.frames.size + 1 := Array.size_push ..

theorem pushFrame_get_last (σ : Store) (p D) :
    (σ.pushFrame p D).frames[σ.frames.size]? = some { parent := some p, defs := D } := by
  simp [pushFrame]

theorem pushFrame_other (σ : Store) (p D) {i : Nat} (hi : i ≠ σ.frames.size) :
    (σ.pushFrame p D).frames[i]? = σ.frames[i]? :=
  Array.getElem?_push.trans (if_neg hi)

theorem framesExt_push (σ : Store) (f : Frame) : σ.FramesExt { σ with frames := σ.frames.push f } :=
  ⟨Array.size_push _ ▸ Nat.le_succ _, fun _ => getElem?_push_old f⟩

theorem framesExt_pushFrame (σ : Store) (p D) : σ.FramesExt (σ.pushFrame p D) := framesExt_push σ _

theorem lookup_pushFrame_here {σ : Store} {p : Nat} {D : List (String × Value)} {k : String} {v : Value}
    (hk : D.lookup k = some v) : (σ.pushFrame p D).lookup σ.frames.size k = some v :=
  lookup_here (pushFrame_get_last σ p D) hk

theorem lookup_pushFrame_parent {σ : Store} {p : Nat} {D : List (String × Value)} {k : String}
    (hk : D.lookup k = none) (hp : p < σ.frames.size) :
    (σ.pushFrame p D).lookup σ.frames.size k = σ.lookup p k := by
  rw [lookup_of_frame (pushFrame_get_last σ p D), hk]
  simp only [if_pos hp]
  exact lookup_of_frames_le (fun i hi => (framesExt_pushFrame σ p D).frames i (by omega)) k

end Store

namespace Eval

def bindList : List (String × Value) → List String → List Value → List (String × Value)
  | D, f :: fs, a :: as => bindList (Store.defsInsert D f a) fs as
  | D, _, _ => D

theorem bindAll_pushFrame (σ : Store) (p : Nat) : ∀ (fs : List String) (args : List Value) (D : List (String × Value)),
    Ref.bindAll (σ.pushFrame p D) σ.frames.size fs args = σ.pushFrame p (bindList D fs args)
  | [], _, _ => rfl
  | _ :: _, [], _ => rfl
  | f :: fs, a :: as, D => by rw [Ref.bindAll, Store.define_pushFrame, bindAll_pushFrame σ p fs as]; rfl

theorem bindFixed_pushFrame (σ : Store) (p : Nat) (fs : List String) (args : List Value) (D : List (String × Value))
    (h : fs.length ≤ args.length) :
    bindFixed (σ.pushFrame p D) σ.frames.size fs args =
      (.ok (args.drop fs.length), σ.pushFrame p (bindList D fs args)) := by
  rw [bindFixed_eq, if_pos h, bindAll_pushFrame]

def paramDefs (F : Formals) (args : List Value) : List (String × Value) :=
  match F.rest with
  | some r => Store.defsInsert (bindList [] F.fixed args) r (Value.ofList (args.drop F.fixed.length))
  | none => bindList [] F.fixed args

theorem bindParams (σ : Store) (cenv : Nat) (F : Formals) (args : List Value) (h : F.fixed.length ≤ args.length) :
    ∃ σ₁, bindFixed (σ.newFrame (some cenv)).2 σ.frames.size F.fixed args = (.ok (args.drop F.fixed.length), σ₁) ∧
      Ref.bindRest σ₁ σ.frames.size F.rest (args.drop F.fixed.length) = σ.pushFrame cenv (paramDefs F args) := by
  refine ⟨_, bindFixed_pushFrame σ cenv F.fixed args [] h, ?_⟩
  unfold Ref.bindRest paramDefs
  cases F.rest with
  | none => rfl
  | some r => exact Store.define_pushFrame ..

/-- the last occurrence of a repeated name wins -/
theorem lookup_bindList (y : String) : ∀ (fs : List String) (as : List Value) (D : List (String × Value)),
    (bindList D fs as).lookup y = match ((fs.zip as).reverse).lookup y with
      | some a => some a
      | none => D.lookup y
  | [], _, _ => rfl
  | _ :: _, [], _ => rfl
  | f :: fs, a :: as, D => by
    rw [bindList, lookup_bindList y fs as, Assoc.lookup_defsInsert]
    simp only [List.zip_cons_cons, List.reverse_cons, Assoc.lookup_append_ite, Assoc.lookup_cons_ite, List.lookup_nil]
    cases ((fs.zip as).reverse).lookup y
    · dsimp only; split <;> rfl
    · rfl

theorem paramDefs_lookup (F : Formals) (args : List Value) (y : String) :
    (paramDefs F args).lookup y =
      if F.rest = some y then some (Value.ofList (args.drop F.fixed.length))
      else ((F.fixed.zip args).reverse).lookup y := by
  unfold paramDefs
  cases F.rest with
  | none => rw [if_neg nofun, lookup_bindList]; cases ((F.fixed.zip args).reverse).lookup y <;> rfl
  | some r =>
    rw [Assoc.lookup_defsInsert, lookup_bindList]
    by_cases hy : y = r
    · rw [if_pos hy, if_pos (by rw [hy])]
    · rw [if_neg hy, if_neg fun h => hy (Option.some.inj h).symm]
      cases ((F.fixed.zip args).reverse).lookup y <;> rfl

end Eval

/-! ## native procedures and vectors: what is read and written -/

namespace Prim

@[simp] theorem err_snd {α} (e : Err) (σ : Store) : (err e σ : Res α).2 = σ := rfl
@[simp] theorem ok_snd {α} (a : α) (σ : Store) : (ok a σ : Res α).2 = σ := rfl
@[simp] theorem missing_snd {α} (b : Builtin) (σ : Store) : (missing b σ : Res α).2 = σ := rfl
@[simp] theorem err_fst {α} (e : Err) (σ : Store) : (err e σ : Res α).1 = .error (e, none) := rfl
@[simp] theorem ok_fst {α} (a : α) (σ : Store) : (ok a σ : Res α).1 = .ok a := rfl
@[simp] theorem missing_fst {α} (b : Builtin) (σ : Store) :
    (missing b σ : Res α).1 = .error (.panic ("base.rs unwrap: " ++ b.name), none) := rfl

def NoIds (v : Value) : Prop := ∀ nf nv, v.Below nf nv

theorem lift_fst {α} {σ : Store} {r : Except Err α} {k : α → Value} {v} (h : (lift σ r k).1 = .ok v) :
    ∃ a, v = k a := by
  cases r <;> cases h; exact ⟨_, rfl⟩
theorem realFn_fst {σ : Store} {args b f v} (h : (realFn σ args b f).1 = .ok v) : ∃ n, v = .num n := by
  rw [realFn, num1_eq] at h; exact lift_fst h
theorem realFn2_fst {σ : Store} {args b f v} (h : (realFn2 σ args b f).1 = .ok v) : ∃ n, v = .num n := by
  rw [realFn2, num2_eq] at h; exact lift_fst h

theorem applyPure_frames (σ : Store) (b : Builtin) (args : List Value) :
    (applyPure σ b args).2.frames = σ.frames := by
  rcases applyPure_snd σ b args with h | h <;> rw [h]
  exact Eff.run_frames ..

theorem applyPure_vecs (σ : Store) (b : Builtin) (args : List Value)
    (h1 : b ≠ .vector) (h2 : b ≠ .makeVector) (h3 : b ≠ .vectorSet) :
    (applyPure σ b args).2.vecs = σ.vecs := by
  rcases applyPure_snd σ b args with h | h <;> rw [h]
  exact Eff.run_vecs (eff_quiet h1 h2 h3 ..) σ


/-! ### the three native procedures that touch the vector store -/

theorem applyPure_vectorSet_shape {σ : Store} {args : List Value} {r σ'}
    (h : applyPure σ .vectorSet args = (r, σ')) :
    (σ' = σ ∧ ∃ e, r = .error e) ∨
    ∃ id n obj rest cell, args = .vec id :: .num (.int n) :: obj :: rest ∧ σ.vecs[id]? = some cell ∧
      cell.mutable = true ∧ 0 ≤ n ∧ n.toNat < cell.items.length ∧ r = .ok .void ∧
      σ' = vsetStore σ id cell n.toNat obj := by
  simp only [applyPure, listSet_eq] at h
  repeat' split at h
  all_goals simp only [err, ok, missing, Prod.mk.injEq] at h
  all_goals first
    | (obtain ⟨rfl, rfl⟩ := h; exact Or.inl ⟨rfl, _, rfl⟩)
    | skip
  rename_i cell hc hm hn _ items hi
  obtain ⟨rfl, rfl⟩ := h
  split at hi
  · rename_i hlt
    cases hi
    refine Or.inr ⟨_, _, _, _, cell, rfl, hc, by simpa using hm, by omega, hlt, rfl, rfl⟩
  · cases hi

theorem vsetStore_vecs_getElem? (σ : Store) (id : Nat) (cell : VecCell) (n : Nat) (obj : Value) (j : Nat) :
    (vsetStore σ id cell n obj).vecs[j]? =
      if id = j then (if id < σ.vecs.size then some { cell with items := cell.items.set n obj } else none)
      else σ.vecs[j]? := by
  simp [vsetStore, Array.set!_eq_setIfInBounds, Array.getElem?_setIfInBounds]

theorem vsetStore_vecs_self {σ : Store} {id : Nat} {cell : VecCell} (hc : σ.vecs[id]? = some cell) (n : Nat)
    (obj : Value) : (vsetStore σ id cell n obj).vecs[id]? = some { cell with items := cell.items.set n obj } := by
  rw [vsetStore_vecs_getElem?, if_pos rfl, if_pos (Store.getElem?_some_lt hc)]

theorem sameExceptCell_vsetStore {σ : Store} {id : Nat} {cell : VecCell} (hc : σ.vecs[id]? = some cell)
    (n : Nat) (obj : Value) : Store.SameExceptCell σ (vsetStore σ id cell n obj) id where
  frames := rfl
  out := rfl
  ticks := rfl
  depth := rfl
  maxDepth := rfl
  vecs_size := by simp [vsetStore, Array.set!_eq_setIfInBounds]
  other_cells := fun j hj => by rw [vsetStore_vecs_getElem?]; simp [Ne.symm hj]
  flag := by
    rw [vsetStore_vecs_getElem?, hc]
    simp [Store.getElem?_some_lt hc]

/-! ### `vector-set!` and `vector-ref` on a reference -/

theorem vectorSet_outcome {σ : Store} {id : Nat} {cell : VecCell} (hc : σ.vecs[id]? = some cell)
    (n : Int) (obj : Value) (rest : List Value) :
    applyPure σ .vectorSet (.vec id :: .num (.int n) :: obj :: rest) =
      if cell.mutable = false then (.error (.immutable, none), σ)
      else if n < 0 ∨ cell.items.length ≤ n.toNat then (.error (.vectorIndex, none), σ)
      else (.ok .void, vsetStore σ id cell n.toNat obj) := by
  simp only [applyPure, hc, listSet_eq]
  cases hm : cell.mutable <;> simp [err, ok, vsetStore]
  by_cases hn : n < 0
  · simp [hn]
  · simp only [hn, if_false, false_or]
    by_cases hl : n.toNat < cell.items.length
    · simp [hl, Nat.not_le.2 hl, hm]
    · simp [hl, Nat.not_lt.1 hl]

theorem vectorSet_ok_nat {σ : Store} {id : Nat} {cell : VecCell} (hc : σ.vecs[id]? = some cell)
    (hm : cell.mutable = true) {i : Nat} (hi : i < cell.items.length) (obj : Value) :
    ∃ σ', applyPure σ .vectorSet [.vec id, .num (.int i), obj] = (.ok .void, σ') ∧
      Store.SameExceptCell σ σ' id ∧ σ'.vecs[id]? = some { cell with items := cell.items.set i obj } := by
  refine ⟨vsetStore σ id cell i obj, ?_, sameExceptCell_vsetStore hc _ _, vsetStore_vecs_self hc _ _⟩
  rw [vectorSet_outcome hc, if_neg (by simp [hm]), if_neg (by omega)]; rfl

theorem applyPure_makeVector (σ : Store) {n : Int} (hn : 0 ≤ n) (fill : Value) :
    applyPure σ .makeVector [.num (.int n), fill] =
      (.ok (.vec σ.vecs.size), (σ.allocVec true (List.replicate n.toNat fill)).2) := by
  simp only [applyPure, if_neg (Int.not_lt.2 hn)]; rfl

theorem vectorRef_outcome {σ : Store} {id : Nat} {cell : VecCell} (hc : σ.vecs[id]? = some cell)
    (n : Int) (rest : List Value) :
    applyPure σ .vectorRef (.vec id :: .num (.int n) :: rest) =
      if n < 0 then (.error (.vectorIndex, none), σ)
      else match cell.items[n.toNat]? with
        | some x => (.ok x, σ)
        | none => (.error (.vectorIndex, none), σ) := by
  simp only [applyPure, hc]
  split
  · rfl
  · split <;> simp_all [ok, err]

/-- impossible in the Rust code, where a vector value holds its cell (`ValueReference`); a panic in the model -/
theorem vectorRef_dangling {σ : Store} {id : Nat} (hc : σ.vecs[id]? = none) (n : Int) (rest : List Value) :
    applyPure σ .vectorRef (.vec id :: .num (.int n) :: rest) = (.error (.panic "dangling vector", none), σ) := by
  simp only [applyPure, hc]; rfl

theorem vectorSet_dangling {σ : Store} {id : Nat} (hc : σ.vecs[id]? = none) (n : Int) (obj : Value)
    (rest : List Value) :
    applyPure σ .vectorSet (.vec id :: .num (.int n) :: obj :: rest) =
      (.error (.panic "dangling vector", none), σ) := by
  simp only [applyPure, hc]; rfl

theorem vectorRef_congr {σ σ' : Store} {id : Nat} (h : σ'.vecs[id]? = σ.vecs[id]?) (k : Value)
    (rest : List Value) :
    (applyPure σ' .vectorRef (.vec id :: k :: rest)).1 = (applyPure σ .vectorRef (.vec id :: k :: rest)).1 ∧
    (applyPure σ' .vectorRef (.vec id :: k :: rest)).2 = σ' := by
  cases k with
  | num m =>
    cases m with
    | int n =>
      cases hc : σ.vecs[id]? with
      | none => simp only [applyPure, h, hc]; exact ⟨rfl, rfl⟩
      | some cell =>
        rw [vectorRef_outcome (h.trans hc), vectorRef_outcome hc]
        split
        · exact ⟨rfl, rfl⟩
        · split <;> exact ⟨rfl, rfl⟩
    | _ => exact ⟨rfl, rfl⟩
  | _ => exact ⟨rfl, rfl⟩

theorem type_of_not_vec {σ : Store} {v : Value} (h : ∀ id, v ≠ .vec id) (k obj : Value) :
    applyPure σ .vectorRef [v, k] = (.error (.type, none), σ) ∧
    applyPure σ .vectorSet [v, k, obj] = (.error (.type, none), σ) ∧
    applyPure σ .vectorLength [v] = (.error (.type, none), σ) := by
  cases v with
  | vec id => exact absurd rfl (h id)
  | _ => exact ⟨rfl, rfl, rfl⟩

theorem type_of_not_int {σ : Store} {k : Value} (h : ∀ n, k ≠ .num (.int n)) (v obj : Value) :
    applyPure σ .vectorRef [v, k] = (.error (.type, none), σ) ∧
    applyPure σ .vectorSet [v, k, obj] = (.error (.type, none), σ) ∧
    applyPure σ .makeVector [k, obj] = (.error (.type, none), σ) := by
  have hk : ∀ id, applyPure σ .vectorRef [.vec id, k] = (.error (.type, none), σ) ∧
      applyPure σ .vectorSet [.vec id, k, obj] = (.error (.type, none), σ) ∧
      applyPure σ .makeVector [k, obj] = (.error (.type, none), σ) := by
    intro id
    cases k with
    | num n =>
      cases n with
      | int i => exact absurd rfl (h i)
      | _ => exact ⟨rfl, rfl, rfl⟩
    | _ => exact ⟨rfl, rfl, rfl⟩
  cases v with
  | vec id => exact hk id
  | _ => exact ⟨rfl, rfl, (hk 0).2.2⟩

end Prim

/-! ## values and their ids -/

namespace Value

@[simp] theorem below_pair {nf nv a d} : (Value.pair a d).Below nf nv ↔ a.Below nf nv ∧ d.Below nf nv := by
  simp only [Below, frameIds, vecIds, List.mem_append]
  constructor
  · rintro ⟨h1, h2⟩
    exact ⟨⟨fun i hi => h1 i (Or.inl hi), fun i hi => h2 i (Or.inl hi)⟩,
           ⟨fun i hi => h1 i (Or.inr hi), fun i hi => h2 i (Or.inr hi)⟩⟩
  · rintro ⟨⟨h1, h2⟩, ⟨h3, h4⟩⟩
    exact ⟨fun i hi => hi.elim (h1 i) (h3 i), fun i hi => hi.elim (h2 i) (h4 i)⟩

@[simp] theorem below_closure {nf nv l e} : (Value.closure l e).Below nf nv ↔ e < nf := by
  simp [Below, frameIds, vecIds]
@[simp] theorem below_vec {nf nv i} : (Value.vec i).Below nf nv ↔ i < nv := by
  simp [Below, frameIds, vecIds]
@[simp] theorem below_num {nf nv n} : (Value.num n).Below nf nv := by simp [Below, frameIds, vecIds]
@[simp] theorem below_bool {nf nv n} : (Value.bool n).Below nf nv := by simp [Below, frameIds, vecIds]
@[simp] theorem below_char {nf nv n} : (Value.char n).Below nf nv := by simp [Below, frameIds, vecIds]
@[simp] theorem below_str {nf nv n} : (Value.str n).Below nf nv := by simp [Below, frameIds, vecIds]
@[simp] theorem below_sym {nf nv n} : (Value.sym n).Below nf nv := by simp [Below, frameIds, vecIds]
@[simp] theorem below_builtin {nf nv n} : (Value.builtin n).Below nf nv := by simp [Below, frameIds, vecIds]
@[simp] theorem below_transformer {nf nv n} : (Value.transformer n).Below nf nv := by
  simp [Below, frameIds, vecIds]
@[simp] theorem below_nil {nf nv} : (Value.nil).Below nf nv := by simp [Below, frameIds, vecIds]
@[simp] theorem below_void {nf nv} : (Value.void).Below nf nv := by simp [Below, frameIds, vecIds]

theorem Below.mono {nf nv nf' nv' v} (h : Value.Below nf nv v) (hf : nf ≤ nf') (hv : nv ≤ nv') :
    Value.Below nf' nv' v :=
  ⟨fun i hi => Nat.lt_of_lt_of_le (h.1 i hi) hf, fun i hi => Nat.lt_of_lt_of_le (h.2 i hi) hv⟩

end Value

namespace Store

/-! ## the store has only grown

The relations "the store has only grown" of the development, by what they let change (`=` unchanged, `+` only
appended to, `~` changed within the bounds the relation states, `·` anything):

| relation (where)                         | old frames            | new frames | old cells                  | new cells | out, ticks | depth | maxDepth |
|---|---|---|---|---|---|---|---|
| `Store.Ext` (RuschmSpec/ListLib)         | =                     | +          | =                          | none      | =          | =     | may grow |
| `Store.DExt`                             | =                     | +          | =                          | none      | =          | ·     | ·        |
| `Store.FramesExt`                        | =                     | +          | ·                          | ·         | ·          | ·     | ·        |
| `Store.Keeps b N`                        | = for `b` and `≥ N`   | +          | ·                          | ·         | ·          | ·     | ·        |
| `Store.Grows` (RuschmSpec/Store, C03)    | ~ parent, names kept  | +          | ~ flag, length; immutable = | +         | ·          | ·     | ·        |
| `Eval.LitStep` (a literal was read)      | =                     | none       | =                          | + immutable | =        | =     | =        |
| `Print.Extends` (RuschmSpec/Print)       | ·                     | ·          | =                          | +         | ·          | ·     | ·        |

Arrows that exist: `Ext.dExt`, `Ext.framesExt`, `DExt.framesExt`, `Keeps.of_framesExt`, `LitStep.grows` (all below),
`Print.extends_of_litStep` (PrintLemmas). The evaluator respects `Grows` (`stepRel_grows`); `Ext`, `DExt` and
`Keeps` are what the list library's procedures respect. -/

/-! ### frames appended: `FramesExt`, `Ext`, `DExt`, `Keeps` -/

theorem FramesExt.of_frames_eq {σ σ' : Store} (h : σ'.frames = σ.frames) : σ.FramesExt σ' :=
  ⟨by rw [h]; exact Nat.le_refl _, fun _ _ => by rw [h]⟩

theorem FramesExt.refl (σ : Store) : σ.FramesExt σ := ⟨Nat.le_refl _, fun _ _ => rfl⟩

theorem FramesExt.trans {σ₁ σ₂ σ₃ : Store} (h₁ : σ₁.FramesExt σ₂) (h₂ : σ₂.FramesExt σ₃) : σ₁.FramesExt σ₃ where
  size := Nat.le_trans h₁.size h₂.size
  frames i hi := (h₂.frames i (Nat.lt_of_lt_of_le hi h₁.size)).trans (h₁.frames i hi)

theorem FramesExt.lookup {σ σ' : Store} (h : σ.FramesExt σ') {ρ : Nat} (hρ : ρ < σ.frames.size) (k : String) :
    σ'.lookup ρ k = σ.lookup ρ k :=
  lookup_of_frames_le (fun i hi => h.frames i (by omega)) k

theorem framesExt_enter (σ : Store) : σ.FramesExt (enter σ) := .of_frames_eq rfl

theorem Ext.refl (σ : Store) : σ.Ext σ :=
  ⟨Nat.le_refl _, fun _ _ => rfl, rfl, rfl, rfl, rfl, Nat.le_refl _⟩

theorem Ext.framesExt {σ σ' : Store} (h : σ.Ext σ') : σ.FramesExt σ' := ⟨h.size, h.frames⟩

theorem Ext.of_activation {σ σ' : Store} (h : (enter σ).Ext σ') : σ.Ext (leave σ') :=
  ⟨h.size, h.frames, h.vecs, h.out, h.ticks, congrArg (· - 1) h.depth, Nat.le_trans (Nat.le_max_left ..) h.maxDepth⟩

theorem Ext.dExt {σ σ' : Store} (h : σ.Ext σ') : σ.DExt σ' := ⟨h.size, h.frames, h.vecs, h.out, h.ticks⟩
theorem DExt.refl (σ : Store) : σ.DExt σ := ⟨Nat.le_refl _, fun _ _ => rfl, rfl, rfl, rfl⟩
theorem DExt.trans {σ₁ σ₂ σ₃ : Store} (h₁ : σ₁.DExt σ₂) (h₂ : σ₂.DExt σ₃) : σ₁.DExt σ₃ :=
  have f := FramesExt.trans ⟨h₁.size, h₁.frames⟩ ⟨h₂.size, h₂.frames⟩
  ⟨f.size, f.frames, h₂.vecs.trans h₁.vecs, h₂.out.trans h₁.out, h₂.ticks.trans h₁.ticks⟩
theorem Ext.trans {σ₁ σ₂ σ₃ : Store} (h₁ : σ₁.Ext σ₂) (h₂ : σ₂.Ext σ₃) : σ₁.Ext σ₃ :=
  have d := h₁.dExt.trans h₂.dExt
  ⟨d.size, d.frames, d.vecs, d.out, d.ticks, h₂.depth.trans h₁.depth, Nat.le_trans h₁.maxDepth h₂.maxDepth⟩
theorem DExt.framesExt {σ σ' : Store} (h : σ.DExt σ') : σ.FramesExt σ' := ⟨h.size, h.frames⟩
theorem dExt_enter (σ : Store) : σ.DExt (enter σ) := ⟨Nat.le_refl _, fun _ _ => rfl, rfl, rfl, rfl⟩
theorem dExt_leave (σ : Store) : σ.DExt (leave σ) := ⟨Nat.le_refl _, fun _ _ => rfl, rfl, rfl, rfl⟩

theorem Keeps.of_framesExt {σ σ' : Store} (h : σ.FramesExt σ') (b N : Nat) : σ.Keeps b N σ' :=
  ⟨h.size, fun i hi _ => h.frames i hi⟩
theorem Keeps.trans {b N : Nat} {σ₁ σ₂ σ₃ : Store} (h₁ : σ₁.Keeps b N σ₂) (h₂ : σ₂.Keeps b N σ₃) : σ₁.Keeps b N σ₃ where
  size := Nat.le_trans h₁.size h₂.size
  frames i hi hc := (h₂.frames i (Nat.lt_of_lt_of_le hi h₁.size) hc).trans (h₁.frames i hi hc)

/-! ### `Grows` -/

theorem Grows.trans {σ₁ σ₂ σ₃ : Store} (h₁ : Grows σ₁ σ₂) (h₂ : Grows σ₂ σ₃) : Grows σ₁ σ₃ where
  frames_size := Nat.le_trans h₁.frames_size h₂.frames_size
  vecs_size := Nat.le_trans h₁.vecs_size h₂.vecs_size
  frame := fun i f h => by
    obtain ⟨f₂, hf₂, hp₂, hk₂⟩ := h₁.frame i f h
    obtain ⟨f₃, hf₃, hp₃, hk₃⟩ := h₂.frame i f₂ hf₂
    exact ⟨f₃, hf₃, hp₃.trans hp₂, fun k hk => hk₃ k (hk₂ k hk)⟩
  cell := fun i c h => by
    obtain ⟨c₂, hc₂, hm₂, hl₂, hi₂⟩ := h₁.cell i c h
    obtain ⟨c₃, hc₃, hm₃, hl₃, hi₃⟩ := h₂.cell i c₂ hc₂
    refine ⟨c₃, hc₃, hm₃.trans hm₂, hl₃.trans hl₂, fun hc => ?_⟩
    have := hi₂ hc
    subst this
    exact hi₃ hc

theorem Grows.of_old {σ σ' : Store} (hf : σ.FramesExt σ') (hs : σ.vecs.size ≤ σ'.vecs.size)
    (hv : ∀ i, i < σ.vecs.size → σ'.vecs[i]? = σ.vecs[i]?) : Grows σ σ' where
  frames_size := hf.size
  vecs_size := hs
  frame := fun i f h => ⟨f, (hf.frames i (getElem?_some_lt h)).trans h, rfl, fun _ h => h⟩
  cell := fun i c h => ⟨c, (hv i (getElem?_some_lt h)).trans h, rfl, rfl, fun _ => rfl⟩

theorem Grows.of_eq {σ σ' : Store} (hf : σ'.frames = σ.frames) (hv : σ'.vecs = σ.vecs) : Grows σ σ' :=
  .of_old (.of_frames_eq hf) (hv ▸ Nat.le_refl _) fun _ _ => by rw [hv]

theorem Grows.refl (σ : Store) : Grows σ σ := .of_eq rfl rfl

theorem grows_define (σ : Store) (ρ : Nat) (k : String) (v : Value) : Grows σ (σ.define ρ k v) where
  frames_size := by simp
  vecs_size := by simp
  frame := fun i f h => by
    rw [define_frames_getElem?, h]
    split
    · refine ⟨_, rfl, rfl, fun y hy => ?_⟩
      rw [Assoc.lookup_defsInsert]
      split
      · rfl
      · exact hy
    · exact ⟨f, rfl, rfl, fun _ h => h⟩
  cell := fun _ c h => ⟨c, by simpa using h, rfl, rfl, fun _ => rfl⟩

theorem grows_newFrame (σ : Store) (p : Option Nat) : Grows σ (σ.newFrame p).2 :=
  .of_old (framesExt_push σ _) (Nat.le_refl _) fun _ _ => rfl

theorem grows_allocVec (σ : Store) (m : Bool) (items : List Value) : Grows σ (σ.allocVec m items).2 :=
  .of_old (.of_frames_eq rfl) (Array.size_push _ ▸ Nat.le_succ _) fun _ => getElem?_push_old _

theorem AllocIn.grows {σ σ' : Store} {v : Value} (h : σ.AllocIn v) (g : Grows σ σ') : σ'.AllocIn v :=
  Value.Below.mono h g.frames_size g.vecs_size

theorem definesAt_grows {σ σ' : Store} {ρ : Nat} {x : String} (g : Grows σ σ')
    (hd : σ.definesAt ρ x = true) : σ'.definesAt ρ x = true := by
  cases hf : σ.frames[ρ]? with
  | none => simp [definesAt, binding, hf] at hd
  | some f =>
    obtain ⟨f', hf', -, hk⟩ := g.frame ρ f hf
    unfold definesAt at hd ⊢
    rw [binding_of_frame hf] at hd
    rw [binding_of_frame hf']
    exact hk x hd

/-! ## a property of every stored value (`SIn`, `ValsSafe` and the value clauses of `WF` are of this form) -/

structure All (Q : Value → Prop) (σ : Store) : Prop where
  frame : ∀ (i : Nat) (f : Frame), σ.frames[i]? = some f → ∀ kv ∈ f.defs, Q kv.2
  cell : ∀ (i : Nat) (c : VecCell), σ.vecs[i]? = some c → ∀ v ∈ c.items, Q v

namespace All
variable {Q : Value → Prop} {σ : Store} (h : σ.All Q)
include h

theorem of_eq {σ' : Store} (hf : σ'.frames = σ.frames) (hv : σ'.vecs = σ.vecs) : σ'.All Q :=
  ⟨by rw [hf]; exact h.frame, by rw [hv]; exact h.cell⟩

theorem mono {Q' : Value → Prop} (hq : ∀ v, Q v → Q' v) : σ.All Q' :=
  ⟨fun i f hf kv hkv => hq _ (h.frame i f hf kv hkv), fun i c hc v hv => hq _ (h.cell i c hc v hv)⟩

theorem define (ρ : Nat) (k : String) {v : Value} (hv : Q v) : (σ.define ρ k v).All Q := by
  refine ⟨fun i f hf kv hkv => ?_, by rw [define_vecs]; exact h.cell⟩
  rw [define_frames_getElem?] at hf
  split at hf
  · obtain ⟨g, hg, rfl⟩ := Option.map_eq_some_iff.1 hf
    exact (Assoc.mem_defsInsert hkv).elim (· ▸ hv) (h.frame i g hg kv)
  · exact h.frame i f hf kv hkv

theorem newFrame (p : Option Nat) : (σ.newFrame p).2.All Q := by
  refine ⟨fun i f hf kv hkv => ?_, h.cell⟩
  simp only [Store.newFrame, Array.getElem?_push] at hf
  split at hf
  · cases hf; simp at hkv
  · exact h.frame i f hf kv hkv

theorem allocVec (m : Bool) {items : List Value} (hi : ∀ v ∈ items, Q v) : (σ.allocVec m items).2.All Q := by
  refine ⟨h.frame, fun i c hc v hv => ?_⟩
  simp only [Store.allocVec, Array.getElem?_push] at hc
  split at hc
  · cases hc; exact hi v hv
  · exact h.cell i c hc v hv

theorem lookup {ρ : Nat} {s : String} {v : Value} (hl : σ.lookup ρ s = some v) : Q v := by
  rw [lookup_eq_findSome] at hl
  obtain ⟨r, -, hb⟩ := List.exists_of_findSome?_eq_some hl
  unfold binding at hb
  cases hf : σ.frames[r]? with
  | none => rw [hf] at hb; cases hb
  | some f => rw [hf] at hb; exact h.frame r f hf (s, v) (Assoc.mem_of_lookup hb)

end All

/-! ## `WF` -/

theorem All.root {Q : Value → Prop} : Store.root.All Q where
  frame := fun i f h kv hkv => by
    rcases i with _ | i
    · cases h; cases hkv
    · cases h
  cell := fun i c h => by cases h

theorem wf_root : Store.root.WF where
  parent_lt := fun i f h p hp => by
    rcases i with _ | i
    · cases h; cases hp
    · cases h
  frame_vals := All.root.frame
  vec_vals := All.root.cell

theorem WF.all {σ : Store} (h : σ.WF) : σ.All σ.AllocIn := ⟨h.frame_vals, h.vec_vals⟩

theorem WF.of_all {σ σ' : Store}
    (hp : ∀ (i : Nat) (f : Frame), σ'.frames[i]? = some f → ∀ p, f.parent = some p → p < i)
    (a : σ'.All σ.AllocIn) (hf : σ.frames.size ≤ σ'.frames.size) (hv : σ.vecs.size ≤ σ'.vecs.size) : σ'.WF :=
  ⟨hp, fun i f h kv hkv => (a.frame i f h kv hkv).mono hf hv, fun i c h v hv' => (a.cell i c h v hv').mono hf hv⟩

theorem wf_define {σ : Store} (h : σ.WF) (ρ : Nat) (k : String) {v : Value} (hv : σ.AllocIn v) :
    (σ.define ρ k v).WF :=
  .of_all (parent_lt_iff.mpr fun i p hp => parent_lt_iff.mp h.parent_lt i p (parentOf_define σ ρ k v i ▸ hp))
    (h.all.define ρ k hv) (grows_define σ ρ k v).frames_size (grows_define σ ρ k v).vecs_size

theorem wf_newFrame {σ : Store} (h : σ.WF) (parent : Option Nat)
    (hp : ∀ p, parent = some p → p < σ.frames.size) : (σ.newFrame parent).2.WF := by
  refine .of_all (fun i f hf p hpp => ?_) (h.all.newFrame parent) (grows_newFrame σ parent).frames_size
    (Nat.le_refl _)
  simp only [newFrame_frames, Array.getElem?_push] at hf
  split at hf
  · cases hf
    rename_i hi
    subst hi
    exact hp p hpp
  · exact h.parent_lt i f hf p hpp

theorem wf_allocVec {σ : Store} (h : σ.WF) (m : Bool) {items : List Value}
    (hi : ∀ v ∈ items, σ.AllocIn v) : (σ.allocVec m items).2.WF :=
  .of_all h.parent_lt (h.all.allocVec m hi) (Nat.le_refl _) (grows_allocVec σ m items).vecs_size

theorem allocIn_allocVec (σ : Store) (m : Bool) (items : List Value) :
    (σ.allocVec m items).2.AllocIn (σ.allocVec m items).1 := by
  simp [AllocIn]

end Store

namespace Eval

theorem allocIn_of_eq {σ σ' : Store} (hf : σ'.frames = σ.frames) (hv : σ'.vecs = σ.vecs) (v : Value) :
    σ'.AllocIn v ↔ σ.AllocIn v := by unfold Store.AllocIn; rw [hf, hv]

theorem wf_of_eq {σ σ' : Store} (wf : σ.WF) (hf : σ'.frames = σ.frames) (hv : σ'.vecs = σ.vecs) : σ'.WF :=
  .of_all (hf ▸ wf.parent_lt) (wf.all.of_eq hf hv) (hf ▸ Nat.le_refl _) (hv ▸ Nat.le_refl _)

end Eval

namespace Store

theorem demo_wf : demo.WF := by
  refine ⟨fun i f h p hp => ?_, fun i f h kv hkv => ?_, fun i c h v hv => ?_⟩
  · have hi : i < 4 := Store.getElem?_some_lt h
    have : i = 0 ∨ i = 1 ∨ i = 2 ∨ i = 3 := by omega
    rcases this with rfl | rfl | rfl | rfl <;> simp [demo] at h <;> subst h <;> simp at hp <;> omega
  · have hi : i < 4 := Store.getElem?_some_lt h
    have : i = 0 ∨ i = 1 ∨ i = 2 ∨ i = 3 := by omega
    rcases this with rfl | rfl | rfl | rfl <;> simp [demo] at h <;> subst h <;>
      simp at hkv <;> (try rcases hkv with rfl | rfl) <;> (try subst hkv) <;>
      simp [Store.AllocIn, demo]
  · have hi : i < 2 := Store.getElem?_some_lt h
    have : i = 0 ∨ i = 1 := by omega
    rcases this with rfl | rfl <;> simp [demo] at h <;> subst h <;>
      simp at hv <;> (try rcases hv with rfl | rfl) <;> (try subst hv) <;>
      simp [Store.AllocIn, demo]

end Store

/-! ## native procedures: `Grows`, `All`, `WF` -/

namespace Prim

theorem grows_vsetStore {σ : Store} {id : Nat} {cell : VecCell} (hc : σ.vecs[id]? = some cell)
    (hm : cell.mutable = true) (n : Nat) (obj : Value) : Store.Grows σ (vsetStore σ id cell n obj) where
  frames_size := Nat.le_refl _
  vecs_size := Nat.le_of_eq (sameExceptCell_vsetStore hc n obj).vecs_size.symm
  frame := fun _ f h => ⟨f, h, rfl, fun _ h => h⟩
  cell := fun i c h => by
    by_cases hi : i = id
    · subst hi; cases hc.symm.trans h
      exact ⟨_, vsetStore_vecs_self hc n obj, rfl, List.length_set, fun hf => by rw [hm] at hf; cases hf⟩
    · exact ⟨c, ((sameExceptCell_vsetStore hc n obj).other_cells i hi).trans h, rfl, rfl, fun _ => rfl⟩

theorem _root_.Ruschm.Store.All.vsetStore {Q : Value → Prop} {σ : Store} (h : σ.All Q) {id : Nat} {cell : VecCell}
    (hc : σ.vecs[id]? = some cell) (n : Nat) {obj : Value} (ho : Q obj) : (vsetStore σ id cell n obj).All Q := by
  refine ⟨h.frame, fun j c hj v hv => ?_⟩
  by_cases hi : j = id
  · subst hi; cases (vsetStore_vecs_self hc n obj).symm.trans hj
    exact (List.mem_or_eq_of_mem_set hv).elim (h.cell j cell hc v) (· ▸ ho)
  · exact h.cell j c (((sameExceptCell_vsetStore hc n obj).other_cells j hi).symm.trans hj) v hv

theorem applyPure_grows (σ : Store) (b : Builtin) (args : List Value) :
    Store.Grows σ (applyPure σ b args).2 := by
  obtain ⟨r, e, h, heq⟩ := applyPure_outcome σ b args
  rw [heq]
  cases h with
  | alloc _ => exact Store.grows_allocVec ..
  | set _ hc hm _ _ => exact grows_vsetStore hc hm _ _
  | void he | arg _ he => exact .of_eq (Eff.run_frames ..) (Eff.run_vecs he _)
  | _ => exact .refl σ

end Prim

/-! ### the primitive steps of the evaluator respect `Grows` -/

theorem Eval.stepRel_grows : Eval.StepRel Store.Grows where
  refl := Store.Grows.refl
  trans := Store.Grows.trans
  define := Store.grows_define
  newFrame := Store.grows_newFrame
  allocVec := Store.grows_allocVec
  applyPure := Prim.applyPure_grows
  bracket := fun {σ σ₁} g =>
    ((Store.Grows.of_eq (σ := σ) (σ' := enter σ) rfl rfl).trans g).trans (Store.Grows.of_eq (σ' := leave σ₁) rfl rfl)

namespace Prim

theorem _root_.Ruschm.Store.All.applyPure {Q : Value → Prop} {σ : Store} (h : σ.All Q) (b : Builtin)
    {args : List Value} (ha : ∀ a ∈ args, Q a) : (applyPure σ b args).2.All Q := by
  obtain ⟨r, e, ho, heq⟩ := applyPure_outcome σ b args
  rw [heq]
  cases ho with
  | alloc hi => exact h.allocVec true fun v hv => ha _ (hi v hv)
  | set _ hc _ _ ho => exact h.vsetStore hc _ (ha _ ho)
  | void he | arg _ he => exact h.of_eq (Eff.run_frames ..) (Eff.run_vecs he _)
  | _ => exact h

/-- what a native procedure needs of `V` (values, in the store they live in) and of the numbers `I` among them;
compare `LitInv` for literals -/
structure PrimInv (V : Store → Value → Prop) (I : Num → Prop) : Prop where
  mono : ∀ {σ σ' v}, Store.Grows σ σ' → V σ v → V σ' v
  pair : ∀ {σ a d}, V σ (.pair a d) ↔ V σ a ∧ V σ d
  num : ∀ {σ n}, V σ (.num n) ↔ I n
  bool : ∀ σ b, V σ (.bool b)
  void : ∀ σ, V σ .void
  vec : ∀ (σ : Store) m items, V (σ.allocVec m items).2 (σ.allocVec m items).1

theorem applyPure_all {V : Store → Value → Prop} {I : Num → Prop} {P : Err → Prop} (h : PrimInv V I)
    (T : Num.TowerInv I P) {σ : Store} (hσ : σ.All (V σ)) (b : Builtin) {args : List Value} (ha : ∀ a ∈ args, V σ a) :
    (applyPure σ b args).2.All (V (applyPure σ b args).2) ∧
      ∀ v, (applyPure σ b args).1 = .ok v → V (applyPure σ b args).2 v := by
  have g := applyPure_grows σ b args
  refine ⟨(hσ.applyPure b ha).mono fun _ => h.mono g, fun v hv => ?_⟩
  obtain ⟨r, e, ho, heq⟩ := applyPure_outcome σ b args
  rw [heq] at hv g ⊢
  cases ho with
  | err _ => cases hv
  | num _ n hn => cases hv; exact h.num.2 (hn T fun m hm => h.num.1 (ha _ hm))
  | int i => cases hv; exact h.num.2 (T.int i)
  | bool x => cases hv; exact h.bool _ x
  | void _ | set _ _ _ _ _ => cases hv; exact h.void _
  | part hm hx => cases hv; have := h.pair.1 (ha _ hm); exact h.mono g (hx.elim (· ▸ this.1) (· ▸ this.2))
  | arg hm _ => cases hv; exact h.mono g (ha _ hm)
  | cons hx hy => cases hv; exact h.pair.2 ⟨h.mono g (ha _ hx), h.mono g (ha _ hy)⟩
  | item _ hc hx => cases hv; exact h.mono g (hσ.cell _ _ hc _ hx)
  | alloc _ => cases hv; exact h.vec σ true _

theorem primInv_alloc : PrimInv Store.AllocIn fun _ => True :=
  ⟨fun g h => h.grows g, Value.below_pair, iff_true_intro Value.below_num, fun _ _ => Value.below_bool,
    fun _ => Value.below_void, Store.allocIn_allocVec⟩

theorem applyPure_wf {σ : Store} (wf : σ.WF) (b : Builtin) {args : List Value}
    (ha : ∀ a ∈ args, σ.AllocIn a) :
    (applyPure σ b args).2.WF ∧ ∀ v, (applyPure σ b args).1 = .ok v → (applyPure σ b args).2.AllocIn v :=
  have h := applyPure_all primInv_alloc Num.towerInv_true wf.all b ha
  ⟨⟨applyPure_frames σ b args ▸ wf.parent_lt, h.1.frame, h.1.cell⟩, h.2⟩

end Prim

/-! ## literals -/

namespace Eval

/-- what reading a literal does to the store -/
def LitStep (σ σ' : Store) : Prop :=
  ∃ cells : Array VecCell, σ' = { σ with vecs := σ.vecs ++ cells } ∧ ∀ c ∈ cells, c.mutable = false

theorem LitStep.refl (σ : Store) : LitStep σ σ := ⟨#[], by simp, by simp⟩

theorem LitStep.trans {σ₁ σ₂ σ₃ : Store} (h₁ : LitStep σ₁ σ₂) (h₂ : LitStep σ₂ σ₃) : LitStep σ₁ σ₃ := by
  obtain ⟨c₁, rfl, hc₁⟩ := h₁
  obtain ⟨c₂, rfl, hc₂⟩ := h₂
  refine ⟨c₁ ++ c₂, by simp [Array.append_assoc], fun c hc => ?_⟩
  rcases Array.mem_append.1 hc with h | h
  · exact hc₁ c h
  · exact hc₂ c h

theorem LitStep.allocVec (σ : Store) (items : List Value) : LitStep σ (σ.allocVec false items).2 :=
  ⟨#[{ mutable := false, items := items }], by simp [Store.allocVec], by simp⟩

theorem LitStep.grows {σ σ' : Store} (h : LitStep σ σ') : Store.Grows σ σ' := by
  obtain ⟨cells, rfl, _⟩ := h
  exact .of_old (.of_frames_eq rfl) (Array.size_append ▸ Nat.le_add_right ..) fun _ => Array.getElem?_append_left

theorem LitStep.old_cells {σ σ' : Store} (h : LitStep σ σ') {i : Nat} (hi : i < σ.vecs.size) :
    σ'.vecs[i]? = σ.vecs[i]? := by
  obtain ⟨cells, rfl, _⟩ := h
  simp only
  rw [Array.getElem?_append_left hi]

theorem LitStep.new_cells {σ σ' : Store} (h : LitStep σ σ') {i : Nat} {c : VecCell}
    (hc : σ'.vecs[i]? = some c) (hi : σ.vecs.size ≤ i) : c.mutable = false := by
  obtain ⟨cells, rfl, him⟩ := h
  simp only at hc
  rw [Array.getElem?_append_right hi] at hc
  exact him c (Array.mem_of_getElem? hc)

theorem LitStep.frames {σ σ' : Store} (h : LitStep σ σ') : σ'.frames = σ.frames := by
  obtain ⟨cells, rfl, _⟩ := h; rfl

theorem LitStep.out {σ σ' : Store} (h : LitStep σ σ') : σ'.out = σ.out := by
  obtain ⟨cells, rfl, _⟩ := h; rfl

theorem LitStep.ticks {σ σ' : Store} (h : LitStep σ σ') : σ'.ticks = σ.ticks := by
  obtain ⟨cells, rfl, _⟩ := h; rfl

theorem readLiteral_litStep (σ : Store) (d : Datum) : LitStep σ (readLiteral σ d).2 :=
  readLiteral_rel LitStep.refl LitStep.trans LitStep.allocVec d σ

/-- what the walk over a literal needs of `V` (values, in the store they live in), `E` (errors) and `D` (the data read) -/
structure LitInv (V : Store → Value → Prop) (E : SErr → Prop) (D : Datum → Prop) : Prop where
  mono : ∀ {σ σ' v}, Store.Grows σ σ' → V σ v → V σ' v
  pair : ∀ {σ a d}, V σ a → V σ d → V σ (.pair a d)
  sym : ∀ σ s, V σ (.sym s)
  nil : ∀ σ, V σ .nil
  vec : ∀ (σ : Store) items, V (σ.allocVec false items).2 (σ.allocVec false items).1
  prim : ∀ {p l}, D (.prim p l) →
    (∀ v, evalPrim p = .ok v → ∀ σ, V σ v) ∧ ∀ e, evalPrim p = .error e → E (e, none)
  dpair : ∀ {a d l}, D (.pair a d l) → D a ∧ D d
  dvec : ∀ {xs l}, D (.vec xs l) → ∀ x ∈ xs, D x

section
variable {V : Store → Value → Prop} {E : SErr → Prop} {D : Datum → Prop}

mutual
theorem readLiteral_ends (h : LitInv V E D) : ∀ (d : Datum) (σ : Store), D d → σ.All (V σ) →
    EndsFrom Store.Grows (fun σ => σ.All (V σ)) E V σ (readLiteral σ d)
  | .prim p _, σ, hd, hσ => by
    rw [readLiteral]
    split
    · rename_i v hv; exact .ofOk hσ ((h.prim hd).1 v hv σ) (.refl σ)
    · rename_i er he; exact .ofErr hσ ((h.prim hd).2 er he) (.refl σ)
  | .sym s _, σ, _, hσ => by rw [readLiteral]; exact .ofOk hσ (h.sym σ s) (.refl σ)
  | .nil _, σ, _, hσ => by rw [readLiteral]; exact .ofOk hσ (h.nil σ) (.refl σ)
  | .pair a d _, σ, hd, hσ => by
    rw [readLiteral_pair]
    exact (readLiteral_ends h a σ (h.dpair hd).1 hσ).andThen Store.Grows.trans fun va σ₁ h₁ hva _ =>
      (readLiteral_ends h d σ₁ (h.dpair hd).2 h₁).andThen Store.Grows.trans fun vd σ₂ h₂ hvd g =>
        .ofOk h₂ (h.pair (h.mono g hva) hvd) (.refl σ₂)
  | .vec xs _, σ, hd, hσ => by
    rw [readLiteral_vec_eq]
    exact (readLiterals_ends h xs σ (h.dvec hd) hσ).andThen Store.Grows.trans fun vs σ₁ h₁ hvs _ =>
      .ofOk ((h₁.allocVec false hvs).mono fun _ => h.mono (Store.grows_allocVec σ₁ false vs)) (h.vec σ₁ vs)
        (Store.grows_allocVec σ₁ false vs)
theorem readLiterals_ends (h : LitInv V E D) : ∀ (ds : List Datum) (σ : Store), (∀ x ∈ ds, D x) → σ.All (V σ) →
    EndsFrom Store.Grows (fun σ => σ.All (V σ)) E (fun σ vs => ∀ v ∈ vs, V σ v) σ (readLiterals σ ds)
  | [], σ, _, hσ => by rw [readLiterals]; exact .ofOk hσ (fun _ hw => nomatch hw) (.refl σ)
  | x :: xs, σ, hd, hσ => by
    rw [readLiterals_cons]
    exact (readLiteral_ends h x σ (hd x (List.mem_cons_self ..)) hσ).andThen Store.Grows.trans fun v σ₁ h₁ hv _ =>
      (readLiterals_ends h xs σ₁ (fun y hy => hd y (List.mem_cons_of_mem _ hy)) h₁).andThen Store.Grows.trans
        fun vs σ₂ h₂ hvs g => .ofOk h₂ (List.forall_mem_cons.2 ⟨h.mono g hv, hvs⟩) (.refl σ₂)
end

theorem readLiteral_all (h : LitInv V E D) (d : Datum) (σ : Store) {r σ'} (hr : readLiteral σ d = (r, σ')) (hd : D d)
    (hσ : σ.All (V σ)) : σ'.All (V σ') ∧ (∀ v, r = .ok v → V σ' v) ∧ ∀ e, r = .error e → E e :=
  (readLiteral_ends h d σ hd hσ).toEnds.of_eq hr
theorem readLiterals_all (h : LitInv V E D) (ds : List Datum) (σ : Store) {r σ'} (hr : readLiterals σ ds = (r, σ'))
    (hd : ∀ x ∈ ds, D x) (hσ : σ.All (V σ)) :
    σ'.All (V σ') ∧ (∀ vs, r = .ok vs → ∀ v ∈ vs, V σ' v) ∧ ∀ e, r = .error e → E e :=
  (readLiterals_ends h ds σ hd hσ).toEnds.of_eq hr

end

theorem evalPrim_val {Q : Value → Prop} (hc : ∀ c, Q (.char c)) (hs : ∀ s, Q (.str s)) (hb : ∀ b, Q (.bool b))
    (hn : ∀ n, Q (.num n)) {p : Prim} {v : Value} (h : evalPrim p = .ok v) : Q v := by
  cases p with
  | rat n d =>
    rw [evalPrim] at h
    cases hq : Num.exactRatio n d with
    | error e => rw [hq] at h; cases h
    | ok r => rw [hq] at h; cases h; exact hn r
  | _ => cases h; first | exact hc _ | exact hs _ | exact hb _ | exact hn _

theorem evalPrim_alloc {p : Prim} {v : Value} (h : evalPrim p = .ok v) (σ : Store) : σ.AllocIn v :=
  evalPrim_val (fun _ => Value.below_char) (fun _ => Value.below_str) (fun _ => Value.below_bool)
    (fun _ => Value.below_num) h

theorem readLiteral_wf {σ : Store} (wf : σ.WF) (d : Datum) :
    (readLiteral σ d).2.WF ∧ ∀ v, (readLiteral σ d).1 = .ok v → (readLiteral σ d).2.AllocIn v :=
  have inv : LitInv Store.AllocIn (fun _ => True) (fun _ => True) :=
    { mono := fun g h => h.grows g
      pair := fun ha hd => Value.below_pair.2 ⟨ha, hd⟩
      sym := fun _ _ => Value.below_sym
      nil := fun _ => Value.below_nil
      vec := fun σ items => Store.allocIn_allocVec σ false items
      prim := fun _ => ⟨fun _ h σ => evalPrim_alloc h σ, fun _ _ => trivial⟩
      dpair := fun _ => ⟨trivial, trivial⟩
      dvec := fun _ _ _ => trivial }
  have h := readLiteral_all inv d σ rfl trivial wf.all
  ⟨⟨(readLiteral_litStep σ d).frames ▸ wf.parent_lt, h.1.frame, h.1.cell⟩, h.2.1⟩

theorem readLiteral_vec {σ : Store} {xs : List Datum} {l : Loc} {v : Value} {σ' : Store}
    (h : readLiteral σ (.vec xs l) = (.ok v, σ')) :
    ∃ id vs, v = .vec id ∧ σ.vecs.size ≤ id ∧ σ'.vecs.size = id + 1 ∧
      σ'.vecs[id]? = some { mutable := false, items := vs } := by
  rw [readLiteral_vec_eq] at h
  obtain ⟨vs, σ₁, h₁, h⟩ := andThen_value h
  cases h
  have hx := readLiterals_rel LitStep.refl LitStep.trans LitStep.allocVec xs σ
  rw [h₁] at hx
  exact ⟨σ₁.vecs.size, vs, rfl, hx.grows.vecs_size, by simp, by simp⟩

end Eval

/-! ## the evaluator only ever appends: `Grows` -/

namespace Eval
open Store

structure GrowsAt (fuel : Nat) : Prop where
  expr : ∀ σ ρ e, Grows σ (evalExpr fuel σ ρ e).2
  args : ∀ σ ρ es, Grows σ (evalArgs fuel σ ρ es).2
  proc : ∀ σ p args env, Grows σ (applyProcedure fuel σ p args env).2
  loop : ∀ σ p args env, Grows σ (applyLoop fuel σ p args env).2
  scheme : ∀ σ lam cenv args, Grows σ (applyScheme fuel σ lam cenv args).2
  defs : ∀ σ ρ ds, Grows σ (evalDefs fuel σ ρ ds).2
  body : ∀ σ ρ es, Grows σ (evalBody fuel σ ρ es).2
  tail : ∀ σ ρ e, Grows σ (evalTail fuel σ ρ e).2

section rules
variable {fuel : Nat} (ih : GrowsAt fuel) {σ₀ σ σ' : Store}
include ih

theorem GrowsAt.expr_snd {ρ e} (g : Grows σ₀ σ) : Grows σ₀ (evalExpr fuel σ ρ e).2 := g.trans (ih.expr ..)
theorem GrowsAt.args_snd {ρ e} (g : Grows σ₀ σ) : Grows σ₀ (evalArgs fuel σ ρ e).2 := g.trans (ih.args ..)
theorem GrowsAt.loop_snd {p a env} (g : Grows σ₀ σ) : Grows σ₀ (applyLoop fuel σ p a env).2 := g.trans (ih.loop ..)
theorem GrowsAt.defs_snd {ρ ds} (g : Grows σ₀ σ) : Grows σ₀ (evalDefs fuel σ ρ ds).2 := g.trans (ih.defs ..)
end rules

theorem growsAt (fuel : Nat) : GrowsAt fuel :=
  have h := stepRel_grows.eval fuel
  ⟨h.expr, h.args, h.proc, h.loop, h.scheme, h.defs, h.body, h.tail⟩

theorem evalExpr_grows (fuel σ ρ e) : Grows σ (evalExpr fuel σ ρ e).2 := (growsAt fuel).expr σ ρ e
theorem applyProcedure_grows (fuel σ p args env) : Grows σ (applyProcedure fuel σ p args env).2 :=
  (growsAt fuel).proc σ p args env
theorem applyLoop_grows (fuel σ p args env) : Grows σ (applyLoop fuel σ p args env).2 :=
  (growsAt fuel).loop σ p args env
theorem applyScheme_grows (fuel σ lam cenv args) : Grows σ (applyScheme fuel σ lam cenv args).2 :=
  (growsAt fuel).scheme σ lam cenv args
theorem evalDefs_grows (fuel σ ρ ds) : Grows σ (evalDefs fuel σ ρ ds).2 := (growsAt fuel).defs σ ρ ds
theorem evalBody_grows (fuel σ ρ es) : Grows σ (evalBody fuel σ ρ es).2 := (growsAt fuel).body σ ρ es
theorem evalTail_grows (fuel σ ρ e) : Grows σ (evalTail fuel σ ρ e).2 := (growsAt fuel).tail σ ρ e

theorem applyScheme_succ_grows (fuel : Nat) (σ : Store) (lam : Lambda) (cenv : Nat) (args : List Value) :
    Grows (σ.newFrame (some cenv)).2 (applyScheme (fuel + 1) σ lam cenv args).2 :=
  stepRel_grows.scheme_succ fuel σ lam cenv args

end Eval

/-! ## the evaluator preserves `WF` -/

namespace Eval
open Store

def AllocAll (σ : Store) (vs : List Value) : Prop := ∀ v ∈ vs, σ.AllocIn v

structure WFAt (fuel : Nat) : Prop where
  expr : ∀ σ ρ e r σ', evalExpr fuel σ ρ e = (r, σ') → σ.WF → ρ < σ.frames.size →
    σ'.WF ∧ ∀ v, r = .ok v → σ'.AllocIn v
  args : ∀ σ ρ es r σ', evalArgs fuel σ ρ es = (r, σ') → σ.WF → ρ < σ.frames.size →
    σ'.WF ∧ ∀ vs, r = .ok vs → AllocAll σ' vs
  proc : ∀ σ p as env r σ', applyProcedure fuel σ p as env = (r, σ') → σ.WF → σ.AllocIn p →
    AllocAll σ as → σ'.WF ∧ ∀ v, r = .ok v → σ'.AllocIn v
  loop : ∀ σ p as env r σ', applyLoop fuel σ p as env = (r, σ') → σ.WF → σ.AllocIn p →
    AllocAll σ as → σ'.WF ∧ ∀ v, r = .ok v → σ'.AllocIn v
  scheme : ∀ σ lam cenv as r σ', applyScheme fuel σ lam cenv as = (r, σ') → σ.WF → cenv < σ.frames.size →
    AllocAll σ as → σ'.WF ∧ ∀ t, r = .ok t → TailRes.AllocIn σ' t
  defs : ∀ σ ρ ds r σ', evalDefs fuel σ ρ ds = (r, σ') → σ.WF → ρ < σ.frames.size → σ'.WF
  body : ∀ σ ρ es r σ', evalBody fuel σ ρ es = (r, σ') → σ.WF → ρ < σ.frames.size →
    σ'.WF ∧ ∀ t, r = .ok t → TailRes.AllocIn σ' t
  tail : ∀ σ ρ e r σ', evalTail fuel σ ρ e = (r, σ') → σ.WF → ρ < σ.frames.size →
    σ'.WF ∧ ∀ t, r = .ok t → TailRes.AllocIn σ' t

theorem lt_grows {σ σ' : Store} {ρ : Nat} (h : ρ < σ.frames.size) (g : Grows σ σ') : ρ < σ'.frames.size :=
  Nat.lt_of_lt_of_le h g.frames_size

@[reducible] def wfInv : EvalInv where
  G := Grows
  I := Store.WF
  V := Store.AllocIn
  Env := fun σ ρ => ρ < σ.frames.size
  C := fun _ => True
  CL := fun _ => True
  Err := fun _ => True

theorem wfInv_sound : wfInv.Sound where
  rel := stepRel_grows
  V_mono := fun g h => h.grows g
  Env_mono := fun g h => lt_grows h g
  of_eq := fun hf hv => ⟨fun wf => wf_of_eq wf hf hv, fun v => (allocIn_of_eq hf hv v).2⟩
  lookup := fun wf h => wf.all.lookup h
  define := fun wf hv ρ k => wf_define wf ρ k hv
  newFrame := fun wf hc => ⟨wf_newFrame wf _ (fun p hp => by cases hp; exact hc), newFrame_lt ..⟩
  prim := fun _ => ⟨fun _ h σ => evalPrim_alloc h σ, fun _ _ => trivial⟩
  lit := fun _ wf => ⟨(readLiteral_wf wf _).1, (readLiteral_wf wf _).2, fun _ _ => trivial⟩
  applyPure := fun wf ha _ _ => ⟨(Prim.applyPure_wf wf _ ha).1, (Prim.applyPure_wf wf _ ha).2, fun _ _ => trivial⟩
  V_pair := Value.below_pair
  V_nil := Value.below_nil
  V_void := Value.below_void
  V_closure := by simp [Store.AllocIn]
  err := fun _ _ => trivial
  call := fun _ => ⟨trivial, fun _ _ => trivial, trivial⟩
  assign := fun _ => ⟨trivial, trivial⟩
  cond := fun _ => ⟨trivial, trivial, fun _ _ => trivial⟩
  lambda := fun _ => trivial
  sym := fun _ => trivial
  lam := fun _ => ⟨fun _ _ _ _ => trivial, fun _ _ => trivial, .inl fun _ => trivial⟩

theorem wfInv_tail {σ : Store} {t : TailRes} (h : wfInv.T σ t) : TailRes.AllocIn σ t := by
  cases t with
  | value v => exact h
  | tailCall f a env => exact h.2.2.2

theorem wfAt (fuel : Nat) : WFAt fuel :=
  have h := wfInv_sound.eval fuel
  have lax : wfInv.Lax := fun _ => trivial
  { expr := fun σ ρ e _ _ he wf hρ =>
      have p := (h.expr σ ρ e wf hρ trivial).toEnds.of_eq he; ⟨p.1, p.2.1⟩
    args := fun σ ρ es _ _ he wf hρ =>
      have p := (h.args σ ρ es wf hρ fun _ _ => trivial).toEnds.of_eq he; ⟨p.1, p.2.1⟩
    proc := fun σ f as env _ _ he wf hf ha =>
      have p := (h.proc σ f as env wf hf ha (.inl lax)).toEnds.of_eq he; ⟨p.1, p.2.1⟩
    loop := fun σ f as env _ _ he wf hf ha =>
      have p := (h.loop σ f as env wf hf ha (.inl lax)).toEnds.of_eq he; ⟨p.1, p.2.1⟩
    scheme := fun σ lam cenv as _ _ he wf hc ha =>
      have p := (h.scheme σ lam cenv as wf hc trivial ha (.inl lax)).toEnds.of_eq he
      ⟨p.1, fun t ht => wfInv_tail (p.2.1 t ht)⟩
    defs := fun σ ρ ds _ _ he wf hρ => ((h.defs σ ρ ds wf hρ fun _ _ _ _ => trivial).toEnds.of_eq he).1
    body := fun σ ρ es _ _ he wf hρ =>
      have p := (h.body σ ρ es wf hρ (fun _ _ => trivial) (.inl lax)).toEnds.of_eq he
      ⟨p.1, fun t ht => wfInv_tail (p.2.1 t ht)⟩
    tail := fun σ ρ e _ _ he wf hρ =>
      have p := (h.tail σ ρ e wf hρ trivial).toEnds.of_eq he; ⟨p.1, fun t ht => wfInv_tail (p.2.1 t ht)⟩ }

theorem evalExpr_wf {fuel σ ρ e} (wf : σ.WF) (hρ : ρ < σ.frames.size) :
    (evalExpr fuel σ ρ e).2.WF ∧ ∀ v, (evalExpr fuel σ ρ e).1 = .ok v → (evalExpr fuel σ ρ e).2.AllocIn v :=
  (wfAt fuel).expr σ ρ e _ _ rfl wf hρ

end Eval

/-! ## maps that do not touch frames and vectors -/

/-- the data-level operations are made of these four writes, so each of them commutes with `g` -/
structure Store.Blind (g : Store → Store) : Prop where
  frames : ∀ σ, (g σ).frames = σ.frames
  vecs : ∀ σ, (g σ).vecs = σ.vecs
  setFrames : ∀ σ F, g { σ with frames := F } = { g σ with frames := F }
  setVecs : ∀ σ V, g { σ with vecs := V } = { g σ with vecs := V }
  out : ∀ σ s, g { σ with out := s :: σ.out } = { g σ with out := s :: (g σ).out }
  ticks : ∀ σ s, g { σ with ticks := s :: σ.ticks } = { g σ with ticks := s :: (g σ).ticks }

namespace Store.Blind
open Eval Prim
variable {g : Store → Store} (hg : Store.Blind g)
include hg

theorem lookup (σ : Store) (ρ : Nat) (k : String) : (g σ).lookup ρ k = σ.lookup ρ k :=
  Store.lookup_of_frames_eq (hg.frames σ) ρ k

theorem resolve (σ : Store) (ρ : Nat) (k : String) : (g σ).resolve ρ k = σ.resolve ρ k :=
  Store.resolve_of_frames_eq (hg.frames σ) ρ k

theorem define (σ : Store) (ρ : Nat) (k : String) (v : Value) : (g σ).define ρ k v = g (σ.define ρ k v) := by
  unfold Store.define
  by_cases h : ρ < σ.frames.size
  · rw [dif_pos h, dif_pos (show ρ < (g σ).frames.size from hg.frames σ ▸ h), hg.frames σ]
    exact (hg.setFrames σ _).symm
  · rw [dif_neg h, dif_neg (show ¬ ρ < (g σ).frames.size from hg.frames σ ▸ h)]

theorem set (σ : Store) (ρ : Nat) (k : String) (v : Value) :
    (g σ).set ρ k v = ((σ.set ρ k v).1, g (σ.set ρ k v).2) := by
  rw [Store.set_eq, Store.set_eq, hg.resolve]
  cases σ.resolve ρ k with
  | none => rfl
  | some r => exact congrArg (Prod.mk true) (hg.define σ r k v)

theorem newFrame (σ : Store) (p : Option Nat) : (g σ).newFrame p = ((σ.newFrame p).1, g (σ.newFrame p).2) := by
  unfold Store.newFrame
  rw [hg.frames σ]
  exact congrArg (Prod.mk _) (hg.setFrames σ _).symm

theorem allocVec (σ : Store) (m : Bool) (items : List Value) :
    (g σ).allocVec m items = ((σ.allocVec m items).1, g (σ.allocVec m items).2) := by
  unfold Store.allocVec
  rw [hg.vecs σ]
  exact congrArg (Prod.mk _) (hg.setVecs σ _).symm

theorem run (e : Eff) (σ : Store) : e.run (g σ) = g (e.run σ) := by
  cases e with
  | none => rfl
  | alloc items => exact congrArg Prod.snd (hg.allocVec σ true items)
  | set id cell n obj =>
    show vsetStore (g σ) id cell n obj = g (vsetStore σ id cell n obj)
    unfold vsetStore
    rw [hg.vecs σ]
    exact (hg.setVecs σ _).symm
  | out s => exact (hg.out σ s).symm
  | tick s => exact (hg.ticks σ s).symm

theorem applyPure (σ : Store) (b : Builtin) (args : List Value) :
    applyPure (g σ) b args = ((applyPure σ b args).1, g (applyPure σ b args).2) := by
  rw [applyPure_eq, applyPure_eq σ, hg.vecs]
  exact settle_comm (hg.run _) σ _

theorem bindFixed : ∀ (names : List String) (args : List Value) (σ : Store) (ρ : Nat),
    bindFixed (g σ) ρ names args = ((bindFixed σ ρ names args).1, g (bindFixed σ ρ names args).2)
  | [], _, _, _ => rfl
  | _ :: _, [], _, _ => rfl
  | f :: fs, a :: as, σ, ρ => by
    simp only [Eval.bindFixed, hg.define]
    exact bindFixed fs as _ ρ

theorem litHom : LitHom g id id := .ofStore fun σ items => hg.allocVec σ false items

theorem readLiteral (d : Datum) (σ : Store) : readLiteral (g σ) d = ((readLiteral σ d).1, g (readLiteral σ d).2) :=
  (hg.litHom.readLiteral d σ).trans (Res.hom_id (fun _ => rfl) _)

theorem readLiterals (ds : List Datum) (σ : Store) :
    readLiterals (g σ) ds = ((readLiterals σ ds).1, g (readLiterals σ ds).2) :=
  (hg.litHom.readLiterals ds σ).trans (Res.hom_id List.map_id _)

end Store.Blind

end Ruschm
