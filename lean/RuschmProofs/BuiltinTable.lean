/-
The model's table of native procedures is the table the running code registers.

`Gen.builtins` is regenerated on every run from the RUNNING code (harness kind `builtins`: every definition of
`ruschm::interpreter::library::native::{base,write}::library_map` with `Procedure::get_parameters().len()`), so the
theorems below are re-checked against what `/repo` registers now.  A native procedure that is added, removed, renamed,
moved to the other library, or registered with another parameter list (fixed count or variadic flag) makes one of them
fail — deterministically, with no generator involved.  They tie three hand-written things of `RuschmModel/Value.lean`
and `RuschmModel/Interp.lean` to the code: `Builtin.name`, `Builtin.arity` (the gate `Eval.arityOk` of C07's
`builtin_args_sufficient` and of C08's arity theorems tests against it) and `Interp.nativeBase` / `Interp.nativeWrite`
(the libraries `(ruschm base)` and `(ruschm write)` the model's interpreter starts with).
-/
import RuschmModel.Interp
import RuschmGen.Builtins
namespace Ruschm.BuiltinTable

/-- the model's rows, in the format of `Gen.builtins` -/
def modelRows : List (String × String × Nat × Bool) :=
  (Interp.nativeBase.map fun (n, v) =>
      match v with
      | .builtin b => ("base", n, b.arity.1, b.arity.2)
      | _ => ("base", n, 0, false)) ++
  (Interp.nativeWrite.map fun (n, v) =>
      match v with
      | .builtin b => ("write", n, b.arity.1, b.arity.2)
      | _ => ("write", n, 0, false))

/-- every native procedure the running code registers is in the model, under the same library and name and with the
same parameter list length and variadic flag -/
theorem real_rows_in_model : ∀ r ∈ Gen.builtins, r ∈ modelRows := by decide +kernel

/-- and the model has no native procedure the running code does not register (`tick`, the probe the harness registers
in its own library, is in neither list) -/
theorem model_rows_in_real : ∀ r ∈ modelRows, r ∈ Gen.builtins := by decide +kernel

/-- no name is registered twice in either table -/
theorem tables_same_size : Gen.builtins.length = modelRows.length := by decide

theorem real_names_distinct : (Gen.builtins.map fun r => (r.1, r.2.1)).Nodup := by decide +kernel

/-- the name a native procedure is bound to in the model's libraries is `Builtin.name` of that procedure, so
`Builtin.arity` is looked up for the procedure the name denotes -/
theorem model_names_are_builtin_names :
    ∀ p ∈ Interp.nativeBase ++ Interp.nativeWrite, ∃ b, p = (Builtin.name b, Value.builtin b) := by
  intro p hp
  simp only [Interp.nativeBase, Interp.nativeWrite, List.mem_append, List.mem_map, List.mem_singleton] at hp
  rcases hp with ⟨b, _, rfl⟩ | rfl
  · exact ⟨b, rfl⟩
  · exact ⟨.display, rfl⟩

/-- the arity gate of the model, for the procedure registered under a name, is the gate of the running code's
parameter list of that name: `fixed ≤ n`, and `n ≤ fixed` unless variadic -/
theorem arity_gate_is_registered_parameter_list (lib name : String) (fixed : Nat) (variadic : Bool)
    (h : (lib, name, fixed, variadic) ∈ Gen.builtins) :
    ∃ b : Builtin, b.name = name ∧ ∀ n, Eval.arityOk b.arity.1 b.arity.2 n = Eval.arityOk fixed variadic n := by
  have hm := real_rows_in_model _ h
  simp only [modelRows, List.mem_append, List.mem_map] at hm
  rcases hm with ⟨p, hp, he⟩ | ⟨p, hp, he⟩
  · obtain ⟨b, rfl⟩ := model_names_are_builtin_names p (List.mem_append_left _ hp)
    simp only [Prod.mk.injEq] at he
    exact ⟨b, he.2.1, fun n => by rw [he.2.2.1, he.2.2.2]⟩
  · obtain ⟨b, rfl⟩ := model_names_are_builtin_names p (List.mem_append_right _ hp)
    simp only [Prod.mk.injEq] at he
    exact ⟨b, he.2.1, fun n => by rw [he.2.2.1, he.2.2.2]⟩

example : ("base", "vector-set!", 3, false) ∈ Gen.builtins := by decide +kernel
example : ("base", "apply", 1, true) ∈ Gen.builtins := by decide +kernel

end Ruschm.BuiltinTable
