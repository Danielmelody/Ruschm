/-
The template builder `toTmpl` in terms of `tmplElems` (`RuschmSpec/MacroMore.lean`): a list or vector
template is `tmplElems` of its elements (`toTmpl_pair`, `toTmpl_vec`), so a fact about `toTmpl` is
an induction over the elements of the datum (`Datum.elems_induct`) with a fact about `tmplElems`.
-/
import RuschmSpec.MacroMore
import RuschmProofs.MacroLemmas

namespace Ruschm.Macro
open Ruschm

/-! ## `toTmpl`

The model matches on `.sym "..." l`; Lean's equation for the other branch has the side condition
`∀ l, x = .sym "..." l → False`, which `rfl` does not give for a variable `x`. The `_ne` lemmas discharge it once. -/

theorem isEllSym_iff {x : Datum} : isEllSym x = true ↔ ∃ l, x = .sym "..." l := by
  cases x <;> simp [isEllSym]

theorem not_ell_of {x : Datum} (hx : isEllSym x = false) : ∀ l, x ≠ .sym "..." l := by
  intro l h; subst h; simp [isEllSym] at hx

theorem collectElems_cons_ne {x : Datum} {rest last} (hx : isEllSym x = false) :
    collectElems (x :: rest) last =
      (toTmpl x).bind fun t => (collectElems rest (some t)).bind fun r =>
        .ok (match last with | some p => (p, false) :: r | none => r) := by
  rw [collectElems]
  · rfl
  · intro l h; exact not_ell_of hx l h

theorem collectSpine_pair_ne {a d : Datum} {l last} (ha : isEllSym a = false) :
    collectSpine (.pair a d l) last =
      (toTmpl a).bind fun t => (collectSpine d (some t)).bind fun r =>
        .ok (match last with | some p => (p, false) :: r | none => r) := by
  rw [collectSpine]
  · rfl
  · intro l h; exact not_ell_of ha l h

theorem toTmpl_pair_ne {a d : Datum} {l} (ha : isEllSym a = false) :
    toTmpl (.pair a d l) =
      (toTmpl a).bind fun t => (collectSpine d (some t)).bind fun es => .ok (.list es) := by
  rw [toTmpl]
  · rfl
  · intro l h; exact not_ell_of ha l h

/-- `collect_template_elements` without its accumulator: `tmplElems` -/
theorem collectElems_spec :
    ∀ xs, collectElems xs none = tmplElems xs ∧
      ∀ p, collectElems xs (some p) =
        match xs with
        | e :: rest' =>
          if isEllSym e then (tmplElems rest').map ((p, true) :: ·)
          else (tmplElems xs).map ((p, false) :: ·)
        | [] => .ok [(p, false)] := by
  intro xs
  induction xs with
  | nil => exact ⟨rfl, fun p => rfl⟩
  | cons x rest ih =>
    obtain ⟨ih1, ih2⟩ := ih
    cases hx : isEllSym x
    · have tm : tmplElems (x :: rest) = (toTmpl x).bind fun t => collectElems rest (some t) := by
        rw [tmplElems]
        simp only [hx, Bool.false_eq_true, if_false]
        cases toTmpl x with
        | error e => rfl
        | ok t =>
          simp only [Except.bind, ih2 t]
          cases rest <;> rfl
      have key : ∀ last, collectElems (x :: rest) last = (tmplElems (x :: rest)).bind fun r =>
          .ok (match last with | some p => (p, false) :: r | none => r) := fun last => by
        rw [collectElems_cons_ne hx, tm]; cases toTmpl x <;> rfl
      refine ⟨by rw [key]; cases tmplElems (x :: rest) <;> rfl, fun p => ?_⟩
      simp only [hx, Bool.false_eq_true, if_false]
      rw [key]; cases tmplElems (x :: rest) <;> rfl
    · obtain ⟨l, rfl⟩ := isEllSym_iff.1 hx
      constructor
      · rw [tmplElems]; simp [collectElems, isEllSym, Datum.loc]
      · intro p
        simp only [collectElems, ih1, bind, Except.bind, pure, Except.pure]
        cases tmplElems rest <;> rfl

theorem toTmpl_vec (xs : List Datum) (l : Loc) :
    toTmpl (.vec xs l) = (tmplElems xs).map Tmpl.vec := by
  rw [toTmpl, (collectElems_spec xs).1]
  cases tmplElems xs <;> rfl

theorem collectSpine_eq (d : Datum) : ∀ last, collectSpine d last = collectElems d.elems last := by
  fun_induction Datum.spine d with
  | case1 a d l xs t hs ih =>
    intro last
    rw [Datum.elems_pair]
    cases ha : isEllSym a
    · rw [collectSpine_pair_ne ha, collectElems_cons_ne ha]
      simp only [ih]
    · obtain ⟨l', rfl⟩ := isEllSym_iff.1 ha
      cases last <;> simp [collectSpine, collectElems, ih]
  | case2 l => intro last; cases last <;> rfl
  | case3 d h1 h2 =>
    intro last
    have hl : d.isListy = false := by cases d <;> simp_all [Datum.isListy]
    rw [Datum.elems_atom hl]
    cases hd : isEllSym d
    · rw [collectElems_cons_ne hd]
      cases d with
      | sym s l =>
        have hs : s ≠ "..." := fun h => by subst h; simp [isEllSym] at hd
        cases last <;> simp [collectSpine, hs, toTmpl, collectElems, Except.bind]
      | prim q l => cases last <;> simp [collectSpine, toTmpl, collectElems, Except.bind]
      | vec xs l =>
        simp only [collectSpine, toTmpl, collectElems, bind, Except.bind, pure, Except.pure]
        cases collectElems xs none <;> cases last <;> rfl
      | pair _ _ _ => exact absurd rfl (h1 _ _ _)
      | nil _ => exact absurd rfl (h2 _)
    · obtain ⟨l', rfl⟩ := isEllSym_iff.1 hd
      cases last <;> simp [collectSpine, collectElems] <;> rfl

theorem toTmpl_pair (a d : Datum) (l : Loc) :
    toTmpl (.pair a d l) = (tmplElems (Datum.pair a d l).elems).map Tmpl.list := by
  rw [← (collectElems_spec _).1, Datum.elems_pair]
  cases ha : isEllSym a
  · rw [toTmpl_pair_ne ha, collectElems_cons_ne ha]
    simp only [collectSpine_eq]
    cases toTmpl a with
    | error e => rfl
    | ok t => simp only [Except.bind]; cases collectElems d.elems (some t) <;> rfl
  · obtain ⟨l', rfl⟩ := isEllSym_iff.1 ha
    simp [toTmpl, collectElems, Except.map]

/-! ## what `tmplElems` yields -/

theorem tmplElems_ok {xs es} (h : tmplElems xs = .ok es) :
    ∀ e ∈ es, ∃ x ∈ xs, toTmpl x = .ok e.1 := by
  fun_induction tmplElems xs generalizing es with
  | case1 => cases h; nofun
  | case2 | case3 => cases h
  | case4 x hx t ht e rest' he ih | case5 x hx t ht e rest' he ih =>
    obtain ⟨r, hr, rfl⟩ := map_ok h
    refine List.forall_mem_cons.2 ⟨⟨x, by simp, ht⟩, fun y hy => ?_⟩
    obtain ⟨z, hz, h'⟩ := ih hr y hy
    exact ⟨z, by simp [hz], h'⟩
  | case6 x hx t ht => cases h; exact List.forall_mem_cons.2 ⟨⟨x, by simp, ht⟩, nofun⟩

theorem tmplElems_error {xs e} (h : tmplElems xs = .error e) :
    ∃ x ∈ xs, toTmpl x = .error e ∨ isEllSym x = true ∧ e = (.syntax, x.loc) := by
  fun_induction tmplElems xs with
  | case1 => cases h
  | case2 x rest hx => cases h; exact ⟨x, by simp, .inr ⟨hx, rfl⟩⟩
  | case3 x rest hx e' he => cases h; exact ⟨x, by simp, .inl he⟩
  | case4 x hx t ht e' rest' he ih | case5 x hx t ht e' rest' he ih =>
    obtain ⟨z, hz, h'⟩ := ih (map_error h)
    exact ⟨z, by simp [hz], h'⟩
  | case6 => cases h

/-! ## errors of the builders -/

inductive Inside (x : Datum) : Datum → Prop
  | here : Inside x x
  | elem {d y} : y ∈ d.elems → Inside x y → Inside x d
  | vec {ys l y} : y ∈ ys → Inside x y → Inside x (.vec ys l)

/-- what the builders of rules, patterns and templates report about a form they reject -/
def FrontErr (d : Datum) (e : SErr) : Prop :=
  e = (.syntax, none) ∨ ∃ x, Inside x d ∧ e = (.syntax, x.loc)

theorem FrontErr.at (d : Datum) : FrontErr d (.syntax, d.loc) := .inr ⟨d, .here, rfl⟩

theorem FrontErr.elem {d y e} (hy : y ∈ d.elems) (h : FrontErr y e) : FrontErr d e :=
  h.imp id fun ⟨x, hx, he⟩ => ⟨x, .elem hy hx, he⟩

theorem FrontErr.syntax {d e} (h : FrontErr d e) : e.1 = .syntax := by
  rcases h with rfl | ⟨_, _, rfl⟩ <;> rfl

theorem tmplElems_frontErr {xs e} (ih : ∀ x ∈ xs, ∀ e, toTmpl x = .error e → FrontErr x e)
    (h : tmplElems xs = .error e) : ∃ x ∈ xs, FrontErr x e := by
  obtain ⟨x, hx, he | ⟨hl, rfl⟩⟩ := tmplElems_error h
  · exact ⟨x, hx, ih x hx _ he⟩
  · exact ⟨x, hx, .at x⟩

/-- only a stray `...` is rejected -/
theorem toTmpl_error : ∀ d e, toTmpl d = .error e → FrontErr d e := by
  refine Datum.elems_induct ?_ ?_ ?_ ?_ ?_
  · intro s l e h; rw [toTmpl] at h; cases h
  · intro p l e h; rw [toTmpl] at h; cases h
  · intro l e h; rw [toTmpl] at h; cases h
  · intro a d l ih e h
    obtain ⟨x, hx, hr⟩ := tmplElems_frontErr ih (map_error (toTmpl_pair a d l ▸ h))
    exact hr.elem hx
  · intro xs l ih e h
    obtain ⟨x, hx, hr⟩ := tmplElems_frontErr ih (map_error (toTmpl_vec xs l ▸ h))
    exact hr.imp id fun ⟨y, hy, he⟩ => ⟨y, .vec hx hy, he⟩

end Ruschm.Macro
