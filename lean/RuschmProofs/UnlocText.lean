/-
Erasing locations commutes with the reader: on the tokens without locations it gives the datum and
the state without locations, and fails where it fails on the tokens. One step lemma `r_*` per function
of the reader's block, each the function's text followed `>>=` by `>>=` with `bind_unloc`.
-/
import RuschmProofs.UnlocLemmas
import RuschmProofs.ReadLemmas
namespace Ruschm
open Read Ruschm.Text

def PRes.unloc {α} (f : α → α) : Except SErr (α × PState) → Except SErr (α × PState)
  | .ok (a, s) => .ok (f a, s.unloc)
  | .error e => .error e.unloc

@[simp] theorem PRes.unloc_ok {α} (f : α → α) (a : α) (s : PState) : PRes.unloc f (.ok (a, s)) = .ok (f a, s.unloc) := rfl
@[simp] theorem PRes.unloc_error {α} (f : α → α) (e : SErr) : PRes.unloc f (.error e) = .error e.unloc := rfl

@[simp] theorem PState.unloc_cur (s : PState) : s.unloc.cur = s.cur.map LToken.unloc := rfl
@[simp] theorem PState.unloc_loc (s : PState) : s.unloc.loc = none := rfl
@[simp] theorem PState.unloc_toks (s : PState) : s.unloc.toks = s.toks.map LToken.unloc := rfl
@[simp] theorem PState.unloc_lexErr (s : PState) : s.unloc.lexErr = s.lexErr.map (fun _ => (0, 0)) := rfl
@[simp] theorem LToken.unloc_tok (t : LToken) : t.unloc.tok = t.tok := rfl
@[simp] theorem LToken.unloc_loc (t : LToken) : t.unloc.loc = none := rfl

theorem advance_unloc (s : PState) : mapE id (advance s.unloc) = mapE PState.unloc (advance s) := by
  unfold advance
  cases h : s.toks with
  | cons t rest => simp [h, PState.unloc]
  | nil => cases h2 : s.lexErr <;> simp [h, h2, PState.unloc]

theorem peek_unloc (s : PState) :
    mapE id (peek s.unloc) = mapE (Option.map LToken.unloc) (peek s) := by
  unfold peek
  cases h : s.toks with
  | cons t rest => simp [h]
  | nil => cases h2 : s.lexErr <;> simp [h, h2]

theorem PRes.unloc_eq_mapE {α} (f : α → α) (x : Except SErr (α × PState)) :
    PRes.unloc f x = mapE (fun p => (f p.1, p.2.unloc)) x := by cases x <;> rfl

theorem bind_mapE_unloc {α α' β} {r : α → α'} {h : β → β} {x' : Except SErr α'} {x : Except SErr α}
    {g' : α' → Except SErr (β × PState)} {g : α → Except SErr (β × PState)}
    (hx : mapE id x' = mapE r x) (hg : ∀ a, mapE id (g' (r a)) = PRes.unloc h (g a)) :
    mapE id (x' >>= g') = PRes.unloc h (x >>= g) := by
  rcases mapE_id_cases hx with ⟨e, e', rfl, rfl, he⟩ | ⟨a, rfl, rfl⟩
  · exact congrArg Except.error he
  · exact hg a

theorem bind_unloc {α β} {f : α → α} {h : β → β} {x' x : Except SErr (α × PState)}
    {g' g : α × PState → Except SErr (β × PState)}
    (hx : mapE id x' = PRes.unloc f x)
    (hg : ∀ a s, mapE id (g' (f a, s.unloc)) = PRes.unloc h (g (a, s))) :
    mapE id (x' >>= g') = PRes.unloc h (x >>= g) :=
  bind_mapE_unloc (hx.trans (PRes.unloc_eq_mapE f x)) (fun p => hg p.1 p.2)

theorem advanceUnwrap_unloc (s : PState) :
    mapE id (advanceUnwrap s.unloc) = PRes.unloc LToken.unloc (advanceUnwrap s) :=
  bind_mapE_unloc (advance_unloc s) fun s' => by
    simp only [PState.unloc_cur, PState.unloc_loc]; cases s'.cur <;> rfl

@[simp] theorem strip_mkQuote (l : Loc) (d : Datum) : (mkQuote l d).strip = mkQuote none d.strip := by
  simp [mkQuote, Datum.strip]

/-- `mapE id` also on the left: `PState.unloc` keeps a pending lexer error, at the position (0, 0), and
`advance` / `peek` report it there -/
structure ReadUnlocAt (fuel : Nat) : Prop where
  cur : ∀ s, mapE id (currentDatum fuel s.unloc) = PRes.unloc (Option.map Datum.strip) (currentDatum fuel s)
  loop : ∀ s loc acc dot, mapE id (listLoop fuel s.unloc none acc.strip dot) =
    PRes.unloc Datum.strip (listLoop fuel s loc acc dot)
  rep : ∀ s acc, mapE id (repeatDatum fuel s.unloc (acc.map Datum.strip)) =
    PRes.unloc (List.map Datum.strip) (repeatDatum fuel s acc)
  dat : ∀ s, mapE id (datum fuel s.unloc) = PRes.unloc Datum.strip (datum fuel s)
  quo : ∀ s, mapE id (parseQuoted fuel s.unloc) = PRes.unloc Datum.strip (parseQuoted fuel s)

theorem readUnlocAt_zero : ReadUnlocAt 0 := by
  constructor <;> intros <;> simp only [currentDatum, listLoop, repeatDatum, datum, parseQuoted] <;> rfl

section succ
variable {fuel : Nat} (ih : ReadUnlocAt fuel)
include ih

theorem r_listOrPair (s : PState) :
    mapE id (listOrPair fuel s.unloc) = PRes.unloc Datum.strip (listOrPair fuel s) := by
  unfold listOrPair
  exact ih.loop s s.loc (.nil none) false

theorem r_cur (s : PState) : mapE id (currentDatum (fuel + 1) s.unloc) =
    PRes.unloc (Option.map Datum.strip) (currentDatum (fuel + 1) s) := by
  rw [currentDatum, currentDatum]
  cases hc : s.cur with
  | none => simp [hc]
  | some t =>
    simp only [PState.unloc_cur, hc, Option.map_some, LToken.unloc_tok, LToken.unloc_loc]
    have e : ({ s.unloc with cur := none } : PState) = ({ s with cur := none } : PState).unloc := rfl
    rw [e]
    cases t.tok with
    | prim _ | ident _ => simp [Datum.strip]
    | lparen =>
      simp only
      exact bind_unloc (r_listOrPair ih _) (fun a s1 => rfl)
    | rparen => rfl
    | vecIntro =>
      simp only
      refine bind_unloc (f := List.map Datum.strip) (ih.rep _ []) (fun a s1 => ?_)
      simp [pure, Except.pure, Datum.strip, Datum.stripList_eq_map]
    | quote =>
      simp only
      refine bind_mapE_unloc (advance_unloc _) (fun s1 => ?_)
      exact bind_unloc (ih.quo s1) (fun a s2 => rfl)
    | _ => rfl

theorem r_loop (s : PState) (loc : Loc) (acc : Datum) (dot : Bool) :
    mapE id (listLoop (fuel + 1) s.unloc none acc.strip dot) =
      PRes.unloc Datum.strip (listLoop (fuel + 1) s loc acc dot) := by
  rw [listLoop_succ, listLoop_succ]
  refine bind_unloc (advanceUnwrap_unloc s) (fun t s1 => ?_)
  simp only [LToken.unloc_tok, LToken.unloc_loc]
  by_cases hp : t.tok = .period
  · rw [if_pos hp, if_pos hp]
    cases dot with
    | true => rfl
    | false => exact ih.loop s1 loc acc true
  rw [if_neg hp, if_neg hp]
  by_cases hr : t.tok = .rparen
  · rw [if_pos hr, if_pos hr]
    simp only [pure, Except.pure, PRes.unloc_ok, mapE_ok, id_eq, strip_withLoc, Datum.strip_withLoc_none]
  rw [if_neg hr, if_neg hr]
  refine bind_unloc (ih.cur s1) (fun od s2 => ?_)
  cases od with
  | none => rfl
  | some e =>
    have hpair : isPair acc.strip = isPair acc := by cases acc <;> rfl
    simp only [Option.map_some, hpair]
    by_cases hd : (isPair acc && dot) = true
    · rw [if_pos hd, if_pos hd]
      refine bind_unloc (advanceUnwrap_unloc s2) (fun t2 s3 => ?_)
      simp only [LToken.unloc_tok]
      by_cases h2 : t2.tok = Token.rparen
      · simp only [h2, if_true, pure, Except.pure, PRes.unloc_ok, mapE_ok, id_eq, strip_withLoc,
          ← strip_setTail, Datum.strip_withLoc_none]
      · simp only [h2, if_false]; rfl
    · rw [if_neg hd, if_neg hd, ← strip_snoc]
      exact ih.loop s2 loc _ dot

theorem r_rep (s : PState) (acc : List Datum) :
    mapE id (repeatDatum (fuel + 1) s.unloc (acc.map Datum.strip)) =
      PRes.unloc (List.map Datum.strip) (repeatDatum (fuel + 1) s acc) := by
  rw [repeatDatum, repeatDatum]
  refine bind_mapE_unloc (peek_unloc s) (fun o => ?_)
  cases o with
  | none => rfl
  | some t =>
    simp only [Option.map_some, LToken.unloc_tok]
    by_cases h2 : t.tok = Token.rparen
    · simp only [h2, if_true]
      refine bind_mapE_unloc (advance_unloc _) (fun s1 => ?_)
      simp [pure, Except.pure]
    · simp only [h2, if_false]
      refine bind_mapE_unloc (advance_unloc _) (fun s1 => ?_)
      refine bind_unloc (ih.dat s1) (fun d s2 => ?_)
      exact ih.rep s2 (d :: acc)

theorem r_dat (s : PState) : mapE id (datum (fuel + 1) s.unloc) = PRes.unloc Datum.strip (datum (fuel + 1) s) := by
  rw [datum, datum]
  simp only [PState.unloc_loc, PState.unloc_cur]
  cases hc : s.cur with
  | none => rfl
  | some t =>
    simp only [Option.map_some, LToken.unloc_tok]
    cases t.tok with
    | lparen => exact r_listOrPair ih s
    | vecIntro =>
      simp only
      refine bind_unloc (f := List.map Datum.strip) (ih.rep s []) (fun a s1 => ?_)
      simp [pure, Except.pure, Datum.strip, Datum.stripList_eq_map]
    | ident _ | prim _ => simp [Datum.strip]
    | quote =>
      simp only
      refine bind_mapE_unloc (advance_unloc _) (fun s1 => ?_)
      exact ih.quo s1
    | _ => rfl

theorem r_quo (s : PState) : mapE id (parseQuoted (fuel + 1) s.unloc) =
    PRes.unloc Datum.strip (parseQuoted (fuel + 1) s) := by
  rw [parseQuoted, parseQuoted]
  refine bind_unloc (ih.dat s) (fun d s2 => ?_)
  simp [pure, Except.pure]

end succ

theorem readUnlocAt : ∀ fuel, ReadUnlocAt fuel
  | 0 => readUnlocAt_zero
  | n + 1 =>
    have ih := readUnlocAt n
    ⟨r_cur ih, r_loop ih, r_rep ih, r_dat ih, r_quo ih⟩

@[simp] theorem fuelFor_unloc (s : PState) : fuelFor s.unloc = fuelFor s := by simp [fuelFor]

theorem nextDatum_unloc (s : PState) :
    mapE id (nextDatum s.unloc) = PRes.unloc (Option.map Datum.strip) (nextDatum s) := by
  unfold nextDatum
  refine bind_mapE_unloc (advance_unloc _) (fun s1 => ?_)
  rw [fuelFor_unloc]
  exact (readUnlocAt _).cur s1

end Ruschm
