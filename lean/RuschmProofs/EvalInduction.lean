/-
The evaluator's mutual block walked ONCE on its sequence form (`EvalInv.Sound.eval`): an invariant of the store, a
property of the values computed and a relation between the store a run starts in and the store it leaves hold of
every run if the primitive steps keep them (`EvalInv.Sound`: the hypotheses on the leaves). The claim at each step is
`EndsFrom` of `AndThen.lean`. `StepRel.eval` is the instance in which only the relation is claimed.
-/
import RuschmProofs.EvalSeq
import RuschmProofs.BindFixed
namespace Ruschm.Eval
open Prim

/-! ## relations between the stores of one run -/

mutual
theorem readLiteral_rel {R : Store → Store → Prop} (refl : ∀ σ, R σ σ) (trans : ∀ {a b c}, R a b → R b c → R a c)
    (alloc : ∀ σ items, R σ (σ.allocVec false items).2) : ∀ (d : Datum) (σ : Store), R σ (readLiteral σ d).2
  | .prim p _, σ => by rw [readLiteral]; split <;> exact refl σ
  | .sym _ _, σ => by rw [readLiteral]; exact refl σ
  | .nil _, σ => by rw [readLiteral]; exact refl σ
  | .pair a d _, σ => by
    rw [readLiteral_pair]
    exact andThen_rel (R := R) trans (readLiteral_rel refl trans alloc a σ) fun _ σ₁ _ =>
      andThen_rel (R := R) trans (readLiteral_rel refl trans alloc d σ₁) fun _ σ₂ _ => refl σ₂
  | .vec xs _, σ => by
    rw [readLiteral_vec_eq]
    exact andThen_rel (R := R) trans (readLiterals_rel refl trans alloc xs σ) fun vs σ₁ _ => alloc σ₁ vs
theorem readLiterals_rel {R : Store → Store → Prop} (refl : ∀ σ, R σ σ) (trans : ∀ {a b c}, R a b → R b c → R a c)
    (alloc : ∀ σ items, R σ (σ.allocVec false items).2) : ∀ (ds : List Datum) (σ : Store), R σ (readLiterals σ ds).2
  | [], σ => by rw [readLiterals]; exact refl σ
  | x :: xs, σ => by
    rw [readLiterals_cons]
    exact andThen_rel (R := R) trans (readLiteral_rel refl trans alloc x σ) fun _ σ₁ _ =>
      andThen_rel (R := R) trans (readLiterals_rel refl trans alloc xs σ₁) fun _ σ₂ _ => refl σ₂
end

/-- `bracket` is the activation of `applyProcedure` around the loop, `enter … leave`, taken as a whole: `enter` alone is
no step of the relation that says the activation counters come back as they were (`DepthOk`, `TailDepth.lean`) -/
structure StepRel (R : Store → Store → Prop) : Prop where
  refl : ∀ σ, R σ σ
  trans : ∀ {a b c}, R a b → R b c → R a c
  define : ∀ σ ρ k v, R σ (σ.define ρ k v)
  newFrame : ∀ σ p, R σ (σ.newFrame p).2
  allocVec : ∀ σ m items, R σ (σ.allocVec m items).2
  applyPure : ∀ σ b args, R σ (applyPure σ b args).2
  bracket : ∀ {σ σ₁}, R (enter σ) σ₁ → R σ (leave σ₁)

namespace StepRel
variable {R : Store → Store → Prop} (h : StepRel R)
include h

theorem set (σ : Store) (ρ x v) : R σ (σ.set ρ x v).2 := by
  unfold Store.set; split
  · exact h.define ..
  · exact h.refl σ

theorem bindRest (σ : Store) (ρ rest restArgs) : R σ (Ref.bindRest σ ρ rest restArgs) := by
  unfold Ref.bindRest; split
  · exact h.define ..
  · exact h.refl σ

theorem bindFixed (fs : List String) (as : List Value) (σ : Store) (ρ : Nat) : R σ (bindFixed σ ρ fs as).2 := by
  rw [bindFixed_eq]
  exact bindAll_induct h.refl fs as (fun σ x v _ _ _ ih => h.trans (h.define σ ρ x v) ih) σ

theorem readLiteral (d : Datum) (σ : Store) : R σ (readLiteral σ d).2 :=
  readLiteral_rel h.refl h.trans (fun σ => h.allocVec σ false) d σ

end StepRel

theorem stepRel_true : StepRel (fun _ _ => True) :=
  ⟨fun _ => trivial, fun _ _ => trivial, fun _ _ _ _ => trivial, fun _ _ => trivial, fun _ _ _ => trivial,
   fun _ _ _ => trivial, fun _ => trivial⟩

theorem _root_.Ruschm.Value.forall_elems {P : Value → Prop} (hp : ∀ a d, P (.pair a d) → P a ∧ P d) :
    ∀ v, P v → ∀ x ∈ v.elems, P x := by
  intro v
  induction v with
  | pair a d _ ihd =>
    intro h x hx
    rcases List.mem_cons.1 hx with rfl | hx
    · exact (hp _ _ h).1
    · exact ihd (hp _ _ h).2 x hx
  | nil => intro _ x hx; cases hx
  | _ => intro h x hx; cases List.mem_singleton.1 hx; exact h

/-! ## invariants of one run -/

/-- `G`: from the store a run starts in to the store it ends in; `I`: the invariant of the store; `V σ v`: the value `v`,
computed or stored, is good in the store `σ` it lives in; `Env σ ρ`: code may be run in frame `ρ`; `C e`: the
expression `e` may be run (`CL lam`: the same for the procedures stored in values); `Err e`: `e` may be the outcome -/
structure EvalInv where
  G : Store → Store → Prop
  I : Store → Prop
  V : Store → Value → Prop
  Env : Store → Nat → Prop
  C : Expr → Prop
  CL : Lambda → Prop
  Err : SErr → Prop

theorem spreadApply_error {args : List Value} {e} (h : spreadApply args = .error e) :
    args = [] ∧ e = .panic "spread_apply_arguments: unwrap" ∨ e = .nonProcedure ∨ e = .type := by
  unfold spreadApply at h
  repeat' split at h
  all_goals cases h
  all_goals simp

namespace EvalInv
variable (S : EvalInv)

def Vs (σ : Store) (vs : List Value) : Prop := ∀ v ∈ vs, S.V σ v
def Cs (es : List Expr) : Prop := ∀ e ∈ es, S.C e
def Ds (ds : List Def) : Prop := ∀ x e l, Def.mk x e l ∈ ds → S.C e

/-- panics are allowed errors: then the tests that rule them out (operator is a procedure, argument count,
non-empty body) need not have been passed -/
def Lax : Prop := ∀ s, S.Err (.panic s, none)

def T (σ : Store) : TailRes → Prop
  | .value v => S.V σ v
  | .tailCall f args env => S.C f ∧ S.Cs args ∧ S.Err (.nonProcedure, f.loc) ∧ S.Env σ env

abbrev Out {α} (Q : Store → α → Prop) (x : Res α) : Prop := Ends S.I S.Err Q x

abbrev Post (σ : Store) {α} (Q : Store → α → Prop) (x : Res α) : Prop := EndsFrom S.G S.I S.Err Q σ x

structure Sound : Prop where
  rel : StepRel S.G
  V_mono : ∀ {σ σ' v}, S.G σ σ' → S.V σ v → S.V σ' v
  Env_mono : ∀ {σ σ' ρ}, S.G σ σ' → S.Env σ ρ → S.Env σ' ρ
  /-- `I` and `V` read the frames and the vectors only: an invariant that speaks of the activation counters, the output
  or the tick trace is not an instance -/
  of_eq : ∀ {σ σ'}, σ'.frames = σ.frames → σ'.vecs = σ.vecs → (S.I σ → S.I σ') ∧ ∀ v, S.V σ v → S.V σ' v
  lookup : ∀ {σ ρ s v}, S.I σ → σ.lookup ρ s = some v → S.V σ v
  define : ∀ {σ v}, S.I σ → S.V σ v → ∀ ρ k, S.I (σ.define ρ k v)
  newFrame : ∀ {σ c}, S.I σ → S.Env σ c →
    S.I (σ.newFrame (some c)).2 ∧ S.Env (σ.newFrame (some c)).2 (σ.newFrame (some c)).1
  prim : ∀ {p l}, S.C (.prim p l) →
    (∀ v, evalPrim p = .ok v → ∀ σ, S.V σ v) ∧ ∀ e, evalPrim p = .error e → S.Err (e, none)
  /-- the instances take it from `readLiteral_all` with a `LitInv` (`StoreLemmas.lean`) -/
  lit : ∀ {d l σ}, S.C (.datum d l) ∨ S.C (.quote d l) → S.I σ → S.Out S.V (readLiteral σ d)
  applyPure : ∀ {σ b args}, S.I σ → S.Vs σ args → b ≠ .apply → arityOk b.arity.1 b.arity.2 args.length = true →
    S.Out S.V (applyPure σ b args)
  V_pair : ∀ {σ a d}, S.V σ (.pair a d) ↔ S.V σ a ∧ S.V σ d
  V_nil : ∀ {σ}, S.V σ .nil
  V_void : ∀ {σ}, S.V σ .void
  V_closure : ∀ {σ lam ρ}, S.V σ (.closure lam ρ) ↔ S.CL lam ∧ S.Env σ ρ
  err : ∀ k, (∀ s, k ≠ .panic s) → S.Err (k, none)
  /-- `C` of a node gives `Err` of the errors that take their location from the node: it is known from the code only -/
  call : ∀ {f args l}, S.C (.call f args l) → S.C f ∧ S.Cs args ∧ S.Err (.nonProcedure, f.loc)
  assign : ∀ {x e l}, S.C (.assign x e l) → S.C e ∧ S.Err (.unbound, l)
  cond : ∀ {t c a l}, S.C (.cond t c a l) → S.C t ∧ S.C c ∧ ∀ x, a = some x → S.C x
  lambda : ∀ {lam l}, S.C (.lambda lam l) → S.CL lam
  sym : ∀ {s l}, S.C (.sym s l) → S.Err (.unbound, l)
  lam : ∀ {lam}, S.CL lam → S.Ds lam.defs ∧ S.Cs lam.body ∧ (S.Lax ∨ lam.body ≠ [])

structure InvAt (n : Nat) : Prop where
  expr : ∀ σ ρ e, S.I σ → S.Env σ ρ → S.C e → S.Post σ S.V (evalExpr n σ ρ e)
  args : ∀ σ ρ es, S.I σ → S.Env σ ρ → S.Cs es → S.Post σ S.Vs (evalArgs n σ ρ es)
  proc : ∀ σ p as env, S.I σ → S.V σ p → S.Vs σ as → S.Lax ∨ (procArity p).isSome = true →
    S.Post σ S.V (applyProcedure n σ p as env)
  loop : ∀ σ p as env, S.I σ → S.V σ p → S.Vs σ as → S.Lax ∨ (procArity p).isSome = true →
    S.Post σ S.V (applyLoop n σ p as env)
  scheme : ∀ σ lam cenv as, S.I σ → S.Env σ cenv → S.CL lam → S.Vs σ as →
    S.Lax ∨ arityOk lam.formals.fixed.length lam.formals.rest.isSome as.length = true →
    S.Post σ S.T (applyScheme n σ lam cenv as)
  defs : ∀ σ ρ ds, S.I σ → S.Env σ ρ → S.Ds ds → S.Post σ (fun _ _ => True) (evalDefs n σ ρ ds)
  body : ∀ σ ρ es, S.I σ → S.Env σ ρ → S.Cs es → S.Lax ∨ es ≠ [] → S.Post σ S.T (evalBody n σ ρ es)
  tail : ∀ σ ρ e, S.I σ → S.Env σ ρ → S.C e → S.Post σ S.T (evalTail n σ ρ e)

variable {S}

namespace Sound
variable (hS : S.Sound)
include hS

theorem after {σ₀ σ : Store} {α} {Q : Store → α → Prop} {x : Res α} (g : S.G σ₀ σ) (p : S.Post σ Q x) :
    S.Post σ₀ Q x := EndsFrom.after p hS.rel.trans g

/-- SEQUENCING (`EndsFrom.andThen`; `S.G` is transitive) -/
theorem andThen {σ : Store} {α β} {Q : Store → α → Prop} {Q' : Store → β → Prop} {x : Res α}
    {k : α → Store → Res β} (p : S.Post σ Q x)
    (hk : ∀ a σ₁, S.I σ₁ → Q σ₁ a → S.G σ σ₁ → S.Post σ₁ Q' (k a σ₁)) : S.Post σ Q' (andThen x k) :=
  EndsFrom.andThen p hS.rel.trans hk

theorem set {σ : Store} {v : Value} (hI : S.I σ) (hv : S.V σ v) (ρ x) : S.I (σ.set ρ x v).2 := by
  unfold Store.set; split
  · exact hS.define hI hv ..
  · exact hI

theorem V_ofList {σ : Store} : ∀ {vs : List Value}, S.Vs σ vs → S.V σ (Value.ofList vs)
  | [], _ => hS.V_nil
  | v :: _, h => hS.V_pair.2 ⟨h v (List.mem_cons_self ..), V_ofList fun x hx => h x (List.mem_cons_of_mem _ hx)⟩

theorem bindRest {σ : Store} {restArgs : List Value} (hI : S.I σ) (ha : S.Vs σ restArgs) (ρ rest) :
    S.I (Ref.bindRest σ ρ rest restArgs) := by
  unfold Ref.bindRest; split
  · exact hS.define hI (hS.V_ofList ha) ..
  · exact hI

theorem bindFixed (fs : List String) (as : List Value) (σ : Store) (ρ : Nat) (hI : S.I σ) (ha : S.Vs σ as)
    (hq : S.Lax ∨ fs.length ≤ as.length) :
    S.I (bindFixed σ ρ fs as).2 ∧ (∀ rest, (bindFixed σ ρ fs as).1 = .ok rest → S.Vs (bindFixed σ ρ fs as).2 rest) ∧
      ∀ e, (bindFixed σ ρ fs as).1 = .error e → S.Err (e, none) := by
  rw [bindFixed_eq]
  obtain ⟨hI', ha'⟩ := bindAll_induct (P := fun σ τ => S.I σ → S.Vs σ as → S.I τ ∧ S.Vs τ as) (fun _ h₁ h₂ => ⟨h₁, h₂⟩)
    fs as (fun σ x v _ _ hv ih h₁ h₂ => ih (hS.define h₁ (h₂ v hv) ρ x)
      fun w hw => hS.V_mono (hS.rel.define σ ρ x v) (h₂ w hw)) σ hI ha
  -- `bindFixed_eq`: the outcome is `if fs.length ≤ as.length then .ok (as.drop _) else` the panic
  refine ⟨hI', fun rest h => ?_, fun e h => ?_⟩ <;> dsimp only at h <;> split at h <;> cases h
  · exact fun w hw => ha' w (List.mem_of_mem_drop hw)
  · exact hq.elim (fun l => l _) fun l => absurd l ‹_›

theorem spreadApply {σ : Store} {args : List Value} (ha : S.Vs σ args) (hne : args ≠ []) :
    (∀ f args', spreadApply args = .ok (f, args') → S.V σ f ∧ S.Vs σ args' ∧ (procArity f).isSome = true) ∧
    ∀ e, spreadApply args = .error e → S.Err (e, none) := by
  refine ⟨fun f' args' => ?_, fun e h => hS.err _ ?_⟩
  case refine_2 => rcases spreadApply_error h with ⟨h, _⟩ | rfl | rfl <;> first | exact absurd h hne | (intro s h; cases h)
  unfold Eval.spreadApply
  cases args with
  | nil => exact absurd rfl hne
  | cons f rest =>
    have hf : S.V σ f := ha f (List.mem_cons_self ..)
    dsimp only
    split
    · exact fun h => by cases h
    · rename_i hp
      split
      · exact fun h => by cases h; exact ⟨hf, fun _ h => (by cases h), by rw [hp]; rfl⟩
      · rename_i last hl
        have key : S.Vs σ (rest.dropLast ++ last.elems) := by
          intro a hm
          rcases List.mem_append.1 hm with hm | hm
          · exact ha _ (List.mem_cons_of_mem _ (List.dropLast_subset _ hm))
          · exact Value.forall_elems (P := S.V σ) (fun _ _ h => hS.V_pair.1 h) last
              (ha _ (List.mem_cons_of_mem _ (List.mem_of_getLast? hl))) a hm
        split
        · exact fun h => by cases h; exact ⟨hf, key, by rw [hp]; rfl⟩
        · exact fun h => by cases h; exact ⟨hf, key, by rw [hp]; rfl⟩
        · exact fun h => by cases h

variable {n : Nat} (ih : S.InvAt n)
include ih

theorem expr_succ (σ ρ e) (hI : S.I σ) (hρ : S.Env σ ρ) (hC : S.C e) :
    S.Post σ S.V (evalExpr (n+1) σ ρ e) := by
  have r := hS.rel.refl σ
  cases e with
  | prim p l =>
    rw [evalExpr]
    have hp := hS.prim hC
    split
    · rename_i v hv; exact .ofOk hI (hp.1 v hv σ) r
    · rename_i er he; exact .ofErr hI (hp.2 er he) r
  | datum d l => rw [evalExpr]; exact ⟨hS.lit (.inl hC) hI, hS.rel.readLiteral d σ⟩
  | quote d l => rw [evalExpr]; exact ⟨hS.lit (.inr hC) hI, hS.rel.readLiteral d σ⟩
  | lambda lam l => rw [evalExpr]; exact .ofOk hI (hS.V_closure.2 ⟨hS.lambda hC, hρ⟩) r
  | sym s l =>
    rw [evalExpr]
    split
    · rename_i v hv; exact .ofOk hI (hS.lookup hI hv) r
    · exact .ofErr hI (hS.sym hC) r
  | assign name ve l =>
    obtain ⟨hve, herr⟩ := hS.assign hC
    rw [evalExpr_assign]
    refine hS.andThen (ih.expr σ ρ ve hI hρ hve) fun v σ₁ hI₁ hv _ => ?_
    have hs := hS.set hI₁ hv ρ name
    have gs := hS.rel.set σ₁ ρ name v
    split
    · rename_i heq; rw [heq] at hs gs; exact .ofOk hs hS.V_void gs
    · rename_i heq; rw [heq] at hs gs; exact .ofErr hs herr gs
  | cond t c a l =>
    obtain ⟨ht, hc, ha⟩ := hS.cond hC
    rw [evalExpr_cond]
    refine hS.andThen (ih.expr σ ρ t hI hρ ht) fun tv σ₁ hI₁ _ g => ?_
    have hρ₁ := hS.Env_mono g hρ
    split
    · exact ih.expr σ₁ ρ c hI₁ hρ₁ hc
    · cases a
      · exact .ofOk hI₁ hS.V_void (hS.rel.refl σ₁)
      · exact ih.expr σ₁ ρ _ hI₁ hρ₁ (ha _ rfl)
  | call f args l =>
    obtain ⟨hf, hargs, herr⟩ := hS.call hC
    rw [evalExpr_call]
    refine hS.andThen (ih.expr σ ρ f hI hρ hf) fun fv σ₁ hI₁ hfv g => ?_
    have h₂ := ih.args σ₁ ρ args hI₁ (hS.Env_mono g hρ) hargs
    split
    · exact hS.andThen h₂ fun vs σ₂ hI₂ hvs g₂ => ih.proc σ₂ fv vs ρ hI₂ (hS.V_mono g₂ hfv) hvs (.inr ‹_›)
    · -- the operands' error is passed on only if it is the fuel error
      refine ⟨⟨h₂.inv, fun _ h => ?_, fun e h => ?_⟩, h₂.rel⟩
      · unfold nonProcAfter at h; split at h <;> cases h
      · unfold nonProcAfter at h; split at h
        · rename_i heq; cases h; exact h₂.err _ heq
        · cases h; exact herr

theorem args_succ (σ ρ es) (hI : S.I σ) (hρ : S.Env σ ρ) (hC : S.Cs es) :
    S.Post σ S.Vs (evalArgs (n+1) σ ρ es) := by
  cases es with
  | nil => rw [evalArgs_nil]; exact .ofOk hI (fun _ h => by cases h) (hS.rel.refl σ)
  | cons a as =>
    rw [evalArgs_cons]
    refine hS.andThen (ih.expr σ ρ a hI hρ (hC a (List.mem_cons_self ..))) fun v σ₁ hI₁ hv g => ?_
    refine hS.andThen (ih.args σ₁ ρ as hI₁ (hS.Env_mono g hρ) fun e he => hC e (List.mem_cons_of_mem _ he))
      fun vs σ₂ hI₂ hvs g₂ => .ofOk hI₂ (fun x hx => ?_) (hS.rel.refl σ₂)
    rcases List.mem_cons.1 hx with rfl | hx
    · exact hS.V_mono g₂ hv
    · exact hvs x hx

theorem proc_succ (σ p as env) (hI : S.I σ) (hp : S.V σ p) (ha : S.Vs σ as)
    (hq : S.Lax ∨ (procArity p).isSome = true) : S.Post σ S.V (applyProcedure (n+1) σ p as env) := by
  rw [applyProcedure_succ]
  have e := hS.of_eq (σ := σ) (σ' := enter σ) rfl rfl
  have h₁ := ih.loop (enter σ) p as env (e.1 hI) (e.2 p hp) (fun a h => e.2 a (ha a h)) hq
  have e' := hS.of_eq (σ := (applyLoop n (enter σ) p as env).2) (σ' := leave (applyLoop n (enter σ) p as env).2) rfl rfl
  exact ⟨⟨e'.1 h₁.inv, fun v hv => e'.2 v (h₁.ok v hv), h₁.err⟩, hS.rel.bracket h₁.rel⟩

theorem loop_succ (σ p as env) (hI : S.I σ) (hp : S.V σ p) (ha : S.Vs σ as)
    (hq : S.Lax ∨ (procArity p).isSome = true) : S.Post σ S.V (applyLoop (n+1) σ p as env) := by
  have r := hS.rel.refl σ
  rcases applied_cases p as with hpa | ⟨f, v, hpa, har⟩ | ⟨lam, cenv, rfl, har⟩ | ⟨rfl, har⟩ | ⟨b, rfl, hb, har⟩
  · rw [applyLoop_not_proc _ _ _ _ hpa]
    rcases hq with hq | hq
    · exact .ofErr hI (hq _) r
    · rw [hpa] at hq; cases hq
  · rw [applyLoop_arity_gate _ _ _ hpa har]; exact .ofErr hI (hS.err _ (fun s h => by cases h)) r
  · obtain ⟨hl, hc⟩ := hS.V_closure.1 hp
    rw [applyLoop_closure _ _ _ _ har]
    refine hS.andThen (ih.scheme σ lam cenv as hI hc hl ha (.inr har)) fun t σ₁ hI₁ ht _ => ?_
    cases t with
    | value v => exact .ofOk hI₁ ht (hS.rel.refl σ₁)
    | tailCall f targs tenv =>
      obtain ⟨hf, hta, herr, hte⟩ := ht
      refine hS.andThen (ih.expr σ₁ tenv f hI₁ hte hf) fun fv σ₂ hI₂ hfv g₂ => ?_
      refine hS.andThen (ih.args σ₂ tenv targs hI₂ (hS.Env_mono g₂ hte) hta) fun vs σ₃ hI₃ hvs g₃ => ?_
      split
      · exact ih.loop σ₃ fv vs env hI₃ (hS.V_mono g₃ hfv) hvs (.inr ‹_›)
      · exact .ofErr hI₃ herr (hS.rel.refl σ₃)
  · rw [applyLoop_apply _ _ _ har]
    have hsp := hS.spreadApply ha (fun h => by rw [h] at har; cases har)
    split
    · rename_i er he; exact .ofErr hI (hsp.2 er he) r
    · rename_i f args' he
      obtain ⟨hf, ha', hpf⟩ := hsp.1 f args' he
      exact ih.loop σ f args' env hI hf ha' (.inr hpf)
  · rw [applyLoop_builtin_step _ _ _ hb har]
    exact ⟨hS.applyPure hI ha hb har, hS.rel.applyPure σ b as⟩

theorem scheme_succ (σ lam cenv as) (hI : S.I σ) (hc : S.Env σ cenv) (hl : S.CL lam) (ha : S.Vs σ as)
    (hq : S.Lax ∨ arityOk lam.formals.fixed.length lam.formals.rest.isSome as.length = true) :
    S.Post σ S.T (applyScheme (n+1) σ lam cenv as) := by
  rw [applyScheme_seq]
  obtain ⟨hds, hbody, hne⟩ := hS.lam hl
  obtain ⟨hI₀, hρ₀⟩ := hS.newFrame hI hc
  have g₀ := hS.rel.newFrame σ (some cenv)
  have h₁ := hS.bindFixed lam.formals.fixed as _ (σ.newFrame (some cenv)).1 hI₀
    (fun a h => hS.V_mono g₀ (ha a h)) (hq.imp id arityOk_le)
  have g₁ := hS.rel.bindFixed lam.formals.fixed as (σ.newFrame (some cenv)).2 (σ.newFrame (some cenv)).1
  split
  · rename_i er σ₁ heq; rw [heq] at h₁ g₁; exact .ofErr h₁.1 (h₁.2.2 er rfl) (hS.rel.trans g₀ g₁)
  · rename_i restArgs σ₁ heq; rw [heq] at h₁ g₁
    have g₂ := hS.rel.bindRest σ₁ (σ.newFrame (some cenv)).1 lam.formals.rest restArgs
    have hρ₂ := hS.Env_mono g₂ (hS.Env_mono g₁ hρ₀)
    exact hS.after (hS.rel.trans g₀ (hS.rel.trans g₁ g₂))
      (hS.andThen (ih.defs _ _ lam.defs (hS.bindRest h₁.1 (h₁.2.1 _ rfl) _ lam.formals.rest) hρ₂ hds)
        fun _ σ₃ hI₃ _ g₃ => ih.body σ₃ _ lam.body hI₃ (hS.Env_mono g₃ hρ₂) hbody hne)

theorem defs_succ (σ ρ ds) (hI : S.I σ) (hρ : S.Env σ ρ) (hC : S.Ds ds) :
    S.Post σ (fun _ _ => True) (evalDefs (n+1) σ ρ ds) := by
  cases ds with
  | nil => rw [evalDefs_nil]; exact .ofOk hI trivial (hS.rel.refl σ)
  | cons d ds =>
    obtain ⟨name, e, l⟩ := d
    rw [evalDefs_cons]
    refine hS.andThen (ih.expr σ ρ e hI hρ (hC name e l (List.mem_cons_self ..))) fun v σ₁ hI₁ hv g₁ => ?_
    have g := hS.rel.define σ₁ ρ name v
    exact hS.after g (ih.defs _ ρ ds (hS.define hI₁ hv ρ name) (hS.Env_mono g (hS.Env_mono g₁ hρ))
      fun x e l h => hC x e l (List.mem_cons_of_mem _ h))

theorem body_succ (σ ρ es) (hI : S.I σ) (hρ : S.Env σ ρ) (hC : S.Cs es) (hq : S.Lax ∨ es ≠ []) :
    S.Post σ S.T (evalBody (n+1) σ ρ es) := by
  match es with
  | [] =>
    rw [evalBody_nil]
    rcases hq with hq | hq
    · exact .ofErr hI (hq _) (hS.rel.refl σ)
    · exact absurd rfl hq
  | [last] => rw [evalBody_last]; exact ih.tail σ ρ last hI hρ (hC last (List.mem_cons_self ..))
  | e :: e2 :: es =>
    rw [evalBody_cons]
    exact hS.andThen (ih.expr σ ρ e hI hρ (hC e (List.mem_cons_self ..))) fun _ σ₁ hI₁ _ g₁ =>
      ih.body σ₁ ρ (e2 :: es) hI₁ (hS.Env_mono g₁ hρ) (fun x hx => hC x (List.mem_cons_of_mem _ hx))
        (.inr (List.cons_ne_nil _ _))

theorem tail_succ (σ ρ e) (hI : S.I σ) (hρ : S.Env σ ρ) (hC : S.C e) :
    S.Post σ S.T (evalTail (n+1) σ ρ e) := by
  rcases e.tail_cases with ⟨f, as, l, rfl⟩ | ⟨t, c, a, l, rfl⟩ | ⟨h₁, h₂⟩
  · obtain ⟨hf, hargs, herr⟩ := hS.call hC
    rw [evalTail_call]; exact .ofOk hI ⟨hf, hargs, herr, hρ⟩ (hS.rel.refl σ)
  · obtain ⟨ht, hc, ha⟩ := hS.cond hC
    rw [evalTail_cond]
    refine hS.andThen (ih.expr σ ρ t hI hρ ht) fun tv σ₁ hI₁ _ g => ?_
    have hρ₁ := hS.Env_mono g hρ
    split
    · exact ih.tail σ₁ ρ c hI₁ hρ₁ hc
    · cases a
      · exact .ofOk hI₁ hS.V_void (hS.rel.refl σ₁)
      · exact ih.tail σ₁ ρ _ hI₁ hρ₁ (ha _ rfl)
  · rw [evalTail_other h₁ h₂]
    exact hS.andThen (ih.expr σ ρ e hI hρ hC) fun v σ₁ hI₁ hv _ => .ofOk hI₁ hv (hS.rel.refl σ₁)

omit ih

theorem eval : ∀ n, S.InvAt n
  | 0 => by
    have he : S.Err (.fuel, none) := hS.err _ (fun s h => by cases h)
    constructor <;> intros <;>
      simp only [evalExpr_zero, evalArgs_zero, applyProcedure_zero, applyLoop_zero, applyScheme_zero, evalDefs_zero,
        evalBody_zero, evalTail_zero] <;> exact .ofErr (by assumption) he (hS.rel.refl _)
  | n+1 =>
    have ih := eval n
    ⟨hS.expr_succ ih, hS.args_succ ih, hS.proc_succ ih, hS.loop_succ ih, hS.scheme_succ ih,
     hS.defs_succ ih, hS.body_succ ih, hS.tail_succ ih⟩

end Sound
end EvalInv

/-! ## relations again: nothing but `R` is claimed -/

structure RelAt (R : Store → Store → Prop) (n : Nat) : Prop where
  expr : ∀ σ ρ e, R σ (evalExpr n σ ρ e).2
  args : ∀ σ ρ es, R σ (evalArgs n σ ρ es).2
  proc : ∀ σ p as env, R σ (applyProcedure n σ p as env).2
  loop : ∀ σ p as env, R σ (applyLoop n σ p as env).2
  scheme : ∀ σ lam cenv as, R σ (applyScheme n σ lam cenv as).2
  defs : ∀ σ ρ ds, R σ (evalDefs n σ ρ ds).2
  body : ∀ σ ρ es, R σ (evalBody n σ ρ es).2
  tail : ∀ σ ρ e, R σ (evalTail n σ ρ e).2

namespace StepRel
variable {R : Store → Store → Prop} (h : StepRel R)
include h

theorem sound : EvalInv.Sound ⟨R, fun _ => True, fun _ _ => True, fun _ _ => True, fun _ => True, fun _ => True,
    fun _ => True⟩ where
  rel := h
  V_mono := fun _ _ => trivial
  Env_mono := fun _ _ => trivial
  of_eq := fun _ _ => ⟨fun _ => trivial, fun _ _ => trivial⟩
  lookup := fun _ _ => trivial
  define := fun _ _ _ _ => trivial
  newFrame := fun _ _ => ⟨trivial, trivial⟩
  prim := fun _ => ⟨fun _ _ _ => trivial, fun _ _ => trivial⟩
  lit := fun _ _ => ⟨trivial, fun _ _ => trivial, fun _ _ => trivial⟩
  applyPure := fun _ _ _ _ => ⟨trivial, fun _ _ => trivial, fun _ _ => trivial⟩
  V_pair := ⟨fun _ => ⟨trivial, trivial⟩, fun _ => trivial⟩
  V_nil := trivial
  V_void := trivial
  V_closure := ⟨fun _ => ⟨trivial, trivial⟩, fun _ => trivial⟩
  err := fun _ _ => trivial
  call := fun _ => ⟨trivial, fun _ _ => trivial, trivial⟩
  assign := fun _ => ⟨trivial, trivial⟩
  cond := fun _ => ⟨trivial, trivial, fun _ _ => trivial⟩
  lambda := fun _ => trivial
  sym := fun _ => trivial
  lam := fun _ => ⟨fun _ _ _ _ => trivial, fun _ _ => trivial, .inl fun _ => trivial⟩

theorem eval (n : Nat) : RelAt R n :=
  have a := h.sound.eval n
  have lax : EvalInv.Lax _ := fun _ => trivial
  ⟨fun σ ρ e => (a.expr σ ρ e trivial trivial trivial).rel,
   fun σ ρ es => (a.args σ ρ es trivial trivial fun _ _ => trivial).rel,
   fun σ p as env => (a.proc σ p as env trivial trivial (fun _ _ => trivial) (.inl lax)).rel,
   fun σ p as env => (a.loop σ p as env trivial trivial (fun _ _ => trivial) (.inl lax)).rel,
   fun σ lam cenv as => (a.scheme σ lam cenv as trivial trivial trivial (fun _ _ => trivial) (.inl lax)).rel,
   fun σ ρ ds => (a.defs σ ρ ds trivial trivial fun _ _ _ _ => trivial).rel,
   fun σ ρ es => (a.body σ ρ es trivial trivial (fun _ _ => trivial) (.inl lax)).rel,
   fun σ ρ e => (a.tail σ ρ e trivial trivial trivial).rel⟩

theorem scheme_succ (n : Nat) (σ lam cenv as) :
    R (σ.newFrame (some cenv)).2 (applyScheme (n+1) σ lam cenv as).2 := by
  rw [applyScheme_seq]
  have h₁ := h.bindFixed lam.formals.fixed as (σ.newFrame (some cenv)).2 (σ.newFrame (some cenv)).1
  split
  · rename_i heq; rw [heq] at h₁; exact h₁
  · rename_i restArgs σ₁ heq; rw [heq] at h₁
    have h₂ := h.trans (h.trans h₁ (h.bindRest σ₁ (σ.newFrame (some cenv)).1 lam.formals.rest restArgs))
      ((h.eval n).defs _ (σ.newFrame (some cenv)).1 lam.defs)
    rcases hd : evalDefs n _ _ lam.defs with ⟨_ | _, σ₂⟩ <;> rw [hd] at h₂
    · exact h₂
    · exact h.trans h₂ ((h.eval n).body ..)

end StepRel

end Ruschm.Eval
