/-
The model lexer against the declarative tokenizer of `RuschmSpec/LexSpec.lean`, scanner by scanner and
with the cursor forgotten. The specification classifies CHUNKS, the runs of non-delimiters; so a
scanner is put on `w ++ rest` with `Chunk w` and a delimiter at the head of `rest`, and the lemma says
what it makes of `w`: that is `X_chunk`. `X_forget` is `forgetScan (X …)` on every text.
-/
import RuschmProofs.LexLemmas
import RuschmSpec.LexSpec

namespace Ruschm.LexSpecLemmas
open Ruschm Ruschm.Lex Ruschm.Text

/-! ## character classes -/

theorem isBlank_eq (c : Char) : LexSpec.isBlank c = isWs c := by
  simp [LexSpec.isBlank, LexSpec.blanks, isWs, Bool.or_assoc]

theorem isDelim_eq (c : Char) : LexSpec.isDelim c = isDelimiter c := by
  simp [LexSpec.isDelim, LexSpec.delimiters, isDelimiter, isWs, Bool.or_assoc]

theorem isAlpha_eq (c : Char) : c.isAlpha = isLetter c := by
  rw [Bool.eq_iff_iff, isLetter_iff]
  simp only [Char.isAlpha, Char.isUpper, Char.isLower, ge_iff_le, Bool.or_eq_true,
    Bool.and_eq_true, decide_eq_true_eq, UInt32.le_iff_toNat_le]
  exact Or.comm

theorem isInitial_eq (c : Char) : LexSpec.isInitial c = isInitial c := by
  simp only [LexSpec.isInitial, isAlpha_eq, LexSpec.specialInitials, isInitial]
  rw [Bool.eq_iff_iff]
  simp only [List.contains_cons, List.contains_nil, Bool.or_eq_true, beq_iff_eq,
    decide_eq_true_eq, Bool.or_false]
  grind

theorem isSubsequent_eq (c : Char) : LexSpec.isSubsequent c = isSubsequent c := by
  simp only [LexSpec.isSubsequent, isInitial_eq, Char_isDigit_eq, isSubsequent]
  rw [Bool.eq_iff_iff]
  simp only [List.contains_cons, List.contains_nil, Bool.or_eq_true, beq_iff_eq,
    decide_eq_true_eq, Bool.or_false]
  grind

theorem isAlphanum_eq (c : Char) : c.isAlphanum = isAsciiAlnum c := by
  simp [Char.isAlphanum, isAlpha_eq, Char_isDigit_eq, isAsciiAlnum]

theorem isDigit_fun : Char.isDigit = isDigit := funext Char_isDigit_eq
theorem isAlphanum_fun : Char.isAlphanum = isAsciiAlnum := funext isAlphanum_eq
theorem isSubsequent_fun : LexSpec.isSubsequent = isSubsequent := funext isSubsequent_eq

/-! ## forgetting the cursor

`forget` for `token` and `next`, `forgetScan` for a scanner, `forgetSub` for a sub-scanner, which delivers a
text and no token yet. -/

def forget : Except LexErr (Option (Token × List Char × Pos)) → LexSpec.Step
  | .error _ => .error
  | .ok none => .eof
  | .ok (some (t, r, _)) => .tok t r

def forgetScan : Scan → LexSpec.Step
  | .error _ => .error
  | .ok (t, r, _) => .tok t r

def forgetSub {α} : Except LexErr (α × List Char × Pos) → Option (α × List Char)
  | .error _ => none
  | .ok (a, r, _) => some (a, r)

theorem forget_map (x : Scan) : forget (x.map some) = forgetScan x := by
  cases x with
  | error e => rfl
  | ok r => obtain ⟨t, r, p⟩ := r; rfl

/-! ## atmosphere -/

theorem skipAtmos_eq (b : Bool) (cs : List Char) (p : Pos) :
    (skipAtmosphere b cs p).1 = LexSpec.skipAtmos b cs := by
  rw [skipAtmosphere_eq]
  induction cs generalizing b p with
  | nil => cases b <;> rfl
  | cons c cs ih =>
    have : LexSpec.skipAtmos b (c :: cs) = (atmosStep b c).elim (c :: cs) (LexSpec.skipAtmos · cs) := by
      rw [← atmosStep_rec]; cases b
      · rw [LexSpec.skipAtmos, isBlank_eq]
      · rfl
    rw [skipAtmosphereS_cons, this]
    cases atmosStep b c with
    | none => rfl
    | some b' => exact ih b' _

/-! ## `takeWhile` / `dropWhile` on a chunk followed by a delimiter -/

def AvoidsDelims (f : Char → Bool) : Prop := ∀ c, isDelimiter c = true → f c = false

theorem tw_append (f : Char → Bool) (hf : AvoidsDelims f) (w rest : List Char)
    (hr : startsDelim rest = true) :
    (w ++ rest).takeWhile f = w.takeWhile f ∧ (w ++ rest).dropWhile f = w.dropWhile f ++ rest := by
  induction w with
  | nil =>
    cases rest with
    | nil => simp
    | cons d r => simp [startsDelim] at hr; simp [List.takeWhile, List.dropWhile, hf d hr]
  | cons c w ih =>
    by_cases hc : f c = true
    · simp [List.takeWhile, List.dropWhile, hc, ih.1, ih.2]
    · simp [List.takeWhile, List.dropWhile, hc]

theorem AvoidsDelims.of_ns {f : Char → Bool} (h : ∀ c, f c = true → c ∉ specials) :
    AvoidsDelims f := fun c hc => by
  cases hf : f c with
  | false => rfl
  | true => rw [isDelimiter_of_not_mem (h c hf)] at hc; cases hc

theorem avoids_digit : AvoidsDelims isDigit := .of_ns fun _ => isDigit_ns
theorem avoids_subsequent : AvoidsDelims isSubsequent := .of_ns fun _ => isSubsequent_ns
theorem avoids_alnum : AvoidsDelims isAsciiAlnum := .of_ns fun _ => isAsciiAlnum_ns

theorem dropWhile_head (f : Char → Bool) (w : List Char) {x : Char} {tl : List Char}
    (h : w.dropWhile f = x :: tl) : f x = false := by
  have := List.head?_dropWhile_not f w
  rwa [h] at this

theorem dropWhile_nil_iff (f : Char → Bool) (w : List Char) :
    w.dropWhile f = [] ↔ w.all f = true := by
  induction w with
  | nil => simp
  | cons c w ih =>
    by_cases hc : f c = true
    · simp [List.dropWhile, hc, ih]
    · simp [List.dropWhile, hc]

theorem takeWhile_of_all (f : Char → Bool) (w : List Char) (h : w.all f = true) :
    w.takeWhile f = w := by
  have := List.takeWhile_append_dropWhile (p := f) (l := w)
  rwa [(dropWhile_nil_iff f w).2 h, List.append_nil] at this

def Chunk (w : List Char) : Prop := ∀ c ∈ w, isDelimiter c = false

theorem Chunk.tail {c w} (h : Chunk (c :: w)) : Chunk w := fun x hx => h x (by simp [hx])
theorem Chunk.head {c w} (h : Chunk (c :: w)) : isDelimiter c = false := h c (by simp)
theorem Chunk.dropWhile {w} (f : Char → Bool) (h : Chunk w) : Chunk (w.dropWhile f) :=
  fun x hx => h x ((List.dropWhile_sublist f).subset hx)
theorem Chunk.append_left {a b} (h : Chunk (a ++ b)) : Chunk a := fun x hx => h x (by simp [hx])
theorem Chunk.append_right {a b} (h : Chunk (a ++ b)) : Chunk b := fun x hx => h x (by simp [hx])

theorem endOfToken_chunk (w rest : List Char) (p : Pos) (hw : Chunk w)
    (hr : startsDelim rest = true) :
    endOfToken (w ++ rest) p = if w = [] then .ok () else .error p := by
  cases w with
  | nil => simp [endOfToken_eq, hr]
  | cons c w => simp [endOfToken, testDelimiter, hw.head]

/-- a run over a chunk in front of a delimiter, then the test for the end of the token: it is passed
when the whole chunk is in the run (`q`: the cursor after the run) -/
theorem run_chunk {β : Type} (f : Char → Bool) (hf : AvoidsDelims f) (w rest : List Char)
    (q : List Char → Pos) (hw : Chunk w) (hr : startsDelim rest = true)
    (k : List Char → List Char → Pos → Except LexErr β) :
    (do endOfToken ((w ++ rest).dropWhile f) (q ((w ++ rest).takeWhile f))
        k ((w ++ rest).takeWhile f) ((w ++ rest).dropWhile f) (q ((w ++ rest).takeWhile f)))
      = if w.all f then k w rest (q w) else .error (q (w.takeWhile f)) := by
  rw [(tw_append f hf w rest hr).1, (tw_append f hf w rest hr).2,
    endOfToken_chunk _ rest _ (hw.dropWhile f) hr]
  cases h : w.all f
  · rw [if_neg fun e => by rw [(dropWhile_nil_iff f w).1 e] at h; cases h]; rfl
  · rw [(dropWhile_nil_iff f w).2 h, takeWhile_of_all f w h]; rfl

theorem startsDelim_chunk (w rest : List Char) (hw : Chunk w) (hr : startsDelim rest = true) :
    startsDelim (w ++ rest) = decide (w = []) := by
  cases w with
  | nil => simp [hr]
  | cons c w => simp [startsDelim, hw.head]

/-! ## identifiers -/

theorem delim_not_subsequent {d : Char} (h : isDelimiter d = true) : isSubsequent d = false :=
  avoids_subsequent d h

theorem normalIdentifier_chunk (first : Char) (w rest : List Char) (p : Pos) (hw : Chunk w)
    (hr : startsDelim rest = true) :
    forgetScan (normalIdentifier first (w ++ rest) p)
      = LexSpec.ofClass
          (if w.all isSubsequent then some (.ident (String.ofList (first :: w))) else none) rest := by
  rw [normalIdentifier_eq, run_chunk isSubsequent avoids_subsequent w rest (advs · p) hw hr
    fun run cs q => pure (Token.ident (String.ofList (first :: run)), cs, q)]
  cases w.all isSubsequent <;> rfl

/-- may the chunk `w` follow the first character of a peculiar identifier? -/
def dotOK : List Char → Bool
  | [] => true
  | c :: r => isDotSubsequent c && (c :: r).all isSubsequent

theorem delim_not_dotsub {d : Char} (h : isDelimiter d = true) : isDotSubsequent d = false :=
  AvoidsDelims.of_ns (fun _ => not_mem_of_class (l := specials) (P := isDotSubsequent) (by decide +kernel)) d h

theorem dotSubsequent_chunk (acc w rest : List Char) (p : Pos) (hw : Chunk w)
    (hr : startsDelim rest = true) :
    forgetSub (dotSubsequent acc (w ++ rest) p)
      = if dotOK w then some (acc ++ w, rest) else none := by
  rw [dotSubsequent_eq]
  cases w with
  | nil =>
    have : dotStart rest = false := by
      cases rest with
      | nil => rfl
      | cons d r => exact delim_not_dotsub hr
    simp [this, endOfToken_eq, hr, forgetSub, dotOK, bind, Except.bind, pure, Except.pure]
  | cons c w =>
    cases h : isDotSubsequent c
    · simp [dotStart, dotOK, h, endOfToken, testDelimiter, hw.head, forgetSub, bind, Except.bind]
    · rw [show dotStart (c :: w ++ rest) = true from h, if_pos rfl,
        run_chunk isSubsequent avoids_subsequent (c :: w) rest (advs · p) hw hr fun run cs q =>
          pure (acc ++ run, cs, q),
        dotOK, h, Bool.true_and]
      cases (c :: w).all isSubsequent <;> rfl

theorem forgetScan_bind_ident (x : Except LexErr (List Char × List Char × Pos)) :
    forgetScan (x >>= fun r => pure (Token.ident (String.ofList r.1), r.2.1, r.2.2))
      = match forgetSub x with
        | some (s, rest) => .tok (.ident (String.ofList s)) rest
        | none => .error := by
  cases x with
  | error e => rfl
  | ok r => obtain ⟨a, b, c⟩ := r; rfl

theorem peculiarIdentifier_chunk (first : Char) (w rest : List Char) (p : Pos) (hw : Chunk w)
    (hr : startsDelim rest = true)
    (hdot : (first = '+' ∨ first = '-') → w.head? ≠ some '.') :
    forgetScan (peculiarIdentifier first (w ++ rest) p)
      = LexSpec.ofClass (if dotOK w then some (.ident (String.ofList (first :: w))) else none)
          rest := by
  -- the dot is not taken at once: it does not follow a sign inside the chunk, and no delimiter is a dot
  have hc : ((first = '+' || first = '-') && (w ++ rest).head? = some '.') = false := by
    cases hs : (first = '+' || first = '-')
    · rfl
    · have hs' : first = '+' ∨ first = '-' := by simpa using hs
      cases w with
      | nil =>
        cases rest with
        | nil => rfl
        | cons d r => simp only [startsDelim] at hr; simpa using fun e : d = '.' => by subst e; revert hr; decide
      | cons x w => simpa using fun e : x = '.' => hdot hs' (by rw [e]; rfl)
  rw [peculiarIdentifier_eq, hc, forgetScan_bind_ident, if_neg Bool.false_ne_true,
    dotSubsequent_chunk [first] w rest p hw hr]
  cases dotOK w <;> simp [LexSpec.ofClass]

/-! ## numbers: what the scanners do on a chunk -/

theorem delim_not_digit {d : Char} (h : isDelimiter d = true) : isDigit d = false := avoids_digit d h

theorem delim_not_sign {d : Char} (h : isDelimiter d = true) : (d = '+' || d = '-') = false := by
  have := delim_not_dotsub h
  simp only [isDotSubsequent, Bool.or_eq_false_iff] at this ⊢
  exact ⟨this.1.1.1.1, this.1.1.1.2⟩

theorem suffix_chunk (lit r rest : List Char) (p : Pos) (hr : Chunk r)
    (hd : startsDelim rest = true) :
    forgetSub (match numberSuffix lit ('e' :: (r ++ rest)) p with
      | (lit', cs2, p2) => do endOfToken cs2 p2; pure (lit', cs2, p2))
      = if (LexSpec.unsigned r).all isDigit then some (lit ++ 'e' :: r, rest) else none := by
  -- the sign, if any, is in the chunk: no delimiter is a sign
  have hs : signPart (r ++ rest) = signPart r ∧ LexSpec.unsigned (r ++ rest) = LexSpec.unsigned r ++ rest := by
    cases r with
    | cons c r => simp only [List.cons_append, signPart, LexSpec.unsigned]; split <;> simp
    | nil =>
      cases rest with
      | nil => exact ⟨rfl, rfl⟩
      | cons d rest => simp [signPart, LexSpec.unsigned, delim_not_sign hd]
  have hu : Chunk (LexSpec.unsigned r) := by
    intro x hx; apply hr x
    rw [← signPart_unsigned r]; simp [hx]
  rw [numberSuffix_eq, hs.1, hs.2]
  dsimp only
  rw [run_chunk isDigit avoids_digit _ rest (fun run => advs ('e' :: (signPart r ++ run)) p) hu hd
    fun run cs q => pure (lit ++ 'e' :: (signPart r ++ run), cs, q)]
  cases (LexSpec.unsigned r).all isDigit
  · rfl
  · rw [if_pos rfl, if_pos rfl, signPart_unsigned]; rfl

theorem delim_ne {d : Char} (h : isDelimiter d = true) : d ≠ 'e' ∧ d ≠ '.' ∧ d ≠ '/' := by
  refine ⟨?_, ?_, ?_⟩ <;> (rintro rfl; revert h; decide)

/-- what may follow the dot of a decimal inside a chunk: `digits* (e sign? digits*)?` -/
def realTailOK (r : List Char) : Bool :=
  match r.dropWhile isDigit with
  | [] => true
  | c :: r' => c = 'e' && (LexSpec.unsigned r').all isDigit

theorem real_chunk (lit r rest : List Char) (p : Pos) (hr : Chunk r)
    (hd : startsDelim rest = true) :
    forgetSub (real lit ('.' :: (r ++ rest)) p)
      = if realTailOK r then some (lit ++ '.' :: r, rest) else none := by
  rw [real_eq, (tw_append isDigit avoids_digit r rest hd).1, (tw_append isDigit avoids_digit r rest hd).2]
  have hsplit := List.takeWhile_append_dropWhile (p := isDigit) (l := r)
  cases hex : r.dropWhile isDigit with
  | nil =>
    rw [hex, List.append_nil] at hsplit
    have hne : ∀ c', rest ≠ 'e' :: c' := fun c' e => by subst e; simp [startsDelim, isDelimiter, isWs] at hd
    rw [List.nil_append, hsplit]
    split
    · exact absurd rfl (hne _)
    · simp [endOfToken_eq, hd, forgetSub, realTailOK, hex, bind, Except.bind, pure, Except.pure]
  | cons x tl =>
    have hxc : Chunk (x :: tl) := by rw [← hex]; exact hr.dropWhile isDigit
    rw [hex] at hsplit
    rw [List.cons_append]
    by_cases hxe : x = 'e'
    · subst hxe
      simp only [suffix_chunk _ tl rest _ hxc.tail hd, realTailOK, hex, decide_true, Bool.true_and]
      split
      · rw [List.append_assoc, List.cons_append, hsplit]
      · rfl
    · split
      · rename_i heq; cases heq; exact absurd rfl hxe
      · simp [hxe, forgetSub, realTailOK, hex, endOfToken, testDelimiter, hxc.head, bind, Except.bind]

def ratOf (a : Option Int) (b : Option Nat) : Option Token :=
  a.bind fun a => b.bind fun b => if 0 < b then some (.prim (.rat a b)) else none

/-- the outcome of `number` on a chunk `first :: w`, as a function of the chunk alone -/
def numModel (first : Char) (w : List Char) : Option Token :=
  match w.dropWhile isDigit with
  | [] => (parseI32? (first :: w)).map (fun i => .prim (.int i))
  | c :: r =>
    if c = 'e' then
      if (LexSpec.unsigned r).all isDigit && validReal (first :: w) then
        some (.prim (.real (String.ofList (first :: w)))) else none
    else if c = '.' then
      if realTailOK r && validReal (first :: w) then
        some (.prim (.real (String.ofList (first :: w)))) else none
    else if c = '/' then ratOf (parseI32? (first :: w.takeWhile isDigit)) (parseU32? r)
    else none

def realOf (o : Option (List Char × List Char)) : LexSpec.Step :=
  match o with
  | some (l, c) => if validReal l then .tok (.prim (.real (String.ofList l))) c else .error
  | none => .error

theorem realToken_after_bind (y : Except LexErr (List Char × List Char × Pos)) :
    forgetScan (y >>= fun x => realToken x.1 x.2.1 x.2.2) = realOf (forgetSub y) := by
  cases y with
  | error e => rfl
  | ok x =>
    obtain ⟨l, c, q⟩ := x
    simp only [bind, Except.bind, forgetSub, realOf, realToken]
    split <;> rfl

theorem realToken_after_end (l c : List Char) (q : Pos) :
    forgetScan (do endOfToken c q; realToken l c q)
      = realOf (forgetSub (do endOfToken c q; pure (l, c, q))) := by
  rw [← realToken_after_bind]; cases endOfToken c q <;> rfl

theorem integerToken_forget (lit cs : List Char) (p : Pos) :
    forgetScan (integerToken lit cs p)
      = LexSpec.ofClass ((parseI32? lit).map (fun i => .prim (.int i))) cs := by
  unfold integerToken
  cases parseI32? lit <;> rfl

theorem ratToken_forget (lit den rest : List Char) (p : Pos) :
    forgetScan (ratToken lit den rest p) = LexSpec.ofClass (ratOf (parseI32? lit) (parseU32? den)) rest := by
  unfold ratToken ratOf
  cases parseI32? lit with
  | none => rfl
  | some a =>
    cases parseU32? den with
    | none => rfl
    | some b => cases b <;> rfl

theorem number_chunk (first : Char) (w rest : List Char) (p : Pos) (hw : Chunk w)
    (hd : startsDelim rest = true) :
    forgetScan (number first (w ++ rest) p) = LexSpec.ofClass (numModel first w) rest := by
  rw [number_eq, (tw_append isDigit avoids_digit w rest hd).1, (tw_append isDigit avoids_digit w rest hd).2]
  have hsplit := List.takeWhile_append_dropWhile (p := isDigit) (l := w)
  cases hex : w.dropWhile isDigit with
  | nil =>
    have hall := (dropWhile_nil_iff isDigit _).mp hex
    have hne : ∀ x r', rest = x :: r' → x ≠ 'e' ∧ x ≠ '.' ∧ x ≠ '/' := fun x r' e => by
      subst e; exact delim_ne hd
    rw [takeWhile_of_all isDigit _ hall, List.nil_append]
    simp only [numModel, hex]
    split
    · exact absurd rfl (hne _ _ rfl).1
    · exact absurd rfl (hne _ _ rfl).2.1
    · exact absurd rfl (hne _ _ rfl).2.2
    · rw [endOfToken_eq, hd]; exact integerToken_forget _ _ _
  | cons x tl =>
    have hxc : Chunk (x :: tl) := by rw [← hex]; exact hw.dropWhile isDigit
    rw [hex] at hsplit
    simp only [List.cons_append, numModel, hex]
    by_cases hxe : x = 'e'
    · subst hxe
      simp only [if_true]
      have h1 := suffix_chunk (first :: w.takeWhile isDigit) tl rest (advs (w.takeWhile isDigit) p)
        hxc.tail hd
      generalize numberSuffix (first :: w.takeWhile isDigit) ('e' :: (tl ++ rest))
        (advs (w.takeWhile isDigit) p) = y at h1
      obtain ⟨l, c, q⟩ := y
      simp only at h1 ⊢
      rw [realToken_after_end, h1]
      simp only [List.cons_append, hsplit]
      cases (LexSpec.unsigned tl).all isDigit <;> cases hv : validReal (first :: w) <;>
        simp [realOf, hv, LexSpec.ofClass]
    by_cases hxd : x = '.'
    · subst hxd
      simp only [show ('.' : Char) ≠ 'e' by decide, if_true, if_false]
      rw [realToken_after_bind, real_chunk _ tl rest _ hxc.tail hd]
      simp only [List.cons_append, hsplit]
      cases realTailOK tl <;> cases hv : validReal (first :: w) <;> simp [realOf, hv, LexSpec.ofClass]
    by_cases hxs : x = '/'
    · subst hxs
      simp only [show ('/' : Char) ≠ 'e' by decide, show ('/' : Char) ≠ '.' by decide, if_true, if_false]
      rw [run_chunk isDigit avoids_digit tl rest (advs · (adv '/' (advs (w.takeWhile isDigit) p)))
        hxc.tail hd fun run cs q => ratToken (first :: w.takeWhile isDigit) run cs q]
      by_cases ha : tl.all isDigit = true
      · rw [if_pos ha]; exact ratToken_forget _ _ _ _
      · have hq : parseU32? tl = none := by simp [parseU32?, ha]
        rw [if_neg ha, hq]; cases parseI32? (first :: w.takeWhile isDigit) <;> rfl
    · split
      · rename_i heq; cases heq; exact absurd rfl hxe
      · rename_i heq; cases heq; exact absurd rfl hxd
      · rename_i heq; cases heq; exact absurd rfl hxs
      · simp [hxe, hxd, hxs, forgetScan, LexSpec.ofClass, endOfToken, testDelimiter, hxc.head, bind, Except.bind]

/-! ## numbers: the chunk classification -/

theorem natVal_eq (ds : List Char) : LexSpec.natVal ds = digitsVal ds := rfl

theorem parseI32_unsigned (t : List Char) :
    parseI32? t =
      if (LexSpec.unsigned t).isEmpty || !((LexSpec.unsigned t).all isDigit) then none
      else if fitsI32 (LexSpec.signedVal (t.head? = some '-') (LexSpec.unsigned t)) then
        some (LexSpec.signedVal (t.head? = some '-') (LexSpec.unsigned t))
      else none := by
  cases t with
  | nil => rfl
  | cons c r =>
    by_cases h1 : c = '-'
    · subst h1; rfl
    by_cases h2 : c = '+'
    · subst h2; rfl
    unfold parseI32?
    split
    rename_i heq
    split at heq
    · rename_i h; exact absurd (List.cons.inj h).1 h1
    · rename_i h; exact absurd (List.cons.inj h).1 h2
    · cases heq
      simp only [LexSpec.unsigned, h1, h2, decide_false, Bool.or_false, Bool.false_eq_true, if_false,
        List.head?_cons, Option.some.injEq]
      rfl

theorem parseU32_eq (r : List Char) :
    parseU32? r = if LexSpec.isDigits r && decide (LexSpec.natVal r ≤ 4294967295) then
      some (LexSpec.natVal r) else none := by
  unfold parseU32? LexSpec.isDigits
  rw [isDigit_fun]
  by_cases h1 : r.isEmpty = true <;> by_cases h2 : r.all isDigit = true <;>
    by_cases h3 : digitsVal r ≤ 4294967295 <;> simp [h1, h2, h3, natVal_eq]

theorem isExponent_cons (c : Char) (r : List Char) :
    LexSpec.isExponent (c :: r)
      = (decide (c = 'e') && (!(LexSpec.unsigned r).isEmpty && (LexSpec.unsigned r).all isDigit)) := by
  rw [← isDigit_fun]; rfl

def expOK (ex : List Char) : Bool := ex.isEmpty || LexSpec.isExponent ex

/-- `validReal` on an unsigned text cut after its leading digits `ip` (`validReal_unsigned`) -/
def vb2 (ip tl : List Char) : Bool :=
  match tl with
  | [] => !ip.isEmpty
  | c :: r =>
    if c = '.' then !(ip.isEmpty && (r.takeWhile isDigit).isEmpty) && expOK (r.dropWhile isDigit)
    else !ip.isEmpty && LexSpec.isExponent (c :: r)

/-- the sign removal as `validReal` writes it, a `match` on the first character, so that
`validReal_eq` holds by `rfl`; it is `LexSpec.unsigned` (`stripSign_eq`) -/
def stripSign : List Char → List Char
  | '-' :: r => r
  | '+' :: r => r
  | r => r

theorem stripSign_eq (t : List Char) : stripSign t = LexSpec.unsigned t := by
  cases t with
  | nil => rfl
  | cons c r =>
    by_cases h1 : c = '-'
    · subst h1; rfl
    · by_cases h2 : c = '+'
      · subst h2; rfl
      · simp [stripSign, LexSpec.unsigned, h1, h2]

/-- `m`: the mantissa has a digit -/
def expTest (m : Bool) : List Char → Bool
  | [] => m
  | 'e' :: r => m && !(stripSign r).isEmpty && (stripSign r).all isDigit
  | _ => false

theorem expTest_eq (m : Bool) (ex : List Char) : expTest m ex = (m && expOK ex) := by
  cases ex with
  | nil => simp [expTest, expOK]
  | cons c r =>
    by_cases hc : c = 'e'
    · subst hc
      simp only [expTest, stripSign_eq, expOK, isExponent_cons, List.isEmpty_cons, Bool.false_or,
        decide_true, Bool.true_and, Bool.and_assoc]
    · simp [expTest, expOK, isExponent_cons, hc]

def validBody (t : List Char) : Bool :=
  let ip := t.takeWhile isDigit
  let t := t.dropWhile isDigit
  let (fp, t) := match t with
    | '.' :: r => (r.takeWhile isDigit, r.dropWhile isDigit)
    | r => ([], r)
  expTest (!(ip.isEmpty && fp.isEmpty)) t

theorem validReal_eq (text : List Char) : validReal text = validBody (stripSign text) := rfl

theorem validBody_split (t : List Char) :
    validBody t = vb2 (t.takeWhile isDigit) (t.dropWhile isDigit) := by
  unfold validBody
  generalize t.takeWhile isDigit = ip
  generalize t.dropWhile isDigit = tl
  cases tl with
  | nil => simp [vb2, expTest]
  | cons c r =>
    by_cases hc : c = '.'
    · subst hc; simp only [vb2, if_true, expTest_eq]
    · have : (match c :: r with
          | '.' :: r => (r.takeWhile isDigit, r.dropWhile isDigit)
          | r => ([], r)) = ([], c :: r) := by
        split
        · rename_i h; simp only [List.cons.injEq] at h; exact absurd h.1 hc
        · rfl
      simp only [this, vb2, hc, if_false, expTest_eq, expOK, List.isEmpty_cons, Bool.false_or,
        List.isEmpty_nil, Bool.and_true]

theorem validReal_unsigned (t : List Char) :
    validReal t = vb2 ((LexSpec.unsigned t).takeWhile isDigit) ((LexSpec.unsigned t).dropWhile isDigit) := by
  rw [validReal_eq, stripSign_eq, validBody_split]

theorem isExponent_all {c : Char} {r : List Char} (h : LexSpec.isExponent (c :: r) = true) :
    (LexSpec.unsigned r).all isDigit = true := by
  rw [isExponent_cons] at h
  simp only [Bool.and_eq_true] at h
  exact h.2.2

theorem realTailOK_of {r : List Char} (h : expOK (r.dropWhile isDigit) = true) :
    realTailOK r = true := by
  unfold realTailOK
  unfold expOK at h
  cases hex : r.dropWhile isDigit with
  | nil => rfl
  | cons c r' =>
    rw [hex] at h
    simp only [List.isEmpty_cons, Bool.false_or, isExponent_cons, Bool.and_eq_true] at h
    simp only [h.1, h.2.2, Bool.and_self]

theorem digit_not_sign {c : Char} (h : isDigit c = true) : c ≠ '+' ∧ c ≠ '-' := by
  constructor <;> (rintro rfl; revert h; decide)

theorem numModel_eq (first : Char) (w : List Char)
    (hfirst : isDigit first = true ∨ first = '+' ∨ first = '-') :
    numModel first w = LexSpec.classifyNumber (first :: w) := by
  -- `classifyNumber` works on the text without its sign, `numModel` on the text after `first`: the
  -- two differ by `pre`, which is `[first]` for a digit and `[]` for a sign
  obtain ⟨pre, hb, hpre, hsg⟩ : ∃ pre, (∀ t, LexSpec.unsigned (first :: t) = pre ++ t) ∧
      pre.all isDigit = true ∧ (LexSpec.isSigned (first :: w) = true ∨ pre ≠ []) := by
    rcases hfirst with h | h | h
    · refine ⟨[first], ?_, by simp [h], Or.inr (by simp)⟩
      intro t; simp [LexSpec.unsigned, (digit_not_sign h).1, (digit_not_sign h).2]
    all_goals subst h; exact ⟨[], fun t => rfl, rfl, Or.inl rfl⟩
  have hpre' : ∀ a ∈ pre, isDigit a = true := by simpa using hpre
  have htw : ∀ t, (pre ++ t).takeWhile isDigit = pre ++ t.takeWhile isDigit :=
    fun t => List.takeWhile_append_of_pos hpre'
  have hdw : ∀ t, (pre ++ t).dropWhile isDigit = t.dropWhile isDigit :=
    fun t => List.dropWhile_append_of_pos hpre'
  unfold numModel LexSpec.classifyNumber
  simp only [isDigit_fun, hb, htw, hdw]
  cases hex : w.dropWhile isDigit with
  | nil =>
    have hall := (dropWhile_nil_iff isDigit _).mp hex
    simp only [takeWhile_of_all isDigit _ hall]
    rw [parseI32_unsigned, hb]
    simp only [List.all_append, hpre, hall, Bool.and_self, Bool.not_true, Bool.or_false]
    cases hemp : (pre ++ w).isEmpty <;> simp
  | cons c r =>
    simp only [validReal_unsigned, hb, htw, hdw, hex]
    generalize hip : pre ++ List.takeWhile isDigit w = ip
    have hne : ip.isEmpty = false ∨ LexSpec.isSigned (first :: w) = true := by
      rcases hsg with h | h
      · exact Or.inr h
      · left; subst hip; cases pre with
        | nil => exact absurd rfl h
        | cons a b => rfl
    by_cases hce : c = 'e'
    · subst hce
      simp only [show ('e' : Char) ≠ '/' by decide, show ('e' : Char) ≠ '.' by decide, if_true, if_false, vb2]
      -- the scanner's own test on the exponent part is implied by `validReal`
      rw [Bool.and_eq_right_iff_imp.mpr]
      intro h
      simp only [Bool.and_eq_true] at h
      exact isExponent_all h.2
    · by_cases hcd : c = '.'
      · subst hcd
        simp only [show ('.' : Char) ≠ '/' by decide, show ('.' : Char) ≠ 'e' by decide, if_true, if_false, vb2]
        rw [Bool.and_eq_right_iff_imp.mpr (fun h => realTailOK_of (by simp only [Bool.and_eq_true] at h; exact h.2))]
        have : (!(ip.isEmpty && (List.takeWhile isDigit r).isEmpty))
            = (!ip.isEmpty || LexSpec.isSigned (first :: w) && !(List.takeWhile isDigit r).isEmpty) := by
          rcases hne with h | h <;> rw [h] <;> simp
        rw [this]; rfl
      · by_cases hcs : c = '/'
        · subst hcs
          have hx : ip.all isDigit = true := by
            subst hip
            rw [List.all_append, hpre, List.all_takeWhile]; rfl
          rw [ratOf, parseI32_unsigned, hb, hip, parseU32_eq]
          simp only [hx, Bool.not_true, Bool.or_false, show ('/' : Char) ≠ 'e' by decide,
            show ('/' : Char) ≠ '.' by decide, if_true, if_false]
          generalize hv : LexSpec.signedVal
            (decide ((first :: List.takeWhile isDigit w).head? = some '-')) ip = v
          rw [show LexSpec.signedVal (decide ((first :: w).head? = some '-')) ip = v from hv ▸ rfl]
          generalize LexSpec.natVal r = n
          generalize decide (n ≤ 4294967295) = le
          cases n <;> cases ip.isEmpty <;> cases fitsI32 v <;> cases LexSpec.isDigits r <;>
            cases le <;> rfl
        · have : LexSpec.isExponent (c :: r) = false := by simp [isExponent_cons, hce]
          simp only [hce, hcd, hcs, if_false, this, Bool.and_false, Bool.false_eq_true]

/-! ## word chunks: numbers, identifiers, the period -/

theorem classifyNumber_none (t : List Char)
    (h : LexSpec.unsigned t = [] ∨ ∃ c r, LexSpec.unsigned t = c :: r ∧ isDigit c = false ∧ c ≠ '.') :
    LexSpec.classifyNumber t = none := by
  unfold LexSpec.classifyNumber
  simp only [isDigit_fun]
  rcases h with h | ⟨c, r, h, hd, hdot⟩
  · simp [h]
  · simp only [h, List.takeWhile, List.dropWhile, hd]
    by_cases hs : c = '/'
    · simp [hs]
    · simp [hs, hdot]

theorem classifyNumber_dot (w : List Char) : LexSpec.classifyNumber ('.' :: w) = none := by
  unfold LexSpec.classifyNumber
  simp [isDigit_fun, LexSpec.unsigned, isDigit, LexSpec.isSigned]

theorem isIdentStart_eq (c : Char) :
    LexSpec.isIdentStart c = !(isDigit c || isDelimiter c || c = '+' || c = '-' || c = '.' || c = '#'
      || c = '\'' || c = '`' || c = ',') := by
  simp [LexSpec.isIdentStart, Char_isDigit_eq, isDelim_eq, Bool.or_assoc]

theorem dotSub_eq (d : Char) : (LexSpec.isSignSubsequent d || d = '.') = isDotSubsequent d := by
  simp only [LexSpec.isSignSubsequent, isInitial_eq, isDotSubsequent]
  ac_rfl

theorem classifyIdent_dotOK (first : Char) (w : List Char)
    (hf : first = '+' ∨ first = '-' ∨ first = '.')
    (hdot : (first = '+' ∨ first = '-') → w.head? ≠ some '.')
    (hne : first = '.' → w ≠ []) :
    LexSpec.classifyIdent (first :: w)
      = if dotOK w then some (.ident (String.ofList (first :: w))) else none := by
  unfold LexSpec.classifyIdent
  cases w with
  | nil =>
    rcases hf with rfl | rfl | rfl
    · rfl
    · rfl
    · exact absurd rfl (hne rfl)
  | cons d r =>
    have e1 : d ≠ '.' → LexSpec.isSignSubsequent d = isDotSubsequent d := fun h => by
      rw [← dotSub_eq, decide_eq_false h, Bool.or_false]
    rcases hf with rfl | rfl | rfl
    · show (if (LexSpec.isSignSubsequent d && (d :: r).all LexSpec.isSubsequent) = true then _
        else _) = _
      rw [e1 (fun e => hdot (Or.inl rfl) (by rw [e]; rfl)), isSubsequent_fun]; rfl
    · show (if (LexSpec.isSignSubsequent d && (d :: r).all LexSpec.isSubsequent) = true then _
        else _) = _
      rw [e1 (fun e => hdot (Or.inr rfl) (by rw [e]; rfl)), isSubsequent_fun]; rfl
    · show (if ((LexSpec.isSignSubsequent d || d = '.') && (d :: r).all LexSpec.isSubsequent) = true
        then _ else _) = _
      rw [dotSub_eq, isSubsequent_fun]; rfl

theorem classify_word (c : Char) (w : List Char) (h5 : c ≠ '#') (hp : ¬ (c = '.' ∧ w = [])) :
    LexSpec.classify (c :: w)
      = (LexSpec.classifyNumber (c :: w)).orElse fun _ => LexSpec.classifyIdent (c :: w) := by
  unfold LexSpec.classify
  simp only [h5, if_false]
  have : (c = '.' && w.isEmpty) = false := by
    cases w with
    | nil => simp at hp; simp [hp]
    | cons x r => simp
  simp [this]

theorem orElse_none {α} (a : Option α) : (a.orElse fun _ => none) = a := by cases a <;> rfl

/-! `classify` tries numbers before identifiers. On the first characters of a chunk it decides as
`token` does: a digit starts a number, a sign does when a digit or a dot follows (`numFollows`),
everything else an identifier. -/

theorem classify_digit {c : Char} (w : List Char) (h : isDigit c = true) :
    LexSpec.classify (c :: w) = LexSpec.classifyNumber (c :: w) := by
  have hne : c ≠ '#' ∧ c ≠ '.' ∧ c ≠ '+' ∧ c ≠ '-' := by
    refine ⟨?_, ?_, ?_, ?_⟩ <;> (rintro rfl; revert h; decide)
  have hid : LexSpec.classifyIdent (c :: w) = none := by
    unfold LexSpec.classifyIdent
    simp [hne, isIdentStart_eq, h]
  rw [classify_word _ _ hne.1 (fun e => hne.2.1 e.1), hid, orElse_none]

theorem signSubsequent_cases {d : Char} (h : (d = '+' || d = '-' || d = '@' || isInitial d) = true) :
    isDigit d = false ∧ d ≠ '.' := by
  simp only [Bool.or_eq_true, decide_eq_true_eq] at h
  rcases h with ((rfl | rfl) | rfl) | h
  · decide
  · decide
  · decide
  · exact ⟨isInitial_not_digit h, by rintro rfl; revert h; decide⟩

theorem classify_sign {c : Char} (hs : c = '+' ∨ c = '-') (w : List Char) :
    LexSpec.classify (c :: w) = if numFollows w then LexSpec.classifyNumber (c :: w)
      else LexSpec.classifyIdent (c :: w) := by
  have h8 : (c = '+' || c = '-') = true := by simpa using hs
  have hne : c ≠ '#' ∧ c ≠ '.' := by rcases hs with rfl | rfl <;> decide
  rw [classify_word _ _ hne.1 (fun e => hne.2 e.1)]
  cases w with
  | nil => rw [classifyNumber_none _ (Or.inl (by simp [LexSpec.unsigned, h8]))]; rfl
  | cons x r =>
    by_cases hx : (isDigit x || x = '.') = true
    · -- no identifier: neither a digit nor the dot is a sign subsequent
      have hss : LexSpec.isSignSubsequent x = false := by
        rw [Bool.eq_false_iff]; intro h
        have := signSubsequent_cases (d := x) (by rw [← h, LexSpec.isSignSubsequent, isInitial_eq]; ac_rfl)
        rcases (by simpa using hx : isDigit x = true ∨ x = '.') with hx | hx
        · rw [this.1] at hx; cases hx
        · exact this.2 hx
      have hid : LexSpec.classifyIdent (c :: x :: r) = none := by
        unfold LexSpec.classifyIdent
        simp [h8, hss]
      rw [hid, orElse_none, show numFollows (x :: r) = true from hx, if_pos rfl]
    · have hx' : isDigit x = false ∧ x ≠ '.' := by simpa using hx
      rw [classifyNumber_none _ (Or.inr ⟨x, r, by simp [LexSpec.unsigned, h8], hx'.1, hx'.2⟩),
        show numFollows (x :: r) = false from (Bool.not_eq_true _).mp hx]
      rfl

theorem classify_dot (x : Char) (r : List Char) :
    LexSpec.classify ('.' :: x :: r) = LexSpec.classifyIdent ('.' :: x :: r) := by
  rw [classify_word _ _ (by decide) (by simp), classifyNumber_dot]; rfl

theorem classify_start {c : Char} (w : List Char) (hd : isDigit c = false)
    (hc : c ∉ tokenStarters) : LexSpec.classify (c :: w) = LexSpec.classifyIdent (c :: w) := by
  obtain ⟨-, -, -, -, nsharp, -, ndot, nplus, nminus, -, -⟩ := not_mem_tokenStarters.1 hc
  rw [classify_word _ _ nsharp (fun e => ndot e.1), classifyNumber_none _
    (Or.inr ⟨c, w, by simp [LexSpec.unsigned, nplus, nminus], hd, ndot⟩)]
  rfl

theorem numFollows_chunk (w : List Char) {rest : List Char} (hd : startsDelim rest = true) :
    numFollows (w ++ rest) = numFollows w := by
  cases w with
  | cons x r => rfl
  | nil =>
    cases rest with
    | nil => rfl
    | cons d r => simp [numFollows, delim_not_digit hd, (delim_ne hd).2.1]

/-! ## `|…|` identifiers -/

theorem quotedIdentifier_forget (cs : List Char) (p : Pos) (acc : List Char) :
    forgetScan (quotedIdentifier cs p acc)
      = match cs.dropWhile (· != '|') with
        | [] => .error
        | _ :: rest => .tok (.ident (String.ofList (acc.reverse ++ cs.takeWhile (· != '|')))) rest := by
  induction cs generalizing p acc with
  | nil => rfl
  | cons c cs ih =>
    unfold quotedIdentifier
    by_cases hc : c = '|'
    · subst hc; simp [forgetScan, List.dropWhile, List.takeWhile]
    · simp only [hc, if_false]
      rw [ih]
      have hb : (c != '|') = true := by simp [hc]
      simp [List.dropWhile, List.takeWhile, hb]

/-! ## hex values -/

theorem hexNat_eq : LexSpec.hexNat? = Proto.hexVal := rfl

theorem hexScalar_eq (ds : List Char) :
    (if ds.isEmpty then none else
      match Proto.hexVal ds with
      | none => none
      | some n =>
        if n ≤ 4294967295 ∧ (n < 0xD800 ∨ (0xDFFF < n ∧ n ≤ 0x10FFFF)) then some (Char.ofNat n)
        else none) = LexSpec.hexScalar ds := by
  unfold LexSpec.hexScalar
  rw [hexNat_eq]
  split
  · rfl
  · cases Proto.hexVal ds with
    | none => rfl
    | some n =>
      simp only
      have : (n ≤ 4294967295 ∧ (n < 0xD800 ∨ (0xDFFF < n ∧ n ≤ 0x10FFFF)))
          ↔ (n < 0xD800 ∨ (0xDFFF < n ∧ n ≤ 0x10FFFF)) := by omega
      simp only [this]

theorem hexScalar_escape (ds : List Char) : hexScalar? ds = LexSpec.hexEscapeValue ds := by
  unfold hexScalar? LexSpec.hexEscapeValue
  split <;> split
  · rename_i h; cases h; exact hexScalar_eq _
  · rename_i h; exact absurd rfl (h _)
  · rename_i h; exact (h _ rfl).elim
  · exact hexScalar_eq _

theorem hexScalar_noplus (ds : List Char) (h : ds.head? ≠ some '+') :
    hexScalar? ds = LexSpec.hexScalar ds := by
  rw [hexScalar_escape]
  unfold LexSpec.hexEscapeValue
  split
  · simp at h
  · rfl

/-! ## string literals -/

theorem hexPhase (cs : List Char) (p : Pos) (ds out : List Char) :
    LexSpec.scanStr (.hex ds) cs out
      = match hexEscape cs p ds with
        | .error _ => none
        | .ok (hex, cs2, _) =>
          match hexScalar? hex with
          | some ch => LexSpec.scanStr .normal cs2 (ch :: out)
          | none => none := by
  induction cs generalizing p ds with
  | nil => rfl
  | cons c cs ih =>
    unfold hexEscape
    by_cases hc : c = ';'
    · subst hc
      simp only [LexSpec.scanStr, if_true, hexScalar_escape]
      rfl
    · simp only [LexSpec.scanStr, hc, if_false]
      exact ih _ _

/-- the cases are numbered as in `string_tracks` -/
theorem string_forget (cs : List Char) (p : Pos) (acc : List Char) :
    forgetScan (Lex.string cs p acc)
      = match LexSpec.scanStr .normal cs acc with
        | some (s, rest) => .tok (.prim (.str (String.ofList s))) rest
        | none => .error := by
  have hex : ∀ tail acc, LexSpec.scanStr .normal ('\\' :: 'x' :: tail) acc
      = LexSpec.scanStr (.hex []) tail acc := fun _ _ => rfl
  fun_induction Lex.string cs p acc with
  | case1 => rfl
  | case2 => rfl
  | case3 => rfl
  | case13 p acc tail e p1 _ _ _ _ _ _ _ _ _ _ p2 h => rw [hex, hexPhase _ p2, h]; rfl
  | case14 p acc tail hex' cs2 p3 ch hsc p1 _ _ _ _ _ _ _ _ _ _ p2 h ih =>
    rw [hex, hexPhase _ p2, h, ih]; simp only [hsc]
  | case15 p acc tail hex' cs2 p3 hsc p1 _ _ _ _ _ _ _ _ _ _ p2 h =>
    rw [hex, hexPhase _ p2, h]; simp only [hsc]; rfl
  | case16 p acc ec tail h10 h9 h8 h7 h6 h5 h4 h3 h2 h1 =>
    have hb : ∀ k : Char, ¬ ec = k → (ec == k) = false := fun k hk => by simp [hk]
    simp [LexSpec.scanStr, LexSpec.escapes, List.lookup, forgetScan, hb _ h10, hb _ h9, hb _ h8,
      hb _ h7, hb _ h6, hb _ h5, hb _ h4, hb _ h3, h2, h1]
  | case17 c cs p acc p1 h1 h2 ih => rw [ih]; simp only [LexSpec.scanStr, h1, h2, if_false]
  | _ => rename_i ih; exact ih

/-! ## `#`-tokens -/

theorem nds_eq (c : Char) : LexSpec.nonDelimSharp c = (!isDelimiter c && c != '#') := by
  simp [LexSpec.nonDelimSharp, isDelim_eq]

theorem sharp_end (cs : List Char) :
    (startsDelim cs = true ∨ startsSharp cs = true) ↔ cs.takeWhile LexSpec.nonDelimSharp = [] := by
  cases cs with
  | nil => simp [startsDelim]
  | cons c r =>
    by_cases hc : c = '#'
    · subst hc; simp [startsSharp, List.takeWhile, nds_eq]
    · have hb : (c != '#') = true := by simp [hc]
      cases hd : isDelimiter c <;> simp [startsDelim, startsSharp_cons, hc, List.takeWhile, nds_eq, hd, hb]

theorem dropWhile_of_takeWhile_nil (f : Char → Bool) (cs : List Char)
    (h : cs.takeWhile f = []) : cs.dropWhile f = cs := by
  have := List.takeWhile_append_dropWhile (p := f) (l := cs)
  rwa [h, List.nil_append] at this

/-- refining a run: if `f ⊆ g` and the `f`-run stops at the end or at a non-`g` character, the
`g`-run is the same run -/
theorem span_refine (f g : Char → Bool) (hfg : ∀ c, f c = true → g c = true) (cs : List Char) :
    ((cs.dropWhile f).takeWhile g = [] →
      cs.takeWhile g = cs.takeWhile f ∧ cs.dropWhile g = cs.dropWhile f) ∧
    ((cs.dropWhile f).takeWhile g ≠ [] →
      (cs.takeWhile g).all f = false) := by
  have hg : ∀ a ∈ cs.takeWhile f, g a = true := fun a ha =>
    hfg a (List.all_eq_true.1 List.all_takeWhile a ha)
  have ht := List.takeWhile_append_of_pos (l₂ := cs.dropWhile f) hg
  have hd := List.dropWhile_append_of_pos (l₂ := cs.dropWhile f) hg
  rw [List.takeWhile_append_dropWhile] at ht hd
  refine ⟨fun h => ⟨by rw [ht, h, List.append_nil], by rw [hd, dropWhile_of_takeWhile_nil _ _ h]⟩,
    fun h => ?_⟩
  rw [ht, List.all_append]
  cases hx : cs.dropWhile f with
  | nil => rw [hx] at h; exact absurd rfl h
  | cons x tl =>
    rw [hx] at h
    have hgx : g x = true := by
      cases hgx : g x with
      | true => rfl
      | false => simp [List.takeWhile, hgx] at h
    simp [List.takeWhile, hgx, dropWhile_head f cs hx]

theorem charName_eq (l : List Char) :
    charName? l = LexSpec.charNames.lookup (String.ofList l) := by
  unfold charName?
  split
  all_goals (try (rename_i h; rw [h]; decide))
  rename_i h1 h2 h3 h4 h5 h6 h7 h8 h9
  have hb : ∀ k : String, ¬ String.ofList l = k → (String.ofList l == k) = false :=
    fun k hk => by simp [hk]
  simp [LexSpec.charNames, List.lookup, hb _ h1, hb _ h2, hb _ h3, hb _ h4, hb _ h5, hb _ h6,
    hb _ h7, hb _ h8, hb _ h9]

theorem alnum_sub_nds (c : Char) (h : isAsciiAlnum c = true) : LexSpec.nonDelimSharp c = true := by
  have hns := isAsciiAlnum_ns h
  rw [nds_eq, isDelimiter_of_not_mem hns]
  have : c ≠ '#' := by
    intro e; apply hns; rw [e]; decide
  simp [this]

/-- the model's test `run.head? = some '+'` in `character` never fires; it is there because `hexScalar?`
(Rust's `from_str_radix`) would accept a leading `+` -/
theorem alnum_head_ne_plus {run : List Char} (h : run.all isAsciiAlnum = true) :
    run.head? ≠ some '+' := by
  cases run with
  | nil => exact nofun
  | cons a b => intro e; cases e; exact absurd (List.all_eq_true.1 h '+' List.mem_cons_self) (by decide)

theorem character_forget (first : Char) (cs : List Char) (p : Pos) :
    forgetScan (character first cs p)
      = LexSpec.ofClass (LexSpec.classifyChar first (cs.takeWhile LexSpec.nonDelimSharp))
          (cs.dropWhile LexSpec.nonDelimSharp) := by
  unfold character
  rw [takeRun_spec]
  simp only [List.reverse_nil, List.nil_append]
  have href := span_refine isAsciiAlnum LexSpec.nonDelimSharp alnum_sub_nds cs
  by_cases hend : (cs.dropWhile isAsciiAlnum).takeWhile LexSpec.nonDelimSharp = []
  · obtain ⟨e1, e2⟩ := href.1 hend
    have hok : endOfSharpToken (cs.dropWhile isAsciiAlnum) (advs (cs.takeWhile isAsciiAlnum) p)
        = .ok () := endOfSharpToken_ok.mpr ((sharp_end _).mpr hend)
    rw [e1, e2, hok]
    have hall := List.all_takeWhile (p := isAsciiAlnum) (l := cs)
    generalize cs.takeWhile isAsciiAlnum = run at hall ⊢
    generalize cs.dropWhile isAsciiAlnum = cs1
    simp only [bind, Except.bind, LexSpec.classifyChar, isAlphanum_fun, hall, Bool.not_true,
      Bool.false_eq_true, if_false, charName_eq]
    by_cases hemp : run.isEmpty = true
    · simp [hemp, forgetScan, pure, Except.pure, LexSpec.ofClass]
    · simp only [hemp, Bool.false_eq_true, if_false]
      cases hl : LexSpec.charNames.lookup (String.ofList (first :: run)) with
      | some ch => simp [forgetScan, pure, Except.pure, LexSpec.ofClass]
      | none =>
        simp only
        by_cases hx : first = 'x'
        · have hplus := alnum_head_ne_plus hall
          simp only [hx, if_true, hexScalar_noplus run hplus]
          cases LexSpec.hexScalar run with
          | none => rfl
          | some ch => simp [hplus, forgetScan, pure, Except.pure, LexSpec.ofClass]
        · simp [hx, forgetScan, LexSpec.ofClass]
  · have hbad := href.2 hend
    have herr : ∃ e, endOfSharpToken (cs.dropWhile isAsciiAlnum)
        (advs (cs.takeWhile isAsciiAlnum) p) = .error e := by
      cases h : endOfSharpToken (cs.dropWhile isAsciiAlnum) (advs (cs.takeWhile isAsciiAlnum) p) with
      | error e => exact ⟨e, rfl⟩
      | ok u => exact absurd ((sharp_end _).mp (endOfSharpToken_ok.mp h)) hend
    obtain ⟨e, he⟩ := herr
    rw [he]
    have hne : (cs.takeWhile LexSpec.nonDelimSharp).isEmpty = false := by
      cases h : cs.takeWhile LexSpec.nonDelimSharp with
      | nil => rw [h] at hbad; simp at hbad
      | cons a b => rfl
    simp [bind, Except.bind, forgetScan, LexSpec.classifyChar, isAlphanum_fun, hbad, hne,
      LexSpec.ofClass]

end Ruschm.LexSpecLemmas
