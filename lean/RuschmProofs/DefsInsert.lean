/-
`Store.defsInsert`, the insertion into the bindings of a frame, as an instance of `AssocLemmas`.
-/
import RuschmModel.Value
import RuschmProofs.AssocLemmas

namespace Ruschm.Assoc
open Ruschm.Store

theorem lookup_defsInsert (d : List (String × Value)) (k : String) (v : Value) (y : String) :
    (defsInsert d k v).lookup y = if y = k then some v else d.lookup y :=
  lookup_insert_of (fun _ _ => rfl) (fun _ _ _ _ _ => rfl) k v y d

theorem mem_defsInsert {d : List (String × Value)} {k : String} {v : Value} {p : String × Value}
    (h : p ∈ defsInsert d k v) : p = (k, v) ∨ p ∈ d :=
  mem_insert_of (fun _ _ => rfl) (fun _ _ _ _ _ => rfl) h

theorem foldl_defsInsert_fresh : ∀ (l acc : List (String × Value)), ((acc ++ l).map (·.1)).Nodup →
    l.foldl (fun d p => defsInsert d p.1 p.2) acc = acc ++ l := fun l acc h =>
  Except.ok.inj <| (List.foldlM_pure (m := Except Empty)).symm.trans <|
    foldlM_insert_fresh_of (ins := defsInsert) (fun _ _ => rfl) (fun _ _ _ _ _ => rfl) (fun _ _ _ => rfl) l acc h

end Ruschm.Assoc
