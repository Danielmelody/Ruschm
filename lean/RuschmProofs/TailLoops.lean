/-
Property C02, second part: loops of the shape `(lambda formals (if (= n 0) base rec))` run at a depth that does
not depend on the count. One iteration is `Applies.zero_test`; iterations are chained by `Applies.iterate`
(tail calls compose), and `Applies.countdown` packages the two for a recursive arm that hands the loop on in
place. Natives in operand position are the only nested activations; after the first they leave the store alone
(`Warm`), which is why the bound is `depth + 1` for every count.
-/
import RuschmProofs.TailDepth
import RuschmSpec.ListLib

namespace Ruschm
open Eval Prim

namespace Store

/-- the store after a completed activation nested `k` levels deep: only `maxDepth` may have risen -/
def bump (σ : Store) (k : Nat) : Store := { σ with maxDepth := max σ.maxDepth (σ.depth + k) }

theorem leave_enter (σ : Store) : leave (enter σ) = σ.bump 1 := rfl

@[simp] theorem bump_frames (σ : Store) (k : Nat) : (σ.bump k).frames = σ.frames := rfl
@[simp] theorem bump_depth (σ : Store) (k : Nat) : (σ.bump k).depth = σ.depth := rfl
@[simp] theorem bump_maxDepth (σ : Store) (k : Nat) : (σ.bump k).maxDepth = max σ.maxDepth (σ.depth + k) := rfl

theorem bump_of_le {σ : Store} {k : Nat} (h : σ.depth + k ≤ σ.maxDepth) : σ.bump k = σ := by
  simp only [bump, Nat.max_eq_left h]

theorem enter_bound (σ : Store) (k : Nat) :
    max (enter σ).maxDepth ((enter σ).depth + k) = max σ.maxDepth (σ.depth + (k + 1)) := by
  show max (max σ.maxDepth (σ.depth + 1)) (σ.depth + 1 + k) = _
  rw [Nat.max_assoc, Nat.max_eq_right (Nat.le_add_right _ k), Nat.add_right_comm, Nat.add_assoc]

theorem lookup_bump (σ : Store) (j ρ : Nat) (k : String) : (σ.bump j).lookup ρ k = σ.lookup ρ k :=
  lookup_of_frames_eq (σ := σ.bump j) (τ := σ) rfl ρ k

end Store

namespace Eval

theorem Applies.closure_body {env σ F pre last cenv args σ₁ r σ'}
    (ha : arityOk F.fixed.length F.rest.isSome args.length = true)
    (hpre : EvalsSeq σ.frames.size (σ.pushFrame cenv (paramDefs F args)) pre σ₁)
    (h : TailRuns env σ₁ σ.frames.size last r σ') :
    Applies σ (.closure (.mk F [] (pre ++ [last])) cenv) args env r σ' := by
  obtain ⟨σ₀, hb, hr⟩ := bindParams σ cenv F args (arityOk_le ha)
  exact TailRuns.applies ha hb (hr ▸ .nil) hpre h

theorem Applies.closure_simple {env σ F e cenv args r σ'}
    (ha : arityOk F.fixed.length F.rest.isSome args.length = true)
    (h : TailRuns env (σ.pushFrame cenv (paramDefs F args)) σ.frames.size e r σ') :
    Applies σ (.closure (.mk F [] [e]) cenv) args env r σ' :=
  Applies.closure_body (pre := []) ha .nil h

theorem Applies.closure_body_err {env σ F pre e e' post cenv args σ₁ er σ₂}
    (ha : arityOk F.fixed.length F.rest.isSome args.length = true)
    (hpre : EvalsSeq σ.frames.size (σ.pushFrame cenv (paramDefs F args)) pre σ₁)
    (he : Evals σ₁ σ.frames.size e (.error er) σ₂) :
    Applies σ (.closure (.mk F [] (pre ++ e :: e' :: post)) cenv) args env (.error er) σ₂ := by
  obtain ⟨σ₀, hb, hr⟩ := bindParams σ cenv F args (arityOk_le ha)
  exact Applies.closure_err ha (AppliesScheme.intro_ok hb (hr ▸ EvalsDefs.nil) (EvalsBody.seq_err hpre he))

theorem Evals.call_loop {σ ρ f args l fv σ₁ vs σ₂ r σ'} (hf : Evals σ ρ f (.ok fv) σ₁)
    (ha : EvalsArgs σ₁ ρ args (.ok vs) σ₂) (hp : (procArity fv).isSome)
    (hap : Applies (enter σ₂) fv vs ρ r σ') : Evals σ ρ (.call f args l) r (leave σ') :=
  Evals.call hf ha hp (AppliesProc.of_loop hap)

theorem Evals.call_builtin {σ ρ op l args l' b vs σ₁ v} (hop : σ.lookup ρ op = some (.builtin b))
    (hb : b ≠ .apply) (hargs : EvalsArgs σ ρ args (.ok vs) σ₁)
    (hok : arityOk b.arity.1 b.arity.2 vs.length = true) (hpure : ∀ τ, applyPure τ b vs = (.ok v, τ)) :
    Evals σ ρ (.call (.sym op l) args l') (.ok v) (σ₁.bump 1) :=
  Evals.call_loop (Evals.sym hop) hargs rfl (Applies.builtin_run hb hok (hpure _))

/-! ### what a frame sees -/

def Sees (σ : Store) (g : Nat) (k : String) (v : Value) : Prop := g < σ.frames.size ∧ σ.lookup g k = some v

theorem Sees.mono {σ τ g k v} (h : Sees σ g k v) (he : σ.FramesExt τ) : Sees τ g k v :=
  ⟨Nat.lt_of_lt_of_le h.1 he.size, (he.lookup h.1 k).trans h.2⟩

theorem Sees.enter {σ g k v} (h : Sees σ g k v) : Sees (enter σ) g k v := h.mono (.of_frames_eq rfl)

theorem Sees.from_child {σ g k v} (h : Sees σ g k v) {D : List (String × Value)} (hk : D.lookup k = none) :
    (σ.pushFrame g D).lookup σ.frames.size k = some v := by
  rw [Store.lookup_pushFrame_parent hk h.1]; exact h.2

theorem lookup_param {σ : Store} {g : Nat} {D : List (String × Value)} {k : String} {v : Value} {j : Nat}
    (h : D.lookup k = some v) : ((σ.pushFrame g D).bump j).lookup σ.frames.size k = some v := by
  rw [Store.lookup_bump]; exact Store.lookup_pushFrame_here h

theorem lookup_global {σ : Store} {g : Nat} {D : List (String × Value)} {k : String} {v : Value} (j : Nat)
    (hs : Sees σ g k v) (h : D.lookup k = none) : ((σ.pushFrame g D).bump j).lookup σ.frames.size k = some v := by
  rw [Store.lookup_bump]; exact hs.from_child h

/-! ### native calls in operand position

Each is one nested activation: it raises `maxDepth` to `depth + 1` and changes nothing else. In a
store whose `maxDepth` is there already (`Warm`: every store of a loop after its first test) it
changes nothing at all. -/

def Warm (τ : Store) : Prop := τ.depth + 1 ≤ τ.maxDepth

theorem warm_bump (σ : Store) : Warm (σ.bump 1) := Nat.le_max_right _ _

theorem Warm.depthOk {σ τ : Store} (h : Warm σ) (hd : DepthOk σ τ) : Warm τ := by
  unfold Warm at *; rw [hd.1]; exact Nat.le_trans h hd.2

theorem Evals.native {τ ρ op args b vs v} (hw : Warm τ) (hop : τ.lookup ρ op = some (.builtin b)) (hb : b ≠ .apply)
    (hargs : EvalsArgs τ ρ args (.ok vs) τ) (hok : arityOk b.arity.1 b.arity.2 vs.length = true)
    (hpure : ∀ τ', applyPure τ' b vs = (.ok v, τ')) : Evals τ ρ (.call (.sym op none) args none) (.ok v) τ := by
  have := Evals.call_builtin (l := none) (l' := none) hop hb hargs hok hpure
  rwa [Store.bump_of_le hw] at this

/-- `(- x 1)`; the bounds are `fitsI32`, the Rust's `i32` -/
theorem Evals.sub_one {τ ρ x} {n m : Int} (hw : Warm τ) (hop : τ.lookup ρ "-" = some (.builtin .sub))
    (hx : τ.lookup ρ x = some (.num (.int n))) (hm : n - 1 = m) (h₁ : -2147483648 ≤ m) (h₂ : m ≤ 2147483647) :
    Evals τ ρ (.call (.sym "-" none) [.sym x none, .prim (.int 1) none] none) (.ok (.num (.int m))) τ :=
  Evals.native hw hop (by decide) (.cons (Evals.sym hx) (.cons (Evals.prim rfl) .nil)) rfl
    fun τ' => hm ▸ applyPure_sub_int τ' (hm ▸ fits_of_bounds h₁ h₂)

/-- `(+ a 1)` -/
theorem Evals.add_one {τ ρ a} {n m : Int} (hw : Warm τ) (hop : τ.lookup ρ "+" = some (.builtin .add))
    (ha : Evals τ ρ a (.ok (.num (.int n))) τ) (hm : n + 1 = m) (h₁ : -2147483648 ≤ n) (h₂ : m ≤ 2147483647) :
    Evals τ ρ (.call (.sym "+" none) [a, .prim (.int 1) none] none) (.ok (.num (.int m))) τ :=
  Evals.native hw hop (by decide) (.cons ha (.cons (Evals.prim rfl) .nil)) rfl
    fun τ' => hm ▸ applyPure_add_int τ' (fits_of_bounds h₁ (by omega)) (hm ▸ fits_of_bounds (by omega) h₂)

/-! ### the shape of all the loops: `(lambda formals (if (= n 0) base rec))` -/

abbrev zeroTest : Expr := .call (.sym "=" none) [.sym "n" none, .prim (.int 0) none] none

/-- one iteration: the parameter frame, the test (one nested activation: `bump 1`), then the arm as tail expression -/
theorem Applies.zero_test {env σ F base rec cenv args D N arm r σ'}
    (ha : arityOk F.fixed.length F.rest.isSome args.length = true) (hD : paramDefs F args = D)
    (heq : Sees σ cenv "=" (.builtin .numEq)) (hne : D.lookup "=" = none)
    (hn : D.lookup "n" = some (.num (.int N))) (harm : arm = if N = 0 then base else rec)
    (h : TailRuns env ((σ.pushFrame cenv D).bump 1) σ.frames.size arm r σ') :
    Applies σ (.closure (.mk F [] [.cond zeroTest base (some rec) none]) cenv) args env r σ' := by
  subst hD harm
  have htest := Evals.call_builtin (l := none) (l' := none) (v := .bool (N == 0)) (heq.from_child hne) (by decide)
    (.cons (Evals.sym (l := none) (Store.lookup_pushFrame_here hn)) (.cons (Evals.prim (l := none) (p := .int 0) rfl) .nil))
    rfl (fun τ => applyPure_numEq τ (.int N) (.int 0))
  refine Applies.closure_simple ha ?_
  by_cases hN : N = 0
  · rw [if_pos hN] at h; rw [hN] at htest
    exact TailRuns.cond_true htest rfl h
  · rw [if_neg hN] at h; rw [beq_eq_false_iff_ne.mpr hN] at htest
    exact TailRuns.cond_false htest rfl h

/-! ### the stores of a loop -/

/-- the counters of the stores in which the iterations of a loop started in `σ₀` begin: its depth, and `maxDepth`
beyond its own by at most the one level of the natives in operand position -/
structure Level (σ₀ σ : Store) : Prop where
  depthOk : DepthOk σ₀ σ
  le : σ.maxDepth ≤ max σ₀.maxDepth (σ₀.depth + 1)

theorem Level.refl (σ : Store) : Level σ σ := ⟨.refl σ, Nat.le_max_left _ _⟩

/-- the frame of an iteration made and its test evaluated: from here on `maxDepth` IS the bound -/
theorem Level.step {σ₀ σ} (h : Level σ₀ σ) (g : Nat) (D : List (String × Value)) :
    Level σ₀ ((σ.pushFrame g D).bump 1) ∧
      ((σ.pushFrame g D).bump 1).maxDepth = max σ₀.maxDepth (σ₀.depth + 1) :=
  have hm : ((σ.pushFrame g D).bump 1).maxDepth = max σ₀.maxDepth (σ₀.depth + 1) :=
    Nat.le_antisymm (Nat.max_le.2 ⟨h.le, h.depthOk.1 ▸ Nat.le_max_right ..⟩)
      (Nat.max_le.2 ⟨Nat.le_trans h.depthOk.2 (Nat.le_max_left ..), h.depthOk.1 ▸ Nat.le_max_right ..⟩)
  ⟨⟨⟨h.depthOk.1, hm ▸ Nat.le_max_left ..⟩, Nat.le_of_eq hm⟩, hm⟩

theorem Level.after {σ₀ τ τs} (h : Level σ₀ τ) (hd : DepthOk τ τs)
    (hm : τs.maxDepth ≤ max τ.maxDepth (τ.depth + 1)) : Level σ₀ τs :=
  ⟨h.depthOk.trans hd, Nat.le_trans hm (Nat.max_le.2 ⟨h.le, h.depthOk.1 ▸ Nat.le_max_right ..⟩)⟩

/-- the stores in which the iterations of a loop started in `σ₀` begin -/
structure Iterating (σ₀ σ : Store) : Prop extends Level σ₀ σ where
  frames : σ₀.FramesExt σ

theorem Iterating.refl (σ : Store) : Iterating σ σ := ⟨.refl σ, .of_frames_eq rfl⟩

theorem Iterating.step {σ₀ σ} (h : Iterating σ₀ σ) (g : Nat) (D : List (String × Value)) :
    Iterating σ₀ ((σ.pushFrame g D).bump 1) ∧
      ((σ.pushFrame g D).bump 1).maxDepth = max σ₀.maxDepth (σ₀.depth + 1) :=
  ⟨⟨(h.toLevel.step g D).1, (h.frames.trans (Store.framesExt_pushFrame σ g D)).trans (.of_frames_eq rfl)⟩,
    (h.toLevel.step g D).2⟩

/-- tail calls compose (one direction: an outcome of the callee's loop is an outcome of the caller's) -/
theorem Applies.iterate {Inv : Store → Prop} {p : Nat → Value} {as : Nat → List Value} {env N}
    (hstep : ∀ k, k < N → ∀ σ, Inv σ → ∃ σ₁, Inv σ₁ ∧
      ∀ r σ', Applies σ₁ (p k) (as k) env r σ' → Applies σ (p (k+1)) (as (k+1)) env r σ') :
    ∀ σ, Inv σ → ∃ σ₁, Inv σ₁ ∧ ∀ r σ', Applies σ₁ (p 0) (as 0) env r σ' → Applies σ (p N) (as N) env r σ' := by
  induction N with
  | zero => exact fun σ h => ⟨σ, h, fun _ _ h => h⟩
  | succ N ih =>
    intro σ h
    obtain ⟨σ₁, h₁, hs⟩ := hstep N (Nat.lt_succ_self N) σ h
    obtain ⟨σ₂, h₂, hr⟩ := ih (fun k hk => hstep k (Nat.lt_succ_of_lt hk)) σ₁ h₁
    exact ⟨σ₂, h₂, fun r σ' h => hs r σ' (hr r σ' h)⟩

/-- `hstep`: the arm `R (k+1)` hands the loop on to `p k` IN PLACE: in the very store the arm was reached in (frame
made, test evaluated). That holds when operator and operands are names or native calls in a `Warm` store.
`hbase`: the arm `B 0` ends the loop in place as well. -/
theorem Applies.countdown {env g : Nat} {σ : Store} {F : Formals} {B R : Nat → Expr} (p : Nat → Value)
    (as : Nat → List Value) (N : Nat) {r : Except SErr Value}
    (hp : ∀ k, p k = .closure (.mk F [] [.cond zeroTest (B k) (some (R k)) none]) g)
    (heq : Sees σ g "=" (.builtin .numEq))
    (hF : ∀ k, arityOk F.fixed.length F.rest.isSome (as k).length = true ∧ (paramDefs F (as k)).lookup "=" = none ∧
      (paramDefs F (as k)).lookup "n" = some (.num (.int k)))
    (hbase : ∀ τ, Iterating σ τ → TailRuns env ((τ.pushFrame g (paramDefs F (as 0))).bump 1) τ.frames.size (B 0) r
      ((τ.pushFrame g (paramDefs F (as 0))).bump 1))
    (hstep : ∀ k, k < N → ∀ τ, Iterating σ τ → ∀ r σ',
      Applies ((τ.pushFrame g (paramDefs F (as (k+1)))).bump 1) (p k) (as k) env r σ' →
      TailRuns env ((τ.pushFrame g (paramDefs F (as (k+1)))).bump 1) τ.frames.size (R (k+1)) r σ') :
    ∃ σ', Applies σ (p N) (as N) env r σ' ∧ σ'.maxDepth = max σ.maxDepth (σ.depth + 1) := by
  obtain ⟨τ, hi, hrun⟩ := Applies.iterate (Inv := Iterating σ) (env := env) (N := N) (p := p) (as := as)
    (fun k hk τ hi => ⟨_, (hi.step g _).1, fun r σ' h => hp (k+1) ▸
      Applies.zero_test (hF _).1 rfl (heq.mono hi.frames) (hF _).2.1 (hF _).2.2 (if_neg (by omega)).symm
        (hstep k hk τ hi r σ' h)⟩) σ (.refl σ)
  exact ⟨_, hrun _ _ (hp 0 ▸ Applies.zero_test (hF 0).1 rfl (heq.mono hi.frames) (hF 0).2.1 (hF 0).2.2 (if_pos rfl).symm
    (hbase τ hi)), (hi.step g _).2⟩

/-! ### the counting loop with its recursive call wrapped in a tail context -/

/-- `(lambda (n acc) (if (= n 0) acc E))` for an arbitrary tail expression `E` -/
def ctxLam (E : Expr) : Lambda := .mk ⟨["n", "acc"], none⟩ []
  [.cond (.call (.sym "=" none) [.sym "n" none, .prim (.int 0) none] none) (.sym "acc" none) (some E) none]

/-- the recursive call `(loop (- n 1) (+ acc 1))` -/
def recCall : Expr :=
  .call (.sym "loop" none) [.call (.sym "-" none) [.sym "n" none, .prim (.int 1) none] none,
    .call (.sym "+" none) [.sym "acc" none, .prim (.int 1) none] none] none

/-- what frame `ρ` sees, and (`g…`) what the closure's frame `g` sees -/
structure IterEnv (L : Lambda) (τ : Store) (ρ g : Nat) (N A : Int) : Prop where
  lt : ρ < τ.frames.size
  n : τ.lookup ρ "n" = some (.num (.int N))
  acc : τ.lookup ρ "acc" = some (.num (.int A))
  sub : τ.lookup ρ "-" = some (.builtin .sub)
  add : τ.lookup ρ "+" = some (.builtin .add)
  loop : τ.lookup ρ "loop" = some (.closure L g)
  geq : Sees τ g "=" (.builtin .numEq)
  gsub : Sees τ g "-" (.builtin .sub)
  gadd : Sees τ g "+" (.builtin .add)
  gloop : Sees τ g "loop" (.closure L g)

/-- what a tail context must do: lead to the recursive call in a frame that still sees the loop's names, raising
`maxDepth` at most to `depth + 1` -/
def GoodContext (env : Nat) (L : Lambda) (g : Nat) (E : Expr) : Prop :=
  ∀ τ ρ N A, IterEnv L τ ρ g N A → ∃ τs ρs, TailPath env τ ρ E τs ρs recCall ∧ IterEnv L τs ρs g N A ∧
    τs.maxDepth ≤ max τ.maxDepth (τ.depth + 1)

/-- Not an instance of `Applies.countdown`: the context may apply lambdas on the way, so the next iteration does not
start in the store the arm was reached in. The invariant is `Level`, not `Iterating` (`TailPath.spec` gives `DepthOk`,
not `FramesExt`), with the four `Sees` that `GoodContext` hands on in place of `frames`. -/
theorem ctx_loop (g env : Nat) (E : Expr) (hE : GoodContext env (ctxLam E) g E) {σ : Store}
    (heq : Sees σ g "=" (.builtin .numEq)) (hsub : Sees σ g "-" (.builtin .sub)) (hadd : Sees σ g "+" (.builtin .add))
    (hloop : Sees σ g "loop" (.closure (ctxLam E) g)) (N : Nat) (A : Int)
    (hN : (N : Int) ≤ 2147483647) (hA : -2147483648 ≤ A) (hAN : A + N ≤ 2147483647) :
    ∃ σ', Applies σ (.closure (ctxLam E) g) [.num (.int N), .num (.int A)] env (.ok (.num (.int (A + N)))) σ' ∧
      σ'.maxDepth = max σ.maxDepth (σ.depth + 1) := by
  have hrun := Applies.iterate (env := env) (N := N)
    (Inv := fun τ => (Sees τ g "=" (.builtin .numEq) ∧ Sees τ g "-" (.builtin .sub) ∧ Sees τ g "+" (.builtin .add) ∧
      Sees τ g "loop" (.closure (ctxLam E) g)) ∧ Level σ τ)
    (p := fun _ => .closure (ctxLam E) g) (as := fun k => [.num (.int k), .num (.int (A + N - k))]) ?_ σ
    ⟨⟨heq, hsub, hadd, hloop⟩, .refl σ⟩
  · obtain ⟨τ, ⟨⟨heq, -⟩, hl⟩, hrun⟩ := hrun
    simp only [Int.add_sub_cancel, Int.natCast_zero, Int.sub_zero] at hrun
    exact ⟨_, hrun _ _ (Applies.zero_test rfl rfl heq rfl rfl (if_pos rfl).symm
      (TailRuns.value nofun nofun (Evals.sym (lookup_param rfl)))), (hl.step g _).2⟩
  · rintro k hk τ ⟨⟨heq, hsub, hadd, hloop⟩, hl⟩
    -- the frame of this iteration, after the test
    let D : List (String × Value) := [("n", .num (.int (k + 1 : Nat))), ("acc", .num (.int (A + N - (k + 1 : Nat))))]
    have he : τ.FramesExt ((τ.pushFrame g D).bump 1) := (Store.framesExt_pushFrame τ g D).trans (.of_frames_eq rfl)
    have hit : IterEnv (ctxLam E) ((τ.pushFrame g D).bump 1) τ.frames.size g (k + 1 : Nat) (A + N - (k + 1 : Nat)) :=
      ⟨Store.getElem?_some_lt (Store.pushFrame_get_last τ g D),
       lookup_param rfl, lookup_param rfl, lookup_global 1 hsub rfl, lookup_global 1 hadd rfl,
       lookup_global 1 hloop rfl, heq.mono he, hsub.mono he, hadd.mono he, hloop.mono he⟩
    obtain ⟨τs, ρs, hpath, hs, hms⟩ := hE _ _ _ _ hit
    have hw : Warm τs := (warm_bump _).depthOk hpath.spec.2.1
    refine ⟨τs, ⟨⟨hs.geq, hs.gsub, hs.gadd, hs.gloop⟩, (hl.step g D).1.after hpath.spec.2.1 hms⟩, fun r σ' h => ?_⟩
    exact Applies.zero_test rfl rfl heq rfl rfl (if_neg (by omega)).symm
      (hpath.spec.2.2 _ _ (TailRuns.call_ok (Evals.sym hs.loop)
        (.cons (Evals.sub_one hw hs.sub hs.n (by omega) (by omega) (by omega))
          (.cons (Evals.add_one hw hs.add (Evals.sym hs.acc) (by omega) (by omega) (by omega)) .nil))
        rfl h))

theorem IterEnv.child {L τ ρ g N A} (h : IterEnv L τ ρ g N A) {D : List (String × Value)}
    (hn : D.lookup "n" = none) (hacc : D.lookup "acc" = none) (hsub : D.lookup "-" = none) (hadd : D.lookup "+" = none)
    (hloop : D.lookup "loop" = none) : IterEnv L (τ.pushFrame ρ D) τ.frames.size g N A :=
  have hl {k w} (hk : D.lookup k = none) (hw : τ.lookup ρ k = some w) :
      (τ.pushFrame ρ D).lookup τ.frames.size k = some w := (Store.lookup_pushFrame_parent hk h.lt).trans hw
  have he := Store.framesExt_pushFrame τ ρ D
  ⟨Store.getElem?_some_lt (Store.pushFrame_get_last τ ρ D),
   hl hn h.n, hl hacc h.acc, hl hsub h.sub, hl hadd h.add, hl hloop h.loop,
   h.geq.mono he, h.gsub.mono he, h.gadd.mono he, h.gloop.mono he⟩

theorem goodContext_here (env : Nat) (L : Lambda) (g : Nat) : GoodContext env L g recCall :=
  fun τ ρ _ _ h => ⟨τ, ρ, .here, h, Nat.le_max_left _ _⟩

/-- `((lambda () □))`: what `(begin □)` and `(let () □)` expand to -/
theorem goodContext_thunk (env : Nat) (L : Lambda) (g : Nat) {E : Expr} (hE : GoodContext env L g E) :
    GoodContext env L g (.call (.lambda (.mk ⟨[], none⟩ [] ([] ++ [E])) none) [] none) := by
  intro τ ρ N A h
  obtain ⟨τs, ρs, hp, hs, hm⟩ := hE _ _ N A (h.child (D := []) rfl rfl rfl rfl rfl)
  exact ⟨τs, ρs, .lam_call EvalsArgs.nil rfl rfl .nil .nil hp, hs, hm⟩

/-- `((lambda (x) □) v)`: what `(let ((x v)) □)` expands to -/
theorem goodContext_let (env : Nat) (L : Lambda) (g : Nat) {E : Expr} (x : String) (v : Int)
    (hx : x ≠ "n" ∧ x ≠ "acc" ∧ x ≠ "-" ∧ x ≠ "+" ∧ x ≠ "loop") (hE : GoodContext env L g E) :
    GoodContext env L g (.call (.lambda (.mk ⟨[x], none⟩ [] ([] ++ [E])) none) [.prim (.int v) none] none) := by
  intro τ ρ N A h
  have hD : ∀ k, x ≠ k → List.lookup k [(x, Value.num (.int v))] = none := fun k hk => by
    rw [List.lookup, beq_eq_false_iff_ne.mpr (Ne.symm hk)]; rfl
  obtain ⟨τs, ρs, hp, hs, hm⟩ := hE _ _ N A
    (h.child (hD _ hx.1) (hD _ hx.2.1) (hD _ hx.2.2.1) (hD _ hx.2.2.2.1) (hD _ hx.2.2.2.2))
  refine ⟨τs, ρs, .lam_call (vs := [.num (.int v)]) (restArgs := []) (σ₂ := τ.pushFrame ρ [(x, .num (.int v))])
    (EvalsArgs.cons (Evals.prim rfl) EvalsArgs.nil) rfl ?_ .nil .nil hp, hs, hm⟩
  rw [Store.newFrame_eq]
  exact bindFixed_pushFrame τ ρ [x] [.num (.int v)] [] (by simp)

theorem goodContext_if_true (env : Nat) (L : Lambda) (g : Nat) {E : Expr} (alt : Option Expr) (h : GoodContext env L g E) :
    GoodContext env L g (.cond (.prim (.bool true) none) E alt none) := by
  intro τ ρ N A hi
  obtain ⟨τs, ρs, hp, hs, hm⟩ := h τ ρ N A hi
  exact ⟨τs, ρs, .cond_then (Evals.prim rfl) rfl hp, hs, hm⟩

theorem goodContext_if_false (env : Nat) (L : Lambda) (g : Nat) {E : Expr} (c : Expr) (h : GoodContext env L g E) :
    GoodContext env L g (.cond (.prim (.bool false) none) c (some E) none) := by
  intro τ ρ N A hi
  obtain ⟨τs, ρs, hp, hs, hm⟩ := h τ ρ N A hi
  exact ⟨τs, ρs, .cond_else (Evals.prim rfl) rfl hp, hs, hm⟩

/-! ### the counting loop -/

/-- `(lambda (n acc) (if (= n 0) acc (loop (- n 1) (+ acc 1))))` -/
def countLam : Lambda := .mk ⟨["n", "acc"], none⟩ []
  [.cond (.call (.sym "=" none) [.sym "n" none, .prim (.int 0) none] none) (.sym "acc" none)
     (some (.call (.sym "loop" none) [.call (.sym "-" none) [.sym "n" none, .prim (.int 1) none] none,
        .call (.sym "+" none) [.sym "acc" none, .prim (.int 1) none] none] none)) none]

/-- the state after `(define (loop n acc) …)` in frame `g` -/
structure CountEnv (σ : Store) (g : Nat) : Prop where
  eq : Sees σ g "=" (.builtin .numEq)
  sub : Sees σ g "-" (.builtin .sub)
  add : Sees σ g "+" (.builtin .add)
  loop : Sees σ g "loop" (.closure countLam g)

theorem repeat_succ_eq (N : Nat) (A : Int) : Nat.repeat (fun a : Int => a + 1) N A = A + N := by
  induction N with
  | zero => simp [Nat.repeat]
  | succ N ih => rw [Nat.repeat, ih]; omega

/-- `ctx_loop` with the empty context: `countLam` is `ctxLam recCall` -/
theorem count_loop (g env : Nat) {σ : Store} (henv : CountEnv σ g) (N : Nat) (A : Int)
    (hN : (N : Int) ≤ 2147483647) (hA : -2147483648 ≤ A) (hAN : A + N ≤ 2147483647) :
    ∃ σ', Applies σ (.closure countLam g) [.num (.int N), .num (.int A)] env (.ok (.num (.int (A + N)))) σ' ∧
      σ'.maxDepth = max σ.maxDepth (σ.depth + 1) :=
  ctx_loop g env recCall (goodContext_here env _ g) henv.eq henv.sub henv.add henv.loop N A hN hA hAN

/-! ### mutual recursion: `even?` / `odd?` -/

/-- `(lambda (n) (if (= n 0) b (other (- n 1))))` -/
def parityLam (b : Bool) (other : String) : Lambda := .mk ⟨["n"], none⟩ []
  [.cond (.call (.sym "=" none) [.sym "n" none, .prim (.int 0) none] none) (.prim (.bool b) none)
     (some (.call (.sym other none) [.call (.sym "-" none) [.sym "n" none, .prim (.int 1) none] none] none)) none]

structure ParityEnv (σ : Store) (g : Nat) : Prop where
  eq : Sees σ g "=" (.builtin .numEq)
  sub : Sees σ g "-" (.builtin .sub)
  even : Sees σ g "even?" (.closure (parityLam true "odd?") g)
  odd : Sees σ g "odd?" (.closure (parityLam false "even?") g)

/-- the name of the procedure that answers `b` at zero -/
def parityName (b : Bool) : String := if b then "even?" else "odd?"

theorem ParityEnv.sees {σ g} (h : ParityEnv σ g) (b : Bool) :
    Sees σ g (parityName b) (.closure (parityLam b (parityName !b)) g) := by
  cases b
  · exact h.odd
  · exact h.even

theorem parity_loop (g env : Nat) {σ : Store} (henv : ParityEnv σ g) (b : Bool) (N : Nat) (hN : (N : Int) ≤ 2147483647) :
    ∃ σ', Applies σ (.closure (parityLam b (parityName !b)) g) [.num (.int N)] env
        (.ok (.bool (Nat.repeat (!·) N b))) σ' ∧ σ'.maxDepth = max σ.maxDepth (σ.depth + 1) := by
  -- the procedure with `k` iterations to go answers `c k` at zero
  let c (k : Nat) : Bool := Nat.repeat (!·) (N - k) b
  have hc (k : Nat) (hk : k < N) : c k = !c (k + 1) := by
    show Nat.repeat _ (N - k) b = _
    rw [show N - k = N - (k + 1) + 1 by omega]; rfl
  have hcN : c N = b := by show Nat.repeat _ (N - N) b = b; rw [Nat.sub_self]; rfl
  have := Applies.countdown (env := env) (fun k => .closure (parityLam (c k) (parityName !c k)) g)
    (fun k => [.num (.int k)]) N (fun _ => rfl) henv.eq (fun _ => ⟨rfl, rfl, rfl⟩)
    (fun τ _ => TailRuns.value nofun nofun (Evals.prim rfl))
    fun k hk τ hi r σ' h =>
      have hcallee : Sees τ g (parityName !c (k + 1)) (.closure (parityLam (c k) (parityName !c k)) g) := by
        rw [hc k hk]; exact (henv.sees _).mono hi.frames
      TailRuns.call_ok (Evals.sym (lookup_global 1 hcallee (by cases c (k + 1) <;> rfl)))
        (.cons (Evals.sub_one (warm_bump _) (lookup_global 1 (henv.sub.mono hi.frames) rfl) (lookup_param rfl)
          (by omega) (by omega) (by omega)) .nil)
        rfl h
  rw [hcN] at this
  exact this

theorem repeat_not_eq : ∀ (N : Nat) (b : Bool), Nat.repeat (!·) N b = (b == (N % 2 == 0))
  | 0, b | 1, b => by cases b <;> rfl
  | N + 2, b => by rw [Nat.repeat, Nat.repeat, Bool.not_not, repeat_not_eq N b, Nat.add_mod_right]

/-! ### a loop through a procedure parameter -/

/-- `(lambda (f n acc) (if (= n 0) acc (f f (- n 1) (+ acc 1))))` -/
def hoLam : Lambda := .mk ⟨["f", "n", "acc"], none⟩ []
  [.cond (.call (.sym "=" none) [.sym "n" none, .prim (.int 0) none] none) (.sym "acc" none)
     (some (.call (.sym "f" none) [.sym "f" none, .call (.sym "-" none) [.sym "n" none, .prim (.int 1) none] none,
        .call (.sym "+" none) [.sym "acc" none, .prim (.int 1) none] none] none)) none]

structure ArithEnv (σ : Store) (g : Nat) : Prop where
  eq : Sees σ g "=" (.builtin .numEq)
  sub : Sees σ g "-" (.builtin .sub)
  add : Sees σ g "+" (.builtin .add)

theorem ho_loop (g env : Nat) {σ : Store} (henv : ArithEnv σ g) (N : Nat) (A : Int)
    (hN : (N : Int) ≤ 2147483647) (hA : -2147483648 ≤ A) (hAN : A + N ≤ 2147483647) :
    ∃ σ', Applies σ (.closure hoLam g) [.closure hoLam g, .num (.int N), .num (.int A)] env
        (.ok (.num (.int (A + N)))) σ' ∧ σ'.maxDepth = max σ.maxDepth (σ.depth + 1) := by
  have := Applies.countdown (env := env) (fun _ => .closure hoLam g)
    (fun k => [.closure hoLam g, .num (.int k), .num (.int (A + N - k))]) N (fun _ => rfl) henv.eq
    (fun _ => ⟨rfl, rfl, rfl⟩)
    (fun τ _ => TailRuns.value nofun nofun (Evals.sym (lookup_param rfl)))
    fun k hk τ hi r σ' h =>
      TailRuns.call_ok (Evals.sym (lookup_param rfl))
        (.cons (Evals.sym (lookup_param rfl))
          (.cons (Evals.sub_one (warm_bump _) (lookup_global 1 (henv.sub.mono hi.frames) rfl) (lookup_param rfl)
              (by omega) (by omega) (by omega))
            (.cons (Evals.add_one (warm_bump _) (lookup_global 1 (henv.add.mono hi.frames) rfl)
              (Evals.sym (lookup_param rfl)) (by omega) (by omega) (by omega)) .nil)))
        rfl h
  simp only [Int.add_sub_cancel, Int.natCast_zero, Int.sub_zero] at this
  exact this

/-! ### a loop with a rest parameter -/

/-- `(lambda (n . rest) (if (= n 0) (car rest) (loop (- n 1) (+ (car rest) 1))))` -/
def varLam : Lambda := .mk ⟨["n"], some "rest"⟩ []
  [.cond (.call (.sym "=" none) [.sym "n" none, .prim (.int 0) none] none)
     (.call (.sym "car" none) [.sym "rest" none] none)
     (some (.call (.sym "loop" none) [.call (.sym "-" none) [.sym "n" none, .prim (.int 1) none] none,
        .call (.sym "+" none) [.call (.sym "car" none) [.sym "rest" none] none, .prim (.int 1) none] none] none)) none]

structure VarEnv (σ : Store) (g : Nat) : Prop where
  eq : Sees σ g "=" (.builtin .numEq)
  sub : Sees σ g "-" (.builtin .sub)
  add : Sees σ g "+" (.builtin .add)
  car : Sees σ g "car" (.builtin .car)
  loop : Sees σ g "loop" (.closure varLam g)

theorem var_loop (g env : Nat) {σ : Store} (henv : VarEnv σ g) (N : Nat) (A : Int)
    (hN : (N : Int) ≤ 2147483647) (hA : -2147483648 ≤ A) (hAN : A + N ≤ 2147483647) :
    ∃ σ', Applies σ (.closure varLam g) [.num (.int N), .num (.int A)] env (.ok (.num (.int (A + N)))) σ' ∧
      σ'.maxDepth = max σ.maxDepth (σ.depth + 1) := by
  -- the final `(car rest)` is itself a call in tail position: the loop continues with the native `car`
  have := Applies.countdown (env := env) (fun _ => .closure varLam g)
    (fun k => [.num (.int k), .num (.int (A + N - k))]) N (fun _ => rfl) henv.eq (fun _ => ⟨rfl, rfl, rfl⟩)
    (fun τ hi => TailRuns.call_ok (Evals.sym (lookup_global 1 (henv.car.mono hi.frames) rfl))
      (.cons (Evals.sym (lookup_param rfl)) .nil) rfl (Applies.builtin_run (b := .car) (by decide) rfl rfl))
    fun k hk τ hi r σ' h =>
      TailRuns.call_ok (Evals.sym (lookup_global 1 (henv.loop.mono hi.frames) rfl))
        (.cons (Evals.sub_one (warm_bump _) (lookup_global 1 (henv.sub.mono hi.frames) rfl) (lookup_param rfl)
            (by omega) (by omega) (by omega))
          (.cons (Evals.add_one (warm_bump _) (lookup_global 1 (henv.add.mono hi.frames) rfl)
            (Evals.native (b := .car) (warm_bump _) (lookup_global 1 (henv.car.mono hi.frames) rfl) (by decide)
              (.cons (Evals.sym (lookup_param rfl)) .nil) rfl (fun _ => rfl))
            (by omega) (by omega) (by omega)) .nil))
        rfl h
  simp only [Int.add_sub_cancel, Int.natCast_zero, Int.sub_zero] at this
  exact this

/-! ### `apply` in tail position -/

/-- `(lambda (n acc) (if (= n 0) acc (apply loop (- n 1) (cons (+ acc 1) '()))))` -/
def appLam : Lambda := .mk ⟨["n", "acc"], none⟩ []
  [.cond (.call (.sym "=" none) [.sym "n" none, .prim (.int 0) none] none) (.sym "acc" none)
     (some (.call (.sym "apply" none) [.sym "loop" none,
        .call (.sym "-" none) [.sym "n" none, .prim (.int 1) none] none,
        .call (.sym "cons" none) [.call (.sym "+" none) [.sym "acc" none, .prim (.int 1) none] none,
          .quote (.nil none) none] none] none)) none]

structure AppEnv (σ : Store) (g : Nat) : Prop where
  eq : Sees σ g "=" (.builtin .numEq)
  sub : Sees σ g "-" (.builtin .sub)
  add : Sees σ g "+" (.builtin .add)
  cons : Sees σ g "cons" (.builtin .cons)
  apply : Sees σ g "apply" (.builtin .apply)
  loop : Sees σ g "loop" (.closure appLam g)

theorem app_loop (g env : Nat) {σ : Store} (henv : AppEnv σ g) (N : Nat) (A : Int)
    (hN : (N : Int) ≤ 2147483647) (hA : -2147483648 ≤ A) (hAN : A + N ≤ 2147483647) :
    ∃ σ', Applies σ (.closure appLam g) [.num (.int N), .num (.int A)] env (.ok (.num (.int (A + N)))) σ' ∧
      σ'.maxDepth = max σ.maxDepth (σ.depth + 1) := by
  -- the pending call's operator is the native `apply`: the loop continues with it, and it continues the
  -- loop with the procedure it was handed
  have := Applies.countdown (env := env) (fun _ => .closure appLam g)
    (fun k => [.num (.int k), .num (.int (A + N - k))]) N (fun _ => rfl) henv.eq (fun _ => ⟨rfl, rfl, rfl⟩)
    (fun τ _ => TailRuns.value nofun nofun (Evals.sym (lookup_param rfl)))
    fun k hk τ hi r σ' h =>
      TailRuns.call_ok (Evals.sym (lookup_global 1 (henv.apply.mono hi.frames) rfl))
        (.cons (Evals.sym (lookup_global 1 (henv.loop.mono hi.frames) rfl))
          (.cons (Evals.sub_one (warm_bump _) (lookup_global 1 (henv.sub.mono hi.frames) rfl) (lookup_param rfl)
              (by omega) (by omega) (by omega))
            (.cons (Evals.native (b := .cons) (warm_bump _) (lookup_global 1 (henv.cons.mono hi.frames) rfl) (by decide)
              (.cons (Evals.add_one (warm_bump _) (lookup_global 1 (henv.add.mono hi.frames) rfl)
                  (Evals.sym (lookup_param rfl)) (by omega) (by omega) (by omega))
                (.cons (Evals.quote rfl) .nil)) rfl (fun _ => rfl)) .nil)))
        rfl (Applies.apply (by simp) rfl h)
  simp only [Int.add_sub_cancel, Int.natCast_zero, Int.sub_zero] at this
  exact this

end Eval
end Ruschm
