/-
Positions of the code inside values and the store; the evaluator only reports positions of the code it runs.
-/
import RuschmProofs.LocData
import RuschmProofs.StoreLemmas

namespace Ruschm

/-! ## values and the store -/

def VIn (T : List RPos) (v : Value) : Prop := v.rlocs ⊆ T

/-- the code stored in `σ` has its positions in `T`: `σ.rlocs ⊆ T` (`sIn_iff`), written as the store invariant
`σ.All (VIn T)` (`sIn_all`) through which the store lemmas are used -/
structure SIn (T : List RPos) (σ : Store) : Prop where
  frame : ∀ (i : Nat) (f : Frame), σ.frames[i]? = some f → ∀ kv ∈ f.defs, VIn T kv.2
  cell : ∀ (i : Nat) (c : VecCell), σ.vecs[i]? = some c → ∀ v ∈ c.items, VIn T v

theorem sIn_iff {T : List RPos} {σ : Store} : SIn T σ ↔ σ.rlocs ⊆ T := by
  simp only [Store.rlocs, List.append_subset, flatMap_subset, Frame.rlocs, VecCell.rlocs, Array.mem_toList_iff,
    Array.mem_iff_getElem?]
  exact ⟨fun h => ⟨fun f ⟨i, hi⟩ => h.frame i f hi, fun c ⟨i, hi⟩ => h.cell i c hi⟩,
    fun h => ⟨fun i f hf => h.1 f ⟨i, hf⟩, fun i c hc => h.2 c ⟨i, hc⟩⟩⟩

section store
variable {T : List RPos}

theorem sIn_all {σ : Store} : SIn T σ ↔ σ.All (VIn T) :=
  ⟨fun h => ⟨h.frame, h.cell⟩, fun h => ⟨h.frame, h.cell⟩⟩

theorem SIn.of_eq {σ σ' : Store} (h : SIn T σ) (hf : σ'.frames = σ.frames) (hv : σ'.vecs = σ.vecs) :
    SIn T σ' := sIn_all.2 ((sIn_all.1 h).of_eq hf hv)

theorem vIn_atom {v : Value} (h : v.rlocs = []) : VIn T v := by simp [VIn, h]
@[simp] theorem vIn_void : VIn T .void := vIn_atom rfl
@[simp] theorem vIn_nil : VIn T .nil := vIn_atom rfl
@[simp] theorem vIn_num {n} : VIn T (.num n) := vIn_atom rfl
@[simp] theorem vIn_bool {n} : VIn T (.bool n) := vIn_atom rfl
@[simp] theorem vIn_char {n} : VIn T (.char n) := vIn_atom rfl
@[simp] theorem vIn_str {n} : VIn T (.str n) := vIn_atom rfl
@[simp] theorem vIn_sym {n} : VIn T (.sym n) := vIn_atom rfl
@[simp] theorem vIn_vec {n} : VIn T (.vec n) := vIn_atom rfl
@[simp] theorem vIn_builtin {n} : VIn T (.builtin n) := vIn_atom rfl
@[simp] theorem vIn_transformer {n} : VIn T (.transformer n) := vIn_atom rfl
@[simp] theorem vIn_pair {a d : Value} : VIn T (.pair a d) ↔ VIn T a ∧ VIn T d := by
  simp [VIn, Value.rlocs]
@[simp] theorem vIn_closure {lam ρ} : VIn T (.closure lam ρ) ↔ lam.rlocs ⊆ T := by
  simp [VIn, Value.rlocs]

theorem sIn_define {σ : Store} (h : SIn T σ) (ρ : Nat) (k : String) {v : Value} (hv : VIn T v) :
    SIn T (σ.define ρ k v) := sIn_all.2 ((sIn_all.1 h).define ρ k hv)

theorem sIn_newFrame {σ : Store} (h : SIn T σ) (p : Option Nat) : SIn T (σ.newFrame p).2 :=
  sIn_all.2 ((sIn_all.1 h).newFrame p)

theorem sIn_lookup {σ : Store} (h : SIn T σ) {ρ : Nat} {s : String} {v : Value}
    (hl : σ.lookup ρ s = some v) : VIn T v := (sIn_all.1 h).lookup hl

end store

/-! ## the steps of the evaluator that are not part of the mutual block -/

section steps
variable {T : List RPos}
open Eval Prim

theorem evalPrim_vIn {p : Prim} {v : Value} (h : evalPrim p = .ok v) : VIn T v :=
  evalPrim_val (fun _ => vIn_char) (fun _ => vIn_str) (fun _ => vIn_bool) (fun _ => vIn_num) h

theorem primInv_in : PrimInv (fun _ => VIn T) fun _ => True :=
  ⟨fun _ h => h, vIn_pair, iff_true_intro vIn_num, fun _ _ => vIn_bool, fun _ => vIn_void, fun _ _ _ => vIn_vec⟩

theorem applyPure_in {σ : Store} {b : Builtin} {args : List Value} {r σ'}
    (h : applyPure σ b args = (r, σ')) (hσ : SIn T σ) (ha : ∀ a ∈ args, VIn T a) :
    SIn T σ' ∧ (∀ v, r = .ok v → VIn T v) ∧ (∀ e, r = .error e → e.2 = none) := by
  have hs := applyPure_all primInv_in Num.towerInv_true (sIn_all.1 hσ) b ha
  rw [h] at hs
  exact ⟨sIn_all.2 hs.1, hs.2, fun e he => (applyPure_error (he ▸ h)).1⟩

theorem litInv_in : LitInv (fun _ => VIn T) (fun e => e.2 = none) (fun _ => True) where
  mono := fun _ h => h
  pair := fun ha hd => vIn_pair.2 ⟨ha, hd⟩
  sym := fun _ _ => vIn_sym
  nil := fun _ => vIn_nil
  vec := fun _ _ => vIn_vec
  prim := fun _ => ⟨fun _ h _ => evalPrim_vIn h, fun _ _ => rfl⟩
  dpair := fun _ => ⟨trivial, trivial⟩
  dvec := fun _ _ _ => trivial

theorem readLiteral_post {σ : Store} {d : Datum} {r σ'} (h : readLiteral σ d = (r, σ')) (hσ : SIn T σ) :
    SIn T σ' ∧ (∀ v, r = .ok v → VIn T v) ∧ (∀ e, r = .error e → e.2 = none) :=
  have p := readLiteral_all litInv_in d σ h trivial (sIn_all.1 hσ)
  ⟨sIn_all.2 p.1, p.2⟩

end steps

/-! ## the evaluator -/

namespace EvalLoc
open Eval
variable {T : List RPos}

def ErrOK (T : List RPos) (e : SErr) : Prop :=
  ∀ l, e.2 = some l →
    (e.1 = .unbound ∧ (Role.ident, l) ∈ T) ∨ (e.1 = .nonProcedure ∧ (Role.operator, l) ∈ T)

theorem errOK_none (k : Err) : ErrOK T (k, none) := by intro l h; cases h
theorem errOK_of_none {e : SErr} (h : e.2 = none) : ErrOK T e := by intro l h'; rw [h] at h'; cases h'
theorem errOK_unbound {loc : Loc} (h : loc.as .ident ⊆ T) : ErrOK T (.unbound, loc) := by
  intro l hl; simp only at hl; subst hl
  exact Or.inl ⟨rfl, h (by simp [Loc.as])⟩
theorem errOK_nonproc {loc : Loc} (h : loc.as .operator ⊆ T) : ErrOK T (.nonProcedure, loc) := by
  intro l hl; simp only at hl; subst hl
  exact Or.inr ⟨rfl, h (by simp [Loc.as])⟩

def TIn (T : List RPos) : TailRes → Prop
  | .value v => VIn T v
  | .tailCall f args _ => f.loc.as .operator ⊆ T ∧ f.rlocs ⊆ T ∧ Expr.rlocsList args ⊆ T

/-! sub-expressions -/
theorem sym_in {s l} : (Expr.sym s l).rlocs ⊆ T ↔ l.as .node ⊆ T ∧ l.as .ident ⊆ T := by
  simp [Expr.rlocs]
theorem assign_in {n e l} : (Expr.assign n e l).rlocs ⊆ T ↔ l.as .node ⊆ T ∧ l.as .ident ⊆ T ∧ e.rlocs ⊆ T := by
  simp [Expr.rlocs]
theorem lambda_in {lam l} : (Expr.lambda lam l).rlocs ⊆ T ↔ l.as .node ⊆ T ∧ lam.rlocs ⊆ T := by
  simp [Expr.rlocs]
theorem call_in {f args l} : (Expr.call f args l).rlocs ⊆ T ↔
    l.as .node ⊆ T ∧ f.loc.as .operator ⊆ T ∧ f.rlocs ⊆ T ∧ Expr.rlocsList args ⊆ T := by
  simp [Expr.rlocs]
theorem cond_in {t c a l} : (Expr.cond t c a l).rlocs ⊆ T ↔
    l.as .node ⊆ T ∧ t.rlocs ⊆ T ∧ c.rlocs ⊆ T ∧ Expr.rlocsOpt a ⊆ T := by
  simp [Expr.rlocs]
theorem opt_some_in {e} : Expr.rlocsOpt (some e) ⊆ T ↔ e.rlocs ⊆ T := by simp [Expr.rlocsOpt]
theorem list_in : ∀ {es : List Expr}, Expr.rlocsList es ⊆ T ↔ ∀ e ∈ es, e.rlocs ⊆ T
  | [] => by simp [Expr.rlocsList]
  | e :: es => by simp [Expr.rlocsList, list_in (es := es)]
theorem lam_in {lam : Lambda} : lam.rlocs ⊆ T ↔ Def.rlocsList lam.defs ⊆ T ∧ Expr.rlocsList lam.body ⊆ T := by
  cases lam; simp [Lambda.rlocs, Lambda.defs, Lambda.body]
theorem defs_in : ∀ {ds : List Def}, Def.rlocsList ds ⊆ T → ∀ x e l, Def.mk x e l ∈ ds → e.rlocs ⊆ T
  | d :: ds, h, x, e, l, hx => by
    simp only [Def.rlocsList, List.append_subset] at h
    rcases List.mem_cons.1 hx with rfl | hx
    · simp only [Def.rlocs, List.append_subset] at h; exact h.1.2
    · exact defs_in h.2 x e l hx

/-- the statements of `locInv_sound.eval` for the eight functions of the evaluator as one record; nothing in
the development builds it (`evalExpr_in` is its first field, proved) -/
structure LocAt (T : List RPos) (fuel : Nat) : Prop where
  expr : ∀ σ ρ e r σ', evalExpr fuel σ ρ e = (r, σ') → SIn T σ → e.rlocs ⊆ T →
    SIn T σ' ∧ (∀ v, r = .ok v → VIn T v) ∧ (∀ er, r = .error er → ErrOK T er)
  args : ∀ σ ρ es r σ', evalArgs fuel σ ρ es = (r, σ') → SIn T σ → Expr.rlocsList es ⊆ T →
    SIn T σ' ∧ (∀ vs, r = .ok vs → ∀ v ∈ vs, VIn T v) ∧ (∀ er, r = .error er → ErrOK T er)
  proc : ∀ σ p as env r σ', applyProcedure fuel σ p as env = (r, σ') → SIn T σ → VIn T p →
    (∀ a ∈ as, VIn T a) →
    SIn T σ' ∧ (∀ v, r = .ok v → VIn T v) ∧ (∀ er, r = .error er → ErrOK T er)
  loop : ∀ σ p as env r σ', applyLoop fuel σ p as env = (r, σ') → SIn T σ → VIn T p →
    (∀ a ∈ as, VIn T a) →
    SIn T σ' ∧ (∀ v, r = .ok v → VIn T v) ∧ (∀ er, r = .error er → ErrOK T er)
  scheme : ∀ σ lam cenv as r σ', applyScheme fuel σ lam cenv as = (r, σ') → SIn T σ → lam.rlocs ⊆ T →
    (∀ a ∈ as, VIn T a) →
    SIn T σ' ∧ (∀ t, r = .ok t → TIn T t) ∧ (∀ er, r = .error er → ErrOK T er)
  defs : ∀ σ ρ ds r σ', evalDefs fuel σ ρ ds = (r, σ') → SIn T σ → Def.rlocsList ds ⊆ T →
    SIn T σ' ∧ (∀ er, r = .error er → ErrOK T er)
  body : ∀ σ ρ es r σ', evalBody fuel σ ρ es = (r, σ') → SIn T σ → Expr.rlocsList es ⊆ T →
    SIn T σ' ∧ (∀ t, r = .ok t → TIn T t) ∧ (∀ er, r = .error er → ErrOK T er)
  tail : ∀ σ ρ e r σ', evalTail fuel σ ρ e = (r, σ') → SIn T σ → e.rlocs ⊆ T →
    SIn T σ' ∧ (∀ t, r = .ok t → TIn T t) ∧ (∀ er, r = .error er → ErrOK T er)

@[reducible] def locInv (T : List RPos) : EvalInv where
  G := fun _ _ => True
  I := SIn T
  V := fun _ v => VIn T v
  Env := fun _ _ => True
  C := fun e => e.rlocs ⊆ T
  CL := fun lam => lam.rlocs ⊆ T
  Err := ErrOK T

theorem locInv_sound : (locInv T).Sound where
  rel := stepRel_true
  V_mono := fun _ h => h
  Env_mono := fun _ h => h
  of_eq := fun hf hv => ⟨fun h => h.of_eq hf hv, fun _ h => h⟩
  lookup := fun h hl => sIn_lookup h hl
  define := fun h hv ρ k => sIn_define h ρ k hv
  newFrame := fun h _ => ⟨sIn_newFrame h _, trivial⟩
  prim := fun _ => ⟨fun _ h _ => evalPrim_vIn h, fun _ _ => errOK_none _⟩
  lit := fun _ h =>
    have p := readLiteral_post (Prod.eta _).symm h
    ⟨p.1, p.2.1, fun e he => errOK_of_none (p.2.2 e he)⟩
  applyPure := fun h ha _ _ =>
    have p := applyPure_in (Prod.eta _).symm h ha
    ⟨p.1, p.2.1, fun e he => errOK_of_none (p.2.2 e he)⟩
  V_pair := vIn_pair
  V_nil := @fun _ => vIn_nil
  V_void := @fun _ => vIn_void
  V_closure := by simp
  err := fun k _ => errOK_none k
  call := fun h => have h := call_in.1 h; ⟨h.2.2.1, list_in.1 h.2.2.2, errOK_nonproc h.2.1⟩
  assign := fun h => have h := assign_in.1 h; ⟨h.2.2, errOK_unbound h.2.1⟩
  cond := fun h => have h := cond_in.1 h; ⟨h.2.1, h.2.2.1, fun x hx => opt_some_in.1 (hx ▸ h.2.2.2)⟩
  lambda := fun h => (lambda_in.1 h).2
  sym := fun h => errOK_unbound (sym_in.1 h).2
  -- `.inl`: the invariant is lax (`EvalInv.Lax`): the panic on an empty body carries no position
  lam := fun h => have h := lam_in.1 h; ⟨defs_in h.1, list_in.1 h.2, .inl fun _ => errOK_none _⟩

theorem evalExpr_in {fuel σ ρ e r σ'} (h : evalExpr fuel σ ρ e = (r, σ')) (hσ : SIn T σ) (he : e.rlocs ⊆ T) :
    SIn T σ' ∧ (∀ v, r = .ok v → VIn T v) ∧ ∀ er, r = .error er → ErrOK T er :=
  ((locInv_sound.eval fuel).expr σ ρ e hσ trivial he).toEnds.of_eq h

theorem evalExpr_post {n σ ρ e r σ'} (h : evalExpr n σ ρ e = (r, σ')) :
    SIn (σ.rlocs ++ e.rlocs) σ' ∧ (∀ v, r = .ok v → VIn (σ.rlocs ++ e.rlocs) v) ∧
      (∀ er, r = .error er → ErrOK (σ.rlocs ++ e.rlocs) er) :=
  evalExpr_in h (sIn_iff.2 (List.subset_append_left _ _)) (List.subset_append_right _ _)

theorem evalExpr_located {n σ ρ e k l σ'} (h : evalExpr n σ ρ e = (.error (k, some l), σ')) :
    (k = .unbound ∧ (Role.ident, l) ∈ σ.rlocs ++ e.rlocs) ∨
    (k = .nonProcedure ∧ (Role.operator, l) ∈ σ.rlocs ++ e.rlocs) :=
  (evalExpr_post h).2.2 _ rfl l rfl

end EvalLoc

end Ruschm
