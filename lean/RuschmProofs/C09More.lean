/-
Property C09, second part — "an operation with an inexact operand returns the binary32 result of the
IEEE operation on the converted operands", for the numeric operations `C09.lean` does not cover:

1. `floor-quotient`, `floor-remainder` with an inexact operand;
2. `exact`;
3. `sqrt` and the transcendental procedures (dispatch: the `Float32` function on the operand converted
   to binary32 - `Float32` is opaque, so nothing is said about the function itself);
4. the n-ary `+ - * /` when SOME operand is inexact: the operands before the inexact one are folded as
   they are (exactly, while the running result is exact - `C09.addAll_mulAll_sound`), from there on the
   fold is the pure binary32 left fold `Num.realFold` of the converted operands; in particular an exact
   zero divisor after an inexact operand is NOT an error;
5. the tie of the native procedures `+ - * /` to `Num.addAll/mulAll/subAll/divAll` on numbers.

Vocabulary: `RuschmSpec/Num.lean` (`toReal`, `isExact`, `WF`, `PosDen`) and `RuschmSpec/NumMore.lean`
(`realFold`). Helper lemmas: `RuschmProofs/NumMoreLemmas.lean`, `RuschmProofs/ArgLists.lean`.

An `example` after a theorem shows that its hypotheses can be met (non-vacuity), or the statement on numbers.
-/
import RuschmProofs.C09
import RuschmProofs.NumMoreLemmas

namespace Ruschm.C09More
open Ruschm

/-! ## 1. floor-quotient and floor-remainder with an inexact operand -/

/-- `floor-quotient` with an inexact operand: the binary32 `floor` of the binary32 quotient of the
converted operands. Never an error - also when the divisor is an exact zero. -/
theorem floorQuotient_inexact {a b : Num} (h : a.isExact = false ∨ b.isExact = false) :
    Num.floorQuotient a b = .ok (.real (a.toReal / b.toReal).floor) := by
  unfold Num.floorQuotient
  rw [Num.tower_div.real _ _ h]; rfl

example : (Num.real 7.5).isExact = false ∨ (Num.int 2).isExact = false := Or.inl rfl

/-- `floor-remainder` with an inexact operand is `a - floor(a / b) * b`, every operation in binary32 on
the converted operands (the quotient is inexact, so the product and the difference are, too). -/
theorem floorRemainder_inexact {a b : Num} (h : a.isExact = false ∨ b.isExact = false) :
    Num.floorRemainder a b =
      .ok (.real (a.toReal - (a.toReal / b.toReal).floor * b.toReal)) := by
  unfold Num.floorRemainder
  rw [floorQuotient_inexact h]
  show (Num.mul (.real (a.toReal / b.toReal).floor) b >>= fun p => Num.sub a p) = _
  rw [Num.tower_mul.real _ _ (Or.inl rfl)]
  show Num.sub a (.real _) = _
  rw [Num.tower_sub.real _ _ (Or.inr rfl)]; rfl

example : (Num.rat 7 2).isExact = false ∨ (Num.real 2).isExact = false := Or.inr rfl

/-- An inexact dividend and an exact zero divisor (`0`, or a ratio with numerator 0) is NOT an error for
`/`, `floor-quotient`, `floor-remainder`: the zero is converted (`Float32.ofInt 0`, resp.
`ofInt 0 / ofInt d`) and the binary32 operation is performed (an infinity or a NaN on IEEE hardware). -/
theorem inexact_by_exact_zero {a b : Num} (ha : a.isExact = false) (_hb : b.isExactZero = true) :
    Num.div a b = .ok (.real (a.toReal / b.toReal)) ∧
    Num.floorQuotient a b = .ok (.real (a.toReal / b.toReal).floor) ∧
    Num.floorRemainder a b = .ok (.real (a.toReal - (a.toReal / b.toReal).floor * b.toReal)) :=
  ⟨Num.tower_div.real _ _ (Or.inl ha), floorQuotient_inexact (Or.inl ha), floorRemainder_inexact (Or.inl ha)⟩

example : (Num.real 1.5).isExact = false ∧ (Num.int 0).isExactZero = true ∧
    (Num.rat 0 7).isExactZero = true ∧
    ∀ f, Num.div (.real f) (.int 0) = .ok (.real (f / Float32.ofInt 0)) := ⟨rfl, rfl, rfl, fun _ => rfl⟩

/-! ## 2. `exact` -/

/-- `exact` returns an exact number unchanged. -/
theorem exact_of_exact {x : Num} (h : x.isExact = true) : Num.exact x = .ok x := by
  cases x with
  | int i | rat n d => rfl
  | real r => cases h

example : (Num.rat 1 2).isExact = true := rfl

/-- `exact` on an inexact number `r`: `r` is first ROUNDED to an integral binary32 number
(`f32::round`, half away from zero); if that is a NaN, below `-2^31` or at least `2^31` (both converted to
binary32), the result is the error `inexactConversion`; otherwise it is the integer obtained by the
binary32-to-`i32` conversion of the rounded number. (So a non-integral real is not rejected: it is
rounded. `Float32` being opaque, nothing more can be said about which integer.) -/
theorem exact_of_real (r : Float32) :
    Num.exact (.real r) =
      if r.round.isNaN = true ∨ r.round < Float32.ofInt (-2147483648) ∨
          r.round ≥ Float32.ofInt 2147483648
      then .error .inexactConversion else .ok (.int r.round.toInt32.toInt) := by
  simp only [Num.exact, Num.realToI32?]
  by_cases h1 : r.round.isNaN = true
  · simp [h1]
  · by_cases h2 : r.round < Float32.ofInt (-2147483648)
    · simp [h1, h2]
    · by_cases h3 : r.round ≥ Float32.ofInt 2147483648
      · simp [h1, h2, h3]
      · simp [h1, h2, h3]

/-- A result of `exact` is exact, and it satisfies the representation invariant when the operand does;
for an inexact operand it is an integer in the `i32` range. -/
theorem exact_result {x y : Num} (h : Num.exact x = .ok y) :
    y.isExact = true ∧ (x.WF → y.WF) ∧
      (x.isExact = false → ∃ i, y = .int i ∧ fitsI32 i = true) := by
  cases x with
  | int i | rat n d => cases h; exact ⟨rfl, id, fun h => by cases h⟩
  | real r =>
    rw [exact_of_real] at h
    split at h
    · cases h
    · cases h
      have hfit := Num.fitsI32_toInt r.round.toInt32
      exact ⟨rfl, fun _ => hfit, fun _ => ⟨_, rfl, hfit⟩⟩

example : Num.exact (.rat 1 2) = .ok (.rat 1 2) := rfl

/-- The only error of `exact` is `inexactConversion`, and only an inexact operand (whose rounding is a NaN
or outside the `i32` range) gives it; `exact` never panics. -/
theorem exact_error {x : Num} {e : Err} (h : Num.exact x = .error e) :
    e = .inexactConversion ∧ ∃ r, x = .real r ∧
      (r.round.isNaN = true ∨ r.round < Float32.ofInt (-2147483648) ∨
        r.round ≥ Float32.ofInt 2147483648) := by
  cases x with
  | int i | rat n d => cases h
  | real r =>
    rw [exact_of_real] at h
    split at h
    · next hc => cases h; exact ⟨rfl, r, rfl, hc⟩
    · cases h

/-- the hypothesis of `exact_error` is satisfiable for whatever `Float32` is: if it fails for a real `r`,
`exact` returned an integer -/
example (r : Float32) : (∃ e, Num.exact (.real r) = .error e) ∨ ∃ i, Num.exact (.real r) = .ok (.int i) := by
  rw [exact_of_real]; split
  · exact Or.inl ⟨_, rfl⟩
  · exact Or.inr ⟨_, rfl⟩

/-! ## 3. `sqrt` and the transcendental procedures -/

/-- The one-argument real procedures applied to a number `n` (further arguments, excluded by the arity
check, would be ignored): the result is ALWAYS inexact, the `Float32` function on `n` converted to
binary32 (`R::from(i)`, `R::from(n) / R::from(d)`, identity). `(sqrt 4)` is `2.0`, not `2`. The store is
unchanged. -/
theorem real_unary_dispatch (σ : Store) (n : Num) (rest : List Value) :
    Prim.applyPure σ .sqrt (.num n :: rest) = Prim.ok (.num (.real (Float32.sqrt n.toReal))) σ ∧
    Prim.applyPure σ .exp (.num n :: rest) = Prim.ok (.num (.real (Float32.exp n.toReal))) σ ∧
    Prim.applyPure σ .ln (.num n :: rest) = Prim.ok (.num (.real (Float32.log n.toReal))) σ ∧
    Prim.applyPure σ .sin (.num n :: rest) = Prim.ok (.num (.real (Float32.sin n.toReal))) σ ∧
    Prim.applyPure σ .cos (.num n :: rest) = Prim.ok (.num (.real (Float32.cos n.toReal))) σ ∧
    Prim.applyPure σ .tan (.num n :: rest) = Prim.ok (.num (.real (Float32.tan n.toReal))) σ ∧
    Prim.applyPure σ .asin (.num n :: rest) = Prim.ok (.num (.real (Float32.asin n.toReal))) σ ∧
    Prim.applyPure σ .acos (.num n :: rest) = Prim.ok (.num (.real (Float32.acos n.toReal))) σ ∧
    Prim.applyPure σ .atan (.num n :: rest) = Prim.ok (.num (.real (Float32.atan n.toReal))) σ := by
  cases n <;> exact ⟨rfl, rfl, rfl, rfl, rfl, rfl, rfl, rfl, rfl⟩

/-- The two-argument real procedures: `(log x base)` is `ln x / ln base` and `(atan2 y x)` the `Float32`
`atan2`, on both operands converted to binary32; always inexact. -/
theorem real_binary_dispatch (σ : Store) (n m : Num) (rest : List Value) :
    Prim.applyPure σ .log (.num n :: .num m :: rest) =
      Prim.ok (.num (.real (Float32.log n.toReal / Float32.log m.toReal))) σ ∧
    Prim.applyPure σ .atan2 (.num n :: .num m :: rest) =
      Prim.ok (.num (.real (Float32.atan2 n.toReal m.toReal))) σ := by
  cases n <;> cases m <;> exact ⟨rfl, rfl⟩

/-- A first argument that is not a number is a type error for each of the one-argument procedures (the
store unchanged); ... -/
theorem real_fn_type_error (σ : Store) {x : Value} (hx : ¬ Prim.IsNum x) (rest : List Value) :
    ∀ b ∈ [Builtin.sqrt, .exp, .ln, .sin, .cos, .tan, .asin, .acos, .atan],
      Prim.applyPure σ b (x :: rest) = Prim.err .type σ := by
  intro b hb
  simp only [List.mem_cons, List.mem_nil_iff, or_false] at hb
  rcases hb with rfl | rfl | rfl | rfl | rfl | rfl | rfl | rfl | rfl
  all_goals simp only [Prim.applyPure, Prim.realFn, Prim.num1_eq, Prim.numArg1_nonnum hx]; rfl

example : ¬ Prim.IsNum (.sym "a") := fun h => h

/-- ... for `log` and `atan2` (two arguments, as the arity check guarantees) a non-number in the first or
in the second position is a type error. -/
theorem real_fn2_type_error (σ : Store) (n : Num) {x : Value} (hx : ¬ Prim.IsNum x) (y : Value)
    (rest : List Value) :
    Prim.applyPure σ .log (x :: y :: rest) = Prim.err .type σ ∧
    Prim.applyPure σ .atan2 (x :: y :: rest) = Prim.err .type σ ∧
    Prim.applyPure σ .log (.num n :: x :: rest) = Prim.err .type σ ∧
    Prim.applyPure σ .atan2 (.num n :: x :: rest) = Prim.err .type σ := by
  simp only [Prim.applyPure, Prim.realFn2, Prim.num2_eq, Prim.numArg2_nonnum hx, Prim.numArg2_nonnum_snd hx]
  exact ⟨rfl, rfl, rfl, rfl⟩

example : ¬ Prim.IsNum (.bool true) := fun h => h

/-- `exact`, `floor-quotient`, `floor-remainder` as native procedures on numbers are the `Num` operations
of sections 1 and 2 (result or error passed on, store unchanged). -/
theorem exact_floorq_floorr_builtin (σ : Store) (n m : Num) (rest : List Value) :
    Prim.applyPure σ .exact (.num n :: rest) = Prim.lift σ (Num.exact n) .num ∧
    Prim.applyPure σ .floorQuotient (.num n :: .num m :: rest) =
      Prim.lift σ (Num.floorQuotient n m) .num ∧
    Prim.applyPure σ .floorRemainder (.num n :: .num m :: rest) =
      Prim.lift σ (Num.floorRemainder n m) .num := by
  simp only [Prim.applyPure, Prim.num1_eq, Prim.num2_eq]
  exact ⟨rfl, rfl, rfl⟩

/-! ## 4. the n-ary folds when some operand is inexact -/

/-- Once the running result is inexact, the rest of each fold is the pure binary32 left fold of the
converted operands: it never fails, whatever the operands (exact zero divisors included). -/
theorem fold_inexact_acc (g : Float32) (ys : List Num) :
    ys.foldlM Num.add (.real g) = .ok (.real (Num.realFold (· + ·) g ys)) ∧
    ys.foldlM Num.sub (.real g) = .ok (.real (Num.realFold (· - ·) g ys)) ∧
    ys.foldlM Num.mul (.real g) = .ok (.real (Num.realFold (· * ·) g ys)) ∧
    ys.foldlM Num.div (.real g) = .ok (.real (Num.realFold (· / ·) g ys)) :=
  ⟨Num.foldlM_real_acc Num.tower_add.real ys g, Num.foldlM_real_acc Num.tower_sub.real ys g,
   Num.foldlM_real_acc Num.tower_mul.real ys g, Num.foldlM_real_acc Num.tower_div.real ys g⟩

/-- `realFold` unfolded: `((g ⊕ y₁) ⊕ y₂) …` with every operand converted. -/
theorem realFold_eqns (op : Float32 → Float32 → Float32) (g : Float32) (y : Num) (ys : List Num) :
    Num.realFold op g [] = g ∧ Num.realFold op g (y :: ys) = Num.realFold op (op g y.toReal) ys :=
  ⟨Num.realFold_nil op g, Num.realFold_cons op g y ys⟩

/-- n-ary `+` and `*` with an inexact operand `z` at any position: the operands before `z` are summed as
`+` sums them on their own (from `0`; an error there is the error of the whole), the running result `a` is
converted and combined with `z` in binary32, and the operands after `z` follow in the pure binary32 fold.
(When `pre` is exact and `a` is exact, `a` is the true sum: `C09.addAll_mulAll_sound`.) -/
theorem addAll_mulAll_inexact (pre : List Num) {z : Num} (post : List Num) (hz : z.isExact = false) :
    Num.addAll (pre ++ z :: post) =
      (Num.addAll pre >>= fun a =>
        (.ok (.real (Num.realFold (· + ·) (a.toReal + z.toReal) post)) : Except Err Num)) ∧
    Num.mulAll (pre ++ z :: post) =
      (Num.mulAll pre >>= fun a =>
        (.ok (.real (Num.realFold (· * ·) (a.toReal * z.toReal) post)) : Except Err Num)) :=
  ⟨Num.foldlM_split Num.tower_add.real pre post (.int 0) hz,
   Num.foldlM_split Num.tower_mul.real pre post (.int 1) hz⟩

example : (Num.real 0.5).isExact = false ∧
    ∀ f, Num.addAll [.int 1, .rat 1 2, .real f, .int 3] =
      .ok (.real (Num.ratToReal 3 2 + f + Float32.ofInt 3)) := ⟨rfl, fun _ => rfl⟩

/-- The same with the operands before `z` having positive denominators (as every number the interpreter
produces has): the sum of the prefix exists, so the whole is the binary32 number described; and if the
prefix is exact and its sum `a` still exact, `a` is the mathematical sum ("exact while both sides are exact,
then binary32 step by step"). Likewise for `*`. -/
theorem addAll_mulAll_inexact_ok {pre : List Num} {z : Num} (post : List Num) (hz : z.isExact = false)
    (hpre : ∀ x ∈ pre, x.PosDen) :
    (∃ a, Num.addAll pre = .ok a ∧ a.WF ∧
      Num.addAll (pre ++ z :: post) =
        .ok (.real (Num.realFold (· + ·) (a.toReal + z.toReal) post)) ∧
      (a.isExact = true → (∀ x ∈ pre, x.isExact = true) ∧
        a.val = some (pre.foldl (fun acc x => acc + x.valD) 0))) ∧
    (∃ a, Num.mulAll pre = .ok a ∧ a.WF ∧
      Num.mulAll (pre ++ z :: post) =
        .ok (.real (Num.realFold (· * ·) (a.toReal * z.toReal) post)) ∧
      (a.isExact = true → (∀ x ∈ pre, x.isExact = true) ∧
        a.val = some (pre.foldl (fun acc x => acc * x.valD) 1))) := by
  obtain ⟨⟨a, ha, wa⟩, ⟨m, hm, wm⟩⟩ := C09.addAll_mulAll_ok hpre
  obtain ⟨h1, h2⟩ := addAll_mulAll_inexact pre post hz
  refine ⟨⟨a, ha, wa, ?_, fun ea => (C09.addAll_mulAll_sound ea).1 ha⟩,
    ⟨m, hm, wm, ?_, fun em => (C09.addAll_mulAll_sound em).2 hm⟩⟩
  · rw [h1, ha]; rfl
  · rw [h2, hm]; rfl

example : (Num.real 0.5).isExact = false ∧ ∀ x ∈ [Num.int 1, .rat 1 2], x.PosDen :=
  ⟨rfl, by decide⟩

/-- n-ary `-` with an inexact operand `z`: `(- z)` is `0 - z` in binary32; `z` first: the pure binary32
fold from `z`; otherwise the operands before `z` are folded from the first one `x` as `-` folds them, and
from `z` on the fold is the binary32 one. -/
theorem subAll_inexact {z : Num} (hz : z.isExact = false) (post : List Num) :
    Num.subAll [z] = .ok (.real (Float32.ofInt 0 - z.toReal)) ∧
    (post ≠ [] → Num.subAll (z :: post) = .ok (.real (Num.realFold (· - ·) z.toReal post))) ∧
    (∀ (x : Num) (pre : List Num), Num.subAll (x :: (pre ++ z :: post)) =
      (pre.foldlM Num.sub x >>= fun a =>
        (.ok (.real (Num.realFold (· - ·) (a.toReal - z.toReal) post)) : Except Err Num))) := by
  refine ⟨Num.tower_sub.real _ _ (Or.inr hz), fun hne => ?_, fun x pre => ?_⟩
  · obtain ⟨g, rfl⟩ := Num.eq_real_of_inexact hz
    rw [(C09.subAll_eq_fold _ post).2 hne]
    exact Num.foldlM_real_acc Num.tower_sub.real post g
  · rw [(C09.subAll_eq_fold x (pre ++ z :: post)).2 (by simp)]
    exact Num.foldlM_split Num.tower_sub.real pre post x hz

example : (Num.real 0.5).isExact = false ∧ [Num.int 0] ≠ [] := ⟨rfl, by simp⟩

/-- n-ary `/` with an inexact operand `z`. `(/ z)` is `1 / z` in binary32; `z` first: the pure binary32
fold from `z`, whatever follows - exact zeros included; otherwise: the plain fold `divFold` splits at `z`
as the others do, and the builtin (`divAll`), when `z` is the FIRST inexact operand, reports `divZero` if
one of the exact divisors `pre` before `z` is an exact zero and is that fold otherwise. The operands after
`z` are never looked at by the zero check. -/
theorem divAll_inexact {z : Num} (hz : z.isExact = false) (post : List Num) :
    Num.divAll [z] = .ok (.real (Float32.ofInt 1 / z.toReal)) ∧
    (post ≠ [] → Num.divAll (z :: post) = .ok (.real (Num.realFold (· / ·) z.toReal post))) ∧
    (∀ (x : Num) (pre : List Num), Num.divFold (x :: (pre ++ z :: post)) =
      (pre.foldlM Num.div x >>= fun a =>
        (.ok (.real (Num.realFold (· / ·) (a.toReal / z.toReal) post)) : Except Err Num))) ∧
    (∀ (x : Num) (pre : List Num), x.isExact = true → (∀ y ∈ pre, y.isExact = true) →
      Num.divAll (x :: (pre ++ z :: post)) =
        if pre.any Num.isExactZero = true then .error .divZero else
        (pre.foldlM Num.div x >>= fun a =>
          (.ok (.real (Num.realFold (· / ·) (a.toReal / z.toReal) post)) : Except Err Num))) := by
  have hfold : ∀ (x : Num) (pre : List Num), Num.divFold (x :: (pre ++ z :: post)) =
      (pre.foldlM Num.div x >>= fun a =>
        (.ok (.real (Num.realFold (· / ·) (a.toReal / z.toReal) post)) : Except Err Num)) := by
    intro x pre
    rw [Num.divFold_cons x (by simp)]
    exact Num.foldlM_split Num.tower_div.real pre post x hz
  obtain ⟨g, rfl⟩ := Num.eq_real_of_inexact hz
  refine ⟨rfl, fun hne => ?_, hfold, fun x pre ex epre => ?_⟩
  · rw [Num.divAll_of_not_guard (Num.exactDivisors_real_first g post), Num.divFold_cons _ hne]
    exact Num.foldlM_real_acc Num.tower_div.real post g
  · unfold Num.divAll
    rw [Num.exactDivisors_split post ex epre hz, hfold]

example : (Num.real 0.5).isExact = false ∧ (Num.int 3).isExact = true ∧
    (∀ y ∈ [Num.rat 1 2], y.isExact = true) ∧
    (∀ f, Num.divAll [.int 3, .rat 0 2, .real f, .int 0] = .error .divZero) ∧
    (∀ f, ∃ g, Num.divAll [.int 3, .rat 1 2, .real f, .int 0] = .ok (.real g)) :=
  ⟨rfl, rfl, List.forall_mem_singleton.2 rfl, fun _ => rfl, fun _ => ⟨_, rfl⟩⟩

/-- AN EXACT ZERO DIVISOR AFTER AN INEXACT OPERAND IS NOT AN ERROR. If the first inexact operand `z` is
preceded by exact operands with positive denominators of which no divisor is an exact zero, then `/`
returns an inexact number whatever the operands `post` after `z` are - exact zeros, ratios with a zero
numerator, anything. (With `z` the first operand: `divAll_inexact`, second clause, no hypothesis.) -/
theorem exact_zero_divisor_after_inexact {x z : Num} {pre : List Num} (post : List Num)
    (ex : x.isExact = true) (epre : ∀ y ∈ pre, y.isExact = true) (hz : z.isExact = false)
    (px : x.PosDen) (ppre : ∀ y ∈ pre, y.PosDen) (hnz : pre.any Num.isExactZero = false) :
    ∃ a, pre.foldlM Num.div x = .ok a ∧
      Num.divAll (x :: (pre ++ z :: post)) =
        .ok (.real (Num.realFold (· / ·) (a.toReal / z.toReal) post)) := by
  obtain ⟨a, ha, _⟩ := Num.foldlM_div_ok pre x px ppre fun _ =>
    List.any_eq_false.mpr fun y hy => List.any_eq_false.mp hnz y ((List.takeWhile_sublist _).subset hy)
  refine ⟨a, ha, ?_⟩
  rw [(divAll_inexact hz post).2.2.2 x pre ex epre, hnz, ha]; rfl

example : (Num.int 1).isExact = true ∧ (∀ y ∈ [Num.rat 1 2], y.isExact = true ∧ y.PosDen) ∧
    (Num.real 1.5).isExact = false ∧ [Num.rat 1 2].any Num.isExactZero = false ∧
    (∀ f, ∃ g, Num.divAll [.int 1, .rat 1 2, .real f, .int 0, .rat 0 5] = .ok (.real g)) :=
  ⟨rfl, List.forall_mem_singleton.2 ⟨rfl, by decide⟩, rfl, rfl, fun _ => ⟨_, rfl⟩⟩

/-- INEXACTNESS IS CONTAGIOUS THROUGH THE FOLDS: if some operand is inexact, every result the n-ary
`+ * - /` return is inexact (no hypothesis on the operands). -/
theorem nary_inexact_result {xs : List Num} {r : Num} (hx : ∃ x ∈ xs, x.isExact = false) :
    (Num.addAll xs = .ok r → r.isExact = false) ∧
    (Num.mulAll xs = .ok r → r.isExact = false) ∧
    (Num.subAll xs = .ok r → r.isExact = false) ∧
    (Num.divAll xs = .ok r → r.isExact = false) := by
  refine ⟨Num.foldlM_inexact_result Num.tower_add (Or.inr hx),
    Num.foldlM_inexact_result Num.tower_mul (Or.inr hx), fun h => ?_, fun h => ?_⟩
  · cases xs with
    | nil => cases h
    | cons x ys => exact Num.fold1_inexact_result Num.tower_sub hx (Num.subAll_eq_fold1 x ys ▸ h)
  · have h' := Num.divAll_ok h
    cases xs with
    | nil => cases h'
    | cons x ys => exact Num.fold1_inexact_result Num.tower_div hx (Num.divFold_eq_fold1 x ys ▸ h')

example : (∃ x ∈ [Num.int 1, .real 0.5, .rat 1 2], x.isExact = false) ∧
    (∃ g, Num.addAll [.int 1, .real 0.5, .rat 1 2] = .ok (.real g)) ∧
    (∃ g, Num.divAll [.int 1, .real 0.5, .rat 0 2] = .ok (.real g)) :=
  ⟨⟨.real 0.5, by simp, rfl⟩, ⟨_, rfl⟩, ⟨_, rfl⟩⟩

/-! ## 5. the native procedures `+ * - /` on numbers are these folds -/

/-- Applied to arguments that are all numbers, the native procedures `+`, `*`, `-`, `/` are
`Num.addAll`, `Num.mulAll`, `Num.subAll`, `Num.divAll` (result or error passed on, store unchanged);
`-` and `/` with at least one argument, which the arity check guarantees. So every theorem of `C09` and of
this file about the folds is a theorem about the procedures. -/
theorem builtins_on_numbers (σ : Store) (ns : List Num) :
    Prim.applyPure σ .add (ns.map Value.num) = Prim.lift σ (Num.addAll ns) .num ∧
    Prim.applyPure σ .mul (ns.map Value.num) = Prim.lift σ (Num.mulAll ns) .num ∧
    (ns ≠ [] → Prim.applyPure σ .sub (ns.map Value.num) = Prim.lift σ (Num.subAll ns) .num) ∧
    (ns ≠ [] → Prim.applyPure σ .div (ns.map Value.num) = Prim.lift σ (Num.divAll ns) .num) := by
  refine ⟨?_, ?_, fun hne => ?_, fun hne => ?_⟩
  · simp only [Prim.applyPure, Prim.foldNum_nums]; rfl
  · simp only [Prim.applyPure, Prim.foldNum_nums]; rfl
  · simp only [Prim.applyPure]
    congr 1
    match ns, hne with
    | x :: ys, _ => rw [Prim.subDiv_nums, Num.subAll_eq_fold1]
  · simp only [Prim.applyPure, Prim.divArgs_nums hne]

example : ([Num.int 1, .real 0.5] : List Num) ≠ [] := by simp

end Ruschm.C09More
