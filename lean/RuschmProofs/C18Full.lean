/-
Property C18, the `_partial` of `RuschmProofs/C18More.lean` closed: THE OUTPUT BUFFER IS A WRITE-ONLY LOG,
hence a session without errors is the program run — without the hypothesis `OutBlind`.

`C18More.session_equals_program_when_no_error_partial` assumed `Session.OutBlind fuel sts`: "with more
text below in the output buffer `Store.out`, `eval_ast` gives the same outcome and the same state, with that
text still below".  Here it is PROVED, for every fuel and every statement, from an invariant threaded
through every function of the evaluator (`RuschmModel/Eval.lean`) and of the interpreter around it
(`RuschmModel/Interp.lean`): `RuschmProofs/OutBlindLemmas.lean` makes `OBAt` an instance of `EvalHom.eval` and
`IOBAt` an instance of `Interp.comm_run` (`InterpInduction.lean`); the base case is `Prim.applyPure` for every native
procedure: only `newline` and `display` touch `Store.out`, and they push (`display` formats its argument
from `Store.vecs`).  The other reader of the store inside evaluation, `Prim.derivedEq` (the test "one name
imported with two different bindings", `evalImportSets`), reads `Store.vecs` only.

Vocabulary (`OutBlindLemmas.lean`): `Store.withOut σ o` / `State.withOut st o` — the buffer replaced by `o`;
`SameButOut o o' r r'` (`SameButOutS` for results carrying a `State`) — the results `r`, `r'` of two runs that
started with the buffers `o`, `o'` have the same outcome, the same store but for `out`, and the buffers are
`pushed ++ o` and `pushed ++ o'` for the SAME list `pushed` (the buffer is most recent first).
`Session.setOut o st` (`SessionLemmas.lean`) is `st.withOut o`.
-/
import RuschmProofs.C18More
import RuschmProofs.OutBlindLemmas


namespace Ruschm.C18Full
open Ruschm Ruschm.Interp Ruschm.Front Ruschm.FrontSpec Ruschm.Text Ruschm.ProgramText Ruschm.Session

/-! ## (1) evaluation never reads the output buffer -/

/-- The statement of `eval_out_blind` at one fuel: one field per function of `RuschmModel/Eval.lean`
(`readLiteral`, `bindFixed`, `Prim.applyPure` — which take no fuel —, `evalExpr`, `evalArgs`,
`applyProcedure`, `applyLoop`, `applyScheme`, `evalDefs`, `evalBody`, `evalTail`) and of
`RuschmModel/Interp.lean` (`evalExprOrDef`, `evalImportSet`, `getLibrary`, `evalImport`, `evalImportSets`,
`evalLibraryDef`, `evalLibDecls`, `evalStatements`, `evalAst`, `evalText`).  Each field: the run from a store
(state) and the run from the same store with ANY other output buffer `o'` are `SameButOut`. -/
structure EvalOutBlind (fuel : Nat) : Prop where
  readLiteral : ∀ (σ : Store) (o' : List String) d,
    SameButOut σ.out o' (Eval.readLiteral σ d) (Eval.readLiteral (σ.withOut o') d)
  bindFixed : ∀ (σ : Store) (o' : List String) ρ names args,
    SameButOut σ.out o' (Eval.bindFixed σ ρ names args) (Eval.bindFixed (σ.withOut o') ρ names args)
  applyPure : ∀ (σ : Store) (o' : List String) b args,
    SameButOut σ.out o' (Prim.applyPure σ b args) (Prim.applyPure (σ.withOut o') b args)
  evalExpr : ∀ (σ : Store) (o' : List String) ρ e,
    SameButOut σ.out o' (Eval.evalExpr fuel σ ρ e) (Eval.evalExpr fuel (σ.withOut o') ρ e)
  evalArgs : ∀ (σ : Store) (o' : List String) ρ es,
    SameButOut σ.out o' (Eval.evalArgs fuel σ ρ es) (Eval.evalArgs fuel (σ.withOut o') ρ es)
  applyProcedure : ∀ (σ : Store) (o' : List String) p args env,
    SameButOut σ.out o' (Eval.applyProcedure fuel σ p args env) (Eval.applyProcedure fuel (σ.withOut o') p args env)
  applyLoop : ∀ (σ : Store) (o' : List String) p args env,
    SameButOut σ.out o' (Eval.applyLoop fuel σ p args env) (Eval.applyLoop fuel (σ.withOut o') p args env)
  applyScheme : ∀ (σ : Store) (o' : List String) lam cenv args,
    SameButOut σ.out o' (Eval.applyScheme fuel σ lam cenv args) (Eval.applyScheme fuel (σ.withOut o') lam cenv args)
  evalDefs : ∀ (σ : Store) (o' : List String) ρ ds,
    SameButOut σ.out o' (Eval.evalDefs fuel σ ρ ds) (Eval.evalDefs fuel (σ.withOut o') ρ ds)
  evalBody : ∀ (σ : Store) (o' : List String) ρ es,
    SameButOut σ.out o' (Eval.evalBody fuel σ ρ es) (Eval.evalBody fuel (σ.withOut o') ρ es)
  evalTail : ∀ (σ : Store) (o' : List String) ρ e,
    SameButOut σ.out o' (Eval.evalTail fuel σ ρ e) (Eval.evalTail fuel (σ.withOut o') ρ e)
  evalExprOrDef : ∀ (st : State) (o' : List String) s ρ,
    SameButOutS st.store.out o' (Interp.evalExprOrDef fuel st s ρ) (Interp.evalExprOrDef fuel (st.withOut o') s ρ)
  evalImportSet : ∀ (st : State) (o' : List String) s,
    SameButOutS st.store.out o' (Interp.evalImportSet fuel st s) (Interp.evalImportSet fuel (st.withOut o') s)
  getLibrary : ∀ (st : State) (o' : List String) name loc,
    SameButOutS st.store.out o' (Interp.getLibrary fuel st name loc) (Interp.getLibrary fuel (st.withOut o') name loc)
  evalImport : ∀ (st : State) (o' : List String) sets ρ,
    SameButOutS st.store.out o' (Interp.evalImport fuel st sets ρ) (Interp.evalImport fuel (st.withOut o') sets ρ)
  evalImportSets : ∀ (st : State) (o' : List String) sets acc,
    SameButOutS st.store.out o' (Interp.evalImportSets fuel st sets acc)
      (Interp.evalImportSets fuel (st.withOut o') sets acc)
  evalLibraryDef : ∀ (st : State) (o' : List String) decls,
    SameButOutS st.store.out o' (Interp.evalLibraryDef fuel st decls) (Interp.evalLibraryDef fuel (st.withOut o') decls)
  evalLibDecls : ∀ (st : State) (o' : List String) ρ decls acc,
    SameButOutS st.store.out o' (Interp.evalLibDecls fuel st ρ decls acc)
      (Interp.evalLibDecls fuel (st.withOut o') ρ decls acc)
  evalStatements : ∀ (st : State) (o' : List String) ρ ss,
    SameButOutS st.store.out o' (Interp.evalStatements fuel st ρ ss) (Interp.evalStatements fuel (st.withOut o') ρ ss)
  evalAst : ∀ (st : State) (o' : List String) s,
    SameButOutS st.store.out o' (Interp.evalAst fuel st s) (Interp.evalAst fuel (st.withOut o') s)
  evalText : ∀ (st : State) (o' : List String) text,
    SameButOutS st.store.out o' (Interp.evalText fuel st text) (Interp.evalText fuel (st.withOut o') text)

/-- (1) EVALUATION NEVER READS THE OUTPUT BUFFER: IT IS A WRITE-ONLY LOG.  For every fuel and every function
of the evaluator and of the interpreter around it (the fields of `EvalOutBlind`): run it from a store `σ`
and from the same store with any other output buffer `o'`.  Both runs have the same outcome — the same value
or the same error with the same location —, the same final frames, vectors, tick trace, depth counters,
(and on `State`: syntax scope, factories, library instances, in-progress set, `import_end`), and there is
one list `pushed` such that the final buffers are `pushed ++ σ.out` and `pushed ++ o'`: what was in the
buffer is kept below, untouched, and what is written does not depend on it. -/
theorem eval_out_blind (fuel : Nat) : EvalOutBlind fuel where
  readLiteral σ o' d := sameButOut_of_addOut (fun σ => Eval.readLiteral σ d) (fun σ o => readLiteral_addOut o d σ) σ o'
  bindFixed σ o' ρ names args :=
    sameButOut_of_addOut (fun σ => Eval.bindFixed σ ρ names args) (fun σ o => bindFixed_addOut o names args σ ρ) σ o'
  applyPure σ o' b args :=
    sameButOut_of_addOut (fun σ => Prim.applyPure σ b args) (fun σ o => applyPure_addOut σ o b args) σ o'
  evalExpr σ o' ρ e :=
    sameButOut_of_addOut (fun σ => Eval.evalExpr fuel σ ρ e) (fun σ o => (obAt fuel).expr σ o ρ e) σ o'
  evalArgs σ o' ρ es :=
    sameButOut_of_addOut (fun σ => Eval.evalArgs fuel σ ρ es) (fun σ o => (obAt fuel).args σ o ρ es) σ o'
  applyProcedure σ o' p args env :=
    sameButOut_of_addOut (fun σ => Eval.applyProcedure fuel σ p args env) (fun σ o => (obAt fuel).proc σ o p args env) σ o'
  applyLoop σ o' p args env :=
    sameButOut_of_addOut (fun σ => Eval.applyLoop fuel σ p args env) (fun σ o => (obAt fuel).loop σ o p args env) σ o'
  applyScheme σ o' lam cenv args :=
    sameButOut_of_addOut (fun σ => Eval.applyScheme fuel σ lam cenv args)
      (fun σ o => (obAt fuel).scheme σ o lam cenv args) σ o'
  evalDefs σ o' ρ ds :=
    sameButOut_of_addOut (fun σ => Eval.evalDefs fuel σ ρ ds) (fun σ o => (obAt fuel).defs σ o ρ ds) σ o'
  evalBody σ o' ρ es :=
    sameButOut_of_addOut (fun σ => Eval.evalBody fuel σ ρ es) (fun σ o => (obAt fuel).body σ o ρ es) σ o'
  evalTail σ o' ρ e :=
    sameButOut_of_addOut (fun σ => Eval.evalTail fuel σ ρ e) (fun σ o => (obAt fuel).tail σ o ρ e) σ o'
  evalExprOrDef st o' s ρ :=
    sameButOutS_of_addOut (fun st => Interp.evalExprOrDef fuel st s ρ) (fun st o => evalExprOrDef_addOut fuel st o s ρ) st o'
  evalImportSet st o' s :=
    sameButOutS_of_addOut (fun st => Interp.evalImportSet fuel st s) (fun st o => (iobAt fuel).importSet st o s) st o'
  getLibrary st o' name loc :=
    sameButOutS_of_addOut (fun st => Interp.getLibrary fuel st name loc)
      (fun st o => (iobAt fuel).getLibrary st o name loc) st o'
  evalImport st o' sets ρ :=
    sameButOutS_of_addOut (fun st => Interp.evalImport fuel st sets ρ) (fun st o => (iobAt fuel).import_ st o sets ρ) st o'
  evalImportSets st o' sets acc :=
    sameButOutS_of_addOut (fun st => Interp.evalImportSets fuel st sets acc)
      (fun st o => (iobAt fuel).importSets st o sets acc) st o'
  evalLibraryDef st o' decls :=
    sameButOutS_of_addOut (fun st => Interp.evalLibraryDef fuel st decls)
      (fun st o => (iobAt fuel).libraryDef st o decls) st o'
  evalLibDecls st o' ρ decls acc :=
    sameButOutS_of_addOut (fun st => Interp.evalLibDecls fuel st ρ decls acc)
      (fun st o => (iobAt fuel).libDecls st o ρ decls acc) st o'
  evalStatements st o' ρ ss :=
    sameButOutS_of_addOut (fun st => Interp.evalStatements fuel st ρ ss)
      (fun st o => (iobAt fuel).statements st o ρ ss) st o'
  evalAst st o' s :=
    sameButOutS_of_addOut (fun st => Interp.evalAst fuel st s) (fun st o => evalAst_addOut fuel st o s) st o'
  evalText st o' text :=
    sameButOutS_of_addOut (fun st => Interp.evalText fuel st text) (fun st o => evalText_addOut fuel st o text) st o'

/-- … and what the two native procedures that touch the buffer do to it: `newline` pushes `"\n"`,
`display` pushes the `Display` text of its argument (computed from the vectors of the store), on top of
whatever the buffer holds. -/
theorem only_display_and_newline_push (σ : Store) (x : Value) (rest : List Value) :
    Prim.applyPure σ .newline [] = (.ok .void, σ.withOut ("\n" :: σ.out)) ∧
    Prim.applyPure σ .display (x :: rest) = (.ok .void, σ.withOut (Prim.display σ 100000 x :: σ.out)) ∧
    ∀ o', Prim.display (σ.withOut o') 100000 x = Prim.display σ 100000 x :=
  ⟨rfl, rfl, fun o' => congrFun (Prim.display_vecs (σ := σ) (σ' := σ.withOut o') rfl 100000).1 x⟩

/-- every native procedure other than `newline` and `display` leaves the buffer as it is -/
theorem other_builtins_do_not_write (σ : Store) (b : Builtin) (args : List Value)
    (hb : b ≠ .newline ∧ b ≠ .display) : (Prim.applyPure σ b args).2.out = σ.out := by
  rcases Prim.applyPure_snd σ b args with h | h <;> rw [h]
  exact Prim.Eff.run_out (Prim.eff_ne_out hb.1 hb.2 _ _) σ

example : (Builtin.add ≠ .newline ∧ Builtin.add ≠ .display) := by decide

/-! ## (2) `OutBlind` holds -/

/-- `Session.pushOut` is `State.addOut` -/
private theorem pushOut_eq (o : List String) (st : State) : pushOut o st = st.addOut o := rfl

/-- (2) THE HYPOTHESIS OF THE `_partial` HOLDS, for every fuel and every list of statements: with more text
`o` below in the output buffer, `eval_ast` on any statement gives the same outcome and the same state, with
`o` still below. -/
theorem out_blind_holds (fuel : Nat) (sts : List Statement) : OutBlind fuel sts :=
  fun s _ st o => evalAst_addOut fuel st o s

/-- the same for a run of statements and for `Interpreter::eval` on a text -/
theorem run_and_text_out_blind (fuel : Nat) (st : State) (o : List String) :
    (∀ sts last, runStmts fuel (pushOut o st) sts last = pushRes o (runStmts fuel st sts last)) ∧
    (∀ text, evalText fuel (pushOut o st) text = pushRes o (evalText fuel st text)) :=
  ⟨fun sts last => runStmts_push fuel sts (out_blind_holds fuel sts) st last o,
    fun text => evalText_addOut fuel st o text⟩

/-! ## (3) a session without errors is the program run -/

/-- (3) A SESSION WITHOUT ERRORS IS THE PROGRAM RUN — `C18More.session_equals_program_when_no_error_full`,
the statement left open there.  Let the statements `sts` (program statements: class `okStmt` for the macro
keywords of the bundled derived forms, literals the lexer can spell) be typed into the REPL in ANY way
(`TypedAs`: any distribution of the tokens over lines, any layout, comments, empty lines), and let every
statement succeed when they are run one after another as a program from the REPL's initial interpreter
(`AllOk`).  Then no submission of the session prints an error message, and the session's final interpreter
state, with the output buffer of the program run put in place of its own (the session empties the buffer
before each submission), is the final state of the program run `runStmts`, up to the source positions
recorded in the code of closures.  For every evaluation fuel, the same on both sides. -/
theorem session_equals_program_when_no_error : C18More.session_equals_program_when_no_error_full := by
  intro fuel sts lines hok hsup ht hall
  obtain ⟨chunks, _, _, herr, hst, _⟩ :=
    C18More.session_equals_program_when_no_error_partial fuel sts lines hok hsup ht (out_blind_holds fuel sts) hall
  exact ⟨hst, herr⟩

/-- (3, all conclusions) the `_partial` of C18More with every conclusion it had, the hypothesis `OutBlind`
removed: with `chunks` the portions in which the session submits the statements (one per line group, no
statement split), no submission prints an error; the final states agree but for the output buffer, up to
recorded positions; the program's output buffer is what the submissions wrote, accumulated (`sessionOut`),
on top of what the initial state held; and the program run is also `Interpreter::eval` on the session's
whole text (the lines joined by newlines): same state up to locations, same output. -/
theorem session_equals_program_when_no_error_chunks (fuel : Nat) (sts : List Statement) (lines : List TLine)
    (hok : ∀ s ∈ sts, okStmt C01More.isStdMacro s) (hsup : ∀ s ∈ sts, SupportedD (printStmt s))
    (ht : TypedAs lines sts) (hall : AllOk fuel (withStdlib fuel false) sts) :
    ∃ chunks : List (List Statement), chunks.flatten = sts ∧
      (tgroups lines).map TLine.toks = chunks.map programToks ∧
      errors (replRun fuel (lines.map TLine.str)).2 = [] ∧
      (setOut (runStmts fuel (withStdlib fuel false) sts none).2.store.out
          (replRun fuel (lines.map TLine.str)).1.st).unloc =
        (runStmts fuel (withStdlib fuel false) sts none).2.unloc ∧
      (runStmts fuel (withStdlib fuel false) sts none).2.store.out =
        sessionOut fuel (withStdlib fuel false) chunks ++ (withStdlib fuel false).store.out ∧
      (evalText fuel (withStdlib fuel false) (joinLines lines).text).2.unloc =
        (runStmts fuel (withStdlib fuel false) sts none).2.unloc ∧
      (evalText fuel (withStdlib fuel false) (joinLines lines).text).2.store.out =
        (runStmts fuel (withStdlib fuel false) sts none).2.store.out :=
  C18More.session_equals_program_when_no_error_partial fuel sts lines hok hsup ht (out_blind_holds fuel sts) hall

/-- the statement `1`, typed on a line of its own with a comment after it: the hypotheses of (3) hold -/
private def one : Statement := .expr (.prim (.int 1) none)

private theorem one_eval (st : State) :
    evalAst 1 st one = (.ok (some (.num (.int 1))), { st with importEnd := true }) :=
  ProgramText.lit_one_evals st

example : (∀ s ∈ [one], okStmt C01More.isStdMacro s) ∧ (∀ s ∈ [one], SupportedD (printStmt s)) ∧
    TypedAs [⟨[.prim (.int 1)], [[], " ; one".toList]⟩] [one] ∧ AllOk 1 (withStdlib 1 false) [one] := by
  refine ⟨ProgramText.Samples.ok_of_all _ _ (by decide +kernel),
    Text.Samples.supported_of_all printStmt _ (by decide +kernel), ⟨?_, by decide +kernel⟩,
    ⟨_, _, one_eval _, trivial⟩⟩
  intro L hL
  cases List.mem_singleton.1 hL
  exact ⟨(by decide +kernel : ValidLayout _ _), Text.Samples.supportedTok_of_all _ (by decide +kernel)⟩

/-! ## (4) corollaries -/

/-- what the statement `s` writes when `eval_ast` runs it in the state `st` (most recent first): the buffer
it leaves when started with an empty one.  By `statement_output_is_independent_of_earlier_output` this is
what it puts on top of ANY buffer. -/
def stmtOut (fuel : Nat) (st : State) (s : Statement) : List String := (evalAst fuel (clearOut st) s).2.store.out

/-- what a program writes (most recent first): what its statements write, each in the state its
predecessor left, up to and including the first statement that fails -/
def progOut (fuel : Nat) : State → List Statement → List String
  | _, [] => []
  | st, s :: ss =>
    match evalAst fuel st s with
    | (.error _, _) => stmtOut fuel st s
    | (.ok _, st') => progOut fuel st' ss ++ stmtOut fuel st s

private theorem setOut_eq (o : List String) (st : State) : setOut o st = (clearOut st).addOut o := rfl

/-- THE OUTPUT OF A STATEMENT DOES NOT DEPEND ON WHAT WAS PRINTED BEFORE.  Run `eval_ast` on `s` in the state
`st` with ANY output buffer `o` in place of its own: the outcome (value or error, with its location) is the
same; the final state is the same but for the buffer; and the buffer is `stmtOut fuel st s ++ o` — the same
text on top of whatever was there. -/
theorem statement_output_is_independent_of_earlier_output (fuel : Nat) (st : State) (s : Statement)
    (o : List String) :
    (evalAst fuel (setOut o st) s).1 = (evalAst fuel st s).1 ∧
    (evalAst fuel (setOut o st) s).2 = setOut (stmtOut fuel st s ++ o) (evalAst fuel st s).2 ∧
    (evalAst fuel (setOut o st) s).2.store.out = stmtOut fuel st s ++ o ∧
    (evalAst fuel st s).2.store.out = stmtOut fuel st s ++ st.store.out := by
  have h1 : evalAst fuel (setOut o st) s = IAO o (evalAst fuel (clearOut st) s) := by
    rw [setOut_eq, evalAst_addOut]
  have h2 : evalAst fuel st s = IAO st.store.out (evalAst fuel (clearOut st) s) := by
    rw [← evalAst_addOut]; rfl
  refine ⟨?_, ?_, ?_, ?_⟩
  · rw [h1, h2]; rfl
  · rw [h1, h2]; rfl
  · rw [h1]; rfl
  · rw [h2]; rfl

/-- OUTPUT ONLY GROWS, AND BY THE SAME TEXT WHATEVER WAS PRINTED BEFORE (compare C17 `out_monotone`, which
gives the first half for forms and texts).  For a statement (`eval_ast`), a run of statements (`runStmts`:
stop at the first error) and a whole text (`Interpreter::eval`), from any state `st`, success or failure:
there is a list `pushed` such that the final buffer is `pushed ++ st.store.out` — nothing already written is
removed or changed — and, started with any other buffer `o`, the final buffer is `pushed ++ o`. -/
theorem output_only_grows (fuel : Nat) (st : State) :
    (∀ s, ∃ pushed, (evalAst fuel st s).2.store.out = pushed ++ st.store.out ∧
      ∀ o, (evalAst fuel (setOut o st) s).2.store.out = pushed ++ o) ∧
    (∀ sts last, ∃ pushed, (runStmts fuel st sts last).2.store.out = pushed ++ st.store.out ∧
      ∀ o, (runStmts fuel (setOut o st) sts last).2.store.out = pushed ++ o) ∧
    (∀ text, ∃ pushed, (evalText fuel st text).2.store.out = pushed ++ st.store.out ∧
      ∀ o, (evalText fuel (setOut o st) text).2.store.out = pushed ++ o) := by
  refine ⟨fun s => ⟨stmtOut fuel st s, ?_, fun o => ?_⟩,
    fun sts last => ⟨(runStmts fuel (clearOut st) sts last).2.store.out, ?_, fun o => ?_⟩,
    fun text => ⟨(evalText fuel (clearOut st) text).2.store.out, ?_, fun o => ?_⟩⟩
  · exact (statement_output_is_independent_of_earlier_output fuel st s []).2.2.2
  · exact (statement_output_is_independent_of_earlier_output fuel st s o).2.2.1
  · exact congrArg (·.2.store.out) ((run_and_text_out_blind fuel (clearOut st) st.store.out).1 sts last)
  · exact congrArg (·.2.store.out) ((run_and_text_out_blind fuel (clearOut st) o).1 sts last)
  · exact congrArg (·.2.store.out) ((run_and_text_out_blind fuel (clearOut st) st.store.out).2 text)
  · exact congrArg (·.2.store.out) ((run_and_text_out_blind fuel (clearOut st) o).2 text)

/-- THE OUTPUT OF A PROGRAM IS THE CONCATENATION OF ITS STATEMENTS' OUTPUT.  Run the statements `sts` one
after another from `st`, stopping at the first error (`runStmts`, the program run of C17More).  The final
output buffer is `progOut fuel st sts ++ st.store.out`: on top of what the buffer held, the pieces
`stmtOut` the statements write — each piece computed from an EMPTY buffer in the state the previous
statement left, i.e. not depending on what was printed before — one on top of the other (most recent
first), up to and including what the first failing statement wrote before it failed. -/
theorem output_of_a_program_is_the_concatenation_of_its_statements_output (fuel : Nat) :
    ∀ (sts : List Statement) (st : State) (last : Option Value),
      (runStmts fuel st sts last).2.store.out = progOut fuel st sts ++ st.store.out := by
  intro sts st last
  fun_induction runStmts fuel st sts last with
  | case1 => rfl
  | case2 st s ss _ e st' hx =>
    have hs := (statement_output_is_independent_of_earlier_output fuel st s []).2.2.2
    rw [hx] at hs
    simpa only [progOut, hx] using hs
  | case3 st s ss _ v st' hx ih =>
    have hs := (statement_output_is_independent_of_earlier_output fuel st s []).2.2.2
    rw [hx] at hs
    simp only [progOut, hx]
    rw [ih, List.append_assoc]
    exact congrArg _ hs

/-- … and for the program TEXT: `Interpreter::eval` on any valid layout of the printed statements (C17More
`program_text_evaluates_as_its_statements`) leaves `progOut fuel st sts ++ st.store.out` in the buffer. -/
theorem output_of_a_program_text_is_the_concatenation_of_its_statements_output (fuel : Nat) (st : State)
    (sts : List Statement) (layout : List (List Char))
    (hok : ∀ s ∈ sts, okStmt (C01More.macroOf st.syn) s) (hsup : ∀ s ∈ sts, SupportedD (printStmt s))
    (hl : ValidLayout (programToks sts) layout) :
    (evalText fuel st (programText sts layout)).2.store.out = progOut fuel st sts ++ st.store.out := by
  rw [(C17More.program_text_evaluates_as_its_statements fuel st sts layout hok hsup hl).2.2]
  exact output_of_a_program_is_the_concatenation_of_its_statements_output fuel sts st none

example : (∀ s ∈ [one], okStmt (C01More.macroOf (default_ false).syn) s) ∧
    (∀ s ∈ [one], SupportedD (printStmt s)) ∧ ValidLayout (programToks [one]) [[' '], ['\n']] := by
  refine ⟨fun s hs => ?_, Text.Samples.supported_of_all printStmt _ (by decide +kernel), by decide +kernel⟩
  cases List.mem_singleton.1 hs
  show CoreSyntax.coreStmt _ (.expr _) = true
  decide

end Ruschm.C18Full
