/-
`Means σ ρ e v τ`: the model evaluates `e` to `v` and leaves, up to the depth instrumentation (`Store.erase`), the
store `τ`. By `C01.model_iff_ref_value` this is the value judgement of the reference semantics, and the evaluation
rules are proved through the reference, not from `EvalRules`: a rule composes judgements, the next one starting in
the ERASED store its predecessor left (`means_erase`). The runs of the reference follow one another in this way; the
model's runs carry the depth counters along.
-/
import RuschmProofs.C01
import RuschmProofs.StdEnv
import RuschmProofs.TailLoops

namespace Ruschm.Meaning
open Ruschm Ruschm.Eval Ruschm.Prim

/-! ## the value judgement -/

def Means (σ : Store) (ρ : Nat) (e : Expr) (v : Value) (τ : Store) : Prop :=
  ∃ n σ', evalExpr n σ ρ e = (.ok v, σ') ∧ σ'.erase = τ

def MeansApply (σ : Store) (p : Value) (args : List Value) (v : Value) (τ : Store) : Prop :=
  ∃ n σ' env, applyProcedure n σ p args env = (.ok v, σ') ∧ σ'.erase = τ

theorem means_iff_ref {σ ρ e v τ} : Means σ ρ e v τ ↔ ∃ m, Ref.eval m σ.erase ρ e = (.ok v, τ) :=
  C01.model_iff_ref_value

theorem meansApply_iff_ref {σ p args v τ} :
    MeansApply σ p args v τ ↔ ∃ m, Ref.apply m σ.erase p args = (.ok v, τ) := by
  constructor
  · rintro ⟨n, σ', env, h, rfl⟩
    obtain ⟨m, r', hm, ha⟩ := C01.applyProcedure_refines_ref h (by simp)
    cases r' with
    | ok v' => cases ha; exact ⟨m, hm⟩
    | error e => exact ha.elim
  · rintro ⟨m, h⟩
    obtain ⟨n, σ', hn, he⟩ := C01.ref_apply_refines_model h 0
    exact ⟨n, σ', 0, hn, he⟩

theorem Means.erased {σ ρ e v τ} (h : Means σ ρ e v τ) : τ.erase = τ := by
  obtain ⟨_, _, _, rfl⟩ := h; rfl

theorem means_erase {σ ρ e v τ} : Means σ.erase ρ e v τ ↔ Means σ ρ e v τ := by
  rw [means_iff_ref, means_iff_ref, Store.erase_erase]

theorem meansApply_erase {σ p args v τ} : MeansApply σ.erase p args v τ ↔ MeansApply σ p args v τ := by
  rw [meansApply_iff_ref, meansApply_iff_ref, Store.erase_erase]

theorem Means.of_evals {σ ρ e v σ'} (h : Evals σ ρ e (.ok v) σ') : Means σ ρ e v σ'.erase := by
  obtain ⟨_, n, hn⟩ := evals_iff.mp h
  exact ⟨n, σ', hn, rfl⟩

theorem Means.unique {σ ρ e v₁ τ₁ v₂ τ₂} (h₁ : Means σ ρ e v₁ τ₁) (h₂ : Means σ ρ e v₂ τ₂) : v₁ = v₂ ∧ τ₁ = τ₂ := by
  obtain ⟨n₁, σ₁, h₁, rfl⟩ := h₁
  obtain ⟨n₂, σ₂, h₂, rfl⟩ := h₂
  have := (Evals.intro h₁ (by simp)).unique (Evals.intro h₂ (by simp))
  cases this.1; cases this.2; exact ⟨rfl, rfl⟩

/-! ## sequences -/

inductive MeansList (ρ : Nat) : Store → List Expr → List Value → Store → Prop
  | nil {σ} : MeansList ρ σ [] [] σ.erase
  | cons {σ e v σ₁ es vs τ} (h : Means σ ρ e v σ₁) (ht : MeansList ρ σ₁ es vs τ) : MeansList ρ σ (e :: es) (v :: vs) τ

inductive MeansSeq (ρ : Nat) : Store → List Expr → Value → Store → Prop
  | one {σ e v τ} (h : Means σ ρ e v τ) : MeansSeq ρ σ [e] v τ
  | cons {σ e v₁ σ₁ e' es v τ} (h : Means σ ρ e v₁ σ₁) (ht : MeansSeq ρ σ₁ (e' :: es) v τ) :
      MeansSeq ρ σ (e :: e' :: es) v τ


theorem MeansList.erased {ρ σ es vs τ} (h : MeansList ρ σ es vs τ) : τ.erase = τ := by
  induction h with
  | nil => rfl
  | cons _ _ ih => exact ih

theorem MeansSeq.erased {ρ σ es v τ} (h : MeansSeq ρ σ es v τ) : τ.erase = τ := by
  induction h with
  | one h => exact h.erased
  | cons _ _ ih => exact ih

theorem MeansList.length {ρ σ es vs τ} (h : MeansList ρ σ es vs τ) : vs.length = es.length := by
  induction h with
  | nil => rfl
  | cons _ _ ih => simp [ih]

/-! ## through the reference semantics -/

theorem means_iff_stable {σ ρ e v τ} : Means σ ρ e v τ ↔ Stable (Ref.eval · σ.erase ρ e) (.ok v) τ :=
  means_iff_ref.trans ⟨fun ⟨_, h⟩ => .intro (Ref.fuelMono_eval _ _ _) h (by simp), fun h => h.run⟩

theorem meansApply_iff_stable {σ p args v τ} :
    MeansApply σ p args v τ ↔ Stable (Ref.apply · σ.erase p args) (.ok v) τ :=
  meansApply_iff_ref.trans ⟨fun ⟨_, h⟩ => .intro (Ref.fuelMono_apply _ _ _) h (by simp), fun h => h.run⟩

theorem MeansList.ref {ρ σ es vs τ} (h : MeansList ρ σ es vs τ) : Stable (Ref.evalList · σ.erase ρ es) (.ok vs) τ := by
  induction h with
  | nil => exact .const (by simp) fun m => Ref.evalList_nil m _ ρ
  | cons h _ ih =>
    rw [h.erased] at ih
    exact Stable.seq_intro (Ref.evalList_cons · _ ρ _ _) (.inr ⟨_, _, means_iff_stable.mp h,
      Stable.andThen_intro (.inr ⟨_, _, ih, Stable.ok_iff.2 ⟨rfl, rfl⟩⟩)⟩)

theorem MeansSeq.ref {ρ σ es v τ} (h : MeansSeq ρ σ es v τ) : Stable (Ref.evalSeq · σ.erase ρ es) (.ok v) τ := by
  induction h with
  | one h => exact (Stable.unfold (Ref.evalSeq_last · _ ρ _)).2 (means_iff_stable.mp h)
  | cons h _ ih =>
    rw [h.erased] at ih
    exact Stable.seq_intro (Ref.evalSeq_cons · _ ρ _ _ _) (.inr ⟨_, _, means_iff_stable.mp h, ih⟩)

theorem erase_pushFrame (σ : Store) (p : Nat) (D : List (String × Value)) :
    (σ.pushFrame p D).erase = σ.erase.pushFrame p D := rfl

/-! ## evaluation rules -/

theorem Means.prim {σ ρ p l v} (h : evalPrim p = .ok v) : Means σ ρ (.prim p l) v σ.erase :=
  .of_evals (Evals.prim h)
theorem Means.sym {σ ρ s l v} (h : σ.lookup ρ s = some v) : Means σ ρ (.sym s l) v σ.erase :=
  .of_evals (Evals.sym h)
theorem Means.lambda {σ ρ lam l} : Means σ ρ (.lambda lam l) (.closure lam ρ) σ.erase :=
  .of_evals Evals.lambda

theorem Means.quote {σ ρ d l v σ'} (h : readLiteral σ d = (.ok v, σ')) : Means σ ρ (.quote d l) v σ'.erase :=
  .of_evals (Evals.quote h)

theorem Means.cond_true {σ ρ t c a l tv σ₁ v τ} (ht : Means σ ρ t tv σ₁) (htv : tv.truthy = true)
    (hc : Means σ₁ ρ c v τ) : Means σ ρ (.cond t c a l) v τ :=
  means_iff_stable.mpr (Ref.stable_cond_iff.2 (.inr ⟨tv, _, means_iff_stable.mp ht,
    by rw [if_pos htv, ← ht.erased]; exact means_iff_stable.mp hc⟩))

theorem Means.cond_false {σ ρ t c alt l tv σ₁ v τ} (ht : Means σ ρ t tv σ₁) (htv : tv.truthy = false)
    (hc : Means σ₁ ρ alt v τ) : Means σ ρ (.cond t c (some alt) l) v τ :=
  means_iff_stable.mpr (Ref.stable_cond_iff.2 (.inr ⟨tv, _, means_iff_stable.mp ht,
    by rw [if_neg (Bool.eq_false_iff.1 htv), ← ht.erased]; exact means_iff_stable.mp hc⟩))

theorem Means.cond_void {σ ρ t c l tv σ₁} (ht : Means σ ρ t tv σ₁) (htv : tv.truthy = false) :
    Means σ ρ (.cond t c none l) .void σ₁ :=
  means_iff_stable.mpr (Ref.stable_cond_iff.2 (.inr ⟨tv, _, means_iff_stable.mp ht,
    by rw [if_neg (Bool.eq_false_iff.1 htv)]; exact ⟨rfl, rfl⟩⟩))

theorem MeansApply.isProc {σ p args v τ} (h : MeansApply σ p args v τ) : (procArity p).isSome := by
  cases hpa : procArity p with
  | none =>
    cases ((Stable.const (.error_of (by simp)) fun m => Ref.apply_not_proc m _ args hpa).unique
      (meansApply_iff_stable.mp h)).1
  | some a => rfl

theorem Means.call {σ ρ f args l fv σ₁ vs σ₂ v τ} (hf : Means σ ρ f fv σ₁) (hargs : MeansList ρ σ₁ args vs σ₂)
    (happ : MeansApply σ₂ fv vs v τ) : Means σ ρ (.call f args l) v τ := by
  have S₂ := hargs.ref
  have S₃ := meansApply_iff_stable.mp happ
  rw [hf.erased] at S₂
  rw [hargs.erased] at S₃
  exact means_iff_stable.mpr (Ref.stable_call_iff.2 (.inr ⟨fv, _, means_iff_stable.mp hf, _, _, S₂,
    .inr (.inr ⟨happ.isProc, vs, rfl, S₃⟩)⟩))

theorem MeansApply.closure {σ names bes cenv vs v τ} (hlen : names.length = vs.length)
    (hbody : MeansSeq σ.frames.size (σ.pushFrame cenv (bindList [] names vs)) bes v τ) :
    MeansApply σ (.closure (.mk ⟨names, none⟩ [] bes) cenv) vs v τ := by
  obtain ⟨-, N, hN⟩ := hbody.ref
  refine meansApply_iff_ref.mpr ⟨N + 2, ?_⟩
  rw [Ref.apply_closure (lam := .mk ⟨names, none⟩ [] bes) _ _ _ (by simp [arityOk, Lambda.formals, hlen]),
    Store.newFrame_eq]
  simp only [Lambda.formals, Lambda.defs, Lambda.body, bindFixed_pushFrame σ.erase cenv names vs [] (Nat.le_of_eq hlen),
    Ref.bindRest, Ref.evalDefs_nil, andThen_ok]
  exact hN _ (Nat.le_succ N)

theorem MeansList.to_erase {ρ σ es vs τ} (h : MeansList ρ σ es vs τ) : MeansList ρ σ.erase es vs τ := by
  cases h with
  | nil => exact .nil
  | cons h ht => exact .cons (means_erase.mpr h) ht

/-- what `begin` and `let` expand to -/
theorem Means.lambda_call {σ ρ names bes vals l l' vs σ₁ v τ} (hvals : MeansList ρ σ vals vs σ₁)
    (hbody : MeansSeq σ₁.frames.size (σ₁.pushFrame ρ (bindList [] names vs)) bes v τ)
    (hlen : names.length = vals.length) :
    Means σ ρ (.call (.lambda (.mk ⟨names, none⟩ [] bes) l) vals l') v τ := by
  exact Means.call Means.lambda hvals.to_erase (MeansApply.closure (by rw [hlen, hvals.length]) hbody)

theorem MeansSeq.of_erase {ρ σ es v τ} (h : MeansSeq ρ σ.erase es v τ) : MeansSeq ρ σ es v τ := by
  cases h with
  | one h => exact .one (means_erase.mp h)
  | cons h ht => exact .cons (means_erase.mp h) ht

theorem MeansSeq.to_erase {ρ σ es v τ} (h : MeansSeq ρ σ es v τ) : MeansSeq ρ σ.erase es v τ := by
  cases h with
  | one h => exact .one (means_erase.mpr h)
  | cons h ht => exact .cons (means_erase.mpr h) ht

theorem MeansApply.of_applies {σ p args env v σ'} (h : Applies (enter σ) p args env (.ok v) σ') :
    MeansApply σ p args v σ'.erase := by
  obtain ⟨_, N, hN⟩ := AppliesProc.of_loop h
  exact ⟨N, leave σ', env, hN N (Nat.le_refl _), rfl⟩

theorem MeansApply.builtin {σ b args v σ'} (hb : b ≠ .apply) (ha : arityOk b.arity.1 b.arity.2 args.length = true)
    (h : applyPure (enter σ) b args = (.ok v, σ')) : MeansApply σ (.builtin b) args v σ'.erase :=
  .of_applies (env := 0) (Applies.builtin_run hb ha h)

/-! ## rules for what the templates build -/

open Ruschm.Xform Ruschm.Xform.Keep Ruschm.Macro

theorem MeansList.one {ρ σ e v τ} (h : Means σ ρ e v τ) : MeansList ρ σ [e] [v] τ := by
  have := MeansList.cons h (.nil (ρ := ρ) (σ := τ))
  rwa [h.erased] at this

theorem meansApply_not {σ ρ te tv σ₁} (ht : Means σ ρ te tv σ₁) :
    MeansApply σ₁ (.builtin .not) [tv] (.bool (!tv.truthy)) σ₁ := by
  have h : Prim.applyPure (Eval.enter σ₁) .not [tv] = (.ok (.bool (!tv.truthy)), Eval.enter σ₁) := by
    cases tv <;> try rfl
    rename_i b; cases b <;> rfl
  have := MeansApply.builtin (σ := σ₁) (b := .not) (by decide) rfl h
  rwa [show (Eval.enter σ₁).erase = σ₁.erase from rfl, ht.erased] at this

theorem XE.let1_inv {env loc} {n t b : Datum} {e} (hstd : StdEnv env)
    (hx : XE env (C05.L loc [C05.S loc "let", C05.L loc [C05.L loc [n, t]], b]) e) :
    ∃ te be l₁ l₂, XE env t te ∧ XE env b be ∧ e = .call (.lambda (.mk ⟨[symName n], none⟩ [] [be]) l₁) [te] l₂ := by
  have h₁ := hx.expand_inv hstd (by decide) (fun fuel hf => at_loc (C05.let_shape
    (bds := [C05.L loc [n, t]]) (nvs := [(n, t)]) (bodies := [b])
    (isList_withLoc loc (isList_ofList none _)) (isList_ofList _ _) (.cons (isList_ofList _ _) .nil)
    (by simp) (by simp) hf))
  obtain ⟨F, be, aes, l₁, l₂, hF, hbe, haes, rfl⟩ :=
    h₁.lambda_call_inv1 (isList_ofList _ _) (isList_ofList _ _) rfl
  have := toFormals_list hF (isList_ofList loc [n])
  subst this
  cases haes with
  | cons hte t' =>
    cases t'
    exact ⟨_, be, l₁, l₂, hte, hbe, rfl⟩

theorem Means.let1 {σ ρ nm te be l₁ l₂ tv σ₁ v τ} (ht : Means σ ρ te tv σ₁)
    (hb : Means (σ₁.pushFrame ρ [(nm, tv)]) σ₁.frames.size be v τ) :
    Means σ ρ (.call (.lambda (.mk ⟨[nm], none⟩ [] [be]) l₁) [te] l₂) v τ :=
  Means.lambda_call (MeansList.one ht) (.one hb) rfl

def isAtom : Datum → Bool
  | .prim _ _ | .sym _ _ => true
  | _ => false

theorem noDefs_atoms {env : SynEnv} {bs : List Datum} (h : bs.all isAtom = true) : NoDefs env bs := by
  intro b hb m df env'
  have := List.all_eq_true.mp h b hb
  cases b <;> first | exact not_def_prim m df env' | exact not_def_sym m df env' | cases this

/-- a call with one operand -/
theorem XE.call1_rule {env d r x ce} (hce : XE env d ce) (hd : IsList d [r, x]) (hr : Ordinary env r) :
    ∃ re xe, XE env r re ∧ XE env x xe ∧ ∀ σ ρ fv σ₁ xv σ₂ v τ, Means σ ρ re fv σ₁ → Means σ₁ ρ xe xv σ₂ →
      MeansApply σ₂ fv [xv] v τ → Means σ ρ ce v τ := by
  obtain ⟨re, aes, lc, hre, haes, rfl⟩ := hce.call_inv hd hr
  cases haes with
  | cons hx t =>
    cases t
    exact ⟨re, _, hre, hx, fun σ ρ fv σ₁ xv σ₂ v τ hf hxv happ => Means.call hf (MeansList.one hxv) happ⟩

theorem std_call1 {env loc f T ce} (hf : Ordinary env (C05.S loc f)) (h : XE env (C05.L loc [C05.S loc f, T]) ce) :
    ∃ te, XE env T te ∧ ∀ σ ρ fv tv σ₁ b τ, σ.lookup ρ f = some fv → Means σ ρ te tv σ₁ →
      MeansApply σ₁ fv [tv] b τ → Means σ ρ ce b τ := by
  obtain ⟨fe, te, hfe, hte, rule⟩ := h.call1_rule (isList_ofList _ _) hf
  have := hfe.sym_inv; subst this
  exact ⟨te, hte, fun σ ρ fv tv σ₁ b τ hl ht happ =>
    rule σ ρ fv _ tv σ₁ b τ (Means.sym hl) (means_erase.mpr ht) happ⟩

end Ruschm.Meaning
