/-
For `C04Program.lean`: forms with macro uses are run as the statements of their expansions (`UsesAs`,
`runForms_usesAs`).
-/
import RuschmProofs.MacroFuel
import RuschmProofs.MeaningLemmas
import RuschmProofs.ProgramTextLemmas


namespace Ruschm.MacroProgram
open Ruschm Ruschm.Xform Ruschm.Xform.Keep Ruschm.Macro
open Ruschm.Meaning (coreKeywords coreKeywords_eq)

/-! ## expansion steps -/

theorem step_of_spec {env : SynEnv} {kw : String} {l₁ l : Loc} {rest d' : Datum} {rules : Rules}
    (hkw : kw ∉ coreKeywords) (hrest : rest.isListy = true) (henv : env.get? kw = some rules)
    (hs : SupportedRules rules = true)
    (h : specTransform rules.literals rules.rules (rest.withLoc l) = .ok d') :
    Step env (.pair (.sym kw l₁) rest l) d' :=
  ⟨kw, l₁, rest, l, rules, rfl, hkw, hrest, henv, fun fuel hf => by
    rw [Macro.transform_eq_spec_matchFuel hs (Nat.le_trans matchFuel_use_le hf), h]⟩

/-! ## forms that expand to statements -/

open Ruschm.Interp Ruschm.FrontSpec Ruschm.ProgramText

theorem xformFuel_succ (d : Datum) : ∃ n, xformFuel d = n + 1 := ⟨8 * d.size + 3999, by unfold xformFuel; omega⟩

/-- `UsesAs env ds sts`: each form of `ds` reaches, by `k` expansion steps in `env` (`k = 0`: the
form itself), a datum `d'` which the transformer — with the fuel that is left — turns into the
corresponding statement of `sts`, leaving `env` as it was. -/
def UsesAs (env : SynEnv) : List Datum → List Statement → Prop
  | [], [] => True
  | d :: ds, s :: ss =>
    (∃ k d', Steps env k d d' ∧ k ≤ xformFuel d ∧ toStatement (xformFuel d - k) d' env = (.ok s, env)) ∧
      UsesAs env ds ss
  | _, _ => False

theorem runForms_usesAs (fuel : Nat) : ∀ (ds : List Datum) (sts : List Statement) (st : State)
    (last : Option Value), UsesAs st.syn ds sts → runForms fuel st ds last = runStmts fuel st sts last
  | [], [], st, last, _ => rfl
  | d :: ds, s :: ss, st, last, h => by
    obtain ⟨⟨k, d', hs, hk, hx⟩, hrest⟩ := h
    have hf : evalForm fuel st d = evalAst fuel st s := evalForm_ok ((toStatement_steps_sub hs hk).trans hx)
    rcases hy : evalAst fuel st s with ⟨e | v, st'⟩ <;> simp only [runForms, runStmts, hf, hy]
    exact runForms_usesAs fuel ds ss st' v ((evalAst_out hy).2.1 ▸ hrest)
  | [], _ :: _, _, _, h => h.elim
  | _ :: _, [], _, _, h => h.elim

end Ruschm.MacroProgram
