/-
The vocabulary of `RuschmSpec/Ref.lean` against the store operations of the model: the lookup is the binding of the
nearest frame on the parent chain (`lookup_eq_chainOlder`, `chainOlder_eq_chain`, for stores whose parents are older,
which `newFrame` and `define` keep); `Store.erase`, which forgets the activation counters, commutes with every
operation the evaluator uses (`Store.blind_erase`); `Ref.Agree`.
-/
import RuschmSpec.Ref
import RuschmProofs.StoreLemmas
import RuschmProofs.Fuel
namespace Ruschm.Eval
open Prim

/-! ## Variable lookup and the parent chain -/

theorem parentsOlder_iff {σ : Store} : Ref.ParentsOlder σ ↔ ∀ i p, σ.parentOf i = some p → p < i :=
  Iff.trans ⟨fun h i f hf p hp => h i f p hf hp, fun h i f p hf hp => h i f hf p hp⟩ Store.parent_lt_iff

theorem lookup_eq_chainOlder (σ : Store) (ρ : Nat) (x : String) :
    σ.lookup ρ x = (Ref.chainOlder σ ρ).findSome? (Ref.frameBinding σ x) := by
  rw [Store.lookup_eq_findSome, Store.chainOlder_eq]
  exact congrArg (List.findSome? · _) (funext fun i => (Store.frameBinding_eq σ x i).symm)

/-- when parents are older the guard of `chainOlderAux` never fires (and either fuel suffices) -/
theorem chainOlderAux_eq_chainAux {σ : Store} (h : Ref.ParentsOlder σ) :
    ∀ k₁ k₂ ρ, ρ < k₁ → ρ < k₂ → Ref.chainOlderAux σ k₁ ρ = Ref.chainAux σ k₂ ρ := by
  intro k₁
  induction k₁ with
  | zero => intro k₂ ρ h1; omega
  | succ k₁ ih =>
    intro k₂ ρ h1 h2
    obtain ⟨k₂, rfl⟩ : ∃ m, k₂ = m + 1 := ⟨k₂ - 1, by omega⟩
    rw [Ref.chainOlderAux, Ref.chainAux]
    cases hf : σ.frames[ρ]? with
    | none => rfl
    | some f =>
      simp only
      cases hp : f.parent with
      | none => rfl
      | some p =>
        have hlt := h ρ f p hf hp
        simp only [hlt, if_true]
        rw [ih k₂ p (by omega) (by omega)]

theorem chainOlder_eq_chain {σ : Store} (h : Ref.ParentsOlder σ) (ρ : Nat) :
    Ref.chainOlder σ ρ = Ref.chain σ ρ := by
  unfold Ref.chainOlder Ref.chain
  by_cases hρ : ρ < σ.frames.size
  · exact chainOlderAux_eq_chainAux h _ _ ρ (Nat.lt_succ_self ρ) hρ
  · have : σ.frames[ρ]? = none := by simp; omega
    rw [Ref.chainOlderAux, this]
    cases σ.frames.size with
    | zero => rfl
    | succ k => rw [Ref.chainAux, this]

theorem parentsOlder_empty : Ref.ParentsOlder {} := by
  intro i f p h; simp at h

theorem parentsOlder_newFrame {σ : Store} (h : Ref.ParentsOlder σ) {parent : Option Nat}
    (hp : ∀ p, parent = some p → p < σ.frames.size) : Ref.ParentsOlder (σ.newFrame parent).2 := by
  intro i f p hf hfp
  simp only [Store.newFrame] at hf
  rw [Array.getElem?_push] at hf
  split at hf
  next hi' => cases hf; exact hi' ▸ hp p hfp
  next hi' => exact h i f p hf hfp

theorem parentsOlder_define {σ : Store} (h : Ref.ParentsOlder σ) (ρ : Nat) (k : String) (v : Value) :
    Ref.ParentsOlder (σ.define ρ k v) :=
  parentsOlder_iff.mpr fun i p hp => parentsOlder_iff.mp h i p (Store.parentOf_define σ ρ k v i ▸ hp)

open Ref (chain chainAux frameBinding)

/-! ## `define` and the frames -/

theorem frameBinding_define {σ : Store} {ρ : Nat} (hρ : ρ < σ.frames.size) (x : String) (v : Value) (y : String) (i : Nat) :
    frameBinding (σ.define ρ x v) y i = if i = ρ ∧ y = x then some v else frameBinding σ y i := by
  simp only [Store.frameBinding_eq, Store.binding_define, hρ, and_true]

theorem chainAux_define (σ : Store) (ρ x v) (k i : Nat) : chainAux (σ.define ρ x v) k i = chainAux σ k i := by
  induction k generalizing i with
  | zero => rfl
  | succ k ih =>
    simp only [chainAux, Store.define_frames_getElem?]
    by_cases h : i = ρ <;> cases σ.frames[i]? <;> simp [h, ih]

theorem chain_define (σ : Store) (ρ x v) (i : Nat) : chain (σ.define ρ x v) i = chain σ i := by
  unfold chain; rw [Store.define_frames_size, chainAux_define]

end Ruschm.Eval

namespace Ruschm
open Prim Eval

/-! ## `Store.erase`: the depth instrumentation is never read -/

def Res.eraseStore {α} (r : Res α) : Res α := (r.1, r.2.erase)

@[simp] theorem Store.erase_vecs (σ : Store) : σ.erase.vecs = σ.vecs := rfl
@[simp] theorem Store.erase_frames (σ : Store) : σ.erase.frames = σ.frames := rfl
@[simp] theorem Store.erase_out (σ : Store) : σ.erase.out = σ.out := rfl
@[simp] theorem Store.erase_ticks (σ : Store) : σ.erase.ticks = σ.ticks := rfl
@[simp] theorem Store.erase_erase (σ : Store) : σ.erase.erase = σ.erase := rfl
@[simp] theorem Store.erase_enter (σ : Store) : (enter σ).erase = σ.erase := rfl
@[simp] theorem Store.erase_leave (σ : Store) : (leave σ).erase = σ.erase := rfl

theorem Store.blind_erase : Store.Blind Store.erase :=
  ⟨fun _ => rfl, fun _ => rfl, fun _ _ => rfl, fun _ _ => rfl, fun _ _ => rfl, fun _ _ => rfl⟩

theorem Store.erase_define (σ : Store) (ρ k v) : (σ.define ρ k v).erase = σ.erase.define ρ k v :=
  (Store.blind_erase.define σ ρ k v).symm

@[simp] theorem Store.erase_lookup (σ : Store) (ρ k) : σ.erase.lookup ρ k = σ.lookup ρ k :=
  Store.blind_erase.lookup σ ρ k

theorem Store.erase_set (σ : Store) (ρ k v) : σ.erase.set ρ k v = ((σ.set ρ k v).1, (σ.set ρ k v).2.erase) :=
  Store.blind_erase.set σ ρ k v

theorem Store.erase_newFrame (σ : Store) (p) :
    σ.erase.newFrame p = ((σ.newFrame p).1, (σ.newFrame p).2.erase) := rfl

theorem Store.erase_allocVec (σ : Store) (m items) :
    σ.erase.allocVec m items = ((σ.allocVec m items).1, (σ.allocVec m items).2.erase) := rfl

theorem bindFixed_erase (σ : Store) (ρ fs as) :
    bindFixed σ.erase ρ fs as = ((bindFixed σ ρ fs as).1, (bindFixed σ ρ fs as).2.erase) :=
  Store.blind_erase.bindFixed fs as σ ρ

theorem bindRest_erase (σ : Store) (ρ rest ra) : (Ref.bindRest σ ρ rest ra).erase = Ref.bindRest σ.erase ρ rest ra := by
  cases rest <;> simp [Ref.bindRest, Store.erase_define]

theorem readLiteral_erase (d : Datum) (σ : Store) : readLiteral σ.erase d = (readLiteral σ d).eraseStore :=
  Store.blind_erase.readLiteral d σ
theorem readLiterals_erase : ∀ (ds : List Datum) (σ : Store), readLiterals σ.erase ds = (readLiterals σ ds).eraseStore :=
  Store.blind_erase.readLiterals

theorem applyPure_erase (σ : Store) (b : Builtin) (args : List Value) :
    applyPure σ.erase b args = (applyPure σ b args).eraseStore := Store.blind_erase.applyPure σ b args

end Ruschm

namespace Ruschm.Ref
open Eval (NotFuel)

/-! ## outcomes that agree up to the order of two errors -/

theorem AgreeErr.refl (e : SErr) : AgreeErr e e := .inl rfl
theorem Agree.refl {α} (r : Except SErr α) : Agree r r := by
  cases r <;> simp [Agree, AgreeErr]
theorem Agree.ok_iff {α} {a : α} {r' : Except SErr α} : Agree (.ok a) r' ↔ r' = .ok a := by
  cases r' <;> simp [Agree, eq_comm]
theorem Agree.error_iff {α} {e : SErr} {r' : Except SErr α} :
    Agree (.error e) r' ↔ ∃ e', r' = .error e' ∧ AgreeErr e e' := by
  cases r' <;> simp [Agree]
theorem AgreeErr.notFuel {α β} {e e' : SErr} (h : AgreeErr e e') (hr : NotFuel (.error e : Except SErr α)) :
    NotFuel (.error e' : Except SErr β) := by
  rcases h with rfl | ⟨l, rfl⟩
  · exact hr.cast
  · exact .error_of (by simp)
theorem Agree.notFuel {α} {r r' : Except SErr α} (h : Agree r r') (hr : NotFuel r) : NotFuel r' := by
  cases r with
  | ok a => rw [Agree.ok_iff.mp h]; simp
  | error e => obtain ⟨e', rfl, he⟩ := Agree.error_iff.mp h; exact he.notFuel hr

end Ruschm.Ref
