/-
Property C11, the store side: `LibFrame σ b` (frame `b` is an instance of `(scheme base)`; it only reads frame
`b`, so every store change that keeps that frame keeps it) and `Scope` (what a body sees in front of it).

The loop vocabulary has two spellings. `paramDefs`, `TrampCall` and `TailRuns` of THIS namespace are the forms
`PTail` and `PApp.closure` are stated with; the ones with rules are `Eval.paramDefs`, `Eval.PendingRuns`,
`Eval.TailRuns` (which take the frame `env` FIRST). `paramDefs_eq` is the only equation needed: the other two unfold,
so a goal `ListLib.TailRuns σ ρ e env r σ'` is closed by `Eval.TailRuns.cond_true`, `.call`, `.value` as they stand.
-/
import RuschmProofs.ListLibCode
import RuschmProofs.EvalRules
import RuschmProofs.StoreLemmas
import RuschmProofs.TailLoops

namespace Ruschm.ListLib
open Ruschm Ruschm.Eval Ruschm.ListSpec Ruschm.Store

/-! ## the frame of a procedure call -/

/-- the bindings `apply_scheme_procedure` makes in the fresh frame: the fixed parameters in order,
then the rest parameter bound to the list of the remaining arguments -/
def paramDefs (formals : Formals) (args : List Value) : List (String × Value) :=
  let d := (formals.fixed.zip args).foldl (fun d p => defsInsert d p.1 p.2) []
  match formals.rest with
  | some r => defsInsert d r (Value.ofList (args.drop formals.fixed.length))
  | none => d

/-- the store in which the body of a procedure runs -/
def callFrame (σ : Store) (cenv : Nat) (formals : Formals) (args : List Value) : Store :=
  σ.pushFrame cenv (paramDefs formals args)

theorem bindList_eq : ∀ (fs : List String) (as : List Value) (D : List (String × Value)),
    bindList D fs as = (fs.zip as).foldl (fun d p => defsInsert d p.1 p.2) D
  | [], _, _ => rfl
  | _ :: _, [], _ => rfl
  | _ :: fs, _ :: as, _ => bindList_eq fs as _

theorem paramDefs_eq (F : Formals) (args : List Value) : Eval.paramDefs F args = paramDefs F args := by
  unfold Eval.paramDefs paramDefs
  rw [bindList_eq]
  cases F.rest <;> rfl

/-- `define`, binding by binding, into the frame just pushed (`bindAll_pushFrame`, for a frame of any parent) -/
theorem foldl_define_push (σ : Store) : ∀ (l : List (String × Value)) (f : Frame),
    l.foldl (fun τ p => τ.define σ.frames.size p.1 p.2) { σ with frames := σ.frames.push f } =
      { σ with frames := σ.frames.push { f with defs := l.foldl (fun d p => defsInsert d p.1 p.2) f.defs } }
  | [], _ => rfl
  | p :: l, f => by rw [List.foldl_cons, define_push]; exact foldl_define_push σ l _

@[simp] theorem newFrame_frames (σ : Store) (p) :
    (σ.newFrame p).2.frames = σ.frames.push { parent := p, defs := [] } := rfl
@[simp] theorem newFrame_vecs (σ : Store) (p) : (σ.newFrame p).2.vecs = σ.vecs := rfl
@[simp] theorem newFrame_out (σ : Store) (p) : (σ.newFrame p).2.out = σ.out := rfl
@[simp] theorem newFrame_ticks (σ : Store) (p) : (σ.newFrame p).2.ticks = σ.ticks := rfl
@[simp] theorem newFrame_depth (σ : Store) (p) : (σ.newFrame p).2.depth = σ.depth := rfl
@[simp] theorem newFrame_maxDepth (σ : Store) (p) : (σ.newFrame p).2.maxDepth = σ.maxDepth := rfl

theorem ext_push (σ : Store) (f : Frame) : σ.Ext { σ with frames := σ.frames.push f } :=
  ⟨(framesExt_push σ f).size, (framesExt_push σ f).frames, rfl, rfl, rfl, rfl, Nat.le_refl _⟩

theorem callFrame_ext (σ : Store) (cenv : Nat) (formals : Formals) (args : List Value) :
    σ.Ext (callFrame σ cenv formals args) := ext_push σ _

/-! ## the library frame -/

/-- frame `b` is an instance of `(scheme base)`: a root frame that binds every name defined in `base.sld` to the
closure of its generated lambda over `b` itself, and every native of `(ruschm base)` to its builtin -/
structure LibFrame (σ : Store) (b : Nat) : Prop where
  frame : ∃ f, σ.frames[b]? = some f ∧ f.parent = none ∧
    (∀ n ∈ baseDefs.map (·.1), f.defs.lookup n = some (libProc n b)) ∧
    (∀ bi ∈ Builtin.baseList, f.defs.lookup bi.name = some (.builtin bi))

theorem LibFrame.lt {σ b} (h : LibFrame σ b) : b < σ.frames.size := by
  obtain ⟨f, hf, _⟩ := h.frame
  exact getElem?_some_lt hf

/-- the predicate only reads frame `b` -/
theorem LibFrame.of_frame_eq {σ σ' b} (h : LibFrame σ b) (hb : σ'.frames[b]? = σ.frames[b]?) : LibFrame σ' b :=
  ⟨by rw [hb]; exact h.frame⟩

theorem LibFrame.ext {σ σ' b} (h : LibFrame σ b) (he : σ.FramesExt σ') : LibFrame σ' b :=
  h.of_frame_eq (he.frames b h.lt)

theorem LibFrame.keep {σ σ' : Store} {b N : Nat} (h : LibFrame σ b) (hk : σ.Keeps b N σ') : LibFrame σ' b :=
  h.of_frame_eq (hk.frames b h.lt (.inl rfl))

theorem LibFrame.define_other {σ b} (h : LibFrame σ b) {ρ : Nat} (hρ : ρ ≠ b) (k : String) (v : Value) :
    LibFrame (σ.define ρ k v) b :=
  h.of_frame_eq ((sameExceptBinding_define σ ρ k v).other_frames b (Ne.symm hρ))

/-- even a `define` in frame `b` itself, of a name the library does not define (not used) -/
theorem LibFrame.define_fresh {σ b} (h : LibFrame σ b) {k : String} (hk : k ∉ baseDefs.map (·.1))
    (hk' : k ∉ Builtin.baseList.map Builtin.name) (v : Value) : LibFrame (σ.define b k v) b := by
  obtain ⟨f, hf, hp, h1, h2⟩ := h.frame
  refine ⟨⟨{ f with defs := defsInsert f.defs k v }, ?_, hp, fun n hn => ?_, fun bi hbi => ?_⟩⟩
  · rw [define_frames_getElem?, hf]; simp
  · have : n ≠ k := fun e => hk (e ▸ hn)
    simp only [Assoc.lookup_defsInsert, this, if_false]; exact h1 n hn
  · have : bi.name ≠ k := fun e => hk' (e ▸ List.mem_map.mpr ⟨bi, hbi, rfl⟩)
    simp only [Assoc.lookup_defsInsert, this, if_false]; exact h2 bi hbi

theorem LibFrame.lookup_proc {σ b} (h : LibFrame σ b) {i : Nat} {n : String} {e : Expr}
    (hi : expectedDefs[i]? = some (n, e)) : σ.lookup b n = some (libProc n b) := by
  obtain ⟨f, hf, _, h1, _⟩ := h.frame
  rw [lookup_of_frame hf, h1 n]
  rw [baseDefs_eq]
  exact List.mem_map.mpr ⟨(n, e), List.mem_of_getElem? hi, rfl⟩

theorem LibFrame.lookup_builtin {σ b} (h : LibFrame σ b) (bi : Builtin) (hbi : bi ∈ Builtin.baseList) :
    σ.lookup b bi.name = some (.builtin bi) := by
  obtain ⟨f, hf, _, _, h2⟩ := h.frame
  rw [lookup_of_frame hf, h2 bi hbi]

/-- what the body of a library procedure (or of a thunk inside it) sees from its frame `ρ`: its parameters `bs`,
and behind them the library frame -/
structure Scope (b ρ : Nat) (bs : List (String × Value)) (σ : Store) : Prop where
  lib : LibFrame σ b
  lt : ρ < σ.frames.size
  sees : ∀ y, σ.lookup ρ y = match bs.lookup y with | some v => some v | none => σ.lookup b y

theorem Scope.ext {b ρ bs σ σ'} (h : Scope b ρ bs σ) (he : σ.FramesExt σ') : Scope b ρ bs σ' where
  lib := h.lib.ext he
  lt := Nat.lt_of_lt_of_le h.lt he.size
  sees y := by rw [he.lookup h.lt, he.lookup h.lib.lt]; exact h.sees y

theorem Scope.enter {b ρ bs σ} (h : Scope b ρ bs σ) : Scope b ρ bs (enter σ) := h.ext (Store.framesExt_enter σ)

theorem Scope.var {b ρ bs σ} (h : Scope b ρ bs σ) {y v} (hy : bs.lookup y = some v) : σ.lookup ρ y = some v := by
  rw [h.sees, hy]

theorem Scope.proc {b ρ bs σ} (h : Scope b ρ bs σ) (i : Nat) {n : String} {e : Expr}
    (hi : expectedDefs[i]? = some (n, e)) (hy : bs.lookup n = none) : σ.lookup ρ n = some (libProc n b) := by
  rw [h.sees, hy]; exact h.lib.lookup_proc hi

theorem Scope.builtin {b ρ bs σ} (h : Scope b ρ bs σ) (bi : Builtin) (hbi : bi ∈ Builtin.baseList)
    (hy : bs.lookup bi.name = none) : σ.lookup ρ bi.name = some (.builtin bi) := by
  rw [h.sees, hy]; exact h.lib.lookup_builtin bi hbi

theorem Scope.of_frame {σ b ρ bs} (hl : LibFrame σ b) (hb : b < ρ)
    (hf : σ.frames[ρ]? = some { parent := some b, defs := bs }) : Scope b ρ bs σ :=
  ⟨hl, getElem?_some_lt hf, fun y => by rw [lookup_of_frame hf]; simp only [hb, if_true]; rfl⟩

theorem Scope.child {σ b ρ ρ' bs} (h : Scope b ρ bs σ) (hlt : ρ < ρ')
    (hf : σ.frames[ρ']? = some { parent := some ρ, defs := [] }) : Scope b ρ' bs σ :=
  ⟨h.lib, getElem?_some_lt hf, fun y => by
    rw [lookup_of_frame hf]; simp only [List.lookup_nil, hlt, if_true]; exact h.sees y⟩

theorem Scope.of_call {σ b} (h : LibFrame σ b) (formals : Formals) (args : List Value) :
    Scope b σ.frames.size (paramDefs formals args) (callFrame σ b formals args) :=
  .of_frame (h.ext (callFrame_ext σ b formals args).framesExt) h.lt (pushFrame_get_last σ b _)

/-- a `cond` clause body -/
theorem Scope.of_thunk {b ρ bs σ} (h : Scope b ρ bs σ) :
    Scope b σ.frames.size bs (callFrame σ ρ ⟨[], none⟩ []) :=
  (h.ext (callFrame_ext σ ρ _ _).framesExt).child h.lt (pushFrame_get_last σ ρ _)

/-! ## the trampoline, seen from a procedure body -/

/-- the loop's `eval_procedure_call` of a pending tail call, and the rest of the loop -/
def TrampCall (σ : Store) (tenv : Nat) (f : Expr) (targs : List Expr) (env : Nat)
    (r : Except SErr Value) (σ' : Store) : Prop :=
  (∃ er, Evals σ tenv f (.error er) σ' ∧ r = .error er) ∨
  (∃ fv σ₁, Evals σ tenv f (.ok fv) σ₁ ∧
    ((∃ er, EvalsArgs σ₁ tenv targs (.error er) σ' ∧ r = .error er) ∨
     (∃ vs σ₂, EvalsArgs σ₁ tenv targs (.ok vs) σ₂ ∧
        ((procArity fv = none ∧ r = .error (.nonProcedure, f.loc) ∧ σ' = σ₂) ∨
         ((procArity fv).isSome ∧ Applies σ₂ fv vs env r σ')))))

/-- the rest of an activation whose body has reached the tail expression `e` of frame `ρ` -/
def TailRuns (σ : Store) (ρ : Nat) (e : Expr) (env : Nat) (r : Except SErr Value) (σ' : Store) : Prop :=
  (∃ er, EvalsTail σ ρ e (.error er) σ' ∧ r = .error er) ∨
  (∃ v, EvalsTail σ ρ e (.ok (.value v)) σ' ∧ r = .ok v) ∨
  (∃ f targs tenv σ₁, EvalsTail σ ρ e (.ok (.tailCall f targs tenv)) σ₁ ∧ TrampCall σ₁ tenv f targs env r σ')

/-- `Eval.Applies.closure_simple` at this namespace's `paramDefs` -/
theorem Applies.closure_simple {σ formals e cenv args env r σ'}
    (ha : arityOk formals.fixed.length formals.rest.isSome args.length = true)
    (h : TailRuns (callFrame σ cenv formals args) σ.frames.size e env r σ') :
    Applies σ (.closure (.mk formals [] [e]) cenv) args env r σ' :=
  Eval.Applies.closure_simple ha ((paramDefs_eq formals args).symm ▸ h)

/-- a `cond` clause body `((lambda () e))` in tail position runs in the same activation -/
theorem TailRuns.thunk {σ ρ e env r σ'}
    (h : TailRuns (callFrame σ ρ ⟨[], none⟩ []) σ.frames.size e env r σ') :
    TailRuns σ ρ (thunk e) env r σ' :=
  TailRuns.call_ok Evals.lambda EvalsArgs.nil rfl (Applies.closure_simple (by rfl) h)

end Ruschm.ListLib
