/-
Property C08 — run-time errors are detected, classified, and leave the interpreter usable.

"A program that calls a non-procedure, calls a procedure with a number of arguments its parameter
list does not accept, reads or assigns an unbound variable, passes an argument of the wrong type
to a builtin, indexes a vector out of range, mutates a literal vector or divides by exact zero is
stopped with an error of the corresponding kind in every calling context - direct call, tail call,
apply, call from a library procedure - and never continues with an invented value. After the error
the interpreter keeps exactly the effects completed before it and evaluates later forms normally."

Only property theorems live here (each is audited with `#print axioms`); helpers are in
`RuschmProofs/ErrLemmas.lean`; the fuel-free judgements `Evals`, `EvalsArgs`, `Applies` (= the trampoline loop
`applyLoop`), `AppliesProc` (= one activation `applyProcedure`), `AppliesScheme`, `EvalsDefs`, `EvalsBody`,
`EvalsTail` are in `EvalFuel.lean`, their rules, `EvalsSeq`, `EvalsDefSeq` and `Reaches` in `EvalRules.lean`.

Vocabulary: `BuiltinFault σ b args k` — the native procedure `b` on `args` in store `σ` is stopped
with `.error (k, none)` and the store unchanged, as a plain run of the native code, as an iteration
of the trampoline (any calling frame) and as a whole activation. `Reaches env σ p args σq q qargs` —
the trampoline started with `p`/`args` arrives at an iteration with `q`/`qargs` (through `apply` and
pending tail calls).
-/
import RuschmProofs.ErrLemmas
import RuschmProofs.EvalTextForms
import RuschmProofs.EvalAst

namespace Ruschm.C08
open Ruschm Ruschm.Eval Ruschm.Prim

/-! ## 1. each fault is detected, classified, and the failing operation changes nothing -/

/-! ### calling a non-procedure -/

/-- DIRECT CALL: the operator evaluates to a non-procedure, the operands evaluate (to values or to
an error — the Rust code evaluates them before the test): the call is `nonProcedure` at the
operator's location; the store is the one after the operands, nothing is applied. -/
theorem fault_nonprocedure_direct {σ ρ f args l fv σ₁ ra σ₂} (hf : Evals σ ρ f (.ok fv) σ₁)
    (ha : EvalsArgs σ₁ ρ args ra σ₂) (hp : procArity fv = none) :
    Evals σ ρ (.call f args l) (.error (.nonProcedure, f.loc)) σ₂ :=
  Evals.call_iff.2 (.inr ⟨fv, σ₁, ra, σ₂, hf, ha, .inl ⟨hp, rfl, rfl⟩⟩)

example : ∃ σ', Evals {} 0 (.call (.prim (.int 5) (some (1, 2))) [.prim (.int 1) none] none)
    (.error (.nonProcedure, some (1, 2))) σ' :=
  ⟨_, fault_nonprocedure_direct (Evals.prim rfl) (EvalsArgs.cons (Evals.prim rfl) EvalsArgs.nil) rfl⟩

/-- TAIL CALL: a user procedure's body ended in a pending call whose operator evaluates to a
non-procedure: the trampoline stops with `nonProcedure` at the operator's location (as the direct
call does); the store is the one after operator and operands, the loop does not continue. -/
theorem fault_nonprocedure_tail {σ lam cenv args env f targs tenv σ₁ fv σ₂ vs σ₃}
    (ha : arityOk lam.formals.fixed.length lam.formals.rest.isSome args.length = true)
    (hs : AppliesScheme σ lam cenv args (.ok (.tailCall f targs tenv)) σ₁)
    (hf : Evals σ₁ tenv f (.ok fv) σ₂) (hargs : EvalsArgs σ₂ tenv targs (.ok vs) σ₃)
    (hp : procArity fv = none) :
    Applies σ (.closure lam cenv) args env (.error (.nonProcedure, f.loc)) σ₃ :=
  (PendingRuns.nonproc hf hargs hp).applies ha hs

/-- APPLY: `(apply x …)` with a non-procedure `x`: `spread_apply_arguments` reports `nonProcedure`,
the trampoline stops, store unchanged. -/
theorem fault_nonprocedure_apply {σ : Store} {x : Value} {rest : List Value} (env : Nat)
    (hp : procArity x = none) :
    spreadApply (x :: rest) = .error .nonProcedure ∧
    Applies σ (.builtin .apply) (x :: rest) env (.error (.nonProcedure, none)) σ :=
  ⟨spreadApply_nonproc hp,
   Applies.apply_err (by simp) (spreadApply_nonproc hp)⟩

example : procArity (.num (.int 5)) = none := rfl

/-! ### wrong number of arguments -/

/-- ANY procedure value — user procedure or native, reached directly, through the trampoline or
through `apply` (all of them are iterations of `applyLoop`) — given an argument count its parameter
list does not accept: `arity`, store unchanged, nothing evaluated; for every amount of fuel. -/
theorem fault_arity {σ : Store} {p : Value} {args : List Value} (env : Nat) {fixed variadic}
    (hp : procArity p = some (fixed, variadic)) (ha : arityOk fixed variadic args.length = false) :
    (∀ n, applyLoop (n+1) σ p args env = (.error (.arity, none), σ)) ∧
    Applies σ p args env (.error (.arity, none)) σ ∧
    AppliesProc σ p args env (.error (.arity, none)) (leave (enter σ)) :=
  ⟨fun n => applyLoop_arity_gate n σ env hp ha, Applies.arity_err hp ha,
   AppliesProc.of_loop (Applies.arity_err hp ha)⟩

example : procArity (.closure (.mk ⟨["x", "y"], none⟩ [] [.sym "x" none]) 0) = some (2, false) ∧
    arityOk 2 false [Value.nil].length = false ∧ arityOk 2 false [Value.nil, .nil, .nil].length = false ∧
    procArity (.builtin .car) = some (1, false) ∧ arityOk 1 false ([] : List Value).length = false :=
  ⟨rfl, rfl, rfl, rfl, rfl⟩

/-! ### unbound variables -/

/-- reading a name that no frame of the chain defines: `unbound` at the variable's location, store
unchanged -/
theorem fault_unbound_read {σ : Store} {ρ : Nat} {s : String} {l : Loc} (h : σ.lookup ρ s = none) :
    Evals σ ρ (.sym s l) (.error (.unbound, l)) σ :=
  Evals.sym_unbound h

example : ({ frames := #[{ parent := none, defs := [("x", .nil)] }] } : Store).lookup 0 "y" = none := by decide +kernel

/-- `set!` walks the same chain as a read: a name `lookup` does not find is a name `set!` cannot
assign, and conversely -/
theorem unbound_assign_iff_unbound_read {σ : Store} {ρ : Nat} {x : String} (v : Value) :
    (σ.set ρ x v).1 = false ↔ σ.lookup ρ x = none :=
  Store.set_fst_eq_false_iff

/-- assigning a name that no frame of the chain defines: the value expression HAS been evaluated;
`unbound` at the location the `set!` node carries, and the store is exactly the one after that
evaluation (nothing is defined) -/
theorem fault_unbound_assign {σ ρ x e l v σ₁} (he : Evals σ ρ e (.ok v) σ₁) (h : σ₁.lookup ρ x = none) :
    Evals σ ρ (.assign x e l) (.error (.unbound, l)) σ₁ :=
  Evals.assign_iff.2 (.inr ⟨v, σ₁, he, .inr ⟨Store.set_unbound v h, rfl⟩⟩)

example : Evals { frames := #[{ parent := none, defs := [("x", .nil)] }] } 0 (.assign "y" (.prim (.int 1) none) (some (3, 1)))
    (.error (.unbound, some (3, 1))) { frames := #[{ parent := none, defs := [("x", .nil)] }] } :=
  fault_unbound_assign (Evals.prim rfl) (by decide +kernel)

/-! ### wrong-typed arguments to native procedures -/

/-- `car` of anything but a pair -/
theorem fault_type_car {σ : Store} {x : Value} (hx : ∀ a d, x ≠ .pair a d) :
    BuiltinFault σ .car [x] .type := by
  refine .intro (by decide) rfl ?_
  cases x with
  | pair a d => exact absurd rfl (hx a d)
  | _ => rfl

/-- `cdr` of anything but a pair -/
theorem fault_type_cdr {σ : Store} {x : Value} (hx : ∀ a d, x ≠ .pair a d) :
    BuiltinFault σ .cdr [x] .type := by
  refine .intro (by decide) rfl ?_
  cases x with
  | pair a d => exact absurd rfl (hx a d)
  | _ => rfl

example : ∀ a d, Value.nil ≠ .pair a d := by intro a d h; cases h

/-- `+`: the first argument that is not a number (the sum of the numbers before it exists) -/
theorem fault_type_add {σ : Store} {pre post : List Value} {x : Value} {acc : Num}
    (hpre : foldNum Num.add (.int 0) pre = .ok acc) (hx : ¬ IsNum x) :
    BuiltinFault σ .add (pre ++ x :: post) .type :=
  .intro (by decide) (by simp [Builtin.arity, arityOk]) (congrArg (lift σ · .num) (foldNum_nonnum hpre hx))

example : foldNum Num.add (.int 0) [.num (.int 1), .num (.int 2)] = .ok (.int 3) ∧ ¬ IsNum (.str "a") :=
  ⟨rfl, fun h => h⟩

/-- `*` likewise -/
theorem fault_type_mul {σ : Store} {pre post : List Value} {x : Value} {acc : Num}
    (hpre : foldNum Num.mul (.int 1) pre = .ok acc) (hx : ¬ IsNum x) :
    BuiltinFault σ .mul (pre ++ x :: post) .type :=
  .intro (by decide) (by simp [Builtin.arity, arityOk]) (congrArg (lift σ · .num) (foldNum_nonnum hpre hx))

/-- `-` and `/`: a first argument that is not a number -/
theorem fault_type_sub_div_first {σ : Store} {x : Value} {rest : List Value} (hx : ¬ IsNum x) :
    BuiltinFault σ .sub (x :: rest) .type ∧ BuiltinFault σ .div (x :: rest) .type := by
  constructor <;>
  · refine .intro (by decide) (by simp [Builtin.arity, arityOk]) ?_
    simp only [applyPure, divArgs_first_nonnum hx, subDiv, expectNumber_err hx]; rfl

example : applyPure {} .div [.str "a", .num (.int 0)] = (.error (.type, none), {}) := rfl

/-- `-` and `/`: a second argument that is not a number -/
theorem fault_type_sub_div_second {σ : Store} {a : Num} {x : Value} {rest : List Value} (hx : ¬ IsNum x) :
    BuiltinFault σ .sub (.num a :: x :: rest) .type ∧ BuiltinFault σ .div (.num a :: x :: rest) .type := by
  constructor <;>
  · refine .intro (by decide) (by simp [Builtin.arity, arityOk]) ?_
    simp only [applyPure, divArgs_second_nonnum hx, subDiv, expectNumber_err hx]; rfl

example : applyPure {} .div [.num (.int 1), .str "a", .num (.int 0)] = (.error (.type, none), {}) := rfl

/-- `= < <= > >=`: the first argument that is not a number, whether or not the adjacent pairs of
numbers before it are in order (every argument is type-checked, also after a pair out of order has
decided the result) -/
theorem fault_type_compare {σ : Store} {ns : List Num} {x : Value} {post : List Value} (hx : ¬ IsNum x) :
    BuiltinFault σ .numEq (ns.map .num ++ x :: post) .type ∧
    BuiltinFault σ .lt (ns.map .num ++ x :: post) .type ∧
    BuiltinFault σ .le (ns.map .num ++ x :: post) .type ∧
    BuiltinFault σ .gt (ns.map .num ++ x :: post) .type ∧
    BuiltinFault σ .ge (ns.map .num ++ x :: post) .type := by
  refine ⟨?_, ?_, ?_, ?_, ?_⟩ <;>
    exact .intro (by decide) (by simp [Builtin.arity, arityOk]) (congrArg (lift σ · .bool) (cmpNum_nonnum hx))

example : Num.cmpChain Num.lt [.int 2, .int 1] = false ∧ ¬ IsNum (.sym "a") := ⟨by decide, fun h => h⟩

/-- `vector-ref`: a first argument that is not a vector, or an index that is not an exact integer -/
theorem fault_type_vector_ref {σ : Store} {v k : Value}
    (h : (∀ id, v ≠ .vec id) ∨ (∀ n, k ≠ .num (.int n))) : BuiltinFault σ .vectorRef [v, k] .type :=
  .intro (by decide) rfl (h.elim (fun h => (type_of_not_vec h k k).1) fun h => (type_of_not_int h v k).1)

/-- `vector-set!`: a first argument that is not a vector, or an index that is not an exact integer -/
theorem fault_type_vector_set {σ : Store} {v k obj : Value}
    (h : (∀ id, v ≠ .vec id) ∨ (∀ n, k ≠ .num (.int n))) : BuiltinFault σ .vectorSet [v, k, obj] .type :=
  .intro (by decide) rfl
    (h.elim (fun h => (type_of_not_vec h k obj).2.1) fun h => (type_of_not_int h v obj).2.1)

/-- `make-vector`: a length that is not an exact integer -/
theorem fault_type_make_vector {σ : Store} {k fill : Value} (h : ∀ n, k ≠ .num (.int n)) :
    BuiltinFault σ .makeVector [k, fill] .type :=
  .intro (by decide) rfl (type_of_not_int h fill fill).2.2

/-- `vector-length` of anything but a vector -/
theorem fault_type_vector_length {σ : Store} {v : Value} (h : ∀ id, v ≠ .vec id) :
    BuiltinFault σ .vectorLength [v] .type :=
  .intro (by decide) rfl (type_of_not_vec h v v).2.2

example : (∀ id, Value.num (.int 3) ≠ .vec id) ∧ (∀ n, Value.num (.real 1.5) ≠ .num (.int n)) :=
  ⟨fun _ h => (by cases h), fun _ h => (by cases h)⟩

/-- `apply`: a last argument that is neither a pair nor the empty list: `type`, the trampoline
stops, the procedure is not applied, store unchanged -/
theorem fault_type_apply_last {σ : Store} {f last : Value} {rest : List Value} (env : Nat)
    (hf : (procArity f).isSome) (hl : rest.getLast? = some last) (hx : ¬ IsListHead last) :
    spreadApply (f :: rest) = .error .type ∧
    Applies σ (.builtin .apply) (f :: rest) env (.error (.type, none)) σ :=
  ⟨spreadApply_type hf hl hx, Applies.apply_err (by simp) (spreadApply_type hf hl hx)⟩

example : (procArity (.builtin .add)).isSome ∧ [Value.num (.int 1), .num (.int 2)].getLast? = some (.num (.int 2)) ∧
    ¬ IsListHead (.num (.int 2)) := ⟨rfl, rfl, fun h => h⟩

/-! ### vector index out of range -/

/-- `vector-ref` with a negative index or an index not below the length: `vectorIndex` -/
theorem fault_vector_index_ref {σ : Store} {id : Nat} {cell : VecCell} {n : Int}
    (hc : σ.vecs[id]? = some cell) (hn : n < 0 ∨ (cell.items.length : Int) ≤ n) :
    BuiltinFault σ .vectorRef [.vec id, .num (.int n)] .vectorIndex := by
  refine .intro (by decide) rfl ?_
  rw [vectorRef_outcome hc]
  split
  · rfl
  · rw [List.getElem?_eq_none_iff.2 (by omega)]

/-- `vector-set!` on a mutable vector with a negative index or an index not below the length:
`vectorIndex`, and the vector is not changed -/
theorem fault_vector_index_set {σ : Store} {id : Nat} {cell : VecCell} {n : Int} {obj : Value}
    (hc : σ.vecs[id]? = some cell) (hm : cell.mutable = true) (hn : n < 0 ∨ (cell.items.length : Int) ≤ n) :
    BuiltinFault σ .vectorSet [.vec id, .num (.int n), obj] .vectorIndex := by
  refine .intro (by decide) rfl ?_
  rw [vectorSet_outcome hc, if_neg (by simp [hm]), if_pos (by omega)]

example : ({ vecs := #[{ mutable := true, items := [.nil, .nil] }] } : Store).vecs[0]? =
    some { mutable := true, items := [.nil, .nil] } ∧ ((2 : Nat) : Int) ≤ 2 ∧ (-1 : Int) < 0 :=
  ⟨rfl, by decide, by decide⟩

/-- both together: out of range (or negative) is `vectorIndex` for reading and for writing -/
theorem fault_vector_index {σ : Store} {id : Nat} {cell : VecCell} {n : Int} (obj : Value)
    (hc : σ.vecs[id]? = some cell) (hn : n < 0 ∨ (cell.items.length : Int) ≤ n) :
    BuiltinFault σ .vectorRef [.vec id, .num (.int n)] .vectorIndex ∧
    (cell.mutable = true → BuiltinFault σ .vectorSet [.vec id, .num (.int n), obj] .vectorIndex) :=
  ⟨fault_vector_index_ref hc hn, fun hm => fault_vector_index_set hc hm hn⟩

/-! ### mutating a literal vector -/

/-- `vector-set!` on an immutable cell, whatever the index (in range or not) and the value:
`immutable`, and the vector is not changed -/
theorem fault_immutable {σ : Store} {id : Nat} {cell : VecCell} (n : Int) (obj : Value)
    (hc : σ.vecs[id]? = some cell) (hm : cell.mutable = false) :
    BuiltinFault σ .vectorSet [.vec id, .num (.int n), obj] .immutable := by
  refine .intro (by decide) rfl ?_
  rw [vectorSet_outcome hc, if_pos hm]

/-- every cell that evaluating a literal (`quote`d datum or self-evaluating vector) allocates is
IMMUTABLE; the cells that existed before are untouched and nothing else in the store changes -/
theorem literal_vectors_immutable (σ : Store) (d : Datum) :
    (∀ i c, (readLiteral σ d).2.vecs[i]? = some c → σ.vecs.size ≤ i → c.mutable = false) ∧
    (∀ i, i < σ.vecs.size → (readLiteral σ d).2.vecs[i]? = σ.vecs[i]?) ∧
    (readLiteral σ d).2.frames = σ.frames ∧ (readLiteral σ d).2.out = σ.out ∧
    (readLiteral σ d).2.ticks = σ.ticks :=
  have h := readLiteral_litStep σ d
  ⟨fun _ _ hc hi => h.new_cells hc hi, fun _ hi => h.old_cells hi, h.frames, h.out, h.ticks⟩

/-- hence: the value of a vector literal is a reference to a new immutable cell, and `vector-set!`
through it is `immutable` -/
theorem fault_immutable_literal {σ σ' : Store} {xs : List Datum} {l : Loc} {v : Value} (n : Int) (obj : Value)
    (h : readLiteral σ (.vec xs l) = (.ok v, σ')) :
    BuiltinFault σ' .vectorSet [v, .num (.int n), obj] .immutable := by
  obtain ⟨id, vs, rfl, -, -, hc⟩ := readLiteral_vec h
  exact fault_immutable n obj hc rfl

example : ∃ v σ', readLiteral {} (.vec [.prim (.int 1) none] none) = (.ok v, σ') := ⟨_, _, rfl⟩

/-! ### division by an exact zero -/

/-- `Num.div`, `floor-quotient`, `floor-remainder` on an exact dividend and an exact zero divisor
(`0`, or a ratio with numerator `0`), every branch of the operand promotion: `divZero` -/
theorem fault_div_zero_num {a b : Num} (ha : a.Exact) (hb : b.ExactZero) :
    Num.div a b = .error .divZero ∧ Num.floorQuotient a b = .error .divZero ∧
    Num.floorRemainder a b = .error .divZero :=
  ⟨Num.div_exactZero ha hb, Num.floorQuotient_exactZero ha hb, Num.floorRemainder_exactZero ha hb⟩

example : (Num.rat 1 2).Exact ∧ (Num.int 0).ExactZero ∧ (Num.rat 0 5).ExactZero := ⟨trivial, rfl, rfl⟩

/-- `(/ a b …)`, `(/ b)`, `(floor-quotient a b)`, `(floor-remainder a b)` with an exact first OPERAND `a` and an
exact zero `b`: `divZero`, store unchanged. (`a` is an operand, not a running quotient: with an inexact `a` the
quotient `a / 0` is an infinity or a NaN, not an error. For a zero divisor further on see `fault_div_zero_later`,
which assumes nothing about the quotient so far.) -/
theorem fault_div_zero {σ : Store} {a b : Num} (rest : List Value) (ha : a.Exact) (hb : b.ExactZero) :
    BuiltinFault σ .div (.num a :: .num b :: rest) .divZero ∧
    BuiltinFault σ .div [.num b] .divZero ∧
    BuiltinFault σ .floorQuotient [.num a, .num b] .divZero ∧
    BuiltinFault σ .floorRemainder [.num a, .num b] .divZero := by
  have h2 : divArgs (.num a :: .num b :: rest) = .error .divZero :=
    divArgs_exact_zero (pre := [a]) (List.forall_mem_singleton.2 ha) hb (.inl (by simp))
  have h1 : divArgs [.num b] = .error .divZero :=
    divArgs_exact_zero (pre := []) (fun x hx => by cases hx) hb (.inr rfl)
  refine ⟨?_, ?_, ?_, ?_⟩
  · exact .intro (by decide) (by simp [Builtin.arity, arityOk]) (congrArg (lift σ · .num) h2)
  · exact .intro (by decide) rfl (congrArg (lift σ · .num) h1)
  · refine .intro (by decide) rfl ?_
    simp only [applyPure, num2, expectNumber, Num.floorQuotient_exactZero ha hb]; rfl
  · refine .intro (by decide) rfl ?_
    simp only [applyPure, num2, expectNumber, Num.floorRemainder_exactZero ha hb]; rfl

example : applyPure {} .div [.num (.rat 1 2), .num (.rat 0 5), .str "a"] = (.error (.divZero, none), {}) ∧
    applyPure {} .div [.num (.int 0)] = (.error (.divZero, none), {}) := ⟨rfl, rfl⟩

/-- `(/ x₀ x₁ … b …)`: AN EXACT ZERO DIVISOR AT ANY POSITION. If the operands before position `j = pre.length` are
exact numbers and the operand at position `j` is an exact zero and a divisor (`j ≥ 1`, or `j = 0` in the one-argument
form `(/ b)`), the builtin `/` fails with `divZero` and the store is unchanged: for argument lists of any length,
WHATEVER THE INTERMEDIATE QUOTIENTS ARE - in particular when the running quotient has left the `i32` range and is
carried on as a real, where a plain fold of `Num.div` would return an infinity - and whatever follows position `j`
(also arguments that are not numbers: they are not reached). -/
theorem fault_div_zero_later {σ : Store} {pre : List Num} {b : Num} {post : List Value}
    (hpre : ∀ x ∈ pre, x.Exact) (hb : b.ExactZero) (hj : 1 ≤ pre.length ∨ post = []) :
    BuiltinFault σ .div (pre.map .num ++ .num b :: post) .divZero := by
  have h : divArgs (pre.map .num ++ .num b :: post) = .error .divZero :=
    divArgs_exact_zero hpre hb (hj.imp List.ne_nil_of_length_pos id)
  exact .intro (by decide) (by simp [Builtin.arity, arityOk]) (congrArg (lift σ · .num) h)

/-- the instance `(/ 2147483647 1/2 0)`: the quotient `2147483647 / (1/2)` does not fit `i32` and is a real, the
plain fold goes on to `+inf.0`; the builtin reports the division by zero -/
example : (∀ x ∈ [Num.int 2147483647, .rat 1 2], x.Exact) ∧ (Num.int 0).ExactZero ∧
    [Num.int 2147483647, .rat 1 2].map Value.num ++ .num (.int 0) :: [] =
      [.num (.int 2147483647), .num (.rat 1 2), .num (.int 0)] ∧
    applyPure {} .div [.num (.int 2147483647), .num (.rat 1 2), .num (.int 0)] = (.error (.divZero, none), {}) ∧
    (∃ f, Num.div (.int 2147483647) (.rat 1 2) = .ok (.real f)) ∧
    (∃ f, subDiv Num.div (.int 1) [.num (.int 2147483647), .num (.rat 1 2), .num (.int 0)] = .ok (.real f)) :=
  ⟨by
    intro x hx
    simp only [List.mem_cons, List.not_mem_nil, or_false] at hx
    rcases hx with rfl | rfl <;> trivial,
   rfl, rfl, rfl, ⟨_, rfl⟩, ⟨_, rfl⟩⟩

/-- ... with a non-number after the zero, and with the zero as a ratio `0/7`: still `divZero` -/
example : applyPure {} .div [.num (.int 2147483647), .num (.rat 1 2), .num (.rat 0 7), .str "a", .num (.real 1.5)] =
    (.error (.divZero, none), {}) := rfl

/-- the hypotheses cannot be dropped: an INEXACT operand before the zero ends the check (the quotient is then inexact
by contagion and `x / 0` is an infinity or a NaN), and a zero in the FIRST position of `(/ 0 x …)` is a dividend -/
example : (∃ f, applyPure {} .div [.num (.int 1), .num (.real 2), .num (.int 0)] = (.ok (.num (.real f)), {})) ∧
    applyPure {} .div [.num (.int 0), .num (.int 5)] = (.ok (.num (.int 0)), {}) := ⟨⟨_, rfl⟩, rfl⟩

/-- whatever native procedure fails, with whatever error: the store is the one it was given -/
theorem fault_builtin_store_unchanged {σ σ' : Store} {b : Builtin} {args : List Value} {e : SErr}
    (h : applyPure σ b args = (.error e, σ')) : σ' = σ :=
  (applyPure_error h).2

example : applyPure {} .makeVector [.num (.int (-1)), .nil] = (.error (.negativeLength, none), {}) := rfl

/-! ## 2. the argument count is checked for every application the trampoline performs -/

/-- THE GATE. One iteration of the loop on ANY procedure value: unless the argument count is
accepted the outcome is `arity` and nothing has happened; conversely an outcome that is not this
error means the gate was passed. -/
theorem applyLoop_arity_gate {n : Nat} {σ σ' : Store} {p : Value} {args : List Value} {env : Nat} {r}
    {fixed variadic} (hp : procArity p = some (fixed, variadic)) (h : applyLoop (n+1) σ p args env = (r, σ')) :
    (arityOk fixed variadic args.length = false → r = .error (.arity, none) ∧ σ' = σ) ∧
    ((r, σ') ≠ (.error (.arity, none), σ) → arityOk fixed variadic args.length = true) := by
  constructor
  · intro ha
    rw [Eval.applyLoop_arity_gate n σ env hp ha] at h
    cases h; exact ⟨rfl, rfl⟩
  · intro hne
    cases ha : arityOk fixed variadic args.length with
    | true => rfl
    | false =>
      rw [Eval.applyLoop_arity_gate n σ env hp ha] at h
      exact absurd h.symm hne

/-- the continuation after `apply` is a new iteration of the same loop (so the gate is passed again,
for the procedure `apply` was handed and the spread arguments) -/
theorem applyLoop_apply_step {n : Nat} {σ : Store} {args : List Value} {env : Nat} {f args'}
    (ha : 1 ≤ args.length) (hs : spreadApply args = .ok (f, args')) :
    applyLoop (n+1) σ (.builtin .apply) args env = applyLoop n σ f args' env := by
  rw [applyLoop_apply n σ env ha, hs]

/-- the continuation after a pending tail call is a new iteration of the same loop (so the gate is
passed again, for the callee and its evaluated operands) -/
theorem applyLoop_tail_step {n : Nat} {σ : Store} {lam : Lambda} {cenv : Nat} {args : List Value} {env : Nat}
    {f targs tenv σ₁ fv σ₂ vs σ₃}
    (ha : arityOk lam.formals.fixed.length lam.formals.rest.isSome args.length = true)
    (hs : applyScheme n σ lam cenv args = (.ok (.tailCall f targs tenv), σ₁))
    (hf : evalExpr n σ₁ tenv f = (.ok fv, σ₂)) (hargs : evalArgs n σ₂ tenv targs = (.ok vs, σ₃))
    (hp : (procArity fv).isSome) :
    applyLoop (n+1) σ (.closure lam cenv) args env = applyLoop n σ₃ fv vs env := by
  rw [applyLoop_closure n σ cenv env ha, hs, andThen_ok]
  simp only [pendingCall, hf, hargs, andThen_ok, if_pos hp]

/-- ARITY IS CHECKED EVERYWHERE. Whatever iteration the trampoline reaches — the initial one, one
reached through any number of pending tail calls and `apply`s, for a user procedure or a native
one — if the argument count is not accepted there, the WHOLE run is the `arity` error, with the
store as it was when that iteration was reached: nothing of the procedure has run. -/
theorem arity_checked_everywhere {env σ p args σq q qargs fixed variadic}
    (h : Reaches env σ p args σq q qargs) (hq : procArity q = some (fixed, variadic))
    (ha : arityOk fixed variadic qargs.length = false) :
    Applies σ p args env (.error (.arity, none)) σq :=
  h.applies (Applies.arity_err hq ha)

/-- and when it is accepted there, the run is whatever the loop does from that iteration on -/
theorem reaches_outcome {env σ p args σq q qargs r σ'} (h : Reaches env σ p args σq q qargs)
    (hq : Applies σq q qargs env r σ') : Applies σ p args env r σ' :=
  h.applies hq

/-! ## 3. an error raised by a sub-evaluation IS the outcome of the enclosing evaluation

In every rule below the error `er` (kind AND location) and the store of the failing sub-evaluation
are returned unchanged by the enclosing evaluation. -/

/-- OPERATOR position of a call: the operands are not evaluated -/
theorem error_propagates_operator {σ ρ f args l er σ₁} (hf : Evals σ ρ f (.error er) σ₁) :
    Evals σ ρ (.call f args l) (.error er) σ₁ :=
  Evals.call_iff.2 (.inl ⟨er, hf, rfl⟩)

/-- OPERAND position of a call (the operator being a procedure): the operands before the failing one
have been evaluated, NO LATER OPERAND IS EVALUATED (`post` is arbitrary), nothing is applied -/
theorem error_propagates_operand {σ ρ f pre a post l fv σ₁ vs σ₂ er σ₃} (hf : Evals σ ρ f (.ok fv) σ₁)
    (hp : (procArity fv).isSome) (hpre : EvalsArgs σ₁ ρ pre (.ok vs) σ₂) (ha : Evals σ₂ ρ a (.error er) σ₃) :
    EvalsArgs σ₁ ρ (pre ++ a :: post) (.error er) σ₃ ∧
    Evals σ ρ (.call f (pre ++ a :: post) l) (.error er) σ₃ :=
  ⟨EvalsArgs.append_err hpre ha, Evals.call_arg_err hf (EvalsArgs.append_err hpre ha) hp⟩

/-- the TEST of an `if`, in ordinary and in tail position: no arm is evaluated -/
theorem error_propagates_if_test {σ ρ t c a l er σ₁} (ht : Evals σ ρ t (.error er) σ₁) :
    Evals σ ρ (.cond t c a l) (.error er) σ₁ ∧ EvalsTail σ ρ (.cond t c a l) (.error er) σ₁ :=
  ⟨Evals.cond_err ht, EvalsTail.cond_err ht⟩

/-- the chosen ARM of an `if`, in ordinary and in tail position -/
theorem error_propagates_if_arm {σ ρ t c alt l tv σ₁ er σ₂} (ht : Evals σ ρ t (.ok tv) σ₁) :
    (tv.truthy = true → Evals σ₁ ρ c (.error er) σ₂ → Evals σ ρ (.cond t c alt l) (.error er) σ₂) ∧
    (tv.truthy = true → EvalsTail σ₁ ρ c (.error er) σ₂ → EvalsTail σ ρ (.cond t c alt l) (.error er) σ₂) ∧
    (∀ a, alt = some a → tv.truthy = false → Evals σ₁ ρ a (.error er) σ₂ →
      Evals σ ρ (.cond t c alt l) (.error er) σ₂) ∧
    (∀ a, alt = some a → tv.truthy = false → EvalsTail σ₁ ρ a (.error er) σ₂ →
      EvalsTail σ ρ (.cond t c alt l) (.error er) σ₂) :=
  ⟨fun h hc => Evals.cond_true ht h hc, fun h hc => EvalsTail.cond_true ht h hc,
   fun _ ha h hc => ha ▸ Evals.cond_false ht h hc, fun _ ha h hc => ha ▸ EvalsTail.cond_false ht h hc⟩

/-- the VALUE expression of `set!`: nothing is assigned -/
theorem error_propagates_set {σ ρ x e l er σ₁} (he : Evals σ ρ e (.error er) σ₁) :
    Evals σ ρ (.assign x e l) (.error er) σ₁ :=
  Evals.assign_iff.2 (.inl ⟨er, he, rfl⟩)

/-- an INTERNAL DEFINITION of a procedure body: the definitions before it are bound, the ones after
it and the body are not looked at; the error is the outcome of the application, in the trampoline
and as an activation -/
theorem error_propagates_definition {σ lam cenv args env restArgs σ₁ pre x e l post σ₂ er σ₃}
    (ha : arityOk lam.formals.fixed.length lam.formals.rest.isSome args.length = true)
    (hb : bindFixed (σ.newFrame (some cenv)).2 (σ.newFrame (some cenv)).1 lam.formals.fixed args = (.ok restArgs, σ₁))
    (hdefs : lam.defs = pre ++ .mk x e l :: post)
    (hpre : EvalsDefSeq (σ.newFrame (some cenv)).1
      (Ref.bindRest σ₁ (σ.newFrame (some cenv)).1 lam.formals.rest restArgs) pre σ₂)
    (he : Evals σ₂ (σ.newFrame (some cenv)).1 e (.error er) σ₃) :
    AppliesScheme σ lam cenv args (.error er) σ₃ ∧ Applies σ (.closure lam cenv) args env (.error er) σ₃ := by
  have h : AppliesScheme σ lam cenv args (.error er) σ₃ :=
    (AppliesScheme.iff rfl).2 (.inr ⟨restArgs, σ₁, hb, .inl ⟨er, hdefs ▸ EvalsDefs.seq_err hpre he, rfl⟩⟩)
  exact ⟨h, Applies.closure_err ha h⟩

/-- a NON-LAST BODY expression: the expressions before it have been evaluated, the rest of the body
is not looked at -/
theorem error_propagates_body {ρ σ pre σ₁ e er σ₂ e' post} (hs : EvalsSeq ρ σ pre σ₁)
    (he : Evals σ₁ ρ e (.error er) σ₂) : EvalsBody σ ρ (pre ++ e :: e' :: post) (.error er) σ₂ :=
  EvalsBody.seq_err hs he

/-- the TAIL expression (the last of the body) when it is not a call: evaluated in place, its error
is the body's -/
theorem error_propagates_tail_expr {ρ σ pre σ₁ e er σ₂} (hs : EvalsSeq ρ σ pre σ₁)
    (hcall : ∀ f as l, e ≠ .call f as l) (hcond : ∀ t c a l, e ≠ .cond t c a l)
    (he : Evals σ₁ ρ e (.error er) σ₂) : EvalsBody σ ρ (pre ++ [e]) (.error er) σ₂ :=
  EvalsBody.seq_last hs (EvalsTail.other_err hcall hcond he)

/-- whatever makes the BODY fail makes the application fail, in the trampoline and as an activation,
and through the activation the call expression -/
theorem error_propagates_application {σ lam cenv args env er σ₁}
    (ha : arityOk lam.formals.fixed.length lam.formals.rest.isSome args.length = true)
    (hs : AppliesScheme σ lam cenv args (.error er) σ₁) :
    Applies σ (.closure lam cenv) args env (.error er) σ₁ :=
  Applies.closure_err ha hs

/-- TAIL CALL: the pending call's operator, an operand, or the callee itself (`hcallee`: the loop
continued with the callee) fails: that error is the outcome of the trampoline run -/
theorem error_propagates_tail_call {σ lam cenv args env f targs tenv σ₁}
    (ha : arityOk lam.formals.fixed.length lam.formals.rest.isSome args.length = true)
    (hs : AppliesScheme σ lam cenv args (.ok (.tailCall f targs tenv)) σ₁) :
    (∀ er σ₂, Evals σ₁ tenv f (.error er) σ₂ → Applies σ (.closure lam cenv) args env (.error er) σ₂) ∧
    (∀ fv σ₂ er σ₃, Evals σ₁ tenv f (.ok fv) σ₂ → EvalsArgs σ₂ tenv targs (.error er) σ₃ →
      Applies σ (.closure lam cenv) args env (.error er) σ₃) ∧
    (∀ fv σ₂ vs σ₃ er σ', Evals σ₁ tenv f (.ok fv) σ₂ → EvalsArgs σ₂ tenv targs (.ok vs) σ₃ →
      (procArity fv).isSome → Applies σ₃ fv vs env (.error er) σ' →
      Applies σ (.closure lam cenv) args env (.error er) σ') :=
  ⟨fun _ _ hf => (PendingRuns.op_err hf).applies ha hs,
   fun _ _ _ _ hf hargs => (PendingRuns.arg_err hf hargs).applies ha hs,
   fun _ _ _ _ _ _ hf hargs hp hl => Applies.closure_tail ha hs hf hargs hp hl⟩

/-- APPLY: the procedure handed to `apply` fails: that error is the outcome -/
theorem error_propagates_apply {σ args env f args' er σ'} (ha : 1 ≤ args.length)
    (hs : spreadApply args = .ok (f, args')) (h : Applies σ f args' env (.error er) σ') :
    Applies σ (.builtin .apply) args env (.error er) σ' :=
  Applies.apply ha hs h

/-- DIRECT CALL: the applied procedure fails: that error is the outcome of the activation and of
the call expression (the store: the loop's, with the activation closed) -/
theorem error_propagates_direct_call {σ ρ f args l fv σ₁ vs σ₂ er σ₃} (hf : Evals σ ρ f (.ok fv) σ₁)
    (hargs : EvalsArgs σ₁ ρ args (.ok vs) σ₂) (hp : (procArity fv).isSome)
    (hl : Applies (enter σ₂) fv vs ρ (.error er) σ₃) :
    AppliesProc σ₂ fv vs ρ (.error er) (leave σ₃) ∧ Evals σ ρ (.call f args l) (.error er) (leave σ₃) :=
  ⟨AppliesProc.of_loop hl, Evals.call hf hargs hp (AppliesProc.of_loop hl)⟩

/-- EVERY CALLING CONTEXT AT ONCE. A call expression whose procedure's trampoline run reaches —
through any number of pending tail calls (user procedures, library procedures: they are closures
like any other) and `apply`s — an iteration that fails with `er` (for instance one of the faults of
section 1): the call expression fails with exactly `er`. -/
theorem error_propagates {σ ρ f args l fv σ₁ vs σ₂ σq q qargs er σ₃} (hf : Evals σ ρ f (.ok fv) σ₁)
    (hargs : EvalsArgs σ₁ ρ args (.ok vs) σ₂) (hp : (procArity fv).isSome)
    (hreach : Reaches ρ (enter σ₂) fv vs σq q qargs) (hq : Applies σq q qargs ρ (.error er) σ₃) :
    Evals σ ρ (.call f args l) (.error er) (leave σ₃) :=
  (error_propagates_direct_call hf hargs hp (hreach.applies hq)).2

/-- example: `((lambda () (apply car 5 '())))` — a native type fault reached through a tail call and
`apply` is the outcome of the outermost call -/
example : ∃ σ', Evals { frames := #[{ parent := none, defs := [("apply", .builtin .apply), ("car", .builtin .car)] }] } 0
    (.call (.lambda (.mk ⟨[], none⟩ []
      [.call (.sym "apply" none) [.sym "car" none, .prim (.int 5) none, .quote (.nil none) none] none]) none) [] none)
    (.error (.type, none)) σ' := by
  apply Exists.intro
  apply error_propagates (q := .builtin .car) (qargs := [.num (.int 5)]) Evals.lambda EvalsArgs.nil rfl
  case hreach =>
    apply Reaches.tail rfl (AppliesScheme.intro_ok rfl EvalsDefs.nil (EvalsBody.last EvalsTail.call))
      (Evals.sym (v := .builtin .apply) rfl)
    case hargs =>
      exact EvalsArgs.cons (Evals.sym (v := .builtin .car) rfl)
        (EvalsArgs.cons (Evals.prim rfl) (EvalsArgs.cons (Evals.quote rfl) EvalsArgs.nil))
    case hp => rfl
    case h => exact .apply (by decide) rfl .refl
  case hq => exact (fault_type_car (x := .num (.int 5)) (by intro a d h; cases h)).loop 0

/-- OBSERVATION (two faults in one call): when the operator is a non-procedure AND an operand fails,
the DIRECT call reports `nonProcedure` (the operands' outcome is looked at only for a procedure) while
the same call as a PENDING TAIL CALL reports the operand's error (`eval_procedure_call` propagates it
before the procedure test). Both are errors, neither invents a value; the kinds differ by context. The
property's quantifier (one fault per program) does not cover this case. -/
theorem two_faults_order {σ ρ f args l fv σ₁ er σ₂} (hf : Evals σ ρ f (.ok fv) σ₁)
    (ha : EvalsArgs σ₁ ρ args (.error er) σ₂) (hp : procArity fv = none) :
    Evals σ ρ (.call f args l) (.error (.nonProcedure, f.loc)) σ₂ ∧
    ∀ σ₀ lam cenv args' env,
      arityOk lam.formals.fixed.length lam.formals.rest.isSome args'.length = true →
      AppliesScheme σ₀ lam cenv args' (.ok (.tailCall f args ρ)) σ →
      Applies σ₀ (.closure lam cenv) args' env (.error er) σ₂ :=
  ⟨fault_nonprocedure_direct hf ha hp, fun _ _ _ _ _ hok hs => (error_propagates_tail_call hok hs).2.1 _ _ _ _ hf ha⟩

/-- `(5 zz)`: directly `nonProcedure`, in tail position `unbound` -/
example : Evals {} 0 (.call (.prim (.int 5) none) [.sym "zz" none] none) (.error (.nonProcedure, none)) {} ∧
    Applies {} (.closure (.mk ⟨[], none⟩ [] [.call (.prim (.int 5) none) [.sym "zz" none] none]) 0) [] 0
      (.error (.unbound, none)) (({} : Store).newFrame (some 0)).2 :=
  ⟨(two_faults_order (σ := {}) (ρ := 0) (Evals.prim rfl) (EvalsArgs.cons_err (Evals.sym_unbound rfl)) rfl).1,
   (two_faults_order (l := none) (Evals.prim rfl) (EvalsArgs.cons_err (Evals.sym_unbound rfl)) rfl).2 {} _ 0 [] 0 rfl
     (AppliesScheme.intro_ok rfl EvalsDefs.nil (EvalsBody.last EvalsTail.call))⟩

/-! ## 4. the effects completed before the error are kept, and later forms are evaluated normally -/

/-- OPERANDS: when operand `a` fails the returned store `σ₃` is the store reached by evaluating the
operands before it (`σ₂`, by `hpre`) and then the failing operand's own partial effects (`ha`) —
nothing of `post` has happened, nothing is rolled back -/
theorem effects_before_error_kept_operands {σ ρ pre a post vs σ₂ er σ₃} (hpre : EvalsArgs σ ρ pre (.ok vs) σ₂)
    (ha : Evals σ₂ ρ a (.error er) σ₃) (r σ') (h : EvalsArgs σ ρ (pre ++ a :: post) r σ') :
    r = .error er ∧ σ' = σ₃ :=
  EvalsArgs.unique h (EvalsArgs.append_err hpre ha)

/-- BODIES: when a body expression fails the returned store is the one reached by the expressions
before it and the failing expression's own partial effects -/
theorem effects_before_error_kept_body {ρ σ pre σ₁ e er σ₂ e' post} (hs : EvalsSeq ρ σ pre σ₁)
    (he : Evals σ₁ ρ e (.error er) σ₂) (r σ') (h : EvalsBody σ ρ (pre ++ e :: e' :: post) r σ') :
    r = .error er ∧ σ' = σ₂ :=
  Stable.unique h (EvalsBody.seq_err hs he)

/-- DEFINITIONS: when an internal definition fails the definitions before it stay bound -/
theorem effects_before_error_kept_definitions {ρ σ ds σ₁ x e l er σ₂ post} (hs : EvalsDefSeq ρ σ ds σ₁)
    (he : Evals σ₁ ρ e (.error er) σ₂) (r σ') (h : EvalsDefs σ ρ (ds ++ .mk x e l :: post) r σ') :
    r = .error er ∧ σ' = σ₂ :=
  Stable.unique h (EvalsDefs.seq_err hs he)

/-- all three: wherever a sequence (operands, body, internal definitions) fails, its outcome is that
error and its store the one reached at the failing element -/
theorem effects_before_error_kept {σ ρ σ₂ er σ₃} :
    (∀ pre a post vs, EvalsArgs σ ρ pre (.ok vs) σ₂ → Evals σ₂ ρ a (.error er) σ₃ →
      EvalsArgs σ ρ (pre ++ a :: post) (.error er) σ₃) ∧
    (∀ pre e e' post, EvalsSeq ρ σ pre σ₂ → Evals σ₂ ρ e (.error er) σ₃ →
      EvalsBody σ ρ (pre ++ e :: e' :: post) (.error er) σ₃) ∧
    (∀ ds x e l post, EvalsDefSeq ρ σ ds σ₂ → Evals σ₂ ρ e (.error er) σ₃ →
      EvalsDefs σ ρ (ds ++ .mk x e l :: post) (.error er) σ₃) :=
  ⟨fun _ _ _ _ hpre ha => EvalsArgs.append_err hpre ha, fun _ _ _ _ hs he => EvalsBody.seq_err hs he,
   fun _ _ _ _ _ hs he => EvalsDefs.seq_err hs he⟩

/-- `eval_expression_or_definition` changes NOTHING BUT THE STORE of the interpreter state, whatever
the statement and the outcome -/
theorem state_after_form (fuel : Nat) (st : Interp.State) (s : Statement) (ρ : Nat) :
    ∃ σ', (Interp.evalExprOrDef fuel st s ρ).2 = { st with store := σ' } :=
  ⟨_, Interp.evalExprOrDef_frame (Prod.ext rfl rfl)⟩

/-- TOP-LEVEL EXPRESSION: `eval_ast` returns the evaluator's outcome (a missing location filled in)
and a state that is the given one with the evaluator's store (and `import_end` set) — for an error
exactly as for a value -/
theorem state_after_expression (fuel : Nat) (st : Interp.State) (e : Expr) :
    Interp.evalAst fuel st (.expr e) =
      ((match (evalExpr fuel st.store st.env e).1 with
        | .ok v => .ok (some v)
        | .error (k, loc) => .error (k, loc.orElse (fun _ => e.loc))),
       { st with store := (evalExpr fuel st.store st.env e).2, importEnd := true }) :=
  Interp.evalAst_expr fuel st e

/-- TOP-LEVEL DEFINITION: the name is bound iff the expression evaluated; on an error the state is
the given one with the store the failing evaluation left -/
theorem state_after_definition (fuel : Nat) (st : Interp.State) (x : String) (e : Expr) (l : Loc) :
    Interp.evalAst fuel st (.definition (.mk x e l)) =
      (match evalExpr fuel st.store st.env e with
       | (.ok v, σ) => (.ok none, { st with store := σ.define st.env x v, importEnd := true })
       | (.error (k, loc), σ) =>
         (.error (k, loc.orElse (fun _ => l)), { st with store := σ, importEnd := true })) :=
  Interp.evalAst_definition fuel st x e l

/-- LATER FORMS ARE EVALUATED NORMALLY: after an expression form failed with `er` leaving store `σ₁`,
any later form `s₂` submitted to the same interpreter is evaluated by `eval_ast` from the state that
differs from the original one only in that store — exactly as if the effects had been produced by a
successful form. -/
theorem later_forms_normal (fuel : Nat) (st : Interp.State) (e₁ : Expr) (s₂ : Statement) {k loc σ₁}
    (h₁ : evalExpr fuel st.store st.env e₁ = (.error (k, loc), σ₁)) :
    (Interp.evalAst fuel st (.expr e₁)).1 = .error (k, loc.orElse (fun _ => e₁.loc)) ∧
    Interp.evalAst fuel (Interp.evalAst fuel st (.expr e₁)).2 s₂ =
      Interp.evalAst fuel { st with store := σ₁, importEnd := true } s₂ := by
  rw [Interp.evalAst_expr, h₁]; exact ⟨rfl, rfl⟩

/-- within one text: `Interpreter::eval` threads the state through the forms — the rest of the text
is evaluated from the state `eval_ast` returned, and an error returns that state to the caller -/
theorem text_threads_state (fuel n : Nat) (s s' : Read.PState) (st : Interp.State) (last : Option Value)
    (d : Datum) (stmt : Statement) (syn : Xform.SynEnv) (hd : Read.nextDatum s = .ok (some d, s'))
    (hx : Xform.toStatement (Xform.xformFuel d) d st.syn = (.ok stmt, syn)) :
    Interp.evalText.go fuel (n+1) s st last =
      match Interp.evalAst fuel { st with syn := syn } stmt with
      | (.error e, st') => (.error e, st')
      | (.ok v, st') => Interp.evalText.go fuel n s' st' v := by
  rw [Interp.evalText_go_form fuel n st last hd, FrontSpec.evalForm_ok hx]; rfl

/-! ## 5. no value is invented -/

/-- a call expression has a VALUE only if the operator, every operand and the application had one -/
theorem no_invented_value {σ ρ f args l v σ'} (h : Evals σ ρ (.call f args l) (.ok v) σ') :
    ∃ fv σ₁ vs σ₂, Evals σ ρ f (.ok fv) σ₁ ∧ EvalsArgs σ₁ ρ args (.ok vs) σ₂ ∧ (procArity fv).isSome ∧
      AppliesProc σ₂ fv vs ρ (.ok v) σ' := by
  rcases Evals.call_iff.1 h with ⟨er, _, h⟩ | ⟨fv, σ₁, ra, σ₂, hf, hargs, ⟨_, h, _⟩ | ⟨_, er, _, h, _⟩ | ⟨hp, vs, rfl, hap⟩⟩
  · cases h
  · cases h
  · cases h
  · exact ⟨fv, σ₁, vs, σ₂, hf, hargs, hp, hap⟩

/-- the trampoline on a user procedure has a VALUE only if the body had one, or ended in a pending
call whose operator and operands had values, whose operator is a procedure, and the loop continued
with it had that value -/
theorem no_invented_value_loop {σ lam cenv args env v σ'} (h : Applies σ (.closure lam cenv) args env (.ok v) σ') :
    arityOk lam.formals.fixed.length lam.formals.rest.isSome args.length = true ∧
    (AppliesScheme σ lam cenv args (.ok (.value v)) σ' ∨
     ∃ f targs tenv σ₁ fv σ₂ vs σ₃, AppliesScheme σ lam cenv args (.ok (.tailCall f targs tenv)) σ₁ ∧
       Evals σ₁ tenv f (.ok fv) σ₂ ∧ EvalsArgs σ₂ tenv targs (.ok vs) σ₃ ∧ (procArity fv).isSome ∧
       Applies σ₃ fv vs env (.ok v) σ') := by
  cases ha : arityOk lam.formals.fixed.length lam.formals.rest.isSome args.length with
  | false => cases (h.unique (Applies.arity_err (p := .closure lam cenv) rfl ha)).1
  | true =>
    refine ⟨rfl, ?_⟩
    rcases (Applies.closure_iff ha).1 h with ⟨_, _, h⟩ | ⟨t, σ₁, hs, h⟩
    · cases h
    · cases t with
      | value v' => obtain ⟨h, rfl⟩ := h; cases h; exact .inl hs
      | tailCall f targs tenv =>
        rcases h with ⟨_, _, h⟩ | ⟨fv, σ₂, hf, ⟨_, _, h⟩ | ⟨vs, σ₃, hargs, ⟨_, h, _⟩ | ⟨hp, hl⟩⟩⟩
        · cases h
        · cases h
        · cases h
        · exact .inr ⟨f, targs, tenv, σ₁, fv, σ₂, vs, σ₃, hs, hf, hargs, hp, hl⟩

/-- conversely: if the operator, an operand, or the application of a call fails, the call's outcome
is THAT error — it is never a value and never another error -/
theorem no_value_after_error {σ ρ f args l r σ'} (h : Evals σ ρ (.call f args l) r σ') :
    (∀ er σ₁, Evals σ ρ f (.error er) σ₁ → r = .error er ∧ σ' = σ₁) ∧
    (∀ fv σ₁ er σ₂, Evals σ ρ f (.ok fv) σ₁ → (procArity fv).isSome → EvalsArgs σ₁ ρ args (.error er) σ₂ →
      r = .error er ∧ σ' = σ₂) ∧
    (∀ fv σ₁ vs σ₂ er σ₃, Evals σ ρ f (.ok fv) σ₁ → EvalsArgs σ₁ ρ args (.ok vs) σ₂ → (procArity fv).isSome →
      AppliesProc σ₂ fv vs ρ (.error er) σ₃ → r = .error er ∧ σ' = σ₃) :=
  ⟨fun _ _ hf => Evals.unique h (error_propagates_operator hf),
   fun _ _ _ _ hf hp ha => Evals.unique h (Evals.call_arg_err hf ha hp),
   fun _ _ _ _ _ _ hf ha hp hap => Evals.unique h (Evals.call hf ha hp hap)⟩

/-! ## further non-vacuity examples (concrete instances of the theorems above) -/

section Examples

/-- `((lambda () (5)))` in the trampoline: the pending call `(5)` has a non-procedure operator -/
example : Applies {} (.closure (.mk ⟨[], none⟩ [] [.call (.prim (.int 5) (some (2, 3))) [] none]) 0) [] 0
    (.error (.nonProcedure, some (2, 3))) (({} : Store).newFrame (some 0)).2 :=
  fault_nonprocedure_tail rfl (AppliesScheme.intro_ok rfl EvalsDefs.nil (EvalsBody.last EvalsTail.call))
    (Evals.prim rfl) EvalsArgs.nil rfl

example : BuiltinFault {} .car [.num (.int 5)] .type := fault_type_car (by intro a d h; cases h)
example : BuiltinFault {} .mul [.num (.int 2), .str "a"] .type :=
  fault_type_mul (pre := [.num (.int 2)]) (post := []) (acc := .int 2) rfl (fun h => h)
example : BuiltinFault {} .sub [.str "a", .num (.int 1)] .type :=
  (fault_type_sub_div_first (x := .str "a") (fun h => h)).1
example : BuiltinFault {} .div [.num (.int 1), .str "a"] .type :=
  (fault_type_sub_div_second (x := .str "a") (fun h => h)).2
example : BuiltinFault {} .vectorRef [.num (.int 1), .num (.int 0)] .type :=
  fault_type_vector_ref (.inl (fun _ h => by cases h))
example : BuiltinFault {} .vectorSet [.vec 0, .str "k", .nil] .type :=
  fault_type_vector_set (.inr (fun _ h => by cases h))
example : BuiltinFault {} .makeVector [.str "k", .nil] .type := fault_type_make_vector (fun _ h => by cases h)

/-- a literal vector `#(())`: reading index 1 is out of range, writing index 0 is refused -/
example : BuiltinFault { vecs := #[{ mutable := false, items := [.nil] }] } .vectorRef [.vec 0, .num (.int 1)] .vectorIndex ∧
    BuiltinFault { vecs := #[{ mutable := false, items := [.nil] }] } .vectorSet [.vec 0, .num (.int 0), .nil] .immutable :=
  ⟨fault_vector_index_ref (cell := { mutable := false, items := [.nil] }) rfl (.inr (by decide)),
   fault_immutable 0 .nil (cell := { mutable := false, items := [.nil] }) rfl rfl⟩

example : BuiltinFault {} .div [.num (.rat 1 2), .num (.int 0)] .divZero :=
  (fault_div_zero (σ := {}) [] (a := .rat 1 2) (b := .int 0) trivial rfl).1

/-- `(apply car 1 '(2))`: the loop reaches `car` with two arguments through `apply`; the whole run is
the arity error -/
example : Applies {} (.builtin .apply) [.builtin .car, .num (.int 1), .pair (.num (.int 2)) .nil] 0
    (.error (.arity, none)) {} :=
  arity_checked_everywhere (q := .builtin .car) (qargs := [.num (.int 1), .num (.int 2)])
    (.apply (by simp) rfl .refl) rfl rfl

/-- `((lambda (x y z) 0) 1 zz never)`: the unbound `zz` stops the operands; `never` is not looked at -/
example : Evals {} 0 (.call (.lambda (.mk ⟨["x", "y", "z"], none⟩ [] [.prim (.int 0) none]) none)
      ([.prim (.int 1) none] ++ .sym "zz" (some (1, 9)) :: [.sym "never" none]) none)
    (.error (.unbound, some (1, 9))) {} :=
  (error_propagates_operand Evals.lambda rfl (EvalsArgs.cons (Evals.prim rfl) EvalsArgs.nil)
    (Evals.sym_unbound rfl)).2

/-- `(if zz 1 2)` and `(set! x zz)` -/
example : Evals {} 0 (.cond (.sym "zz" none) (.prim (.int 1) none) (some (.prim (.int 2) none)) none)
      (.error (.unbound, none)) {} ∧
    Evals {} 0 (.assign "x" (.sym "zz" none) none) (.error (.unbound, none)) {} :=
  ⟨(error_propagates_if_test (Evals.sym_unbound rfl)).1, error_propagates_set (Evals.sym_unbound rfl)⟩

/-- a body `(1 zz 2 3)`: the second expression fails, the rest is not evaluated -/
example : EvalsBody {} 0 ([.prim (.int 1) none] ++ .sym "zz" none :: .prim (.int 2) none :: [.prim (.int 3) none])
    (.error (.unbound, none)) {} :=
  error_propagates_body (.cons (Evals.prim rfl) .nil) (Evals.sym_unbound rfl)

/-- the value of `((lambda () 7))` comes from its parts -/
example : ∃ fv σ₁ vs σ₂, Evals {} 0 (.lambda (.mk ⟨[], none⟩ [] [.prim (.int 7) none]) none) (.ok fv) σ₁ ∧
    EvalsArgs σ₁ 0 [] (.ok vs) σ₂ ∧ (procArity fv).isSome ∧ ∃ σ', AppliesProc σ₂ fv vs 0 (.ok (.num (.int 7))) σ' := by
  have h : ∃ σ', Evals {} 0 (.call (.lambda (.mk ⟨[], none⟩ [] [.prim (.int 7) none]) none) [] none)
      (.ok (.num (.int 7))) σ' :=
    ⟨_, Evals.call Evals.lambda EvalsArgs.nil rfl (AppliesProc.of_loop (Applies.closure_value rfl
      (AppliesScheme.intro_ok rfl EvalsDefs.nil (EvalsBody.last (EvalsTail.other (by intros; exact Expr.noConfusion)
        (by intros; exact Expr.noConfusion) (Evals.prim rfl))))))⟩
  obtain ⟨σ', h⟩ := h
  obtain ⟨fv, σ₁, vs, σ₂, h₁, h₂, h₃, h₄⟩ := no_invented_value h
  exact ⟨fv, σ₁, vs, σ₂, h₁, h₂, h₃, σ', h₄⟩

/-- a failing top-level form: `zz`, then any later form is evaluated from the same state -/
example (s₂ : Statement) :
    (Interp.evalAst 1 {} (.expr (.sym "zz" (some (1, 1))))).1 = .error (.unbound, some (1, 1)) ∧
    Interp.evalAst 1 (Interp.evalAst 1 {} (.expr (.sym "zz" (some (1, 1))))).2 s₂ =
      Interp.evalAst 1 { ({} : Interp.State) with store := {}, importEnd := true } s₂ :=
  later_forms_normal 1 {} (.sym "zz" (some (1, 1))) s₂ (k := .unbound) (loc := some (1, 1)) (σ₁ := {}) (by
    simp [evalExpr, Store.lookup, Store.lookupAux])

end Examples

end Ruschm.C08
