/-
Homomorphisms of the evaluator: a transformation of stores, values and code that maps every code constructor to
itself and commutes with each operation `RuschmModel/Eval.lean` is built from commutes with the eight functions of
the block (`EvalHom.eval`; each function on its sequence form, by `Res.hom_andThen`). It acts on the code inside a
closure but leaves the frame number (`closure`): renaming frames is not one. The law `readLiteral` is an induction
over the datum of its own, which the instances take from `LitHom.readLiteral_relabel`. Instances: erasing source
locations; adding text at the old end of the output buffer (`Store.out` is most recent first).
-/
import RuschmProofs.EvalSeq
namespace Ruschm
open Eval Prim

def Res.hom (φσ : Store → Store) (φl : Loc → Loc) {α β : Type} (f : α → β) (r : Res α) : Res β :=
  (match r.1 with
    | .ok a => .ok (f a)
    | .error e => .error (e.1, φl e.2), φσ r.2)

theorem Res.hom_id {ψ : Store → Store} {α : Type} {f : α → α} (hf : ∀ a, f a = a) (r : Res α) :
    Res.hom ψ id f r = (r.1, ψ r.2) := by
  rcases r with ⟨e | a, σ⟩
  · rfl
  · exact congrArg (fun a => (Except.ok a, ψ σ)) (hf a)

/-- SEQUENCING: the image of a sequence is the sequence of the images -/
theorem Res.hom_andThen {ψ : Store → Store} {φl : Loc → Loc} {α α' β β' : Type} {f : α → α'} {f' : β → β'} {x : Res α}
    {x' : Res α'} {k : α → Store → Res β} {k' : α' → Store → Res β'} (hx : x' = Res.hom ψ φl f x)
    (hk : ∀ a σ, k' (f a) (ψ σ) = Res.hom ψ φl f' (k a σ)) : andThen x' k' = Res.hom ψ φl f' (andThen x k) := by
  subst hx
  rcases x with ⟨_ | a, σ⟩
  · rfl
  · exact hk a σ

/-- `loc` acts on the location of every code node and of every error; `expr`, `lam`, `defn`, `datum` send
each constructor to itself (`expr_eq`, `lam_eq`, `defn_eq`); the other laws are the commutation with the
operations on values and stores that the evaluator calls -/
structure EvalHom where
  store : Store → Store
  value : Value → Value
  loc : Loc → Loc
  datum : Datum → Datum
  expr : Expr → Expr
  lam : Lambda → Lambda
  defn : Def → Def
  expr_eq : ∀ e, expr e = match e with
    | .sym s l => .sym s (loc l)
    | .prim p l => .prim p (loc l)
    | .assign n e l => .assign n (expr e) (loc l)
    | .lambda m l => .lambda (lam m) (loc l)
    | .call f as l => .call (expr f) (as.map expr) (loc l)
    | .cond t c a l => .cond (expr t) (expr c) (a.map expr) (loc l)
    | .quote d l => .quote (datum d) (loc l)
    | .datum d l => .datum (datum d) (loc l)
  lam_eq : ∀ f ds b, lam (.mk f ds b) = .mk f (ds.map defn) (b.map expr)
  defn_eq : ∀ n e l, defn (.mk n e l) = .mk n (expr e) (loc l)
  loc_none : loc none = none
  closure : ∀ m ρ, value (.closure m ρ) = .closure (lam m) ρ
  builtin : ∀ b, value (.builtin b) = .builtin b
  void : value .void = .void
  truthy : ∀ v, (value v).truthy = v.truthy
  procArity : ∀ v, procArity (value v) = procArity v
  ofList : ∀ vs, Value.ofList (vs.map value) = value (Value.ofList vs)
  evalPrim : ∀ p v, evalPrim p = .ok v → value v = v
  spreadApply : ∀ args, spreadApply (args.map value) =
    match spreadApply args with
    | .ok (f, as) => .ok (value f, as.map value)
    | .error e => .error e
  lookup : ∀ σ ρ k, (store σ).lookup ρ k = (σ.lookup ρ k).map value
  set : ∀ σ ρ k v, (store σ).set ρ k (value v) = ((σ.set ρ k v).1, store (σ.set ρ k v).2)
  define : ∀ σ ρ k v, (store σ).define ρ k (value v) = store (σ.define ρ k v)
  newFrame : ∀ σ p, (store σ).newFrame p = ((σ.newFrame p).1, store (σ.newFrame p).2)
  enter : ∀ σ, enter (store σ) = store (enter σ)
  leave : ∀ σ, leave (store σ) = store (leave σ)
  readLiteral : ∀ σ d, readLiteral (store σ) (datum d) = Res.hom store loc value (readLiteral σ d)
  applyPure : ∀ σ b args,
    applyPure (store σ) b (args.map value) = Res.hom store loc value (applyPure σ b args)

namespace EvalHom
variable (H : EvalHom)

abbrev res {α β : Type} (f : α → β) (r : Res α) : Res β := Res.hom H.store H.loc f r

def tail : TailRes → TailRes
  | .value v => .value (H.value v)
  | .tailCall f args env => .tailCall (H.expr f) (args.map H.expr) env

@[simp] theorem res_ok {α β : Type} (f : α → β) (a : α) (σ : Store) :
    H.res f (.ok a, σ) = (.ok (f a), H.store σ) := rfl
@[simp] theorem res_error {α β : Type} (f : α → β) (e : SErr) (σ : Store) :
    H.res f ((.error e, σ) : Res α) = (.error (e.1, H.loc e.2), H.store σ) := rfl
theorem res_err {α β : Type} (f : α → β) (e : Err) (σ : Store) :
    H.res f ((.error (e, none), σ) : Res α) = (.error (e, none), H.store σ) := by
  rw [res_error, H.loc_none]

theorem expr_sym (s l) : H.expr (.sym s l) = .sym s (H.loc l) := H.expr_eq _
theorem expr_prim (p l) : H.expr (.prim p l) = .prim p (H.loc l) := H.expr_eq _
theorem expr_assign (n e l) : H.expr (.assign n e l) = .assign n (H.expr e) (H.loc l) := H.expr_eq _
theorem expr_lambda (m l) : H.expr (.lambda m l) = .lambda (H.lam m) (H.loc l) := H.expr_eq _
theorem expr_call (f as l) : H.expr (.call f as l) = .call (H.expr f) (as.map H.expr) (H.loc l) :=
  H.expr_eq _
theorem expr_cond (t c a l) :
    H.expr (.cond t c a l) = .cond (H.expr t) (H.expr c) (a.map H.expr) (H.loc l) := H.expr_eq _
theorem expr_quote (d l) : H.expr (.quote d l) = .quote (H.datum d) (H.loc l) := H.expr_eq _
theorem expr_datum (d l) : H.expr (.datum d l) = .datum (H.datum d) (H.loc l) := H.expr_eq _

theorem expr_loc (e : Expr) : (H.expr e).loc = H.loc e.loc := by
  rw [H.expr_eq]; cases e <;> rfl

theorem lam_formals (m : Lambda) : (H.lam m).formals = m.formals := by
  cases m; rw [H.lam_eq]; rfl
theorem lam_defs (m : Lambda) : (H.lam m).defs = m.defs.map H.defn := by
  cases m; rw [H.lam_eq]; rfl
theorem lam_body (m : Lambda) : (H.lam m).body = m.body.map H.expr := by
  cases m; rw [H.lam_eq]; rfl

theorem bindFixed : ∀ (names : List String) (args : List Value) (σ : Store) (ρ : Nat),
    bindFixed (H.store σ) ρ names (args.map H.value) =
      ((match (bindFixed σ ρ names args).1 with
        | .ok rest => .ok (rest.map H.value)
        | .error e => .error e), H.store (bindFixed σ ρ names args).2)
  | [], _, _, _ => rfl
  | _ :: _, [], _, _ => rfl
  | f :: fs, a :: as, σ, ρ => by
    simp only [Eval.bindFixed, List.map_cons, H.define]
    exact bindFixed fs as _ ρ

structure At (fuel : Nat) : Prop where
  expr : ∀ σ ρ e, evalExpr fuel (H.store σ) ρ (H.expr e) = H.res H.value (evalExpr fuel σ ρ e)
  args : ∀ σ ρ es, evalArgs fuel (H.store σ) ρ (es.map H.expr) =
    H.res (List.map H.value) (evalArgs fuel σ ρ es)
  proc : ∀ σ p args env, applyProcedure fuel (H.store σ) (H.value p) (args.map H.value) env =
    H.res H.value (applyProcedure fuel σ p args env)
  loop : ∀ σ p args env, applyLoop fuel (H.store σ) (H.value p) (args.map H.value) env =
    H.res H.value (applyLoop fuel σ p args env)
  scheme : ∀ σ m cenv args, applyScheme fuel (H.store σ) (H.lam m) cenv (args.map H.value) =
    H.res H.tail (applyScheme fuel σ m cenv args)
  defs : ∀ σ ρ ds, evalDefs fuel (H.store σ) ρ (ds.map H.defn) = H.res id (evalDefs fuel σ ρ ds)
  body : ∀ σ ρ es, evalBody fuel (H.store σ) ρ (es.map H.expr) =
    H.res H.tail (evalBody fuel σ ρ es)
  tail : ∀ σ ρ e, evalTail fuel (H.store σ) ρ (H.expr e) = H.res H.tail (evalTail fuel σ ρ e)

theorem at_zero : H.At 0 := by
  constructor <;> intros <;>
    simp only [evalExpr_zero, evalArgs_zero, applyProcedure_zero, applyLoop_zero, applyScheme_zero, evalDefs_zero,
      evalBody_zero, evalTail_zero] <;> exact (H.res_err _ _ _).symm

theorem bindRest (σ : Store) (ρ : Nat) (rest : Option String) (restArgs : List Value) :
    Ref.bindRest (H.store σ) ρ rest (restArgs.map H.value) = H.store (Ref.bindRest σ ρ rest restArgs) := by
  cases rest with
  | none => rfl
  | some r => simp only [Ref.bindRest, H.ofList, H.define]

theorem at_succ {fuel : Nat} (ih : H.At fuel) : H.At (fuel + 1) where
  expr σ ρ e := by
    cases e with
    | sym s l =>
      simp only [H.expr_sym, evalExpr_sym, H.lookup]
      cases σ.lookup ρ s <;> rfl
    | prim p l =>
      simp only [H.expr_prim, evalExpr_prim]
      cases h : Eval.evalPrim p with
      | ok v => simp only [res_ok, H.evalPrim p v h]
      | error e => simp only [H.res_err]
    | assign n e l =>
      simp only [H.expr_assign, evalExpr_assign, ih.expr]
      refine Res.hom_andThen rfl fun v σ₁ => ?_
      rw [H.set]
      rcases σ₁.set ρ n v with ⟨_ | _, σ₂⟩
      · rfl
      · simp only [res_ok, H.void]
    | lambda m l => simp only [H.expr_lambda, evalExpr_lambda, res_ok, H.closure]
    | call f as l =>
      simp only [H.expr_call, evalExpr_call, ih.expr]
      refine Res.hom_andThen rfl fun fv σ₁ => ?_
      simp only [H.procArity, ih.args, H.expr_loc]
      split
      · exact Res.hom_andThen rfl fun vs σ₂ => ih.proc ..
      · rcases evalArgs fuel σ₁ ρ as with ⟨er | vs, σ₂⟩
        · obtain ⟨k, l⟩ := er; cases k <;> rfl
        · rfl
    | cond t c a l =>
      simp only [H.expr_cond, evalExpr_cond, ih.expr]
      refine Res.hom_andThen rfl fun tv σ₁ => ?_
      rw [H.truthy]
      split
      · exact ih.expr ..
      · cases a
        · simp only [Option.map_none, res_ok, H.void]
        · exact ih.expr ..
    | quote d l => simp only [H.expr_quote, evalExpr_quote, H.readLiteral]
    | datum d l => simp only [H.expr_datum, evalExpr_datum, H.readLiteral]
  args σ ρ es := by
    cases es with
    | nil => simp only [List.map_nil, evalArgs_nil]; rfl
    | cons a as =>
      simp only [List.map_cons, evalArgs_cons, ih.expr]
      refine Res.hom_andThen rfl fun v σ₁ => ?_
      rw [ih.args]
      exact Res.hom_andThen rfl fun vs σ₂ => rfl
  proc σ p args env := by
    simp only [applyProcedure_succ, H.enter, ih.loop]
    rcases applyLoop fuel (Eval.enter σ) p args env with ⟨_ | v, σ1⟩ <;> simp only [res_ok, res_error, H.leave]
  loop σ p args env := by
    rcases applied_cases p args with hp | ⟨f, v, hp, ha⟩ | ⟨m, cenv, rfl, ha⟩ | ⟨rfl, ha⟩ | ⟨b, rfl, hb, ha⟩
    · rw [applyLoop_not_proc _ _ _ _ ((H.procArity p).trans hp), applyLoop_not_proc _ _ _ _ hp]
      exact (H.res_err _ _ _).symm
    · rw [applyLoop_arity_gate _ _ _ ((H.procArity p).trans hp) (by rw [List.length_map]; exact ha),
        applyLoop_arity_gate _ _ _ hp ha]
      exact (H.res_err _ _ _).symm
    · rw [H.closure, applyLoop_closure _ _ _ _ (by rw [H.lam_formals, List.length_map]; exact ha),
        applyLoop_closure _ _ _ _ ha, ih.scheme]
      refine Res.hom_andThen rfl fun t σ₁ => ?_
      cases t with
      | value v => rfl
      | tailCall f targs tenv =>
        show pendingCall fuel (H.store σ₁) tenv (H.expr f) (targs.map H.expr) env = _
        unfold pendingCall
        rw [ih.expr]
        refine Res.hom_andThen rfl fun fv σ₂ => ?_
        rw [ih.args]
        refine Res.hom_andThen rfl fun vs σ₃ => ?_
        rw [H.procArity, H.expr_loc]
        split
        · exact ih.loop ..
        · rfl
    · rw [H.builtin, applyLoop_apply _ _ _ (by rw [List.length_map]; exact ha), applyLoop_apply _ _ _ ha,
        H.spreadApply]
      rcases Eval.spreadApply args with _ | ⟨f, args'⟩
      · exact (H.res_err _ _ _).symm
      · exact ih.loop ..
    · rw [H.builtin, applyLoop_builtin_step _ _ _ hb (by rw [List.length_map]; exact ha),
        applyLoop_builtin_step _ _ _ hb ha]
      exact H.applyPure ..
  scheme σ m cenv args := by
    simp only [applyScheme_seq, H.newFrame, H.lam_formals, H.bindFixed, H.lam_defs, H.lam_body]
    rcases Eval.bindFixed (σ.newFrame (some cenv)).2 (σ.newFrame (some cenv)).1 m.formals.fixed args
      with ⟨_ | restArgs, σ1⟩
    · exact (H.res_err _ _ _).symm
    · simp only [H.bindRest, ih.defs]
      exact Res.hom_andThen rfl fun _ σ₂ => ih.body ..
  defs σ ρ ds := by
    rcases ds with _ | ⟨⟨name, e, l⟩, ds⟩
    · simp only [List.map_nil, evalDefs_nil]; rfl
    · simp only [List.map_cons, H.defn_eq, evalDefs_cons, ih.expr]
      exact Res.hom_andThen rfl fun v σ₁ => by rw [H.define]; exact ih.defs ..
  body σ ρ es := by
    rcases es with _ | ⟨e, _ | ⟨e', es⟩⟩
    · simp only [List.map_nil, evalBody_nil]; exact (H.res_err _ _ _).symm
    · simp only [List.map_cons, List.map_nil, evalBody_last]; exact ih.tail ..
    · simp only [List.map_cons, evalBody_cons, ih.expr]
      exact Res.hom_andThen rfl fun _ σ₁ => ih.body σ₁ ρ (e' :: es)
  tail σ ρ e := by
    cases e with
    | call f as l => simp only [H.expr_call, evalTail_call]; rfl
    | cond t c a l =>
      simp only [H.expr_cond, evalTail_cond, ih.expr]
      refine Res.hom_andThen rfl fun tv σ₁ => ?_
      rw [H.truthy]
      split
      · exact ih.tail ..
      · cases a
        · simp only [Option.map_none, res_ok, EvalHom.tail, H.void]
        · exact ih.tail ..
    | _ =>
      -- the other six forms go to `evalExpr` as they are: `expr_*` shows the constructor of the image, so that `evalTail`
      -- unfolds on both sides; `← expr_*` folds the image back for `ih.expr`
      simp only [H.expr_sym, H.expr_prim, H.expr_assign, H.expr_lambda, H.expr_quote, H.expr_datum,
        evalTail]
      simp only [← H.expr_sym, ← H.expr_prim, ← H.expr_assign, ← H.expr_lambda, ← H.expr_quote,
        ← H.expr_datum, ih.expr]
      rcases evalExpr fuel σ ρ _ with ⟨_ | v, σ1⟩ <;> rfl

theorem eval : ∀ fuel, H.At fuel
  | 0 => H.at_zero
  | n + 1 => H.at_succ (eval n)

end EvalHom
end Ruschm
