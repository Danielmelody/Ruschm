/-
Property C15: reported error locations point into the form that failed.

  "Every run-time error reported for a program carries a source location, and that line and
   column lie within the text of the top-level form whose evaluation failed - at the offending
   identifier or operator when the fault is an unbound variable or a non-procedure, otherwise
   anywhere in the form - never in another form, beyond the end of the file, or in the
   interpreter's own bundled sources. Syntax errors that carry a location point at or before the
   offending token."

The vocabulary (`locs`, `rlocs`, `LocsIn`, the roles `ident` / `operator` of a position) is in
`RuschmSpec/Loc.lean`; the helper lemmas are in the modules `RuschmProofs/Loc*.lean`. The theorems follow
the pipeline: the lexer (1), the reader (2), macro expansion (3), the transformer (4), the
evaluator (5), library sources (6), `eval_ast` (7, 8), whole programs, and "every run-time error
carries a position".

Known residue (stated, not hidden): an error raised while READING a library source
(`LibReadErr`: in the Rust only the lexer's own errors are still located there, because
`Lexer::without_locations` strips the tokens but not the lexer errors) carries a position of the
library text, not of the program.
-/
import RuschmProofs.LocHead
import RuschmProofs.TextLemmas
import RuschmProofs.Same

namespace Ruschm.C15
open Ruschm Eval Interp

/-! ## 1. the lexer: token and error positions are cursors inside the text -/

/-- Every token position `Lex.all` reports is the cursor reached (from line 1, column 1) after
consuming a NON-EMPTY prefix of the text — the position just after the token's last character —,
hence never beyond the end of the text; and the position of a lexical error is the cursor reached
after some prefix of the text (possibly all of it): at or before the offending character. -/
theorem token_locs_in_text {cs : List Char} {ts : List LToken} {e : Option Lex.LexErr}
    (h : Lex.all cs = (ts, e)) :
    (∀ t ∈ ts, ∃ pre, pre ≠ [] ∧ pre <+: cs ∧ t.loc = some (Text.advs pre (1, 1))) ∧
    (∀ pe, e = some pe → ∃ pre, pre <+: cs ∧ pe = Text.advs pre (1, 1)) := by
  have := ProgLoc.all_cursors cs
  rw [h] at this
  exact ⟨fun t ht => this.1.mem t ht, this.2⟩

/-- The tokens lie one after the other in the text: the cursor of each token is reached after a
further non-empty chunk of text behind the previous token's cursor (`LexLoc.TokCursors`). So the
tokens of two different top-level forms occupy disjoint, consecutive segments of the text. -/
theorem token_cursors_consecutive (cs : List Char) : LexLoc.TokCursors cs (1, 1) (Lex.all cs).1 :=
  (ProgLoc.all_cursors cs).1

private theorem lex_unit :
    Lex.all ['(', ')'] = ([⟨.lparen, some (1, 2)⟩, ⟨.rparen, some (1, 3)⟩], none) := by
  simp [Lex.all, Lex.allAux, Lex.next, Lex.skipAtmosphere, Lex.token, Lex.adv, Lex.isWs]

/-- `()`: the tokens are located at 1:2 and 1:3, the cursors after `(` and after `()` -/
example : Lex.all ['(', ')'] = ([⟨.lparen, some (1, 2)⟩, ⟨.rparen, some (1, 3)⟩], none) ∧
    Text.advs ['('] (1, 1) = (1, 2) ∧ Text.advs ['(', ')'] (1, 1) = (1, 3) :=
  ⟨lex_unit, by decide, by decide⟩

/-- a lexical error: `#` at the end of the text is reported at the cursor after it -/
example : Lex.all ['#'] = ([], some (1, 2)) := by
  simp [Lex.all, Lex.allAux, Lex.next, Lex.skipAtmosphere, Lex.token, Lex.adv, Lex.isWs]

/-- the cursors along `a\nbc`: after `a` 1:2, after the line break 2:1, after `bc` 2:3 -/
example : Text.advs "a".toList (1, 1) = (1, 2) ∧ Text.advs "a\n".toList (1, 1) = (2, 1) ∧
    Text.advs "a\nbc".toList (1, 1) = (2, 3) := by decide +kernel

/-! ## 2. the reader: data take their positions from the tokens consumed -/

/-- Every position inside a datum returned by `Read.nextDatum` is the position of one of the tokens
consumed for that datum (`used`, a contiguous piece of the token stream): it lies within the extent
of the form, between its first and its last token. -/
theorem reader_locs_from_tokens {s s' : Read.PState} {od : Option Datum}
    (h : Read.nextDatum s = .ok (od, s')) :
    ∃ used : List LToken, s.toks = used ++ s'.toks ∧ ∀ d, od = some d → LocsIn (locs used) d := by
  obtain ⟨used, hs, -, hd⟩ := ReadLoc.nextDatum_ok h
  exact ⟨used, hs, fun d hd' l hl => hd d hd' hl⟩

/-- The same for `currentDatum` (the datum that starts at the current token): the positions are
those of the current token / the parser's current position and of the tokens consumed. -/
theorem reader_locs_from_tokens_current {fuel : Nat} {s s' : Read.PState} {od : Option Datum}
    (h : Read.currentDatum fuel s = .ok (od, s')) :
    ∃ used : List LToken, s.toks = used ++ s'.toks ∧
      ∀ d, od = some d → LocsIn (ReadLoc.here s ++ locs used) d := by
  obtain ⟨used, hs, hd⟩ := ReadLoc.currentDatum_ok h
  exact ⟨used, hs.toks, fun d hd' l hl => hd d hd' hl⟩

/-- A located reader error is located at the parser's current position (the last token pulled:
"unexpected end"), at a token of the rest of the stream (the offending token), or where the lexer
failed. -/
theorem reader_error_loc {s : Read.PState} {k : Err} {l : Pos}
    (h : Read.nextDatum s = .error (k, some l)) :
    l ∈ ReadLoc.here s ∨ l ∈ locs s.toks ∨ s.lexErr = some l := by
  have := ReadLoc.nextDatum_err h (a := l) (by simp)
  simp only [ReadLoc.errs, List.mem_append] at this
  exact this.imp_right (Or.imp_right fun h => by simpa using h)

/-- reading `(a b)` from its tokens (located 1:2, 1:3, 1:5, 1:6) -/
example : ∃ d s', Read.nextDatum { toks := [⟨.lparen, some (1, 2)⟩, ⟨.ident "a", some (1, 3)⟩,
      ⟨.ident "b", some (1, 5)⟩, ⟨.rparen, some (1, 6)⟩], lexErr := none } = .ok (some d, s') ∧
    locs d = [(1, 2), (1, 3), (1, 5)] ∧ s'.toks = [] := by
  simp [Read.nextDatum, Read.advance, Read.currentDatum, Read.listOrPair, Read.listLoop,
    Read.advanceUnwrap, Read.fuelFor, Read.snoc, Datum.withLoc, bind, Except.bind, pure, Except.pure]
  exact ⟨_, _, ⟨rfl, rfl⟩, rfl, rfl⟩

/-- an unexpected `)` is reported at that token -/
example : Read.nextDatum { toks := [⟨.rparen, some (1, 2)⟩], lexErr := none } =
    .error (.syntax, some (1, 2)) := by
  simp [Read.nextDatum, Read.advance, Read.currentDatum, Read.fuelFor, bind, Except.bind]

/-! ## 3. macro expansion: every position of an expansion is a position of the macro use -/

/-- The bindings produced by matching a pattern against the macro use are sub-data of the use:
every position inside a bound datum (first match or further ellipsis match) is a position inside
the use. -/
theorem match_bindings_locs {fuel : Nat} {lits : List String} {p : Macro.Pat} {use : Datum} {b : Bool}
    {σ : Macro.Subst} (h : Macro.matchDatum fuel lits p use [] = .ok (b, σ)) :
    ∀ v d more, (v, d, more) ∈ σ → LocsIn (locs use) d ∧ ∀ m ∈ more, LocsIn (locs use) m := by
  intro v d more hm
  have := Macro.matchDatum_locs (T := use.locs) h (fun _ h => h) (Macro.SubstIn.nil _) _ hm
  exact ⟨fun l hl => this.1 hl, fun m hm l hl => this.2 m hm hl⟩

example : ∃ σ, Macro.matchDatum 9 [] (.pair (.ident "x") .nil)
      (.pair (.sym "a" (some (1, 5))) (.nil none) (some (1, 2))) [] = .ok (true, σ) ∧
    σ = [("x", .sym "a" (some (1, 5)), [])] := ⟨_, rfl, rfl⟩

/-- Every datum BUILT from a template is located at `loc` (the position of the macro use); the
data substituted for pattern variables keep their own positions. Hence: if every binding of the
table has its positions in `T` and `loc` is in `T`, so has the instantiated template. -/
theorem expansion_locs {T : List Pos} {fuel : Nat} {t : Macro.Tmpl} {σ : Macro.Subst} {loc : Loc} {d : Datum}
    (hσ : ∀ v x more, (v, x, more) ∈ σ → LocsIn T x ∧ ∀ m ∈ more, LocsIn T m)
    (hl : ∀ l ∈ loc.toList, l ∈ T) (h : Macro.subst fuel t σ loc = some d) : LocsIn T d := by
  intro l hl'
  refine Macro.subst_locs (T := T) fuel t σ loc d ?_ hl h hl'
  intro e he
  exact ⟨fun l hl => (hσ e.1 e.2.1 e.2.2 he).1 l hl, fun m hm l hl => (hσ e.1 e.2.1 e.2.2 he).2 m hm l hl⟩

example : Macro.subst 5 (.list [(.ident "if", false), (.ident "x", false)])
    [("x", .sym "a" (some (1, 5)), [])] (some (1, 2)) =
    some (.pair (.sym "if" (some (1, 2))) (.pair (.sym "a" (some (1, 5))) (.nil none) none) (some (1, 2))) := rfl

/-- `Macro.transform`: every position in the expansion of a macro use is a position of the use —
never a position of the macro definition (`grammar.sld` or an earlier `define-syntax`): the rules
`r` (patterns and templates) carry no positions at all. -/
theorem transform_locs {fuel : Nat} {r : Macro.Rules} {use d : Datum}
    (h : Macro.transform fuel r use = .ok d) : LocsIn (locs use) d := by
  intro l hl
  exact Macro.transformRules_locs (T := use.locs) (fun _ h => h) r.rules d h hl

example : ∃ d, Macro.transform 20 ⟨[], [(.pair (.ident "x") .nil, .list [(.ident "f", false), (.ident "x", false)])]⟩
      (.pair (.sym "a" (some (1, 5))) (.nil none) (some (1, 2))) = .ok d ∧ locs d = [(1, 2), (1, 2), (1, 5)] :=
  ⟨_, rfl, rfl⟩

/-! ## 4. the transformer: every position of a statement is a position of its datum -/

/-- Every position in the statement `toStatement` returns — through arbitrarily many macro
expansions — is a position of the datum it was made from. -/
theorem xform_locs {fuel : Nat} {d : Datum} {env env' : Xform.SynEnv} {s : Statement}
    (h : Xform.toStatement fuel d env = (.ok s, env')) : LocsIn (locs d) s := by
  intro l hl
  exact (XformLoc.toStatement_locs (fuel := fuel) (d := d) (env := env)).1 s (by rw [h]) hl

/-- A located syntax error of the transformer is located inside the datum. -/
theorem xform_error_loc {fuel : Nat} {d : Datum} {env env' : Xform.SynEnv} {k : Err} {l : Pos}
    (h : Xform.toStatement fuel d env = (.error (k, some l), env')) : l ∈ locs d :=
  (XformLoc.toStatement_locs (fuel := fuel) (d := d) (env := env)).2 _ (by rw [h]) (by simp)

/-- The statement's own position (the fallback position of `eval_ast`) is a position of the
datum; for a form that is neither `(set! …)` nor a macro use it is the position of the datum
itself (the form's first token); for `(set! x e)` it is the position of `x`. -/
theorem xform_stmt_loc {fuel : Nat} {d : Datum} {env env' : Xform.SynEnv} {s : Statement}
    (h : Xform.toStatement fuel d env = (.ok s, env')) :
    (∀ l, s.loc = some l → l ∈ locs d) ∧
    (XformLoc.isSetOrMacroUse env d = false → s.loc = d.loc) ∧
    (∀ a rest l, d = .pair (.sym "set!" a) rest l →
      ∃ name tl, rest.elems.head? = some (.sym name tl) ∧ s.loc = tl.orElse (fun _ => l)) := by
  refine ⟨fun l hl => ?_, fun hd => XformLoc.toStatement_loc_eq (by rw [h]) hd, ?_⟩
  · apply xform_locs h
    exact mem_unrole.2 ⟨.node, Statement.loc_rlocs s (by simp [hl, Loc.as])⟩
  · rintro a rest l rfl
    exact XformLoc.toStatement_set_loc (by rw [h])

/-- `(let ((x 1)) (car x))` written at 3:1 …: a macro use; every position of the statement is a
position of the use, none of `grammar.sld` -/
example : ∃ s env', Xform.toStatement 100
      (.pair (.sym "my-if" (some (3, 2))) (.pair (.sym "a" (some (3, 8))) (.pair (.sym "b" (some (3, 10)))
        (.nil none) none) none) (some (3, 1)))
      [[("my-if", ⟨[], [(.pair (.ident "x") (.pair (.ident "y") .nil),
          .list [(.ident "if", false), (.ident "x", false), (.ident "y", false)])]⟩)]] = (.ok s, env') ∧
    s = .expr (.cond (.sym "a" (some (3, 8))) (.sym "b" (some (3, 10))) none (some (3, 1))) :=
  ⟨_, _, rfl, rfl⟩

/-- `(set! x 1)` at 1:1 is located at `x`, 1:7 -/
example : ∃ s env', Xform.toStatement 9 (.pair (.sym "set!" (some (1, 2))) (.pair (.sym "x" (some (1, 7)))
      (.pair (.prim (.int 1) (some (1, 9))) (.nil none) none) none) (some (1, 1))) [[]] = (.ok s, env') ∧
    s.loc = some (1, 7) := ⟨_, _, rfl, rfl⟩

/-- `(define 5)`: the syntax error is located at the `5` -/
example : ∃ env', Xform.toStatement 9 (.pair (.sym "define" (some (1, 2))) (.pair (.prim (.int 5) (some (1, 9)))
      (.nil none) none) (some (1, 1))) [[]] = (.error (.syntax, some (1, 9)), env') := ⟨_, rfl⟩

/-! ## 5. the evaluator -/

/-- A located error of the evaluator carries a position of the expression being evaluated or of the
code of a closure already in the store. -/
theorem eval_error_loc {n : Nat} {σ σ' : Store} {ρ : Nat} {e : Expr} {k : Err} {l : Pos}
    (h : evalExpr n σ ρ e = (.error (k, some l), σ')) : l ∈ locs e ∨ l ∈ locs σ := by
  rcases EvalLoc.evalExpr_located h with ⟨-, h⟩ | ⟨-, h⟩ <;>
    exact (mem_unrole_append (mem_unrole.2 ⟨_, h⟩)).symm

/-- a store holding a procedure `f` defined by an earlier form at line 1: `(define (f) y)` -/
def demoStore : Store :=
  { frames := #[{ parent := none,
                  defs := [("f", .closure (.mk ⟨[], none⟩ [] [.sym "y" (some (1, 13))]) 0)] }] }

/-- `(f)` at line 2 fails inside `f`: the error is located at the `y` of line 1 — a position of the
store (an earlier form), not of the expression -/
example : (evalExpr 9 demoStore 0 (.call (.sym "f" (some (2, 3))) [] (some (2, 2)))).1 =
      .error (.unbound, some (1, 13)) ∧
    (Role.ident, ((1, 13) : Pos)) ∈ demoStore.rlocs ∧ ((1, 13) : Pos) ∈ locs demoStore := by
  refine ⟨?_, by decide, by decide⟩
  exact eq_of_same (by decide +kernel)

/-- `(1)` at 2:2 — the operator `1` is at 2:3 -/
example : (evalExpr 9 demoStore 0 (.call (.prim (.int 1) (some (2, 3))) [] (some (2, 2)))).1 =
      .error (.nonProcedure, some (2, 3)) ∧
    (Role.operator, ((2, 3) : Pos)) ∈ (Expr.call (.prim (.int 1) (some (2, 3))) [] (some (2, 2))).rlocs := by
  refine ⟨?_, by decide⟩
  simp [evalExpr, evalArgs, evalPrim, procArity, Expr.loc]

/-- other faults are not located by the evaluator: `((lambda (x) x))`, an arity error -/
example : (evalExpr 9 demoStore 0 (.call (.lambda (.mk ⟨["x"], none⟩ [] [.sym "x" (some (2, 14))])
    (some (2, 3))) [] (some (2, 2)))).1 = .error (.arity, none) := by
  simp [evalExpr, evalArgs, applyProcedure, applyLoop, procArity, arityOk, Lambda.formals]

/-- Only unbound variables and non-procedures are ever located by the evaluator; every other
error (type, arity, division by zero, vector index, …) leaves `evalExpr` without a location. -/
theorem located_only_unbound_nonproc {n : Nat} {σ σ' : Store} {ρ : Nat} {e : Expr} {k : Err} {l : Pos}
    (h : evalExpr n σ ρ e = (.error (k, some l), σ')) : k = .unbound ∨ k = .nonProcedure := by
  rcases EvalLoc.evalExpr_located h with ⟨h, -⟩ | ⟨h, -⟩
  · exact Or.inl h
  · exact Or.inr h

/-- The position reported for an unbound variable is the position of an identifier: a variable
reference `x`, or the target of a `(set! x …)` (role `ident`), in the expression or in the code of
a closure of the store. -/
theorem unbound_loc_is_identifier {n : Nat} {σ σ' : Store} {ρ : Nat} {e : Expr} {l : Pos}
    (h : evalExpr n σ ρ e = (.error (.unbound, some l), σ')) :
    (Role.ident, l) ∈ e.rlocs ∨ (Role.ident, l) ∈ σ.rlocs := by
  rcases EvalLoc.evalExpr_located h with ⟨-, h⟩ | ⟨h, -⟩
  · exact (List.mem_append.1 h).symm
  · cases h

/-- The position reported for a non-procedure is the position of the operator expression of a
call (role `operator`; direct calls and trampolined tail calls alike). -/
theorem nonproc_loc_is_operator {n : Nat} {σ σ' : Store} {ρ : Nat} {e : Expr} {l : Pos}
    (h : evalExpr n σ ρ e = (.error (.nonProcedure, some l), σ')) :
    (Role.operator, l) ∈ e.rlocs ∨ (Role.operator, l) ∈ σ.rlocs := by
  rcases EvalLoc.evalExpr_located h with ⟨h, -⟩ | ⟨-, h⟩
  · cases h
  · exact (List.mem_append.1 h).symm

/-- the three places where the evaluator attaches a position, exactly -/
theorem unbound_at_the_symbol {n : Nat} {σ : Store} {ρ : Nat} {s : String} {loc : Loc}
    (h : σ.lookup ρ s = none) : evalExpr (n + 1) σ ρ (.sym s loc) = (.error (.unbound, loc), σ) := by
  simp [evalExpr, h]

theorem unbound_at_the_assigned_identifier {n : Nat} {σ σ₁ : Store} {ρ : Nat} {x : String} {e : Expr}
    {v : Value} {loc : Loc} (he : evalExpr n σ ρ e = (.ok v, σ₁)) (h : σ₁.resolve ρ x = none) :
    evalExpr (n + 1) σ ρ (.assign x e loc) = (.error (.unbound, loc), σ₁) := by
  simp [evalExpr, he, Store.set, h]

theorem nonproc_at_the_operator {n : Nat} {σ σ₁ σ₂ : Store} {ρ : Nat} {f : Expr} {args : List Expr}
    {v : Value} {vs : List Value} {loc : Loc} (hf : evalExpr n σ ρ f = (.ok v, σ₁))
    (ha : evalArgs n σ₁ ρ args = (.ok vs, σ₂)) (hv : procArity v = none) :
    evalExpr (n + 1) σ ρ (.call f args loc) = (.error (.nonProcedure, f.loc), σ₂) := by
  simp [evalExpr, hf, ha, hv]

/-- `(set! x 1)` with `x` unbound, the assignment located at `x` (1:7) -/
example : (evalExpr 2 {} 0 (.assign "x" (.prim (.int 1) (some (1, 9))) (some (1, 7)))).1 =
    .error (.unbound, some (1, 7)) := by
  simp [evalExpr, evalPrim, Store.set, Store.resolve, Store.resolveAux]

/-- Values created while evaluating `e` carry only code positions (with their roles) from `e` or
from the closures that were already in the store. -/
theorem store_locs_grow {n : Nat} {σ σ' : Store} {ρ : Nat} {e : Expr} {r : Except SErr Value}
    (h : evalExpr n σ ρ e = (r, σ')) :
    (∀ x ∈ σ'.rlocs, x ∈ σ.rlocs ∨ x ∈ e.rlocs) ∧ (∀ l ∈ locs σ', l ∈ locs σ ∨ l ∈ locs e) ∧
      ∀ v, r = .ok v → ∀ l ∈ locs v, l ∈ locs σ ∨ l ∈ locs e := by
  have hp := EvalLoc.evalExpr_post h
  refine ⟨fun x hx => List.mem_append.1 (sIn_iff.1 hp.1 hx),
    fun l hl => mem_unrole_append (unrole_subset (sIn_iff.1 hp.1) hl), fun v hv l hl => ?_⟩
  obtain ⟨r, hr⟩ := mem_unrole.1 hl
  exact mem_unrole_append (mem_unrole.2 ⟨r, hp.2.1 v hv hr⟩)

/-! ## 6. library sources carry no positions -/

/-- The code of a library read from a source text (`grammar.sld`-expanded `base.sld`, or a user's
`.sld` file) carries no position at all: the data are stripped before they are transformed. -/
theorem library_code_unlocated {name : LibName} {text : String} {decls : List LibDecl}
    (h : factoryOfText name text = .ok (.ast decls)) : locs decls = [] :=
  congrArg unrole (InterpLoc.factoryOfText_clean h)

/-- Hence instantiating such a library adds no position to the interpreter state: afterwards
every position of the state was there before, and the exported values carry only positions that
were there before (none, for a state built from bundled sources only). -/
theorem library_instance_unlocated {fuel : Nat} {st st' : State} {decls : List LibDecl}
    {r : Except SErr (List (String × Value))} (hd : locs decls = [])
    (h : evalLibraryDef fuel st decls = (r, st')) :
    (∀ l ∈ locs st', l ∈ locs st) ∧ (∀ defs, r = .ok defs → ∀ kv ∈ defs, ∀ l ∈ locs kv.2, l ∈ locs st) := by
  have hd' : LibDecl.rlocsList decls ⊆ st.rlocs := by
    rw [unrole_eq_nil (L := LibDecl.rlocsList decls) (by rw [show unrole _ = locs decls from rfl, hd]; simp)]
    simp
  have i := InterpLoc.evalLibraryDef_in h (InterpLoc.stIn_iff.2 (fun _ h => h)) hd'
  refine ⟨fun l hl => unrole_subset (InterpLoc.stIn_iff.1 i.1) hl, fun defs hr kv hkv l hl => ?_⟩
  exact unrole_subset (i.2.1 defs hr kv hkv) hl

/-- `factoryOfText` on a text that lexes without error: only the tokens matter, not their positions -/
private theorem factoryOfText_of_tokens {name : LibName} {text : String} {ts : List Token}
    (h : (Lex.all text.toList).1.map (·.tok) = ts ∧ (Lex.all text.toList).2 = none) :
    factoryOfText name text = factoryOfText.go name (ts.length + 1)
      { toks := ts.map (⟨·, none⟩), lexErr := none } [[], grammarScope] := by
  unfold factoryOfText
  simp only [Read.ofText, h.2, ← h.1, List.map_map, List.length_map]
  rfl

/-- the tokens of `(define-library (m))` -/
private def libToks : List Token :=
  [.lparen, .ident "define-library", .lparen, .ident "m", .rparen, .rparen]
private def libLayout : List (List Char) := [[], [], [' '], [], [], [], []]

private theorem libToks_text : Text.interleave libToks libLayout = "(define-library (m))".toList := by
  decide +kernel
private theorem libToks_layout : Text.ValidLayout libToks libLayout := by decide +kernel
private theorem libToks_supported : ∀ t ∈ libToks, Text.SupportedTok t := by
  intro t ht
  simp only [libToks, List.mem_cons, List.not_mem_nil, or_false] at ht
  rcases ht with rfl | rfl | rfl | rfl | rfl | rfl
  · trivial
  · exact Or.inl (by decide +kernel)
  · trivial
  · exact Or.inl (by decide +kernel)
  · trivial
  · trivial

/-- a library source that `factoryOfText` accepts: `(define-library (m))` -/
example : factoryOfText [.ident "m"] "(define-library (m))" = .ok (.ast []) := by
  have lex_lib := Text.all_render libToks libLayout libToks_supported libToks_layout
  rw [libToks_text] at lex_lib
  have read_lib : ∃ s', Read.nextDatum { toks := libToks.map (⟨·, none⟩), lexErr := none } =
      .ok (some (.pair (.sym "define-library" none) (.pair (.pair (.sym "m" none) (.nil none) none)
        (.nil none) none) none), s') := by
    simp [libToks, Read.nextDatum, Read.advance, Read.currentDatum, Read.fuelFor, Read.listOrPair,
      Read.listLoop, Read.advanceUnwrap, Read.snoc, Datum.withLoc, bind, Except.bind, pure, Except.pure]
  obtain ⟨s', h1⟩ := read_lib
  rw [factoryOfText_of_tokens lex_lib, factoryOfText.go, h1]
  rfl

/-- the mechanism on the datum of `(define-library (m) (begin (define (f) y)))` as the reader
delivers it for a text at line 1: stripped, then transformed — no position is left -/
example : ∃ n decls l env', Xform.toStatement 100
      (Datum.strip (.pair (.sym "define-library" (some (1, 16))) (.pair (.pair (.sym "m" (some (1, 19))) (.nil none) (some (1, 18)))
        (.pair (.pair (.sym "begin" (some (1, 27))) (.pair (.pair (.sym "define" (some (1, 35)))
          (.pair (.pair (.sym "f" (some (1, 38))) (.nil none) (some (1, 37))) (.pair (.sym "y" (some (1, 41))) (.nil none) none) none)
          (some (1, 29))) (.nil none) none) (some (1, 22))) (.nil none) none) none) (some (1, 2)))) [[]] =
      (.ok (.libraryDef n decls l), env') ∧ locs decls = [] :=
  ⟨_, _, _, _, rfl, rfl⟩

/-- instantiating the empty library -/
example : (evalLibraryDef 2 {} []).1 = .ok [] := by
  simp [evalLibraryDef, evalLibDecls, Store.newFrame]; rfl

/-! ## 7–8. `eval_ast`: the position reported for a failing top-level form -/

/-- an error that arose while READING a library source (`factoryOfText`): its position, if any,
refers to the library text — the one kind of position that is not a position of the program.
(With `Lexer::without_locations` only the lexer's own errors are still located.) -/
abbrev LibReadErr (e : SErr) : Prop := InterpLoc.LibReadErr e

/-- The exact shape of every error `eval_ast` reports for a statement `s`: either it carries the
statement's own position `s.loc` (the fallback for errors that had none), or a position `l` that
 * for an unbound variable is the position of an identifier (`ident`) of `s` or of code already in
   the state, or of an export spec of a library definition in the state,
 * for a non-procedure is the position of an operator of `s` or of code already in the state,
 * for a cyclic import or a missing library is the position of a library name in an import
   declaration of `s` or of a library definition in the state,
or it is an error from reading a library source. -/
theorem error_kind_and_position {fuel : Nat} {st st' : State} {s : Statement} {k : Err} {loc : Loc}
    (h : evalAst fuel st s = (.error (k, loc), st')) :
    loc = s.loc ∨ ∃ l, loc = some l ∧
      ((k = .unbound ∧ ((Role.ident, l) ∈ st.rlocs ++ s.rlocs ∨ (Role.export, l) ∈ st.rlocs ++ s.rlocs)) ∨
       (k = .nonProcedure ∧ (Role.operator, l) ∈ st.rlocs ++ s.rlocs) ∨
       ((k = .cyclic ∨ k = .libNotFound) ∧ (Role.libname, l) ∈ st.rlocs ++ s.rlocs) ∨
       LibReadErr (k, some l)) := by
  have i := InterpLoc.evalAst_post h
  obtain ⟨loc0, hk, rfl⟩ := i.2 k loc rfl
  cases loc0 with
  | none => left; cases s.loc <;> rfl
  | some l => right; exact ⟨l, rfl, hk l rfl⟩

/-- `located_errors_are_in_form_for_other_kinds`: an error of any kind other than unbound
variable, non-procedure, cyclic import or missing library (and not raised while reading a library
source) is reported exactly at the statement's own position — the position of the form. -/
theorem located_errors_are_in_form_for_other_kinds {fuel : Nat} {st st' : State} {s : Statement}
    {k : Err} {loc : Loc} (h : evalAst fuel st s = (.error (k, loc), st'))
    (h1 : k ≠ .unbound) (h2 : k ≠ .nonProcedure) (h3 : k ≠ .cyclic) (h4 : k ≠ .libNotFound)
    (h5 : ∀ l, ¬ LibReadErr (k, some l)) : loc = s.loc := by
  rcases error_kind_and_position h with h | ⟨l, -, h | h | h | h⟩
  · exact h
  · exact absurd h.1 h1
  · exact absurd h.1 h2
  · rcases h.1 with h | h
    · exact absurd h h3
    · exact absurd h h4
  · exact absurd h (h5 l)

/-- `(vector-ref (vector) 1)`-like faults: here `((lambda (x) x))` at 2:2, an arity error — reported
at the form -/
example : (evalAst 9 { store := demoStore } (.expr (.call (.lambda (.mk ⟨["x"], none⟩ [] [.sym "x" (some (2, 14))])
    (some (2, 3))) [] (some (2, 2))))).1 = .error (.arity, some (2, 2)) := by
  with_unfolding_all rfl

/-- after `eval_ast` on the statement made from `d` — success or failure — the state holds positions
of `T` (where they were before) and of `d` only -/
private theorem evalAst_state_locs {T : List Pos} {fuel₀ fuel : Nat} {d : Datum} {env env' : Xform.SynEnv}
    {s : Statement} {st st' : State} {r : Except SErr (Option Value)}
    (hx : Xform.toStatement fuel₀ d env = (.ok s, env')) (hst : LocsIn T st)
    (h : evalAst fuel st s = (r, st')) : LocsIn (T ++ locs d) st' := fun l hl =>
  (List.mem_append.1 ((ProgLoc.evalAst_of_datum (by rw [hx]) h).1 hl)).elim
    (fun h => List.mem_append_left _ (hst l h)) (List.mem_append_right _)

/-- MAIN. Let `s` be the statement made from a top-level datum `d` of the program, evaluated in a
state all of whose code positions are in `T` (the positions of the EARLIER forms of the same text;
bundled and user libraries contribute none, `library_code_unlocated`). If `eval_ast` fails with
`(k, loc)` then
 * every reported position is a position of the failing form `d`, or of an earlier form (`T`) —
   or the error arose while reading a library source;
 * a position is reported whenever the statement has one (`xform_stmt_loc`: `s.loc = d.loc`,
   the form's first token, unless `d` is a `set!` or a macro use);
 * the state afterwards holds positions of `T` and of `d` only — the hypothesis for the next form. -/
theorem error_loc_in_failing_form {T : List Pos} {fuel₀ fuel : Nat} {d : Datum}
    {env env' : Xform.SynEnv} {s : Statement} {st st' : State} {k : Err} {loc : Loc}
    (hx : Xform.toStatement fuel₀ d env = (.ok s, env')) (hst : LocsIn T st)
    (h : evalAst fuel st s = (.error (k, loc), st')) :
    (∀ l, loc = some l → l ∈ locs d ∨ l ∈ T ∨ LibReadErr (k, some l)) ∧
    (s.loc ≠ none → loc ≠ none) ∧
    LocsIn (T ++ locs d) st' := by
  refine ⟨fun l hl => ?_, HLoc.evalAst_located h, evalAst_state_locs hx hst h⟩
  subst hl
  rcases (ProgLoc.evalAst_of_datum (by rw [hx]) h).2 k l rfl with h | ⟨ro, -, h⟩ | h
  · exact .inl h
  · exact .inr (.inl (hst l (mem_unrole.2 ⟨ro, h⟩)))
  · exact .inr (.inr h)

/-- A position OUTSIDE the failing form is reported only for an unbound variable or a non-procedure
inside a procedure defined by an earlier form (or, through library definitions held by the state,
for a cyclic / missing library or an error from reading a library source): every other fault is
reported inside the form that failed. -/
theorem outside_form_only_unbound_nonproc {fuel₀ fuel : Nat} {d : Datum} {env env' : Xform.SynEnv}
    {s : Statement} {st st' : State} {k : Err} {l : Pos}
    (hx : Xform.toStatement fuel₀ d env = (.ok s, env'))
    (h : evalAst fuel st s = (.error (k, some l), st')) (hl : l ∉ locs d) :
    k = .unbound ∨ k = .nonProcedure ∨ k = .cyclic ∨ k = .libNotFound ∨ LibReadErr (k, some l) := by
  rcases (ProgLoc.evalAst_of_datum (by rw [hx]) h).2 k l rfl with h' | ⟨ro, hk, -⟩ | h'
  · exact absurd h' hl
  · rcases Role.kinds_cases hk with ⟨-, h | h⟩ | ⟨-, h | h⟩
    · exact .inl h
    · exact .inr (.inl h)
    · exact .inr (.inr (.inl h))
    · exact .inr (.inr (.inr (.inl h)))
  · exact .inr (.inr (.inr (.inr h')))

/-- a fault inside a procedure defined by an earlier form: `(f)` at line 2, `f` defined at line 1
as `(define (f) y)`; the position reported, 1:13, is a position of the state (`T`), i.e. of the
earlier form of the same text -/
example : (evalAst 9 { store := demoStore } (.expr (.call (.sym "f" (some (2, 3))) [] (some (2, 2))))).1 =
    .error (.unbound, some (1, 13)) := by
  exact eq_of_same (by decide +kernel)

/-! ## whole programs -/

/-- `Interpreter::eval` on a program text, form after form: a reported position is a position of
code the state already held (none after `new_with_stdlib`, see below), or the cursor reached after
some prefix of the PROGRAM TEXT — never beyond the end of the file —, or the error arose while
reading a library source. Syntax errors (lexer, reader, transformer) are included. -/
theorem program_error_loc {fuel : Nat} {st st' : State} {text : List Char} {k : Err} {l : Pos}
    (h : evalText fuel st text = (.error (k, some l), st')) :
    l ∈ locs st ∨ (∃ pre, pre <+: text ∧ l = Text.advs pre (1, 1)) ∨ LibReadErr (k, some l) :=
  ProgLoc.evalText_loc h

/-- `evalText` on a text whose first datum is `d`: transform `d`, evaluate the statement, go on -/
private theorem evalText_first {fuel : Nat} {st : State} {text : List Char} {d : Datum} {s' : Read.PState}
    (hr : Read.nextDatum (Read.ofText text) = .ok (some d, s')) :
    evalText fuel st text =
      match FrontSpec.evalForm fuel st d with
      | (.error e, st') => (.error e, st')
      | (.ok v, st') => evalText.go fuel (Read.ofText text).toks.length s' st' v :=
  evalText_go_form fuel _ st none hr

/-- the one datum of the text `⏎x`: the identifier, located at 2:2 -/
private theorem read_x : Read.nextDatum (Read.ofText ['\n', 'x']) = .ok (some (.sym "x" (some (2, 2))),
    { toks := [], lexErr := none, cur := none, loc := some (2, 2) }) := by
  have lex_x : Lex.all ['\n', 'x'] = ([⟨.ident "x", some (2, 2)⟩], none) := by
    simp [Lex.all, Lex.allAux, Lex.next, Lex.skipAtmosphere, Lex.token, Lex.adv, Lex.isWs,
      Lex.normalIdentifier, Lex.takeRun, Lex.isDigit, Except.map]
  simp [Read.ofText, lex_x, Read.nextDatum, Read.advance, Read.currentDatum, Read.fuelFor, bind,
    Except.bind]

/-- the program `⏎x` (an unbound variable on line 2) in an interpreter without bindings: the error is
reported at 2:2, the cursor after the whole text -/
example : (evalText 9 {} ['\n', 'x']).1 = .error (.unbound, some (2, 2)) ∧
    Text.advs ['\n', 'x'] (1, 1) = (2, 2) := by
  refine ⟨?_, by decide⟩
  rw [evalText_first read_x]
  with_unfolding_all rfl

/-- For the interpreter as the CLI and the harness build it (`default()` or `new_with_stdlib()`):
its state holds no position at all, so every position it reports for a program is a cursor inside
the program text (or stems from reading a user library source). -/
theorem stdlib_program_error_loc {fuel f : Nat} {withHost : Bool} {st' : State} {text : List Char}
    {k : Err} {l : Pos}
    (h : evalText fuel (withStdlib f withHost) text = (.error (k, some l), st')) :
    (∃ pre, pre <+: text ∧ l = Text.advs pre (1, 1)) ∨ LibReadErr (k, some l) := by
  rcases program_error_loc h with h | h
  · rw [show locs (withStdlib f withHost) = [] from congrArg unrole (ProgLoc.withStdlib_unlocated f withHost)] at h
    cases h
  · exact h

/-- the same program `⏎x` in `Interpreter::default()` (`withStdlib 0` = nothing imported yet) -/
example : (evalText 9 (withStdlib 0 false) ['\n', 'x']).1 = .error (.unbound, some (2, 2)) := by
  rw [evalText_first read_x]
  with_unfolding_all rfl


theorem default_state_unlocated (withHost : Bool) (f : Nat) :
    locs (default_ withHost) = [] ∧ locs (withStdlib f withHost) = [] :=
  ⟨congrArg unrole (ProgLoc.default_unlocated withHost), congrArg unrole (ProgLoc.withStdlib_unlocated f withHost)⟩

/-! ## every run-time error carries a position -/

/-- The reader gives a position to every datum it reads and to every element inside it
(`Datum.HL`: every car, improper tail and vector element, recursively; only the inner cells of a
list's spine have none), provided every token has one — and every token of `Lex.all` has. -/
theorem reader_data_located {s s' : Read.PState} {d : Datum} (h : Read.nextDatum s = .ok (some d, s'))
    (ht : ∀ t ∈ s.toks, t.loc ≠ none) : d.HL ∧ ∀ t ∈ s'.toks, t.loc ≠ none :=
  HLoc.nextDatum_hl h ht

theorem lexer_tokens_located (cs : List Char) : ∀ t ∈ (Read.ofText cs).toks, t.loc ≠ none :=
  HLoc.ofText_tokLoc cs

/-- Macro expansion keeps data located: the expansion of a located macro use is located (built data
take the position of the use, substituted data are elements of the use). -/
theorem expansion_located {fuel : Nat} {r : Macro.Rules} {use d : Datum}
    (h : Macro.transform fuel r use = .ok d) (hu : use.HL) : d.HL :=
  HLoc.transformRules_hl hu r.rules d h

/-- The statement made from a located datum — through any number of expansions — has a position. -/
theorem stmt_located {fuel : Nat} {d : Datum} {env env' : Xform.SynEnv} {s : Statement}
    (h : Xform.toStatement fuel d env = (.ok s, env')) (hd : d.HL) : s.loc ≠ none :=
  HLoc.stmt_loc_some fuel d hd env s (by rw [h])

/-- EVERY run-time error carries a position: one round of `Interpreter::eval` — read a datum from
located tokens, transform it, evaluate the statement — never fails in the evaluator without
reporting a line and a column. -/
theorem runtime_error_is_located {s s' : Read.PState} {d : Datum} {fuel₀ fuel : Nat}
    {env env' : Xform.SynEnv} {stmt : Statement} {st st' : State} {k : Err} {loc : Loc}
    (ht : ∀ t ∈ s.toks, t.loc ≠ none) (hr : Read.nextDatum s = .ok (some d, s'))
    (hx : Xform.toStatement fuel₀ d env = (.ok stmt, env'))
    (h : evalAst fuel st stmt = (.error (k, loc), st')) : ∃ l, loc = some l :=
  Option.ne_none_iff_exists'.1 (HLoc.evalAst_located h (stmt_located hx (reader_data_located hr ht).1))

/-- one round on the token `x` located at 2:2 -/
example : ∃ d stmt env',
    (Read.nextDatum { toks := [⟨.ident "x", some (2, 2)⟩], lexErr := none }).toOption.map (·.1) = some (some d) ∧
    Xform.toStatement 9 d [[]] = (.ok stmt, env') ∧
    (evalAst 9 {} stmt).1 = .error (.unbound, some (2, 2)) := by
  refine ⟨.sym "x" (some (2, 2)), _, _, ?_, rfl, ?_⟩
  · simp [Read.nextDatum, Read.advance, Read.currentDatum, Read.fuelFor, bind, Except.bind, Except.toOption]
  · simp [evalAst, evalExprOrDef, Eval.evalExpr, Store.lookup, Store.lookupAux, Datum.loc]

/-- For a whole program: if `Interpreter::eval` reports an error WITHOUT a position, the error was
raised by the reader or by the transformer (a syntax error; or the model ran out of fuel) — never by
the evaluation of a form. -/
theorem unlocated_error_is_syntax_stage {fuel : Nat} {st st' : State} {text : List Char} {k : Err}
    (h : evalText fuel st text = (.error (k, none), st')) : k = .fuel ∨ HLoc.SyntaxStage k := by
  unfold evalText at h
  exact HLoc.evalText_go_located fuel _ _ _ _ k st' (HLoc.ofText_tokLoc text) h

/-- the program `()`: an error without position — raised by the transformer (`EmptyCall`) -/
example : (evalText 9 {} ['(', ')']).1 = .error (.syntax, none) := by
  have read_unit : ∃ s', Read.nextDatum (Read.ofText ['(', ')']) = .ok (some (.nil (some (1, 2))), s') := by
    simp [Read.ofText, lex_unit, Read.nextDatum, Read.advance, Read.currentDatum, Read.fuelFor,
      Read.listOrPair, Read.listLoop, Read.advanceUnwrap, Datum.withLoc, bind, Except.bind, pure,
      Except.pure]
  obtain ⟨s', h⟩ := read_unit
  rw [evalText_first h]
  with_unfolding_all rfl

/-- the data the reader delivers for `(a . (b))`-like texts are located at every element; a bare
spine cell is not: `(x y)` located at its head only is head-located, its tail `(y)` is not -/
example : (Datum.pair (.sym "x" (some (1, 2))) (.pair (.sym "y" (some (1, 4))) (.nil none) none) (some (1, 1))).HL ∧
    ¬ (Datum.pair (.sym "y" (some (1, 4))) (.nil none) none).HL := by
  simp [Datum.HL, Datum.TL]

end Ruschm.C15
