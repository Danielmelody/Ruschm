/-
Positions through the transformer: every position of the statement is a position of the datum (the instance
`locs_hered` of `XM.Hered`, then a walk from `Made` to `rlocs`); where the statement itself is located
(`toStatement_loc`); library sources carry no position.
-/
import RuschmProofs.LocData
import RuschmProofs.XformMade
import RuschmProofs.LoaderStep

namespace Ruschm

/-! ## errors of the macro machinery -/

namespace Macro

theorem match_err_aux (lits : List String) (n : Nat) :
    (∀ p d σ e, matchDatum n lits p d σ = .error e → e.2 = none) ∧
    (∀ ps ds mm σ e, matchStream n lits ps ds mm σ = .error e → e.2 = none) :=
  have err : ∀ {k : Err} e, (.error (k, none) : Outcome) = .error e → e.2 = none :=
    fun _ h => by cases h; rfl
  have ok : ∀ {r : Bool × Subst} e, (.ok r : Outcome) = .error e → e.2 = none := nofun
  match_induct (lits := lits)
    (D := fun _ _ _ _ r => ∀ e, r = .error e → e.2 = none)
    (S := fun _ _ _ _ _ r => ∀ e, r = .error e → e.2 = none)
    (zeroD := err) (zeroS := err) (under := ok) (ell := ok) (var := fun _ => ok)
    (lit := fun _ => ok) (prim := ok) (vec := id) (vecNo := fun _ => ok)
    (listNo := fun _ _ => ok) (listStop := fun _ _ ih _ => ih)
    (listTails := fun _ _ _ _ _ ih => ih) (listEnd := fun _ _ _ _ _ => ok)
    (listOdd := fun _ _ _ _ => ok) (nilNil := ok) (nilCons := ok)
    (consNil := fun _ => ok) (ellNil := id) (stop := fun _ ih _ => ih)
    (step := fun _ _ ih => ih) (ellOne := err) (ellNone := err) (ellErr := id)
    (ellFail := fun _ => ok) (ellPanic := fun _ _ => err) (ellStay := fun _ _ ih _ => ih)
    (ellOver := fun _ _ _ ih => ih) n

theorem transformRules_err {fuel : Nat} {lits : List String} {use : Datum}
    (rules : List (Pat × Tmpl)) (e : SErr) (h : transformRules fuel lits rules use = .error e) :
    e.2 = none := by
  rcases transformRules_error h with rfl | rfl | ⟨r, _, hm⟩
  · rfl
  · rfl
  · exact (match_err_aux lits fuel).1 _ _ _ _ hm

/-! ### building the rules of a `define-syntax` -/

theorem Inside.locs {x d : Datum} (h : Inside x d) : x.locs ⊆ d.locs := by
  induction h with
  | here => exact fun _ h => h
  | elem hy _ ih => exact ih.trans (Datum.elems_locs hy)
  | vec hy _ ih =>
    exact ih.trans ((Datum.locs_subset_locsList hy).trans (List.subset_append_right _ _))

theorem none_sub {T : List Pos} {e : SErr} (h : e.2 = none) : e.2.toList ⊆ T := by simp [h]

theorem FrontErr.locs {d : Datum} {e : SErr} (h : FrontErr d e) : e.2.toList ⊆ d.locs := by
  rcases h with rfl | ⟨x, hx, rfl⟩
  · exact none_sub rfl
  · exact (Datum.loc_subset x).trans hx.locs

theorem collectElems_err : ∀ (xs : List Datum) (last : Option Tmpl) (e : SErr),
    collectElems xs last = .error e → e.2.toList ⊆ Datum.locsList xs := by
  have key : ∀ {xs : List Datum} {e}, tmplElems xs = .error e → e.2.toList ⊆ Datum.locsList xs :=
    fun h => by
      obtain ⟨x, hx, hr⟩ := tmplElems_frontErr (fun x _ => toTmpl_error x) h
      exact hr.locs.trans (Datum.locs_subset_locsList hx)
  intro xs last e h
  cases last with
  | none => exact key ((collectElems_spec xs).1 ▸ h)
  | some p =>
    rw [(collectElems_spec xs).2 p] at h
    split at h
    · split at h
      · exact (key (map_error h)).trans (by simp [Datum.locsList])
      · exact key (map_error h)
    · cases h

theorem collectSpine_err : ∀ (d : Datum) (last : Option Tmpl) (e : SErr),
    collectSpine d last = .error e → e.2.toList ⊆ d.locs :=
  fun d last e h => (collectElems_err _ last e (collectSpine_eq d last ▸ h)).trans
    (Datum.locsList_subset.2 fun _ hx => Datum.elems_locs hx)

end Macro

/-! ## the transformer: every position of the statement is a position of the datum -/

namespace XformLoc
open Xform

/-- the positions of `L`, whatever their roles, are in `T`: `unrole L ⊆ T` (`rIn_iff`), in the form in which it
splits over `++` by `simp` -/
def RIn (T : List Pos) (L : List RPos) : Prop := ∀ x ∈ L, x.2 ∈ T

variable {T : List Pos}

theorem rIn_iff {L : List RPos} : RIn T L ↔ unrole L ⊆ T := List.forall_mem_map.symm
@[simp] theorem rIn_nil : RIn T [] := by simp [RIn]
@[simp] theorem rIn_append {a b : List RPos} : RIn T (a ++ b) ↔ RIn T a ∧ RIn T b := by
  simp [RIn, or_imp, forall_and]
@[simp] theorem rIn_as {r : Role} {l : Loc} : RIn T (l.as r) ↔ l.toList ⊆ T := by
  cases l <;> simp [RIn, Loc.as]
@[simp] theorem rIn_map {r : Role} {ls : List Pos} : RIn T (ls.map (fun p => (r, p))) ↔ ls ⊆ T :=
  List.forall_mem_map

/-- not used; it is `XM.bind_def` -/
theorem bind_def {α β} (m : XM α) (f : α → XM β) (s : SynEnv) :
    (m >>= f) s = match m s with
      | (.ok a, s') => f a s'
      | (.error e, s') => (.error e, s') := XM.bind_def m f s

theorem locs_hered (T : List Pos) : XM.Hered (fun e => e.2.toList ⊆ T) (fun _ => True)
    (·.toList ⊆ T) (·.locs ⊆ T) where
  failS := List.nil_subset _
  failF := List.nil_subset _
  err h := h
  loc h := (Datum.loc_subset _).trans h
  pair h := by simp only [Datum.locs, List.append_subset] at h; exact h
  parts := Macro.locsIn_elemClosed T
  withLoc := Datum.withLoc_locs_subset
  rules hs := ⟨fun _ _ => trivial, fun _ he => (Macro.toRules_error he).locs.trans hs⟩
  expand _ hu := ⟨fun _ hx => Macro.transformRules_locs hu _ _ hx,
    fun e he => Macro.none_sub (Macro.transformRules_err _ e he)⟩

/-! code made of located data at positions of `T` has its positions in `T` -/

mutual
theorem rIn_expr : ∀ (e : Expr), e.Made (·.toList ⊆ T) (·.locs ⊆ T) → RIn T e.rlocs
  | .sym _ l, h | .prim _ l, h => by have h : l.toList ⊆ T := h; simp [Expr.rlocs, h]
  | .assign _ e _, h => by simp [Expr.rlocs, h.1, rIn_expr e h.2]
  | .lambda lam _, h => by simp [Expr.rlocs, h.1, rIn_lambda lam h.2]
  | .call f args _, h => by simp [Expr.rlocs, h.1, h.2.1.1, rIn_expr f h.2.1.2, rIn_exprs args h.2.2]
  | .cond t c a _, h => by
    simp [Expr.rlocs, h.1, rIn_expr t h.2.1, rIn_expr c h.2.2.1, rIn_exprOpt a h.2.2.2]
  | .quote _ _, h | .datum _ _, h => by simp [Expr.rlocs, h.1, h.2]
theorem rIn_exprOpt : ∀ (a : Option Expr), Expr.MadeOpt (·.toList ⊆ T) (·.locs ⊆ T) a →
    RIn T (Expr.rlocsOpt a)
  | none, _ => by simp [Expr.rlocsOpt]
  | some e, h => by simpa [Expr.rlocsOpt] using rIn_expr e h
theorem rIn_exprs : ∀ (es : List Expr), Expr.MadeList (·.toList ⊆ T) (·.locs ⊆ T) es →
    RIn T (Expr.rlocsList es)
  | [], _ => by simp [Expr.rlocsList]
  | e :: es, h => by simp [Expr.rlocsList, rIn_expr e h.1, rIn_exprs es h.2]
theorem rIn_lambda : ∀ (lam : Lambda), lam.Made (·.toList ⊆ T) (·.locs ⊆ T) → RIn T lam.rlocs
  | .mk _ defs body, h => by simp [Lambda.rlocs, rIn_defs defs h.1, rIn_exprs body h.2.1]
theorem rIn_def : ∀ (d : Def), d.Made (·.toList ⊆ T) (·.locs ⊆ T) → RIn T d.rlocs
  | .mk _ e _, h => by simp [Def.rlocs, h.1, rIn_expr e h.2]
theorem rIn_defs : ∀ (ds : List Def), Def.MadeList (·.toList ⊆ T) (·.locs ⊆ T) ds →
    RIn T (Def.rlocsList ds)
  | [], _ => by simp [Def.rlocsList]
  | d :: ds, h => by simp [Def.rlocsList, rIn_def d h.1, rIn_defs ds h.2]
end

theorem ImportSet.locs_of_made : ∀ (s : ImportSet), s.Made (·.toList ⊆ T) → s.locs ⊆ T
  | .direct _ _, h => h
  | .only s _, h | .except s _, h | .prefix s _, h | .rename s _, h => locs_of_made s h

theorem rIn_importSets {sets : List ImportSet} (h : ∀ s ∈ sets, s.Made (·.toList ⊆ T)) :
    RIn T (ImportSet.rlocsList sets) := by
  simp only [ImportSet.rlocsList, rIn_map]
  intro p hp
  obtain ⟨s, hs, hp⟩ := List.mem_flatMap.1 hp
  exact ImportSet.locs_of_made s (h s hs) hp

theorem rIn_exports {specs : List ExportSpec} (h : ∀ s ∈ specs, s.Made (·.toList ⊆ T)) :
    RIn T (specs.flatMap (fun s => s.loc.as .export)) := by
  intro x hx
  obtain ⟨s, hs, hx⟩ := List.mem_flatMap.1 hx
  have := h s hs
  cases s <;> exact rIn_as.2 this x hx

mutual
theorem rIn_stmt : ∀ (s : Statement), s.Made (·.toList ⊆ T) (·.locs ⊆ T) → RIn T s.rlocs
  | .importDecl sets _, h => by simp [Statement.rlocs, h.1, rIn_importSets h.2]
  | .definition d, h => by simpa [Statement.rlocs] using rIn_def d h
  | .syntaxDef _ _ l, h => by have h : l.toList ⊆ T := h; simp [Statement.rlocs, h]
  | .expr e, h => by simpa [Statement.rlocs] using rIn_expr e h
  | .libraryDef _ decls _, h => by simp [Statement.rlocs, h.1, rIn_decls decls h.2]
theorem rIn_stmts : ∀ (ss : List Statement), Statement.MadeList (·.toList ⊆ T) (·.locs ⊆ T) ss →
    RIn T (Statement.rlocsList ss)
  | [], _ => by simp [Statement.rlocsList]
  | s :: ss, h => by simp [Statement.rlocsList, rIn_stmt s h.1, rIn_stmts ss h.2]
theorem rIn_decl : ∀ (d : LibDecl), d.Made (·.toList ⊆ T) (·.locs ⊆ T) → RIn T d.rlocs
  | .importDecl sets, h => by simpa [LibDecl.rlocs] using rIn_importSets h
  | .export specs, h => by simpa [LibDecl.rlocs] using rIn_exports h
  | .begin_ body, h => by simpa [LibDecl.rlocs] using rIn_stmts body h
theorem rIn_decls : ∀ (ds : List LibDecl), LibDecl.MadeList (·.toList ⊆ T) (·.locs ⊆ T) ds →
    RIn T (LibDecl.rlocsList ds)
  | [], _ => by simp [LibDecl.rlocsList]
  | d :: ds, h => by simp [LibDecl.rlocsList, rIn_decl d h.1, rIn_decls ds h.2]
end

theorem toStatement_locs {fuel : Nat} {d : Datum} {env : SynEnv} :
    (∀ s, (toStatement fuel d env).1 = .ok s → unrole s.rlocs ⊆ d.locs) ∧
    (∀ e, (toStatement fuel d env).1 = .error e → e.2.toList ⊆ d.locs) := by
  have := ((locs_hered d.locs).all fuel).stmt d (fun _ h => h) env fun _ _ _ _ => trivial
  exact ⟨fun s hs => rIn_iff.1 (rIn_stmt s (this.ok s hs)), this.err⟩

/-! ### the position of the statement itself -/

theorem toCall_loc (n first args loc) : XM.Yields (toCall n first args loc) (fun e => e.loc = loc) := by
  cases n <;> rw [toCall]
  · exact .fail trivial
  · exact .skip fun _ => .skip fun _ => .pure rfl

theorem toLibrary_loc (n args loc) : XM.Yields (toLibrary n args loc) (fun s => s.loc = loc) := by
  cases n <;> rw [toLibrary]
  · exact .fail trivial
  · exact .skip fun _ => .skip fun _ => .skip fun _ => .skip fun _ => .pure rfl

def isSetOrMacroUse (env : SynEnv) : Datum → Bool
  | .pair (.sym kw _) _ _ => kw = "set!" || (env.get? kw).isSome
  | _ => false

/-- where the statement `s` made from `d` is located: for `(set! x e)` at `x` (at the form when `x`
carries no position); for any other form at the form, or, if the form is a use of a macro bound in
`env`, where the statement made from its expansion is -/
def StmtLoc (n : Nat) (env : SynEnv) (d : Datum) (s : Statement) : Prop :=
  (∃ a rest l name tl, d = .pair (.sym "set!" a) rest l ∧ rest.elems.head? = some (.sym name tl) ∧
    s.loc = tl.orElse (fun _ => l)) ∨
  (∀ a rest l, d ≠ .pair (.sym "set!" a) rest l) ∧ (s.loc = d.loc ∨
    ∃ kw lk b l rules x, d = .pair (.sym kw lk) b l ∧ env.get? kw = some rules ∧
      Macro.transform (Macro.matchFuel d + n) rules (b.withLoc l) = .ok x ∧
      (toStatement n x env).1 = .ok s)

theorem toStatement_loc (n : Nat) (d : Datum) :
    ∀ env s, (toStatement (n + 1) d env).1 = .ok s → StmtLoc n env d s := by
  have plain : ∀ {d : Datum} {m : XM Statement}, (∀ a rest l, d ≠ .pair (.sym "set!" a) rest l) →
      XM.Yields m (fun s => s.loc = d.loc) → ∀ env s, (m env).1 = .ok s → StmtLoc n env d s :=
    fun hne hm env s h => .inr ⟨hne, .inl ((hm env trivial).ok s h)⟩
  have form : ∀ {kw lk b l}, kw ≠ "set!" →
      ∀ a rest l', Datum.pair (.sym kw lk) b l ≠ .pair (.sym "set!" a) rest l' :=
    fun hk _ _ _ h => by cases h; exact hk rfl
  have kform : ∀ {k : Kw} {lk b l}, k ≠ .set →
      ∀ a rest l', Datum.pair (.sym k.name lk) b l ≠ .pair (.sym "set!" a) rest l' :=
    fun hk => form fun h => hk (Option.some.inj ((kwOf_name _).symm.trans (h ▸ kwOf_set)))
  have call : ∀ a b l, XM.Yields (callOf n a b.elems l) (fun s => s.loc = (Datum.pair a b l).loc) :=
    fun a b l => .bind (toCall_loc _ _ _ _) fun c hc => .pure hc
  refine toStatement_succ_cases (M := fun d m => ∀ env s, (m env).1 = .ok s → StmtLoc n env d s) n
    ?_ ?_ ?_ ?_ ?_ ?_ ?_ ?_ d
  · exact fun _ _ => plain (by simp) (.pure rfl)
  · exact fun _ _ => plain (by simp) (.pure rfl)
  · exact fun _ _ => plain (by simp) (.pure rfl)
  · exact fun _ => plain (by simp) (.fail trivial)
  · exact fun _ _ _ _ _ _ h => by cases h
  · intro k a b l
    cases k <;> dsimp only [formOf]
    · exact plain (kform (by decide)) (.skip fun _ => .pure rfl)
    · exact plain (kform (by decide)) (toLibrary_loc _ _ _)
    · exact plain (kform (by decide)) (.skip fun _ => .pure rfl)
    · refine plain (kform (by decide)) (.skip fun _ => .skip fun _ => .skip fun _ => .skip fun _ => ?_)
      split
      · exact .skip fun _ => .skip fun _ => .pure rfl
      · exact .skip fun _ => .pure rfl
    · exact plain (kform (by decide)) (.skip fun _ => .pure rfl)
    · exact plain (kform (by decide)) (.skip fun _ => .pure rfl)
    · intro env s h
      refine .inl ⟨a, b, l, ?_⟩
      refine (XM.Sat.bind (Q := fun s => ∃ name tl, b.elems.head? = some (.sym name tl) ∧
        s.loc = tl.orElse (fun _ => l)) (XM.Sat.need trivial) fun target ht => ?_ : XM.Yields _ _) env trivial
        |>.ok s h |>.imp fun name h => h.imp fun tl h => ⟨rfl, h⟩
      split
      · exact .skip fun _ => .skip fun _ => .pure ⟨_, _, ht, rfl⟩
      · exact .fail trivial
    · exact plain (kform (by decide)) (.skip fun _ => .skip fun _ => .skip fun _ => .skip fun _ =>
        .skip fun _ => .pure rfl)
  · intro kw lk b l hkw env s h
    have hne := form (lk := lk) (b := b) (l := l) (fun h : kw = "set!" => hkw (h ▸ Kw.name_mem .set))
    rw [useOf_run] at h
    cases hg : env.get? kw with
    | none => rw [hg] at h; exact plain hne (call _ b l) env s h
    | some rules =>
      rw [hg] at h
      cases ht : Macro.transform (Macro.matchFuel (.pair (.sym kw lk) b l) + n) rules (b.withLoc l) with
      | error e => simp only [ht] at h; cases h
      | ok x => simp only [ht] at h; exact .inr ⟨hne, .inr ⟨kw, lk, b, l, rules, x, rfl, hg, ht, h⟩⟩
  · exact fun a b l ha => plain (fun _ _ _ h => by cases h; exact ha _ _ rfl) (call a b l)

theorem toStatement_loc_eq {n : Nat} {d : Datum} {env : SynEnv} {s : Statement}
    (h : (toStatement n d env).1 = .ok s) (hd : isSetOrMacroUse env d = false) : s.loc = d.loc := by
  cases n with
  | zero => rw [toStatement] at h; cases h
  | succ n =>
    rcases toStatement_loc n d env s h with ⟨a, rest, l, _, _, rfl, _⟩ | ⟨_, h | ⟨kw, lk, b, l, r, x, rfl, hg, _⟩⟩
    · simp [isSetOrMacroUse] at hd
    · exact h
    · simp [isSetOrMacroUse, hg] at hd

theorem toStatement_set_loc {n : Nat} {a l : Loc} {rest : Datum} {env : SynEnv} {s : Statement}
    (h : (toStatement n (.pair (.sym "set!" a) rest l) env).1 = .ok s) :
    ∃ name tl, rest.elems.head? = some (.sym name tl) ∧ s.loc = tl.orElse (fun _ => l) := by
  cases n with
  | zero => rw [toStatement] at h; cases h
  | succ n =>
    rcases toStatement_loc n _ env s h with ⟨_, _, _, name, tl, hd, h⟩ | ⟨hne, _⟩
    · cases hd; exact ⟨name, tl, h⟩
    · exact absurd rfl (hne a rest l)

end XformLoc

/-! ## library sources carry no positions -/

namespace InterpLoc
open Interp

/-- the declarations come out of `toStatement` on a stripped datum -/
theorem factoryOfText_clean {name : LibName} {text : String} {f : Factory}
    (h : factoryOfText name text = .ok f) : f.rlocs = [] := by
  obtain ⟨decls, rfl, s, env, d, s', loc, env', -, -, hx⟩ := factoryOfText_ok h
  have := (XformLoc.toStatement_locs (fuel := Xform.xformFuel d.strip) (d := d.strip) (env := env)).1 _
    (by rw [hx])
  rw [Datum.strip_locs] at this
  have h0 := unrole_eq_nil this
  simp only [Statement.rlocs, List.append_eq_nil_iff] at h0
  simpa [Factory.rlocs] using h0.2

end InterpLoc

end Ruschm
