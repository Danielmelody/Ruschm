/-
The front end never panics, on any input: lexer, reader, pattern and template builders, transformer.
And it never makes a ratio `n/0`: the lexer rejects the literal, which is what later keeps
`exact_ratio` from its zero-denominator panic.
-/
import RuschmProofs.SafeVocab
import RuschmProofs.C04
import RuschmProofs.XformInduction
import RuschmProofs.ReadSpecLemmas
import RuschmProofs.LexToken

namespace Ruschm
open Ruschm

/-! ## the lexer rejects `n/0` -/

namespace Lex

theorem ite_some_ratOk {b : Bool} {t t' : Token} (ht : b = true → t'.ratOk = true)
    (h : (if b then some t' else none) = some t) : t.ratOk = true := by
  cases b with
  | false => cases h
  | true => cases h; exact ht rfl

theorem classifyNumber_ratOk {w : List Char} {t : Token} (h : LexSpec.classifyNumber w = some t) :
    t.ratOk = true := by
  unfold LexSpec.classifyNumber at h
  dsimp only at h
  cases hex : (LexSpec.unsigned w).dropWhile Char.isDigit with
  | nil => rw [hex] at h; exact ite_some_ratOk (fun _ => rfl) h
  | cons c r =>
    rw [hex] at h; dsimp only at h
    by_cases h1 : c = '/'
    · rw [if_pos h1] at h
      refine ite_some_ratOk (fun hb => ?_) h
      simp only [Bool.and_eq_true, decide_eq_true_eq] at hb
      simp only [Token.ratOk, Prim.ratOk, bne_iff_ne, ne_eq]
      omega
    · rw [if_neg h1] at h
      by_cases h2 : c = '.'
      · rw [if_pos h2] at h; exact ite_some_ratOk (fun _ => rfl) h
      · rw [if_neg h2] at h; exact ite_some_ratOk (fun _ => rfl) h

/-- a chunk without `#` in it: the `#` tokens have their own shapes in `Text.TokShape` -/
theorem classify_ratOk {w : List Char} {t : Token} (hw : Text.NoSpecial w) (h : LexSpec.classify w = some t) :
    t.ratOk = true := by
  cases w with
  | nil => cases h
  | cons c r =>
    have h1 : c ≠ '#' := fun e => hw c List.mem_cons_self (e ▸ (by decide : '#' ∈ Text.specials))
    rw [LexSpec.classify, if_neg h1] at h
    by_cases h2 : (c = '.' && r.isEmpty) = true
    · rw [if_pos h2] at h; cases h; rfl
    rw [if_neg h2] at h
    cases hn : LexSpec.classifyNumber (c :: r) with
    | some t' => rw [hn] at h; cases h; exact classifyNumber_ratOk hn
    | none =>
      rw [hn] at h
      simp only [Option.orElse, LexSpec.classifyIdent] at h
      exact ite_some_ratOk (fun _ => rfl) h

/-- a number is a classified chunk, and `LexSpec.classifyNumber` asks for a positive denominator -/
theorem next_ratOk {cs p t rest p'} (h : next cs p = .ok (some (t, rest, p'))) : t.ratOk = true := by
  obtain ⟨_, used, -, -, -, hs⟩ := Text.next_inv h
  cases hs with
  | word _ _ _ _ hc _ => exact classify_ratOk (hc trivial).1 (hc trivial).2
  | char _ _ _ ht _ _ =>
    match t, ht with
    | .prim (.bool _), _ => rfl
    | .prim (.chr _), _ => rfl
  | _ => rfl

theorem all_ratOk (cs : List Char) : ∀ t ∈ (all cs).1, t.tok.ratOk = true :=
  (Text.all_stream cs).forall (R := fun t => t.tok.ratOk = true) next_ratOk

end Lex

/-! ## the reader -/

mutual
theorem Datum.strip_ratOk : ∀ (d : Datum), d.strip.ratOk = d.ratOk
  | .prim _ _ => by simp [Datum.strip, Datum.ratOk]
  | .sym _ _ => by simp [Datum.strip, Datum.ratOk]
  | .pair a d _ => by simp [Datum.strip, Datum.ratOk, Datum.strip_ratOk a, Datum.strip_ratOk d]
  | .nil _ => by simp [Datum.strip, Datum.ratOk]
  | .vec xs _ => by simp [Datum.strip, Datum.ratOk, Datum.stripList_ratOk xs]
theorem Datum.stripList_ratOk : ∀ (ds : List Datum), Datum.ratOkList (Datum.stripList ds) = Datum.ratOkList ds
  | [] => by simp [Datum.stripList, Datum.ratOkList]
  | x :: xs => by simp [Datum.stripList, Datum.ratOkList, Datum.strip_ratOk x, Datum.stripList_ratOk xs]
end

@[simp] theorem Datum.ratOk_withLoc (l : Loc) (d : Datum) : (d.withLoc l).ratOk = d.ratOk := by
  rw [← Datum.strip_ratOk, Text.strip_withLoc, Datum.strip_ratOk]

namespace Read

theorem ratOk_pair (a d : Datum) (l : Loc) :
    (Datum.pair a d l).ratOk = true ↔ a.ratOk = true ∧ d.ratOk = true := by
  rw [Datum.ratOk, Bool.and_eq_true]

theorem ratOk_closed : Closed (fun t => t.tok.ratOk = true) (fun _ => True)
    (fun d => d.ratOk = true) (fun d => d.ratOk = true) where
  loc := fun _ => trivial
  prim := fun ht hp _ => by rw [hp] at ht; exact ht
  sym := fun _ => rfl
  nil := rfl
  snoc := fun ha hx =>
    snoc_closed (A := fun d => d.ratOk = true) (B := fun a _ => a.ratOk = true) ratOk_pair
      ((ratOk_pair ..).2 ⟨hx, rfl⟩) _ ha
  tail := fun ha hx =>
    setTail_closed (A := fun d => d.ratOk = true) (B := fun a _ => a.ratOk = true) ratOk_pair hx _ ha
  withLoc := fun ha _ => by rw [Datum.ratOk_withLoc]; exact ha
  relabel := fun hd _ => by rw [Datum.ratOk_withLoc]; exact hd
  vec := fun h _ => by rw [Datum.ratOk]; exact Datum.ratOkList_iff.2 h
  quote := fun hd _ => by simp [mkQuote, Datum.ratOk, hd]

structure PState.RatOK (s : PState) : Prop where
  toks : ∀ t ∈ s.toks, t.tok.ratOk = true
  cur : ∀ t, s.cur = some t → t.tok.ratOk = true

theorem peek_ratOk {s t} (h : peek s = .ok (some t)) (hs : s.RatOK) : t.tok.ratOk = true := by
  obtain ⟨rest, hk⟩ := peek_some h
  exact hs.toks t (by rw [hk]; exact List.mem_cons_self)

theorem nextDatum_ratOk {s v} (h : nextDatum s = .ok v) (hs : s.RatOK) :
    v.2.RatOK ∧ ∀ d, v.1 = some d → d.ratOk = true :=
  have := inv_nextDatum ratOk_closed (od := v.1) (s' := v.2) h hs.toks
  ⟨⟨this.1, this.2.1⟩, this.2.2⟩

theorem ofText_ratOK (cs : List Char) : (ofText cs).RatOK := by
  unfold ofText
  exact ⟨Lex.all_ratOk cs, by simp⟩

theorem allAux_ratOk (fuel : Nat) (s : PState) (acc : List Datum) (hs : s.RatOK)
    (hacc : ∀ d ∈ acc, d.ratOk = true) : ∀ d ∈ (allAux fuel s acc).1, d.ratOk = true :=
  (allAux_inv (E := fun _ => True) (fun h hs => nextDatum_ratOk h hs) (fun _ => trivial) fuel s acc hs hacc).1

theorem all_ratOk (cs : List Char) : ∀ d ∈ (all cs).1, d.ratOk = true :=
  allAux_ratOk _ _ _ (ofText_ratOK cs) (by simp)

/-! ### the reader never panics -/

theorem nextDatum_np {s e} (h : nextDatum s = .error e) : e.NP := by
  rcases ReadSpec.nextDatum_errOK h with rfl | ⟨he, -⟩ <;> intro x hx
  · cases hx
  · rw [he] at hx; cases hx

theorem allAux_np (fuel : Nat) (s : PState) (acc : List Datum) (e : SErr) (h : (allAux fuel s acc).2 = some e) :
    e.NP :=
  (allAux_inv (I := fun _ => True) (Q := fun _ => True) (fun _ _ => ⟨trivial, fun _ _ => trivial⟩) nextDatum_np
    fuel s acc trivial fun _ _ => trivial).2 e h

end Read

/-! ## the builders of patterns and templates never panic -/

/-- nothing uses it -/
structure ENP {α} (x : Except SErr α) : Prop where
  np : ∀ e, x = .error e → e.NP

theorem ENP.syntax {α l} : ENP (.error (.syntax, l) : Except SErr α) := ⟨by intro e h; cases h; simp⟩

namespace Macro

theorem expectList_np (d : Datum) : NoPanic (expectList d) := fun _ _ h => by
  unfold expectList at h; split at h <;> cases h

theorem identOf_np (d : Datum) : NoPanic (identOf d) := fun _ _ h => by
  unfold identOf at h; split at h <;> cases h

theorem popProper_np (d : Datum) : NoPanic (popProper d) := fun _ _ h => by
  unfold popProper at h; split at h <;> cases h

theorem toRules_np (k : String) (d : Datum) : NoPanic (toRules k d) :=
  fun _ _ he => nomatch toRules_error_syntax he

theorem transformRules_np (fuel : Nat) (lits : List String) (rules : List (Pat × Tmpl)) (use : Datum) :
    NoPanic (transformRules fuel lits rules use) := fun s l h => by
  rcases transformRules_error h with hs | hs | ⟨r, _, hm⟩
  · cases hs
  · cases hs
  · exact C04.match_no_panic hm

theorem transform_np (fuel : Nat) (r : Rules) (use : Datum) : NoPanic (transform fuel r use) :=
  transformRules_np _ _ _ _

end Macro

/-! ## `Xform.toStatement` never panics -/

namespace Xform

theorem pure_def' {α} (a : α) (s : SynEnv) : (pure a : XM α) s = (.ok a, s) := XM.pure_def a s

def XNP {α} (m : XM α) : Prop := XM.Sat (fun _ => True) SErr.NP m (fun _ => True)

theorem XNP.lift {α} {x : Except SErr α} (h : NoPanic x) : XNP (lift x) :=
  XM.Sat.lift (fun _ _ => trivial) (noPanic_iff.1 h)

theorem XNP.closed : XM.Closed @XNP where
  pure _ := .pure trivial
  failS _ := .fail nofun
  failF := .fail nofun
  bind hm hf := .bind hm fun a _ => hf a
  ident d := XNP.lift (Macro.identOf_np d)
  elist d := XNP.lift (Macro.expectList_np d)
  child hm := .inChild (fun _ _ => trivial) (fun _ _ => trivial) hm
  pop d := XNP.lift (Macro.popProper_np d)
  rules k spec := XNP.lift (Macro.toRules_np k spec)
  expand fuel r use := XNP.lift (Macro.transform_np fuel r use)
  define _ _ := .defineSyntax fun _ _ => trivial
  look kw _ _ hA hB := .bind .getEnv fun env _ => by
    cases env.get? kw
    · exact hB
    · exact hA _

theorem toStatement_np (fuel : Nat) (d : Datum) (env : SynEnv) {e : SErr}
    (h : (toStatement fuel d env).1 = .error e) : e.NP :=
  ((XNP.closed.all fuel).stmt d env trivial).err e h

end Xform

end Ruschm
