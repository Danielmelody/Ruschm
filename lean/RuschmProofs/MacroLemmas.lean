/-
The matcher of the macro expander (`RuschmModel/Macro.lean`) as inference rules: `match_induct` turns an
induction over the runs of `matchDatum` / `matchStream` into one line per rule. Sufficiency of fuel and the
key-set invariant that rules out the `get_mut(var).unwrap()` panic are its first two instances. The rule list
is `findSome?` of what one rule makes of the use (`transformRules_eq_findSome`), so that a fact about
`transformRules` is a fact about one rule.
-/
import RuschmSpec.Macro
import RuschmProofs.DatumLemmas
import RuschmProofs.AssocLemmas

namespace Ruschm.Macro
open Ruschm

/-! small data for the non-vacuity examples -/
namespace Ex
def num (n : Int) : Datum := .prim (.int n) none
def sy (s : String) : Datum := .sym s none
def lst (xs : List Datum) : Datum := Datum.ofList none xs
abbrev plist : List Pat → Pat := Pat.ofList
end Ex

/-! ## Vocabulary -/

/-- `multi_matches` for the patterns after `p` -/
def nextMM (lits : List String) (p : Pat) : Option Pat :=
  match p with
  | .ident v => if lits.contains v then none else some p
  | _ => some p

/-- the push loop of the ellipsis branch; `none` is the `unwrap` panic -/
def pushAll (τ σ : Subst) : Option Subst :=
  τ.foldl (fun acc (x : String × Datum × List Datum) =>
    acc.bind (fun s => Subst.push? s x.1 x.2.1)) (some σ)

def Pat.isListy : Pat → Bool
  | .pair _ _ => true
  | .nil => true
  | _ => false

/-! ## Structural induction on patterns (the type is nested through `List`) -/

theorem Pat.ind {P : Pat → Prop} {Q : List Pat → Prop}
    (underscore : P .underscore) (ellipsis : P .ellipsis)
    (pair : ∀ a d, P a → P d → P (.pair a d)) (nil : P .nil)
    (vec : ∀ xs, Q xs → P (.vec xs)) (ident : ∀ s, P (.ident s)) (prim : ∀ p, P (.prim p))
    (lnil : Q []) (lcons : ∀ x xs, P x → Q xs → Q (x :: xs)) :
    (∀ p, P p) ∧ (∀ ps, Q ps) :=
  ⟨fun p => Pat.rec (motive_1 := P) (motive_2 := Q) underscore ellipsis pair nil vec ident prim
      lnil lcons p,
   fun ps => Pat.rec_1 (motive_1 := P) (motive_2 := Q) underscore ellipsis pair nil vec ident prim
      lnil lcons ps⟩

/-! ## Structural induction on templates (nested through `List (Tmpl × Bool)`) -/

theorem Tmpl.ind {P : Tmpl → Prop} {Q : List (Tmpl × Bool) → Prop}
    (list : ∀ es, Q es → P (.list es)) (vec : ∀ es, Q es → P (.vec es))
    (ident : ∀ s, P (.ident s)) (prim : ∀ p, P (.prim p))
    (nil : Q []) (cons : ∀ t b rest, P t → Q rest → Q ((t, b) :: rest)) :
    (∀ t, P t) ∧ (∀ es, Q es) :=
  ⟨fun t => Tmpl.rec (motive_1 := P) (motive_2 := Q) (motive_3 := fun tb => P tb.1)
      list vec ident prim nil (fun hd tl h1 h2 => cons hd.1 hd.2 tl h1 h2) (fun _ _ h => h) t,
   fun es => Tmpl.rec_1 (motive_1 := P) (motive_2 := Q) (motive_3 := fun tb => P tb.1)
      list vec ident prim nil (fun hd tl h1 h2 => cons hd.1 hd.2 tl h1 h2) (fun _ _ h => h) es⟩

/-! ## One-step equations of `matchDatum` -/

@[simp] theorem matchDatum_zero {lits p d σ} :
    matchDatum 0 lits p d σ = .error (.fuel, none) := by rw [matchDatum]

@[simp] theorem matchStream_zero {lits ps ds mm σ} :
    matchStream 0 lits ps ds mm σ = .error (.fuel, none) := by rw [matchStream]

@[simp] theorem matchDatum_underscore {n lits d σ} :
    matchDatum (n+1) lits .underscore d σ = .ok (true, σ) := by rw [matchDatum]

@[simp] theorem matchDatum_ellipsis {n lits d σ} :
    matchDatum (n+1) lits .ellipsis d σ = .ok (true, σ) := by rw [matchDatum]

theorem matchDatum_var {n lits v d σ} (h : lits.contains v = false) :
    matchDatum (n+1) lits (.ident v) d σ = .ok (true, σ.insert v (d, [])) := by
  cases d <;> simp_all [matchDatum]

theorem matchDatum_lit {n lits v d σ} (h : lits.contains v = true) :
    matchDatum (n+1) lits (.ident v) d σ =
      .ok (match d with | .sym s _ => s == v | _ => false, σ) := by
  cases d <;> simp_all [matchDatum]

theorem matchDatum_prim {n lits a d σ} :
    matchDatum (n+1) lits (.prim a) d σ =
      .ok (match d with | .prim b _ => a == b | _ => false, σ) := by
  cases d <;> simp [matchDatum]

theorem matchDatum_vec {n lits ps d σ} :
    matchDatum (n+1) lits (.vec ps) d σ =
      match d with
      | .vec ds _ => matchStream n lits ps ds none σ
      | _ => .ok (false, σ) := by
  cases d <;> simp [matchDatum]

theorem matchDatum_listy_atom {n lits p d σ} (hp : p.isListy = true) (hd : d.isListy = false) :
    matchDatum (n+1) lits p d σ = .ok (false, σ) := by
  cases p <;> cases d <;> simp_all [Pat.isListy, Datum.isListy, matchDatum]

theorem matchDatum_listy {n lits p d σ} (hp : p.isListy = true) (hd : d.isListy = true) :
    matchDatum (n+1) lits p d σ =
      match matchStream n lits p.spine.1 d.spine.1 none σ with
      | .error e => .error e
      | .ok (false, σ1) => .ok (false, σ1)
      | .ok (true, σ1) =>
        match p.spine.2, d.spine.2 with
        | some lp, some ld => matchDatum n lits lp ld σ1
        | none, none => .ok (true, σ1)
        | _, _ => .ok (false, σ1) := by
  have body : matchDatum (n+1) lits p d σ = (do
      let (ok, σ) ← matchStream n lits p.spine.1 d.spine.1 none σ
      if ok then
        match p.spine.2, d.spine.2 with
        | some lp, some ld => matchDatum n lits lp ld σ
        | none, none => pure (true, σ)
        | _, _ => pure (false, σ)
      else pure (false, σ)) := by
    cases p with
    | pair _ _ | nil =>
      cases d with
      | pair _ _ _ | nil _ => rw [matchDatum]; rfl
      | _ => cases hd
    | _ => cases hp
  rw [body]
  rcases matchStream n lits p.spine.1 d.spine.1 none σ with e | ⟨_ | _, σ1⟩ <;> rfl

/-! ## One-step equations of `matchStream` -/

@[simp] theorem matchStream_nil_nil {n lits mm σ} :
    matchStream (n+1) lits [] [] mm σ = .ok (true, σ) := by rw [matchStream]

@[simp] theorem matchStream_nil_cons {n lits d ds mm σ} :
    matchStream (n+1) lits [] (d :: ds) mm σ = .ok (false, σ) := by rw [matchStream]

theorem matchStream_cons_nil_ne {n lits p ps mm σ} (hp : p.isEllipsis = false) :
    matchStream (n+1) lits (p :: ps) [] mm σ = .ok (false, σ) := by
  rw [matchStream]; cases p <;> simp_all [Pat.isEllipsis]

@[simp] theorem matchStream_ell_nil_none {n lits ps σ} :
    matchStream (n+1) lits (.ellipsis :: ps) [] none σ = .ok (false, σ) := by
  simp [matchStream]

@[simp] theorem matchStream_ell_nil_some {n lits ps mp σ} :
    matchStream (n+1) lits (.ellipsis :: ps) [] (some mp) σ =
      matchStream n lits ps [] (some mp) σ := by
  rw [matchStream]

theorem matchStream_step_ne {n lits p ps d ds mm σ} (hp : p.isEllipsis = false) :
    matchStream (n+1) lits (p :: ps) (d :: ds) mm σ =
      match matchDatum n lits p d σ with
      | .error e => .error e
      | .ok (false, σ1) => .ok (false, σ1)
      | .ok (true, σ1) => matchStream n lits ps ds (nextMM lits p) σ1 := by
  rw [matchStream]
  cases h : matchDatum n lits p d σ with
  | error e => rfl
  | ok r =>
    obtain ⟨b, σ1⟩ := r
    cases b
    · rfl
    · cases p <;> simp [Pat.isEllipsis, nextMM, bind, Except.bind] at hp ⊢
      split <;> rfl

/-- `UnexpectedPattern` -/
theorem matchStream_ell_none {n lits ps d ds σ} :
    matchStream (n+2) lits (.ellipsis :: ps) (d :: ds) none σ = .error (.syntax, none) := by
  rw [matchStream, matchDatum_ellipsis]; rfl

theorem matchStream_step_ell {n lits ps d ds mp σ} :
    matchStream (n+2) lits (.ellipsis :: ps) (d :: ds) (some mp) σ =
      match matchDatum (n+1) lits mp d [] with
      | .error e => .error e
      | .ok (false, _) => .ok (false, σ)
      | .ok (true, τ) =>
        match pushAll τ σ with
        | none => .error (.panic "macros.rs get_mut unwrap", none)
        | some σ2 =>
          match matchStream (n+1) lits (.ellipsis :: ps) ds (some mp) σ2 with
          | .error e => .error e
          | .ok (true, σ3) => .ok (true, σ3)
          | .ok (false, σ3) => matchStream (n+1) lits ps ds (some mp) σ3 := by
  rw [matchStream, matchDatum_ellipsis]
  simp only [bind, Except.bind, pure, Except.pure, pushAll]
  rcases matchDatum (n+1) lits mp d [] with e | ⟨_ | _, τ⟩
  · rfl
  · rfl
  · simp only [Bool.not_true, Bool.false_eq_true, if_false]
    generalize List.foldl _ (some σ) τ = o
    cases o with
    | none => rfl
    | some σ2 =>
      dsimp only
      rcases matchStream (n + 1) lits (Pat.ellipsis :: ps) ds (some mp) σ2 with e | ⟨_ | _, σ3⟩ <;> rfl

theorem matchStream_ell_one {lits ps d ds mm σ} :
    matchStream 1 lits (.ellipsis :: ps) (d :: ds) mm σ = .error (.fuel, none) := by
  rw [matchStream, matchDatum_zero]; rfl

/-! ## The matcher as inference rules -/

abbrev Outcome := Except SErr (Bool × Subst)

/-- A pair of relations between the arguments of `matchDatum` / `matchStream` and an outcome that is closed
under the rules below holds of every run. An outcome that is not a success (`stop` rules) is an error or a
failure; both are passed on unchanged. -/
theorem match_induct {lits : List String}
    {D : Nat → Pat → Datum → Subst → Outcome → Prop}
    {S : Nat → List Pat → List Datum → Option Pat → Subst → Outcome → Prop}
    (zeroD : ∀ {p d σ}, D 0 p d σ (.error (.fuel, none)))
    (zeroS : ∀ {ps ds mm σ}, S 0 ps ds mm σ (.error (.fuel, none)))
    (under : ∀ {n d σ}, D (n+1) .underscore d σ (.ok (true, σ)))
    (ell : ∀ {n d σ}, D (n+1) .ellipsis d σ (.ok (true, σ)))
    (var : ∀ {n v d σ}, lits.contains v = false →
      D (n+1) (.ident v) d σ (.ok (true, σ.insert v (d, []))))
    (lit : ∀ {n v d σ}, lits.contains v = true →
      D (n+1) (.ident v) d σ (.ok (match d with | .sym s _ => s == v | _ => false, σ)))
    (prim : ∀ {n a d σ},
      D (n+1) (.prim a) d σ (.ok (match d with | .prim b _ => a == b | _ => false, σ)))
    (vec : ∀ {n ps ds l σ r}, S n ps ds none σ r → D (n+1) (.vec ps) (.vec ds l) σ r)
    (vecNo : ∀ {n ps d σ}, (∀ ds l, d ≠ .vec ds l) → D (n+1) (.vec ps) d σ (.ok (false, σ)))
    (listNo : ∀ {n p d σ}, Pat.isListy p = true → Datum.isListy d = false → D (n+1) p d σ (.ok (false, σ)))
    (listStop : ∀ {n p d σ r}, Pat.isListy p = true → Datum.isListy d = true →
      S n (Pat.spine p).1 (Datum.spine d).1 none σ r → (∀ σ1, r ≠ .ok (true, σ1)) → D (n+1) p d σ r)
    (listTails : ∀ {n p d σ σ1 lp ld r}, Pat.isListy p = true → Datum.isListy d = true →
      S n (Pat.spine p).1 (Datum.spine d).1 none σ (.ok (true, σ1)) → (Pat.spine p).2 = some lp → (Datum.spine d).2 = some ld →
      D n lp ld σ1 r → D (n+1) p d σ r)
    (listEnd : ∀ {n p d σ σ1}, Pat.isListy p = true → Datum.isListy d = true →
      S n (Pat.spine p).1 (Datum.spine d).1 none σ (.ok (true, σ1)) → (Pat.spine p).2 = none → (Datum.spine d).2 = none →
      D (n+1) p d σ (.ok (true, σ1)))
    (listOdd : ∀ {n p d σ σ1}, Pat.isListy p = true → Datum.isListy d = true →
      S n (Pat.spine p).1 (Datum.spine d).1 none σ (.ok (true, σ1)) → (Pat.spine p).2.isSome ≠ (Datum.spine d).2.isSome →
      D (n+1) p d σ (.ok (false, σ1)))
    (nilNil : ∀ {n mm σ}, S (n+1) [] [] mm σ (.ok (true, σ)))
    (nilCons : ∀ {n d ds mm σ}, S (n+1) [] (d :: ds) mm σ (.ok (false, σ)))
    (consNil : ∀ {n p ps mm σ}, Pat.isEllipsis p = false ∨ mm = none →
      S (n+1) (p :: ps) [] mm σ (.ok (false, σ)))
    (ellNil : ∀ {n ps mp σ r}, S n ps [] (some mp) σ r → S (n+1) (.ellipsis :: ps) [] (some mp) σ r)
    (stop : ∀ {n p ps d ds mm σ r}, Pat.isEllipsis p = false → D n p d σ r →
      (∀ σ1, r ≠ .ok (true, σ1)) → S (n+1) (p :: ps) (d :: ds) mm σ r)
    (step : ∀ {n p ps d ds mm σ σ1 r}, Pat.isEllipsis p = false → D n p d σ (.ok (true, σ1)) →
      S n ps ds (nextMM lits p) σ1 r → S (n+1) (p :: ps) (d :: ds) mm σ r)
    (ellOne : ∀ {ps d ds mm σ}, S 1 (.ellipsis :: ps) (d :: ds) mm σ (.error (.fuel, none)))
    (ellNone : ∀ {n ps d ds σ}, S (n+2) (.ellipsis :: ps) (d :: ds) none σ (.error (.syntax, none)))
    (ellErr : ∀ {n ps d ds mp σ e}, D (n+1) mp d [] (.error e) →
      S (n+2) (.ellipsis :: ps) (d :: ds) (some mp) σ (.error e))
    (ellFail : ∀ {n ps d ds mp σ τ}, D (n+1) mp d [] (.ok (false, τ)) →
      S (n+2) (.ellipsis :: ps) (d :: ds) (some mp) σ (.ok (false, σ)))
    (ellPanic : ∀ {n ps d ds mp σ τ}, D (n+1) mp d [] (.ok (true, τ)) → pushAll τ σ = none →
      S (n+2) (.ellipsis :: ps) (d :: ds) (some mp) σ
        (.error (.panic "macros.rs get_mut unwrap", none)))
    (ellStay : ∀ {n ps d ds mp σ τ σ2 r}, D (n+1) mp d [] (.ok (true, τ)) → pushAll τ σ = some σ2 →
      S (n+1) (.ellipsis :: ps) ds (some mp) σ2 r → (∀ σ3, r ≠ .ok (false, σ3)) →
      S (n+2) (.ellipsis :: ps) (d :: ds) (some mp) σ r)
    (ellOver : ∀ {n ps d ds mp σ τ σ2 σ3 r}, D (n+1) mp d [] (.ok (true, τ)) →
      pushAll τ σ = some σ2 → S (n+1) (.ellipsis :: ps) ds (some mp) σ2 (.ok (false, σ3)) →
      S (n+1) ps ds (some mp) σ3 r → S (n+2) (.ellipsis :: ps) (d :: ds) (some mp) σ r) :
    ∀ n, (∀ p d σ, D n p d σ (matchDatum n lits p d σ)) ∧
      (∀ ps ds mm σ, S n ps ds mm σ (matchStream n lits ps ds mm σ)) := by
  intro n
  induction n with
  | zero =>
    refine ⟨fun _ _ _ => ?_, fun _ _ _ _ => ?_⟩
    · rw [matchDatum_zero]; exact zeroD
    · rw [matchStream_zero]; exact zeroS
  | succ n ih =>
    obtain ⟨ihD, ihS⟩ := ih
    constructor
    · intro p d σ
      cases hp : p.isListy
      · cases p with
        | underscore => rw [matchDatum_underscore]; exact under
        | ellipsis => rw [matchDatum_ellipsis]; exact ell
        | vec ps =>
          rw [matchDatum_vec]
          cases d with
          | vec ds l => exact vec (ihS ..)
          | _ => exact vecNo nofun
        | ident v =>
          cases hv : lits.contains v
          · rw [matchDatum_var hv]; exact var hv
          · rw [matchDatum_lit hv]; exact lit hv
        | prim a => rw [matchDatum_prim]; exact prim
        | pair _ _ => cases hp
        | nil => cases hp
      · cases hd : d.isListy
        · rw [matchDatum_listy_atom hp hd]; exact listNo hp hd
        · rw [matchDatum_listy hp hd]
          have h1 := ihS p.spine.1 d.spine.1 none σ
          generalize matchStream n lits p.spine.1 d.spine.1 none σ = r at h1 ⊢
          rcases r with e | ⟨_ | _, σ1⟩
          · exact listStop hp hd h1 nofun
          · exact listStop hp hd h1 nofun
          · cases hlp : p.spine.2 <;> cases hld : d.spine.2
            · exact listEnd hp hd h1 hlp hld
            · exact listOdd hp hd h1 (by rw [hlp, hld]; nofun)
            · exact listOdd hp hd h1 (by rw [hlp, hld]; nofun)
            · exact listTails hp hd h1 hlp hld (ihD ..)
    · intro ps ds mm σ
      cases ps with
      | nil =>
        cases ds with
        | nil => rw [matchStream_nil_nil]; exact nilNil
        | cons _ _ => rw [matchStream_nil_cons]; exact nilCons
      | cons p ps =>
        cases ds with
        | nil =>
          cases hp : p.isEllipsis
          · rw [matchStream_cons_nil_ne hp]; exact consNil (.inl hp)
          · cases p <;> simp only [Pat.isEllipsis, reduceCtorEq] at hp
            cases mm with
            | none => rw [matchStream_ell_nil_none]; exact consNil (.inr rfl)
            | some mp => rw [matchStream_ell_nil_some]; exact ellNil (ihS ..)
        | cons d ds =>
          cases hp : p.isEllipsis
          · rw [matchStream_step_ne hp]
            have h1 := ihD p d σ
            generalize matchDatum n lits p d σ = r at h1 ⊢
            rcases r with e | ⟨_ | _, σ1⟩
            · exact stop hp h1 nofun
            · exact stop hp h1 nofun
            · exact step hp h1 (ihS ..)
          · cases p <;> simp only [Pat.isEllipsis, reduceCtorEq] at hp
            cases n with
            | zero => rw [matchStream_ell_one]; exact ellOne
            | succ n =>
              cases mm with
              | none => rw [matchStream_ell_none]; exact ellNone
              | some mp =>
                rw [matchStream_step_ell]
                have h2 := ihD mp d []
                generalize matchDatum (n+1) lits mp d [] = r at h2 ⊢
                rcases r with e | ⟨_ | _, τ⟩
                · exact ellErr h2
                · exact ellFail h2
                · dsimp only
                  cases hpush : pushAll τ σ with
                  | none => exact ellPanic h2 hpush
                  | some σ2 =>
                    dsimp only
                    have h3 := ihS (.ellipsis :: ps) ds (some mp) σ2
                    generalize matchStream (n+1) lits (.ellipsis :: ps) ds (some mp) σ2 = r at h3 ⊢
                    rcases r with e | ⟨_ | _, σ3⟩
                    · exact ellStay h2 hpush h3 nofun
                    · exact ellOver h2 hpush h3 (ihS ..)
                    · exact ellStay h2 hpush h3 nofun

/-! ## Sizes and spines -/

theorem Pat.size_pos (p : Pat) : 0 < p.size := by
  cases p <;> simp [Pat.size]

def Pat.tsize : Option Pat → Nat
  | some p => p.size
  | none => 0

theorem Pat.spine_size (p : Pat) :
    Pat.sizeList p.spine.1 + Pat.tsize p.spine.2 + (if p.isListy then 1 else 0) ≤ p.size := by
  fun_induction Pat.spine p with
  | case1 a d xs t h ih =>
    simp only [h] at ih
    simp only [Pat.sizeList, Pat.size, Pat.isListy, if_true]
    split at ih <;> omega
  | case2 => simp [Pat.sizeList, Pat.tsize, Pat.size, Pat.isListy]
  | case3 p h1 h2 =>
    cases p <;> simp_all [Pat.sizeList, Pat.tsize, Pat.isListy]

/-! ## Fuel: the matcher terminates

`p.size + d.size` units of fuel suffice for matching `p` against `d`, for ALL patterns and data.
(`matchFuel d` alone does not: each `...` that is skipped at the end of the data costs a unit, so
the need grows with the pattern.) -/

theorem nextMM_eq (lits : List String) (p : Pat) : nextMM lits p = if p.isLit lits then none else some p := by
  cases p <;> rfl

theorem nextMM_tsize (lits : List String) (p : Pat) : Pat.tsize (nextMM lits p) ≤ p.size := by
  rw [nextMM_eq]; split
  · exact Nat.zero_le _
  · exact Nat.le_refl _

theorem match_fuel_aux (lits : List String) (n : Nat) :
    (∀ p d σ l, p.size + d.size ≤ n → matchDatum n lits p d σ ≠ .error (.fuel, l)) ∧
    (∀ ps ds mm σ l, Pat.sizeList ps + Datum.sizeList ds + Pat.tsize mm + 1 ≤ n →
      matchStream n lits ps ds mm σ ≠ .error (.fuel, l)) := by
  have sp : ∀ {p : Pat} {d : Datum}, p.isListy = true → d.isListy = true →
      Pat.sizeList p.spine.1 + Pat.tsize p.spine.2 + 1 ≤ p.size ∧
      Datum.sizeList d.spine.1 + Datum.tsize d.spine.2 + 1 ≤ d.size := fun {p d} hp hd => by
    have h1 := p.spine_size; have h2 := d.spine_size
    simp only [hp, hd, if_true] at h1 h2; exact ⟨h1, h2⟩
  have ok : ∀ {r : Bool × Subst} {l : Loc}, (.ok r : Outcome) ≠ .error (.fuel, l) := nofun
  exact match_induct (lits := lits)
    (D := fun n p d _ r => ∀ l, p.size + d.size ≤ n → r ≠ .error (.fuel, l))
    (S := fun n ps ds mm _ r => ∀ l, Pat.sizeList ps + Datum.sizeList ds + Pat.tsize mm + 1 ≤ n →
      r ≠ .error (.fuel, l))
    (zeroD := fun {p} _ h => by have := p.size_pos; omega) (zeroS := fun _ h => by omega)
    (under := fun _ _ => ok) (ell := fun _ _ => ok) (var := fun _ _ _ => ok)
    (lit := fun _ _ _ => ok) (prim := fun _ _ => ok)
    (vec := fun ih l h => ih l (by simp only [Pat.size, Datum.size, Pat.tsize] at h ⊢; omega))
    (vecNo := fun _ _ _ => ok) (listNo := fun _ _ _ _ => ok)
    (listStop := fun hp hd ih _ l h => ih l (by have := sp hp hd; simp only [Pat.tsize]; omega))
    (listTails := fun hp hd _ hlp hld ih l h => ih l (by
      have := sp hp hd; simp only [hlp, hld, Pat.tsize, Datum.tsize] at this; omega))
    (listEnd := fun _ _ _ _ _ _ _ => ok) (listOdd := fun _ _ _ _ _ _ => ok)
    (nilNil := fun _ _ => ok) (nilCons := fun _ _ => ok) (consNil := fun _ _ _ => ok)
    (ellNil := fun ih l h => ih l (by simp only [Pat.sizeList, Pat.size] at h ⊢; omega))
    (stop := fun _ ih _ l h => ih l (by simp only [Pat.sizeList, Datum.sizeList] at h; omega))
    (step := fun {_ p _ d _ _ _ _ _} _ _ ih l h => ih l (by
      have := nextMM_tsize lits p; have := d.size_pos
      simp only [Pat.sizeList, Datum.sizeList] at h; omega))
    (ellOne := fun _ h => by simp only [Pat.sizeList, Pat.size] at h; omega) (ellNone := fun _ _ => nofun)
    (ellErr := fun ih l h => ih l (by
      simp only [Pat.sizeList, Datum.sizeList, Pat.tsize, Pat.size] at h; omega))
    (ellFail := fun _ _ _ => ok) (ellPanic := fun _ _ _ _ => nofun)
    (ellStay := fun {_ _ d _ _ _ _ _ _} _ _ ih _ l h => ih l (by
      have := d.size_pos; simp only [Datum.sizeList] at h; omega))
    (ellOver := fun {_ _ d _ _ _ _ _ _ _} _ _ _ ih l h => ih l (by
      have := d.size_pos; simp only [Pat.sizeList, Datum.sizeList, Pat.size] at h; omega)) n

theorem matchDatum_fuel {lits n p d σ l} (h : p.size + d.size ≤ n) :
    matchDatum n lits p d σ ≠ .error (.fuel, l) :=
  (match_fuel_aux lits n).1 p d σ l h

theorem matchStream_fuel {lits n ps ds mm σ l}
    (h : Pat.sizeList ps + Datum.sizeList ds + Pat.tsize mm + 1 ≤ n) :
    matchStream n lits ps ds mm σ ≠ .error (.fuel, l) :=
  (match_fuel_aux lits n).2 ps ds mm σ l h

/-! ## Keys of the table -/

@[simp] theorem Subst.keys_nil : Subst.keys [] = [] := rfl
@[simp] theorem Subst.keys_cons {e : String × Datum × List Datum} {σ : Subst} :
    Subst.keys (e :: σ) = e.1 :: Subst.keys σ := rfl
@[simp] theorem Subst.keys_append {σ τ : Subst} :
    Subst.keys (σ ++ τ) = Subst.keys σ ++ Subst.keys τ := by simp [Subst.keys]

theorem Subst.insert_nil (v : String) (x : Datum × List Datum) : Subst.insert [] v x = [(v, x)] := rfl

theorem Subst.insert_cons (k : String) (y : Datum × List Datum) (rest : Subst) (v : String) (x : Datum × List Datum) :
    Subst.insert ((k, y) :: rest) v x = if k = v then (v, x) :: rest else (k, y) :: Subst.insert rest v x := by
  rw [Subst.insert]
  split
  · next h => rw [h]
  · rfl

theorem Subst.keys_insert (σ : Subst) (v : String) (x : Datum × List Datum) :
    Subst.keys (σ.insert v x) = if v ∈ Subst.keys σ then Subst.keys σ else Subst.keys σ ++ [v] :=
  Assoc.names_insert_of Subst.insert_nil Subst.insert_cons v x σ

theorem Subst.mem_keys_insert {σ : Subst} {v x k} :
    k ∈ Subst.keys (σ.insert v x) ↔ k = v ∨ k ∈ Subst.keys σ := by
  rw [Subst.keys_insert]
  split
  · next h => exact ⟨.inr, fun hk => hk.elim (· ▸ h) id⟩
  · rw [List.mem_append, List.mem_singleton, or_comm]

theorem Subst.insert_fresh {σ : Subst} {v x} (h : v ∉ Subst.keys σ) : σ.insert v x = σ ++ [(v, x)] :=
  Assoc.insert_fresh_of Subst.insert_nil Subst.insert_cons v x σ h

theorem Subst.get?_eq_lookup (v : String) : ∀ σ : Subst, σ.get? v = σ.lookup v
  | [] => rfl
  | (k, x) :: σ => by
    rw [Subst.get?, Assoc.lookup_cons_ite, Subst.get?_eq_lookup v σ]
    by_cases h : k = v
    · rw [if_pos h, if_pos h.symm]
    · rw [if_neg h, if_neg (Ne.symm h)]

theorem Subst.get?_mem {σ : Subst} {v x} (h : σ.get? v = some x) : (v, x) ∈ σ := by
  rw [Subst.get?_eq_lookup] at h
  exact Assoc.mem_of_lookup h

theorem Subst.get?_isSome_iff {σ : Subst} {v} : (σ.get? v).isSome = true ↔ v ∈ Subst.keys σ := by
  rw [Subst.get?_eq_lookup]; exact Assoc.lookup_isSome_iff σ v

theorem Subst.push?_eq (v : String) (d : Datum) :
    ∀ σ : Subst, σ.push? v d = (σ.get? v).map fun x => σ.insert v (x.1, x.2 ++ [d])
  | [] => rfl
  | (k, f, more) :: σ => by
    rw [Subst.push?, Subst.get?, Subst.push?_eq v d σ]
    by_cases h : k = v
    · subst h; rw [if_pos rfl, if_pos rfl, Option.map_some, Subst.insert_cons, if_pos rfl]
    · rw [if_neg h, if_neg h, Option.map_map]
      exact congrArg (Option.map · _) (funext fun x => by rw [Function.comp, Subst.insert_cons, if_neg h])

theorem Subst.push?_keys {σ : Subst} {v d σ'} (h : σ.push? v d = some σ') :
    Subst.keys σ' = Subst.keys σ := by
  rw [Subst.push?_eq] at h
  obtain ⟨x, hx, rfl⟩ := Option.map_eq_some_iff.1 h
  rw [Subst.keys_insert, if_pos (Subst.get?_isSome_iff.1 (by rw [hx]; rfl))]

theorem Subst.push?_isSome {σ : Subst} {v d} (h : v ∈ Subst.keys σ) :
    ∃ σ', σ.push? v d = some σ' := by
  obtain ⟨x, hx⟩ := Option.isSome_iff_exists.1 (Subst.get?_isSome_iff.2 h)
  exact ⟨_, by rw [Subst.push?_eq, hx]; rfl⟩

theorem pushAll_nil {σ : Subst} : pushAll [] σ = some σ := rfl

theorem pushAll_cons {e : String × Datum × List Datum} {τ σ : Subst} :
    pushAll (e :: τ) σ = (σ.push? e.1 e.2.1).bind (pushAll τ) := by
  simp only [pushAll, List.foldl_cons, Option.bind_some]
  cases σ.push? e.1 e.2.1 with
  | some σ' => rfl
  | none =>
    simp only [Option.bind_none]
    induction τ with
    | nil => rfl
    | cons e' τ ih => simpa using ih

theorem pushAll_keys {τ σ σ' : Subst} (h : pushAll τ σ = some σ') :
    Subst.keys σ' = Subst.keys σ := by
  induction τ generalizing σ with
  | nil => cases h; rfl
  | cons e τ ih =>
    rw [pushAll_cons] at h
    simp only [Option.bind_eq_some_iff] at h
    obtain ⟨σ1, h1, h2⟩ := h
    rw [ih h2, Subst.push?_keys h1]

theorem pushAll_isSome {τ σ : Subst} (h : ∀ k ∈ Subst.keys τ, k ∈ Subst.keys σ) :
    ∃ σ', pushAll τ σ = some σ' := by
  induction τ generalizing σ with
  | nil => exact ⟨_, rfl⟩
  | cons e τ ih =>
    obtain ⟨σ1, h1⟩ := Subst.push?_isSome (d := e.2.1) (h e.1 (List.mem_cons_self ..))
    rw [pushAll_cons, h1]
    exact ih fun k hk => Subst.push?_keys h1 ▸ h k (List.mem_cons_of_mem _ hk)

/-! ## The key-set invariant and absence of the `unwrap` panic -/

theorem Pat.vars_spine (lits : List String) (p : Pat) :
    p.vars lits = Pat.varsList lits p.spine.1 ++
      (match p.spine.2 with | some t => t.vars lits | none => []) := by
  fun_induction Pat.spine p with
  | case1 a d xs t h ih =>
    simp only [h] at ih
    simp [Pat.vars, Pat.varsList, ih]
  | case2 => simp [Pat.vars, Pat.varsList]
  | case3 p h1 h2 => simp [Pat.varsList]

/-- what a run of the matcher does to the keys of the table; `vs` are the variables of the pattern(s) -/
structure KInv (vs : List String) (σ : Subst) (b : Bool) (σ' : Subst) : Prop where
  mono : ∀ x ∈ Subst.keys σ, x ∈ Subst.keys σ'
  only : ∀ x ∈ Subst.keys σ', x ∈ Subst.keys σ ∨ x ∈ vs
  all : b = true → ∀ x ∈ vs, x ∈ Subst.keys σ'

theorem KInv.refl_nil {σ b} : KInv [] σ b σ := ⟨fun _ h => h, fun _ h => .inl h, fun _ _ h => by simp at h⟩

theorem KInv.toFalse {vs σ b σ'} (h : KInv vs σ b σ') : KInv vs σ false σ' :=
  ⟨h.mono, h.only, fun h => by cases h⟩

/-- not used; `toFalse` at a success -/
theorem KInv.fail {vs σ σ'} (h : KInv vs σ true σ') : KInv vs σ false σ' := h.toFalse

theorem KInv.seq {vs1 vs2 σ σ1 b σ2} (h1 : KInv vs1 σ true σ1) (h2 : KInv vs2 σ1 b σ2) :
    KInv (vs1 ++ vs2) σ b σ2 := by
  refine ⟨fun x hx => h2.mono _ (h1.mono _ hx), fun x hx => ?_, fun hb x hx => ?_⟩
  · rcases h2.only x hx with h | h
    · rcases h1.only x h with h | h
      · exact .inl h
      · exact .inr (by simp [h])
    · exact .inr (by simp [h])
  · simp only [List.mem_append] at hx
    rcases hx with h | h
    · exact h2.mono _ (h1.all rfl _ h)
    · exact h2.all hb _ h

theorem KInv.weakenR {vs1 vs2 σ b σ1} (h1 : KInv vs1 σ b σ1) : KInv (vs1 ++ vs2) σ false σ1 :=
  ⟨h1.mono, fun x hx => (h1.only x hx).imp id (fun h => by simp [h]), fun h => by cases h⟩

theorem KInv.refl_false {vs σ} : KInv vs σ false σ :=
  ⟨fun _ h => h, fun _ h => .inl h, fun h => by cases h⟩

theorem KInv.trans {vs σ b1 σ1 b σ2} (h1 : KInv vs σ b1 σ1) (h2 : KInv vs σ1 b σ2) :
    KInv vs σ b σ2 :=
  ⟨fun _ hx => h2.mono _ (h1.mono _ hx),
   fun x hx => (h2.only x hx).elim (fun h => h1.only x h) .inr,
   h2.all⟩

theorem KInv.of_keys_eq {vs σ σ0 b σ'} (h : KInv vs σ b σ') (hk : Subst.keys σ = Subst.keys σ0) :
    KInv vs σ0 b σ' :=
  ⟨fun _ hx => h.mono _ (hk ▸ hx), fun x hx => hk ▸ h.only x hx, h.all⟩

theorem KInv.insert {σ : Subst} {v x} : KInv [v] σ true (σ.insert v x) :=
  ⟨fun k hk => Subst.mem_keys_insert.2 (.inr hk),
   fun k hk => (Subst.mem_keys_insert.1 hk).elim (fun h => .inr (by simp [h])) .inl,
   fun _ k hk => Subst.mem_keys_insert.2 (.inl (by simpa using hk))⟩

/-- the invariant of `multi_matches` -/
def MMInv (lits : List String) (mm : Option Pat) (σ : Subst) : Prop :=
  ∀ mp, mm = some mp → ∀ x ∈ mp.vars lits, x ∈ Subst.keys σ

def KRes (vs : List String) (σ : Subst) (r : Outcome) : Prop :=
  (∀ s l, r ≠ .error (.panic s, l)) ∧ ∀ b σ', r = .ok (b, σ') → KInv vs σ b σ'

theorem KRes.ok {vs σ b σ'} (h : KInv vs σ b σ') : KRes vs σ (.ok (b, σ')) :=
  ⟨nofun, fun _ _ e => by cases e; exact h⟩

theorem KRes.weakenR {vs1 vs2 σ r} (h : KRes vs1 σ r) (hr : ∀ σ1, r ≠ .ok (true, σ1)) :
    KRes (vs1 ++ vs2) σ r :=
  ⟨h.1, fun b σ' e => by
    cases b
    · exact (h.2 _ _ e).weakenR
    · exact absurd e (hr σ')⟩

theorem KRes.seq {vs1 vs2 σ σ1 r} (h1 : KRes vs1 σ (.ok (true, σ1))) (h2 : KRes vs2 σ1 r) :
    KRes (vs1 ++ vs2) σ r :=
  ⟨h2.1, fun _ _ e => (h1.2 _ _ rfl).seq (h2.2 _ _ e)⟩

theorem KRes.trans {vs σ b1 σ1 r} (h1 : KInv vs σ b1 σ1) (h2 : KRes vs σ1 r) : KRes vs σ r :=
  ⟨h2.1, fun _ _ e => h1.trans (h2.2 _ _ e)⟩

theorem KRes.of_keys_eq {vs σ σ0 r} (h : KRes vs σ r) (hk : Subst.keys σ = Subst.keys σ0) :
    KRes vs σ0 r :=
  ⟨h.1, fun _ _ e => (h.2 _ _ e).of_keys_eq hk⟩

theorem match_keys_aux (lits : List String) (n : Nat) :
    (∀ p d σ, KRes (p.vars lits) σ (matchDatum n lits p d σ)) ∧
    (∀ ps ds mm σ, MMInv lits mm σ → KRes (Pat.varsList lits ps) σ (matchStream n lits ps ds mm σ)) := by
  have mmNone : ∀ {σ}, MMInv lits none σ := nofun
  exact match_induct (lits := lits)
    (D := fun _ p _ σ r => KRes (p.vars lits) σ r)
    (S := fun _ ps _ mm σ r => MMInv lits mm σ → KRes (Pat.varsList lits ps) σ r)
    (zeroD := ⟨nofun, nofun⟩) (zeroS := fun _ => ⟨nofun, nofun⟩)
    (under := .ok .refl_nil) (ell := .ok .refl_nil)
    (var := fun hv => .ok (by simp only [Pat.vars, hv, Bool.false_eq_true, if_false]; exact .insert))
    (lit := fun hv => .ok (by simp only [Pat.vars, hv, if_true]; exact .refl_nil))
    (prim := .ok .refl_nil) (vec := fun ih => ih mmNone)
    (vecNo := fun _ => .ok .refl_false) (listNo := fun _ _ => .ok .refl_false)
    (listStop := fun _ _ ih hr => Pat.vars_spine lits _ ▸ (ih mmNone).weakenR hr)
    (listTails := fun _ _ ih1 hlp _ ih2 => by
      rw [Pat.vars_spine, hlp]; exact (ih1 mmNone).seq ih2)
    (listEnd := fun _ _ ih hlp _ => by
      rw [Pat.vars_spine, hlp, List.append_nil]; exact ih mmNone)
    (listOdd := fun _ _ ih _ => Pat.vars_spine lits _ ▸ .ok (((ih mmNone).2 _ _ rfl).weakenR))
    (nilNil := fun _ => .ok .refl_nil) (nilCons := fun _ => .ok .refl_false)
    (consNil := fun _ _ => .ok .refl_false)
    (ellNil := fun ih hmm => ih hmm)
    (stop := fun _ ih hr _ => ih.weakenR hr)
    (step := fun {_ p _ _ _ _ _ _ _} _ ih1 ih2 _ => ih1.seq (ih2 fun mp hmp => by
      rw [nextMM_eq] at hmp
      split at hmp <;> cases hmp
      exact (ih1.2 _ _ rfl).all rfl))
    (ellOne := fun _ => ⟨nofun, nofun⟩) (ellNone := fun _ => ⟨nofun, nofun⟩)
    (ellErr := fun ih _ => ⟨ih.1, nofun⟩) (ellFail := fun _ _ => .ok .refl_false)
    (ellPanic := fun ih hp hmm => by
      -- the keys of the inner table are variables of `mp`, which are keys of `σ`
      obtain ⟨σ2, h2⟩ := pushAll_isSome fun k hk =>
        ((ih.2 _ _ rfl).only k hk).elim (by simp) (hmm _ rfl k)
      rw [h2] at hp; cases hp)
    (ellStay := fun _ hp ih _ hmm =>
      (ih fun mp' h x hx => pushAll_keys hp ▸ hmm mp' h x hx).of_keys_eq (pushAll_keys hp))
    (ellOver := fun _ hp ih2 ih3 hmm => by
      have k3 := ((ih2 fun mp' h x hx => pushAll_keys hp ▸ hmm mp' h x hx).2 _ _ rfl).of_keys_eq
        (pushAll_keys hp)
      exact .trans k3 (ih3 fun mp' h x hx => k3.mono _ (hmm mp' h x hx))) n

theorem matchDatum_keys {lits n p d σ b σ'} (h : matchDatum n lits p d σ = .ok (b, σ')) :
    KInv (p.vars lits) σ b σ' :=
  ((match_keys_aux lits n).1 p d σ).2 b σ' h

theorem matchStream_no_panic {lits n ps ds mm σ s l} (h : MMInv lits mm σ) :
    matchStream n lits ps ds mm σ ≠ .error (.panic s, l) :=
  ((match_keys_aux lits n).2 ps ds mm σ h).1 s l

/-! ## the rules, one after the other -/

/-- what `transform` does with the template of the rule that matched: the ellipsis test
(`UnexpectedTemplate`), then `subst` -/
def fill (fuel : Nat) (t : Tmpl) (σ : Subst) (loc : Loc) : Except SErr Datum :=
  if ellipsisOk σ t then
    match subst fuel t σ loc with
    | some d => .ok d
    | none => .error (.fuel, none)
  else .error (.syntax, none)

theorem fill_eq_ok_iff {fuel t σ loc d} :
    fill fuel t σ loc = .ok d ↔ ellipsisOk σ t = true ∧ subst fuel t σ loc = some d := by
  unfold fill
  cases ellipsisOk σ t <;> cases subst fuel t σ loc <;> simp

theorem fill_eq_error_iff {fuel t σ loc e} :
    fill fuel t σ loc = .error e ↔
      (ellipsisOk σ t = false ∧ (.syntax, none) = e) ∨
      (ellipsisOk σ t = true ∧ subst fuel t σ loc = none ∧ (.fuel, none) = e) := by
  unfold fill
  cases ellipsisOk σ t <;> cases subst fuel t σ loc <;> simp

def tryRule (fuel : Nat) (lits : List String) (use : Datum) (r : Pat × Tmpl) : Option (Except SErr Datum) :=
  match matchDatum fuel lits r.1 use [] with
  | .error e => some (.error e)
  | .ok (true, σ) => some (fill fuel r.2 σ use.loc)
  | .ok (false, _) => none

theorem tryRule_eq_none {fuel lits use r} :
    tryRule fuel lits use r = none ↔ ∃ σ', matchDatum fuel lits r.1 use [] = .ok (false, σ') := by
  unfold tryRule
  split <;> simp [*]

theorem tryRule_eq_some_iff {fuel lits use r x} :
    tryRule fuel lits use r = some x ↔
      (∃ e, matchDatum fuel lits r.1 use [] = .error e ∧ .error e = x) ∨
      ∃ σ, matchDatum fuel lits r.1 use [] = .ok (true, σ) ∧ fill fuel r.2 σ use.loc = x := by
  unfold tryRule
  rcases matchDatum fuel lits r.1 use [] with e | ⟨_ | _, σ⟩ <;> simp

theorem transformRules_eq_findSome (fuel : Nat) (lits : List String) (use : Datum) :
    ∀ rules, transformRules fuel lits rules use =
      (rules.findSome? (tryRule fuel lits use)).getD (.error (.syntax, none))
  | [] => rfl
  | (p, t) :: rest => by
    rw [List.findSome?_cons, tryRule, transformRules]
    rcases matchDatum fuel lits p use [] with e | ⟨_ | _, σ⟩
    · rfl
    · exact transformRules_eq_findSome fuel lits use rest
    · simp only [fill, bind, Except.bind]
      cases ellipsisOk σ t
      · rfl
      · cases subst fuel t σ use.loc <;> rfl

theorem transformRules_cases (fuel : Nat) (lits : List String) (rules : List (Pat × Tmpl)) (use : Datum) :
    (∃ t σ, (∃ pre p post, rules = pre ++ (p, t) :: post ∧
        (∀ r ∈ pre, ∃ σ', matchDatum fuel lits r.1 use [] = .ok (false, σ')) ∧
        matchDatum fuel lits p use [] = .ok (true, σ)) ∧
      transformRules fuel lits rules use = fill fuel t σ use.loc) ∨
    ((∀ r ∈ rules, ∃ σ', matchDatum fuel lits r.1 use [] = .ok (false, σ')) ∧
      transformRules fuel lits rules use = .error (.syntax, none)) ∨
    (∃ r ∈ rules, ∃ e, matchDatum fuel lits r.1 use [] = .error e ∧
      transformRules fuel lits rules use = .error e) := by
  rw [transformRules_eq_findSome]
  cases hf : rules.findSome? (tryRule fuel lits use) with
  | none => exact .inr (.inl ⟨fun r hr => tryRule_eq_none.1 (List.findSome?_eq_none_iff.1 hf r hr), rfl⟩)
  | some x =>
    obtain ⟨pre, ⟨p, t⟩, post, rfl, hr, hpre⟩ := List.findSome?_eq_some_iff.1 hf
    rcases tryRule_eq_some_iff.1 hr with ⟨e, he, rfl⟩ | ⟨σ, hσ, rfl⟩
    · exact .inr (.inr ⟨(p, t), by simp, e, he, rfl⟩)
    · exact .inl ⟨t, σ, ⟨pre, p, post, rfl, fun r hr => tryRule_eq_none.1 (hpre r hr), hσ⟩, rfl⟩

/-! ## `identOf` -/

theorem identOf_ok_iff (d : Datum) (i : String) : identOf d = .ok i ↔ ∃ l, d = .sym i l := by
  cases d <;> simp [identOf]

theorem identOf_error {d : Datum} {e : SErr} (h : identOf d = .error e) : e = (.syntax, d.loc) := by
  cases d <;> cases h <;> rfl

theorem expectList_ok {d d' : Datum} (h : expectList d = .ok d') : d' = d := by
  cases d <;> cases h <;> rfl

theorem expectList_error {d : Datum} {e : SErr} (h : expectList d = .error e) : e = (.syntax, none) := by
  cases d <;> cases h <;> rfl

/-! ## proper lists: `IsList` and `popProper` -/

theorem IsList.elems {d : Datum} {es : List Datum} (h : IsList d es) : d.elems = es := by
  rw [Datum.elems, h]

theorem IsList.isListy {d : Datum} {es : List Datum} (h : IsList d es) : d.isListy = true := by
  cases d <;> first | rfl | cases h

/-- a datum that is neither a pair nor the empty list is no list; stated as `Desugar.NotList` and the `case`
rules ask for it: whatever list of elements it had would be empty -/
theorem notList_atom {K : Datum} (h : K.isListy = false) : ∀ ks, IsList K ks → ks = [] :=
  fun _ hk => absurd hk.isListy (by rw [h]; exact Bool.false_ne_true)

theorem isList_cons_iff {d x : Datum} {xs : List Datum} :
    IsList d (x :: xs) ↔ ∃ dd l, d = .pair x dd l ∧ IsList dd xs := by
  constructor
  · intro h
    cases d with
    | pair a dd l =>
      simp only [IsList, Datum.spine] at h
      generalize hs : dd.spine = sp at h
      obtain ⟨ys, t⟩ := sp
      cases h
      exact ⟨dd, l, rfl, hs⟩
    | _ => cases h
  · rintro ⟨dd, l, rfl, h⟩
    simp only [IsList, Datum.spine] at h ⊢
    rw [h]

theorem popProper_pair (a b : Datum) (l : Loc) :
    popProper (.pair a b l) = if b.isListy then .ok (some (a, b)) else .error (.syntax, none) := by
  cases b <;> rfl

theorem isList_ofList (l : Loc) (xs : List Datum) : IsList (Datum.ofList l xs) xs := Datum.spine_ofList l xs

theorem isList_withLoc {d : Datum} {es : List Datum} (l : Loc) (h : IsList d es) : IsList (d.withLoc l) es := by
  cases d <;> simp [IsList, Datum.withLoc, Datum.spine] at h ⊢ <;> exact h

theorem isList_pair {a d : Datum} {l : Loc} {es : List Datum} (h : IsList d es) : IsList (.pair a d l) (a :: es) := by
  simp only [IsList, Datum.spine] at h ⊢
  rw [h]

theorem withLoc_loc (d : Datum) (l : Loc) : (d.withLoc l).loc = l := by cases d <;> rfl

end Ruschm.Macro
