/-
Property C05 — derived forms behave as R7RS specifies: the MEANING of each bundled derived form.

`C05Shapes.lean` says what each bundled rule of `grammar.sld` expands to (about the generated constant
`Gen.grammarData`). Here the expansion is followed through the parser's transformer (`Xform`) and the
evaluator: each theorem takes a derived form `(kw . rest)` = `.pair (.sym kw l₁) rest l` that the
transformer turned into the expression `e` (`XE env form e`) in a syntax environment with the bundled
forms (`StdSyn env`), names the expressions its sub-forms were turned into, and gives the evaluation
rules of `e` in terms of the evaluation of those: which are evaluated, in which order, in which frame,
and what the value is.

Vocabulary (`XformInverse.lean` for `XE`, `NoDefs`; `StdEnv.lean` for `StdSyn`; `MeaningLemmas.lean` for the rest):
* `XE env d e` — the transformer turns datum `d` into expression `e` (leaving `env` unchanged).
  (Body forms of the lambdas the templates build are transformed in a fresh child scope, which gives
  the same expressions: `xe_child_iff`.)
* `Means σ ρ e v τ` — the MODEL (`evalExpr`, some fuel) evaluates `e` in store `σ`, frame `ρ`, to the
  value `v`; `τ` is the final store with the activation counters erased (`Store.erase`: `depth` and
  `maxDepth` are instrumentation). It is functional (`Means.unique`) and, by `C01.model_iff_ref_value`,
  the value judgement of the reference semantics. A rule "premises → `Means σ ρ e v τ`" therefore
  fixes the value and the final store whenever the premises hold; sub-expressions that do not occur in
  the premises are NOT evaluated (an evaluation of them could fail or change the store).
* `MeansSeq ρ σ es v τ` — the expressions `es` in order, the value of the last;
  `MeansList ρ σ es vs τ` — operands left to right; `MeansApply σ p args v τ` — procedure application.
* `σ.pushFrame ρ D` — `σ` with one more frame (number `σ.frames.size`), child of frame `ρ`, with the
  bindings `D`.
* `NoDefs env body` — no form of `body` is a definition (the templates put the body forms into a
  `lambda` body, where a leading definition would be an internal definition).
The templates are not hygienic: `temp`, `x`, `atom-key` are bound in a child frame in which the
user's remaining sub-forms are evaluated; the rules say so explicitly.
-/
import RuschmProofs.MeaningLemmas
import RuschmProofs.C11
import RuschmProofs.GrammarScope

namespace Ruschm.C05Meaning
open Ruschm Ruschm.Eval Ruschm.Xform Ruschm.Macro Ruschm.Meaning Ruschm.C05

/-! ## the forms the theorems are instantiated on -/

section Samples
open Ruschm.Macro.Ex

private def samples : List Datum := [
  lst [sy "begin", num 1, num 2],
  lst [sy "and", num 1, .prim (.bool false) none, sy "zz"],
  lst [sy "when", sy "t", num 1, num 2],
  lst [sy "unless", sy "t", num 1],
  lst [sy "or", .prim (.bool false) none, num 2, sy "zz"],
  lst [sy "let", lst [lst [sy "a", num 1], lst [sy "b", num 2]], sy "a"],
  lst [sy "let*", lst [lst [sy "a", num 1], lst [sy "b", sy "a"]], sy "b"],
  lst [sy "cond", lst [.prim (.bool false) none, sy "=>", sy "zz"], lst [sy "else", num 7]],
  lst [sy "cond", lst [sy "t", sy "=>", sy "f"]],
  lst [sy "cond", lst [sy "t"]],
  lst [sy "cond", lst [sy "t"], lst [sy "else", num 1]],
  lst [sy "cond", lst [sy "t", num 1, num 2]],
  lst [sy "cond", lst [sy "t", num 1], lst [sy "else", num 2]],
  lst [sy "case", lst [sy "f", sy "x"], lst [lst [num 1], num 2]],
  lst [sy "case", sy "k", lst [sy "else", sy "=>", sy "f"]],
  lst [sy "case", sy "k", lst [sy "else", num 1]],
  lst [sy "case", sy "k", lst [lst [num 1, num 2], num 3]],
  lst [sy "case", sy "k", lst [lst [num 1], sy "=>", sy "f"], lst [sy "else", num 4]],
  lst [sy "case", sy "k", lst [lst [num 1], sy "=>", sy "f"]],
  lst [sy "case", num 2, lst [lst [num 1, num 2], num 3], lst [sy "else", num 4]]]

/-- one evaluation of the real transformer for all the samples -/
private theorem sample_xe (i : Nat) (h : i < samples.length := by decide) :
    ∃ e, XE [[], Interp.grammarScope] samples[i] e := by
  have ok : (samples.all fun d => match toStatement 300 d [[], Interp.grammarScope] with
      | (.ok (.expr _), _) => true
      | _ => false) = true := by rw [grammarScope_eq]; decide +kernel
  have := List.all_eq_true.mp ok _ (List.getElem_mem h)
  split at this
  · exact ⟨_, XE.of_run ‹_›⟩
  · cases this

end Samples

/-! ## begin -/

/-- `((lambda (name₁ …) form₁ … formₙ) init₁ …)` as the templates of `begin` and `let` build it -/
private theorem lambda_call_rule {env l} {nvs : List (Datum × Datum)} {body e} (hnd : NoDefs env body)
    (h : XE env (L l (L l (S l "lambda" :: L l (nvs.map (·.1)) :: body) :: nvs.map (·.2))) e) :
    ∃ ves bes, All2 (XE env) (nvs.map (·.2)) ves ∧ All2 (XE env) body bes ∧
      ∀ σ ρ vs σ₁ v τ, MeansList ρ σ ves vs σ₁ →
        MeansSeq σ₁.frames.size (σ₁.pushFrame ρ (bindList [] (nvs.map fun nv => symName nv.1) vs)) bes v τ →
        Means σ ρ e v τ := by
  obtain ⟨F, bes, aes, la, lb, hF, hbes, haes, rfl⟩ :=
    h.lambda_call_inv (isList_ofList _ _) (isList_ofList _ _) rfl hnd
  have := toFormals_list hF (isList_ofList l (nvs.map (·.1)))
  subst this
  refine ⟨aes, bes, haes, hbes, fun σ ρ vs σ₁ v τ hl hb => ?_⟩
  rw [List.map_map]
  exact Means.lambda_call hl hb (by rw [← haes.length, List.length_map, List.length_map])

/-- `(begin form₁ … formₙ)`: the forms are evaluated in order, in a fresh empty frame that is a child of
the current one, and the value is the value of the last. -/
theorem begin_meaning {env l₁ rest l body e} (hstd : StdSyn env) (hu : IsList rest body) (hne : body ≠ [])
    (hnd : NoDefs env body) (hx : XE env (.pair (.sym "begin" l₁) rest l) e) :
    ∃ bes, All2 (XE env) body bes ∧
      ∀ σ ρ v τ, MeansSeq σ.frames.size (σ.pushFrame ρ []) bes v τ → Means σ ρ e v τ := by
  obtain ⟨ves, bes, hves, hbes, rule⟩ := lambda_call_rule (nvs := []) hnd
    (hx.expand_inv hstd.std (by decide) (fun fuel hf => begin_shape (isList_withLoc l hu) hne hf))
  cases hves
  exact ⟨bes, hbes, fun σ ρ v τ hb => rule σ ρ [] _ v τ .nil hb.to_erase⟩

open Ruschm.Macro.Ex in
set_option maxRecDepth 100000 in
/-- `(begin 1 2)` in the interpreter's syntax environment evaluates to `2` -/
example : ∃ e, XE [[], Interp.grammarScope] (lst [sy "begin", num 1, num 2]) e ∧ ∃ τ, Means {} 0 e (.num (.int 2)) τ := by
  obtain ⟨e, hx⟩ := sample_xe 0
  obtain ⟨bes, _ | ⟨h₁, _ | ⟨h₂, _ | _⟩⟩, rule⟩ := begin_meaning stdSyn_default (l₁ := none) (l := none)
    (rest := lst [num 1, num 2]) (body := [num 1, num 2]) rfl (by simp) (noDefs_atoms rfl) hx
  obtain rfl := h₁.prim_inv; obtain rfl := h₂.prim_inv
  exact ⟨e, hx, _, rule {} 0 _ _ (.cons (Means.prim rfl) (.one (Means.prim rfl)))⟩

/-- `(if T (begin form₁ … formₙ))` as the templates build it -/
private theorem if_begin_rule {env l T body e} (hstd : StdSyn env) (hne : body ≠ []) (hnd : NoDefs env body)
    (h : XE env (L l [S l "if", T, L l (S l "begin" :: body)]) e) :
    ∃ te bes, XE env T te ∧ All2 (XE env) body bes ∧
      ∀ σ ρ tv σ₁, Means σ ρ te tv σ₁ →
        (tv.truthy = true → ∀ v τ, MeansSeq σ₁.frames.size (σ₁.pushFrame ρ []) bes v τ → Means σ ρ e v τ) ∧
        (tv.truthy = false → Means σ ρ e .void σ₁) := by
  obtain ⟨te, ce, lc, hte, hce, rfl⟩ := h.if2_inv (isList_ofList _ _) rfl
  obtain ⟨bes, hbes, rule⟩ := begin_meaning hstd (isList_ofList none body) hne hnd hce
  exact ⟨te, bes, hte, hbes, fun σ ρ tv σ₁ ht =>
    ⟨fun htv v τ hb => Means.cond_true ht htv (rule σ₁ ρ v τ hb), fun htv => Means.cond_void ht htv⟩⟩

/-- `(if T (begin form₁ … formₙ) R)` -/
private theorem if_begin_else_rule {env l T body R e} (hstd : StdSyn env) (hne : body ≠ []) (hnd : NoDefs env body)
    (h : XE env (L l [S l "if", T, L l (S l "begin" :: body), R]) e) :
    ∃ te bes er, XE env T te ∧ All2 (XE env) body bes ∧ XE env R er ∧
      ∀ σ ρ tv σ₁, Means σ ρ te tv σ₁ →
        (tv.truthy = true → ∀ v τ, MeansSeq σ₁.frames.size (σ₁.pushFrame ρ []) bes v τ → Means σ ρ e v τ) ∧
        (tv.truthy = false → ∀ v τ, Means σ₁ ρ er v τ → Means σ ρ e v τ) := by
  obtain ⟨te, ce, er, lc, hte, hce, her, rfl⟩ := h.if3_inv (isList_ofList _ _) rfl
  obtain ⟨bes, hbes, rule⟩ := begin_meaning hstd (isList_ofList none body) hne hnd hce
  exact ⟨te, bes, er, hte, hbes, her, fun σ ρ tv σ₁ ht =>
    ⟨fun htv v τ hb => Means.cond_true ht htv (rule σ₁ ρ v τ hb),
     fun htv v τ hrest => Means.cond_false ht htv hrest⟩⟩

/-! ## when, unless -/

/-- `(when test form₁ … formₙ)`: the test is evaluated once; if its value is not `#f` the forms are
evaluated in order (in a fresh empty child frame) and the value is the value of the last; if it is `#f`
NO form is evaluated — the store is the one the test left — and the model's value is `Void`. -/
theorem when_meaning {env l₁ rest l test body e} (hstd : StdSyn env) (hu : IsList rest (test :: body))
    (hne : body ≠ []) (hnd : NoDefs env body) (hx : XE env (.pair (.sym "when" l₁) rest l) e) :
    ∃ te bes, XE env test te ∧ All2 (XE env) body bes ∧
      ∀ σ ρ tv σ₁, Means σ ρ te tv σ₁ →
        (tv.truthy = true → ∀ v τ, MeansSeq σ₁.frames.size (σ₁.pushFrame ρ []) bes v τ → Means σ ρ e v τ) ∧
        (tv.truthy = false → Means σ ρ e .void σ₁) :=
  if_begin_rule hstd hne hnd
    (hx.expand_inv hstd.std (by decide) (fun fuel hf => when_shape (isList_withLoc l hu) hne hf))

/-- `(unless test form₁ … formₙ)` (with `not` the native procedure): the test is evaluated once; if its
value is `#f` the forms are evaluated in order and the value is the value of the last; otherwise NO form
is evaluated and the model's value is `Void`. -/
theorem unless_meaning {env l₁ rest l test body e} (hstd : StdSyn env) (hu : IsList rest (test :: body))
    (hne : body ≠ []) (hnd : NoDefs env body) (hx : XE env (.pair (.sym "unless" l₁) rest l) e) :
    ∃ te bes, XE env test te ∧ All2 (XE env) body bes ∧
      ∀ σ ρ tv σ₁, σ.lookup ρ "not" = some (.builtin .not) → Means σ ρ te tv σ₁ →
        (tv.truthy = false → ∀ v τ, MeansSeq σ₁.frames.size (σ₁.pushFrame ρ []) bes v τ → Means σ ρ e v τ) ∧
        (tv.truthy = true → Means σ ρ e .void σ₁) := by
  have h₁ := hx.expand_inv hstd.std (by decide) (fun fuel hf => unless_shape (isList_withLoc l hu) hne hf)
  obtain ⟨tne, ce, lc, htne, hce, rfl⟩ := h₁.if2_inv (isList_ofList _ _) rfl
  obtain ⟨te, hte, nrule⟩ := std_call1 (hstd.ordinary_not _) htne
  obtain ⟨bes, hbes, rule⟩ := begin_meaning hstd (isList_ofList none body) hne hnd hce
  refine ⟨te, bes, hte, hbes, fun σ ρ tv σ₁ hnot ht => ?_⟩
  have hn := nrule σ ρ _ tv σ₁ _ _ hnot ht (meansApply_not ht)
  exact ⟨fun htv v τ hb => Means.cond_true hn (by rw [htv]; rfl) (rule σ₁ ρ v τ hb),
    fun htv => Means.cond_void hn (by rw [htv]; rfl)⟩

private theorem means_bound {σ ρ te tv σ₁ nm l} (ht : Means σ ρ te tv σ₁) :
    Means (σ₁.pushFrame ρ [(nm, tv)]) σ₁.frames.size (.sym nm l) tv (σ₁.pushFrame ρ [(nm, tv)]) := by
  have hl : (σ₁.pushFrame ρ [(nm, tv)]).lookup σ₁.frames.size nm = some tv :=
    Store.lookup_pushFrame_here (by simp)
  have := Means.sym (l := l) hl
  rwa [erase_pushFrame, ht.erased] at this

/-- `(let ((nm T)) (if nm C A))` as the templates build it -/
private theorem let_if_else_rule {env loc nm T C A e} (hstd : StdSyn env)
    (h : XE env (L loc [S loc "let", L loc [L loc [S loc nm, T]], L loc [S loc "if", S loc nm, C, A]]) e) :
    ∃ te ce ae, XE env T te ∧ XE env C ce ∧ XE env A ae ∧ ∀ σ ρ tv σ₁, Means σ ρ te tv σ₁ →
      (tv.truthy = true → ∀ v τ, Means (σ₁.pushFrame ρ [(nm, tv)]) σ₁.frames.size ce v τ → Means σ ρ e v τ) ∧
      (tv.truthy = false → ∀ v τ, Means (σ₁.pushFrame ρ [(nm, tv)]) σ₁.frames.size ae v τ → Means σ ρ e v τ) := by
  obtain ⟨te, be, la, lb, hte, hbe, rfl⟩ := XE.let1_inv hstd.std h
  obtain ⟨xe, ce, ae, lc, hxe, hce, hae, rfl⟩ := hbe.if3_inv (isList_ofList _ _) rfl
  have := hxe.sym_inv; subst this
  exact ⟨te, ce, ae, hte, hce, hae, fun σ ρ tv σ₁ ht =>
    ⟨fun htv v τ hc => Means.let1 ht (Means.cond_true (means_bound ht) htv hc),
     fun htv v τ ha => Means.let1 ht (Means.cond_false (means_bound ht) htv ha)⟩⟩

/-! ## and -/

/-- R7RS `and` on already transformed tests: left to right; the first `#f` is the value and ends the
evaluation; otherwise the value of the last test; `(and)` is `#t` -/
inductive AndMeans (ρ : Nat) : Store → List Expr → Value → Store → Prop
  | nil {σ} : AndMeans ρ σ [] (.bool true) σ.erase
  | one {σ t v τ} (h : Means σ ρ t v τ) : AndMeans ρ σ [t] v τ
  | stop {σ t t' ts tv σ₁} (h : Means σ ρ t tv σ₁) (htv : tv.truthy = false) :
      AndMeans ρ σ (t :: t' :: ts) (.bool false) σ₁
  | next {σ t t' ts tv σ₁ v τ} (h : Means σ ρ t tv σ₁) (htv : tv.truthy = true)
      (ht : AndMeans ρ σ₁ (t' :: ts) v τ) : AndMeans ρ σ (t :: t' :: ts) v τ

/-- `(and test₁ … testₙ)`: the tests are evaluated left to right in the current frame until one yields
`#f`, which is then the value (the later tests are NOT evaluated); if none does the value is the value
of the last test; `(and)` is `#t`. -/
theorem and_meaning {env} (hstd : StdSyn env) : ∀ (tests : List Datum) {l₁ rest l e}, IsList rest tests →
    XE env (.pair (.sym "and" l₁) rest l) e →
    ∃ tes, All2 (XE env) tests tes ∧ ∀ σ ρ v τ, AndMeans ρ σ tes v τ → Means σ ρ e v τ
  | [], l₁, rest, l, e, hu, hx => by
    have h₁ := hx.expand_inv hstd.std (by decide) (fun fuel hf => and_empty_shape (isList_withLoc l hu) hf)
    have := h₁.prim_inv; subst this
    exact ⟨[], .nil, fun σ ρ v τ h => by cases h; exact Means.prim rfl⟩
  | [t], l₁, rest, l, e, hu, hx => by
    have h₁ := hx.expand_inv hstd.std (by decide) (fun fuel hf => and_one_shape (isList_withLoc l hu) hf)
    exact ⟨[e], .cons h₁ .nil, fun σ ρ v τ h => by cases h; assumption⟩
  | t :: t' :: ts, l₁, rest, l, e, hu, hx => by
    have h₁ := hx.expand_inv hstd.std (by decide) (fun fuel hf =>
      at_loc (and_more_shape (test := t) (tests := t' :: ts) (isList_withLoc l hu) (by simp) hf))
    obtain ⟨te, ce, ae, lc, hte, hce, hae, rfl⟩ := h₁.if3_inv (isList_ofList _ _) rfl
    have := hae.prim_inv; subst this
    obtain ⟨tes', hall, rule⟩ := and_meaning hstd (t' :: ts) (isList_ofList none _) hce
    refine ⟨te :: tes', .cons hte hall, fun σ ρ v τ h => ?_⟩
    cases hall with
    | cons _ _ =>
      cases h with
      | stop ht htv =>
        have := Means.cond_false (c := ce) (l := lc) ht htv (Means.prim (p := .bool false) (l := l) rfl)
        rwa [ht.erased] at this
      | next ht htv hrest => exact Means.cond_true ht htv (rule _ ρ v τ hrest)

open Ruschm.Macro.Ex in
set_option maxRecDepth 100000 in
/-- `(and 1 #f zz)` is `#f`; the unbound `zz` is not evaluated -/
example : ∃ e, XE [[], Interp.grammarScope] (lst [sy "and", num 1, .prim (.bool false) none, sy "zz"]) e ∧
    Means {} 0 e (.bool false) {} := by
  obtain ⟨e, hx⟩ := sample_xe 1
  obtain ⟨tes, _ | ⟨h₁, _ | ⟨h₂, _ | ⟨h₃, _ | _⟩⟩⟩, rule⟩ := and_meaning stdSyn_default
    [num 1, .prim (.bool false) none, sy "zz"] (l₁ := none) (l := none)
    (rest := lst [num 1, .prim (.bool false) none, sy "zz"]) rfl hx
  obtain rfl := h₁.prim_inv; obtain rfl := h₂.prim_inv
  exact ⟨e, hx, rule {} 0 _ _ (.next (Means.prim rfl) rfl (.stop (Means.prim rfl) rfl))⟩

/-! ## or -/

/-- R7RS `or` on already transformed tests, as the bundled (non-hygienic) template realises it: left to
right; the first value that is not `#f` is the value and ends the evaluation; each test after the first
is evaluated in a fresh child frame that binds `x` to the (false) value of the test before it, and that
frame stays in the store; `(or)` is `#f` -/
inductive OrMeans : Nat → Store → List Expr → Value → Store → Prop
  | nil {ρ σ} : OrMeans ρ σ [] (.bool false) σ.erase
  | one {ρ σ t v τ} (h : Means σ ρ t v τ) : OrMeans ρ σ [t] v τ
  | stop {ρ σ t t' ts tv σ₁} (h : Means σ ρ t tv σ₁) (htv : tv.truthy = true) :
      OrMeans ρ σ (t :: t' :: ts) tv (σ₁.pushFrame ρ [("x", tv)])
  | next {ρ σ t t' ts tv σ₁ v τ} (h : Means σ ρ t tv σ₁) (htv : tv.truthy = false)
      (ht : OrMeans σ₁.frames.size (σ₁.pushFrame ρ [("x", tv)]) (t' :: ts) v τ) : OrMeans ρ σ (t :: t' :: ts) v τ

/-- `(or test₁ … testₙ)`: the tests are evaluated left to right until one yields a value that is not
`#f`, which is then the value (the later tests are NOT evaluated); if none does the value is the value of
the last test; `(or)` is `#f`. -/
theorem or_meaning {env} (hstd : StdSyn env) : ∀ (tests : List Datum) {l₁ rest l e}, IsList rest tests →
    XE env (.pair (.sym "or" l₁) rest l) e →
    ∃ tes, All2 (XE env) tests tes ∧ ∀ σ ρ v τ, OrMeans ρ σ tes v τ → Means σ ρ e v τ
  | [], l₁, rest, l, e, hu, hx => by
    have h₁ := hx.expand_inv hstd.std (by decide) (fun fuel hf => or_empty_shape (isList_withLoc l hu) hf)
    have := h₁.prim_inv; subst this
    exact ⟨[], .nil, fun σ ρ v τ h => by cases h; exact Means.prim rfl⟩
  | [t], l₁, rest, l, e, hu, hx => by
    have h₁ := hx.expand_inv hstd.std (by decide) (fun fuel hf => or_one_shape (isList_withLoc l hu) hf)
    exact ⟨[e], .cons h₁ .nil, fun σ ρ v τ h => by cases h; assumption⟩
  | t :: t' :: ts, l₁, rest, l, e, hu, hx => by
    have h₁ := hx.expand_inv hstd.std (by decide) (fun fuel hf =>
      or_more_shape (test := t) (tests := t' :: ts) (isList_withLoc l hu) (by simp) hf)
    obtain ⟨te, ce, ae, hte, hce, hae, rule₁⟩ := let_if_else_rule hstd h₁
    have := hce.sym_inv; subst this
    obtain ⟨tes', hall, rule⟩ := or_meaning hstd (t' :: ts) (isList_ofList none _) hae
    refine ⟨te :: tes', .cons hte hall, fun σ ρ v τ h => ?_⟩
    cases hall with
    | cons _ _ =>
      cases h with
      | stop ht htv => exact (rule₁ σ ρ v _ ht).1 htv _ _ (means_bound ht)
      | next ht htv hrest => exact (rule₁ σ ρ _ _ ht).2 htv v τ (rule _ _ v τ hrest)

/-! ## let, let* -/

/-- `(let ((name₁ init₁) …) form₁ … formₙ)` (possibly without bindings): the initialisers are evaluated
left to right IN THE OUTER FRAME; then the forms are evaluated in order in a fresh frame, child of the
outer one, that binds the names to the values; the value is the value of the last form. -/
theorem let_meaning {env l₁ rest l bs bds nvs body e} (hstd : StdSyn env) (hu : IsList rest (bs :: body))
    (hbs : IsList bs bds) (hp : IsPairs bds nvs) (hne : body ≠ []) (hnd : NoDefs env body)
    (hx : XE env (.pair (.sym "let" l₁) rest l) e) :
    ∃ ves bes, All2 (XE env) (nvs.map (·.2)) ves ∧ All2 (XE env) body bes ∧
      ∀ σ ρ vs σ₁ v τ, MeansList ρ σ ves vs σ₁ →
        MeansSeq σ₁.frames.size (σ₁.pushFrame ρ (bindList [] (nvs.map fun nv => symName nv.1) vs)) bes v τ →
        Means σ ρ e v τ :=
  lambda_call_rule hnd (hx.expand_inv hstd.std (by decide) (fun fuel hf =>
    let_any_shape (isList_withLoc l hu) hbs hp hne hf))

/-- a binding `(name init)` and what it is transformed into -/
def XB (env : SynEnv) (nv : Datum × Datum) (b : String × Expr) : Prop := b.1 = symName nv.1 ∧ XE env nv.2 b.2

/-- R7RS `let*`: the bindings one after the other, each initialiser evaluated in the scope of the earlier
bindings (a fresh child frame per binding), then the body in the innermost frame -/
inductive LetStarMeans : Nat → Store → List (String × Expr) → List Expr → Value → Store → Prop
  | nil {ρ σ bes v τ} (h : MeansSeq σ.frames.size (σ.pushFrame ρ []) bes v τ) : LetStarMeans ρ σ [] bes v τ
  | one {ρ σ nm ve bes x σ₁ v τ} (h : Means σ ρ ve x σ₁)
      (hb : MeansSeq σ₁.frames.size (σ₁.pushFrame ρ [(nm, x)]) bes v τ) : LetStarMeans ρ σ [(nm, ve)] bes v τ
  | cons {ρ σ nm ve b₂ bs bes x σ₁ v τ} (h : Means σ ρ ve x σ₁)
      (ht : LetStarMeans σ₁.frames.size (σ₁.pushFrame ρ [(nm, x)]) (b₂ :: bs) bes v τ) :
      LetStarMeans ρ σ ((nm, ve) :: b₂ :: bs) bes v τ

/-- `(let* ((name₁ init₁) …) form₁ … formₙ)`: each initialiser is evaluated in the scope of the bindings
before it; the forms are evaluated in order in the scope of all of them; the value is the value of the
last form. -/
theorem letstar_meaning {env} (hstd : StdSyn env) {body : List Datum} (hne : body ≠ []) (hnd : NoDefs env body) :
    ∀ (nvs : List (Datum × Datum)) {l₁ rest l bs bds e}, IsList rest (bs :: body) → IsList bs bds →
    IsPairs bds nvs → XE env (.pair (.sym "let*" l₁) rest l) e →
    ∃ bnds bes, All2 (XB env) nvs bnds ∧ All2 (XE env) body bes ∧
      ∀ σ ρ v τ, LetStarMeans ρ σ bnds bes v τ → Means σ ρ e v τ
  | [], l₁, rest, l, bs, bds, e, hu, hbs, hp, hx => by
    cases hp
    have h₁ := hx.expand_inv hstd.std (by decide) (fun fuel hf =>
      letstar_empty_shape (isList_withLoc l hu) hbs hne hf)
    obtain ⟨ves, bes, hves, hbes, rule⟩ := let_meaning (nvs := []) hstd (isList_ofList none _) (isList_ofList _ [])
      .nil hne hnd h₁
    cases hves
    refine ⟨[], bes, .nil, hbes, fun σ ρ v τ h => ?_⟩
    cases h with
    | nil hb => exact rule σ ρ [] _ v τ .nil hb.to_erase
  | [nv], l₁, rest, l, bs, bds, e, hu, hbs, hp, hx => by
    cases hp with
    | cons hb hps =>
      cases hps
      have h₁ := hx.expand_inv hstd.std (by decide) (fun fuel hf =>
        letstar_one_shape (isList_withLoc l hu) hbs hb hne hf)
      obtain ⟨ves, bes, hves, hbes, rule⟩ := let_meaning (nvs := [nv]) hstd (isList_ofList none _)
        (isList_ofList _ [_]) (.cons (xy := nv) (isList_ofList _ _) .nil) hne hnd h₁
      cases hves with
      | cons hve t =>
        cases t
        rename_i ve
        refine ⟨[(symName nv.1, ve)], bes, .cons ⟨rfl, hve⟩ .nil, hbes, fun σ ρ v τ h => ?_⟩
        cases h with
        | one h hb => exact rule σ ρ [_] _ v τ (MeansList.one h) hb
  | nv :: nv₂ :: more, l₁, rest, l, bs, bds, e, hu, hbs, hp, hx => by
    cases hp with
    | cons hb hps =>
      have h₁ := hx.expand_inv hstd.std (by decide) (fun fuel hf =>
        letstar_more_shape (isList_withLoc l hu) hbs hb hps (by simp) hne hf)
      obtain ⟨ve, be, la, lb, hve, hbe, rfl⟩ := XE.let1_inv hstd.std h₁
      obtain ⟨bnds, bes, hbnds, hbes, rule⟩ := letstar_meaning hstd hne hnd (nv₂ :: more)
        (isList_ofList none _) (isList_ofList _ _) (isPairs_built _ _) hbe
      refine ⟨(symName nv.1, ve) :: bnds, bes, .cons ⟨rfl, hve⟩ hbnds, hbes, fun σ ρ v τ h => ?_⟩
      cases hbnds with
      | cons _ _ =>
        cases h with
        | cons h ht => exact Means.let1 h (rule _ _ v τ ht)

/-! ## cond

One theorem per clause kind, for a clause that is the last one (`…_last`) and for a clause followed by
further clauses (`…_more`); in the latter the remaining clauses are the form `(cond clause₂ …)`, whose
expression `er` is characterised by the same theorems. Side conditions as in `C05Shapes.lean` (the rule
order of `grammar.sld`). `Ordinary env r`: the receiver datum, in operator position, makes a procedure
call (it is not the keyword of a core form or of a macro). -/

/-- the call `(receiver temp)` the `=>` templates build -/
theorem receiver_call {env loc r ce} (hce : XE env (L loc [r, S loc "temp"]) ce) (hr : Ordinary env r) :
    ∃ re, XE env r re ∧ ∀ σ ρ fv σ₂ x v τ, Means σ ρ re fv σ₂ → σ₂.lookup ρ "temp" = some x →
      MeansApply σ₂ fv [x] v τ → Means σ ρ ce v τ := by
  obtain ⟨re, te, hre, hte, rule⟩ := hce.call1_rule (isList_ofList _ _) hr
  have := hte.sym_inv; subst this
  refine ⟨re, hre, fun σ ρ fv σ₂ x v τ hf hl happ => rule σ ρ fv σ₂ x σ₂ v τ hf ?_ happ⟩
  have hs := Means.sym (l := loc) hl
  rwa [hf.erased] at hs

/-- `(cond (else form₁ … formₙ))`: the forms in order (fresh empty child frame), value of the last -/
theorem cond_else_meaning {env l₁ rest l c el body e} (hstd : StdSyn env) (hu : IsList rest [c])
    (hc : IsList c (el :: body)) (he : isSym "else" el = true) (hne : body ≠ []) (hnd : NoDefs env body)
    (hx : XE env (.pair (.sym "cond" l₁) rest l) e) :
    ∃ bes, All2 (XE env) body bes ∧
      ∀ σ ρ v τ, MeansSeq σ.frames.size (σ.pushFrame ρ []) bes v τ → Means σ ρ e v τ := by
  have h₁ := hx.expand_inv hstd.std (by decide) (fun fuel hf =>
    cond_else_shape (isList_withLoc l hu) hc he hne hf)
  exact begin_meaning hstd (isList_ofList none body) hne hnd h₁

/-- `(cond (test => receiver))`, the last clause: the test is evaluated once; its value is bound to
`temp` in a fresh child frame; if it is not `#f` the receiver EXPRESSION is evaluated (in that frame) and
the procedure it yields is applied to the value (of `temp`); if it is `#f` the receiver expression is NOT
evaluated and the model's value is `Void`. -/
theorem cond_arrow_last_meaning {env l₁ rest l c test a r e} (hstd : StdSyn env) (hu : IsList rest [c])
    (hc : IsList c [test, a, r]) (ha : isSym "=>" a = true) (hte : isSym "else" test = false)
    (hr : Ordinary env r) (hx : XE env (.pair (.sym "cond" l₁) rest l) e) :
    ∃ te re, XE env test te ∧ XE env r re ∧
      ∀ σ ρ tv σ₁, Means σ ρ te tv σ₁ →
        (tv.truthy = true → ∀ fv σ₂ x v τ, Means (σ₁.pushFrame ρ [("temp", tv)]) σ₁.frames.size re fv σ₂ →
          σ₂.lookup σ₁.frames.size "temp" = some x → MeansApply σ₂ fv [x] v τ → Means σ ρ e v τ) ∧
        (tv.truthy = false → Means σ ρ e .void (σ₁.pushFrame ρ [("temp", tv)])) := by
  have h₁ := hx.expand_inv hstd.std (by decide) (fun fuel hf =>
    cond_arrow_shape (isList_withLoc l hu) hc ha hte hf)
  obtain ⟨te, be, la, lb, hte', hbe, rfl⟩ := XE.let1_inv hstd.std h₁
  obtain ⟨xe, ce, lc, hxe, hce, rfl⟩ := hbe.if2_inv (isList_ofList _ _) rfl
  have := hxe.sym_inv; subst this
  obtain ⟨re, hre, rule⟩ := receiver_call hce hr
  exact ⟨te, re, hte', hre, fun σ ρ tv σ₁ ht =>
    ⟨fun htv fv σ₂ x v τ hf hx' happ =>
      Means.let1 ht (Means.cond_true (means_bound ht) htv (rule _ _ fv σ₂ x v τ hf hx' happ)),
     fun htv => Means.let1 ht (Means.cond_void (means_bound ht) htv)⟩⟩

/-- `(cond (test => receiver) clause₂ …)`: as above when the test's value is not `#f`; when it is `#f`
the receiver expression is NOT evaluated and the value is that of `(cond clause₂ …)`, evaluated in the
frame that binds `temp`. -/
theorem cond_arrow_more_meaning {env l₁ rest l c test a r clauses e} (hstd : StdSyn env)
    (hu : IsList rest (c :: clauses)) (hc : IsList c [test, a, r]) (ha : isSym "=>" a = true)
    (hcl : clauses ≠ []) (hr : Ordinary env r) (hx : XE env (.pair (.sym "cond" l₁) rest l) e) :
    ∃ te re er, XE env test te ∧ XE env r re ∧ XE env (.pair (.sym "cond" l) (Datum.ofList none clauses) l) er ∧
      ∀ σ ρ tv σ₁, Means σ ρ te tv σ₁ →
        (tv.truthy = true → ∀ fv σ₂ x v τ, Means (σ₁.pushFrame ρ [("temp", tv)]) σ₁.frames.size re fv σ₂ →
          σ₂.lookup σ₁.frames.size "temp" = some x → MeansApply σ₂ fv [x] v τ → Means σ ρ e v τ) ∧
        (tv.truthy = false → ∀ v τ, Means (σ₁.pushFrame ρ [("temp", tv)]) σ₁.frames.size er v τ →
          Means σ ρ e v τ) := by
  have h₁ := hx.expand_inv hstd.std (by decide) (fun fuel hf =>
    at_loc (cond_arrow_more_shape (isList_withLoc l hu) hc ha hcl hf))
  obtain ⟨te, ce, er, hte', hce, her', rule₁⟩ := let_if_else_rule hstd h₁
  obtain ⟨re, hre, rule⟩ := receiver_call hce hr
  exact ⟨te, re, er, hte', hre, her', fun σ ρ tv σ₁ ht =>
    ⟨fun htv fv σ₂ x v τ hf hx' happ => (rule₁ σ ρ tv σ₁ ht).1 htv v τ (rule _ _ fv σ₂ x v τ hf hx' happ),
     (rule₁ σ ρ tv σ₁ ht).2⟩⟩

/-- `(cond (test))`, the last clause: the value of the test -/
theorem cond_test_last_meaning {env l₁ rest l c test e} (hstd : StdSyn env) (hu : IsList rest [c])
    (hc : IsList c [test]) (hx : XE env (.pair (.sym "cond" l₁) rest l) e) : XE env test e :=
  hx.expand_inv hstd.std (by decide) (fun fuel hf => cond_test_shape (isList_withLoc l hu) hc hf)

/-- `(cond (test) clause₂ …)`: the test is evaluated once and bound to `temp` in a fresh child frame; if
its value is not `#f` it is the value; otherwise the value is that of `(cond clause₂ …)`, evaluated in
that frame. -/
theorem cond_test_more_meaning {env l₁ rest l c test clauses e} (hstd : StdSyn env)
    (hu : IsList rest (c :: clauses)) (hc : IsList c [test]) (hcl : clauses ≠ [])
    (hx : XE env (.pair (.sym "cond" l₁) rest l) e) :
    ∃ te er, XE env test te ∧ XE env (.pair (.sym "cond" l) (Datum.ofList none clauses) l) er ∧
      ∀ σ ρ tv σ₁, Means σ ρ te tv σ₁ →
        (tv.truthy = true → Means σ ρ e tv (σ₁.pushFrame ρ [("temp", tv)])) ∧
        (tv.truthy = false → ∀ v τ, Means (σ₁.pushFrame ρ [("temp", tv)]) σ₁.frames.size er v τ →
          Means σ ρ e v τ) := by
  have h₁ := hx.expand_inv hstd.std (by decide) (fun fuel hf =>
    at_loc (cond_test_more_shape (isList_withLoc l hu) hc hcl hf))
  obtain ⟨te, ce, er, hte', hce, her', rule₁⟩ := let_if_else_rule hstd h₁
  have := hce.sym_inv; subst this
  exact ⟨te, er, hte', her', fun σ ρ tv σ₁ ht =>
    ⟨fun htv => (rule₁ σ ρ tv σ₁ ht).1 htv _ _ (means_bound ht), (rule₁ σ ρ tv σ₁ ht).2⟩⟩

/-- `(cond (test form₁ … formₙ))`, the last clause: the test once; if its value is not `#f` the forms in
order (fresh empty child frame), value of the last; otherwise NO form is evaluated and the model's value
is `Void`. -/
theorem cond_clause_last_meaning {env l₁ rest l c test body e} (hstd : StdSyn env) (hu : IsList rest [c])
    (hc : IsList c (test :: body)) (hne : body ≠ []) (hte : isSym "else" test = false)
    (hna : ∀ a r, body = [a, r] → isSym "=>" a = false) (hnd : NoDefs env body)
    (hx : XE env (.pair (.sym "cond" l₁) rest l) e) :
    ∃ te bes, XE env test te ∧ All2 (XE env) body bes ∧
      ∀ σ ρ tv σ₁, Means σ ρ te tv σ₁ →
        (tv.truthy = true → ∀ v τ, MeansSeq σ₁.frames.size (σ₁.pushFrame ρ []) bes v τ → Means σ ρ e v τ) ∧
        (tv.truthy = false → Means σ ρ e .void σ₁) :=
  if_begin_rule hstd hne hnd (hx.expand_inv hstd.std (by decide) (fun fuel hf =>
    cond_normal_shape (isList_withLoc l hu) hc hne hte hna hf))

/-- `(cond (test form₁ … formₙ) clause₂ …)`: the test once; if its value is not `#f` the forms in order,
value of the last; otherwise NO form is evaluated and the value is that of `(cond clause₂ …)`, evaluated
in the same frame from the store the test left. -/
theorem cond_clause_more_meaning {env l₁ rest l c test body clauses e} (hstd : StdSyn env)
    (hu : IsList rest (c :: clauses)) (hc : IsList c (test :: body)) (hne : body ≠ []) (hcl : clauses ≠ [])
    (hna : ∀ a r, body = [a, r] → isSym "=>" a = false) (hnd : NoDefs env body)
    (hx : XE env (.pair (.sym "cond" l₁) rest l) e) :
    ∃ te bes er, XE env test te ∧ All2 (XE env) body bes ∧
      XE env (.pair (.sym "cond" l) (Datum.ofList none clauses) l) er ∧
      ∀ σ ρ tv σ₁, Means σ ρ te tv σ₁ →
        (tv.truthy = true → ∀ v τ, MeansSeq σ₁.frames.size (σ₁.pushFrame ρ []) bes v τ → Means σ ρ e v τ) ∧
        (tv.truthy = false → ∀ v τ, Means σ₁ ρ er v τ → Means σ ρ e v τ) :=
  if_begin_else_rule hstd hne hnd (hx.expand_inv hstd.std (by decide) (fun fuel hf =>
    at_loc (cond_normal_more_shape (isList_withLoc l hu) hc hne hcl hna hf)))

/-! ## case

A clause is selected by the VALUE OF `(memv key '(datum …))` — the templates call whatever `memv` (and,
for `=>` in a last clause, `null?` and `not`) is bound to; the rules below are parametric in those
bindings and in the results of applying them, so they assume nothing about the library. With the standard
`memv` of `(scheme base)` (`C11.memv_spec`) the value is the first sublist of the data whose `car` is
`eqv?` to the key, `#f` if there is none: selection by membership (`meansApply_memv_std`). -/

/-- the test `(memv key '(datum …))` -/
theorem memv_test {env loc key atoms ce} (hstd : StdSyn env)
    (hce : XE env (L loc [S loc "memv", key, L loc [S loc "quote", L loc atoms]]) ce) :
    ∃ kee, XE env key kee ∧ ∀ σ ρ mv kv σ₁ qv σ₂ m τ, σ.lookup ρ "memv" = some mv → Means σ ρ kee kv σ₁ →
      readLiteral σ₁ (L loc atoms) = (.ok qv, σ₂) → MeansApply σ₂ mv [kv, qv] m τ → Means σ ρ ce m τ := by
  obtain ⟨fe, aes, lc, hfe, haes, rfl⟩ := hce.call_inv (isList_ofList _ _)
    (hstd.ordinary_memv _)
  have := hfe.sym_inv; subst this
  cases haes with
  | cons hk t =>
    cases t with
    | cons hq t' =>
      cases t'
      obtain ⟨lq, rfl⟩ := hq.quote_inv (isList_ofList _ _) rfl
      rename_i kee
      refine ⟨kee, hk, fun σ ρ mv kv σ₁ qv σ₂ m τ hl hkv hlit happ => ?_⟩
      have hq' := Means.quote (ρ := ρ) (l := lq) hlit
      refine Means.call (Means.sym hl) (.cons (means_erase.mpr hkv) (MeansList.one hq')) ?_
      exact meansApply_erase.mpr happ

/-- the call `(receiver key)` the `=>` templates of `case` build -/
theorem receiver_key_call {env loc r key ce} (hce : XE env (L loc [r, key]) ce) (hr : Ordinary env r) :
    ∃ re kee, XE env r re ∧ XE env key kee ∧ ∀ σ ρ fv σ₁ kv σ₂ v τ, Means σ ρ re fv σ₁ → Means σ₁ ρ kee kv σ₂ →
      MeansApply σ₂ fv [kv] v τ → Means σ ρ ce v τ :=
  hce.call1_rule (isList_ofList _ _) hr

/-- `(case (operator operand …) clause …)` — a key that is a (non-empty) list, i.e. a call: the key is
evaluated EXACTLY ONCE, its value bound to `atom-key` in a fresh child frame, and the value is that of
`(case atom-key clause …)` evaluated in that frame. -/
theorem case_list_key_meaning {env l₁ rest l k keys clauses e} (hstd : StdSyn env)
    (hu : IsList rest (k :: clauses)) (hk : IsList k keys) (hkn : keys ≠ []) (hcl : clauses ≠ [])
    (hx : XE env (.pair (.sym "case" l₁) rest l) e) :
    ∃ ke er, XE env (L l keys) ke ∧
      XE env (.pair (.sym "case" l) (Datum.ofList none (S l "atom-key" :: clauses)) l) er ∧
      ∀ σ ρ kv σ₁ v τ, Means σ ρ ke kv σ₁ →
        Means (σ₁.pushFrame ρ [("atom-key", kv)]) σ₁.frames.size er v τ → Means σ ρ e v τ := by
  have h₁ := hx.expand_inv hstd.std (by decide) (fun fuel hf =>
    at_loc (case_list_key_shape (isList_withLoc l hu) hk hkn hcl hf))
  obtain ⟨ke, er, la, lb, hke, her, rfl⟩ := XE.let1_inv hstd.std h₁
  exact ⟨ke, er, hke, her, fun σ ρ kv σ₁ v τ hk' hr' => Means.let1 hk' hr'⟩

/-- `(case key (else => receiver))`: the receiver expression, then the key, then the application -/
theorem case_else_arrow_meaning {env l₁ rest l key c el a r e} (hstd : StdSyn env) (hu : IsList rest [key, c])
    (hc : IsList c [el, a, r]) (he : isSym "else" el = true) (ha : isSym "=>" a = true)
    (hk : ∀ ks, IsList key ks → ks = []) (hr : Ordinary env r) (hx : XE env (.pair (.sym "case" l₁) rest l) e) :
    ∃ re kee, XE env r re ∧ XE env key kee ∧ ∀ σ ρ fv σ₁ kv σ₂ v τ, Means σ ρ re fv σ₁ → Means σ₁ ρ kee kv σ₂ →
      MeansApply σ₂ fv [kv] v τ → Means σ ρ e v τ :=
  receiver_key_call (hx.expand_inv hstd.std (by decide) (fun fuel hf =>
    case_else_arrow_shape (isList_withLoc l hu) hc he ha hk hf)) hr

/-- `(case key (else form₁ … formₙ))`: the forms in order (fresh empty child frame), value of the last;
the key is not evaluated -/
theorem case_else_meaning {env l₁ rest l key c el body e} (hstd : StdSyn env) (hu : IsList rest [key, c])
    (hc : IsList c (el :: body)) (he : isSym "else" el = true) (hne : body ≠ [])
    (hna : ∀ a r, body = [a, r] → isSym "=>" a = false) (hk : ∀ ks, IsList key ks → ks = [])
    (hnd : NoDefs env body) (hx : XE env (.pair (.sym "case" l₁) rest l) e) :
    ∃ bes, All2 (XE env) body bes ∧
      ∀ σ ρ v τ, MeansSeq σ.frames.size (σ.pushFrame ρ []) bes v τ → Means σ ρ e v τ := by
  have h₁ := hx.expand_inv hstd.std (by decide) (fun fuel hf =>
    case_else_shape (isList_withLoc l hu) hc he hne hna hk hf)
  exact begin_meaning hstd (isList_ofList none body) hne hnd h₁

/-- `(case key ((datum …) form₁ … formₙ))`, the last clause: `memv`, the key (once), the quoted data,
the application of `memv`; if its value `m` is not `#f` the forms in order, value of the last; otherwise
NO form is evaluated and the model's value is `Void`. -/
theorem case_clause_last_meaning {env l₁ rest l key c as atoms body e} (hstd : StdSyn env)
    (hu : IsList rest [key, c]) (hc : IsList c (as :: body)) (has : IsList as atoms) (hat : atoms ≠ [])
    (hne : body ≠ []) (hna : ∀ a r, body = [a, r] → isSym "=>" a = false)
    (hk : ∀ ks, IsList key ks → ks = []) (hnd : NoDefs env body)
    (hx : XE env (.pair (.sym "case" l₁) rest l) e) :
    ∃ kee bes, XE env key kee ∧ All2 (XE env) body bes ∧
      ∀ σ ρ mv kv σ₁ qv σ₂ m σ₃, σ.lookup ρ "memv" = some mv → Means σ ρ kee kv σ₁ →
        readLiteral σ₁ (L l atoms) = (.ok qv, σ₂) → MeansApply σ₂ mv [kv, qv] m σ₃ →
        (m.truthy = true → ∀ v τ, MeansSeq σ₃.frames.size (σ₃.pushFrame ρ []) bes v τ → Means σ ρ e v τ) ∧
        (m.truthy = false → Means σ ρ e .void σ₃) := by
  obtain ⟨te, bes, hte, hbes, rule⟩ := if_begin_rule hstd hne hnd
    (hx.expand_inv hstd.std (by decide) (fun fuel hf =>
      at_loc (case_normal_shape (isList_withLoc l hu) hc has hat hne hna hk hf)))
  obtain ⟨kee, hkee, trule⟩ := memv_test hstd hte
  exact ⟨kee, bes, hkee, hbes, fun σ ρ mv kv σ₁ qv σ₂ m σ₃ hl hkv hlit happ =>
    rule σ ρ m σ₃ (trule σ ρ mv kv σ₁ qv σ₂ m σ₃ hl hkv hlit happ)⟩

/-- `(case key ((datum …) form₁ … formₙ) clause₂ …)`: as above when `m` is not `#f`; when it is `#f` NO
form is evaluated and the value is that of `(case key clause₂ …)` (same frame, store after the test). -/
theorem case_clause_more_meaning {env l₁ rest l key c as atoms body clauses e} (hstd : StdSyn env)
    (hu : IsList rest (key :: c :: clauses)) (hc : IsList c (as :: body)) (has : IsList as atoms)
    (hat : atoms ≠ []) (hne : body ≠ []) (hcl : clauses ≠ [])
    (hna : ∀ a r, body = [a, r] → isSym "=>" a = false) (hk : ∀ ks, IsList key ks → ks = [])
    (hnd : NoDefs env body) (hx : XE env (.pair (.sym "case" l₁) rest l) e) :
    ∃ kee bes er, XE env key kee ∧ All2 (XE env) body bes ∧
      XE env (.pair (.sym "case" l) (Datum.ofList none (key :: clauses)) l) er ∧
      ∀ σ ρ mv kv σ₁ qv σ₂ m σ₃, σ.lookup ρ "memv" = some mv → Means σ ρ kee kv σ₁ →
        readLiteral σ₁ (L l atoms) = (.ok qv, σ₂) → MeansApply σ₂ mv [kv, qv] m σ₃ →
        (m.truthy = true → ∀ v τ, MeansSeq σ₃.frames.size (σ₃.pushFrame ρ []) bes v τ → Means σ ρ e v τ) ∧
        (m.truthy = false → ∀ v τ, Means σ₃ ρ er v τ → Means σ ρ e v τ) := by
  obtain ⟨te, bes, er, hte, hbes, her, rule⟩ := if_begin_else_rule hstd hne hnd
    (hx.expand_inv hstd.std (by decide) (fun fuel hf =>
      at_loc (case_normal_more_shape (isList_withLoc l hu) hc has hat hne hcl hna hk hf)))
  obtain ⟨kee, hkee, trule⟩ := memv_test hstd hte
  exact ⟨kee, bes, er, hkee, hbes, her, fun σ ρ mv kv σ₁ qv σ₂ m σ₃ hl hkv hlit happ =>
    rule σ ρ m σ₃ (trule σ ρ mv kv σ₁ qv σ₂ m σ₃ hl hkv hlit happ)⟩

/-- `(case key ((datum …) => receiver) clause₂ …)`: the test as above; if `m` is not `#f` the receiver
expression is evaluated, then the key again, and the receiver is applied to the key's value; if `m` is
`#f` the receiver expression is NOT evaluated and the value is that of `(case key clause₂ …)`. -/
theorem case_arrow_more_meaning {env l₁ rest l key c as atoms a r clauses e} (hstd : StdSyn env)
    (hu : IsList rest (key :: c :: clauses)) (hc : IsList c [as, a, r]) (has : IsList as atoms)
    (hat : atoms ≠ []) (ha : isSym "=>" a = true) (hcl : clauses ≠ [])
    (hk : ∀ ks, IsList key ks → ks = []) (hr : Ordinary env r)
    (hx : XE env (.pair (.sym "case" l₁) rest l) e) :
    ∃ kee re kee' er, XE env key kee ∧ XE env r re ∧ XE env key kee' ∧
      XE env (.pair (.sym "case" l) (Datum.ofList none (key :: clauses)) l) er ∧
      ∀ σ ρ mv kv σ₁ qv σ₂ m σ₃, σ.lookup ρ "memv" = some mv → Means σ ρ kee kv σ₁ →
        readLiteral σ₁ (L l atoms) = (.ok qv, σ₂) → MeansApply σ₂ mv [kv, qv] m σ₃ →
        (m.truthy = true → ∀ fv σ₄ kv' σ₅ v τ, Means σ₃ ρ re fv σ₄ → Means σ₄ ρ kee' kv' σ₅ →
          MeansApply σ₅ fv [kv'] v τ → Means σ ρ e v τ) ∧
        (m.truthy = false → ∀ v τ, Means σ₃ ρ er v τ → Means σ ρ e v τ) := by
  have h₁ := hx.expand_inv hstd.std (by decide) (fun fuel hf =>
    at_loc (case_arrow_more_shape (isList_withLoc l hu) hc has hat ha hcl hk hf))
  obtain ⟨te, ce, er, lc, hte, hce, her, rfl⟩ := h₁.if3_inv (isList_ofList _ _) rfl
  obtain ⟨kee, hkee, trule⟩ := memv_test hstd hte
  obtain ⟨re, kee', hre, hkee', crule⟩ := receiver_key_call hce hr
  exact ⟨kee, re, kee', er, hkee, hre, hkee', her, fun σ ρ mv kv σ₁ qv σ₂ m σ₃ hl hkv hlit happ =>
    have ht := trule σ ρ mv kv σ₁ qv σ₂ m σ₃ hl hkv hlit happ
    ⟨fun hm fv σ₄ kv' σ₅ v τ hf hk' happ' => Means.cond_true ht hm (crule σ₃ ρ fv σ₄ kv' σ₅ v τ hf hk' happ'),
     fun hm v τ hrest => Means.cond_false ht hm hrest⟩⟩

/-- `(case key ((datum …) => receiver))`, the last clause: the template tests
`(not (null? (memv key '(datum …))))` — `not`, `null?`, `memv`, the key, the data, then the three
applications; if the final value `b` is not `#f` the receiver expression is evaluated, the key again, and
the receiver applied to it; otherwise the receiver expression is NOT evaluated and the model's value is
`Void`. -/
theorem case_arrow_last_meaning {env l₁ rest l key c as atoms a r e} (hstd : StdSyn env)
    (hu : IsList rest [key, c]) (hc : IsList c [as, a, r]) (has : IsList as atoms) (hat : atoms ≠ [])
    (ha : isSym "=>" a = true) (hk : ∀ ks, IsList key ks → ks = []) (hr : Ordinary env r)
    (hx : XE env (.pair (.sym "case" l₁) rest l) e) :
    ∃ kee re kee', XE env key kee ∧ XE env r re ∧ XE env key kee' ∧
      ∀ σ ρ nv nl mv kv σ₁ qv σ₂ m σ₃ n σ₄ b σ₅, σ.lookup ρ "not" = some nv → σ.lookup ρ "null?" = some nl →
        σ.lookup ρ "memv" = some mv → Means σ ρ kee kv σ₁ → readLiteral σ₁ (L l atoms) = (.ok qv, σ₂) →
        MeansApply σ₂ mv [kv, qv] m σ₃ → MeansApply σ₃ nl [m] n σ₄ → MeansApply σ₄ nv [n] b σ₅ →
        (b.truthy = true → ∀ fv σ₆ kv' σ₇ v τ, Means σ₅ ρ re fv σ₆ → Means σ₆ ρ kee' kv' σ₇ →
          MeansApply σ₇ fv [kv'] v τ → Means σ ρ e v τ) ∧
        (b.truthy = false → Means σ ρ e .void σ₅) := by
  have h₁ := hx.expand_inv hstd.std (by decide) (fun fuel hf =>
    at_loc (case_arrow_shape (isList_withLoc l hu) hc has hat ha hk hf))
  obtain ⟨te, ce, lc, hte, hce, rfl⟩ := h₁.if2_inv (isList_ofList _ _) rfl
  -- `(not (null? (memv …)))`
  obtain ⟨nle, hnl, nrule⟩ := std_call1 (hstd.ordinary_not _) hte
  obtain ⟨mve, hmv, lrule⟩ := std_call1 (hstd.ordinary_null _) hnl
  obtain ⟨kee, hkee, trule⟩ := memv_test hstd hmv
  obtain ⟨re, kee', hre, hkee', crule⟩ := receiver_key_call hce hr
  refine ⟨kee, re, kee', hkee, hre, hkee', fun σ ρ nv nl mv kv σ₁ qv σ₂ m σ₃ n σ₄ b σ₅ hnot hnull hmemv hkv hlit
    hm hn hb => ?_⟩
  have hbe : Means σ ρ _ b σ₅ := nrule σ ρ nv n σ₄ b σ₅ hnot
    (lrule σ ρ nl m σ₃ n σ₄ hnull (trule σ ρ mv kv σ₁ qv σ₂ m σ₃ hmemv hkv hlit hm) hn) hb
  exact ⟨fun htv fv σ₆ kv' σ₇ v τ hf hk' happ =>
    Means.cond_true hbe htv (crule σ₅ ρ fv σ₆ kv' σ₇ v τ hf hk' happ),
    fun htv => Means.cond_void hbe htv⟩

/-! ## non-vacuity

Every theorem is instantiated on a concrete form that the REAL transformer turns into an expression
in the interpreter's own syntax environment `[[], Interp.grammarScope]` (`stdSyn_default`, `sample_xe`); for
some the rule is then used to evaluate the expression. -/

section Examples
open Ruschm.Macro.Ex

/-- `f`, `zz` in operator position make ordinary calls in the interpreter's syntax environment -/
theorem ordinary_sym (s : String) (h₁ : s ∉ coreKeywords) (h₂ : SynEnv.get? [[], Interp.grammarScope] s = none) :
    Ordinary [[], Interp.grammarScope] (sy s) :=
  .sym none h₁ h₂

private theorem ordinary_f : Ordinary [[], Interp.grammarScope] (sy "f") :=
  ordinary_sym "f" (by decide +kernel) (by rw [grammarScope_eq]; rfl)

private theorem ordinary_zz : Ordinary [[], Interp.grammarScope] (sy "zz") :=
  ordinary_sym "zz" (by decide +kernel) (by rw [grammarScope_eq]; rfl)

/-- `when_meaning`, `unless_meaning` on `(when t 1 2)`, `(unless t 1)` -/
example : True := by
  obtain ⟨e, hx⟩ := sample_xe 2
  have := when_meaning stdSyn_default (l₁ := none) (l := none) (rest := lst [sy "t", num 1, num 2]) (test := sy "t")
    (body := [num 1, num 2]) rfl (by simp) (noDefs_atoms rfl) hx
  obtain ⟨e', hx'⟩ := sample_xe 3
  have := unless_meaning stdSyn_default (l₁ := none) (l := none) (rest := lst [sy "t", num 1]) (test := sy "t")
    (body := [num 1]) rfl (by simp) (noDefs_atoms rfl) hx'
  trivial

/-- `or_meaning`: `(or #f 2 zz)` is `2`; the unbound `zz` is not evaluated -/
example : ∃ e, XE [[], Interp.grammarScope] (lst [sy "or", .prim (.bool false) none, num 2, sy "zz"]) e ∧
    ∃ τ, Means {} 0 e (.num (.int 2)) τ := by
  obtain ⟨e, hx⟩ := sample_xe 4
  obtain ⟨tes, _ | ⟨h₁, _ | ⟨h₂, _ | ⟨h₃, _ | _⟩⟩⟩, rule⟩ := or_meaning stdSyn_default
    [.prim (.bool false) none, num 2, sy "zz"] (l₁ := none) (l := none)
    (rest := lst [.prim (.bool false) none, num 2, sy "zz"]) rfl hx
  obtain rfl := h₁.prim_inv; obtain rfl := h₂.prim_inv
  exact ⟨e, hx, _, rule {} 0 _ _ (.next (Means.prim rfl) rfl (.stop (Means.prim rfl) rfl))⟩

/-- `let_meaning` on `(let ((a 1) (b 2)) a)`: the value is `1` -/
example : ∃ e, XE [[], Interp.grammarScope] (lst [sy "let", lst [lst [sy "a", num 1], lst [sy "b", num 2]], sy "a"]) e ∧
    ∃ τ, Means {} 0 e (.num (.int 1)) τ := by
  obtain ⟨e, hx⟩ := sample_xe 5
  obtain ⟨ves, bes, _ | ⟨h₁, _ | ⟨h₂, _ | _⟩⟩, _ | ⟨h₃, _ | _⟩, rule⟩ := let_meaning stdSyn_default (l₁ := none) (l := none)
    (rest := lst [lst [lst [sy "a", num 1], lst [sy "b", num 2]], sy "a"])
    (bs := lst [lst [sy "a", num 1], lst [sy "b", num 2]]) (bds := [lst [sy "a", num 1], lst [sy "b", num 2]])
    (nvs := [(sy "a", num 1), (sy "b", num 2)]) (body := [sy "a"]) rfl rfl (.cons rfl (.cons rfl .nil)) (by simp)
    (noDefs_atoms rfl) hx
  obtain rfl := h₁.prim_inv; obtain rfl := h₂.prim_inv; obtain rfl := h₃.sym_inv
  exact ⟨e, hx, _, rule {} 0 [.num (.int 1), .num (.int 2)] _ _ _
    (.cons (Means.prim rfl) (MeansList.one (Means.prim rfl)))
    (.one (Means.sym (Store.lookup_pushFrame_here rfl)))⟩

/-- `letstar_meaning` on `(let* ((a 1) (b a)) b)`: `b`'s initialiser sees `a`; the value is `1` -/
example : ∃ e, XE [[], Interp.grammarScope] (lst [sy "let*", lst [lst [sy "a", num 1], lst [sy "b", sy "a"]], sy "b"]) e ∧
    ∃ τ, Means {} 0 e (.num (.int 1)) τ := by
  obtain ⟨e, hx⟩ := sample_xe 6
  obtain ⟨bnds, bes, _ | ⟨h₁, _ | ⟨h₂, _ | _⟩⟩, _ | ⟨h₃, _ | _⟩, rule⟩ := letstar_meaning stdSyn_default
    (body := [sy "b"]) (by simp) (noDefs_atoms rfl)
    [(sy "a", num 1), (sy "b", sy "a")] (l₁ := none) (l := none)
    (rest := lst [lst [lst [sy "a", num 1], lst [sy "b", sy "a"]], sy "b"])
    (bs := lst [lst [sy "a", num 1], lst [sy "b", sy "a"]]) (bds := [lst [sy "a", num 1], lst [sy "b", sy "a"]])
    rfl rfl (.cons rfl (.cons rfl .nil)) hx
  rename_i b₁ b₂ be
  obtain ⟨n₁, ve₁⟩ := b₁; obtain ⟨n₂, ve₂⟩ := b₂
  obtain ⟨hn₁, hx₁⟩ := h₁; obtain ⟨hn₂, hx₂⟩ := h₂
  simp only at hn₁ hn₂ hx₁ hx₂
  have e₁ := hx₁.prim_inv; have e₂ := hx₂.sym_inv; have e₃ := h₃.sym_inv
  subst e₁ e₂ e₃ hn₁ hn₂
  refine ⟨e, hx, _, rule {} 0 _ _ (.cons (Means.prim rfl) (.one (Means.sym (v := .num (.int 1)) ?_)
    (.one (Means.sym (v := .num (.int 1)) ?_))))⟩
  · exact Store.lookup_pushFrame_here rfl
  · exact Store.lookup_pushFrame_here rfl

/-- `cond_arrow_more_meaning` + `cond_else_meaning`: `(cond (#f => zz) (else 7))` is `7` — the receiver
expression `zz` (unbound: evaluating it would be an error) is NOT evaluated when the test is false -/
example : ∃ e, XE [[], Interp.grammarScope]
      (lst [sy "cond", lst [.prim (.bool false) none, sy "=>", sy "zz"], lst [sy "else", num 7]]) e ∧
    ∃ τ, Means {} 0 e (.num (.int 7)) τ := by
  obtain ⟨e, hx⟩ := sample_xe 7
  obtain ⟨te, re, er, hte, _, her, rule⟩ := cond_arrow_more_meaning stdSyn_default (l₁ := none) (l := none)
    (rest := lst [lst [.prim (.bool false) none, sy "=>", sy "zz"], lst [sy "else", num 7]])
    (c := lst [.prim (.bool false) none, sy "=>", sy "zz"]) (test := .prim (.bool false) none) (a := sy "=>")
    (r := sy "zz") (clauses := [lst [sy "else", num 7]]) rfl rfl rfl (by simp)
    ordinary_zz hx
  obtain ⟨bes, _ | ⟨h₁, _ | _⟩, rule₂⟩ := cond_else_meaning stdSyn_default (l₁ := none) (l := none)
    (rest := Datum.ofList none [lst [sy "else", num 7]]) (c := lst [sy "else", num 7]) (el := sy "else")
    (body := [num 7]) rfl rfl rfl (by simp) (noDefs_atoms rfl) her
  obtain rfl := hte.prim_inv; obtain rfl := h₁.prim_inv
  exact ⟨e, hx, _, (rule {} 0 (.bool false) _ (Means.prim rfl)).2 rfl _ _
    (rule₂ _ _ _ _ (.one (Means.prim rfl)))⟩

/-- the other `cond` theorems on `(cond (t => f))`, `(cond (t))`, `(cond (t) (else 1))`, `(cond (t 1 2))`,
`(cond (t 1) (else 2))` -/
example : True := by
  obtain ⟨e₁, hx₁⟩ := sample_xe 8
  have := cond_arrow_last_meaning stdSyn_default (l₁ := none) (l := none) (rest := lst [lst [sy "t", sy "=>", sy "f"]])
    (c := lst [sy "t", sy "=>", sy "f"]) (test := sy "t") (a := sy "=>") (r := sy "f") rfl rfl rfl rfl
    ordinary_f hx₁
  obtain ⟨e₂, hx₂⟩ := sample_xe 9
  have := cond_test_last_meaning stdSyn_default (l₁ := none) (l := none) (rest := lst [lst [sy "t"]])
    (c := lst [sy "t"]) (test := sy "t") rfl rfl hx₂
  obtain ⟨e₃, hx₃⟩ := sample_xe 10
  have := cond_test_more_meaning stdSyn_default (l₁ := none) (l := none)
    (rest := lst [lst [sy "t"], lst [sy "else", num 1]]) (c := lst [sy "t"]) (test := sy "t")
    (clauses := [lst [sy "else", num 1]]) rfl rfl (by simp) hx₃
  obtain ⟨e₄, hx₄⟩ := sample_xe 11
  have := cond_clause_last_meaning stdSyn_default (l₁ := none) (l := none) (rest := lst [lst [sy "t", num 1, num 2]])
    (c := lst [sy "t", num 1, num 2]) (test := sy "t") (body := [num 1, num 2]) rfl rfl (by simp) rfl
    (by intro a r h; cases h; rfl) (noDefs_atoms rfl) hx₄
  obtain ⟨e₅, hx₅⟩ := sample_xe 12
  have := cond_clause_more_meaning stdSyn_default (l₁ := none) (l := none)
    (rest := lst [lst [sy "t", num 1], lst [sy "else", num 2]]) (c := lst [sy "t", num 1]) (test := sy "t")
    (body := [num 1]) (clauses := [lst [sy "else", num 2]]) rfl rfl (by simp) (by simp)
    (by intro a r h; cases h) (noDefs_atoms rfl) hx₅
  trivial

/-- the key of a `case` that is a literal or a variable is not a list -/
theorem not_list_of_atom {key : Datum} (h : isAtom key = true) : ∀ ks, IsList key ks → ks = [] :=
  notList_atom (by cases key <;> first | rfl | cases h)

/-- the `case` theorems on `(case (f x) ((1) 2))`, `(case k (else => f))`, `(case k (else 1))`,
`(case k ((1 2) 3))`, `(case k ((1) => f) (else 4))`, `(case k ((1) => f))` -/
example : True := by
  obtain ⟨e₁, hx₁⟩ := sample_xe 13
  have := case_list_key_meaning stdSyn_default (l₁ := none) (l := none)
    (rest := lst [lst [sy "f", sy "x"], lst [lst [num 1], num 2]]) (k := lst [sy "f", sy "x"])
    (keys := [sy "f", sy "x"]) (clauses := [lst [lst [num 1], num 2]]) rfl rfl (by simp) (by simp) hx₁
  obtain ⟨e₂, hx₂⟩ := sample_xe 14
  have := case_else_arrow_meaning stdSyn_default (l₁ := none) (l := none)
    (rest := lst [sy "k", lst [sy "else", sy "=>", sy "f"]]) (key := sy "k") (c := lst [sy "else", sy "=>", sy "f"])
    (el := sy "else") (a := sy "=>") (r := sy "f") rfl rfl rfl rfl (not_list_of_atom rfl)
    ordinary_f hx₂
  obtain ⟨e₃, hx₃⟩ := sample_xe 15
  have := case_else_meaning stdSyn_default (l₁ := none) (l := none) (rest := lst [sy "k", lst [sy "else", num 1]])
    (key := sy "k") (c := lst [sy "else", num 1]) (el := sy "else") (body := [num 1]) rfl rfl rfl (by simp)
    (by intro a r h; cases h) (not_list_of_atom rfl) (noDefs_atoms rfl) hx₃
  obtain ⟨e₄, hx₄⟩ := sample_xe 16
  have := case_clause_last_meaning stdSyn_default (l₁ := none) (l := none)
    (rest := lst [sy "k", lst [lst [num 1, num 2], num 3]]) (key := sy "k") (c := lst [lst [num 1, num 2], num 3])
    (as := lst [num 1, num 2]) (atoms := [num 1, num 2]) (body := [num 3]) rfl rfl rfl (by simp) (by simp)
    (by intro a r h; cases h) (not_list_of_atom rfl) (noDefs_atoms rfl) hx₄
  obtain ⟨e₅, hx₅⟩ := sample_xe 17
  have := case_arrow_more_meaning stdSyn_default (l₁ := none) (l := none)
    (rest := lst [sy "k", lst [lst [num 1], sy "=>", sy "f"], lst [sy "else", num 4]]) (key := sy "k")
    (c := lst [lst [num 1], sy "=>", sy "f"]) (as := lst [num 1]) (atoms := [num 1]) (a := sy "=>") (r := sy "f")
    (clauses := [lst [sy "else", num 4]]) rfl rfl rfl (by simp) rfl (by simp) (not_list_of_atom rfl)
    ordinary_f hx₅
  obtain ⟨e₆, hx₆⟩ := sample_xe 18
  have := case_arrow_last_meaning stdSyn_default (l₁ := none) (l := none)
    (rest := lst [sy "k", lst [lst [num 1], sy "=>", sy "f"]]) (key := sy "k")
    (c := lst [lst [num 1], sy "=>", sy "f"]) (as := lst [num 1]) (atoms := [num 1]) (a := sy "=>") (r := sy "f")
    rfl rfl rfl (by simp) rfl (not_list_of_atom rfl) ordinary_f hx₆
  trivial

open Ruschm.ListLib Ruschm.ListSpec in
/-- with the `memv` of `(scheme base)`: the value is `memS key lst` — the first sublist whose `car` is
`eqv?` to the key, `#f` if the (proper) list has none: a `case` clause is selected by membership -/
theorem meansApply_memv_std {σ b k lst m} (h : LibFrame σ b) (hm : memS k lst = .ok m) :
    ∃ τ, MeansApply σ (libProc "memv" b) [k, lst] m τ := by
  have h' : LibFrame (enter σ) b := ⟨h.frame⟩
  obtain ⟨σ', happ, _⟩ := C11.memv_spec h' k lst 0
  rw [hm] at happ
  exact ⟨_, MeansApply.of_applies happ⟩

open Ruschm.ListLib Ruschm.ListSpec in
/-- `case_clause_more_meaning` with the library's `memv` (the store `libStore` whose frame 0 holds the
bindings of `(scheme base)`): `(case 2 ((1 2) 3) (else 4))` is `3` -/
example : ∃ e, XE [[], Interp.grammarScope]
      (lst [sy "case", num 2, lst [lst [num 1, num 2], num 3], lst [sy "else", num 4]]) e ∧
    ∃ τ, Means libStore 0 e (.num (.int 3)) τ := by
  obtain ⟨e, hx⟩ := sample_xe 19
  obtain ⟨kee, bes, er, hk, _ | ⟨h₁, _ | _⟩, _, rule⟩ := case_clause_more_meaning stdSyn_default (l₁ := none) (l := none)
    (rest := lst [num 2, lst [lst [num 1, num 2], num 3], lst [sy "else", num 4]]) (key := num 2)
    (c := lst [lst [num 1, num 2], num 3]) (as := lst [num 1, num 2]) (atoms := [num 1, num 2]) (body := [num 3])
    (clauses := [lst [sy "else", num 4]]) rfl rfl rfl (by simp) (by simp) (by simp)
    (by intro a r h; cases h) (not_list_of_atom rfl) (noDefs_atoms rfl) hx
  obtain rfl := hk.prim_inv; obtain rfl := h₁.prim_inv
  have hlib : LibFrame libStore.erase 0 := ⟨libFrame_libStore.frame⟩
  obtain ⟨σ₃, happ⟩ := meansApply_memv_std (k := .num (.int 2))
    (lst := .pair (.num (.int 1)) (.pair (.num (.int 2)) .nil)) (m := .pair (.num (.int 2)) .nil) hlib rfl
  -- entry 27 of `ListLib.expectedDefs` (the definitions of `base.sld` in order) is `memv`
  exact ⟨e, hx, _, (rule libStore 0 _ _ _ _ _ _ σ₃ (libFrame_libStore.lookup_proc (i := 27) rfl)
    (Means.prim rfl) rfl happ).1 rfl _ _ (.one (Means.prim rfl))⟩

/-- THE HYPOTHESES ARE THOSE OF THE INTERPRETER. Syntax: the syntax environment of `Interpreter::default()`
(and of `new_with_stdlib()`, which only imports) is `[[], Interp.grammarScope]`, for which `StdSyn` holds.
Store: in a frame that holds the bindings of `(scheme base)` (`LibFrame`; `ListLib.libFrame_of_evalLibraryDef`
shows that instantiating the generated `base.sld` builds such a frame) `not` is the native procedure and
`memv`, `null?` are the library's closures, whose standard behaviour is `C11.memv_spec` / `C11.null_spec`. -/
example : StdSyn (Interp.default_ false).syn ∧ StdSyn (Interp.default_ true).syn ∧
    Ruschm.ListLib.libStore.lookup 0 "not" = some (.builtin .not) ∧
    Ruschm.ListLib.libStore.lookup 0 "memv" = some (Ruschm.ListLib.libProc "memv" 0) ∧
    Ruschm.ListLib.libStore.lookup 0 "null?" = some (Ruschm.ListLib.libProc "null?" 0) ∧
    Ruschm.ListLib.LibFrame Ruschm.ListLib.libStore 0 :=
  have h := Ruschm.ListLib.libFrame_libStore
  -- entries 27 and 14 are `memv` and `null?`
  ⟨stdSyn_default, stdSyn_default, h.lookup_builtin .not (by decide +kernel),
    h.lookup_proc (i := 27) rfl, h.lookup_proc (i := 14) rfl, h⟩

end Examples
end Ruschm.C05Meaning
