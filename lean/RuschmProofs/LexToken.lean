/-
One token, and the whole text. `token_spec`: on every text `Lex.token` keeps track of the characters
it consumes (`TokTracks`) and, when the text does not start with atmosphere, computes `LexSpec.token`;
the shape of the consumed text, the cursor of an error, the end of the stream and progress follow from
it. The token stream is a relation (`Stream`): fuel appears only where `Lex.allAux` and `LexSpec.run`
are shown to compute it. The comparison with the specification is in the namespace `LexSpecLemmas`,
what follows about the model lexer alone in `Text`, the cursor of an error in `LexLoc`.
-/
import RuschmProofs.LexSpecLemmas

namespace Ruschm.Text
open Ruschm Ruschm.Lex

/-- the token with the characters it consumed; `rest` is the text after it. `startOK`: the text started with
a non-atmosphere character, as always when `token` is called from `next`. Only `word` needs it: on a
blank or a `;`, `token` falls through to `normalIdentifier` with that character as the first of the
identifier, and the text consumed is no chunk that `LexSpec.classify` is asked about. -/
inductive TokShape (startOK : Prop) (rest : List Char) : Token → List Char → Prop
  | lparen : TokShape startOK rest .lparen ['(']
  | rparen : TokShape startOK rest .rparen [')']
  | vecIntro : TokShape startOK rest .vecIntro ['#', '(']
  | byteVecIntro : TokShape startOK rest .byteVecIntro ['#', 'u', '8', '(']
  | quote : TokShape startOK rest .quote ['\'']
  | quasiquote : TokShape startOK rest .quasiquote ['`']
  | unquote : TokShape startOK rest .unquote [',']
  | unquoteSplicing : TokShape startOK rest .unquoteSplicing [',', '@']
  | word (t : Token) (used : List Char) : used ≠ [] → (t = .period ∨ Syn.isAtomTok t = true) →
      (startOK → NoSpecial used ∧ LexSpec.classify used = some t) → startsDelim rest = true →
      TokShape startOK rest t used
  | bool (b : Bool) (x : Char) : (x = 't' ∨ x = 'f') → (startsDelim rest = true ∨ startsSharp rest = true) →
      TokShape startOK rest (.prim (.bool b)) ['#', x]
  | char (t : Token) (first : Char) (run : List Char) : sharpTok t = true → NoSpecial run →
      (startsDelim rest = true ∨ startsSharp rest = true) →
      TokShape startOK rest t ('#' :: '\\' :: first :: run)
  | str (s : String) (body : List Char) : StrBody body →
      TokShape startOK rest (.prim (.str s)) ('"' :: body)
  | bar (body : List Char) : '|' ∉ body →
      TokShape startOK rest (.ident (String.ofList body)) ('|' :: (body ++ ['|']))

theorem TokShape.ne_nil {P rest t used} (h : TokShape P rest t used) : used ≠ [] := by
  cases h <;> simp_all

/-- `Tracks` for `token`, with `TokShape` for the relation -/
def TokTracks (cs : List Char) (p : Pos) : Except LexErr (Option (Token × List Char × Pos)) → Prop
  | .ok none => cs = [] ∨ cs = [',']
  | .ok (some (t, rest, p')) =>
    ∃ u, Used cs p rest p' u ∧ TokShape (startsTok cs = true) rest t u
  | .error e => LexLoc.Cur cs p e

theorem TokTracks.glue {R : Token → List Char → Prop} (pre : List Char) {cs : List Char}
    {p : Pos} {x : Scan} (ht : Tracks R cs (advs pre p) x)
    (hs : ∀ t u r p', x = .ok (t, r, p') → cs = u ++ r → R t u →
      TokShape (startsTok (pre ++ cs) = true) r t (pre ++ u)) :
    TokTracks (pre ++ cs) p (x.map some) := by
  match x, ht, hs with
  | .error e, ht, _ => exact LexLoc.Cur.used ⟨rfl, rfl⟩ ht
  | .ok (t, r, p'), ⟨u, hu, hr⟩, hs =>
    exact ⟨pre ++ u, Used.append ⟨rfl, rfl⟩ hu, hs t u r p' rfl hu.split hr⟩

end Ruschm.Text

/-! ## against the specification -/

namespace Ruschm.LexSpecLemmas
open Ruschm Ruschm.Lex Ruschm.Text Ruschm.LexLoc

theorem nonDelim_fun : LexSpec.nonDelim = fun c => !isDelimiter c := by
  funext c; simp [LexSpec.nonDelim, isDelim_eq]

theorem nonDelim_split (cs : List Char) :
    Chunk (cs.takeWhile LexSpec.nonDelim) ∧ startsDelim (cs.dropWhile LexSpec.nonDelim) = true := by
  refine ⟨fun x hx => ?_, ?_⟩
  · simpa [nonDelim_fun] using List.all_eq_true.mp List.all_takeWhile x hx
  · cases h : cs.dropWhile LexSpec.nonDelim with
    | nil => rfl
    | cons x tl => simpa [startsDelim, nonDelim_fun] using dropWhile_head _ cs h

theorem chunk_split (cs : List Char) :
    ∃ w rest, cs = w ++ rest ∧ Chunk w ∧ startsDelim rest = true :=
  ⟨_, _, List.takeWhile_append_dropWhile.symm, (nonDelim_split cs).1, (nonDelim_split cs).2⟩

theorem ofClass_tok {o : Option Token} {rest r : List Char} {t : Token}
    (h : LexSpec.Step.tok t r = LexSpec.ofClass o rest) : o = some t ∧ r = rest := by
  cases o with
  | none => cases h
  | some t' => cases h; exact ⟨rfl, rfl⟩

theorem ite_some_rest {α} {b : Bool} {a a' : α} {rest r : List Char}
    (h : some (a, r) = if b then some (a', rest) else none) : r = rest := by
  cases b with
  | false => cases h
  | true => cases h; rfl

theorem word_glue {c : Char} {w' rest : List Char} {p : Pos} {x : Scan} {o : Option Token}
    (hcs : startsTok (c :: (w' ++ rest)) = true → c ∉ specials) (hd : startsDelim rest = true)
    (ht : Tracks (Plain Atom) (w' ++ rest) (adv c p) x)
    (he : forgetScan x = LexSpec.ofClass o rest)
    (ho : isDelimiter c = false → o = LexSpec.classify (c :: w')) :
    TokTracks (c :: (w' ++ rest)) p (x.map some) ∧ (isDelimiter c = false →
      forget (x.map some) = LexSpec.ofClass (LexSpec.classify (c :: w')) rest) := by
  refine ⟨.glue [c] ht fun t u r p' hx hu ⟨hn, hat⟩ => ?_,
    fun h => by rw [forget_map, he, ho h]⟩
  subst hx
  obtain ⟨rfl, rfl⟩ := ofClass_tok he
  cases List.append_cancel_right hu
  exact .word _ (c :: w') (List.cons_ne_nil c w') (Or.inr hat)
    (fun h => ⟨NoSpecial.cons (hcs h) hn, (ho (isDelimiter_of_not_mem (hcs h))).symm⟩) hd

theorem classifyIdent_start (c : Char) (w : List Char) (hd : isDigit c = false)
    (hcd : isDelimiter c = false) (ht : c ∉ tokenStarters) :
    LexSpec.classifyIdent (c :: w)
      = if w.all isSubsequent then some (.ident (String.ofList (c :: w))) else none := by
  simp only [tokenStarters, List.mem_cons, List.not_mem_nil, or_false, not_or] at ht
  unfold LexSpec.classifyIdent
  simp [ht, isIdentStart_eq, hd, hcd, isSubsequent_fun]

theorem word_spec (c : Char) (w' rest : List Char) (p : Pos) (hw : Chunk w')
    (hd : startsDelim rest = true) (hc : c ∉ punct) :
    TokTracks (c :: (w' ++ rest)) p (token (c :: (w' ++ rest)) p) ∧
      (isDelimiter c = false →
        forget (token (c :: (w' ++ rest)) p)
          = LexSpec.ofClass (LexSpec.classify (c :: w')) rest) := by
  obtain ⟨hlp, hrp, hq, hbq, hcm, hdq, hbar, hsh⟩ := not_mem_punct.1 hc
  have hcs : startsTok (c :: (w' ++ rest)) = true → c ∉ specials := by
    intro hs
    simp only [startsTok, isWs, Bool.and_eq_true, Bool.not_eq_true', Bool.or_eq_false_iff,
      decide_eq_false_iff_not] at hs
    simp only [specials, List.mem_cons, List.not_mem_nil, or_false, not_or]
    exact ⟨hlp, hrp, hs.2, hdq, hbar, hsh, hs.1.1.1.1, hs.1.1.1.2, hs.1.1.2, hs.1.2⟩
  by_cases hper : c = '.'
  · subst hper
    cases w' with
    | nil =>
      rw [List.nil_append, token_period rest p hd]
      exact ⟨⟨['.'], ⟨rfl, rfl⟩, .word _ _ (List.cons_ne_nil _ _) (Or.inl rfl)
        (fun _ => ⟨NoSpecial.cons dot_ns .nil, rfl⟩) hd⟩, fun _ => rfl⟩
    | cons x r =>
      rw [List.cons_append, token_dot x _ p hw.head, ← List.cons_append]
      refine word_glue hcs hd (peculiarIdentifier_tracks _ _ _)
        (peculiarIdentifier_chunk '.' (x :: r) rest _ hw hd (by simp)) (fun _ => ?_)
      rw [classify_dot, classifyIdent_dotOK '.' (x :: r) (by simp) (by simp) (by simp)]
  by_cases hsg : (c = '+' || c = '-') = true
  · have hs : c = '+' ∨ c = '-' := by simpa using hsg
    rw [token_sign c hs _ p, numFollows_chunk w' hd]
    by_cases hx : numFollows w' = true
    · rw [if_pos hx]
      refine word_glue hcs hd (number_tracks _ _ _) (number_chunk c w' rest _ hw hd) (fun _ => ?_)
      rw [numModel_eq c w' (Or.inr hs), classify_sign hs, if_pos hx]
    · have hdot := numFollows_head ((Bool.not_eq_true _).mp hx)
      rw [if_neg hx]
      refine word_glue hcs hd (peculiarIdentifier_tracks _ _ _)
        (peculiarIdentifier_chunk c w' rest _ hw hd (fun _ => hdot)) (fun _ => ?_)
      rw [classify_sign hs, if_neg hx, classifyIdent_dotOK c w' (by rcases hs with h | h <;> simp [h])
        (fun _ => hdot) (fun e => absurd e hper)]
  have hns : c ≠ '+' ∧ c ≠ '-' := by
    simp only [Bool.or_eq_true, decide_eq_true_eq, not_or] at hsg; exact hsg
  by_cases hdg : isDigit c = true
  · rw [token_digit c _ p hdg]
    refine word_glue hcs hd (number_tracks _ _ _) (number_chunk c w' rest _ hw hd) (fun _ => ?_)
    rw [numModel_eq c w' (Or.inl hdg), classify_digit _ hdg]
  · have hdg' : isDigit c = false := by simpa using hdg
    have hst : c ∉ tokenStarters := by simp [tokenStarters, hlp, hrp, hq, hbq, hsh, hcm, hper, hns, hdq, hbar]
    rw [token_other c _ p hst hdg']
    refine word_glue hcs hd (normalIdentifier_tracks _ _ _)
      (normalIdentifier_chunk c w' rest _ hw hd) (fun hcd => ?_)
    rw [classify_start _ hdg' hst, classifyIdent_start c w' hdg' hcd hst]

/-! ### `#`-tokens -/

theorem classifySharp_cons (cn : Char) (run : List Char) (h : cn ≠ '\\') :
    LexSpec.classifySharp (cn :: run)
      = if run.isEmpty then (if cn = 't' then some (.prim (.bool true))
          else if cn = 'f' then some (.prim (.bool false)) else none) else none := by
  simp only [LexSpec.classifySharp, h, if_false]

theorem sharpToken_other (cn : Char) (cs2 : List Char) (h1 : cn ≠ '(') (h2 : cn ≠ '\\')
    (h3 : ¬ (['u', '8', '('].isPrefixOf (cn :: cs2) = true)) :
    LexSpec.sharpToken (cn :: cs2)
      = LexSpec.ofClass (LexSpec.classifySharp ((cn :: cs2).takeWhile LexSpec.nonDelimSharp))
          ((cn :: cs2).dropWhile LexSpec.nonDelimSharp) := by
  have e1 : ['('].isPrefixOf (cn :: cs2) = false := by
    simp [List.isPrefixOf]; exact fun e => h1 e.symm
  simp only [LexSpec.sharpToken, e1, h3, LexSpec.sharpChunk, h2, Bool.false_eq_true, if_false,
    LexSpec.classify, if_true]

theorem sharp_rest (cs : List Char) :
    startsDelim (cs.dropWhile LexSpec.nonDelimSharp) = true ∨
      startsSharp (cs.dropWhile LexSpec.nonDelimSharp) = true := by
  refine (sharp_end _).mpr ?_
  cases h : cs.dropWhile LexSpec.nonDelimSharp with
  | nil => rfl
  | cons x tl => simp [List.takeWhile, dropWhile_head _ cs h]

theorem sharpToken_bool (cn : Char) (cs2 : List Char) (h : cn = 't' ∨ cn = 'f') :
    LexSpec.sharpToken (cn :: cs2)
      = if cs2.takeWhile LexSpec.nonDelimSharp = [] then .tok (.prim (.bool (cn = 't'))) cs2
        else .error := by
  have hn : LexSpec.nonDelimSharp cn = true ∧ cn ≠ '(' ∧ cn ≠ '\\' ∧ cn ≠ 'u' := by
    rcases h with rfl | rfl <;> decide
  rw [sharpToken_other cn cs2 hn.2.1 hn.2.2.1
      (by simp [List.isPrefixOf]; exact fun e => absurd e.symm hn.2.2.2),
    List.takeWhile_cons_of_pos hn.1, List.dropWhile_cons_of_pos hn.1,
    classifySharp_cons _ _ hn.2.2.1]
  by_cases htw : cs2.takeWhile LexSpec.nonDelimSharp = []
  · rw [htw, dropWhile_of_takeWhile_nil _ _ htw, if_pos rfl, if_pos List.isEmpty_nil]
    rcases h with rfl | rfl <;> rfl
  · rw [if_neg htw, if_neg (by simpa using htw)]; rfl

theorem sharp_spec (cs1 : List Char) (p : Pos) :
    TokTracks ('#' :: cs1) p (token ('#' :: cs1) p) ∧
      forget (token ('#' :: cs1) p) = LexSpec.sharpToken cs1 := by
  have err : ∀ {u cs : List Char}, u <+: cs → token cs p = .error (advs u p) →
      LexSpec.sharpToken (cs.drop 1) = .error →
      TokTracks cs p (token cs p) ∧ forget (token cs p) = LexSpec.sharpToken (cs.drop 1) :=
    fun hu ht hs => ht ▸ ⟨⟨_, hu, rfl⟩, hs.symm⟩
  cases cs1 with
  | nil => exact err (u := ['#']) (List.prefix_refl _) rfl rfl
  | cons cn cs2 =>
    by_cases g1 : cn = '('
    · subst g1
      rw [token_vecIntro]
      exact ⟨⟨['#', '('], ⟨rfl, rfl⟩, .vecIntro⟩, rfl⟩
    by_cases g2 : cn = 't' ∨ cn = 'f'
    · rw [token_sharp_bool cn cs2 p g2, sharpToken_bool cn cs2 g2]
      by_cases htw : cs2.takeWhile LexSpec.nonDelimSharp = []
      · rw [(endOfSharpToken_ok (u := ())).mpr ((sharp_end _).mpr htw), if_pos htw]
        exact ⟨⟨['#', cn], ⟨rfl, rfl⟩, .bool _ cn g2 ((sharp_end _).mpr htw)⟩, rfl⟩
      · rw [if_neg htw]
        cases h : endOfSharpToken cs2 (adv cn (adv '#' p)) with
        | ok u => exact absurd ((sharp_end _).mp (endOfSharpToken_ok.mp h)) htw
        | error e =>
          rw [endOfSharpToken_err e h]
          exact ⟨⟨['#', cn], ⟨cs2, rfl⟩, rfl⟩, rfl⟩
    have hntf : cn ≠ 't' ∧ cn ≠ 'f' := not_or.mp g2
    by_cases g3 : cn = '\\'
    · subst g3
      cases cs2 with
      | nil => exact err (u := ['#', '\\']) (List.prefix_refl _) rfl rfl
      | cons c cs3 =>
        rw [token_sharp_char]
        have ht := character_tracks c cs3 (adv c (adv '\\' (adv '#' p)))
        have he := character_forget c cs3 (adv c (adv '\\' (adv '#' p)))
        refine ⟨.glue ['#', '\\', c] ht fun t u r p' hx _ ⟨hn, hat⟩ => ?_,
          (forget_map _).trans (he.trans ?_)⟩
        · rw [hx] at he
          exact .char t c u hat hn ((ofClass_tok he).2 ▸ sharp_rest cs3)
        · simp [LexSpec.sharpToken, LexSpec.sharpChunk, LexSpec.classify, LexSpec.classifySharp,
            List.isPrefixOf]
    have hspec : ¬ (['u', '8', '('].isPrefixOf (cn :: cs2) = true) →
        LexSpec.sharpToken (cn :: cs2) = .error := by
      intro hp
      rw [sharpToken_other cn cs2 g1 g3 hp]
      by_cases hn : LexSpec.nonDelimSharp cn = true
      · rw [List.takeWhile_cons_of_pos hn, classifySharp_cons _ _ g3, if_neg hntf.1, if_neg hntf.2,
          ite_self]; rfl
      · rw [List.takeWhile_cons_of_neg hn]; rfl
    by_cases g4 : cn = 'u'
    · subst g4
      cases cs2 with
      | nil =>
        exact err (u := ['#', 'u']) (List.prefix_refl _) rfl (hspec (by simp [List.isPrefixOf]))
      | cons c8 cs3 =>
        by_cases g5 : c8 = '8'
        · subst g5
          cases cs3 with
          | nil =>
            exact err (u := ['#', 'u', '8']) (List.prefix_refl _) rfl
              (hspec (by simp [List.isPrefixOf]))
          | cons cp cs4 =>
            by_cases g6 : cp = '('
            · subst g6
              rw [token_byteVecIntro]
              exact ⟨⟨['#', 'u', '8', '('], ⟨rfl, rfl⟩, .byteVecIntro⟩, rfl⟩
            · exact err (u := ['#', 'u', '8', cp]) ⟨cs4, rfl⟩ (by simp [token, g6])
                (hspec (by simp [List.isPrefixOf]; exact fun e => g6 e.symm))
        · exact err (u := ['#', 'u', c8]) ⟨cs3, rfl⟩ (by simp [token, g5])
            (hspec (by simp [List.isPrefixOf]; exact fun e => absurd e.symm g5))
    · exact err (u := ['#', cn]) ⟨cs2, rfl⟩ (by simp [token, g1, hntf.1, hntf.2, g3, g4])
        (hspec (by simp [List.isPrefixOf]; exact fun e => absurd e.symm g4))

/-! ### one token -/

/-- The proof follows the first character as `token` does; each scanner contributes its `_tracks`
and its `_chunk` lemma. -/
theorem token_spec (cs : List Char) (p : Pos) :
    TokTracks cs p (token cs p) ∧
      (startsTok cs = true → forget (token cs p) = LexSpec.token cs) := by
  cases cs with
  | nil => exact ⟨.inl rfl, fun _ => rfl⟩
  | cons c cs1 =>
    by_cases hsh : c = '#'
    · subst hsh; exact ⟨(sharp_spec cs1 p).1, fun _ => (sharp_spec cs1 p).2⟩
    by_cases hlp : c = '('
    · subst hlp; rw [token_lparen]; exact ⟨⟨['('], ⟨rfl, rfl⟩, .lparen⟩, fun _ => rfl⟩
    by_cases hrp : c = ')'
    · subst hrp; rw [token_rparen]; exact ⟨⟨[')'], ⟨rfl, rfl⟩, .rparen⟩, fun _ => rfl⟩
    by_cases hq : c = '\''
    · subst hq; rw [token_quote]; exact ⟨⟨['\''], ⟨rfl, rfl⟩, .quote⟩, fun _ => rfl⟩
    by_cases hbq : c = '`'
    · subst hbq; rw [token_quasiquote]; exact ⟨⟨['`'], ⟨rfl, rfl⟩, .quasiquote⟩, fun _ => rfl⟩
    by_cases hcm : c = ','
    · subst hcm
      cases cs1 with
      | nil => exact ⟨.inr rfl, fun _ => rfl⟩
      | cons d r =>
        by_cases hd : d = '@'
        · subst hd; rw [token_unquoteSplicing]
          exact ⟨⟨[',', '@'], ⟨rfl, rfl⟩, .unquoteSplicing⟩, fun _ => rfl⟩
        · rw [token_unquote d r p hd]
          exact ⟨⟨[','], ⟨rfl, rfl⟩, .unquote⟩, fun _ => by simp [LexSpec.token, hd, forget]⟩
    by_cases hdq : c = '"'
    · subst hdq
      rw [token_dquote]
      refine ⟨.glue ['"'] (string_tracks cs1 _ [])
          fun t u r p' _ _ ⟨hb, s, hs⟩ => hs ▸ .str s u hb,
        fun _ => (forget_map _).trans ((string_forget cs1 _ []).trans ?_)⟩
      show _ = (match LexSpec.scanStr .normal cs1 [] with
        | some (s, rest) => LexSpec.Step.tok (.prim (.str (String.ofList s))) rest
        | none => .error)
      cases LexSpec.scanStr .normal cs1 [] <;> rfl
    by_cases hbar : c = '|'
    · subst hbar
      rw [token_bar]
      refine ⟨.glue ['|'] (quotedIdentifier_tracks cs1 _ [])
          fun t u r p' _ _ ⟨body, hub, hb, ht⟩ => hub ▸ ht ▸ .bar body hb,
        fun _ => (forget_map _).trans ((quotedIdentifier_forget cs1 _ []).trans ?_)⟩
      show _ = (match cs1.dropWhile (· != '|') with
        | [] => LexSpec.Step.error
        | _ :: rest => .tok (.ident (String.ofList (cs1.takeWhile (· != '|')))) rest)
      cases List.dropWhile (· != '|') cs1 <;> rfl
    have hw := word_spec c (cs1.takeWhile LexSpec.nonDelim) (cs1.dropWhile LexSpec.nonDelim) p
      (nonDelim_split cs1).1 (nonDelim_split cs1).2 (not_mem_punct.2 ⟨hlp, hrp, hq, hbq, hcm, hdq, hbar, hsh⟩)
    rw [List.takeWhile_append_dropWhile] at hw
    refine ⟨hw.1, fun hs => ?_⟩
    have hcd : isDelimiter c = false := by
      simp only [startsTok, Bool.and_eq_true, Bool.not_eq_true', decide_eq_false_iff_not] at hs
      simp [isDelimiter, hs.1, hs.2, hlp, hrp, hdq, hbar]
    have hnd : LexSpec.nonDelim c = true := by simp [nonDelim_fun, hcd]
    rw [hw.2 hcd]
    simp [LexSpec.token, hlp, hrp, hq, hbq, hsh, hcm, hdq, hbar, List.takeWhile, List.dropWhile, hnd]

theorem next_spec (cs : List Char) (p : Pos) :
    forget (Lex.next cs p) = LexSpec.next cs := by
  obtain ⟨a, -, -, h3, -⟩ := skipAtmosphere_inv false cs p
  rw [LexSpec.next, ← skipAtmos_eq false cs p]
  exact (token_spec _ _).2 h3

end Ruschm.LexSpecLemmas

namespace Ruschm.Text
open Ruschm Ruschm.Lex

/-! ## what follows for one token -/

theorem token_tracks {cs p x} (h : token cs p = x) : TokTracks cs p x :=
  h ▸ (LexSpecLemmas.token_spec cs p).1

theorem token_progress {cs p t rest p'} (h : token cs p = .ok (some (t, rest, p'))) :
    rest.length < cs.length := by
  obtain ⟨used, g1, g2⟩ := token_tracks h
  have := g1.length_le
  have := List.length_pos_iff.mpr g2.ne_nil
  omega

theorem TokTracks.eq_of_forget {w rest : List Char} {p : Pos} {t : Token}
    {x : Except LexErr (Option (Token × List Char × Pos))} (ht : TokTracks (w ++ rest) p x)
    (he : LexSpecLemmas.forget x = .tok t rest) : x = .ok (some (t, rest, advs w p)) := by
  match x, ht, he with
  | .ok (some (t', r', p')), ⟨u, hu, _⟩, he =>
    cases he
    rw [hu.pos, List.append_cancel_right hu.split]

theorem token_of_spec {w rest : List Char} {t : Token} (p : Pos)
    (hs : startsTok (w ++ rest) = true) (h : LexSpec.token (w ++ rest) = .tok t rest) :
    token (w ++ rest) p = .ok (some (t, rest, advs w p)) :=
  have ⟨ht, he⟩ := LexSpecLemmas.token_spec (w ++ rest) p
  ht.eq_of_forget ((he hs).trans h)

theorem next_inv {cs p t rest p'} (h : next cs p = .ok (some (t, rest, p'))) :
    ∃ a used, cs = a ++ (used ++ rest) ∧ p' = advs used (advs a p) ∧ isAtmos false a = true ∧
      TokShape True rest t used := by
  obtain ⟨a, h1, h2, h3, -, h5⟩ := skipAtmosphere_inv false cs p
  obtain ⟨used, g1, g2⟩ := token_tracks (cs := (skipAtmosphere false cs p).1) h
  refine ⟨a, used, g1.split ▸ h1, by rw [g1.pos, h2], h5 ?_, by simpa only [h3] using g2⟩
  rw [g1.split]; exact List.append_ne_nil_of_left_ne_nil g2.ne_nil _

theorem next_progress {cs p t rest p'} (h : next cs p = .ok (some (t, rest, p'))) :
    rest.length < cs.length := by
  obtain ⟨a, used, h1, -, -, h4⟩ := next_inv h
  have := List.length_pos_iff.mpr h4.ne_nil
  subst h1
  simp; omega

/-! ## the whole text -/

/-- the located tokens of `cs` read from `p`, and the error that ends them if there is one -/
inductive Stream : List Char → Pos → List LToken → Option LexErr → Prop
  | eof {cs p} : next cs p = .ok none → Stream cs p [] none
  | err {cs p e} : next cs p = .error e → Stream cs p [] (some e)
  | tok {cs p t rest p' lts e} : next cs p = .ok (some (t, rest, p')) → Stream rest p' lts e →
      Stream cs p (⟨t, some p'⟩ :: lts) e

theorem Stream.forall {R : LToken → Prop} {cs p lts e} (h : Stream cs p lts e)
    (step : ∀ {cs p t rest p'}, next cs p = .ok (some (t, rest, p')) → R ⟨t, some p'⟩) :
    ∀ t ∈ lts, R t := by
  induction h with
  | eof => exact fun _ h => nomatch h
  | err => exact fun _ h => nomatch h
  | tok hn _ ih => exact List.forall_mem_cons.2 ⟨step hn, ih⟩

theorem stream_exists (cs : List Char) (p : Pos) : ∃ lts e, Stream cs p lts e := by
  generalize hn : cs.length = n
  induction n using Nat.strongRecOn generalizing cs p with
  | _ n ih =>
    cases h : next cs p with
    | error e => exact ⟨[], some e, .err h⟩
    | ok r =>
      match r, h with
      | none, h => exact ⟨[], none, .eof h⟩
      | some (t, rest, p'), h =>
        obtain ⟨lts, e, hs⟩ := ih rest.length (hn ▸ next_progress h) rest p' rfl
        exact ⟨_, e, .tok h hs⟩

/-- every token consumes a character, so `allAux` with fuel above the length computes the stream -/
theorem Stream.allAux {cs p lts e} (h : Stream cs p lts e) :
    ∀ fuel acc, cs.length < fuel → allAux fuel cs p acc = (acc.reverse ++ lts, e) := by
  intro fuel
  induction fuel generalizing cs p lts with
  | zero => exact fun _ hf => nomatch hf
  | succ f ih =>
    intro acc hf
    cases h with
    | eof hn => simp [Lex.allAux, hn]
    | err hn => simp [Lex.allAux, hn]
    | tok hn hs => have := next_progress hn; simp [Lex.allAux, hn, ih hs _ (by omega)]

theorem Stream.run {cs : List Char} {p : Pos} {lts : List LToken} {e : Option LexErr}
    (h : Stream cs p lts e) :
    ∀ fuel, cs.length < fuel → LexSpec.run fuel cs = (lts.map (·.tok), e.isSome) := by
  intro fuel
  induction fuel generalizing cs p lts with
  | zero => exact fun hf => nomatch hf
  | succ f ih =>
    intro hf
    rw [LexSpec.run, ← LexSpecLemmas.next_spec cs p]
    cases h with
    | eof hn => rw [hn]; rfl
    | err hn => rw [hn]; rfl
    | tok hn hs => have := next_progress hn; rw [hn]; simp [LexSpecLemmas.forget, ih hs (by omega)]

theorem all_stream (cs : List Char) : Stream cs (1, 1) (all cs).1 (all cs).2 := by
  obtain ⟨lts, e, h⟩ := stream_exists cs (1, 1)
  rw [all, h.allAux _ [] (Nat.lt_succ_self _)]
  exact h

theorem allAux_fuel (k fuel : Nat) (cs : List Char) (p : Pos) (acc : List LToken)
    (h : cs.length < fuel) : allAux (fuel + k) cs p acc = allAux fuel cs p acc := by
  obtain ⟨lts, e, hs⟩ := stream_exists cs p
  rw [hs.allAux _ _ (by omega), hs.allAux _ _ h]

end Ruschm.Text

namespace Ruschm.LexLoc
open Lex Text

theorem next_err {cs p e} (h : next cs p = .error e) : Cur cs p e := by
  obtain ⟨a, h1, h2, -⟩ := skipAtmosphere_inv false cs p
  exact Cur.used ⟨h1, h2⟩ (token_tracks h)

end Ruschm.LexLoc
