/-
For `C01More.lean`: a core term of `RuschmSpec/CoreSyntax.lean`, printed, is transformed into itself without
locations, with fuel twice the size of the datum (`tr_expr` and its companions). One rule of the judgements
`Tr`, `TrArgs`, `TrBody` for each printed form, then a structural induction.
-/
import RuschmSpec.CoreSyntax
import RuschmProofs.UnlocXform
import RuschmProofs.XformEquations
namespace Ruschm.CoreSyntax
open Ruschm Xform

theorem toExpr_of_err {k d s er s'} (h : toStatement k d s = (.error er, s')) :
    toExpr (k+1) d s = (.error er, s') := by
  rw [toExpr_succ, h]

/-! ## the judgements

`Tr s c d st`: in the syntax environment `s`, with any fuel of at least `c`, the transformer turns `d`
into `st` and leaves `s` as it is.  Every rule asks for what its premises ask for and a constant. -/

def Tr (s : SynEnv) (c : Nat) (d : Datum) (st : Statement) : Prop :=
  ∀ n, c ≤ n → toStatement n d s = (.ok st, s)

def TrArgs (s : SynEnv) (c : Nat) (ds : List Datum) (es : List Expr) : Prop :=
  ∀ n, c ≤ n → toExprs n ds s = (.ok es, s)

/-- the rest `ds` of a body, after the definitions `accD` and the expressions `accE` (both in reverse), with
the outcome `x` -/
def TrBody (s : SynEnv) (c : Nat) (ds : List Datum) (accD : List Def) (accE : List Expr)
    (x : Except SErr (List Def × List Expr)) : Prop :=
  ∀ n, c ≤ n → toBody n ds accD accE s = (x, s)

theorem exists_add {c k n : Nat} (h : c + k ≤ n) : ∃ m, n = m + k ∧ c ≤ m := ⟨n - k, by omega, by omega⟩

section rules
variable {s : SynEnv} {c c' c₁ c₂ c₃ C : Nat}

theorem Tr.mono {d st} (h : Tr s c d st) (hc : c ≤ c') : Tr s c' d st :=
  fun n hn => h n (Nat.le_trans hc hn)

theorem Tr.toExpr {d e n} (h : Tr s c d (.expr e)) (hn : c + 1 ≤ n) : toExpr n d s = (.ok e, s) := by
  obtain ⟨m, rfl, hm⟩ := exists_add hn
  exact toExpr_of_stmt (h m hm)

theorem Tr.sym (x : String) (l : Loc) : Tr s 1 (.sym x l) (.expr (.sym x l)) := fun n hn => by
  obtain ⟨m, rfl⟩ := Nat.exists_eq_add_one.2 hn; rfl

theorem Tr.prim (p : Prim) (l : Loc) : Tr s 1 (.prim p l) (.expr (.prim p l)) := fun n hn => by
  obtain ⟨m, rfl⟩ := Nat.exists_eq_add_one.2 hn; rfl

theorem Tr.vec (xs : List Datum) (l : Loc) : Tr s 1 (.vec xs l) (.expr (.datum (.vec xs l) l)) := fun n hn => by
  obtain ⟨m, rfl⟩ := Nat.exists_eq_add_one.2 hn; rfl

theorem Tr.quote (kl l l' : Loc) (d : Datum) (rest : List Datum) :
    Tr s 1 (.pair (.sym "quote" kl) (Datum.ofList l' (d :: rest)) l) (.expr (.quote d l)) := fun n hn => by
  obtain ⟨m, rfl⟩ := Nat.exists_eq_add_one.2 hn
  rw [toStatement_form m (Datum.isListy_ofList ..) kwOf_quote, Datum.elems_ofList, formOf_quote]; rfl

theorem Tr.if2 {T C' t c'} (kl l l' : Loc) (hT : Tr s c₁ T (.expr t)) (hC : Tr s c₂ C' (.expr c')) :
    Tr s (c₁ + c₂ + 2) (.pair (.sym "if" kl) (Datum.ofList l' [T, C']) l) (.expr (.cond t c' none l)) :=
  fun n hn => by
  obtain ⟨m, rfl, hm⟩ := exists_add (k := 1) (by omega : c₁ + c₂ + 1 + 1 ≤ n)
  rw [toStatement_form m (Datum.isListy_ofList ..) kwOf_if, Datum.elems_ofList, formOf_if,
    bind_of_ok (hT.toExpr (by omega : c₁ + 1 ≤ m)), bind_of_ok (hC.toExpr (by omega : c₂ + 1 ≤ m))]
  rfl

theorem Tr.if3 {T C' A t c' a} (kl l l' : Loc) (rest : List Datum) (hT : Tr s c₁ T (.expr t))
    (hC : Tr s c₂ C' (.expr c')) (hA : Tr s c₃ A (.expr a)) :
    Tr s (c₁ + c₂ + c₃ + 2) (.pair (.sym "if" kl) (Datum.ofList l' (T :: C' :: A :: rest)) l)
      (.expr (.cond t c' (some a) l)) := fun n hn => by
  obtain ⟨m, rfl, hm⟩ := exists_add (k := 1) (by omega : c₁ + c₂ + c₃ + 1 + 1 ≤ n)
  rw [toStatement_form m (Datum.isListy_ofList ..) kwOf_if, Datum.elems_ofList, formOf_if,
    bind_of_ok (hT.toExpr (by omega : c₁ + 1 ≤ m)), bind_of_ok (hC.toExpr (by omega : c₂ + 1 ≤ m))]
  simp only [List.head?_cons, bind_of_ok (hA.toExpr (by omega : c₃ + 1 ≤ m))]
  rfl

theorem Tr.set {V v} (kl l l' xl : Loc) (x : String) (rest : List Datum) (hV : Tr s c V (.expr v)) :
    Tr s (c + 2) (.pair (.sym "set!" kl) (Datum.ofList l' (.sym x xl :: V :: rest)) l)
      (.expr (.assign x v (xl.orElse (fun _ => l)))) := fun n hn => by
  obtain ⟨m, rfl, hm⟩ := exists_add (k := 1) (by omega : c + 1 + 1 ≤ n)
  rw [toStatement_form m (Datum.isListy_ofList ..) kwOf_set, Datum.elems_ofList, formOf_set,
    bind_of_ok (hV.toExpr hm)]
  rfl

theorem Tr.define {V v} (kl l l' xl : Loc) (x : String) (rest : List Datum) (hV : Tr s c V (.expr v)) :
    Tr s (c + 3) (.pair (.sym "define" kl) (Datum.ofList l' (.sym x xl :: V :: rest)) l)
      (.definition (.mk x v l)) := fun n hn => by
  obtain ⟨m, rfl, hm⟩ := exists_add (k := 2) (by omega : c + 1 + 2 ≤ n)
  rw [toStatement_form (m+1) (Datum.isListy_ofList ..) kwOf_define, Datum.elems_ofList, formOf_define,
    bind_of_ok (hV.toExpr hm)]
  rfl

theorem TrArgs.nil : TrArgs s 1 [] [] := fun n hn => by
  obtain ⟨m, rfl⟩ := Nat.exists_eq_add_one.2 hn; rfl

theorem TrArgs.cons {d e ds es} (hd : Tr s c d (.expr e)) (h : TrArgs s C ds es) :
    TrArgs s (max (c + 2) (C + 1)) (d :: ds) (e :: es) := fun n hn => by
  obtain ⟨m, rfl, hm⟩ := exists_add (k := 1) (by omega : max (c + 1) C + 1 ≤ n)
  rw [toExprs_cons, bind_of_ok (hd.toExpr (by omega : c + 1 ≤ m)), bind_of_ok (h m (by omega))]
  rfl

theorem Tr.call {F f args as} (l l' : Loc)
    (hhead : ∀ kw kl, F = .sym kw kl → kw ∉ keywords ∧ s.get? kw = none)
    (hF : Tr s c F (.expr f)) (hA : TrArgs s C args as) :
    Tr s (max (c + 1) C + 2) (.pair F (Datum.ofList l' args) l) (.expr (.call f as l)) := fun n hn => by
  obtain ⟨m, rfl, hm⟩ := exists_add (k := 2) hn
  rw [toStatement_call (m+1) (Datum.isListy_ofList ..) hhead, Datum.elems_ofList]
  refine callOf_ok ?_
  rw [toCall, bind_of_ok (hF.toExpr (by omega : c + 1 ≤ m)), bind_of_ok (hA m (by omega))]
  rfl

theorem TrBody.nil {accD accE} (h : accE ≠ []) : TrBody s 1 [] accD accE (.ok (accD.reverse, accE.reverse)) :=
  fun n hn => by
  obtain ⟨m, rfl⟩ := Nat.exists_eq_add_one.2 hn
  exact toBody_nil m accD accE s h

theorem TrBody.nil_err {accD} : TrBody s 1 [] accD [] (.error (.syntax, none)) := fun n hn => by
  obtain ⟨m, rfl⟩ := Nat.exists_eq_add_one.2 hn
  rw [toBody_nil_err]; rfl

theorem TrBody.expr {d e ds accD accE x} (hd : Tr s c d (.expr e)) (h : TrBody s C ds accD (e :: accE) x) :
    TrBody s (max c C + 1) (d :: ds) accD accE x := fun n hn => by
  obtain ⟨m, rfl, hm⟩ := exists_add (k := 1) hn
  rw [toBody_expr (hd m (by omega))]
  exact h m (by omega)

theorem TrBody.defn {d df ds accD x} (hd : Tr s c d (.definition df)) (h : TrBody s C ds (df :: accD) [] x) :
    TrBody s (max c C + 1) (d :: ds) accD [] x := fun n hn => by
  obtain ⟨m, rfl, hm⟩ := exists_add (k := 1) hn
  rw [toBody_def (hd m (by omega))]
  exact h m (by omega)

end rules

theorem spine_formalsD (fixed : List String) (rest : Option String) :
    (formalsD fixed rest).spine = (fixed.map ident, rest.map ident) := by
  induction fixed with
  | nil => cases rest <;> rfl
  | cons x xs ih => simp only [formalsD, Datum.spine, ih, List.map_cons]

theorem toFormals_formalsD (fixed : List String) (rest : Option String) (s : SynEnv) :
    toFormals (formalsD fixed rest) s = (.ok ⟨fixed, rest⟩, s) := by
  by_cases hl : (formalsD fixed rest).isListy = true
  · have hfind : ((fixed.map ident) ++ (rest.map ident).toList).find?
        (fun x => match x with | .sym _ _ => false | _ => true) = none := by
      rw [List.find?_eq_none]
      intro x hx
      simp only [List.mem_append, List.mem_map, Option.mem_toList, Option.map_eq_some_iff] at hx
      rcases hx with ⟨a, _, rfl⟩ | ⟨a, _, rfl⟩ <;> simp [ident]
    rw [toFormals_good hl (by rw [spine_formalsD]; exact hfind), spine_formalsD]
    simp only [List.map_map, Function.comp_def, ident, List.map_id', Option.map_map, Option.map_id']
    rfl
  · cases fixed with
    | nil => cases rest with
      | none => exact absurd rfl hl
      | some r => rfl
    | cons x xs => exact absurd rfl hl

theorem Tr.lambda {s : SynEnv} {C : Nat} {body defs es} (kl l l' : Loc) (fixed : List String) (rest : Option String)
    (hB : TrBody ([] :: s) C body [] [] (.ok (defs, es))) :
    Tr s (C + 2) (.pair (.sym "lambda" kl) (Datum.ofList l' (formalsD fixed rest :: body)) l)
      (.expr (.lambda (.mk ⟨fixed, rest⟩ defs es) l)) := fun n hn => by
  obtain ⟨m, rfl, hm⟩ := exists_add (k := 2) hn
  rw [toStatement_form (m+1) (Datum.isListy_ofList ..) kwOf_lambda, Datum.elems_ofList, formOf, toLambda_cons]
  simp only [bind_assoc, bind_of_ok (toFormals_formalsD fixed rest s), bind_of_ok (inChild_eq (hB m hm))]
  rfl

/-! ## `popProper` and `toFormals` by the shape of the datum -/

/- the next three are not used -/
theorem elems_nil (l : Loc) : (Datum.nil l).elems = [] := Datum.elems_nil l

theorem popProper_pair2 (a x y : Datum) (l l' : Loc) :
    Macro.popProper (.pair a (.pair x y l') l) = .ok (some (a, .pair x y l')) := Macro.popProper_pair a _ l
theorem popProper_pair_nil (a : Datum) (l l' : Loc) :
    Macro.popProper (.pair a (.nil l') l) = .ok (some (a, .nil l')) := rfl

theorem toFormals_kind (d : Datum) (s : SynEnv) :
    (∃ f, toFormals d s = (.ok f, s)) ∨ (∃ loc, toFormals d s = (.error (.syntax, loc), s)) :=
  toFormals_cases (M := fun m => (∃ f, m s = (.ok f, s)) ∨ ∃ loc, m s = (.error (.syntax, loc), s)) d
    (fun _ => .inl ⟨_, rfl⟩) fun _ _ => .inr ⟨_, rfl⟩

theorem toFormals_atom (d : Datum) (s : SynEnv) (h : match d with | .prim _ _ => True | .vec _ _ => True | _ => False) :
    toFormals d s = (.error (.syntax, d.loc), s) := by
  cases d <;> first | exact absurd h id | rfl


/-! ## sizes, and the round trip by structural induction -/

theorem lst_cons (a : Datum) (xs : List Datum) : lst (a :: xs) = .pair a (Datum.ofList none xs) none := rfl

theorem size_lst (xs : List Datum) : (lst xs).size = Datum.sizeList xs + xs.length + 1 := Datum.size_ofList none xs

theorem length_renderList (es : List Expr) : (renderList es).length = es.length := by
  induction es with
  | nil => rfl
  | cons e es ih => simp [renderList, ih]

theorem length_renderDefs (ds : List Def) (tail : List Datum) : (renderDefs ds tail).length = ds.length + tail.length := by
  induction ds with
  | nil => simp [renderDefs]
  | cons d ds ih => simp [renderDefs, ih]; omega

theorem sizeList_renderDefs (ds : List Def) (tail : List Datum) :
    Datum.sizeList (renderDefs ds tail) = Datum.sizeList (renderDefs ds []) + Datum.sizeList tail := by
  induction ds with
  | nil => simp [renderDefs, Datum.sizeList]
  | cons d ds ih => simp only [renderDefs, Datum.sizeList, ih]; omega

theorem head_of_core {isM : String → Bool} {s : SynEnv} (hM : ∀ k, isM k = (s.get? k).isSome) :
    ∀ (f : Expr), headOk isM f = true → core isM f = true →
      ∀ kw kl, render f = .sym kw kl → kw ∉ keywords ∧ s.get? kw = none
  | .sym x l, hh, _, kw, kl, hr => by
    simp only [render, ident, Datum.sym.injEq] at hr
    obtain ⟨rfl, _⟩ := hr
    simp only [headOk, Bool.and_eq_true, Bool.not_eq_true', List.contains_eq_mem, decide_eq_false_iff_not] at hh
    refine ⟨hh.1, ?_⟩
    have := hh.2; rw [hM] at this
    cases h : s.get? x <;> simp_all
  | .datum d l, _, hc, kw, kl, hr => by
    cases d <;> simp [core] at hc
    simp [render, Datum.strip] at hr
  | .lambda (.mk fm ds b) l, _, _, kw, kl, hr => by simp [render, renderLambda, lst, Datum.ofList] at hr
  | .prim _ _, _, _, kw, kl, hr | .quote _ _, _, _, kw, kl, hr | .assign _ _ _, _, _, kw, kl, hr
  | .cond _ _ _ _, _, _, kw, kl, hr | .call _ _ _, _, _, kw, kl, hr => by simp [render, lst, Datum.ofList] at hr


section main
variable {isM : String → Bool}

/- twice the size of the printed form pays for every rule -/
mutual
theorem tr_expr : ∀ (e : Expr) (s : SynEnv), (∀ k, isM k = (s.get? k).isSome) → core isM e = true →
    Tr s (2 * (render e).size) (render e) (.expr e.unloc)
  | .sym x l, s, hM, hc => (Tr.sym x none).mono (by simp only [render, ident, Datum.size]; omega)
  | .prim p l, s, hM, hc => (Tr.prim p none).mono (by simp only [render, Datum.size]; omega)
  | .quote d l, s, hM, hc => (Tr.quote none none none d.strip []).mono (Nat.le_trans (Datum.size_pos _) (Nat.le_mul_of_pos_left _ (by decide)))
  | .datum d l, s, hM, hc => by
    cases d with
    | vec xs l' => exact (Tr.vec _ none).mono (Nat.le_trans (Datum.size_pos _) (Nat.le_mul_of_pos_left _ (by decide)))
    | _ => cases hc
  | .assign x e l, s, hM, hc => (Tr.set none none none none x [] (tr_expr e s hM hc)).mono (by
      simp only [render, size_lst, Datum.sizeList, List.length_cons, List.length_nil]; omega)
  | .cond t c none l, s, hM, hc => by
    obtain ⟨hc, -⟩ := Bool.and_eq_true_iff.1 hc
    obtain ⟨ht, hcc⟩ := Bool.and_eq_true_iff.1 hc
    exact (Tr.if2 none none none (tr_expr t s hM ht) (tr_expr c s hM hcc)).mono (by
      simp only [render, renderOpt, size_lst, Datum.sizeList, List.length_cons, List.length_nil]; omega)
  | .cond t c (some a) l, s, hM, hc => by
    obtain ⟨hc, ha⟩ := Bool.and_eq_true_iff.1 hc
    obtain ⟨ht, hcc⟩ := Bool.and_eq_true_iff.1 hc
    exact (Tr.if3 none none none [] (tr_expr t s hM ht) (tr_expr c s hM hcc) (tr_expr a s hM ha)).mono (by
      simp only [render, renderOpt, size_lst, Datum.sizeList, List.length_cons, List.length_nil]; omega)
  | .call f as l, s, hM, hc => by
    obtain ⟨hc, hcas⟩ := Bool.and_eq_true_iff.1 hc
    obtain ⟨hh, hcf⟩ := Bool.and_eq_true_iff.1 hc
    exact (Tr.call none none (head_of_core hM f hh hcf) (tr_expr f s hM hcf) (tr_list as s hM hcas)).mono (by
      simp only [render, size_lst, Datum.sizeList, List.length_cons, length_renderList]; omega)
  | .lambda (.mk fm defs body) l, s, hM, hc => by
    have hM' : ∀ k, isM k = (SynEnv.get? ([] :: s) k).isSome := fun k => by rw [hM k]; rfl
    refine (Tr.lambda none none none fm.fixed fm.rest (tr_lambdaBody (.mk fm defs body) _ hM' hc)).mono ?_
    simp only [render, renderLambda, size_lst, Datum.sizeList, List.length_cons, Lambda.defs, Lambda.body]
    omega
theorem tr_list : ∀ (es : List Expr) (s : SynEnv), (∀ k, isM k = (s.get? k).isSome) → coreList isM es = true →
    TrArgs s (2 * (Datum.sizeList (renderList es) + es.length) + 1) (renderList es) (Expr.unlocList es)
  | [], s, hM, hc => TrArgs.nil
  | e :: es, s, hM, hc => by
    obtain ⟨hce, hces⟩ := Bool.and_eq_true_iff.1 hc
    exact fun n hn => TrArgs.cons (tr_expr e s hM hce) (tr_list es s hM hces) n (by
      simp only [renderList, Datum.sizeList, List.length_cons] at hn; omega)
theorem tr_body : ∀ (es : List Expr) (accD : List Def) (accE : List Expr) (s : SynEnv),
    (∀ k, isM k = (s.get? k).isSome) → coreList isM es = true → (accE ≠ [] ∨ es ≠ []) →
    TrBody s (2 * Datum.sizeList (renderList es) + es.length + 1) (renderList es) accD accE
      (.ok (accD.reverse, accE.reverse ++ Expr.unlocList es))
  | [], accD, accE, s, hM, hc, hne => by
    rw [Expr.unlocList, List.append_nil]
    exact .nil (hne.resolve_right (absurd rfl))
  | e :: es, accD, accE, s, hM, hc, hne => by
    obtain ⟨hce, hces⟩ := Bool.and_eq_true_iff.1 hc
    have h := tr_body es accD (e.unloc :: accE) s hM hces (.inl (List.cons_ne_nil _ _))
    rw [List.reverse_cons, List.append_assoc] at h
    exact fun n hn => TrBody.expr (tr_expr e s hM hce) h n (by
      simp only [renderList, Datum.sizeList, List.length_cons] at hn; omega)
theorem tr_defs : ∀ (ds : List Def) (tail : List Datum) (accD : List Def) (s : SynEnv) (C : Nat)
    (x : Except SErr (List Def × List Expr)), (∀ k, isM k = (s.get? k).isSome) → coreDefs isM ds = true →
    TrBody s C tail ((Def.unlocList ds).reverse ++ accD) [] x →
    TrBody s (2 * Datum.sizeList (renderDefs ds []) + ds.length + C) (renderDefs ds tail) accD [] x
  | [], tail, accD, s, C, x, hM, hc, h => fun n hn => h n (by simp only [renderDefs, Datum.sizeList, List.length_nil] at hn; omega)
  | (.mk y e l) :: ds, tail, accD, s, C, x, hM, hc, h => by
    obtain ⟨hce, hcds⟩ := Bool.and_eq_true_iff.1 hc
    have h : TrBody s C tail ((Def.unlocList ds).reverse ++ (.mk y e.unloc none :: accD)) [] x := by
      simpa [Def.unlocList, Def.unloc] using h
    exact fun n hn => TrBody.defn (Tr.define none none none none y [] (tr_expr e s hM hce))
      (tr_defs ds tail _ s C x hM hcds h) n (by
        simp only [renderDefs, renderDef, defineD, size_lst, Datum.sizeList, List.length_cons, List.length_nil] at hn
        omega)
theorem tr_lambdaBody : ∀ (lam : Lambda) (s : SynEnv), (∀ k, isM k = (s.get? k).isSome) → coreLambda isM lam = true →
    TrBody s (2 * Datum.sizeList (renderDefs lam.defs (renderList lam.body)) +
        (renderDefs lam.defs (renderList lam.body)).length + 1)
      (renderDefs lam.defs (renderList lam.body)) [] [] (.ok (Def.unlocList lam.defs, Expr.unlocList lam.body))
  | .mk fm defs body, s, hM, hc => by
    obtain ⟨hc, hne⟩ := Bool.and_eq_true_iff.1 hc
    obtain ⟨hcd, hcb⟩ := Bool.and_eq_true_iff.1 hc
    have hb := tr_body body (Def.unlocList defs).reverse [] s hM hcb (.inr (by rintro rfl; cases hne))
    rw [List.reverse_reverse] at hb
    intro n hn
    refine tr_defs defs (renderList body) [] s _ _ hM hcd (by rw [List.append_nil]; exact hb) n (Nat.le_trans ?_ hn)
    simp only [Lambda.defs, Lambda.body, length_renderDefs, length_renderList, sizeList_renderDefs defs (renderList body)]
    omega
end

/-- not used: `tr_list` with the fuel written out -/
theorem rt_list : ∀ (es : List Expr) (s : SynEnv) (n : Nat), (∀ k, isM k = (s.get? k).isSome) → coreList isM es = true →
    2 * (Datum.sizeList (renderList es) + es.length) + 1 ≤ n →
    toExprs n (renderList es) s = (.ok (Expr.unlocList es), s) :=
  fun es s n hM hc hn => tr_list es s hM hc n hn

theorem Tr.defineSugar {s : SynEnv} {C : Nat} {body defs es} (kl l l' lx l₁ : Loc) (x : String) (fixed : List String)
    (rest : Option String) (hB : TrBody s C body [] [] (.ok (defs, es))) :
    Tr s (C + 2) (.pair (.sym "define" kl) (Datum.ofList l' (.pair (.sym x lx) (formalsD fixed rest) l₁ :: body)) l)
      (.definition (.mk x (.lambda (.mk ⟨fixed, rest⟩ defs es) lx) l)) := fun n hn => by
  obtain ⟨m, rfl, hm⟩ := exists_add (k := 2) hn
  rw [toStatement_form (m+1) (Datum.isListy_ofList ..) kwOf_define, formOf, Datum.elems_ofList, toDefinition_sugar,
    bind_assoc, bind_of_ok (toFormals_formalsD _ _ s), bind_assoc, bind_of_ok (hB m hm)]
  rfl
end main

/-! ## the printed forms carry no locations -/

theorem strip_lst (xs : List Datum) : (lst xs).strip = lst (xs.map Datum.strip) := Datum.strip_ofList none xs

theorem strip_defineD (x : String) (p : Datum) (hp : p.strip = p) : (defineD x p).strip = defineD x p := by
  simp [defineD, lst, Datum.strip_ofList, ident, Datum.strip, hp]

theorem size_defineD (x : String) (p : Datum) : (defineD x p).size = p.size + 6 := by
  rw [defineD, size_lst]
  simp [Datum.sizeList, ident, Datum.size]
  omega

theorem strip_formalsD (fixed : List String) (rest : Option String) : (formalsD fixed rest).strip = formalsD fixed rest := by
  induction fixed with
  | nil => cases rest <;> rfl
  | cons x xs ih => simp only [formalsD, Datum.strip, ident, ih]

mutual
theorem strip_render : ∀ e : Expr, (render e).strip = render e
  | .sym x l => rfl
  | .prim p l => rfl
  | .quote d l => by simp [render, lst, Datum.strip_ofList, ident, Datum.strip]
  | .datum d l => by simp [render]
  | .assign x e l => by simp [render, lst, Datum.strip_ofList, ident, Datum.strip, strip_render e]
  | .cond t c none l => by simp [render, renderOpt, lst, Datum.strip_ofList, ident, Datum.strip, strip_render t, strip_render c]
  | .cond t c (some a) l => by
    simp [render, renderOpt, lst, Datum.strip_ofList, ident, Datum.strip, strip_render t, strip_render c, strip_render a]
  | .call f as l => by simp [render, lst, Datum.strip_ofList, strip_render f, strip_renderList as]
  | .lambda (.mk fm ds b) l => by
    simp [render, renderLambda, lst, Datum.strip_ofList, ident, Datum.strip, strip_formalsD, strip_renderDefs ds, strip_renderList b]
theorem strip_renderList : ∀ es : List Expr, (renderList es).map Datum.strip = renderList es
  | [] => rfl
  | e :: es => by simp [renderList, strip_render e, strip_renderList es]
theorem strip_renderDefs : ∀ (ds : List Def) (tail : List Datum), tail.map Datum.strip = tail →
    (renderDefs ds tail).map Datum.strip = renderDefs ds tail
  | [], tail, h => by simpa [renderDefs] using h
  | (.mk x e l) :: ds, tail, h => by
    simp [renderDefs, renderDef, defineD, lst, Datum.strip_ofList, ident, Datum.strip, strip_render e, strip_renderDefs ds tail h]
end

theorem strip_defineSugarD (x : String) (lam : Lambda) : (defineSugarD x lam).strip = defineSugarD x lam := by
  obtain ⟨fm, defs, body⟩ := lam
  simp [defineSugarD, lst, Datum.strip_ofList, ident, Datum.strip, strip_formalsD,
    strip_renderDefs defs _ (strip_renderList body)]

theorem coreStmt_define_lambda (isM : String → Bool) (x : String) (lam : Lambda) (l l' : Loc) :
    coreStmt isM (.definition (.mk x (.lambda lam l) l')) = coreLambda isM lam := rfl

end Ruschm.CoreSyntax
