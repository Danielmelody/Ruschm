/-
The reference evaluator (`RuschmSpec/Ref.lean`) in sequence form, as `EvalSeq.lean` has the model: on `assign`, `if`, a
call, operand lists, definitions and bodies the right-hand sides are the model's word for word; the two evaluators
differ in the application (`apply` against `applyProcedure`/`applyLoop`/`applyScheme`) and in the last expression of
a body.
-/
import RuschmProofs.EvalSeq
namespace Ruschm.Ref
open Eval (evalPrim readLiteral procArity arityOk bindFixed spreadApply nonProcAfter arityOk_variadic)

theorem eval_zero (σ : Store) (ρ : Nat) (e : Expr) : eval 0 σ ρ e = (.error (.fuel, none), σ) := by rw [eval]
theorem evalList_zero (σ : Store) (ρ : Nat) (es : List Expr) : evalList 0 σ ρ es = (.error (.fuel, none), σ) := by
  rw [evalList]
theorem apply_zero (σ : Store) (p : Value) (as : List Value) : apply 0 σ p as = (.error (.fuel, none), σ) := by rw [apply]
theorem evalDefs_zero (σ : Store) (ρ : Nat) (ds : List Def) : evalDefs 0 σ ρ ds = (.error (.fuel, none), σ) := by
  rw [evalDefs]
theorem evalSeq_zero (σ : Store) (ρ : Nat) (es : List Expr) : evalSeq 0 σ ρ es = (.error (.fuel, none), σ) := by
  rw [evalSeq]

theorem eval_assign (k : Nat) (σ : Store) (ρ : Nat) (x : String) (e : Expr) (l : Loc) :
    eval (k+1) σ ρ (.assign x e l) = andThen (eval k σ ρ e) fun v σ₁ =>
      match σ₁.set ρ x v with
      | (true, σ₂) => (.ok .void, σ₂)
      | (false, σ₂) => (.error (.unbound, l), σ₂) := by
  rw [eval]; rcases eval k σ ρ e with ⟨_ | _, _⟩ <;> rfl

theorem eval_cond (k : Nat) (σ : Store) (ρ : Nat) (t c : Expr) (a : Option Expr) (l : Loc) :
    eval (k+1) σ ρ (.cond t c a l) = andThen (eval k σ ρ t) fun tv σ₁ =>
      if tv.truthy then eval k σ₁ ρ c
      else match a with
        | some alt => eval k σ₁ ρ alt
        | none => (.ok .void, σ₁) := by
  rw [eval]; rcases eval k σ ρ t with ⟨_ | _, _⟩ <;> rfl

theorem eval_call (k : Nat) (σ : Store) (ρ : Nat) (f : Expr) (args : List Expr) (l : Loc) :
    eval (k+1) σ ρ (.call f args l) = andThen (eval k σ ρ f) fun fv σ₁ =>
      if (procArity fv).isSome then andThen (evalList k σ₁ ρ args) fun vs σ₂ => apply k σ₂ fv vs
      else (nonProcAfter f.loc (evalList k σ₁ ρ args).1, (evalList k σ₁ ρ args).2) := by
  rw [eval]
  rcases eval k σ ρ f with ⟨_ | fv, σ₁⟩
  · rfl
  · simp only [andThen_ok]
    rcases evalList k σ₁ ρ args with ⟨ra, σ₂⟩
    cases procArity fv with
    | some a => cases ra <;> rfl
    | none =>
      rcases ra with ⟨k, l'⟩ | vs
      · cases k <;> rfl
      · rfl

theorem evalList_nil (k : Nat) (σ : Store) (ρ : Nat) : evalList (k+1) σ ρ [] = (.ok [], σ) := by rw [evalList]

theorem evalList_cons (k : Nat) (σ : Store) (ρ : Nat) (e : Expr) (es : List Expr) :
    evalList (k+1) σ ρ (e :: es) = andThen (eval k σ ρ e) fun v σ₁ =>
      andThen (evalList k σ₁ ρ es) fun vs σ₂ => (.ok (v :: vs), σ₂) := by
  rw [evalList]; rcases eval k σ ρ e with ⟨_ | _, σ₁⟩
  · rfl
  · simp only [andThen_ok]; rcases evalList k σ₁ ρ es with ⟨_ | _, _⟩ <;> rfl

theorem apply_not_proc (k : Nat) (σ : Store) {p : Value} (args : List Value) (hp : procArity p = none) :
    apply (k+1) σ p args = (.error (.nonProcedure, none), σ) := by
  unfold apply; simp only [hp]

theorem apply_arity (k : Nat) (σ : Store) {p : Value} {args : List Value} {fixed variadic}
    (hp : procArity p = some (fixed, variadic)) (ha : arityOk fixed variadic args.length = false) :
    apply (k+1) σ p args = (.error (.arity, none), σ) := by
  unfold apply; simp only [hp, ha]; simp

theorem apply_builtin (k : Nat) (σ : Store) {b : Builtin} {args : List Value} (hb : b ≠ .apply)
    (ha : arityOk b.arity.1 b.arity.2 args.length = true) :
    apply (k+1) σ (.builtin b) args = Prim.applyPure σ b args := by
  rw [apply]
  · simp only [procArity, ha]; simp
  · exact fun h => hb h

theorem apply_apply (k : Nat) (σ : Store) {args : List Value} (ha : 1 ≤ args.length) :
    apply (k+1) σ (.builtin .apply) args =
      match spreadApply args with
      | .error er => (.error (er, none), σ)
      | .ok (f, args') => apply k σ f args' := by
  rw [apply]; simp only [procArity, Builtin.arity, (arityOk_variadic ..).mpr ha]
  rcases spreadApply args with _ | ⟨f, args'⟩ <;> rfl

theorem apply_closure (k : Nat) (σ : Store) {lam : Lambda} (cenv : Nat) {args : List Value}
    (ha : arityOk lam.formals.fixed.length lam.formals.rest.isSome args.length = true) :
    apply (k+1) σ (.closure lam cenv) args =
      match bindFixed (σ.newFrame (some cenv)).2 (σ.newFrame (some cenv)).1 lam.formals.fixed args with
      | (.error er, σ₁) => (.error (er, none), σ₁)
      | (.ok restArgs, σ₁) =>
        andThen (evalDefs k (bindRest σ₁ (σ.newFrame (some cenv)).1 lam.formals.rest restArgs)
            (σ.newFrame (some cenv)).1 lam.defs) fun _ σ₂ => evalSeq k σ₂ (σ.newFrame (some cenv)).1 lam.body := by
  rw [apply]; simp only [procArity, ha]
  rcases bindFixed _ _ _ _ with ⟨_ | ra, σ₁⟩
  · rfl
  · simp only [Bool.not_true, Bool.false_eq_true, if_false]
    rcases evalDefs k _ _ lam.defs with ⟨_ | _, _⟩ <;> rfl

theorem evalDefs_nil (k : Nat) (σ : Store) (ρ : Nat) : evalDefs (k+1) σ ρ [] = (.ok (), σ) := by rw [evalDefs]

theorem evalDefs_cons (k : Nat) (σ : Store) (ρ : Nat) (x : String) (e : Expr) (l : Loc) (ds : List Def) :
    evalDefs (k+1) σ ρ (.mk x e l :: ds) = andThen (eval k σ ρ e) fun v σ₁ => evalDefs k (σ₁.define ρ x v) ρ ds := by
  rw [evalDefs]; rcases eval k σ ρ e with ⟨_ | _, _⟩ <;> rfl

theorem evalSeq_nil (k : Nat) (σ : Store) (ρ : Nat) :
    evalSeq (k+1) σ ρ [] = (.error (.panic "apply_scheme_procedure: empty body", none), σ) := by rw [evalSeq]

theorem evalSeq_last (k : Nat) (σ : Store) (ρ : Nat) (e : Expr) : evalSeq (k+1) σ ρ [e] = eval k σ ρ e := by
  rw [evalSeq]

theorem evalSeq_cons (k : Nat) (σ : Store) (ρ : Nat) (e e' : Expr) (es : List Expr) :
    evalSeq (k+1) σ ρ (e :: e' :: es) = andThen (eval k σ ρ e) fun _ σ₁ => evalSeq k σ₁ ρ (e' :: es) := by
  rw [evalSeq]
  · rcases eval k σ ρ e with ⟨_ | _, _⟩ <;> rfl
  · simp

end Ruschm.Ref
