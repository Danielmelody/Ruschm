/-
`Except` and `List` alone: `>>=` and `map` of `Except` taken apart, `List.mapM` and `List.foldlM` in `Except`,
a walk over a list that checks each element and carries a state, `List.find?` / `findSome?` / `takeWhile`.
Imports nothing.
-/

universe u v

namespace Ruschm

/-! ## `>>=` in `Except` -/

theorem ok_bind {ε α β} (a : α) (f : α → Except ε β) : (Except.ok a >>= f) = f a := rfl

theorem bind_eq_ok {ε α β} {x : Except ε α} {f : α → Except ε β} {b : β}
    (h : (x >>= f) = .ok b) : ∃ a, x = .ok a ∧ f a = .ok b := by
  cases x with
  | error e => cases h
  | ok a => exact ⟨a, rfl, h⟩

theorem bind_eq_error {ε α β} {x : Except ε α} {f : α → Except ε β} {e : ε}
    (h : (x >>= f) = .error e) : x = .error e ∨ ∃ a, x = .ok a ∧ f a = .error e := by
  cases x with
  | error e' => cases h; exact .inl rfl
  | ok a => exact .inr ⟨a, rfl, h⟩

/-! ## `map` in `Except` -/

theorem map_error {α β ε : Type} {x : Except ε α} {f : α → β} {e : ε}
    (h : x.map f = .error e) : x = .error e := by
  cases x with
  | error e' => simpa [Except.map] using h
  | ok a => simp [Except.map] at h

theorem map_ok {α β ε : Type} {x : Except ε α} {f : α → β} {b : β}
    (h : x.map f = .ok b) : ∃ a, x = .ok a ∧ b = f a := by
  cases x with
  | error e => cases h
  | ok a => cases h; exact ⟨a, rfl, rfl⟩

/-! ## `List.mapM` in `Except` -/

section mapM
variable {α γ β ε : Type _} {f : α → Except ε β}

theorem mapM_cons (a : α) (l : List α) :
    (a :: l).mapM f = match f a with
      | .error e => .error e
      | .ok b => match l.mapM f with
        | .error e => .error e
        | .ok bs => .ok (b :: bs) := by
  rw [List.mapM_cons]
  cases f a with
  | error e => rfl
  | ok b => cases l.mapM f <;> rfl

theorem mapM_cons_ok_iff {a : α} {l : List α} {ys : List β} :
    (a :: l).mapM f = .ok ys ↔ ∃ b bs, f a = .ok b ∧ l.mapM f = .ok bs ∧ ys = b :: bs := by
  rw [mapM_cons]
  cases f a with
  | error e => simp
  | ok b => cases l.mapM f <;> simp [eq_comm]

theorem mapM_error_elem {xs : List α} {e : ε} (h : xs.mapM f = .error e) : ∃ x ∈ xs, f x = .error e := by
  induction xs with
  | nil => cases h
  | cons x xs ih =>
    rw [List.mapM_cons] at h
    rcases bind_eq_error h with hx | ⟨_, _, h⟩
    · exact ⟨x, List.mem_cons_self .., hx⟩
    · rcases bind_eq_error h with hxs | ⟨_, _, h⟩
      · exact (ih hxs).imp fun x' h' => ⟨List.mem_cons_of_mem _ h'.1, h'.2⟩
      · cases h

theorem mapM_error_of {P : ε → Prop} (hf : ∀ a e, f a = .error e → P e) {xs : List α} {e : ε}
    (h : xs.mapM f = .error e) : P e :=
  have ⟨a, _, ha⟩ := mapM_error_elem h
  hf a e ha

theorem mapM_first_error {pre : List α} {ys : List β} {x : α} {post : List α} {e : ε}
    (hpre : pre.mapM f = .ok ys) (hx : f x = .error e) : (pre ++ x :: post).mapM f = .error e := by
  rw [List.mapM_append, hpre, mapM_cons, hx]; rfl

theorem mapM_map_ok {r : γ → α} {g : γ → β} :
    ∀ (l : List γ), (∀ c ∈ l, f (r c) = .ok (g c)) → (l.map r).mapM f = .ok (l.map g)
  | [], _ => rfl
  | c :: l, h => by
    rw [List.map_cons, mapM_cons, h c (List.mem_cons_self ..),
      mapM_map_ok l fun x hx => h x (List.mem_cons_of_mem _ hx)]
    rfl

end mapM

/-! ## `List.foldlM` in `Except` -/

theorem foldlM_post {α β ε} {step : β → α → Except ε β} {P : β → Prop} {E : ε → Prop} :
    ∀ (l : List α) (b : β), P b →
    (∀ b, P b → ∀ a ∈ l, (∀ b', step b a = .ok b' → P b') ∧ (∀ e, step b a = .error e → E e)) →
    (∀ b', l.foldlM step b = .ok b' → P b') ∧ (∀ e, l.foldlM step b = .error e → E e)
  | [], b, hb, _ => ⟨fun b' h => (by cases h; exact hb), fun e h => (by cases h)⟩
  | a :: l, b, hb, hs => by
    have ha := hs b hb a (List.mem_cons_self ..)
    simp only [List.foldlM_cons, bind, Except.bind]
    cases h1 : step b a with
    | error e => exact ⟨fun b' h => (by cases h), fun e' h => (by cases h; exact ha.2 e h1)⟩
    | ok b1 => exact foldlM_post l b1 (ha.1 b1 h1) (fun b hb a ha => hs b hb a (List.mem_cons_of_mem _ ha))

/-! ## a walk that checks each element

`go` walks over a list with a state: it checks the element (`expect`), takes a step with what the check delivers,
and goes on. -/

section walk
variable {α β S γ ε : Type} {expect : α → Except ε β} {inj : β → α} {step : S → β → Except ε S}
  {go : S → List α → Except ε γ}
  (hgo : ∀ s v vs, go s (v :: vs) = expect v >>= fun b => step s b >>= fun s' => go s' vs)
  (hinj : ∀ b, expect (inj b) = .ok b)
include hgo hinj

theorem walk_map : ∀ (pre : List β) (s : S) (rest : List α),
    go s (pre.map inj ++ rest) = pre.foldlM step s >>= fun s' => go s' rest
  | [], _, _ => rfl
  | b :: pre, s, rest => by
    rw [List.map_cons, List.cons_append, hgo, hinj, List.foldlM_cons, bind_assoc]
    exact bind_congr fun s' => walk_map pre s' rest

theorem walk_type {pre : List β} {s s' : S} {x : α} {e : ε} (post : List α) (hpre : pre.foldlM step s = .ok s')
    (hx : expect x = .error e) : go s (pre.map inj ++ x :: post) = .error e := by
  rw [walk_map hgo hinj, hpre]
  show go s' (x :: post) = _
  rw [hgo, hx]; rfl

omit hinj in
theorem walk_comm {φ : α → α} (hφ : ∀ v, expect (φ v) = expect v) : ∀ (s : S) (args : List α),
    go s (args.map φ) = go s args
  | _, [] => rfl
  | s, v :: vs => by
    rw [List.map_cons, hgo, hgo, hφ]
    exact bind_congr fun _ => bind_congr fun s' => walk_comm hφ s' vs

end walk

/-- `walk_type` for a procedure that checks its first argument, then walks the rest with steps that cannot fail -/
theorem walk_type_first {α β S γ ε : Type} {expect : α → Except ε β} {inj : β → α} {stp : S → β → S}
    {go : S → List α → Except ε γ} {f : List α → Except ε γ} {init : β → S}
    (hgo : ∀ s v vs, go s (v :: vs) = expect v >>= fun b => (pure (stp s b) : Except ε S) >>= fun s' => go s' vs)
    (hf : ∀ v vs, f (v :: vs) = expect v >>= fun b => go (init b) vs) (hinj : ∀ b, expect (inj b) = .ok b)
    {pre : List β} {x : α} {e : ε} (post : List α) (hx : expect x = .error e) :
    f (pre.map inj ++ x :: post) = .error e := by
  cases pre with
  | nil => rw [List.map_nil, List.nil_append, hf, hx]; rfl
  | cons b pre =>
    rw [List.map_cons, List.cons_append, hf, hinj]
    exact walk_type hgo hinj post List.foldlM_pure hx

/-! ## `List.find?`, `List.findSome?` -/

theorem findSome?_congr {α : Type u} {β : Type v} {f g : α → Option β} : ∀ {l : List α}, (∀ a ∈ l, f a = g a) →
    l.findSome? f = l.findSome? g
  | [], _ => rfl
  | a :: l, h => by
    rw [List.findSome?_cons, List.findSome?_cons, h a (List.mem_cons_self ..),
      findSome?_congr fun b hb => h b (List.mem_cons_of_mem _ hb)]

theorem find?_isSome_bind {α : Type u} {β : Type v} (g : α → Option β) :
    ∀ l : List α, (l.find? (fun a => (g a).isSome)).bind g = l.findSome? g
  | [] => rfl
  | a :: l => by
    rw [List.find?_cons, List.findSome?_cons]
    cases h : g a with
    | some b => simp [h]
    | none => simpa [h] using find?_isSome_bind g l

theorem findSome?_override {α : Type u} {β : Type v} [DecidableEq α] (g : α → Option β) (k : α) (v : β) :
    ∀ l : List α,
      (l.find? (fun a => decide (a = k) || (g a).isSome) = some k →
        l.findSome? (fun a => if a = k then some v else g a) = some v) ∧
      (l.find? (fun a => decide (a = k) || (g a).isSome) ≠ some k →
        l.findSome? (fun a => if a = k then some v else g a) = l.findSome? g)
  | [] => ⟨nofun, fun _ => rfl⟩
  | a :: l => by
    rw [List.find?_cons, List.findSome?_cons, List.findSome?_cons]
    by_cases ha : a = k
    · subst ha
      simp only [decide_true, Bool.true_or, if_true]
      exact ⟨fun _ => trivial, fun h => absurd rfl h⟩
    · simp only [ha, decide_false, Bool.false_or, if_false]
      cases hg : g a with
      | some b => exact ⟨fun h => absurd (Option.some.inj h) ha, fun _ => rfl⟩
      | none => exact findSome?_override g k v l

/-! ## `List.takeWhile` -/

theorem mem_takeWhile_split {α} {p : α → Bool} {z : α} {l : List α} (h : z ∈ l.takeWhile p) :
    ∃ pre post, l = pre ++ z :: post ∧ ∀ y ∈ pre, p y = true := by
  obtain ⟨s, t, e⟩ := List.append_of_mem h
  refine ⟨s, t ++ l.dropWhile p, ?_, fun y hy => List.all_eq_true.1 List.all_takeWhile y (e ▸ List.mem_append_left _ hy)⟩
  rw [← List.cons_append, ← List.append_assoc, ← e, List.takeWhile_append_dropWhile]

/-! ## `List.replicate` -/

theorem mem_of_mem_replicate_flatten {α} {x : α} {l : List α} {n : Nat}
    (h : x ∈ (List.replicate n l).flatten) : x ∈ l := by
  obtain ⟨l', hl', hx⟩ := List.mem_flatten.1 h
  exact List.eq_of_mem_replicate hl' ▸ hx

end Ruschm
