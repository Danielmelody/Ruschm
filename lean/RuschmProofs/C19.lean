/-
Property C19 — "Two interpreter instances in one process share nothing a program can observe:
definitions, assignments, macro definitions, imports and failed operations performed through one
instance never change the result of anything evaluated through another, and creating a new
instance always succeeds whatever earlier instances have evaluated."

The model of a process with several instances is `Front.World` (a list of `Interp.State`s) with
`Front.worldStep` (evaluate a text through instance `i`) and `Front.worldNew`
(`Interpreter::new_with_stdlib()`). An instance's state holds its store (frames, vectors), its
root frame, its syntax scopes, its library factories and instance cache, its in-progress set — i.e.
everything `Interp.evalText` reads or writes. The only thing instances have in common is the
table of bundled derived forms, which in the model is the CONSTANT `Interp.grammarScope` at the
bottom of every instance's `syn` (in the Rust code after the repair: an immutable parent scope
that `define-syntax` never writes to — `syn_base_unchanged` below is the model-level content of
that repair). Only property theorems live here; helpers are in `RuschmProofs/FrontLemmas.lean`.
-/
import RuschmProofs.FrontLemmas

namespace Ruschm.C19
open Ruschm Ruschm.Interp Ruschm.Front Ruschm.FrontSpec

/-- A step through instance `i` leaves every other instance exactly as it was, and the number of
instances unchanged — whether the text succeeded or failed, whatever it defined, assigned,
imported or bound as a macro. -/
theorem step_frames_others (fuel : Nat) (w : World) (i : Nat) (text : List Char) :
    (worldStep fuel w i text).2.length = w.length ∧
    ∀ j, j ≠ i → (worldStep fuel w i text).2[j]? = w[j]? :=
  ⟨worldStep_length fuel w i text, fun j h => worldStep_other fuel w i j text h⟩

/-- Registering a library source on instance `i` (`register_library_factory`) leaves every other instance exactly as
it was — in particular a library of the same name registered or loaded through another instance keeps its own
definition. -/
theorem register_frames_others (w : World) (i : Nat) (lib : LibName) (fac : Interp.Factory) :
    (worldRegister w i lib fac).length = w.length ∧
    ∀ j, j ≠ i → (worldRegister w i lib fac)[j]? = w[j]? := by
  unfold worldRegister
  split
  · exact ⟨rfl, fun _ _ => rfl⟩
  · refine ⟨by simp, fun j h => ?_⟩
    simp [Ne.symm h]

example : (worldRegister [default, default] 0 [.ident "shlib"] (.native [])).length = 2 :=
  (register_frames_others _ _ _ _).1

/-- … and the step itself is the library interface on that instance's own state: its result and
the instance's new state are those of `evalText` on the old state of instance `i` alone. -/
theorem step_is_own_eval (fuel : Nat) (w : World) (i : Nat) (text : List Char) (st : State)
    (h : w[i]? = some st) :
    (worldStep fuel w i text).1 = some (evalText fuel st text).1 ∧
    (worldStep fuel w i text).2[i]? = some (evalText fuel st text).2 :=
  ⟨by rw [worldStep_some fuel text h], worldStep_self fuel text h⟩

/-- NON-INTERFERENCE. For any history of steps on any instances (an arbitrary interleaving), the
results of the steps on instance `j` — values and errors, in order — are the results of
submitting `j`'s texts alone, one after another, to `j`'s initial state; and `j` ends in the state
it would have reached alone. What the other instances evaluated in between is irrelevant. -/
theorem noninterference (fuel : Nat) (w : World) (steps : Steps) (j : Nat) (st : State)
    (h : w[j]? = some st) :
    ((runSteps fuel w steps).1.filter (fun r => r.1 = j)).map (·.2)
        = (runAlone fuel st (textsFor j steps)).1.map some ∧
      (runSteps fuel w steps).2[j]? = some (runAlone fuel st (textsFor j steps)).2 :=
  runSteps_alone fuel j steps w st h

/-- the two-instance reading of the property: two histories that agree on the texts sent to `j`
(and differ arbitrarily in what they send to other instances, e.g. to `i`) give the same results
on `j`, from worlds that agree on `j`. -/
theorem noninterference_two (fuel : Nat) (w₁ w₂ : World) (s₁ s₂ : Steps) (j : Nat) (st : State)
    (h₁ : w₁[j]? = some st) (h₂ : w₂[j]? = some st) (ht : textsFor j s₁ = textsFor j s₂) :
    ((runSteps fuel w₁ s₁).1.filter (fun r => r.1 = j)).map (·.2)
        = ((runSteps fuel w₂ s₂).1.filter (fun r => r.1 = j)).map (·.2) ∧
      (runSteps fuel w₁ s₁).2[j]? = (runSteps fuel w₂ s₂).2[j]? := by
  obtain ⟨a1, a2⟩ := noninterference fuel w₁ s₁ j st h₁
  obtain ⟨b1, b2⟩ := noninterference fuel w₂ s₂ j st h₂
  rw [a1, a2, b1, b2, ht]
  exact ⟨rfl, rfl⟩

/-- Creating an instance is total: the world is one longer, every old instance is unchanged, and
the new instance is `new_with_stdlib()`'s state — a value that does not mention `w`. -/
theorem new_instance_total (fuel : Nat) (w : World) :
    (worldNew fuel w).length = w.length + 1 ∧
    (∀ j, j < w.length → (worldNew fuel w)[j]? = w[j]?) ∧
    (worldNew fuel w)[w.length]? = some (withStdlib fuel false) := by
  unfold worldNew
  refine ⟨by simp, fun j hj => ?_, by simp⟩
  rw [List.getElem?_append_left hj]

/-- An instance created after any history is the instance created first: same state, hence the
same result and the same new state for any text evaluated through it. This holds by definition
of `worldNew`, and that is the point where the model relies on the immutability of the
bundled-forms table: `withStdlib` starts from `default_`, whose syntax scopes are
`[[], grammarScope]` with `grammarScope` a constant — no instance can have changed it
(`syn_base_unchanged`). -/
theorem fresh_instance_same (fuel : Nat) (w : World) (steps : Steps) (text : List Char) :
    let w' := (runSteps fuel w steps).2
    (worldNew fuel w')[w'.length]? = (worldNew fuel [])[0]? ∧
    (worldStep fuel (worldNew fuel w') w'.length text).1 = (worldStep fuel (worldNew fuel []) 0 text).1 ∧
    (worldStep fuel (worldNew fuel w') w'.length text).2[w'.length]?
      = (worldStep fuel (worldNew fuel []) 0 text).2[0]? := by
  intro w'
  have h1 := (new_instance_total fuel w').2.2
  have h0 : (worldNew fuel [])[0]? = some (withStdlib fuel false) := (new_instance_total fuel []).2.2
  obtain ⟨a1, a2⟩ := step_is_own_eval fuel _ _ text _ h1
  obtain ⟨b1, b2⟩ := step_is_own_eval fuel _ _ text _ h0
  exact ⟨h1.trans h0.symm, a1.trans b1.symm, a2.trans b2.symm⟩

/-- THE BUNDLED FORMS ARE NEVER WRITTEN TO. Evaluating a text — `define-syntax` forms, failing
forms, macro uses and lambda bodies (which open and close child scopes) included — changes at
most the FIRST scope of the interpreter's syntax environment: every scope below it is returned
unchanged. (`Xform.SynEnv.define` inserts into the innermost scope; `Xform.inChild` drops the
scope it pushed; `eval_ast` does not touch `syn` at all.) This is the model-level content of the
repaired defect: before the repair `define-syntax` wrote into a table shared by all instances. -/
theorem syn_base_unchanged (fuel : Nat) (st : State) (text : List Char)
    (own : List (String × Macro.Rules)) (base : Xform.SynEnv) (h : st.syn = own :: base) :
    ∃ own', (evalText fuel st text).2.syn = own' :: base :=
  evalText_syn fuel st text own base h

/-- hence every instance made by `new_with_stdlib()` (or `default()`), after any texts, still has
the constant `grammarScope` as its bottom scope, under one scope of its own -/
theorem bundled_forms_constant (fuel : Nat) (texts : List (List Char)) :
    (withStdlib fuel false).syn = [[], grammarScope] ∧
    ∃ own, (runAlone fuel (withStdlib fuel false) texts).2.syn = [own, grammarScope] :=
  ⟨withStdlib_syn fuel false, runAlone_syn fuel texts _ [] [grammarScope] (withStdlib_syn fuel false)⟩

section Example
/- non-vacuity on concrete input: instance 0 defines `x` and a macro `m`, then fails; instance 1
evaluates `x` — unbound there, before and after -/
private def t0 : List Char := "(define x 1) (define-syntax m (syntax-rules () ((_) 7))) (car 5)".toList
private def t1 : List Char := "x".toList

private theorem texts_one : textsFor 1 [(0, t0), (1, t1), (0, t1)] = [t1] := by decide +kernel

example : textsFor 1 [(0, t0), (1, t1), (0, t1)] = [t1] := texts_one

example (fuel : Nat) :
    ((runSteps fuel (worldNew fuel (worldNew fuel [])) [(0, t0), (1, t1), (0, t1)]).1.filter
        (fun r => r.1 = 1)).map (·.2)
      = [some (evalText fuel (withStdlib fuel false) t1).1] := by
  have := (noninterference fuel (worldNew fuel (worldNew fuel [])) [(0, t0), (1, t1), (0, t1)] 1
    (withStdlib fuel false) (new_instance_total fuel (worldNew fuel [])).2.2).1
  rw [texts_one] at this
  exact this
end Example

end Ruschm.C19
