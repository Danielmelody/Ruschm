/-
Property C11, continued — the procedures of `base.sld` that `C11.lean` / `C11Errors.lean` leave out:
`head`, `atom?`, `vector-equal-from?`, `equal?` ON VECTORS (corollaries of `C11.equal_spec`, whose
spec function `equalS` already descends into vectors), and `filter`.

Vocabulary as in `C11.lean`: `libProc name b` is the closure over frame `b` of the lambda the MODEL's
transformer makes of the definition of `name` in the GENERATED datum of `base.sld`; `LibFrame σ b`;
`Applies σ p args env r σ'`; `σ.Ext σ'`; `Raises` (an error, and never a value); `ProcArg` (what a
higher-order library procedure needs from its procedure argument). Spec functions and the relation
`FilterM` are in `RuschmSpec/ListMore.lean`; helper lemmas in `RuschmProofs/ListMoreLemmas.lean`.

FINDING (see `filter_spec`, `filter_rejecting_raises`): the `else` clause of `filter` in `base.sld`
calls `filterb`, a name nothing defines. `(filter pred lst)` therefore returns only when `pred`
holds of EVERY element (the result is then `List.filter`, i.e. the list itself); at the first
element `pred` rejects it raises the unbound-variable error. (`filter` and `vector-equal-from?` are
also not in the export list of `(scheme base)`: a program importing the library cannot name them;
the theorems are about the closures in the library frame.)
-/
import RuschmProofs.C11
import RuschmProofs.ListMoreLemmas

namespace Ruschm.C11More
open Ruschm Ruschm.Eval Ruschm.ListSpec Ruschm.ListLib Ruschm.C11

section lib
variable {σ : Store} {b : Nat}

/-! ## `head`, `atom?` -/

/-- `(head x)` is `(car x)`: the first component of a pair; on `()` and on any other non-pair the
type error of `car` (`carS`); the store is only extended by frames -/
theorem head_spec (h : LibFrame σ b) (x : Value) (env : Nat) :
    ∃ σ', Applies σ (libProc "head" b) [x] env (carS x) σ' ∧ σ.Ext σ' :=
  papp_head b x σ env h rfl

example : ∃ σ', Applies libStore (libProc "head" 0) [l123] 0 (.ok (num 1)) σ' ∧ libStore.Ext σ' :=
  head_spec libFrame_libStore l123 0
/-- `(head '())`: an error, not a value -/
example : ∃ σ', Applies libStore (libProc "head" 0) [.nil] 0 (.error typeErr) σ' ∧ libStore.Ext σ' :=
  head_spec libFrame_libStore .nil 0

/-- the error side of `head`, explicitly: on a non-pair it raises the type error and never returns -/
theorem head_nonpair (h : LibFrame σ b) (x : Value) (hx : isPair x = false) (env : Nat) :
    Raises σ (libProc "head" b) [x] env typeErr := by
  have := papp_head b x σ env h rfl
  rw [carS_nonpair hx] at this
  exact .of_appliesE this

example : Raises libStore (libProc "head" 0) [num 5] 0 typeErr := head_nonpair libFrame_libStore _ rfl 0

/-- `(atom? x)` is `#t` exactly when `x` is neither a pair nor the empty list (`atomS`); it never
raises an error -/
theorem atom_spec (h : LibFrame σ b) (x : Value) (env : Nat) :
    ∃ σ', Applies σ (libProc "atom?" b) [x] env (.ok (.bool (atomS x))) σ' ∧ σ.Ext σ' :=
  papp_atom b x σ env h rfl

example : atomS (num 5) = true ∧ atomS (.str "a") = true ∧ atomS (.vec 0) = true ∧
    atomS .nil = false ∧ atomS l123 = false ∧ atomS (.pair (num 1) (num 2)) = false :=
  ⟨rfl, rfl, rfl, rfl, rfl, rfl⟩
example : ∃ σ', Applies libStore (libProc "atom?" 0) [l123] 0 (.ok (.bool false)) σ' ∧ libStore.Ext σ' :=
  atom_spec libFrame_libStore l123 0
example : ∃ σ', Applies libStore (libProc "atom?" 0) [.sym "a"] 0 (.ok (.bool true)) σ' ∧ libStore.Ext σ' :=
  atom_spec libFrame_libStore (.sym "a") 0

/-! ## `vector-equal-from?` -/

/-- a store with vectors holding lists and vectors: 0: `#(1 (1 2 3))`, 1: `#(1 (1 2 3))`,
2: `#(1 (1 2))`, 3: `#(1)`, 4: `#(#(1) (1 2 3))` (holds vector 3), 5: `#(#(1) (1 2 3))` -/
def nestStore : Store :=
  { libStore with vecs := #[⟨true, [num 1, l123]⟩, ⟨false, [num 1, l123]⟩,
      ⟨true, [num 1, Value.ofList [num 1, num 2]]⟩, ⟨true, [num 1]⟩,
      ⟨true, [.vec 3, l123]⟩, ⟨true, [.vec 3, l123]⟩] }

private theorem nestStore_lib : LibFrame nestStore 0 := LibFrame.of_defs rfl

private theorem nestStore_fit :
    ∀ (i : Nat) (c : VecCell), nestStore.vecs[i]? = some c → (c.items.length : Int) ≤ 2147483647 :=
  fit_of_all (by decide +kernel)

/-- `(vector-equal-from? x y i)` for two vectors (cells `c`, `c'` of the store) and an index `i`
within `x`: the items of `x` from `i` on are compared with those of `y` at the same indices by
`equal?`, in index order (`vecFromS`): `#t` when `x` is exhausted (items of a longer `y` are not
looked at), `#f` at the first pair that is not `equal?`, and — when `y` is shorter than `x` and
everything before its end was `equal?` — the index error of `(vector-ref y i)`.
As in `equal_spec`: `equalS σ n` is the comparison of two items followed to nesting depth `n`
(`vecFromS … = some r` says all the comparisons needed are finite), and vector lengths are assumed
to be in the `i32` range of the interpreter's integers.
Outside the domain (not proved): an index `i` beyond the length of `x` never satisfies
`(= i (vector-length x))`; the walk ends in the index error of `(vector-ref x i)`. -/
theorem vector_equal_from_spec (h : LibFrame σ b)
    (hfit : ∀ (i : Nat) (c : VecCell), σ.vecs[i]? = some c → (c.items.length : Int) ≤ 2147483647)
    {id id' : Nat} {c c' : VecCell} (hc : σ.vecs[id]? = some c) (hc' : σ.vecs[id']? = some c')
    (i : Nat) (hi : i ≤ c.items.length) (n : Nat) (r : Except SErr Bool)
    (hr : vecFromS (equalS σ n) (c.items.drop i) (c'.items.drop i) = some r) (env : Nat) :
    ∃ σ', Applies σ (libProc "vector-equal-from?" b) [.vec id, .vec id', .num (.int i)] env
      (r.map Value.bool) σ' ∧ σ.Ext σ' :=
  papp_vector_equal_from_gen b σ n (papp_equal b σ hfit n) hc hc' (hfit _ _ hc)
    (c.items.length - i) i (by omega) r hr σ env h rfl

/-- the case `equal?` uses it in: vectors of the same length — the outcome is `allEqS` of the item
lists (the function `equalS` is defined with), a boolean, never an error -/
theorem vector_equal_from_same_length (h : LibFrame σ b)
    (hfit : ∀ (i : Nat) (c : VecCell), σ.vecs[i]? = some c → (c.items.length : Int) ≤ 2147483647)
    {id id' : Nat} {c c' : VecCell} (hc : σ.vecs[id]? = some c) (hc' : σ.vecs[id']? = some c')
    (hlen : c.items.length = c'.items.length)
    (i : Nat) (hi : i ≤ c.items.length) (n : Nat) (r : Bool)
    (hr : allEqS (equalS σ n) (c.items.drop i) (c'.items.drop i) = some r) (env : Nat) :
    ∃ σ', Applies σ (libProc "vector-equal-from?" b) [.vec id, .vec id', .num (.int i)] env
      (.ok (.bool r)) σ' ∧ σ.Ext σ' :=
  vector_equal_from_spec h hfit hc hc' i hi n (.ok r)
    (by rw [vecFromS_of_allEqS _ _ _ (by simp [hlen]), hr]; rfl) env

/-- the error side: `y` has fewer items than `x` and all the items of `y` from `i` on are `equal?`
to those of `x`: the index error of `vector-ref`, and never a value -/
theorem vector_equal_from_short (h : LibFrame σ b)
    (hfit : ∀ (i : Nat) (c : VecCell), σ.vecs[i]? = some c → (c.items.length : Int) ≤ 2147483647)
    {id id' : Nat} {c c' : VecCell} (hc : σ.vecs[id]? = some c) (hc' : σ.vecs[id']? = some c')
    (hlen : c'.items.length < c.items.length) (i : Nat) (hi : i ≤ c'.items.length) (n : Nat)
    (hall : ∀ p ∈ (c.items.drop i).zip (c'.items.drop i), equalS σ n p.1 p.2 = some true) (env : Nat) :
    Raises σ (libProc "vector-equal-from?" b) [.vec id, .vec id', .num (.int i)] env indexErr :=
  .of_appliesE (vector_equal_from_spec h hfit hc hc' i (by omega) n (.error indexErr)
    (vecFromS_short _ _ _ (by simp; omega) hall) env)

/-- in `vecStore` (`#(1 2)`, `#(1 2)`, `#(1 (3))`): vectors 0 and 1 agree from index 0, vectors 0 and
2 differ at index 1 but agree from index 2 (nothing left to compare) -/
example : (∃ σ', Applies vecStore (libProc "vector-equal-from?" 0) [.vec 0, .vec 1, num 0] 0 (.ok (.bool true)) σ' ∧
      vecStore.Ext σ') ∧
    (∃ σ', Applies vecStore (libProc "vector-equal-from?" 0) [.vec 0, .vec 2, num 0] 0 (.ok (.bool false)) σ' ∧
      vecStore.Ext σ') ∧
    (∃ σ', Applies vecStore (libProc "vector-equal-from?" 0) [.vec 0, .vec 2, num 2] 0 (.ok (.bool true)) σ' ∧
      vecStore.Ext σ') := by
  have hl : LibFrame vecStore 0 := LibFrame.of_defs rfl
  have hfit := fit_of_all (σ := vecStore) (by decide +kernel)
  exact ⟨vector_equal_from_spec hl hfit (id := 0) (id' := 1) rfl rfl 0 (by decide +kernel) 2 (.ok true) (by decide +kernel) 0,
    vector_equal_from_spec hl hfit (id := 0) (id' := 2) rfl rfl 0 (by decide +kernel) 2 (.ok false) (by decide +kernel) 0,
    vector_equal_from_spec hl hfit (id := 0) (id' := 2) rfl rfl 2 (by decide +kernel) 2 (.ok true) (by decide +kernel) 0⟩

/-- in `nestStore`: `(vector-equal-from? #(1 (1 2 3)) #(1) 0)` — the first items are `equal?`, the
second vector has no item 1: the index error, not a value; and `#(1 (1 2 3))` agrees with its copy
from index 1 on -/
example : Raises nestStore (libProc "vector-equal-from?" 0) [.vec 0, .vec 3, num 0] 0 indexErr ∧
    (∃ σ', Applies nestStore (libProc "vector-equal-from?" 0) [.vec 0, .vec 1, num 1] 0 (.ok (.bool true)) σ' ∧
      nestStore.Ext σ') :=
  ⟨vector_equal_from_short nestStore_lib nestStore_fit (id := 0) (id' := 3) rfl rfl (by decide +kernel) 0 (by decide +kernel) 2
      (by decide +kernel) 0,
    vector_equal_from_same_length nestStore_lib nestStore_fit (id := 0) (id' := 1) rfl rfl rfl 1 (by decide +kernel) 5 true
      (by decide +kernel) 0⟩

/-! ## `equal?` on vectors

`C11.equal_spec` is stated with the spec function `equalS`, which already descends into vectors
(cell by cell, through `vector-equal-from?` in the code). The theorems below spell the vector
cases out. -/

/-- `(equal? x y)` for two vectors: `#f` when their lengths differ, else the item-wise comparison
(`allEqS`: `equal?` on the items in index order, the first difference decides); items may be
lists, vectors, anything (`equalS` at depth `n`). -/
theorem equal_vector_spec (h : LibFrame σ b)
    (hfit : ∀ (i : Nat) (c : VecCell), σ.vecs[i]? = some c → (c.items.length : Int) ≤ 2147483647)
    {i j : Nat} {c c' : VecCell} (hc : σ.vecs[i]? = some c) (hc' : σ.vecs[j]? = some c') (n : Nat) (r : Bool)
    (hr : (if c.items.length = c'.items.length then allEqS (equalS σ n) c.items c'.items else some false) = some r)
    (env : Nat) :
    ∃ σ', Applies σ (libProc "equal?" b) [.vec i, .vec j] env (.ok (.bool r)) σ' ∧ σ.Ext σ' :=
  equal_spec h hfit (.vec i) (.vec j) (n + 1) r (by rw [equalS_vec_vec σ n hc hc']; exact hr) env

/-- vectors of different lengths are not `equal?` (whatever their items: none is compared) -/
theorem equal_vector_length_mismatch (h : LibFrame σ b)
    (hfit : ∀ (i : Nat) (c : VecCell), σ.vecs[i]? = some c → (c.items.length : Int) ≤ 2147483647)
    {i j : Nat} {c c' : VecCell} (hc : σ.vecs[i]? = some c) (hc' : σ.vecs[j]? = some c')
    (hlen : c.items.length ≠ c'.items.length) (env : Nat) :
    ∃ σ', Applies σ (libProc "equal?" b) [.vec i, .vec j] env (.ok (.bool false)) σ' ∧ σ.Ext σ' :=
  equal_vector_spec h hfit hc hc' 0 false (by rw [if_neg hlen]) env

/-- vectors of the same length all of whose corresponding items are `equal?` are `equal?` -/
theorem equal_vector_all_items (h : LibFrame σ b)
    (hfit : ∀ (i : Nat) (c : VecCell), σ.vecs[i]? = some c → (c.items.length : Int) ≤ 2147483647)
    {i j : Nat} {c c' : VecCell} (hc : σ.vecs[i]? = some c) (hc' : σ.vecs[j]? = some c')
    (hlen : c.items.length = c'.items.length) (n : Nat)
    (hall : ∀ p ∈ c.items.zip c'.items, equalS σ n p.1 p.2 = some true) (env : Nat) :
    ∃ σ', Applies σ (libProc "equal?" b) [.vec i, .vec j] env (.ok (.bool true)) σ' ∧ σ.Ext σ' :=
  equal_vector_spec h hfit hc hc' n true (by rw [if_pos hlen]; exact allEqS_all_true _ _ _ hall) env

/-- vectors of the same length are not `equal?` when, at the first index where the items are not
`equal?` (all items before are), the comparison says `#f` -/
theorem equal_vector_first_difference (h : LibFrame σ b)
    (hfit : ∀ (i : Nat) (c : VecCell), σ.vecs[i]? = some c → (c.items.length : Int) ≤ 2147483647)
    {i j : Nat} {c c' : VecCell} (hc : σ.vecs[i]? = some c) (hc' : σ.vecs[j]? = some c')
    (pre pre' : List Value) (x y : Value) (post post' : List Value)
    (hitems : c.items = pre ++ x :: post) (hitems' : c'.items = pre' ++ y :: post')
    (hpre : pre.length = pre'.length) (hpost : post.length = post'.length) (n : Nat)
    (hall : ∀ p ∈ pre.zip pre', equalS σ n p.1 p.2 = some true) (hxy : equalS σ n x y = some false) (env : Nat) :
    ∃ σ', Applies σ (libProc "equal?" b) [.vec i, .vec j] env (.ok (.bool false)) σ' ∧ σ.Ext σ' :=
  equal_vector_spec h hfit hc hc' n false
    (by rw [if_pos (by simp [hitems, hitems', hpre, hpost]), hitems, hitems']
        exact allEqS_first_false _ _ _ _ _ _ _ hpre hall hxy) env

/-- mixed: a vector is not `equal?` to anything that is not a vector, in either argument order
(pairs, `()`, numbers, strings, … — nothing of the vector is looked at) -/
theorem equal_vector_nonvector (h : LibFrame σ b)
    (hfit : ∀ (i : Nat) (c : VecCell), σ.vecs[i]? = some c → (c.items.length : Int) ≤ 2147483647)
    (i : Nat) (y : Value) (hy : isVec y = false) (env : Nat) :
    (∃ σ', Applies σ (libProc "equal?" b) [.vec i, y] env (.ok (.bool false)) σ' ∧ σ.Ext σ') ∧
    (∃ σ', Applies σ (libProc "equal?" b) [y, .vec i] env (.ok (.bool false)) σ' ∧ σ.Ext σ') :=
  ⟨equal_spec h hfit (.vec i) y 1 false (equalS_vec_nonvec σ 0 i y hy) env,
   equal_spec h hfit y (.vec i) 1 false (equalS_nonvec_vec σ 0 i y hy) env⟩

/-- nested lists inside vectors and vectors inside vectors: `#(1 (1 2 3))` is `equal?` to its
copy and not to `#(1 (1 2))`; not to `#(1)` (lengths); `#(#(1) (1 2 3))` is `equal?` to its copy;
a vector is not `equal?` to the list of its items nor the list to the vector -/
example :
    (∃ σ', Applies nestStore (libProc "equal?" 0) [.vec 0, .vec 1] 0 (.ok (.bool true)) σ' ∧ nestStore.Ext σ') ∧
    (∃ σ', Applies nestStore (libProc "equal?" 0) [.vec 0, .vec 2] 0 (.ok (.bool false)) σ' ∧ nestStore.Ext σ') ∧
    (∃ σ', Applies nestStore (libProc "equal?" 0) [.vec 0, .vec 3] 0 (.ok (.bool false)) σ' ∧ nestStore.Ext σ') ∧
    (∃ σ', Applies nestStore (libProc "equal?" 0) [.vec 4, .vec 5] 0 (.ok (.bool true)) σ' ∧ nestStore.Ext σ') ∧
    (∃ σ', Applies nestStore (libProc "equal?" 0) [.vec 3, Value.ofList [num 1]] 0 (.ok (.bool false)) σ' ∧
      nestStore.Ext σ') ∧
    (∃ σ', Applies nestStore (libProc "equal?" 0) [Value.ofList [num 1], .vec 3] 0 (.ok (.bool false)) σ' ∧
      nestStore.Ext σ') :=
  ⟨equal_vector_all_items nestStore_lib nestStore_fit (i := 0) (j := 1) rfl rfl rfl 4 (by decide +kernel) 0,
    equal_vector_first_difference nestStore_lib nestStore_fit (i := 0) (j := 2) rfl rfl [num 1] [num 1] l123
      (Value.ofList [num 1, num 2]) [] [] rfl rfl rfl rfl 4 (by decide +kernel) (by decide +kernel) 0,
    equal_vector_length_mismatch nestStore_lib nestStore_fit (i := 0) (j := 3) rfl rfl (by decide +kernel) 0,
    equal_vector_spec nestStore_lib nestStore_fit (i := 4) (j := 5) rfl rfl 5 true (by decide +kernel) 0,
    (equal_vector_nonvector nestStore_lib nestStore_fit 3 (Value.ofList [num 1]) rfl 0).1,
    (equal_vector_nonvector nestStore_lib nestStore_fit 3 (Value.ofList [num 1]) rfl 0).2⟩

/-! ## `filter`

As for `map`/`for-each` (`C11.map_spec`): `f` is an arbitrary procedure value satisfying
`ProcArg b N K f dom`, and the conclusion gives the outcome together with the exact chain of
applications of `f` — here `FilterM` (`RuschmSpec/ListMore.lean`), which describes the traversal
THE LIBRARY'S DEFINITION makes: once per element, in list order, each application in the store the
previous one left, ending at the first error of `f` — or at the first element `f` rejects.

Extra hypothesis `NoFilterb σ b`: the library frame does not bind the name `filterb`. It holds in
every frame that has exactly the library's bindings (`noFilterb_of_defs`); `LibFrame` alone does
not say so (it constrains the defined names only). -/

/-- `(filter f l)` for EVERY value `l` (elements `xs = (spine l).1`, final tail `t`): `f` is applied
to the elements in list order; an error of `f` is the outcome; while `f` returns true values the
elements are kept; AT THE FIRST ELEMENT FOR WHICH `f` RETURNS `#f` THE OUTCOME IS THE
UNBOUND-VARIABLE ERROR (the `else` clause calls the undefined `filterb`), no further element is
visited. If every element is kept (`r = .ok xs'`, and then `xs' = xs`: `filterM_ok`), the result is
the list of the kept elements when `t` is `()`, and the `car` type error when `l` is improper
(`filterEnd`). -/
theorem filter_spec {K : Store → Prop} {f : Value} (h : LibFrame σ b) (hnf : NoFilterb σ b) (hK : K σ) (l : Value)
    (hf : ProcArg b σ.frames.size K f (fun args => ∃ x ∈ (spine l).1, args = [x])) (env : Nat) :
    ∃ r σ', Applies σ (libProc "filter" b) [f, l] env (r.bind (filterEnd (spine l).2)) σ' ∧
      FilterM (AppOf f) Store.DExt σ (spine l).1 r σ' ∧ (∀ vs, r = .ok vs → K σ') := by
  have := filter_run (spine l).2 (spine_tail_not_pair l) (spine l).1 σ hnf ⟨hf, h, hK, Nat.le_refl _⟩ env
  rwa [spine_withTail] at this

/-- what a traversal that ends normally has done: `f` was applied to every element, in order (the
chain `MapM` of `map`), every result was a true value, and the kept elements are all the elements —
which is `List.filter` by the truth of the results -/
theorem filterM_ok {app : Store → List Value → Except SErr Value → Store → Prop} {ext : Store → Store → Prop}
    {σ σ' : Store} {xs vs : List Value} (h : FilterM app ext σ xs (.ok vs) σ') :
    vs = xs ∧ ∃ rs, MapM app ext σ xs (.ok rs) σ' ∧ (∀ v ∈ rs, v.truthy = true) ∧
      vs = ((xs.zip rs).filter fun p => p.2.truthy).map (·.1) := by
  generalize hr : (Except.ok vs : Except SErr (List Value)) = r at h
  induction h generalizing vs with
  | nil e =>
    cases hr
    exact ⟨rfl, [], .nil e, by simp, rfl⟩
  | cons_err _ _ _ => cases hr
  | cons_drop _ _ _ _ => cases hr
  | @cons_keep σ σ₁ σ₂ σ₃ σ' x xs v r e₁ happ hv htr e₂ ih =>
    cases r with
    | error er => cases hr
    | ok vs' =>
      cases hr
      obtain ⟨rfl, rs, hm, hall, hz⟩ := ih rfl
      refine ⟨rfl, v :: rs, MapM.cons (r := .ok rs) e₁ happ hm e₂, List.forall_mem_cons.mpr ⟨hv, hall⟩, ?_⟩
      simp only [List.zip_cons_cons, List.filter_cons, hv, if_true, List.map_cons]
      exact congrArg (x :: ·) hz

/-- the error side of `filter` on an improper list (final tail `t` neither a pair nor `()`): `f` is
applied along the elements as described by `FilterM`, and the outcome is ALWAYS an error, never a
value: the error of `f`, or the unbound-variable error at the first rejected element, or — when all
the elements were kept — the type error of `(car t)` -/
theorem filter_improper {K : Store → Prop} {f : Value} (h : LibFrame σ b) (hnf : NoFilterb σ b) (hK : K σ)
    (xs : List Value) (t : Value) (ht : isPair t = false) (hn : isNil t = false)
    (hf : ProcArg b σ.frames.size K f (fun args => ∃ x ∈ xs, args = [x])) (env : Nat) :
    ∃ r e σ', Applies σ (libProc "filter" b) [f, withTail xs t] env (.error e) σ' ∧
      FilterM (AppOf f) Store.DExt σ xs r σ' ∧
      (e = match r with | .ok _ => typeErr | .error e' => e') ∧
      ∀ v σ'', ¬ Applies σ (libProc "filter" b) [f, withTail xs t] env (.ok v) σ'' := by
  obtain ⟨r, σ', h₁, h₂, _⟩ := filter_run t ht xs σ hnf ⟨hf, h, hK, Nat.le_refl _⟩ env
  have he : r.bind (filterEnd t) = .error (match (generalizing := false) r with | .ok _ => typeErr | .error e' => e') := by
    cases r <;> simp [Except.bind, filterEnd, hn]
  rw [he] at h₁
  exact ⟨r, _, σ', h₁, h₂, rfl, not_value_of_error h₁⟩

/-- `(filter f x)` for a non-list `x` (not a pair, not `()`): the type error, `f` is never applied
(`f` need only be a procedure) -/
theorem filter_nonlist (h : LibFrame σ b) (f x : Value) (hp : (procArity f).isSome) (hx : isPair x = false)
    (hn : isNil x = false) (env : Nat) : Raises σ (libProc "filter" b) [f, x] env typeErr := by
  have := papp_filter_end b f x hp hx σ env h rfl
  simp only [filterEnd, hn] at this
  exact .of_appliesE this

/-- `(filter f '())` is `()` -/
theorem filter_nil (h : LibFrame σ b) (f : Value) (hp : (procArity f).isSome) (env : Nat) :
    ∃ σ', Applies σ (libProc "filter" b) [f, .nil] env (.ok .nil) σ' ∧ σ.Ext σ' :=
  papp_filter_end b f .nil hp rfl σ env h rfl

/-- `filter` on a proper list with a PURE total predicate `f` (on the elements it returns `g x`
and only appends frames — every native and every first-order library procedure is such): the
outcome is `filterLibS`: the list (= `List.filter`, `filterLibS_ok`) when `f` holds of every
element, else the unbound-variable error -/
theorem filter_pure_spec {f : Value} {g : Value → Value} (h : LibFrame σ b) (hnf : NoFilterb σ b)
    (xs : List Value) (hp : (procArity f).isSome) (hpure : ∀ V x, x ∈ xs → PApp V b f [x] (.ok (g x))) (env : Nat) :
    ∃ σ', Applies σ (libProc "filter" b) [f, Value.ofList xs] env
      ((filterLibS (fun x => (g x).truthy) xs).map Value.ofList) σ' ∧ σ.DExt σ' := by
  have hf : ProcArg b σ.frames.size (fun σ => LibFrame σ b) f (fun args => ∃ x ∈ xs, args = [x]) :=
    ProcArg.of_papp (g := fun args => .ok (g (args.headD .nil))) hp
      fun V args ha => by obtain ⟨x, hx, rfl⟩ := ha; exact hpure V x hx
  obtain ⟨r, σ', h₁, h₂, _⟩ := filter_run .nil rfl xs σ hnf ⟨hf, h, h, Nat.le_refl _⟩ env
  obtain ⟨rfl, e⟩ := filterM_of_papp h₂ hpure h
  rw [withTail_nil, show ∀ r : Except SErr (List Value), r.bind (filterEnd .nil) = r.map Value.ofList from
    fun r => by cases r <;> rfl] at h₁
  exact ⟨σ', h₁, e⟩

/-- … in particular, when the predicate holds of every element the result is `List.filter` of the
list (nothing is removed) -/
theorem filter_all_kept {f : Value} {g : Value → Value} (h : LibFrame σ b) (hnf : NoFilterb σ b)
    (xs : List Value) (hp : (procArity f).isSome) (hpure : ∀ V x, x ∈ xs → PApp V b f [x] (.ok (g x)))
    (hall : ∀ x ∈ xs, (g x).truthy = true) (env : Nat) :
    ∃ σ', Applies σ (libProc "filter" b) [f, Value.ofList xs] env
      (.ok (Value.ofList (xs.filter fun x => (g x).truthy))) σ' ∧ σ.DExt σ' := by
  obtain ⟨σ', h₁, e⟩ := filter_pure_spec h hnf xs hp hpure env
  rw [filterLibS, if_pos (List.all_eq_true.mpr hall)] at h₁
  rw [List.filter_eq_self.mpr hall]
  exact ⟨σ', h₁, e⟩

/-- FINDING: … and when the predicate rejects some element, `filter` raises the unbound-variable
error instead of returning the shorter list, and never returns a value. `(filter pair? '((1) 2))`
in the real interpreter: `filterb` is not defined. -/
theorem filter_rejecting_raises {f : Value} {g : Value → Value} (h : LibFrame σ b) (hnf : NoFilterb σ b)
    (xs : List Value) (hp : (procArity f).isSome) (hpure : ∀ V x, x ∈ xs → PApp V b f [x] (.ok (g x)))
    (x : Value) (hx : x ∈ xs) (hrej : (g x).truthy = false) (env : Nat) :
    (∃ σ', Applies σ (libProc "filter" b) [f, Value.ofList xs] env (.error unboundErr) σ' ∧ σ.DExt σ') ∧
    ∀ v σ'', ¬ Applies σ (libProc "filter" b) [f, Value.ofList xs] env (.ok v) σ'' := by
  obtain ⟨σ', h₁, e⟩ := filter_pure_spec h hnf xs hp hpure env
  rw [filterLibS, if_neg fun hall => by rw [List.all_eq_true.mp hall x hx] at hrej; cases hrej] at h₁
  exact ⟨⟨σ', h₁, e⟩, not_value_of_error h₁⟩

/-! non-vacuity -/

example : NoFilterb libStore 0 := noFilterb_libStore

/-- … and `NoFilterb` holds of the library frame the interpreter builds (here frame 1) -/
example : ∃ exports st', Interp.evalLibraryDef 40
      { store := (({} : Store).newFrame none).2, factories := [(Interp.libRuschmBase, .native Interp.nativeBase)] }
      libDecls = (.ok exports, st') ∧ LibFrame st'.store 1 ∧ NoFilterb st'.store 1 :=
  noFilterb_of_evalLibraryDef
    { store := (({} : Store).newFrame none).2, factories := [(Interp.libRuschmBase, .native Interp.nativeBase)] }
    40 (Nat.le_refl _) rfl rfl rfl

/-- `(filter pair? '((1) (2)))` is `((1) (2))` -/
example : ∃ σ', Applies libStore (libProc "filter" 0)
    [.builtin .isPair, Value.ofList [Value.ofList [num 1], Value.ofList [num 2]]] 0
    (.ok (Value.ofList [Value.ofList [num 1], Value.ofList [num 2]])) σ' ∧ libStore.DExt σ' :=
  filter_all_kept (g := fun v => .bool (isPair v)) libFrame_libStore noFilterb_libStore
    [Value.ofList [num 1], Value.ofList [num 2]] rfl (fun _ _ _ => PApp.isPair)
    (by intro x hx; simp only [List.mem_cons, List.not_mem_nil, or_false] at hx; rcases hx with rfl | rfl <;> rfl) 0

/-- FINDING: `(filter pair? '((1) 2))` is the unbound-variable error, not `((1))` -/
example : ∃ σ', Applies libStore (libProc "filter" 0)
    [.builtin .isPair, Value.ofList [Value.ofList [num 1], num 2]] 0 (.error unboundErr) σ' ∧ libStore.DExt σ' :=
  (filter_rejecting_raises (g := fun v => .bool (isPair v)) libFrame_libStore noFilterb_libStore
    [Value.ofList [num 1], num 2] rfl (fun _ _ _ => PApp.isPair) (num 2) (by simp) rfl 0).1

example : ∃ σ', Applies libStore (libProc "filter" 0) [.builtin .isPair, .nil] 0 (.ok .nil) σ' ∧ libStore.Ext σ' :=
  filter_nil libFrame_libStore _ rfl 0

/-- `filter_pure_spec` with `vector?` as the predicate on `(1)`: the outcome is `filterLibS` (here
the unbound-variable error: `1` is rejected) -/
example : ∃ σ', Applies libStore (libProc "filter" 0)
    [.builtin .isVector, Value.ofList [num 1]] 0
    ((filterLibS (fun x => (Value.bool (isVec x)).truthy) [num 1]).map Value.ofList) σ' ∧ libStore.DExt σ' :=
  filter_pure_spec (g := fun v => .bool (isVec v)) libFrame_libStore noFilterb_libStore [num 1] rfl
    (fun _ _ _ => PApp.isVector) 0

/-- `filterM_ok` on a one-element traversal -/
example : ([num 1] : List Value) = [num 1] ∧ ∃ rs, MapM (fun _ _ _ _ => True) (fun _ _ => True) libStore [num 1]
    (.ok rs) libStore ∧ (∀ v ∈ rs, v.truthy = true) ∧
    [num 1] = (([num 1].zip rs).filter fun p => p.2.truthy).map (·.1) :=
  filterM_ok (app := fun _ _ _ _ => True) (ext := fun _ _ => True)
    (FilterM.cons_keep (σ₁ := libStore) (σ₂ := libStore) (σ₃ := libStore) (v := num 1) (r := .ok []) trivial trivial rfl
      (.nil trivial) trivial)

/-- `tick` returns its argument: a traversal of true values keeps them all -/
private theorem filterM_tick {σ : Store} {xs : List Value} {r σ'}
    (h : FilterM (AppOf (.builtin .tick)) Store.DExt σ xs r σ') (ht : ∀ x ∈ xs, x.truthy = true) : r = .ok xs := by
  induction h with
  | nil _ => rfl
  | cons_err _ happ _ => cases (Applies.unique (happ 0) (applies_tick _ _ 0)).1
  | cons_keep _ _ _ _ _ ih => rw [ih fun y hy => ht y (List.mem_cons_of_mem _ hy)]; rfl
  | cons_drop _ happ hv _ =>
    cases (Applies.unique (happ 0) (applies_tick _ _ 0)).1
    rw [ht _ (List.mem_cons_self ..)] at hv; cases hv

/-- the host procedure `tick` (returns its argument, records it on the trace) is a procedure argument
in every store: `(filter tick '(1 2 3))` has an outcome described by `FilterM`; as `tick` returns
its (true) argument every element is kept and the result is `(1 2 3)` -/
example : ∃ σ', Applies libStore (libProc "filter" 0) [.builtin .tick, l123] 0 (.ok l123) σ' := by
  obtain ⟨r, σ', h₁, h₂, _⟩ := filter_spec (K := fun _ => True) libFrame_libStore noFilterb_libStore trivial l123
    (procArg_tick 0 _ _ fun args ⟨x, _, e⟩ => e ▸ rfl) 0
  cases filterM_tick h₂ (by decide)
  exact ⟨σ', h₁⟩

/-- `(filter tick '(1 2 . 3))`: an error (here the type error of `(car 3)`, after both elements) -/
example : ∃ e σ', Applies libStore (libProc "filter" 0) [.builtin .tick, withTail [num 1, num 2] (num 3)] 0
    (.error e) σ' := by
  obtain ⟨r, e, σ', h₁, _⟩ := filter_improper (K := fun _ => True) libFrame_libStore noFilterb_libStore trivial
    [num 1, num 2] (num 3) rfl rfl (procArg_tick 0 _ _ fun args ⟨x, _, e⟩ => e ▸ rfl) 0
  exact ⟨e, σ', h₁⟩

example : Raises libStore (libProc "filter" 0) [.builtin .isPair, num 5] 0 typeErr :=
  filter_nonlist libFrame_libStore _ _ rfl rfl rfl 0

end lib

end Ruschm.C11More
