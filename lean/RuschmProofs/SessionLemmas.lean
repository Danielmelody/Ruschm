/-
A REPL session in which the printed text of statements is typed line by line submits these statements in chunks
(`replRun_chunks`). The heart is on tokens: the REPL ends a group where the nesting depth is `≤ 0`, and cutting a
sequence of complete data there cuts BETWEEN two of them (`cut_between`, with `Tight`/`NNZ`/`Cl`, three predicates
closed under the two ways tokens of data are put together).
-/
import RuschmProofs.C18Bracket
import RuschmProofs.ProgramTextLemmas
import RuschmProofs.PrintLemmas


namespace Ruschm.Session
open Ruschm Ruschm.Interp Ruschm.Front Ruschm.FrontSpec Ruschm.Text Ruschm.ProgramText Ruschm.Lex

/-! ## typed lines -/

/-- one separator more than tokens -/
structure TLine where
  toks : List Token
  lay : List (List Char)
  deriving DecidableEq

def TLine.text (L : TLine) : List Char := interleave L.toks L.lay

/-- the line as the string `readline` returns -/
def TLine.str (L : TLine) : String := String.ofList L.text

def TLine.Valid (L : TLine) : Prop := ValidLayout L.toks L.lay

def TLine.Supp (L : TLine) : Prop := ∀ t ∈ L.toks, SupportedTok t

/-- the layout of `ts₁ ++ ts₂` for the two texts joined by a newline: the last separator of `l₁`, the newline and the
first separator of `l₂` become one separator -/
def glueLay : List Token → List (List Char) → List (List Char) → List (List Char)
  | [], l₁, l₂ => (l₁.headD [] ++ '\n' :: l₂.headD []) :: l₂.tail
  | _ :: ts, l₁, l₂ => l₁.headD [] :: glueLay ts l₁.tail l₂

def TLine.glue (P L : TLine) : TLine := ⟨P.toks ++ L.toks, glueLay P.toks P.lay L.lay⟩

theorem interleave_prefix (ts : List Token) (p : List Char) (l : List (List Char)) :
    interleave ts ((p ++ l.headD []) :: l.tail) = p ++ interleave ts l := by
  cases ts with
  | nil => simp [interleave]
  | cons t ts => simp [interleave, List.append_assoc]

theorem interleave_glue (ts₁ ts₂ : List Token) (l₂ : List (List Char)) : ∀ (l₁ : List (List Char)),
    interleave (ts₁ ++ ts₂) (glueLay ts₁ l₁ l₂) = interleave ts₁ l₁ ++ '\n' :: interleave ts₂ l₂ := by
  induction ts₁ with
  | nil =>
    intro l₁
    simp only [List.nil_append, glueLay, interleave]
    have := interleave_prefix ts₂ (l₁.headD [] ++ ['\n']) l₂
    simp only [List.append_assoc, List.singleton_append] at this
    exact this
  | cons t ts ih =>
    intro l₁
    simp only [List.cons_append, glueLay, interleave, List.headD_cons, List.tail_cons, ih, List.append_assoc]

theorem glue_text (P L : TLine) : (P.glue L).text = P.text ++ '\n' :: L.text :=
  interleave_glue P.toks L.toks L.lay P.lay

theorem validGaps_glue (ts₂ : List Token) (l₂ : List (List Char)) (h₂ : ValidGaps ts₂ l₂) :
    ∀ (ts₁ : List Token) (l₁ : List (List Char)), ValidGaps ts₁ l₁ →
      ValidGaps (ts₁ ++ ts₂) (glueLay ts₁ l₁ l₂) := by
  intro ts₁
  induction ts₁ with
  | nil =>
    intro l₁ h₁
    match l₁, h₁ with
    | [z], hz =>
      match ts₂, l₂, h₂ with
      | [], [a], ha => exact (scan_after_trail isTrail_cons a z false hz).trans ha
      | t :: ts, a :: l, ⟨ha, hg, hv⟩ => exact ⟨(scan_after_trail isAtmos_cons a z false hz).trans ha, hg, hv⟩
  | cons t ts ih =>
    intro l₁ h₁
    match l₁, h₁ with
    | a :: l, ⟨ha, hg, hv⟩ =>
      refine ⟨ha, ?_, ih l hv⟩
      -- the joining separator holds the newline; every other gap is as it was
      cases ts with
      | nil => match l, hv with | [z], _ => simp [gapOK, glueLay]
      | cons t' ts' => match l, hv with | b :: l', _ => exact hg

theorem glue_supp {P L : TLine} (hP : P.Supp) (hL : L.Supp) : (P.glue L).Supp :=
  fun t ht => (List.mem_append.1 ht).elim (hP t) (hL t)

theorem glue_valid {P L : TLine} (hP : P.Valid ∧ P.Supp) (hL : L.Valid ∧ L.Supp) :
    (P.glue L).Valid ∧ (P.glue L).Supp :=
  ⟨(validLayout_iff_gaps _ (glue_supp hP.2 hL.2) _).2
    (validGaps_glue L.toks L.lay ((validLayout_iff_gaps _ hL.2 _).1 hL.1) P.toks P.lay
      ((validLayout_iff_gaps _ hP.2 _).1 hP.1)), glue_supp hP.2 hL.2⟩

/-! ## complete data as token lists -/

/-- the nesting depth `Text.depth` (`depth_eq_wsum`) in the form in which it is additive -/
def wsum (w : List Token) : Int := (w.map weight).sum

@[simp] theorem wsum_nil : wsum [] = 0 := rfl
@[simp] theorem wsum_cons (t : Token) (w : List Token) : wsum (t :: w) = weight t + wsum w := by
  simp [wsum]
@[simp] theorem wsum_append (u v : List Token) : wsum (u ++ v) = wsum u + wsum v := by
  simp [wsum]
theorem depth_eq_wsum (w : List Token) : depth w = wsum w := depth_eq_sum w

/-- "never negative, zero at the end": a sequence of complete data -/
def NNZ (u : List Token) : Prop := wsum u = 0 ∧ ∀ p s, u = p ++ s → 0 ≤ wsum p
/-- "closes": the rest of a list up to and including its closing parenthesis -/
def Cl (w : List Token) : Prop := wsum w = -1 ∧ ∀ p s, w = p ++ s → s ≠ [] → 0 ≤ wsum p
/-- one complete datum -/
def Tight (w : List Token) : Prop :=
  w ≠ [] ∧ wsum w = 0 ∧ ∀ p s, w = p ++ s → p ≠ [] → s ≠ [] → 0 < wsum p

theorem nnz_nil : NNZ [] :=
  ⟨rfl, fun p s h => by rw [(List.nil_eq_append_iff.1 h).1]; exact Int.le_refl 0⟩

theorem tight_nnz {w : List Token} (h : Tight w) : NNZ w := by
  obtain ⟨_, h0, hp⟩ := h
  refine ⟨h0, ?_⟩
  intro p s e
  by_cases hp0 : p = []
  · subst hp0; simp
  · by_cases hs0 : s = []
    · subst hs0
      simp only [List.append_nil] at e
      subst e
      omega
    · exact Int.le_of_lt (hp p s e hp0 hs0)

theorem wsum_prefix_nonneg {u v p s : List Token} (hu : NNZ u) (e : u ++ v = p ++ s)
    (hv : ∀ a, v = a ++ s → 0 ≤ wsum a) : 0 ≤ wsum p := by
  rcases List.append_eq_append_iff.1 e with ⟨a', rfl, h2⟩ | ⟨c', h1, _⟩
  · have := hv a' h2
    rw [wsum_append, hu.1]; omega
  · exact hu.2 p c' h1

theorem nnz_append {u v : List Token} (hu : NNZ u) (hv : NNZ v) : NNZ (u ++ v) :=
  ⟨by rw [wsum_append, hu.1, hv.1]; rfl, fun p s e => wsum_prefix_nonneg hu e fun a h => hv.2 a s h⟩

theorem cl_append {u w : List Token} (hu : NNZ u) (hw : Cl w) : Cl (u ++ w) :=
  ⟨by rw [wsum_append, hu.1, hw.1]; rfl, fun p s e hs => wsum_prefix_nonneg hu e fun a h => hw.2 a s h hs⟩

theorem tight_open {o : Token} {w : List Token} (ho : weight o = 1) (hw : Cl w) : Tight (o :: w) := by
  refine ⟨by simp, by rw [wsum_cons, ho, hw.1]; rfl, ?_⟩
  intro p s e hp hs
  cases p with
  | nil => exact absurd rfl hp
  | cons a p' =>
    simp only [List.cons_append, List.cons.injEq] at e
    obtain ⟨rfl, e⟩ := e
    have := hw.2 p' s e hs
    rw [wsum_cons, ho]; omega

theorem tight_atom {t : Token} (ht : weight t = 0) : Tight [t] := by
  refine ⟨by simp, by simp [ht], ?_⟩
  intro p s e hp hs
  rcases List.singleton_eq_append_iff.1 e with ⟨h, _⟩ | ⟨_, h⟩
  · exact absurd h hp
  · exact absurd h hs

theorem cl_rparen : Cl [.rparen] := by
  refine ⟨rfl, ?_⟩
  intro p s e hs
  rcases List.singleton_eq_append_iff.1 e with ⟨rfl, _⟩ | ⟨_, h⟩
  · simp
  · exact absurd h hs

mutual
theorem toks_tight : (d : Datum) → Tight (Syn.ofDatum d).toks
  | .prim _ _ | .sym _ _ => by simp only [Syn.ofDatum, Syn.toks]; exact tight_atom rfl
  | .nil _ => by
    simp only [Syn.ofDatum, Syn.toks, Syn.toksL, List.nil_append]
    exact tight_open rfl cl_rparen
  | .vec xs _ => by
    simp only [Syn.ofDatum, Syn.toks]
    exact tight_open rfl (cl_append (toksL_nnz xs) cl_rparen)
  | .pair a d l => by
    rw [Print.toks_ofDatum_pair]
    exact tight_open rfl (cl_append (tight_nnz (toks_tight a)) (tailToks_cl d))
theorem tailToks_cl : (d : Datum) → Cl (Print.tailToks d)
  | .nil _ => by rw [Print.tailToks_nil]; exact cl_rparen
  | .prim p _ => by
    rw [Print.tailToks_prim]
    exact cl_append (u := [.period, .prim p]) (nnz_append (u := [.period]) (tight_nnz (tight_atom rfl)) (tight_nnz (tight_atom rfl))) cl_rparen
  | .sym s _ => by
    rw [Print.tailToks_sym]
    exact cl_append (u := [.period, .ident s]) (nnz_append (u := [.period]) (tight_nnz (tight_atom rfl)) (tight_nnz (tight_atom rfl))) cl_rparen
  | .vec xs _ => by
    rw [Print.tailToks_vec]
    have hv : Tight (Token.vecIntro :: (Syn.toksL (Syn.ofDatums xs) ++ [Token.rparen])) :=
      tight_open rfl (cl_append (toksL_nnz xs) cl_rparen)
    have := cl_append (nnz_append (u := [.period]) (tight_nnz (tight_atom rfl)) (tight_nnz hv)) cl_rparen
    simpa using this
  | .pair a d l => by
    rw [Print.tailToks_pair]
    exact cl_append (tight_nnz (toks_tight a)) (tailToks_cl d)
theorem toksL_nnz : (xs : List Datum) → NNZ (Syn.toksL (Syn.ofDatums xs))
  | [] => by simp only [Syn.ofDatums, Syn.toksL]; exact nnz_nil
  | x :: xs => by
    simp only [Syn.ofDatums, Syn.toksL]
    exact nnz_append (tight_nnz (toks_tight x)) (toksL_nnz xs)
end

/-- cutting a sequence of complete data where the depth is `≤ 0` cuts between two data -/
theorem cut_between : ∀ (ws : List (List Token)) (g rest : List Token), (∀ w ∈ ws, Tight w) →
    g ++ rest = ws.flatten → wsum g ≤ 0 →
    ∃ ws₁ ws₂, ws = ws₁ ++ ws₂ ∧ g = ws₁.flatten ∧ rest = ws₂.flatten
  | [], g, rest, _, e, _ => by
    simp only [List.flatten_nil, List.append_eq_nil_iff] at e
    exact ⟨[], [], rfl, e.1, e.2⟩
  | w :: ws, g, rest, ht, e, hg => by
    simp only [List.flatten_cons] at e
    rcases List.append_eq_append_iff.1 e with ⟨a', h1, h2⟩ | ⟨c', h1, h2⟩
    · -- w = g ++ a'
      by_cases hg0 : g = []
      · subst hg0
        exact ⟨[], w :: ws, rfl, rfl, by simpa using e⟩
      · by_cases ha : a' = []
        · subst ha
          simp only [List.append_nil] at h1
          subst h1
          exact ⟨[w], ws, rfl, by simp, by simpa using h2⟩
        · have := (ht w (by simp)).2.2 g a' h1 hg0 ha
          omega
    · -- g = w ++ c'
      subst h1
      have hw := (ht w (by simp)).2.1
      obtain ⟨ws₁, ws₂, e1, e2, e3⟩ := cut_between ws c' rest (fun w' hw' => ht w' (by simp [hw'])) h2.symm
        (by rw [wsum_append, hw] at hg; omega)
      exact ⟨w :: ws₁, ws₂, by rw [e1]; rfl, by rw [e2]; rfl, e3⟩

theorem programToks_append (a b : List Statement) : programToks (a ++ b) = programToks a ++ programToks b :=
  ProgramText.programToks_append a b

theorem wsum_programToks (sts : List Statement) : wsum (programToks sts) = 0 := by
  have h : programToks sts = Syn.toksL (Syn.ofDatums (sts.map printStmt)) := by rw [ofDatums_eq_map]; rfl
  rw [h]
  exact (toksL_nnz _).1

theorem programToks_eq_nil {sts : List Statement} (h : programToks sts = []) : sts = [] := by
  cases sts with
  | nil => rfl
  | cons s ss =>
    rw [programToks_cons, List.append_eq_nil_iff] at h
    exact absurd h.1 (toks_ne_nil _)

theorem cut_program (sts : List Statement) (g rest : List Token)
    (e : g ++ rest = programToks sts) (hg : wsum g ≤ 0) :
    ∃ sts₁ sts₂, sts = sts₁ ++ sts₂ ∧ g = programToks sts₁ ∧ rest = programToks sts₂ := by
  rw [programToks_flatten] at e
  obtain ⟨ws₁, ws₂, e1, e2, e3⟩ := cut_between _ g rest
    (fun w hw => by
      obtain ⟨s, _, rfl⟩ := List.mem_map.1 hw
      exact toks_tight (printStmt s)) e hg
  obtain ⟨sts₁, sts₂, rfl, rfl, rfl⟩ := List.map_eq_append_iff.1 e1
  exact ⟨sts₁, sts₂, rfl, by rw [e2, programToks_flatten], by rw [e3, programToks_flatten]⟩

/-! ## the line groups of typed lines -/

/-- the pending text as the REPL keeps it: the lines entered so far, each followed by a newline -/
def pendStr : Option TLine → String
  | none => ""
  | some P => String.ofList (P.text ++ ['\n'])

def pendToks : Option TLine → List Token
  | none => []
  | some P => P.toks

def addLine : Option TLine → TLine → TLine
  | none, L => L
  | some P, L => P.glue L

/-- the line groups computed on TOKENS: empty lines are dropped; a group ends with the first line at whose end the
depth of its tokens is `≤ 0`; returns the groups and the unfinished rest -/
def gAux : Option TLine → List TLine → List TLine × Option TLine
  | p, [] => ([], p)
  | p, L :: Ls =>
    if L.text = [] then gAux p Ls
    else if depth (addLine p L).toks ≤ 0 then (addLine p L :: (gAux none Ls).1, (gAux none Ls).2)
    else gAux (some (addLine p L)) Ls

def tgroups (lines : List TLine) : List TLine := (gAux none lines).1

theorem str_isEmpty (L : TLine) : L.str.isEmpty = true ↔ L.text = [] := by
  rw [String.isEmpty_iff, ← String.toList_eq_nil_iff]
  simp [TLine.str]

theorem addLine_toks (p : Option TLine) (L : TLine) : (addLine p L).toks = pendToks p ++ L.toks := by
  cases p <;> rfl

theorem addLine_str (p : Option TLine) (L : TLine) : pendStr p ++ L.str = (addLine p L).str := by
  cases p with
  | none => simp [pendStr, addLine]
  | some P =>
    simp only [pendStr, addLine, TLine.str, glue_text, ← String.ofList_append]
    simp

theorem addLine_valid {p : Option TLine} {L : TLine} (hp : ∀ P, p = some P → P.Valid ∧ P.Supp)
    (hL : L.Valid ∧ L.Supp) : (addLine p L).Valid ∧ (addLine p L).Supp := by
  cases p with
  | none => exact hL
  | some P => exact glue_valid (hp P rfl) hL

theorem closed_str {G : TLine} (h : G.Valid ∧ G.Supp) :
    Bracket.closed G.str.toList = decide (depth G.toks ≤ 0) := by
  simp only [TLine.str, String.toList_ofList]
  exact C18.bracket_of_rendered G.toks G.lay h.2 h.1

theorem groupsAux_typed (lines : List TLine) (p : Option TLine)
    (hl : ∀ L ∈ lines, L.Valid ∧ L.Supp) (hp : ∀ P, p = some P → P.Valid ∧ P.Supp) :
    groupsAux (pendStr p) (lines.map TLine.str) = ((gAux p lines).1.map TLine.str, pendStr (gAux p lines).2) ∧
    ∀ G ∈ (gAux p lines).1, G.Valid ∧ G.Supp := by
  fun_induction gAux p lines with
  | case1 p => exact ⟨rfl, by simp⟩
  | case2 p L Ls he ih =>
    simp only [List.map_cons, groupsAux, str_isEmpty, he, if_true]
    exact ih (fun L' h => hl L' (by simp [h])) hp
  | case3 p L Ls he hd ih =>
    have hG := addLine_valid hp (hl L (by simp))
    obtain ⟨ih1, ih2⟩ := ih (fun L' h => hl L' (by simp [h])) (fun P h => by cases h)
    simp only [List.map_cons, groupsAux, str_isEmpty, he, if_false, addLine_str, closed_str hG,
      decide_eq_true_eq, hd, if_true]
    rw [show pendStr none = "" from rfl] at ih1
    rw [ih1]
    exact ⟨rfl, fun G hGm => (List.mem_cons.1 hGm).elim (fun e => e ▸ hG) (ih2 G)⟩
  | case4 p L Ls he hd ih =>
    have hG := addLine_valid hp (hl L (by simp))
    obtain ⟨ih1, ih2⟩ := ih (fun L' h => hl L' (by simp [h])) (fun P h => by cases h; exact hG)
    simp only [List.map_cons, groupsAux, str_isEmpty, he, if_false, addLine_str, closed_str hG,
      decide_eq_true_eq, hd]
    refine ⟨?_, ih2⟩
    rw [← ih1]
    congr 1
    simp only [pendStr, TLine.str, String.ofList_append]

theorem text_nil_toks {L : TLine} (hs : L.Supp) (h : L.text = []) : L.toks = [] := by
  cases ht : L.toks with
  | nil => rfl
  | cons t ts =>
    have hpos := renderTok_length_pos t (hs t (by simp [ht]))
    have := congrArg List.length h
    simp only [TLine.text, ht, interleave, List.length_append, List.length_nil] at this
    omega

/-- a chunk may be empty: a line of blanks or comments -/
theorem gAux_chunks (lines : List TLine) (p : Option TLine) : ∀ (sts : List Statement),
    (∀ L ∈ lines, L.Supp) → (∀ P, p = some P → 0 < depth P.toks) →
    pendToks p ++ lines.flatMap TLine.toks = programToks sts →
    ∃ chunks : List (List Statement), chunks.flatten = sts ∧
      (gAux p lines).1.map TLine.toks = chunks.map programToks ∧ (gAux p lines).2 = none := by
  fun_induction gAux p lines with
  | case1 p =>
    intro sts _ hp e
    simp only [List.flatMap_nil, List.append_nil] at e
    cases p with
    | none =>
      cases programToks_eq_nil e.symm
      exact ⟨[], rfl, rfl, rfl⟩
    | some P =>
      have h1 := hp P rfl
      rw [show P.toks = programToks sts from e, depth_eq_wsum, wsum_programToks] at h1
      omega
  | case2 p L Ls he ih =>
    intro sts hl hp e
    simp only [List.flatMap_cons, text_nil_toks (hl L (by simp)) he, List.nil_append] at e
    exact ih sts (fun L' h => hl L' (by simp [h])) hp e
  | case3 p L Ls he hd ih =>
    intro sts hl hp e
    rw [List.flatMap_cons, ← List.append_assoc, ← addLine_toks] at e
    obtain ⟨sts₁, sts₂, rfl, e1, e2⟩ := cut_program sts _ _ e (by rw [← depth_eq_wsum]; exact hd)
    obtain ⟨chunks, c1, c2, c3⟩ := ih sts₂ (fun L' h => hl L' (by simp [h])) (fun P h => by cases h) e2
    exact ⟨sts₁ :: chunks, by simp [c1], by simp [e1, c2], c3⟩
  | case4 p L Ls he hd ih =>
    intro sts hl hp e
    rw [List.flatMap_cons, ← List.append_assoc, ← addLine_toks] at e
    exact ih sts (fun L' h => hl L' (by simp [h])) (fun P h => by cases h; omega) e

/-! ## submitting statements -/

/-- the output buffer is emptied first, so that what is in it afterwards is this submission's output -/
def submitStmts (fuel : Nat) (st : State) (chunk : List Statement) : State × ReplOut :=
  replOutcome (runStmts fuel (clearOut st) chunk none)

/-- the session goes on after an error -/
def sessionStmts (fuel : Nat) : State → List (List Statement) → State × List ReplOut
  | st, [] => (st, [])
  | st, c :: cs =>
    ((sessionStmts fuel (submitStmts fuel st c).1 cs).1,
      (submitStmts fuel st c).2 :: (sessionStmts fuel (submitStmts fuel st c).1 cs).2)

theorem submitStmts_syn (fuel : Nat) (st : State) (chunk : List Statement) :
    (submitStmts fuel st chunk).1.syn = st.syn := by
  unfold submitStmts
  rw [replOutcome_fst, runStmts_syn]
  rfl

theorem programText_eq (chunk : List Statement) (lay : List (List Char)) :
    programText chunk lay = interleave (programToks chunk) lay := rfl

theorem submit_chunk (fuel : Nat) (st₁ st₂ : State) (G : TLine) (chunk : List Statement)
    (hG : G.Valid) (ht : G.toks = programToks chunk)
    (hok : ∀ s ∈ chunk, okStmt (C01More.macroOf st₂.syn) s) (hsup : ∀ s ∈ chunk, SupportedD (printStmt s))
    (hs : st₁.unloc = st₂.unloc) :
    (submit fuel st₁ G.str).2 = (submitStmts fuel st₂ chunk).2 ∧
    (submit fuel st₁ G.str).1.unloc = (submitStmts fuel st₂ chunk).1.unloc := by
  rw [submit_eq]
  have htext : G.str.toList = programText chunk G.lay := by
    simp only [TLine.str, String.toList_ofList, TLine.text, ht]
    rfl
  rw [htext]
  exact replOutcome_sameRun (programText_sameRun fuel (st₁ := clearOut st₁) (st₂ := clearOut st₂)
    (by rw [clearOut_unloc, clearOut_unloc, hs]) chunk G.lay
    (by rw [show (clearOut st₁).syn = st₂.syn from unloc_syn_eq (st₁ := st₁) hs]; exact hok) hsup (ht ▸ hG))

theorem session_chunks (fuel : Nat) : ∀ (gs : List TLine) (chunks : List (List Statement)) (st₁ st₂ : State),
    gs.map TLine.toks = chunks.map programToks → (∀ G ∈ gs, G.Valid) →
    (∀ s ∈ chunks.flatten, okStmt (C01More.macroOf st₂.syn) s) →
    (∀ s ∈ chunks.flatten, SupportedD (printStmt s)) → st₁.unloc = st₂.unloc →
    (session fuel st₁ (gs.map TLine.str)).2 = (sessionStmts fuel st₂ chunks).2 ∧
    (session fuel st₁ (gs.map TLine.str)).1.unloc = (sessionStmts fuel st₂ chunks).1.unloc
  | [], [], st₁, st₂, _, _, _, _, hs => ⟨rfl, hs⟩
  | G :: gs, c :: cs, st₁, st₂, ht, hv, hok, hsup, hs => by
    simp only [List.map_cons, List.cons.injEq] at ht
    obtain ⟨a, b⟩ := submit_chunk fuel st₁ st₂ G c (hv G (by simp)) ht.1
      (fun s h => hok s (by simp [h])) (fun s h => hsup s (by simp [h])) hs
    obtain ⟨c', d⟩ := session_chunks fuel gs cs _ _ ht.2 (fun G' h => hv G' (by simp [h]))
      (by rw [submitStmts_syn]; exact fun s h => hok s (by simp only [List.flatten_cons, List.mem_append]; exact .inr h))
      (fun s h => hsup s (by simp only [List.flatten_cons, List.mem_append]; exact .inr h)) b
    simp only [List.map_cons, session, sessionStmts]
    exact ⟨by rw [a, c'], d⟩
  | [], _ :: _, _, _, ht, _, _, _, _ | _ :: _, [], _, _, ht, _, _, _, _ => by simp at ht

theorem replRun_chunks (fuel : Nat) (lines : List TLine) (chunks : List (List Statement))
    (hl : ∀ L ∈ lines, L.Valid ∧ L.Supp) (hc : (tgroups lines).map TLine.toks = chunks.map programToks)
    (hok : ∀ s ∈ chunks.flatten, okStmt C01More.isStdMacro s)
    (hsup : ∀ s ∈ chunks.flatten, SupportedD (printStmt s)) :
    groups (lines.map TLine.str) = (tgroups lines).map TLine.str ∧
    (replRun fuel (lines.map TLine.str)).1.pending = pendStr (gAux none lines).2 ∧
    (replRun fuel (lines.map TLine.str)).2.filter (·.submitted) =
      (sessionStmts fuel (withStdlib fuel false) chunks).2 ∧
    transcript (replRun fuel (lines.map TLine.str)).2 =
      transcript (sessionStmts fuel (withStdlib fuel false) chunks).2 ∧
    errors (replRun fuel (lines.map TLine.str)).2 = errors (sessionStmts fuel (withStdlib fuel false) chunks).2 ∧
    (replRun fuel (lines.map TLine.str)).1.st.unloc = (sessionStmts fuel (withStdlib fuel false) chunks).1.unloc := by
  obtain ⟨h, hv⟩ := groupsAux_typed lines none hl (fun P h => by cases h)
  have hg : groups (lines.map TLine.str) = (tgroups lines).map TLine.str := congrArg Prod.fst h
  have hu : unfinished (lines.map TLine.str) = pendStr (gAux none lines).2 := congrArg Prod.snd h
  obtain ⟨r0, r1, _⟩ := replRun_groups fuel (lines.map TLine.str)
  obtain ⟨_, r2, r3⟩ := replRun_sequential fuel (lines.map TLine.str)
  obtain ⟨s1, s2⟩ := session_chunks fuel (tgroups lines) chunks (withStdlib fuel false) (withStdlib fuel false)
    hc (fun G h => (hv G h).1) (by rw [stdlib_macros]; exact hok)
    hsup rfl
  rw [hg] at r0 r1 r2 r3
  exact ⟨hg, by rw [r0, hu], by rw [r1, s1], by rw [r2, s1], by rw [r3, s1], by rw [r0]; exact s2⟩

/-! ## typing statements; one statement per submission -/

/-- a way of TYPING the printed statements into the REPL: a form may span several lines, several forms may share a
line, there may be empty lines and lines of blanks and comments -/
def TypedAs (lines : List TLine) (sts : List Statement) : Prop :=
  (∀ L ∈ lines, L.Valid ∧ L.Supp) ∧ lines.flatMap TLine.toks = programToks sts

/-- the whole text: the lines joined by newlines -/
def joinLines : List TLine → TLine
  | [] => ⟨[], [[]]⟩
  | [L] => L
  | L :: L' :: Ls => L.glue (joinLines (L' :: Ls))

theorem joinLines_toks : ∀ (lines : List TLine), (joinLines lines).toks = lines.flatMap TLine.toks
  | [] => rfl
  | [L] => by simp [joinLines]
  | L :: L' :: Ls => by
    have := joinLines_toks (L' :: Ls)
    simp only [joinLines, TLine.glue, this, List.flatMap_cons]

theorem joinLines_valid : ∀ (lines : List TLine), (∀ L ∈ lines, L.Valid ∧ L.Supp) →
    (joinLines lines).Valid ∧ (joinLines lines).Supp
  | [], _ => ⟨(rfl : isTrail false [] = true), fun _ h => nomatch h⟩
  | [L], h => h L (by simp)
  | L :: L' :: Ls, h =>
    glue_valid (h L (by simp)) (joinLines_valid (L' :: Ls) (fun M hM => h M (by simp [hM])))

def submitStmt (fuel : Nat) (st : State) (s : Statement) : State × ReplOut :=
  replOutcome (evalAst fuel (clearOut st) s)

/-- each statement from the state its predecessor left, error or not -/
def foldStmts (fuel : Nat) : State → List Statement → State × List ReplOut
  | st, [] => (st, [])
  | st, s :: ss =>
    ((foldStmts fuel (submitStmt fuel st s).1 ss).1,
      (submitStmt fuel st s).2 :: (foldStmts fuel (submitStmt fuel st s).1 ss).2)

theorem submitStmts_single (fuel : Nat) (st : State) (s : Statement) :
    submitStmts fuel st [s] = submitStmt fuel st s := by
  unfold submitStmts submitStmt
  congr 1
  simp only [runStmts]
  generalize evalAst fuel (clearOut st) s = x
  obtain ⟨r, st'⟩ := x
  cases r <;> rfl

theorem sessionStmts_singletons (fuel : Nat) : ∀ (sts : List Statement) (st : State),
    sessionStmts fuel st (sts.map (fun s => [s])) = foldStmts fuel st sts
  | [], st => rfl
  | s :: ss, st => by
    simp only [List.map_cons, sessionStmts, foldStmts, submitStmts_single,
      sessionStmts_singletons fuel ss]

/-- line `i` is a valid layout of the printed form of statement `i`, alone -/
def OneEach : List TLine → List Statement → Prop
  | [], [] => True
  | L :: Ls, s :: ss => (L.Valid ∧ L.Supp ∧ L.toks = programToks [s]) ∧ OneEach Ls ss
  | _, _ => False

theorem oneEach_groups : ∀ (lines : List TLine) (sts : List Statement), OneEach lines sts →
    gAux none lines = (lines, none)
  | [], [], _ => rfl
  | L :: Ls, s :: ss, h => by
    obtain ⟨⟨hv, hs, ht⟩, hrest⟩ := h
    have hne : L.text ≠ [] := fun he =>
      List.cons_ne_nil s [] (programToks_eq_nil (ht.symm.trans (text_nil_toks hs he)))
    have hd : depth (addLine none L).toks ≤ 0 := by
      show depth L.toks ≤ 0
      rw [ht, depth_eq_wsum, wsum_programToks]
      exact Int.le_refl 0
    simp only [gAux, hne, if_false, hd, if_true, oneEach_groups Ls ss hrest]
    rfl
  | [], _ :: _, h | _ :: _, [], h => h.elim

theorem oneEach_valid : ∀ (lines : List TLine) (sts : List Statement), OneEach lines sts →
    (∀ L ∈ lines, L.Valid ∧ L.Supp) ∧ lines.map TLine.toks = (sts.map (fun s => [s])).map programToks
  | [], [], _ => ⟨by simp, rfl⟩
  | L :: Ls, s :: ss, h => by
    obtain ⟨⟨hv, hs, ht⟩, hrest⟩ := h
    obtain ⟨a, b⟩ := oneEach_valid Ls ss hrest
    refine ⟨?_, by simp only [List.map_cons, ht, b]⟩
    intro M hM
    rcases List.mem_cons.1 hM with rfl | hM
    · exact ⟨hv, hs⟩
    · exact a M hM
  | [], _ :: _, h | _ :: _, [], h => h.elim

/-! ## a session without errors and the program run (modulo the output buffer) -/

/-- `State.withOut` of `OutBlindLemmas`, arguments swapped; `clearOut` is `setOut []` -/
def setOut (o : List String) (st : State) : State := { st with store := { st.store with out := o } }

/-- `o` BELOW everything in the buffer (`out` is most recent first); `State.addOut` of `OutBlindLemmas`, arguments
swapped (`C18Full.pushOut_eq`) -/
def pushOut (o : List String) (st : State) : State := setOut (st.store.out ++ o) st

def pushRes (o : List String) (x : Except SErr (Option Value) × State) : Except SErr (Option Value) × State :=
  (x.1, pushOut o x.2)

/-- the evaluator does not read the output buffer: with more text below in it, `eval_ast` gives the same outcome and
state, that text still below. A hypothesis here; `C18Full.out_blind_holds` proves it of all statements. -/
def OutBlind (fuel : Nat) (sts : List Statement) : Prop :=
  ∀ s ∈ sts, ∀ (st : State) (o : List String), evalAst fuel (pushOut o st) s = pushRes o (evalAst fuel st s)

/-- what the submissions of a session wrote, most recent first -/
def sessionOut (fuel : Nat) : State → List (List Statement) → List String
  | _, [] => []
  | st, c :: cs => sessionOut fuel (submitStmts fuel st c).1 cs ++ (submitStmts fuel st c).1.store.out

theorem pushOut_clearOut (st : State) (acc : List String) :
    pushOut (st.store.out ++ acc) (clearOut st) = pushOut acc st := rfl

theorem runStmts_push (fuel : Nat) (sts : List Statement) (hb : OutBlind fuel sts) (st : State)
    (last : Option Value) (o : List String) :
    runStmts fuel (pushOut o st) sts last = pushRes o (runStmts fuel st sts last) := by
  fun_induction runStmts fuel st sts last with
  | case1 => rfl
  | case2 st s ss _ e st' hx => rw [runStmts, hb s (by simp) st o, hx]; rfl
  | case3 st s ss _ v st' hx ih =>
    rw [runStmts, hb s (by simp) st o, hx]
    exact ih (fun s' h => hb s' (by simp [h]))

theorem runStmts_last (fuel : Nat) (st : State) (c : List Statement) (last : Option Value) :
    (runStmts fuel st c last).2 = (runStmts fuel st c none).2 ∧
    ((∃ v, (runStmts fuel st c last).1 = .ok v) → ∃ v, (runStmts fuel st c none).1 = .ok v) := by
  cases c with
  | nil => exact ⟨rfl, fun _ => ⟨none, rfl⟩⟩
  | cons s ss => exact ⟨rfl, fun h => h⟩

/-- `acc` below in the buffer makes the statement inductive -/
theorem sessionStmts_program (fuel : Nat) : ∀ (chunks : List (List Statement)) (st : State) (acc : List String)
    (last : Option Value), OutBlind fuel chunks.flatten →
    (∃ v, (runStmts fuel (pushOut acc st) chunks.flatten last).1 = .ok v) →
    (runStmts fuel (pushOut acc st) chunks.flatten last).2 =
      setOut (sessionOut fuel st chunks ++ (st.store.out ++ acc)) (sessionStmts fuel st chunks).1 ∧
    ∀ o ∈ (sessionStmts fuel st chunks).2, o.err = none
  | [], st, acc, last, _, _ => ⟨rfl, by simp [sessionStmts]⟩
  | c :: cs, st, acc, last, hb, hok => by
    have hbc : OutBlind fuel c := fun s h => hb s (by simp [h])
    have hbcs : OutBlind fuel cs.flatten := fun s h => hb s (by simp only [List.flatten_cons, List.mem_append]; exact .inr h)
    simp only [List.flatten_cons] at hok ⊢
    rw [runStmts_append] at hok ⊢
    rw [← pushOut_clearOut, runStmts_push fuel c hbc] at hok ⊢
    obtain ⟨hl1, hl2⟩ := runStmts_last fuel (clearOut st) c last
    have hfst : (submitStmts fuel st c).1 = (runStmts fuel (clearOut st) c none).2 := replOutcome_fst _
    cases hY : runStmts fuel (clearOut st) c last with
    | mk rY sY =>
      rw [hY] at hok hl1 hl2
      cases rY with
      | error e =>
        obtain ⟨v, hv⟩ := hok
        simp [pushRes] at hv
      | ok v' =>
        simp only [pushRes] at hok ⊢
        have hs : sY = (submitStmts fuel st c).1 := by rw [hfst, ← hl1]
        obtain ⟨i1, i2⟩ := sessionStmts_program fuel cs sY (st.store.out ++ acc) v' hbcs hok
        refine ⟨?_, ?_⟩
        · rw [i1]
          simp only [sessionStmts, sessionOut, ← hs, List.append_assoc]
        · intro o ho
          simp only [sessionStmts, List.mem_cons] at ho
          rcases ho with rfl | ho
          · exact replOutcome_err_of_ok (hl2 ⟨v', rfl⟩)
          · rw [← hs] at ho
            exact i2 o ho

theorem pushOut_nil (st : State) : pushOut [] st = st := by
  unfold pushOut setOut
  simp

theorem setOut_unloc (o : List String) (st : State) : (setOut o st).unloc = setOut o st.unloc := rfl

end Ruschm.Session
