/-
Property C11, the ERROR side — "… and raise an error rather than return a value when a list is too
short for the request."

`RuschmProofs/C11.lean` proves, for every library procedure, that the outcome is the one its spec
function gives; the spec functions return `.error typeErr` on too-short structures, so the error
outcomes are instances of those theorems. This file states them EXPLICITLY, for the procedures
obtained from `RuschmGen/BaseLib.lean` through the same `libStatement_eq`/`libProc`/`LibFrame`
machinery, and adds what C11.lean left open: negative, non-integer and inexact indices, and improper
list arguments of every list procedure.

`Raises σ p args env e` (in `ListErrLemmas.lean`): the application ends with the error `e`, having
only appended frames to the store, and NO run of it returns a value. The error of a too-short list
is always `typeErr` = `(Err.type, none)`: the `TypeMisMatch` of the native `car`/`cdr` reached on a
non-pair (the model has no separate "index out of range" error for lists).

Findings (a VALUE where R7RS says "it is an error"; none of them is a too-short list):
* `map` / `for-each` accept an improper list: `map` returns the mapped elements on the same tail,
  `for-each` stops silently at the tail (`map_improper`, `for_each_improper`);
* `last-pair` of an improper list returns its last pair (`last_pair_improper`), `memq`/`memv` return
  the sublist when a match comes before the improper tail (`memq_improper_found`);
* an inexact index (`2.0`) is accepted by `list-tail`/`list-ref` (`list_tail_inexact`).
-/
import RuschmProofs.ListErrLemmas

namespace Ruschm.C11Errors
open Ruschm Ruschm.Eval Ruschm.ListSpec Ruschm.ListLib

/-! ## sample data -/

def num (i : Int) : Value := .num (.int i)
/-- `(1 2 3)` -/
def l123 : Value := Value.ofList [num 1, num 2, num 3]
/-- `(1 2 . 3)` -/
def l12d3 : Value := withTail [num 1, num 2] (num 3)

section
variable {σ : Store} {b : Nat}

/-! ## the natives and the c[ad]r compositions on structures that are too short -/

/-- `car` / `cdr` of `()` or of any other non-pair: a type error, store untouched, never a value -/
theorem car_too_short (σ : Store) (v : Value) (hv : isPair v = false) (env : Nat) :
    Applies σ (.builtin .car) [v] env (.error typeErr) σ ∧
    ∀ w σ'', ¬ Applies σ (.builtin .car) [v] env (.ok w) σ'' := by
  have h : Applies σ (.builtin .car) [v] env (.error typeErr) σ :=
    carS_nonpair hv ▸ Applies.builtin_run (by decide) (by rfl) (applyPure_car σ v)
  exact ⟨h, not_value_of_error h⟩

example : Applies libStore (.builtin .car) [.nil] 0 (.error typeErr) libStore := (car_too_short _ _ rfl 0).1

theorem cdr_too_short (σ : Store) (v : Value) (hv : isPair v = false) (env : Nat) :
    Applies σ (.builtin .cdr) [v] env (.error typeErr) σ ∧
    ∀ w σ'', ¬ Applies σ (.builtin .cdr) [v] env (.ok w) σ'' := by
  have h : Applies σ (.builtin .cdr) [v] env (.error typeErr) σ :=
    cdrS_nonpair hv ▸ Applies.builtin_run (by decide) (by rfl) (applyPure_cdr σ v)
  exact ⟨h, not_value_of_error h⟩

example : Applies libStore (.builtin .cdr) [num 5] 0 (.error typeErr) libStore := (cdr_too_short _ _ rfl 0).1

/-- the twelve compositions: whenever the structure is too short for the composition (the spec
function of `RuschmSpec/ListLib.lean` is the error), the procedure raises -/
theorem caar_too_short (h : LibFrame σ b) (x : Value) (hx : caarS x = .error typeErr) (env : Nat) :
    Raises σ (libProc "caar" b) [x] env typeErr :=
  .of_appliesE (hx ▸ papp_cxr b true [true] (i := 0) rfl x σ env h rfl)
theorem cadr_too_short (h : LibFrame σ b) (x : Value) (hx : cadrS x = .error typeErr) (env : Nat) :
    Raises σ (libProc "cadr" b) [x] env typeErr :=
  .of_appliesE (hx ▸ papp_cxr b true [false] (i := 1) rfl x σ env h rfl)
theorem cdar_too_short (h : LibFrame σ b) (x : Value) (hx : cdarS x = .error typeErr) (env : Nat) :
    Raises σ (libProc "cdar" b) [x] env typeErr :=
  .of_appliesE (hx ▸ papp_cxr b false [true] (i := 2) rfl x σ env h rfl)
theorem cddr_too_short (h : LibFrame σ b) (x : Value) (hx : cddrS x = .error typeErr) (env : Nat) :
    Raises σ (libProc "cddr" b) [x] env typeErr :=
  .of_appliesE (hx ▸ papp_cxr b false [false] (i := 3) rfl x σ env h rfl)
theorem caaar_too_short (h : LibFrame σ b) (x : Value) (hx : caaarS x = .error typeErr) (env : Nat) :
    Raises σ (libProc "caaar" b) [x] env typeErr :=
  .of_appliesE (hx ▸ papp_cxr b true [true, true] (i := 4) rfl x σ env h rfl)
theorem caadr_too_short (h : LibFrame σ b) (x : Value) (hx : caadrS x = .error typeErr) (env : Nat) :
    Raises σ (libProc "caadr" b) [x] env typeErr :=
  .of_appliesE (hx ▸ papp_cxr b true [true, false] (i := 5) rfl x σ env h rfl)
theorem cadar_too_short (h : LibFrame σ b) (x : Value) (hx : cadarS x = .error typeErr) (env : Nat) :
    Raises σ (libProc "cadar" b) [x] env typeErr :=
  .of_appliesE (hx ▸ papp_cxr b true [false, true] (i := 6) rfl x σ env h rfl)
theorem caddr_too_short (h : LibFrame σ b) (x : Value) (hx : caddrS x = .error typeErr) (env : Nat) :
    Raises σ (libProc "caddr" b) [x] env typeErr :=
  .of_appliesE (hx ▸ papp_cxr b true [false, false] (i := 7) rfl x σ env h rfl)
theorem cdaar_too_short (h : LibFrame σ b) (x : Value) (hx : cdaarS x = .error typeErr) (env : Nat) :
    Raises σ (libProc "cdaar" b) [x] env typeErr :=
  .of_appliesE (hx ▸ papp_cxr b false [true, true] (i := 8) rfl x σ env h rfl)
theorem cdadr_too_short (h : LibFrame σ b) (x : Value) (hx : cdadrS x = .error typeErr) (env : Nat) :
    Raises σ (libProc "cdadr" b) [x] env typeErr :=
  .of_appliesE (hx ▸ papp_cxr b false [true, false] (i := 9) rfl x σ env h rfl)
theorem cddar_too_short (h : LibFrame σ b) (x : Value) (hx : cddarS x = .error typeErr) (env : Nat) :
    Raises σ (libProc "cddar" b) [x] env typeErr :=
  .of_appliesE (hx ▸ papp_cxr b false [false, true] (i := 10) rfl x σ env h rfl)
theorem cdddr_too_short (h : LibFrame σ b) (x : Value) (hx : cdddrS x = .error typeErr) (env : Nat) :
    Raises σ (libProc "cdddr" b) [x] env typeErr :=
  .of_appliesE (hx ▸ papp_cxr b false [false, false] (i := 11) rfl x σ env h rfl)

example : Raises libStore (libProc "caddr" 0) [Value.ofList [num 1, num 2]] 0 typeErr :=
  caddr_too_short libFrame_libStore _ rfl 0
example : Raises libStore (libProc "caar" 0) [l123] 0 typeErr := caar_too_short libFrame_libStore _ rfl 0
example : Raises libStore (libProc "cdddr" 0) [l12d3] 0 typeErr := cdddr_too_short libFrame_libStore _ rfl 0

/-! ## `list-tail` and `list-ref`: index past the end -/

/-- `(list-tail l k)` for ANY list value `l` (elements `xs`, final tail `t`, `()` or not) and every
exact integer `k` (`i32`) greater than the number of elements: the walk reaches the non-pair tail
and `cdr` raises the type error -/
theorem list_tail_improper_too_short (h : LibFrame σ b) (xs : List Value) (t : Value) (ht : isPair t = false)
    (k : Int) (hk : (xs.length : Int) < k) (hmax : k ≤ 2147483647) (env : Nat) :
    Raises σ (libProc "list-tail" b) [withTail xs t, .num (.int k)] env typeErr := by
  have hk' : ((k.toNat : Nat) : Int) = k := Int.toNat_of_nonneg (by omega)
  have := papp_list_tail b k.toNat (withTail xs t) (by omega) σ env h rfl
  rw [hk', listTailS_withTail_short xs t ht k.toNat (by omega)] at this
  exact .of_appliesE this

/-- … in particular for a proper list of length `n` and `k > n` -/
theorem list_tail_too_short (h : LibFrame σ b) (xs : List Value) (k : Int) (hk : (xs.length : Int) < k)
    (hmax : k ≤ 2147483647) (env : Nat) :
    Raises σ (libProc "list-tail" b) [Value.ofList xs, .num (.int k)] env typeErr :=
  withTail_nil xs ▸ list_tail_improper_too_short h xs .nil rfl k hk hmax env

example : Raises libStore (libProc "list-tail" 0) [l123, num 4] 0 typeErr :=
  list_tail_too_short libFrame_libStore [num 1, num 2, num 3] 4 (by decide) (by decide) 0
/-- `(list-tail '(1 2 . 3) 3)` -/
example : Raises libStore (libProc "list-tail" 0) [l12d3, num 3] 0 typeErr :=
  list_tail_improper_too_short libFrame_libStore [num 1, num 2] (num 3) rfl 3 (by decide) (by decide) 0

/-- `(list-ref l k)` with `k` not below the number of elements: `(car (list-tail l k))` fails in
`list-tail` (`k` greater) or in `car` (`k` equal: the tail is not a pair) -/
theorem list_ref_improper_out_of_range (h : LibFrame σ b) (xs : List Value) (t : Value) (ht : isPair t = false)
    (k : Int) (hk : (xs.length : Int) ≤ k) (hmax : k ≤ 2147483647) (env : Nat) :
    Raises σ (libProc "list-ref" b) [withTail xs t, .num (.int k)] env typeErr := by
  have hk' : ((k.toNat : Nat) : Int) = k := Int.toNat_of_nonneg (by omega)
  have := papp_list_ref b k.toNat (withTail xs t) (by omega) σ env h rfl
  rw [hk', listRefS_withTail_short xs t ht k.toNat (by omega)] at this
  exact .of_appliesE this

theorem list_ref_out_of_range (h : LibFrame σ b) (xs : List Value) (k : Int) (hk : (xs.length : Int) ≤ k)
    (hmax : k ≤ 2147483647) (env : Nat) :
    Raises σ (libProc "list-ref" b) [Value.ofList xs, .num (.int k)] env typeErr :=
  withTail_nil xs ▸ list_ref_improper_out_of_range h xs .nil rfl k hk hmax env

example : Raises libStore (libProc "list-ref" 0) [l123, num 3] 0 typeErr :=
  list_ref_out_of_range libFrame_libStore [num 1, num 2, num 3] 3 (by decide) (by decide) 0
example : Raises libStore (libProc "list-ref" 0) [l12d3, num 2] 0 typeErr :=
  list_ref_improper_out_of_range libFrame_libStore [num 1, num 2] (num 3) rfl 2 (by decide) (by decide) 0

/-! ## indices outside the natural numbers -/

/-- a NEGATIVE integer index: `(= k 0)` never holds, the walk runs down the whole list with
`k-1, k-2, …` and ends in the `cdr` type error at the final tail — for every list value. (The
index stays an `i32` integer as long as `k - length - 1 ≥ -2³¹`: true of every list the interpreter
can hold unless `k` is within `length` of the smallest integer.) The real code reports the same
type error. -/
theorem list_tail_negative (h : LibFrame σ b) (xs : List Value) (t : Value) (ht : isPair t = false) (k : Int)
    (hk : k < 0) (hmin : -2147483648 ≤ k - xs.length - 1) (env : Nat) :
    Raises σ (libProc "list-tail" b) [withTail xs t, .num (.int k)] env typeErr :=
  .of_appliesE (papp_list_tail_neg b t ht xs k hk hmin σ env h rfl)

theorem list_ref_negative (h : LibFrame σ b) (xs : List Value) (t : Value) (ht : isPair t = false) (k : Int)
    (hk : k < 0) (hmin : -2147483648 ≤ k - xs.length - 1) (env : Nat) :
    Raises σ (libProc "list-ref" b) [withTail xs t, .num (.int k)] env typeErr :=
  .of_appliesE (papp_list_ref_of_tail b (papp_list_tail_neg b t ht xs k hk hmin) σ env h rfl)

/-- `(list-tail '(1 2 3) -1)` and `(list-ref '(1 2 3) -1)` -/
example : Raises libStore (libProc "list-tail" 0) [l123, num (-1)] 0 typeErr :=
  list_tail_negative libFrame_libStore [num 1, num 2, num 3] .nil rfl (-1) (by decide) (by decide) 0
example : Raises libStore (libProc "list-ref" 0) [l123, num (-1)] 0 typeErr :=
  list_ref_negative libFrame_libStore [num 1, num 2, num 3] .nil rfl (-1) (by decide) (by decide) 0

/-- a NON-INTEGER exact ratio `n/d` (a value of the interpreter: lowest terms, `d > 1`, `i32`
components): `(= k 0)` never holds either, the index runs through `n/d - 1, n/d - 2, …` (all
non-integers) and the walk ends in the `cdr` type error — for every list value, as long as the
numerators stay in the `i32` range. The real code reports the same type error. -/
theorem list_tail_ratio (h : LibFrame σ b) (xs : List Value) (t : Value) (ht : isPair t = false) (n d : Int)
    (hwf : Num.WF (.rat n d)) (hmin : -2147483648 ≤ n - (xs.length + 1) * d) (env : Nat) :
    Raises σ (libProc "list-tail" b) [withTail xs t, .num (.rat n d)] env typeErr :=
  .of_appliesE (papp_list_tail_rat b t ht xs n d hwf hmin σ env h rfl)

theorem list_ref_ratio (h : LibFrame σ b) (xs : List Value) (t : Value) (ht : isPair t = false) (n d : Int)
    (hwf : Num.WF (.rat n d)) (hmin : -2147483648 ≤ n - (xs.length + 1) * d) (env : Nat) :
    Raises σ (libProc "list-ref" b) [withTail xs t, .num (.rat n d)] env typeErr :=
  .of_appliesE (papp_list_ref_of_tail b (papp_list_tail_rat b t ht xs n d hwf hmin) σ env h rfl)

/-- `(list-ref '(1 2 3) 1/2)` and `(list-tail '(1 2 3) 1/2)` -/
example : Raises libStore (libProc "list-ref" 0) [l123, .num (.rat 1 2)] 0 typeErr :=
  list_ref_ratio libFrame_libStore [num 1, num 2, num 3] .nil rfl 1 2 (by decide +kernel) (by decide +kernel) 0
example : Raises libStore (libProc "list-tail" 0) [l123, .num (.rat 1 2)] 0 typeErr :=
  list_tail_ratio libFrame_libStore [num 1, num 2, num 3] .nil rfl 1 2 (by decide +kernel) (by decide +kernel) 0

/-- an INEXACT index `r` (binary32): NOT an error in general. `list-tail` makes the same walk with
the floating-point tests `r = 0`, `r - 1 = 0`, … (`listTailRealS`): it returns the sublist reached
when a test first succeeds and raises the `cdr` type error only if the list is exhausted first.
So `(list-tail '(1 2 3) 2.0)` returns `(3)`, as the real code does: an out-of-domain behaviour
(R7RS wants an exact index), characterised here, not an error. -/
theorem list_tail_inexact (h : LibFrame σ b) (x : Value) (r : Float32) (env : Nat) :
    ∃ σ', Applies σ (libProc "list-tail" b) [x, .num (.real r)] env (listTailRealS x r) σ' ∧ σ.Ext σ' :=
  papp_list_tail_real b x r σ env h rfl

theorem list_ref_inexact (h : LibFrame σ b) (x : Value) (r : Float32) (env : Nat) :
    ∃ σ', Applies σ (libProc "list-ref" b) [x, .num (.real r)] env ((listTailRealS x r).bind carS) σ' ∧ σ.Ext σ' :=
  papp_list_ref_of_tail b (papp_list_tail_real b x r) σ env h rfl

/-- for an index that passes the test after two decrements — `2.0` does, by IEEE arithmetic; the
kernel cannot compute with the opaque `Float32` — `(list-tail '(1 2 3) r)` is `(3)` -/
example (r : Float32) (h0 : (r == Float32.ofInt 0) = false) (h1 : (r - Float32.ofInt 1 == Float32.ofInt 0) = false)
    (h2 : (r - Float32.ofInt 1 - Float32.ofInt 1 == Float32.ofInt 0) = true) :
    ∃ σ', Applies libStore (libProc "list-tail" 0) [l123, .num (.real r)] 0 (.ok (Value.ofList [num 3])) σ' ∧
      libStore.Ext σ' := by
  have e : listTailRealS l123 r = .ok (Value.ofList [num 3]) := by
    simp only [l123, Value.ofList, listTailRealS, h0, h1, h2]; rfl
  exact e ▸ list_tail_inexact libFrame_libStore l123 r 0

/-! ## improper list arguments of the other list procedures -/

/-- `fold-right` over a list whose final tail is neither a pair nor `()`: the type error, and the
procedure argument `f` — any value whatsoever — is never applied (the recursion reaches the tail
before any application) -/
theorem fold_right_improper (h : LibFrame σ b) (f init : Value) (xs : List Value) (t : Value)
    (ht : isPair t = false) (hn : isNil t = false) (env : Nat) :
    Raises σ (libProc "fold-right" b) [f, init, withTail xs t] env typeErr :=
  .of_appliesE (papp_fold_right_improper b f init t ht hn xs σ env h rfl)

/-- `(fold-right cons '() '(1 2 . 3))` -/
example : Raises libStore (libProc "fold-right" 0) [.builtin .cons, .nil, l12d3] 0 typeErr :=
  fold_right_improper libFrame_libStore _ _ [num 1, num 2] (num 3) rfl rfl 0

/-- `fold-left` over such a list: `f` is applied to every element, in order (the chain `FoldLM`),
and then — unless `f` raised before — the `car` of the tail raises the type error: never a value -/
theorem fold_left_improper {K : Store → Prop} {f : Value} (h : LibFrame σ b) (hK : K σ) (init : Value)
    (xs : List Value) (t : Value) (ht : isPair t = false) (hn : isNil t = false)
    (hf : ProcArg b σ.frames.size K f (fun args => ∃ x ∈ xs, ∃ a, args = [x, a])) (env : Nat) :
    ∃ r e σ', Applies σ (libProc "fold-left" b) [f, init, withTail xs t] env (.error e) σ' ∧
      FoldLM (AppOf f) Store.DExt σ init xs r σ' ∧
      (e = match r with | .ok _ => typeErr | .error e' => e') ∧
      ∀ v σ'', ¬ Applies σ (libProc "fold-left" b) [f, init, withTail xs t] env (.ok v) σ'' := by
  obtain ⟨r, σ', h₁, h₂, _⟩ := fold_left_run t ht xs σ init ⟨hf, h, hK, Nat.le_refl _⟩ env
  have he : r.bind (foldEnd t) = .error (match (generalizing := false) r with | .ok _ => typeErr | .error e' => e') := by
    cases r <;> simp [Except.bind, foldEnd, hn]
  rw [he] at h₁
  exact ⟨r, _, σ', h₁, h₂, rfl, not_value_of_error h₁⟩

/-- `(fold-left cons '() '(1 2 . 3))` -/
example : ∃ e σ', Applies libStore (libProc "fold-left" 0) [.builtin .cons, .nil, l12d3] 0 (.error e) σ' := by
  obtain ⟨r, e, σ', h₁, _⟩ := fold_left_improper (K := fun _ => True) libFrame_libStore trivial .nil
    [num 1, num 2] (num 3) rfl rfl (procArg_cons 0 _ _ fun args ⟨x, _, a, e⟩ => e ▸ rfl) 0
  exact ⟨e, σ', h₁⟩

/-- FINDING (a value, not an error): `map` over an improper list applies `f` to every element in
order and returns the results ON THE SAME TAIL — `(map f '(1 2 . 3))` is `((f 1) (f 2) . 3)`, and
`(map f 5)` is `5`. R7RS: "it is an error" if the argument is not a list. -/
theorem map_improper {K : Store → Prop} {f : Value} (h : LibFrame σ b) (hK : K σ) (xs : List Value) (t : Value)
    (ht : isPair t = false) (hf : ProcArg b σ.frames.size K f (fun args => ∃ x ∈ xs, args = [x])) (env : Nat) :
    ∃ r σ', Applies σ (libProc "map" b) [f, withTail xs t] env (r.map (withTail · t)) σ' ∧
      MapM (AppOf f) Store.DExt σ xs r σ' :=
  let ⟨r, σ', h₁, h₂, _⟩ := map_run t ht xs σ ⟨hf, h, hK, Nat.le_refl _⟩ env
  ⟨r, σ', h₁, h₂⟩

/-- `(map tick '(1 2 . 3))` returns `(1 2 . 3)` -/
example : ∃ σ', Applies libStore (libProc "map" 0) [.builtin .tick, l12d3] 0 (.ok l12d3) σ' := by
  obtain ⟨r, σ', h₁, h₂⟩ := map_improper (K := fun _ => True) libFrame_libStore trivial [num 1, num 2] (num 3) rfl
    (procArg_tick 0 _ _ fun args ⟨x, _, e⟩ => e ▸ rfl) 0
  obtain ⟨rfl, _⟩ := mapM_tick h₂
  exact ⟨σ', h₁⟩

/-- FINDING (a value, not an error): `for-each` over an improper list applies `f` to every element
and stops silently at the tail; the value is `Void` -/
theorem for_each_improper {K : Store → Prop} {f : Value} (h : LibFrame σ b) (hK : K σ) (xs : List Value) (t : Value)
    (ht : isPair t = false) (hf : ProcArg b σ.frames.size K f (fun args => ∃ x ∈ xs, args = [x])) (env : Nat) :
    ∃ r σ', Applies σ (libProc "for-each" b) [f, withTail xs t] env (r.map fun _ => Value.void) σ' ∧
      MapM (AppOf f) Store.DExt σ xs r σ' :=
  let ⟨r, σ', h₁, h₂, _⟩ := for_each_run t ht xs σ ⟨hf, h, hK, Nat.le_refl _⟩ env
  ⟨r, σ', h₁, h₂⟩

example : ∃ σ', Applies libStore (libProc "for-each" 0) [.builtin .tick, l12d3] 0 (.ok .void) σ' := by
  obtain ⟨r, σ', h₁, h₂⟩ := for_each_improper (K := fun _ => True) libFrame_libStore trivial [num 1, num 2] (num 3)
    rfl (procArg_tick 0 _ _ fun args ⟨x, _, e⟩ => e ▸ rfl) 0
  obtain ⟨rfl, _⟩ := mapM_tick h₂
  exact ⟨σ', h₁⟩

/-- `append` with an argument other than the last that is not a proper list (an improper list or
a non-list): the type error of the `car` taken of its tail -/
theorem append_improper_nonlast (h : LibFrame σ b) (args : List Value) (hd : ¬ appendDomain args) (env : Nat) :
    Raises σ (libProc "append" b) args env typeErr := by
  have : AppliesE σ (libProc "append" b) args env (appendE args) := papp_append_all b args σ env h rfl
  rw [appendE_improper args hd] at this
  exact .of_appliesE this

/-- `(append '(1 2 . 3) '(1 2 3))` and `(append 5 '(1 2 3))` -/
example : Raises libStore (libProc "append" 0) [l12d3, l123] 0 typeErr :=
  append_improper_nonlast libFrame_libStore _ (fun hd => by cases hd.1) 0
example : Raises libStore (libProc "append" 0) [num 5, l123] 0 typeErr :=
  append_improper_nonlast libFrame_libStore _ (fun hd => by cases hd.1) 0

/-- `last-pair` of `()` or of any other non-pair: the `cdr` type error -/
theorem last_pair_nonpair (h : LibFrame σ b) (x : Value) (hx : isPair x = false) (env : Nat) :
    Raises σ (libProc "last-pair" b) [x] env typeErr :=
  .of_appliesE (lastPairS_nonpair hx ▸ papp_last_pair b x σ env h rfl)

example : Raises libStore (libProc "last-pair" 0) [.nil] 0 typeErr := last_pair_nonpair libFrame_libStore _ rfl 0

/-- … and of a non-empty improper list: its last pair, dotted tail included (a value) -/
theorem last_pair_improper (h : LibFrame σ b) (xs : List Value) (x t : Value) (ht : isPair t = false) (env : Nat) :
    ∃ σ', Applies σ (libProc "last-pair" b) [withTail (xs ++ [x]) t] env (.ok (.pair x t)) σ' ∧ σ.Ext σ' :=
  lastPairS_withTail xs x t ht ▸ papp_last_pair b _ σ env h rfl

example : ∃ σ', Applies libStore (libProc "last-pair" 0) [l12d3] 0 (.ok (.pair (num 2) (num 3))) σ' ∧
    libStore.Ext σ' :=
  last_pair_improper libFrame_libStore [num 1] (num 2) (num 3) rfl 0

/-- `memq` on an improper list none of whose elements matches: the walk reaches the tail and
`(car tail)` raises the type error -/
theorem memq_improper (h : LibFrame σ b) (obj : Value) (xs : List Value) (t : Value) (ht : isPair t = false)
    (hn : isNil t = false) (hno : ∀ a ∈ xs, Prim.eqv obj a = false) (env : Nat) :
    Raises σ (libProc "memq" b) [obj, withTail xs t] env typeErr := by
  have := papp_memq b obj (withTail xs t) σ env h rfl
  rw [memS_withTail_none obj xs t ht hno, hn] at this
  exact .of_appliesE this

theorem memv_improper (h : LibFrame σ b) (obj : Value) (xs : List Value) (t : Value) (ht : isPair t = false)
    (hn : isNil t = false) (hno : ∀ a ∈ xs, Prim.eqv obj a = false) (env : Nat) :
    Raises σ (libProc "memv" b) [obj, withTail xs t] env typeErr := by
  have := papp_memv b obj (withTail xs t) σ env h rfl
  rw [memS_withTail_none obj xs t ht hno, hn] at this
  exact .of_appliesE this

/-- `(memv 7 '(1 2 . 3))` -/
example : Raises libStore (libProc "memv" 0) [num 7, l12d3] 0 typeErr :=
  memv_improper libFrame_libStore (num 7) [num 1, num 2] (num 3) rfl rfl (by decide) 0
example : Raises libStore (libProc "memq" 0) [num 3, l12d3] 0 typeErr :=
  memq_improper libFrame_libStore (num 3) [num 1, num 2] (num 3) rfl rfl (by decide) 0

/-- … while a match before the tail is found as on a proper list: the sublist from the first
match on, whatever the final tail is (a value) -/
theorem memq_improper_found (h : LibFrame σ b) (obj : Value) (pre : List Value) (a : Value) (post : List Value)
    (t : Value) (hno : ∀ x ∈ pre, Prim.eqv obj x = false) (ha : Prim.eqv obj a = true) (env : Nat) :
    (∃ σ', Applies σ (libProc "memq" b) [obj, withTail (pre ++ a :: post) t] env (.ok (withTail (a :: post) t)) σ' ∧
      σ.Ext σ') ∧
    (∃ σ', Applies σ (libProc "memv" b) [obj, withTail (pre ++ a :: post) t] env (.ok (withTail (a :: post) t)) σ' ∧
      σ.Ext σ') :=
  ⟨memS_withTail_found obj pre a post t hno ha ▸ papp_memq b obj _ σ env h rfl,
   memS_withTail_found obj pre a post t hno ha ▸ papp_memv b obj _ σ env h rfl⟩

/-- `(memv 2 '(1 2 . 3))` is `(2 . 3)` -/
example : ∃ σ', Applies libStore (libProc "memv" 0) [num 2, l12d3] 0 (.ok (.pair (num 2) (num 3))) σ' ∧
    libStore.Ext σ' :=
  (memq_improper_found libFrame_libStore (num 2) [num 1] (num 2) [] (num 3) (by decide) (by decide) 0).2

/-- the walk of `list?` down an improper list ends with `#f` (a value, the right one) -/
theorem list_pred_improper (h : LibFrame σ b) (xs : List Value) (t : Value) (ht : isPair t = false)
    (hn : isNil t = false) (env : Nat) :
    ∃ σ', Applies σ (libProc "list?" b) [withTail xs t] env (.ok (.bool false)) σ' ∧ σ.Ext σ' := by
  exact isProperList_withTail xs t ht hn ▸ papp_list_pred b (withTail xs t) σ env h rfl

example : ∃ σ', Applies libStore (libProc "list?" 0) [l12d3] 0 (.ok (.bool false)) σ' ∧ libStore.Ext σ' :=
  list_pred_improper libFrame_libStore [num 1, num 2] (num 3) rfl rfl 0

end

end Ruschm.C11Errors
