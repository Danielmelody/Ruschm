/-
The equations of the transformer (`RuschmModel/Xform.lean`): what `toStatement` does on each shape of
datum — the dispatch on the head of a list form is unfolded here, once, into a core form (`formOf`), a
macro use (`useOf`) or a call (`callOf`) — and the successor equations of the functions it calls.
-/
import RuschmModel.Xform
import RuschmSpec.CoreSyntax
import RuschmProofs.MacroLemmas

namespace Ruschm

/-! ## the structural equality of trees is reflexive -/

mutual
theorem Expr.beq_refl : ∀ e : Expr, Expr.beq e e = true
  | .sym s l => by simp [Expr.beq]
  | .prim p l => by simp [Expr.beq]
  | .assign n e l => by simp [Expr.beq, Expr.beq_refl e]
  | .lambda lam l => by simp [Expr.beq, Lambda.beq_refl lam]
  | .call f as l => by simp [Expr.beq, Expr.beq_refl f, Expr.beqList_refl as]
  | .cond t c none l => by simp [Expr.beq, Expr.beq_refl t, Expr.beq_refl c]
  | .cond t c (some a) l => by simp [Expr.beq, Expr.beq_refl t, Expr.beq_refl c, Expr.beq_refl a]
  | .quote d l => by simp [Expr.beq, Datum.beq_refl]
  | .datum d l => by simp [Expr.beq, Datum.beq_refl]
theorem Expr.beqList_refl : ∀ es : List Expr, Expr.beqList es es = true
  | [] => by simp [Expr.beqList]
  | x :: xs => by simp [Expr.beqList, Expr.beq_refl x, Expr.beqList_refl xs]
theorem Lambda.beq_refl : ∀ l : Lambda, Lambda.beq l l = true
  | .mk f d b => by simp [Lambda.beq, Def.beqList_refl d, Expr.beqList_refl b]
theorem Def.beq_refl : ∀ d : Def, Def.beq d d = true
  | .mk n e l => by simp [Def.beq, Expr.beq_refl e]
theorem Def.beqList_refl : ∀ ds : List Def, Def.beqList ds ds = true
  | [] => by simp [Def.beqList]
  | x :: xs => by simp [Def.beqList, Def.beq_refl x, Def.beqList_refl xs]
end

theorem ite_cases {α : Sort _} {P : α → Prop} (c : Prop) [Decidable c] {a b : α} (ha : c → P a) (hb : ¬ c → P b) :
    P (if c then a else b) := by
  split
  · exact ha ‹c›
  · exact hb ‹¬ c›

theorem ite_of {α : Sort _} {P : α → Prop} (c : Prop) [Decidable c] {a b : α} (ha : P a) (hb : P b) :
    P (if c then a else b) :=
  ite_cases c (fun _ => ha) fun _ => hb

namespace Xform

/-! ## the monad -/

theorem XM.bind_def {α β} (m : XM α) (f : α → XM β) (s : SynEnv) :
    (m >>= f) s = match m s with
      | (.ok a, s') => f a s'
      | (.error e, s') => (.error e, s') := rfl
theorem XM.pure_def {α} (a : α) (s : SynEnv) : (pure a : XM α) s = (.ok a, s) := rfl

theorem getEnv_bind {β} (f : SynEnv → XM β) (s : SynEnv) : (getEnv >>= f) s = f s s := rfl

theorem bind_of_ok {α β} {m : XM α} {f : α → XM β} {s a s'} (h : m s = (.ok a, s')) :
    (m >>= f) s = f a s' := by
  rw [XM.bind_def, h]

theorem bind_of_error {α β} {m : XM α} {f : α → XM β} {s e s'} (h : m s = (.error e, s')) :
    (m >>= f) s = (.error e, s') := by
  rw [XM.bind_def, h]

theorem XM.bind_eq_ok {α β} {m : XM α} {f : α → XM β} {s b s'} (h : (m >>= f) s = (.ok b, s')) :
    ∃ a s₁, m s = (.ok a, s₁) ∧ f a s₁ = (.ok b, s') := by
  rcases hm : m s with ⟨e | a, s₁⟩
  · rw [bind_of_error hm] at h; cases h
  · exact ⟨a, s₁, rfl, by rwa [bind_of_ok hm] at h⟩

instance : LawfulMonad XM := LawfulMonad.mk'
  (id_map := fun x => funext fun s => by
    show (x >>= fun a => pure (id a)) s = x s
    rw [XM.bind_def]; rcases x s with ⟨_ | _, _⟩ <;> rfl)
  (pure_bind := fun _ _ => rfl)
  (bind_assoc := fun m g h => funext fun s => by
    rw [XM.bind_def]
    rcases hm : m s with ⟨e | a, s'⟩
    · rw [bind_of_error hm, bind_of_error hm]
    · rw [bind_of_ok hm, bind_of_ok hm]; rfl)

/-- what `inChild` does to the environment its argument returns -/
def popScope : SynEnv → SynEnv
  | _ :: s' => s'
  | [] => []

theorem inChild_run {α} (m : XM α) (s : SynEnv) :
    inChild m s = ((m ([] :: s)).1, popScope (m ([] :: s)).2) := by
  unfold inChild
  rcases m ([] :: s) with ⟨r, _ | ⟨c, s'⟩⟩ <;> rfl

theorem inChild_eq {α} {m : XM α} {s r c s'} (h : m ([] :: s) = (r, c :: s')) : inChild m s = (r, s') := by
  rw [inChild_run, h]; rfl

theorem inChild_ok {α} {m : XM α} {s a s'} (h : inChild m s = (.ok a, s')) : ∃ sb, m ([] :: s) = (.ok a, sb) := by
  rw [inChild_run] at h
  exact ⟨(m ([] :: s)).2, Prod.ext (Prod.mk.inj h).1 rfl⟩

/-! ## the keywords of the core forms -/

inductive Kw
  | define | defineLibrary | lambda | if_ | import_ | quote | set | defineSyntax
  deriving DecidableEq

/-- the tests `toStatement` makes on the head symbol of a list form, in its order -/
def kwCase {α} (kw : String) (f : Kw → α) (other : α) : α :=
  if kw = "define" then f .define
  else if kw = "define-library" then f .defineLibrary
  else if kw = "lambda" then f .lambda
  else if kw = "if" then f .if_
  else if kw = "import" then f .import_
  else if kw = "quote" then f .quote
  else if kw = "set!" then f .set
  else if kw = "define-syntax" then f .defineSyntax
  else other

def kwOf (kw : String) : Option Kw := kwCase kw some none

theorem kwCase_map {α β} (g : α → β) (kw : String) (f : Kw → α) (o : α) :
    g (kwCase kw f o) = kwCase kw (fun k => g (f k)) (g o) := by
  simp only [kwCase, apply_ite g]

theorem kwCase_eq {α} (kw : String) (f : Kw → α) (o : α) : kwCase kw f o = (kwOf kw).elim o f :=
  (kwCase_map (Option.elim · o f) kw some none).symm

def Kw.name : Kw → String
  | .define => "define" | .defineLibrary => "define-library" | .lambda => "lambda" | .if_ => "if"
  | .import_ => "import" | .quote => "quote" | .set => "set!" | .defineSyntax => "define-syntax"

theorem kwOf_name (k : Kw) : kwOf k.name = some k := by cases k <;> decide +kernel

theorem kwOf_define : kwOf "define" = some .define := kwOf_name .define
theorem kwOf_define_library : kwOf "define-library" = some .defineLibrary := kwOf_name .defineLibrary
theorem kwOf_lambda : kwOf "lambda" = some .lambda := kwOf_name .lambda
theorem kwOf_if : kwOf "if" = some .if_ := kwOf_name .if_
theorem kwOf_import : kwOf "import" = some .import_ := kwOf_name .import_
theorem kwOf_quote : kwOf "quote" = some .quote := kwOf_name .quote
theorem kwOf_set : kwOf "set!" = some .set := kwOf_name .set
theorem kwOf_define_syntax : kwOf "define-syntax" = some .defineSyntax := kwOf_name .defineSyntax

theorem Kw.name_mem (k : Kw) : k.name ∈ CoreSyntax.keywords := by
  cases k <;> simp only [Kw.name, CoreSyntax.keywords, List.mem_cons, true_or, or_true]

theorem kwCase_cases {α} {P : α → Prop} {kw : String} {f : Kw → α} {o : α}
    (hf : ∀ k, kw = k.name → P (f k)) (ho : kw ∉ CoreSyntax.keywords → P o) : P (kwCase kw f o) := by
  unfold kwCase
  refine ite_cases _ (hf .define) fun h₁ => ite_cases _ (hf .defineLibrary) fun h₂ =>
    ite_cases _ (hf .lambda) fun h₃ => ite_cases _ (hf .if_) fun h₄ => ite_cases _ (hf .import_) fun h₅ =>
    ite_cases _ (hf .quote) fun h₆ => ite_cases _ (hf .set) fun h₇ => ite_cases _ (hf .defineSyntax) fun h₈ => ho ?_
  simp only [CoreSyntax.keywords, List.mem_cons, List.mem_nil_iff, or_false, not_or]
  exact ⟨h₁, h₂, h₃, h₄, h₅, h₆, h₇, h₈⟩

def formOf (n : Nat) : Kw → List Datum → Loc → XM Statement
  | .define, args, l => do
    let (x, e) ← toDefinition n args
    pure (.definition (.mk x e l))
  | .defineLibrary, args, l => toLibrary n args l
  | .lambda, args, l => do
    let lam ← toLambda n args
    pure (.expr (.lambda lam l))
  | .if_, args, l => do
    let t ← need args.head?
    let t ← toExpr n t
    let c ← need (args.drop 1).head?
    let c ← toExpr n c
    let a ← match (args.drop 2).head? with
      | some ad => do let a ← toExpr n ad; pure (some a)
      | none => pure none
    pure (.expr (.cond t c a l))
  | .import_, args, l => do
    let sets ← args.mapM (toImportSet n)
    pure (.importDecl sets l)
  | .quote, args, l => do
    let q ← need args.head?
    pure (.expr (.quote q l))
  | .set, args, l => do
    let target ← need args.head?
    match target with
    | .sym name targetLoc => do
      let v ← need (args.drop 1).head?
      let v ← toExpr n v
      pure (.expr (.assign name v (targetLoc.orElse (fun _ => l))))
    | _ => fail (.syntax, none)
  | .defineSyntax, args, l => do
    let k ← need args.head?
    let k ← identOf k
    let spec ← need (args.drop 1).head?
    let rules ← lift (Macro.toRules k spec)
    defineSyntax k rules
    pure (.syntaxDef k rules l)

/-- `transform_procedure_call` from `toStatement` -/
def callOf (n : Nat) (a : Datum) (args : List Datum) (l : Loc) : XM Statement := do
  let c ← toCall n a args l
  pure (.expr c)

/-! ### the arms of `formOf` on the operands they look at -/

theorem formOf_if (n : Nat) (T C : Datum) (rest : List Datum) (l : Loc) :
    formOf n .if_ (T :: C :: rest) l = (do
      let t ← toExpr n T
      let c ← toExpr n C
      let a ← match rest.head? with
        | some ad => do let a ← toExpr n ad; pure (some a)
        | none => pure none
      pure (.expr (.cond t c a l))) := rfl

theorem formOf_set (n : Nat) (x : String) (xl : Loc) (V : Datum) (rest : List Datum) (l : Loc) :
    formOf n .set (.sym x xl :: V :: rest) l = (do
      let v ← toExpr n V
      pure (.expr (.assign x v (xl.orElse (fun _ => l))))) := rfl

theorem formOf_quote (n : Nat) (d : Datum) (rest : List Datum) (l : Loc) :
    formOf n .quote (d :: rest) l = pure (.expr (.quote d l)) := rfl

/-- the head `kw` is no core keyword: a use of the macro it names in the environment — expanded without
its keyword, located at the use, and transformed again with one unit of fuel less — or a call -/
def useOf (n : Nat) (kw : String) (lk : Loc) (b : Datum) (l : Loc) : XM Statement := do
  let env ← getEnv
  match env.get? kw with
  | some rules => do
    let expanded ← lift (Macro.transform (Macro.matchFuel (.pair (.sym kw lk) b l) + n) rules (b.withLoc l))
    toStatement n expanded
  | none => callOf n (.sym kw lk) b.elems l

/-! ## `toStatement` -/

theorem toStatement_zero (d : Datum) : toStatement 0 d = fail (.fuel, none) := by rw [toStatement]

theorem toStatement_ok_succ {n d s st s'} (h : toStatement n d s = (.ok st, s')) : ∃ m, n = m + 1 := by
  cases n with
  | zero => rw [toStatement_zero] at h; cases h
  | succ m => exact ⟨m, rfl⟩

theorem toStatement_prim (n : Nat) (p : Prim) (l : Loc) :
    toStatement (n+1) (.prim p l) = pure (.expr (.prim p l)) := by rw [toStatement]; rfl
theorem toStatement_sym (n : Nat) (x : String) (l : Loc) :
    toStatement (n+1) (.sym x l) = pure (.expr (.sym x l)) := by rw [toStatement]; rfl
theorem toStatement_vec (n : Nat) (xs : List Datum) (l : Loc) :
    toStatement (n+1) (.vec xs l) = pure (.expr (.datum (.vec xs l) l)) := by rw [toStatement]; rfl
theorem toStatement_nil (n : Nat) (l : Loc) : toStatement (n+1) (.nil l) = fail (.syntax, none) := by
  rw [toStatement]

theorem toStatement_dotted {a b : Datum} {l : Loc} (n : Nat) (hb : b.isListy = false) :
    toStatement (n+1) (.pair a b l) = fail (.syntax, none) := by
  rw [toStatement]
  cases b <;> first | rfl | cases hb

theorem toStatement_pair {a b : Datum} {l : Loc} (n : Nat) (hb : b.isListy = true) :
    toStatement (n+1) (.pair a b l) =
      match a with
      | .sym kw lk => kwCase kw (fun k => formOf n k b.elems l) (useOf n kw lk b l)
      | _ => callOf n a b.elems l := by
  rw [toStatement]
  dsimp only
  rw [Macro.popProper_pair, hb]
  cases a <;> rfl

theorem toStatement_form {b : Datum} {kw : String} {k : Kw} {lk l : Loc} (n : Nat)
    (hb : b.isListy = true) (hk : kwOf kw = some k) :
    toStatement (n+1) (.pair (.sym kw lk) b l) = formOf n k b.elems l := by
  rw [toStatement_pair n hb]
  simp only [kwCase_eq, hk, Option.elim]

theorem toStatement_use {b : Datum} {kw : String} {lk l : Loc} (n : Nat) (hb : b.isListy = true)
    (hk : kw ∉ CoreSyntax.keywords) : toStatement (n+1) (.pair (.sym kw lk) b l) = useOf n kw lk b l := by
  rw [toStatement_pair n hb]
  exact kwCase_cases (P := (· = _)) (fun k hk' => absurd (hk' ▸ k.name_mem) hk) fun _ => rfl

theorem useOf_run (n : Nat) (kw : String) (lk : Loc) (b : Datum) (l : Loc) (s : SynEnv) :
    useOf n kw lk b l s =
      match s.get? kw with
      | some rules =>
        match Macro.transform (Macro.matchFuel (.pair (.sym kw lk) b l) + n) rules (b.withLoc l) with
        | .ok d' => toStatement n d' s
        | .error e => (.error e, s)
      | none => callOf n (.sym kw lk) b.elems l s := by
  rw [useOf, getEnv_bind]
  cases s.get? kw with
  | none => rfl
  | some rules =>
    simp only
    cases Macro.transform (Macro.matchFuel (.pair (.sym kw lk) b l) + n) rules (b.withLoc l) <;> rfl

/-- an error of the expander leaves the environment unchanged -/
theorem toStatement_macro {b : Datum} {kw : String} {s : SynEnv} {rules : Macro.Rules} {lk l : Loc} (n : Nat)
    (hb : b.isListy = true) (hk : kw ∉ CoreSyntax.keywords) (hs : s.get? kw = some rules) :
    toStatement (n+1) (.pair (.sym kw lk) b l) s =
      match Macro.transform (Macro.matchFuel (.pair (.sym kw lk) b l) + n) rules (b.withLoc l) with
      | .ok d' => toStatement n d' s
      | .error e => (.error e, s) := by
  rw [toStatement_use n hb hk, useOf_run, hs]

theorem toStatement_call {a b : Datum} {s : SynEnv} {l : Loc} (n : Nat) (hb : b.isListy = true)
    (ha : ∀ kw lk, a = .sym kw lk → kw ∉ CoreSyntax.keywords ∧ s.get? kw = none) :
    toStatement (n+1) (.pair a b l) s = callOf n a b.elems l s := by
  cases a with
  | sym kw lk =>
    obtain ⟨hk, hs⟩ := ha kw lk rfl
    rw [toStatement_use n hb hk, useOf_run, hs]
  | _ => rw [toStatement_pair n hb]

/-! ## the companions of `toStatement` -/

theorem callOf_ok {n a args l s c s'} (h : toCall n a args l s = (.ok c, s')) :
    callOf n a args l s = (.ok (.expr c), s') := bind_of_ok h

theorem callOf_ok_inv {n a args l s st s'} (h : callOf n a args l s = (.ok st, s')) :
    ∃ c, toCall n a args l s = (.ok c, s') ∧ st = .expr c := by
  obtain ⟨c, _, hc, h⟩ := XM.bind_eq_ok h
  cases h; exact ⟨c, hc, rfl⟩

theorem toExpr_succ (n : Nat) (d : Datum) (s : SynEnv) :
    toExpr (n+1) d s = match toStatement n d s with
      | (.ok (.expr e), s') => (.ok e, s')
      | (.ok _, s') => (.error (.syntax, none), s')
      | (.error er, s') => (.error er, s') := by
  rw [toExpr]
  rcases hx : toStatement n d s with ⟨_ | st, s'⟩
  · exact bind_of_error hx
  · rw [bind_of_ok hx]; cases st <;> rfl

theorem toExpr_of_stmt {k d s e s'} (h : toStatement k d s = (.ok (.expr e), s')) :
    toExpr (k+1) d s = (.ok e, s') := by
  rw [toExpr_succ, h]

theorem toExpr_ok_inv {n d env e env'} (h : toExpr n d env = (.ok e, env')) :
    ∃ m, n = m + 1 ∧ toStatement m d env = (.ok (.expr e), env') := by
  cases n with
  | zero => rw [toExpr] at h; cases h
  | succ m =>
    rw [toExpr] at h
    obtain ⟨st, _, hst, h⟩ := XM.bind_eq_ok h
    cases st <;> cases h
    exact ⟨m, rfl, hst⟩

theorem toFormals_listy {d : Datum} (h : d.isListy = true) :
    toFormals d =
      match (d.spine.1 ++ d.spine.2.toList).find? (fun x => match x with | .sym _ _ => false | _ => true) with
      | some b => fail (.syntax, b.loc)
      | none => pure ⟨d.spine.1.map (fun x => match x with | .sym s _ => s | _ => ""),
                      d.spine.2.map (fun x => match x with | .sym s _ => s | _ => "")⟩ := by
  cases d <;> first | rfl | cases h

theorem toFormals_bad {d b : Datum} (h : d.isListy = true)
    (hb : (d.spine.1 ++ d.spine.2.toList).find? (fun x => match x with | .sym _ _ => false | _ => true) = some b) :
    toFormals d = fail (.syntax, b.loc) := by
  rw [toFormals_listy h, hb]

theorem toFormals_good {d : Datum} (h : d.isListy = true)
    (hb : (d.spine.1 ++ d.spine.2.toList).find? (fun x => match x with | .sym _ _ => false | _ => true) = none) :
    toFormals d = pure ⟨d.spine.1.map (fun x => match x with | .sym s _ => s | _ => ""),
                        d.spine.2.map (fun x => match x with | .sym s _ => s | _ => "")⟩ := by
  rw [toFormals_listy h, hb]

theorem toFormals_cases {M : XM Formals → Prop} (d : Datum) (ok : ∀ F, M (pure F))
    (err : ∀ b, b = d ∨ b ∈ d.spine.1 ++ d.spine.2.toList → M (fail (.syntax, b.loc))) : M (toFormals d) := by
  cases hl : d.isListy
  · cases d with
    | sym s l => exact ok _
    | prim p l => exact err _ (.inl rfl)
    | vec xs l => exact err _ (.inl rfl)
    | _ => cases hl
  · rw [toFormals_listy hl]
    split
    · exact err _ (.inr (List.mem_of_find?_eq_some ‹_›))
    · exact ok _

theorem toFormals_env (d : Datum) (s : SynEnv) : (toFormals d s).2 = s :=
  toFormals_cases (M := fun m => (m s).2 = s) d (fun _ => rfl) fun _ _ => rfl

theorem toLambda_nil (n : Nat) : toLambda (n+1) [] = fail (.syntax, none) := by rw [toLambda]; rfl

theorem toLambda_cons (n : Nat) (f : Datum) (body : List Datum) :
    toLambda (n+1) (f :: body) = (do
      let formals ← toFormals f
      let (defs, es) ← inChild (toBody n body [] [])
      pure (.mk formals defs es)) := by rw [toLambda]; rfl

theorem toDefinition_nil (n : Nat) : toDefinition (n+1) [] = fail (.syntax, none) := by
  rw [toDefinition]; rfl

theorem toDefinition_sym (n : Nat) (x : String) (lx : Loc) (args : List Datum) :
    toDefinition (n+1) (.sym x lx :: args) = (do
      let b ← need args.head?
      let b ← toExpr n b
      pure (x, b)) := by rw [toDefinition]; rfl

theorem toDefinition_var (n : Nat) (x : String) (lx : Loc) (b : Datum) (rest : List Datum) :
    toDefinition (n+1) (.sym x lx :: b :: rest) = (do
      let e ← toExpr n b
      pure (x, e)) := by rw [toDefinition_sym]; rfl

theorem formOf_define (n : Nat) (x : String) (lx : Loc) (b : Datum) (rest : List Datum) (l : Loc) :
    formOf (n+1) .define (.sym x lx :: b :: rest) l = (do
      let e ← toExpr n b
      pure (.definition (.mk x e l))) := by
  rw [formOf, toDefinition_var, bind_assoc]; rfl

theorem toDefinition_sugar (n : Nat) (f : String) (lf l₁ : Loc) (formalsD : Datum) (bs : List Datum) :
    toDefinition (n+1) (.pair (.sym f lf) formalsD l₁ :: bs) = (do
      let formals ← toFormals formalsD
      let (defs, body) ← toBody n bs [] []
      pure (f, Expr.lambda (.mk formals defs body) lf)) := by rw [toDefinition]; rfl

/-- four units of fuel go to the calls `toDefinition`, `toExpr`, `toStatement` and `toLambda` before the
body is reached -/
theorem toDefinition_lambda (j : Nat) (f : String) (lf l₂ l₃ l₄ : Loc) (formalsD bsD : Datum) (s : SynEnv) :
    toDefinition (j+4) [.sym f lf, .pair (.sym "lambda" l₂) (.pair formalsD bsD l₄) l₃] s =
      (do let formals ← toFormals formalsD
          let (defs, body) ← inChild (toBody j bsD.elems [] [])
          pure (f, Expr.lambda (.mk formals defs body) l₃)) s := by
  rw [toDefinition_var, XM.bind_def, toExpr_succ, toStatement_form _ rfl kwOf_lambda, formOf, Datum.elems_pair, toLambda_cons]
  simp only [XM.bind_def]
  rcases toFormals formalsD s with ⟨_ | fm, s'⟩
  · rfl
  · dsimp only
    rcases inChild (toBody j bsD.elems [] []) s' with ⟨_ | r, s''⟩ <;> rfl

theorem toStatement_define (k : Nat) (ld l l' : Loc) (a d : Datum) (s : SynEnv) :
    toStatement (k+1) (.pair (.sym "define" ld) (.pair a d l') l) s =
      (do let (n, e) ← toDefinition k (a :: d.elems)
          pure (Statement.definition (.mk n e l))) s := by
  rw [toStatement_form k rfl kwOf_define, Datum.elems_pair]; rfl

theorem toStatement_define_syntax {l₁ lm l : Loc} {rest spec : Datum} {more : List Datum} {m : String}
    {env : SynEnv} (n : Nat) (hrest : Macro.IsList rest (.sym m lm :: spec :: more)) :
    toStatement (n + 1) (.pair (.sym "define-syntax" l₁) rest l) env =
      match Macro.toRules m spec with
      | .ok r => (.ok (.syntaxDef m r l), env.define m r)
      | .error e => (.error e, env) := by
  rw [toStatement_form n hrest.isListy kwOf_define_syntax, hrest.elems]
  show (lift (Macro.toRules m spec) >>= _) env = _
  cases Macro.toRules m spec <;> rfl

theorem toStatement_define_syntax_bad_name {l₁ l : Loc} {rest k : Datum} {more : List Datum}
    {env : SynEnv} (n : Nat) (hrest : Macro.IsList rest (k :: more)) (hk : ∀ s l', k ≠ .sym s l') :
    toStatement (n + 1) (.pair (.sym "define-syntax" l₁) rest l) env = (.error (.syntax, k.loc), env) := by
  rw [toStatement_form n hrest.isListy kwOf_define_syntax, hrest.elems]
  cases k with
  | sym s l' => exact absurd rfl (hk s l')
  | _ => rfl

theorem toStatement_define_syntax_short {l₁ l : Loc} {rest : Datum} {args : List Datum}
    {env : SynEnv} (n : Nat) (hrest : Macro.IsList rest args)
    (hshort : args = [] ∨ ∃ m lm, args = [.sym m lm]) :
    toStatement (n + 1) (.pair (.sym "define-syntax" l₁) rest l) env = (.error (.syntax, none), env) := by
  rw [toStatement_form n hrest.isListy kwOf_define_syntax, hrest.elems]
  rcases hshort with rfl | ⟨m, lm, rfl⟩ <;> rfl

theorem toExprs_nil (n : Nat) : toExprs (n+1) [] = pure [] := by rw [toExprs]

theorem toExprs_cons (n : Nat) (d : Datum) (ds : List Datum) :
    toExprs (n+1) (d :: ds) = (do
      let e ← toExpr n d
      let es ← toExprs n ds
      pure (e :: es)) := by rw [toExprs]

theorem toBody_nil (k : Nat) (defs : List Def) (es : List Expr) (s : SynEnv) (h : es ≠ []) :
    toBody (k+1) [] defs es s = (.ok (defs.reverse, es.reverse), s) := by
  rw [toBody]
  cases es with
  | nil => exact absurd rfl h
  | cons e es => rfl

theorem toBody_nil_err (k : Nat) (defs : List Def) : toBody (k+1) [] defs [] = fail (.syntax, none) := by
  rw [toBody]; rfl

theorem toBody_def {k d ds df defs s s'} (h : toStatement k d s = (.ok (.definition df), s')) :
    toBody (k+1) (d :: ds) defs [] s = toBody k ds (df :: defs) [] s' := by
  rw [toBody, bind_of_ok h]; rfl

theorem toBody_expr {k d ds e defs es s s'} (h : toStatement k d s = (.ok (.expr e), s')) :
    toBody (k+1) (d :: ds) defs es s = toBody k ds defs (e :: es) s' := by
  rw [toBody, bind_of_ok h]

/-! ## export specs

The model's `match h with | .sym "rename" _` does not split by cases on the datum: the other branch comes
with "`h` is not of that form", not with `s ≠ "rename"`. `isRenameKw` is that test as a `Bool`
(`isRenameKw_sym`), `exportRename` the list branch of `toExportSpec` written with it. -/

def isRenameKw : Datum → Bool
  | .sym "rename" _ => true
  | _ => false

theorem isRenameKw_sym (s : String) (l : Loc) : isRenameKw (.sym s l) = decide (s = "rename") := by
  by_cases h : s = "rename"
  · subst h; rfl
  · rw [decide_eq_false h]; unfold isRenameKw; split
    · rename_i heq; cases heq; exact absurd rfl h
    · rfl

def exportRename (es : List Datum) (l : Loc) : XM ExportSpec := do
  let h ← need es.head?
  if isRenameKw h then do
    let a ← need (es.drop 1).head?
    let a ← identOf a
    let b ← need (es.drop 2).head?
    let b ← identOf b
    pure (.rename a b l)
  else fail (.syntax, none)

theorem toExportSpec_eq (d : Datum) :
    toExportSpec d = match d with
      | .sym s l => pure (.direct s l)
      | .prim _ _ | .vec _ _ => fail (.syntax, none)
      | .pair _ _ l | .nil l => exportRename d.elems l := by
  have list : (do
      let es := d.elems
      let h ← need es.head?
      match h with
      | .sym "rename" _ => do
        let a ← need (es.drop 1).head?
        let a ← identOf a
        let b ← need (es.drop 2).head?
        let b ← identOf b
        pure (ExportSpec.rename a b d.loc)
      | _ => fail (.syntax, none)) = exportRename d.elems d.loc := by
    unfold exportRename
    refine congrArg (need d.elems.head? >>= ·) (funext fun h => ?_)
    unfold isRenameKw
    split <;> rfl
  cases d <;> first | rfl | exact list

end Xform
end Ruschm
