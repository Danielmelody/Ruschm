/-
Property C18 — "Text entered at the REPL is evaluated as soon as the lines entered so far close
every list they opened, and not before; each submission prints the value of its last form (nothing
for definitions and unspecified values) or its error message, and the session then continues with
all earlier definitions intact. The transcript is therefore the same however a form is split
across lines, and equals evaluating the same forms one after another on one interpreter."

`Front.replStep` is one iteration of `run_with_interpreter` on a line `readline` returned,
`Front.replRun` a whole session from `Interpreter::new_with_stdlib()`. The bracket counter itself
is related to the reader in `RuschmProofs/C18Bracket.lean` (`bracket_agrees_with_reader`, same
namespace). Spec-side definitions (`submit`, `groups`, `session`, `transcript`) are in
`RuschmSpec/Front.lean`; only property theorems live here, helpers in `FrontLemmas.lean`.
-/
import RuschmProofs.FrontLemmas
import RuschmProofs.UnlocFront
import RuschmProofs.C18Bracket

namespace Ruschm.C18
open Ruschm Ruschm.Interp Ruschm.Front Ruschm.FrontSpec Ruschm.Text

/-- an empty line is ignored: nothing is evaluated, printed or appended to the pending text -/
theorem repl_empty_line_ignored (fuel : Nat) (rs : ReplState) (line : String) (h : line.isEmpty = true) :
    replStep fuel rs line = (rs, {}) := by
  rw [replStep_eq, h]; rfl

/-- A non-empty line: the text entered so far (the pending lines, each followed by a newline, and
this line) is submitted — evaluated through the library interface on the session's interpreter,
the pending text cleared — exactly when the bracket counter finds it closed; otherwise nothing is
evaluated (the interpreter state is unchanged, nothing is printed) and the line and a newline are
appended to the pending text. -/
theorem repl_submits_iff_closed (fuel : Nat) (rs : ReplState) (line : String) (h : line.isEmpty = false) :
    ((replStep fuel rs line).2.submitted = Bracket.closed (rs.pending ++ line).toList) ∧
    (Bracket.closed (rs.pending ++ line).toList = true →
      replStep fuel rs line =
        ({ st := (submit fuel rs.st (rs.pending ++ line)).1, pending := "" },
         (submit fuel rs.st (rs.pending ++ line)).2)) ∧
    (Bracket.closed (rs.pending ++ line).toList = false →
      replStep fuel rs line = ({ st := rs.st, pending := rs.pending ++ line ++ "\n" }, {})) := by
  rw [replStep_eq, h]
  cases hc : Bracket.closed (rs.pending ++ line).toList
  · exact ⟨rfl, ⟨fun h => (by cases h), fun _ => rfl⟩⟩
  · exact ⟨submit_submitted _ _ _, ⟨fun _ => rfl, fun h => (by cases h)⟩⟩

/-- … and "closed" means what the reader means by it: when the text entered so far tokenises, it
is submitted exactly when its tokens contain at least as many `)` as `(`, `#(`, `#u8(` — "the
lines entered so far close every list they opened" (`bracket_agrees_with_reader`). -/
theorem repl_submits_iff_depth (fuel : Nat) (rs : ReplState) (line : String) (h : line.isEmpty = false)
    (ts : List LToken) (hl : Lex.all (rs.pending ++ line).toList = (ts, none)) :
    (replStep fuel rs line).2.submitted = decide (depth (ts.map (·.tok)) ≤ 0) := by
  rw [(repl_submits_iff_closed fuel rs line h).1, bracket_agrees_with_reader _ ts hl]

/-- What a submission prints: the program's output, then — when the text evaluated — the value of
its LAST form in `display` notation and a newline, but nothing for a text whose last form has no
value (a definition, an import, a syntax definition; also an empty text) and nothing for the
unspecified value; when a form failed, the output up to there and the error message only. -/
theorem repl_prints_last_value (fuel : Nat) (st : State) (source : String) :
    let r := evalText fuel (clearOut st) source.toList
    (r.1 = .ok none → (submit fuel st source).2.stdout = outText r.2.store ∧ (submit fuel st source).2.err = none) ∧
    (r.1 = .ok (some .void) →
      (submit fuel st source).2.stdout = outText r.2.store ∧ (submit fuel st source).2.err = none) ∧
    (∀ v, v ≠ .void → r.1 = .ok (some v) →
      (submit fuel st source).2.stdout = outText r.2.store ++ (Prim.display r.2.store 100000 v ++ "\n") ∧
      (submit fuel st source).2.err = none) ∧
    (∀ e loc, r.1 = .error (e, loc) →
      (submit fuel st source).2.stdout = outText r.2.store ∧ (submit fuel st source).2.err = some e) := by
  intro r
  have hr : evalText fuel (clearOut st) source.toList = r := rfl
  rw [Session.submit_eq, hr]
  obtain ⟨⟨e, l⟩ | v, st'⟩ := r
  · refine ⟨fun h => ?_, fun h => ?_, fun _ _ h => ?_, fun _ _ h => ?_⟩ <;> cases h
    exact ⟨rfl, rfl⟩
  · refine ⟨fun h => ?_, fun h => ?_, fun v' hv h => ?_, fun _ _ h => ?_⟩ <;> cases h
    · exact ⟨String.append_empty, rfl⟩
    · exact ⟨String.append_empty, rfl⟩
    · exact ⟨congrArg (outText st'.store ++ ·) (echoOf_of_ne_void _ hv), rfl⟩

/-- The session continues, after a value and after an error alike, on the state the library
interface returned: the next line is handled on `(evalText …).2`, in which everything the
submission did before its failing form — definitions included — is kept. -/
theorem repl_continues_after_error (fuel : Nat) (rs : ReplState) (line : String) (h : line.isEmpty = false)
    (hc : Bracket.closed (rs.pending ++ line).toList = true) :
    (replStep fuel rs line).1.st = (evalText fuel (clearOut rs.st) (rs.pending ++ line).toList).2 ∧
    (replStep fuel rs line).1.pending = "" := by
  rw [((repl_submits_iff_closed fuel rs line h).2).1 hc]
  exact ⟨by rw [Session.submit_eq, Session.replOutcome_fst], rfl⟩

/-- A SESSION IS ITS LINE GROUPS. `replRun` evaluates exactly the maximal line groups
(`groups lines`: non-empty lines joined by newlines until the text is closed): the interpreter
ends in the state reached by submitting the groups one after another, the pending text is the
unfinished rest, the submitting steps print what the groups' submissions print, and the other
steps print nothing. -/
theorem repl_groups (fuel : Nat) (lines : List String) :
    (replRun fuel lines).1 =
      { st := (session fuel (withStdlib fuel false) (groups lines)).1, pending := unfinished lines } ∧
    (replRun fuel lines).2.filter (·.submitted) = (session fuel (withStdlib fuel false) (groups lines)).2 ∧
    ∀ o ∈ (replRun fuel lines).2, o.submitted = false → o.stdout = "" ∧ o.err = none :=
  replRun_groups fuel lines

/-- THE TRANSCRIPT EQUALS SEQUENTIAL EVALUATION. The final interpreter state, everything written to
standard output and the error messages of a session are those of evaluating the groups' texts
one after another with the library interface on ONE interpreter with the standard library
(`session`: each text from the state the previous one left, with the model's output buffer
cleared so that output is attributed to its submission). -/
theorem repl_eq_sequential (fuel : Nat) (lines : List String) :
    (replRun fuel lines).1.st = (session fuel (withStdlib fuel false) (groups lines)).1 ∧
    transcript (replRun fuel lines).2 = transcript (session fuel (withStdlib fuel false) (groups lines)).2 ∧
    errors (replRun fuel lines).2 = errors (session fuel (withStdlib fuel false) (groups lines)).2 :=
  replRun_sequential fuel lines

/-! ## splitting a form across lines -/

/-- SPLITTING IS A NEWLINE. Breaking a line in two at a point where the text entered so far is
not closed (both halves non-empty) submits the same groups as entering the line unbroken with a
newline at that point — so a form split across lines differs from the unsplit form only in the
blank between two of its tokens (a newline for whatever was there); empty lines do not count at
all (`repl_empty_line_ignored`). -/
theorem split_is_newline (pre ls : List String) (x y : String)
    (hx : x.isEmpty = false) (hy : y.isEmpty = false)
    (hc : Bracket.closed (unfinished pre ++ x).toList = false) :
    groups (pre ++ x :: y :: ls) = groups (pre ++ (x ++ "\n" ++ y) :: ls) ∧
    unfinished (pre ++ x :: y :: ls) = unfinished (pre ++ (x ++ "\n" ++ y) :: ls) := by
  unfold groups unfinished at *
  rw [groupsAux_append, groupsAux_append, groupsAux_split _ x y ls hx hy hc]
  exact ⟨rfl, rfl⟩

/-- SPLIT INVARIANCE. Two sessions whose groups are, one by one, texts with the same TOKENS — however
the tokens are spread over lines, indented or commented — print the same thing step by step
(each submission's output, echo and error message), hence have the same transcript and the same
error messages, and end in the same interpreter state up to the source positions recorded in
procedures. (`ReplOut` carries no locations; this is `evalText`'s value and error kind being a
function of the token list alone: `C17.outcome_depends_on_tokens_only`.) -/
theorem repl_split_invariance (fuel : Nat) (lines₁ lines₂ : List String)
    (h : SameTokens (groups lines₁) (groups lines₂)) :
    (replRun fuel lines₁).2.filter (·.submitted) = (replRun fuel lines₂).2.filter (·.submitted) ∧
    transcript (replRun fuel lines₁).2 = transcript (replRun fuel lines₂).2 ∧
    errors (replRun fuel lines₁).2 = errors (replRun fuel lines₂).2 ∧
    (replRun fuel lines₁).1.st.unloc = (replRun fuel lines₂).1.st.unloc := by
  obtain ⟨a0, a1, _⟩ := repl_groups fuel lines₁
  obtain ⟨b0, b1, _⟩ := repl_groups fuel lines₂
  obtain ⟨a1', a2, a3⟩ := repl_eq_sequential fuel lines₁
  obtain ⟨b1', b2, b3⟩ := repl_eq_sequential fuel lines₂
  obtain ⟨c, d⟩ := session_sameTokens fuel _ _ (withStdlib fuel false) (withStdlib fuel false) h rfl
  rw [a1, b1, a2, b2, a3, b3, a1', b1', c]
  exact ⟨rfl, rfl, rfl, d⟩

/-- a form written on one line or split across lines with any valid layout: the groups' texts
have the same tokens (`C06.lex_render`) -/
theorem rendered_same_tokens (ts : List Token) (l₁ l₂ : List (List Char))
    (hs : ∀ t ∈ ts, Text.SupportedTok t) (h₁ : Text.ValidLayout ts l₁) (h₂ : Text.ValidLayout ts l₂) :
    toksOf (String.ofList (Text.interleave ts l₁)).toList = toksOf (String.ofList (Text.interleave ts l₂)).toList :=
  (toksOf_interleave ts l₁ hs h₁).trans (toksOf_interleave ts l₂ hs h₂).symm

/-- SPLIT INVARIANCE, located form: with the same tokens at the same locations (in particular
with the same groups, e.g. sessions differing in empty lines only) the final interpreter states
are equal, not only equal up to recorded positions. -/
theorem repl_split_invariance_located (fuel : Nat) (lines₁ lines₂ : List String)
    (h : SameLocTokens (groups lines₁) (groups lines₂)) :
    (replRun fuel lines₁).1.st = (replRun fuel lines₂).1.st ∧
    transcript (replRun fuel lines₁).2 = transcript (replRun fuel lines₂).2 ∧
    errors (replRun fuel lines₁).2 = errors (replRun fuel lines₂).2 := by
  obtain ⟨a1, a2, a3⟩ := repl_eq_sequential fuel lines₁
  obtain ⟨b1, b2, b3⟩ := repl_eq_sequential fuel lines₂
  rw [a1, a2, a3, b1, b2, b3, session_congr fuel _ _ _ h]
  exact ⟨rfl, rfl, rfl⟩

section Example
/-- the same session with and without an empty line inside a form: same state, same transcript -/
example (fuel : Nat) :
    transcript (replRun fuel ["(car", "", "'(1 2))"]).2 = transcript (replRun fuel ["(car", "'(1 2))"]).2 := by
  have hg : groups ["(car", "", "'(1 2))"] = groups ["(car", "'(1 2))"] := by decide +kernel
  refine (repl_split_invariance_located fuel _ _ ?_).2.1
  rw [hg]
  -- closed by a term, a goal that mentions the closed `groups …` has it evaluated (`whnf`)
  generalize groups _ = gs
  exact sameLocTokens_refl gs

private def carToks : List Token :=
  [.lparen, .ident "car", .quote, .lparen, .prim (.int 1), .prim (.int 2), .rparen, .rparen]
private def carLayout₁ : List (List Char) := [[], [], "\n   ".toList, [], [], [' '], [], [], []]
private def carLayout₂ : List (List Char) := [[], [], [' '], [], [], [' '], [], [], []]

private theorem car_text₁ : String.ofList (Text.interleave carToks carLayout₁) = "(car\n   '(1 2))" :=
  Text.Samples.ofList_eq_of_bytes (by decide +kernel)
private theorem car_text₂ : String.ofList (Text.interleave carToks carLayout₂) = "(car '(1 2))" :=
  Text.Samples.ofList_eq_of_bytes (by decide +kernel)

/-- `(car '(1 2))` entered on one line, or on two lines with extra blanks: the same transcript -/
example (fuel : Nat) :
    transcript (replRun fuel ["(car", "   '(1 2))"]).2 = transcript (replRun fuel ["(car '(1 2))"]).2 := by
  have g1 : groups ["(car", "   '(1 2))"] = ["(car\n   '(1 2))"] := by decide +kernel
  have g2 : groups ["(car '(1 2))"] = ["(car '(1 2))"] := by decide +kernel
  have ht := rendered_same_tokens carToks carLayout₁ carLayout₂
    (Text.Samples.supportedTok_of_all _ (by decide +kernel)) (by decide +kernel) (by decide +kernel)
  rw [car_text₁, car_text₂] at ht
  exact (repl_split_invariance fuel _ _ (by rw [g1, g2]; exact ⟨ht, trivial⟩)).2.1

/-- breaking `(define (f x) (* x 2))` after `(define (f x)` -/
example : groups ["(define (f x)", "  (* x 2))", "(f 21)"] = groups ["(define (f x)\n  (* x 2))", "(f 21)"] :=
  (split_is_newline [] ["(f 21)"] "(define (f x)" "  (* x 2))" (by decide +kernel) (by decide +kernel) (by decide +kernel)).1

/-- `(define (f x)` / `` / `  (* x 2))` / `(f 21)`: two groups; the empty line is dropped -/
example : groups ["(define (f x)", "", "  (* x 2))", "(f 21)"] = ["(define (f x)\n  (* x 2))", "(f 21)"] := by
  decide +kernel
example : unfinished ["(f 21)", "(g", "1"] = "(g\n1\n" := by decide +kernel
end Example

end Ruschm.C18
