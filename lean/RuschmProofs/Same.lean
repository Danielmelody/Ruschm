/-
`Same α`: a Boolean test `same a b` with `same a b = true → a = b`, for the data of the model that have
no `DecidableEq`: a `Value` may hold a `Float32` or a closure, a `Store` holds values, core gives `Except`
none. The test may answer `false` on equal arguments (reals, closures, transformers), never `true` on
different ones. A closed equation between such terms is evaluated by the kernel:
`eq_of_same (by decide +kernel)`.
-/
import RuschmModel.Value

namespace Ruschm

class Same (α : Type) where
  same : α → α → Bool
  eq_of_same {a b : α} : same a b = true → a = b

export Same (same eq_of_same)

instance (priority := low) {α} [DecidableEq α] : Same α := ⟨fun a b => decide (a = b), of_decide_eq_true⟩

instance {α β} [Same α] [Same β] : Same (α × β) where
  same p q := same p.1 q.1 && same p.2 q.2
  eq_of_same h := by
    rw [Bool.and_eq_true] at h
    exact Prod.ext (eq_of_same h.1) (eq_of_same h.2)

instance {α} [Same α] : Same (Option α) where
  same
    | some a, some b => same a b
    | none, none => true
    | _, _ => false
  eq_of_same {a b} h := by
    cases a <;> cases b <;> first | rfl | cases h | exact congrArg some (eq_of_same h)

instance {ε α} [Same ε] [Same α] : Same (Except ε α) where
  same
    | .ok a, .ok b => same a b
    | .error a, .error b => same a b
    | _, _ => false
  eq_of_same {a b} h := by
    cases a <;> cases b <;>
      first | cases h | exact congrArg Except.ok (eq_of_same h) | exact congrArg Except.error (eq_of_same h)

def sameList {α} [Same α] : List α → List α → Bool
  | [], [] => true
  | a :: as, b :: bs => same a b && sameList as bs
  | _, _ => false

theorem eq_of_sameList {α} [Same α] : ∀ {as bs : List α}, sameList as bs = true → as = bs
  | [], [], _ => rfl
  | a :: as, b :: bs, h => by
    rw [sameList, Bool.and_eq_true] at h
    rw [eq_of_same h.1, eq_of_sameList h.2]
  | [], _ :: _, h => by cases h
  | _ :: _, [], h => by cases h

instance {α} [Same α] : Same (List α) := ⟨sameList, eq_of_sameList⟩

instance {α} [Same α] : Same (Array α) :=
  ⟨fun a b => sameList a.toList b.toList, fun h => Array.toList_inj.mp (eq_of_sameList h)⟩

/-! ## values and stores -/

/-- the values without reals, closures and transformers; their equality is decidable -/
inductive Plain where
  | int (i : Int)
  | rat (n d : Int)
  | bool (b : Bool)
  | char (c : Char)
  | str (s : String)
  | sym (s : String)
  | builtin (b : Builtin)
  | vec (id : Nat)
  | pair (a d : Plain)
  | nil
  | void
  deriving DecidableEq

def Plain.value : Plain → Value
  | .int i => .num (.int i)
  | .rat n d => .num (.rat n d)
  | .bool b => .bool b
  | .char c => .char c
  | .str s => .str s
  | .sym s => .sym s
  | .builtin b => .builtin b
  | .vec i => .vec i
  | .pair a d => .pair a.value d.value
  | .nil => .nil
  | .void => .void

def Value.plain? : Value → Option Plain
  | .num (.int i) => some (.int i)
  | .num (.rat n d) => some (.rat n d)
  | .bool b => some (.bool b)
  | .char c => some (.char c)
  | .str s => some (.str s)
  | .sym s => some (.sym s)
  | .builtin b => some (.builtin b)
  | .vec i => some (.vec i)
  | .pair a d => match a.plain?, d.plain? with
    | some a, some d => some (.pair a d)
    | _, _ => none
  | .nil => some .nil
  | .void => some .void
  | _ => none

theorem Value.plain?_value : ∀ {v : Value} {p : Plain}, v.plain? = some p → p.value = v
  | .num (.int _), _, h | .num (.rat ..), _, h | .bool _, _, h | .char _, _, h | .str _, _, h | .sym _, _, h
  | .builtin _, _, h | .vec _, _, h | .nil, _, h | .void, _, h => by cases h; rfl
  | .pair a d, p, h => by
    rw [Value.plain?] at h
    split at h
    · next ha hd => cases h; rw [Plain.value, Value.plain?_value ha, Value.plain?_value hd]
    · cases h
  | .num (.real _), _, h | .closure .., _, h | .transformer _, _, h => by cases h

instance : Same Value where
  same a b := a.plain?.isSome && a.plain? = b.plain?
  eq_of_same {a b} h := by
    rw [Bool.and_eq_true, decide_eq_true_eq, Option.isSome_iff_exists] at h
    obtain ⟨⟨p, ha⟩, hb⟩ := h
    exact (Value.plain?_value ha).symm.trans (Value.plain?_value (hb ▸ ha))

instance : Same Frame where
  same a b := same a.parent b.parent && same a.defs b.defs
  eq_of_same {a b} h := by
    cases a; cases b
    rw [Bool.and_eq_true] at h
    exact congr (congrArg Frame.mk (eq_of_same h.1)) (eq_of_same h.2)

instance : Same VecCell where
  same a b := same a.mutable b.mutable && same a.items b.items
  eq_of_same {a b} h := by
    cases a; cases b
    rw [Bool.and_eq_true] at h
    exact congr (congrArg VecCell.mk (eq_of_same h.1)) (eq_of_same h.2)

instance : Same Store where
  same a b := same a.frames b.frames && same a.vecs b.vecs && same a.out b.out && same a.ticks b.ticks &&
    same a.depth b.depth && same a.maxDepth b.maxDepth
  eq_of_same {a b} h := by
    cases a; cases b
    simp only [Bool.and_eq_true] at h
    obtain ⟨⟨⟨⟨⟨h₁, h₂⟩, h₃⟩, h₄⟩, h₅⟩, h₆⟩ := h
    simp only [Store.mk.injEq]
    exact ⟨eq_of_same h₁, eq_of_same h₂, eq_of_same h₃, eq_of_same h₄, eq_of_same h₅, eq_of_same h₆⟩

end Ruschm
