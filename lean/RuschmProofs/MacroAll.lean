/-
A property `P` of data that the data of a macro use have is kept by expansion: the matcher only
stores sub-data of the use in its table (`match_all`), and instantiating a template builds data at
the position of the use from the table (`subst_all`, `transformRules_all`). `SubstAll P σ` is for any `P`; it
stands in the namespace `HLoc` of its first instance.
-/
import RuschmProofs.MacroLemmas

namespace Ruschm.HLoc
open Macro

def SubstAll (P : Datum → Prop) (σ : Subst) : Prop :=
  ∀ e ∈ σ, P e.2.1 ∧ ∀ m ∈ e.2.2, P m

variable {P : Datum → Prop}

theorem SubstAll.nil : SubstAll P [] := nofun

theorem SubstAll.cons {e : String × Datum × List Datum} {σ : Subst} :
    SubstAll P (e :: σ) ↔ (P e.2.1 ∧ ∀ m ∈ e.2.2, P m) ∧ SubstAll P σ :=
  List.forall_mem_cons

theorem SubstAll.insert {σ : Subst} (h : SubstAll P σ) (v : String) {d : Datum} (hd : P d) :
    SubstAll P (σ.insert v (d, [])) := fun _ he =>
  (Assoc.mem_insert_of Subst.insert_nil Subst.insert_cons he).elim (· ▸ ⟨hd, nofun⟩) (h _)

theorem SubstAll.push {σ σ' : Subst} (h : SubstAll P σ) {v : String} {d : Datum} (hd : P d)
    (hp : σ.push? v d = some σ') : SubstAll P σ' := by
  rw [Subst.push?_eq] at hp
  obtain ⟨x, hx, rfl⟩ := Option.map_eq_some_iff.1 hp
  have hv := h _ (Subst.get?_mem hx)
  exact fun _ he => (Assoc.mem_insert_of Subst.insert_nil Subst.insert_cons he).elim
    (· ▸ ⟨hv.1, List.forall_mem_append.2 ⟨hv.2, by simpa using hd⟩⟩) (h _)

theorem SubstAll.pushAll {τ σ σ' : Subst} (hτ : SubstAll P τ) (hσ : SubstAll P σ)
    (h : pushAll τ σ = some σ') : SubstAll P σ' := by
  induction τ generalizing σ with
  | nil => cases h; exact hσ
  | cons e τ ih =>
    obtain ⟨he, hτ'⟩ := SubstAll.cons.1 hτ
    rw [pushAll_cons] at h
    obtain ⟨σ1, h1, h2⟩ := Option.bind_eq_some_iff.1 h
    exact ih hτ' (hσ.push he.1 h1) h2

theorem SubstAll.get {σ : Subst} (h : SubstAll P σ) {v : String} {x : Datum × List Datum}
    (hg : σ.get? v = some x) : P x.1 ∧ ∀ m ∈ x.2, P m :=
  h _ (Subst.get?_mem hg)

end Ruschm.HLoc

namespace Ruschm.Macro
open HLoc

variable {P : Datum → Prop}

/-! ## matching -/

/-- what `P` must satisfy for the matcher to keep it -/
structure ElemClosed (P : Datum → Prop) : Prop where
  spine : ∀ d, d.isListy = true → P d → (∀ x ∈ d.spine.1, P x) ∧ ∀ t, d.spine.2 = some t → P t
  vec : ∀ xs l, P (.vec xs l) → ∀ x ∈ xs, P x

/-- the field `spine` from what `Q`, the predicate of the rest of a list, says of a pair -/
theorem _root_.Ruschm.Datum.spine_all {Q : Datum → Prop} (pair : ∀ {a d l}, Q (.pair a d l) → P a ∧ Q d)
    (last : ∀ {d : Datum}, d.isListy = false → Q d → P d) :
    ∀ d : Datum, Q d → (∀ x ∈ d.spine.1, P x) ∧ ∀ t, d.spine.2 = some t → P t
  | .pair _ d _, h =>
    have ih := Datum.spine_all pair last d (pair h).2
    ⟨List.forall_mem_cons.2 ⟨(pair h).1, ih.1⟩, ih.2⟩
  | .nil _, _ => ⟨nofun, nofun⟩
  | .prim .., h | .sym .., h | .vec .., h => ⟨nofun, fun _ ht => Option.some.inj ht ▸ last rfl h⟩

theorem ElemClosed.spine_all (hP : ElemClosed P) {d : Datum} (hd : P d) :
    ∀ x ∈ d.spine.1 ++ d.spine.2.toList, P x := by
  cases hl : d.isListy
  · have atom : ∀ {d : Datum}, d.spine = ([], some d) → P d → ∀ x ∈ d.spine.1 ++ d.spine.2.toList, P x :=
      fun h hd x hx => by rw [h] at hx; exact (List.mem_singleton.1 hx) ▸ hd
    cases d <;> first | exact atom rfl hd | cases hl
  · intro x hx
    rcases List.mem_append.1 hx with hx | hx
    · exact (hP.spine d hl hd).1 x hx
    · exact (hP.spine d hl hd).2 x (by simpa using hx)

theorem ElemClosed.elems (hP : ElemClosed P) {d : Datum} (hd : P d) : ∀ x ∈ d.elems, P x :=
  d.elems_eq ▸ hP.spine_all hd

theorem match_all (hP : ElemClosed P) (lits : List String) (n : Nat) :
    (∀ p d σ, P d → SubstAll P σ →
      ∀ b σ', matchDatum n lits p d σ = .ok (b, σ') → SubstAll P σ') ∧
    (∀ ps ds mm σ, (∀ d ∈ ds, P d) → SubstAll P σ →
      ∀ b σ', matchStream n lits ps ds mm σ = .ok (b, σ') → SubstAll P σ') := by
  have ok : ∀ {σ : Subst} {b}, SubstAll P σ → ∀ b' σ', (.ok (b, σ) : Outcome) = .ok (b', σ') →
      SubstAll P σ' := fun hσ _ _ h => by cases h; exact hσ
  have err : ∀ {e : SErr} b σ', (.error e : Outcome) = .ok (b, σ') → SubstAll P σ' := nofun
  exact match_induct (lits := lits)
    (D := fun _ _ d σ r => P d → SubstAll P σ → ∀ b σ', r = .ok (b, σ') → SubstAll P σ')
    (S := fun _ _ ds _ σ r => (∀ d ∈ ds, P d) → SubstAll P σ →
      ∀ b σ', r = .ok (b, σ') → SubstAll P σ')
    (zeroD := fun _ _ => err) (zeroS := fun _ _ => err)
    (under := fun _ => ok) (ell := fun _ => ok) (lit := fun _ _ => ok) (prim := fun _ => ok)
    (var := fun _ hd hσ => ok (hσ.insert _ hd))
    (vec := fun ih hd => ih (hP.vec _ _ hd))
    (vecNo := fun _ _ => ok) (listNo := fun _ _ _ => ok)
    (listStop := fun _ hl ih _ hd => ih (hP.spine _ hl hd).1)
    (listTails := fun _ hl ih1 _ hld ih2 hd hσ =>
      ih2 ((hP.spine _ hl hd).2 _ hld) (ih1 (hP.spine _ hl hd).1 hσ _ _ rfl))
    (listEnd := fun _ hl ih _ _ hd hσ => ok (ih (hP.spine _ hl hd).1 hσ _ _ rfl))
    (listOdd := fun _ hl ih _ hd hσ => ok (ih (hP.spine _ hl hd).1 hσ _ _ rfl))
    (nilNil := fun _ => ok) (nilCons := fun _ => ok) (consNil := fun _ _ => ok)
    (ellNil := fun ih => ih)
    (stop := fun _ ih _ hds => ih (List.forall_mem_cons.1 hds).1)
    (step := fun _ ih1 ih2 hds hσ =>
      have ⟨hd, hds⟩ := List.forall_mem_cons.1 hds
      ih2 hds (ih1 hd hσ _ _ rfl))
    (ellOne := fun _ _ => err) (ellNone := fun _ _ => err) (ellErr := fun _ _ _ => err) (ellFail := fun _ _ => ok)
    (ellPanic := fun _ _ _ _ => err)
    (ellStay := fun ih1 hp ih2 _ hds hσ =>
      have ⟨hd, hds⟩ := List.forall_mem_cons.1 hds
      ih2 hds ((ih1 hd .nil _ _ rfl).pushAll hσ hp))
    (ellOver := fun ih1 hp ih2 ih3 hds hσ =>
      have ⟨hd, hds⟩ := List.forall_mem_cons.1 hds
      ih3 hds (ih2 hds ((ih1 hd .nil _ _ rfl).pushAll hσ hp) _ _ rfl)) n

/-! ## instantiating a template -/

/-- what makes the data built at `loc` from a template of the class `T` satisfy `P` -/
structure Builds (P : Datum → Prop) (T : Tmpl → Prop) (loc : Loc) : Prop where
  list : ∀ {es}, T (.list es) → ∀ e ∈ es, T e.1
  vec : ∀ {es}, T (.vec es) → ∀ e ∈ es, T e.1
  sym : ∀ v, P (.sym v loc)
  prim : ∀ {p}, T (.prim p) → P (.prim p loc)
  ofList : ∀ {ds}, (∀ d ∈ ds, P d) → P (Datum.ofList loc ds)
  mkVec : ∀ {ds}, (∀ d ∈ ds, P d) → P (.vec ds loc)

variable {T : Tmpl → Prop} {loc : Loc} {σ : Subst}

theorem substItem_all (hB : Builds P T loc) (hσ : SubstAll P σ) (i : Nat) :
    (∀ t, T t → ∀ d, substItem t σ i loc = some d → P d) ∧
    (∀ es, (∀ e ∈ es, T e.1) → ∀ ds, substItems es σ i loc = some ds → ∀ d ∈ ds, P d) := by
  apply Tmpl.ind
  · intro es ih ht d h
    obtain ⟨ds, hs, rfl⟩ := Option.map_eq_some_iff.1 h
    exact hB.ofList (ih (hB.list ht) ds hs)
  · intro es ih ht d h
    obtain ⟨ds, hs, rfl⟩ := Option.map_eq_some_iff.1 h
    exact hB.mkVec (ih (hB.vec ht) ds hs)
  · intro v _ d h
    rw [substItem] at h
    split at h
    · rename_i hg
      split at h
      · cases h
      · exact (hσ.get hg).2 d (List.mem_of_getElem? h)
    · cases h; exact hB.sym v
  · intro p ht d h
    cases h; exact hB.prim ht
  · intro _ ds h
    cases h; nofun
  · intro t b rest iht ihr ht ds h
    have ⟨ht, hr⟩ := List.forall_mem_cons.1 ht
    rw [substItems] at h
    split at h
    · cases h
    · rename_i d hd
      obtain ⟨r, hs, rfl⟩ := Option.map_eq_some_iff.1 h
      exact List.forall_mem_cons.2 ⟨iht ht d hd, ihr hr r hs⟩

theorem substItemLoop_all (hB : Builds P T loc) (hσ : SubstAll P σ) {t : Tmpl} (ht : T t) :
    ∀ (fuel i : Nat) (ds : List Datum), substItemLoop fuel t σ i loc = some ds → ∀ d ∈ ds, P d
  | 0, i, ds, h => by cases h
  | fuel + 1, i, ds, h => by
    rw [substItemLoop] at h
    split at h
    · cases h; nofun
    · rename_i d hd
      obtain ⟨r, hs, rfl⟩ := Option.map_eq_some_iff.1 h
      exact List.forall_mem_cons.2
        ⟨(substItem_all hB hσ i).1 t ht d hd, substItemLoop_all hB hσ ht fuel (i + 1) r hs⟩

theorem subst_all (hB : Builds P T loc) (hσ : SubstAll P σ) (fuel : Nat) :
    (∀ t, T t → ∀ d, subst fuel t σ loc = some d → P d) ∧
    (∀ es, (∀ e ∈ es, T e.1) → ∀ ds, substElems fuel es σ loc = some ds → ∀ d ∈ ds, P d) := by
  apply Tmpl.ind
  · intro es ih ht d h
    obtain ⟨ds, hs, rfl⟩ := Option.map_eq_some_iff.1 h
    exact hB.ofList (ih (hB.list ht) ds hs)
  · intro es ih ht d h
    obtain ⟨ds, hs, rfl⟩ := Option.map_eq_some_iff.1 h
    exact hB.mkVec (ih (hB.vec ht) ds hs)
  · intro v _ d h
    rw [subst] at h
    split at h
    · rename_i hg; cases h; exact (hσ.get hg).1
    · cases h; exact hB.sym v
  · intro p ht d h
    cases h; exact hB.prim ht
  · intro _ ds h
    cases h; nofun
  · intro t b rest iht ihr ht ds h
    have ⟨ht, hr⟩ := List.forall_mem_cons.1 ht
    cases b <;> rw [substElems] at h <;> split at h <;> cases h
    · rename_i d r h1 h3
      exact List.forall_mem_cons.2 ⟨iht ht d h1, ihr hr r h3⟩
    · rename_i first more r h1 h2 h3
      exact List.forall_mem_cons.2 ⟨iht ht first h1,
        List.forall_mem_append.2 ⟨substItemLoop_all hB hσ ht fuel 0 more h2, ihr hr r h3⟩⟩

theorem transformRules_all (hP : ElemClosed P) {fuel : Nat} {lits : List String} {use : Datum}
    (hB : Builds P T use.loc) (hu : P use) (rules : List (Pat × Tmpl)) (d : Datum)
    (hr : ∀ r ∈ rules, T r.2) (h : transformRules fuel lits rules use = .ok d) : P d := by
  rcases transformRules_cases fuel lits rules use with
    ⟨t, σ, ⟨pre, p, post, rfl, -, hm⟩, h2⟩ | ⟨-, h2⟩ | ⟨r, -, e, -, h2⟩
  · exact (subst_all hB ((match_all hP lits fuel).1 _ _ _ hu .nil _ _ hm) fuel).1 t (hr (p, t) (by simp)) _
      (fill_eq_ok_iff.1 (h2 ▸ h)).2
  · cases h2.symm.trans h
  · cases h2.symm.trans h

end Ruschm.Macro
