/-
Property C05 at the level of program TEXT — "derived forms behave as R7RS specifies, however nested":
a program text that nests `cond` in `let*` in `when` … evaluates exactly as its R7RS desugaring does,
whatever its layout.

Composition of two developments:
* `C05Nesting` (`nesting_interpreter_fuel`, `nesting_define`): for every surface program `s : Desugar.Surf`
  over the core forms and the nine derived forms, nested anywhere, the parser's transformer, in the
  interpreter's syntax environment and with the fuel the interpreter gives it, turns the printed form
  `Desugar.print s` into exactly the structural desugaring `Desugar.desugar s`;
* `C17More` (`written_program_evaluates_as_its_statements`): a text — any valid layout of the tokens of data
  that are a way of writing (`PrintsAs`) a list of statements — is read, transformed and evaluated by
  `Interpreter::eval` (`evalText`) as these statements one after another (`runStmts`).

Vocabulary (`RuschmProofs/SurfaceTextLemmas.lean`): `Item` (a top-level item: import declaration, surface
expression, `(define x s)`), `Item.print` (what one writes), `Item.stmt` (the DESUGARED statement),
`Item.WF` (side condition: `Desugar.ok`, the printed form carries no locations — implied by `plain s`: no
locations inside quoted data; `ImportSyntax.WF` for import sets), `surfaceToks` / `surfaceText` (tokens / text under a layout), `subst hole a c` (the context `c` with
`a` plugged into the places marked by the variable `hole`), `Defn d d'` (`d'` is the one-step R7RS
definition of the derived form `d`), `sepLayout`.

THE SYNTAX ENVIRONMENT.  `PrintsAs` is w.r.t. `stdEnv = [[], Interp.grammarScope]`.  This is, by `rfl`,
the syntax environment of `Interpreter::default()` (`Interp.default_`), and (`FrontLemmas.withStdlib_syn`)
that of `Interpreter::new_with_stdlib()` (`Interp.withStdlib`): importing libraries binds VALUES only, the
nine bundled derived forms are in the syntax environment from the start and no `(import (scheme base))` is
needed for them (`interpreter_syntax_environment` below).  The theorems are stated for every interpreter
state `st` with `st.syn = stdEnv`; no evaluation step changes `syn` (`evalAst_out`).

WHAT IS EQUAL (as in C17More): the outcome up to source locations (same value but for positions recorded
in closures' code, or same error KIND), the final state up to such positions, the output exactly; the run
stops at the first failing item.  What may differ is the location an error reports.
-/
import RuschmProofs.SurfaceTextLemmas
import RuschmProofs.C17More


namespace Ruschm.C05Text
open Ruschm Ruschm.Interp Ruschm.Front Ruschm.FrontSpec Ruschm.Xform Ruschm.Text Ruschm.Desugar
open Ruschm.ProgramText Ruschm.SurfaceText
open Ruschm.CoreSyntax (ident lst)

/- folded for the elaborator: it normalises the type of every fact it is handed, and a `sepLayout` of a closed
program would unfold to the length of its token list -/
attribute [local irreducible] sepLayout

/-! ## sample: the nested program of `C05Nesting`, after an import and a definition -/

/-- `(import (scheme base))
    (define f (lambda (z) (when z (or z 0))))
    (let* ((a 1) (b (or #f a))) (cond ((and a b) => (lambda (t) (when t (case (f b) ((1 2) 'small) (else 'big)))))
                                      ((begin a)) (else (unless a 0) b)))` -/
private def samplePgm : List Item :=
  [.import_ [.direct [.ident "scheme", .ident "base"] none],
   .define "f" (.lambda ["z"] none [.when_ (.var "z") [.or_ [.var "z", .lit (.int 0)]]]),
   .expr C05Nesting.sample]

/-- a Bool test for `Item.WF`, to be evaluated on closed items -/
private def wfItem : Item → Bool
  | .import_ sets => sets.all Samples.wfSet
  | .expr s | .define _ s => ok s && plain s

private theorem wf_of_all (l : List Item) (h : l.all wfItem = true) : ∀ i ∈ l, i.WF := by
  intro i hi
  have hi := List.all_eq_true.1 h i hi
  cases i with
  | import_ sets => exact Samples.wf_of_all sets hi
  | expr s => rw [wfItem, Bool.and_eq_true] at hi; exact ⟨hi.1, strip_print s hi.2⟩
  | define x s => rw [wfItem, Bool.and_eq_true] at hi; exact ⟨hi.1, strip_print s hi.2⟩

private theorem sample_wf : ∀ i ∈ samplePgm, i.WF := wf_of_all _ (by decide +kernel)

/-- every identifier is plain, every number fits -/
private theorem sample_sup : ∀ i ∈ samplePgm, SupportedD i.print :=
  Text.Samples.supported_of_all Item.print samplePgm (by decide +kernel)

private theorem layout_sep {sep : List Char}
    (h : isAtmos false sep = true ∧ isTrail false sep = true ∧ sep.isEmpty = false) {items : List Item}
    (hsup : ∀ i ∈ items, SupportedD i.print) :
    ValidLayout (surfaceToks items) (sepLayout sep (surfaceToks items)) :=
  validLayout_sep sep h.1 h.2.1 h.2.2 _ (List.forall_mem_map.2 hsup)

/-- one blank everywhere / one line end everywhere -/
private theorem sample_layouts :
    ValidLayout (surfaceToks samplePgm) (sepLayout [' '] (surfaceToks samplePgm)) ∧
    ValidLayout (surfaceToks samplePgm) (sepLayout ";c\n\t".toList (surfaceToks samplePgm)) :=
  ⟨layout_sep (by decide +kernel) sample_sup, layout_sep (by decide +kernel) sample_sup⟩

/-! ## 0. which syntax environment -/

/-- THE SYNTAX ENVIRONMENT OF THE INTERPRETER is `stdEnv = [[], grammarScope]` — an own, empty scope over the
scope of the nine bundled derived forms — both for `Interpreter::default()` (nothing imported) and for
`Interpreter::new_with_stdlib()` (after `(import (scheme base) (scheme write))`, with any fuel): imports bind
values, the derived forms are available without any import. -/
theorem interpreter_syntax_environment (fuel : Nat) (withHost : Bool) :
    (default_ withHost).syn = stdEnv ∧ (withStdlib fuel withHost).syn = stdEnv :=
  ⟨rfl, withStdlib_syn fuel withHost⟩

/-! ## 1. the printed surface program is a way of writing its desugaring -/

/-- A SURFACE PROGRAM PRINTS AS ITS DESUGARING.  For a list of top-level items — import declarations,
surface expressions `s`, definitions `(define x s)`, where every `s` is a program of the grammar
(`Desugar.ok s`: core forms and the nine derived forms with all their clause kinds, nested anywhere) whose
quoted data carry no locations — the printed data (`Item.print`: `Desugar.print s`, `(define x <print s>)`,
`(import set …)`) are a way of writing (`PrintsAs`, in the interpreter's syntax environment `stdEnv`) the
DESUGARED statements `Item.stmt`: the expression `desugar s`, the definition of `x` as `desugar s`, the
import declaration.  That is: each printed datum carries no location, and the transformer, with the fuel the
interpreter gives it (`xformFuel`), turns it into exactly that statement and leaves the syntax environment
as it was. -/
theorem surface_program_prints_as_its_desugaring (items : List Item) (hwf : ∀ i ∈ items, i.WF) :
    PrintsAs stdEnv (items.map Item.print) (items.map Item.stmt) := by
  induction items with
  | nil => trivial
  | cons i is ih => exact ⟨item_prints i (hwf i (by simp)), ih fun j hj => hwf j (by simp [hj])⟩

example : ∀ i ∈ samplePgm, i.WF := sample_wf

/-- THE SIDE CONDITION, STRUCTURALLY.  `Item.WF` asks that the printed form carries no source location.  This
holds as soon as the data EMBEDDED in the surface program (vector literals, quotations, the data of `case`
clauses — the only places where a `Surf` contains `Datum`s) carry none (`plain s`, decidable; always true of
what a programmer writes down): then `Desugar.print s` is location-free, and with `Desugar.ok s` the items
`s` and `(define x s)` are well formed. -/
theorem plain_program_is_well_formed (x : String) (s : Surf) (hok : ok s = true) (hp : plain s = true) :
    (Desugar.print s).strip = Desugar.print s ∧ (Item.expr s).WF ∧ (Item.define x s).WF :=
  ⟨strip_print s hp, ⟨hok, strip_print s hp⟩, ⟨hok, strip_print s hp⟩⟩

example : ok C05Nesting.sample = true ∧ plain C05Nesting.sample = true := by decide +kernel

/-! ## 2. the text of a surface program evaluates as its desugaring -/

/-- A SURFACE PROGRAM TEXT EVALUATES AS ITS DESUGARING.  Let `items` be a surface program as above whose
literals and identifiers the lexer can spell (`SupportedD`), written as a text under ANY valid layout of the
tokens of its printed forms (blanks, line ends, comments wherever they may stand).  `Interpreter::eval` on that
text (`evalText`), from any interpreter state `st` with the standard syntax environment, and the evaluation
of the DESUGARED statements one after another by `eval_ast` from `st`, stopping at the first error
(`runStmts`), with the same fuel, give: the same outcome up to locations — the value of the last item, or the
KIND of the first error; the same final state up to the positions stored in code; exactly the same output.
Moreover `evalText` on the text IS `runStmts` on statements `sts'` that equal the desugared statements up to
source locations.  So a program that nests `cond` in `let*` in `when` … evaluates exactly as its R7RS
desugaring does, whatever its layout; for every evaluation fuel (the reader's and the transformer's budgets
are internal and always sufficient). -/
theorem surface_program_text_evaluates_as_its_desugaring (fuel : Nat) (st : State) (hst : st.syn = stdEnv)
    (items : List Item) (layout : List (List Char))
    (hwf : ∀ i ∈ items, i.WF) (hsup : ∀ i ∈ items, SupportedD i.print)
    (hl : ValidLayout (surfaceToks items) layout) :
    (∃ sts', Statement.unlocList sts' = Statement.unlocList (items.map Item.stmt) ∧
      evalText fuel st (surfaceText items layout) = runStmts fuel st sts' none) ∧
    outcomeUnloc (evalText fuel st (surfaceText items layout)).1 =
      outcomeUnloc (runStmts fuel st (items.map Item.stmt) none).1 ∧
    (evalText fuel st (surfaceText items layout)).2.unloc = (runStmts fuel st (items.map Item.stmt) none).2.unloc ∧
    (evalText fuel st (surfaceText items layout)).2.store.out =
      (runStmts fuel st (items.map Item.stmt) none).2.store.out :=
  C17More.written_program_evaluates_as_its_statements fuel st _ _ layout
    (hst ▸ surface_program_prints_as_its_desugaring items hwf) (List.forall_mem_map.2 hsup) hl

example : (default_ false).syn = stdEnv ∧ (∀ i ∈ samplePgm, i.WF) ∧ (∀ i ∈ samplePgm, SupportedD i.print) ∧
    ValidLayout (surfaceToks samplePgm) (sepLayout [' '] (surfaceToks samplePgm)) :=
  ⟨rfl, sample_wf, sample_sup, sample_layouts.1⟩

/-- STOPPING AT THE FIRST FAILURE.  If the desugared statements of the items `pre` succeed from `st` (leaving
`st₁`) and the desugared statement of the next item `i` fails in `st₁` with an error of kind `e` (leaving
`st₂`), then `Interpreter::eval` on the text of `pre ++ i :: post`, under any valid layout, returns an error
of that kind; the state is `st₂` up to locations; the output is what `pre` and the completed effects of `i`
wrote (`part`) and nothing of `post`. -/
theorem surface_program_text_stops_at_first_failure (fuel : Nat) (st st₁ st₂ : State) (hst : st.syn = stdEnv)
    (pre post : List Item) (i : Item) (v : Option Value) (e : Err) (loc : Loc) (layout : List (List Char))
    (hwf : ∀ j ∈ pre ++ i :: post, j.WF) (hsup : ∀ j ∈ pre ++ i :: post, SupportedD j.print)
    (hl : ValidLayout (surfaceToks (pre ++ i :: post)) layout)
    (hpre : runStmts fuel st (pre.map Item.stmt) none = (.ok v, st₁))
    (hfail : evalAst fuel st₁ i.stmt = (.error (e, loc), st₂)) :
    (∃ loc', (evalText fuel st (surfaceText (pre ++ i :: post) layout)).1 = .error (e, loc')) ∧
    (evalText fuel st (surfaceText (pre ++ i :: post) layout)).2.unloc = st₂.unloc ∧
    ∃ part : List String, st₂.store.out = part ++ st₁.store.out ∧
      (evalText fuel st (surfaceText (pre ++ i :: post) layout)).2.store.out = part ++ st₁.store.out := by
  have h : SameRun _ _ := (surface_program_text_evaluates_as_its_desugaring fuel st hst _ layout hwf hsup hl).2
  rw [List.map_append, List.map_cons] at h
  exact stops_of_sameRun h hpre hfail

/-- the program `(1)` followed by the sample program, `pre = []` -/
private theorem sample_fail (st : State) : ∃ loc st₂,
    evalAst 2 st (Item.stmt (.expr (.call (.lit (.int 1)) []))) = (.error (.nonProcedure, loc), st₂) :=
  lit_call_fails st

example : (default_ false).syn = stdEnv ∧
    runStmts 2 (default_ false) (([] : List Item).map Item.stmt) none = (.ok none, default_ false) ∧
    (∃ loc st₂, evalAst 2 (default_ false) (Item.stmt (.expr (.call (.lit (.int 1)) []))) =
      (.error (.nonProcedure, loc), st₂)) ∧
    (∀ j ∈ [] ++ Item.expr (.call (.lit (.int 1)) []) :: samplePgm, j.WF) ∧
    (∀ j ∈ [] ++ Item.expr (.call (.lit (.int 1)) []) :: samplePgm, SupportedD j.print) :=
  ⟨rfl, rfl, sample_fail _, List.forall_mem_cons.2 ⟨⟨by decide, rfl⟩, sample_wf⟩,
    List.forall_mem_cons.2 ⟨⟨(by decide : fitsI32 1 = true), trivial⟩, sample_sup⟩⟩

/-! ## 3. the same through `ruschm FILE` -/

/-- `ruschm FILE` ON A SURFACE PROGRAM TEXT.  For a surface program `items` (import declarations first, if it
wants library procedures: `ruschm FILE` starts from `Interpreter::default()`, where nothing is imported)
written to a file under any valid layout: standard output is exactly what the DESUGARED statements, evaluated
one after another from the fresh interpreter and stopping at the first error, wrote; the exit status is 0
exactly when every desugared statement succeeded (`AllOk`), and then there is no diagnostic; otherwise it is
255, with one diagnostic whose error kind is that of the first failing desugared statement. -/
theorem cli_runs_the_desugared_statements (fuel : Nat) (items : List Item) (layout : List (List Char))
    (hwf : ∀ i ∈ items, i.WF) (hsup : ∀ i ∈ items, SupportedD i.print)
    (hl : ValidLayout (surfaceToks items) layout) :
    (cli fuel (some (String.ofList (surfaceText items layout)))).stdout =
      String.join (runStmts fuel (default_ false) (items.map Item.stmt) none).2.store.out.reverse ∧
    ((cli fuel (some (String.ofList (surfaceText items layout)))).exitCode = 0 ↔
      AllOk fuel (default_ false) (items.map Item.stmt)) ∧
    (∀ v, (runStmts fuel (default_ false) (items.map Item.stmt) none).1 = .ok v →
      (cli fuel (some (String.ofList (surfaceText items layout)))).exitCode = 0 ∧
      (cli fuel (some (String.ofList (surfaceText items layout)))).diag = none ∧
      (cli fuel (some (String.ofList (surfaceText items layout)))).errKind = none) ∧
    (∀ e loc, (runStmts fuel (default_ false) (items.map Item.stmt) none).1 = .error (e, loc) →
      (cli fuel (some (String.ofList (surfaceText items layout)))).exitCode = 255 ∧
      (cli fuel (some (String.ofList (surfaceText items layout)))).diag.isSome = true ∧
      (cli fuel (some (String.ofList (surfaceText items layout)))).errKind = some e) :=
  cli_of_runStmts
    (surface_program_text_evaluates_as_its_desugaring fuel (default_ false) rfl items layout hwf hsup hl).2

example : (∀ i ∈ samplePgm, i.WF) ∧ (∀ i ∈ samplePgm, SupportedD i.print) ∧
    ValidLayout (surfaceToks samplePgm) (sepLayout ";c\n\t".toList (surfaceToks samplePgm)) :=
  ⟨sample_wf, sample_sup, sample_layouts.2⟩

/-! ## 4. layout independence; a derived form equals its definition, in every context -/

/-- LAYOUT INDEPENDENCE OF SURFACE PROGRAMS.  Two valid layouts of the same surface program — different line
breaks, indentation, comments — give the same run through `Interpreter::eval`: the same outcome up to
locations, the same state up to locations, the same output (both are the run of the desugared statements). -/
theorem surface_layout_independent (fuel : Nat) (st : State) (hst : st.syn = stdEnv) (items : List Item)
    (l₁ l₂ : List (List Char)) (hwf : ∀ i ∈ items, i.WF) (hsup : ∀ i ∈ items, SupportedD i.print)
    (h₁ : ValidLayout (surfaceToks items) l₁) (h₂ : ValidLayout (surfaceToks items) l₂) :
    outcomeUnloc (evalText fuel st (surfaceText items l₁)).1 = outcomeUnloc (evalText fuel st (surfaceText items l₂)).1 ∧
    (evalText fuel st (surfaceText items l₁)).2.unloc = (evalText fuel st (surfaceText items l₂)).2.unloc ∧
    (evalText fuel st (surfaceText items l₁)).2.store.out = (evalText fuel st (surfaceText items l₂)).2.store.out :=
  SameRun.trans (surface_program_text_evaluates_as_its_desugaring fuel st hst items l₁ hwf hsup h₁).2
    (SameRun.symm (surface_program_text_evaluates_as_its_desugaring fuel st hst items l₂ hwf hsup h₂).2)

example : ValidLayout (surfaceToks samplePgm) (sepLayout [' '] (surfaceToks samplePgm)) ∧
    ValidLayout (surfaceToks samplePgm) (sepLayout ";c\n\t".toList (surfaceToks samplePgm)) := sample_layouts

/-- THE DESUGARING, NOT THE TOKENS, DETERMINES THE RUN.  Two surface programs — different texts, different
tokens — whose items have the same desugared statements, each written under any valid layout of its own
tokens, give the same run: same outcome up to locations, same state up to locations, same output. -/
theorem same_desugaring_same_run (fuel : Nat) (st : State) (hst : st.syn = stdEnv) (items₁ items₂ : List Item)
    (l₁ l₂ : List (List Char)) (hsame : items₁.map Item.stmt = items₂.map Item.stmt)
    (hwf₁ : ∀ i ∈ items₁, i.WF) (hwf₂ : ∀ i ∈ items₂, i.WF)
    (hsup₁ : ∀ i ∈ items₁, SupportedD i.print) (hsup₂ : ∀ i ∈ items₂, SupportedD i.print)
    (h₁ : ValidLayout (surfaceToks items₁) l₁) (h₂ : ValidLayout (surfaceToks items₂) l₂) :
    outcomeUnloc (evalText fuel st (surfaceText items₁ l₁)).1 = outcomeUnloc (evalText fuel st (surfaceText items₂ l₂)).1 ∧
    (evalText fuel st (surfaceText items₁ l₁)).2.unloc = (evalText fuel st (surfaceText items₂ l₂)).2.unloc ∧
    (evalText fuel st (surfaceText items₁ l₁)).2.store.out = (evalText fuel st (surfaceText items₂ l₂)).2.store.out :=
  SameRun.trans (hsame ▸ (surface_program_text_evaluates_as_its_desugaring fuel st hst items₁ l₁ hwf₁ hsup₁ h₁).2)
    (SameRun.symm (surface_program_text_evaluates_as_its_desugaring fuel st hst items₂ l₂ hwf₂ hsup₂ h₂).2)

/-- `(when t 1)` and `(if t (begin 1))`: different tokens, the same desugared statement; both well formed -/
example : [Item.expr (.when_ (.var "t") [.lit (.int 1)])].map Item.stmt =
      [Item.expr (.if2 (.var "t") (.begin_ [.lit (.int 1)]))].map Item.stmt ∧
    (Item.expr (.when_ (.var "t") [.lit (.int 1)])).WF ∧ (Item.expr (.if2 (.var "t") (.begin_ [.lit (.int 1)]))).WF ∧
    surfaceToks [Item.expr (.when_ (.var "t") [.lit (.int 1)])] ≠
      surfaceToks [Item.expr (.if2 (.var "t") (.begin_ [.lit (.int 1)]))] :=
  ⟨rfl, ⟨by decide +kernel, rfl⟩, ⟨by decide +kernel, rfl⟩, by decide +kernel⟩

/-- A DERIVED FORM DESUGARS AS ITS ONE-STEP DEFINITION.  For every rule `Defn d d'` — `begin`, `when`,
`unless`, `let`, the three rules of `let*`, of `and`, of `or`, the seven of `cond`, the eight of `case` (R7RS
7.3 as `grammar.sld` writes them; `d'` is surface syntax again and may use derived forms) — the derived form
`d` and its definition `d'` have the same desugaring.  All rules but two hold by `rfl` on `desugar` (see the
`example`s below): the general `let` needs an induction over its bindings (`rfl` for every explicit binding
list), the rules of `let*` need the bindings written out as `(x v)`. -/
theorem derived_form_desugars_as_its_definition (d d' : Surf) (h : Defn d d') : desugar d = desugar d' :=
  h.desugar_eq

example : Defn (.when_ (.var "t") [.var "a", .var "b"]) (.if2 (.var "t") (.begin_ [.var "a", .var "b"])) := .when_ _ _

section ByRfl
variable (t a b r : Surf) (x y : String) (body rs : List Surf) (bs : List Bind) (c : CondClause) (cs : List CondClause)
  (atoms : List Datum) (ccs : List CaseClause)
/-- `(begin e …)` = `((lambda () e …))` -/
example : desugar (.begin_ body) = desugar (.call (.lambda [] none body) []) := rfl
/-- `(when t e …)` = `(if t (begin e …))` -/
example : desugar (.when_ t body) = desugar (.if2 t (.begin_ body)) := rfl
/-- `(unless t e …)` = `(if (not t) (begin e …))` -/
example : desugar (.unless_ t body) = desugar (.if2 (.call (.var "not") [t]) (.begin_ body)) := rfl
/-- `(let ((x a) (y b)) e …)` = `((lambda (x y) e …) a b)` -/
example : desugar (.let_ [.mk x a, .mk y b] body) = desugar (.call (.lambda [x, y] none body) [a, b]) := rfl
/-- `(let* () e …)` = `(let () e …)`, `(let* ((x a)) e …)` = `(let ((x a)) e …)`,
`(let* ((x a) (y b) …) e …)` = `(let ((x a)) (let* ((y b) …) e …))` -/
example : desugar (.letstar [] body) = desugar (.let_ [] body) := rfl
example : desugar (.letstar [.mk x a] body) = desugar (.let_ [.mk x a] body) := rfl
example : desugar (.letstar (.mk x a :: .mk y b :: bs) body) =
    desugar (.let_ [.mk x a] [.letstar (.mk y b :: bs) body]) := rfl
/-- `(and)` = `#t`, `(and a)` = `a`, `(and a b …)` = `(if a (and b …) #f)` -/
example : desugar (.and_ []) = desugar (.lit (.bool true)) := rfl
example : desugar (.and_ [a]) = desugar a := rfl
example : desugar (.and_ (a :: b :: rs)) = desugar (.if3 a (.and_ (b :: rs)) (.lit (.bool false))) := rfl
/-- `(or)` = `#f`, `(or a)` = `a`, `(or a b …)` = `(let ((x a)) (if x x (or b …)))` -/
example : desugar (.or_ []) = desugar (.lit (.bool false)) := rfl
example : desugar (.or_ [a]) = desugar a := rfl
example : desugar (.or_ (a :: b :: rs)) =
    desugar (.let_ [.mk "x" a] [.if3 (.var "x") (.var "x") (.or_ (b :: rs))]) := rfl
/-- `cond`: `(else e …)`, `(t e …) c …`, `(t) c …`, `(t => r) c …` -/
example : desugar (.cond_ [.else_ body]) = desugar (.begin_ body) := rfl
example : desugar (.cond_ (.normal t body :: c :: cs)) = desugar (.if3 t (.begin_ body) (.cond_ (c :: cs))) := rfl
example : desugar (.cond_ (.test t :: c :: cs)) =
    desugar (.let_ [.mk "temp" t] [.if3 (.var "temp") (.var "temp") (.cond_ (c :: cs))]) := rfl
example : desugar (.cond_ (.arrow t r :: c :: cs)) =
    desugar (.let_ [.mk "temp" t] [.if3 (.var "temp") (.call r [.var "temp"]) (.cond_ (c :: cs))]) := rfl
/-- `case` with a variable key, and with a key that is a call -/
example : desugar (.case_ (.var x) [.normal atoms body]) =
    desugar (.if2 (.call (.var "memv") [.var x, .quote (lst atoms)]) (.begin_ body)) := rfl
example : desugar (.case_ (.call a rs) ccs) =
    desugar (.let_ [.mk "atom-key" (.call a rs)] [.case_ (.var "atom-key") ccs]) := rfl
end ByRfl

/-- THE DESUGARING IS COMPOSITIONAL: IN ANY CONTEXT.  Let `c` be a surface context — a surface program in
which the variable `hole` marks the places (any number, at any expression position of core and derived
forms, at any depth, under any binders) — and let `a`, `b` be surface expressions with the same desugaring
that are both, or both not, variables/literals (`atomic`: `case` treats such a key differently).  Then `c`
with `a` plugged in and `c` with `b` plugged in have the same desugaring. -/
theorem same_desugaring_in_context (hole : String) (a b : Surf) (hd : desugar a = desugar b)
    (hat : atomic a = atomic b) (c : Surf) : desugar (subst hole a c) = desugar (subst hole b c) :=
  desugar_subst hole a b hd hat c

/-- `(when t 1)` and `(if t (begin 1))` -/
example : desugar (.when_ (.var "t") [.lit (.int 1)]) = desugar (.if2 (.var "t") (.begin_ [.lit (.int 1)])) ∧
    atomic (.when_ (.var "t") [.lit (.int 1)]) = atomic (.if2 (.var "t") (.begin_ [.lit (.int 1)])) := ⟨rfl, rfl⟩

/-- the hypothesis on `atomic` is needed: `(and k)` and `k` have the same desugaring, but as the key of a
`case` the list `(and k)` is bound to `atom-key` first, the variable `k` is used as it is —
`(case (and k) (else 1))` and `(case k (else 1))` desugar differently (they evaluate alike). -/
example : desugar (.and_ [.var "k"]) = desugar (.var "k") ∧
    desugar (subst "_" (.and_ [.var "k"]) (.case_ (.var "_") [.else_ [.lit (.int 1)]])) ≠
      desugar (subst "_" (.var "k") (.case_ (.var "_") [.else_ [.lit (.int 1)]])) :=
  ⟨rfl, fun h => by
    simp [subst, substCase, substList, desugar, desugarCase, desugarList, atomic, letE, beginE, callE, lamE] at h⟩

/-- A DERIVED FORM EQUALS ITS DEFINITION, IN EVERY CONTEXT, AT THE LEVEL OF PROGRAM TEXT.  Let `ctx` be a
surface program (import declarations, expressions, definitions) with holes marked by the variable `hole`, `d` a
derived form and `d'` its one-step R7RS definition (`Defn d d'`, e.g. `(when t b …)` and `(if t (begin b …))`,
`(let ((x e)) b)` and `((lambda (x) b) e)`; `d'` not a bare variable or literal — only `(and a)`, `(or a)`,
`(cond (a))` with such an `a` are excluded).  Write the program with `d` in the holes as a text under any valid
layout, and the program with `d'` in the holes as a text under any valid layout of ITS tokens (both programs
being programs of the grammar, with spellable literals).  `Interpreter::eval` gives both texts the same run:
the same outcome up to locations (value, or kind of the first error), the same final state up to locations,
the same output — both desugar to the same core statements. -/
theorem derived_form_equals_its_definition_in_context (fuel : Nat) (st : State) (hst : st.syn = stdEnv)
    (hole : String) (d d' : Surf) (hdef : Defn d d') (hat : atomic d' = false) (ctx : List Item)
    (l₁ l₂ : List (List Char))
    (hwf₁ : ∀ i ∈ ctx.map (Item.subst hole d), i.WF) (hwf₂ : ∀ i ∈ ctx.map (Item.subst hole d'), i.WF)
    (hsup₁ : ∀ i ∈ ctx.map (Item.subst hole d), SupportedD i.print)
    (hsup₂ : ∀ i ∈ ctx.map (Item.subst hole d'), SupportedD i.print)
    (h₁ : ValidLayout (surfaceToks (ctx.map (Item.subst hole d))) l₁)
    (h₂ : ValidLayout (surfaceToks (ctx.map (Item.subst hole d'))) l₂) :
    outcomeUnloc (evalText fuel st (surfaceText (ctx.map (Item.subst hole d)) l₁)).1 =
      outcomeUnloc (evalText fuel st (surfaceText (ctx.map (Item.subst hole d')) l₂)).1 ∧
    (evalText fuel st (surfaceText (ctx.map (Item.subst hole d)) l₁)).2.unloc =
      (evalText fuel st (surfaceText (ctx.map (Item.subst hole d')) l₂)).2.unloc ∧
    (evalText fuel st (surfaceText (ctx.map (Item.subst hole d)) l₁)).2.store.out =
      (evalText fuel st (surfaceText (ctx.map (Item.subst hole d')) l₂)).2.store.out :=
  same_desugaring_same_run fuel st hst _ _ l₁ l₂
    (stmt_subst hole d d' hdef.desugar_eq (by rw [hdef.atomic_left, hat]) ctx) hwf₁ hwf₂ hsup₁ hsup₂ h₁ h₂

/-- … and through `ruschm FILE`: the two files give the same standard output, the same exit status and the
same error kind. -/
theorem cli_derived_form_equals_its_definition_in_context (fuel : Nat)
    (hole : String) (d d' : Surf) (hdef : Defn d d') (hat : atomic d' = false) (ctx : List Item)
    (l₁ l₂ : List (List Char))
    (hwf₁ : ∀ i ∈ ctx.map (Item.subst hole d), i.WF) (hwf₂ : ∀ i ∈ ctx.map (Item.subst hole d'), i.WF)
    (hsup₁ : ∀ i ∈ ctx.map (Item.subst hole d), SupportedD i.print)
    (hsup₂ : ∀ i ∈ ctx.map (Item.subst hole d'), SupportedD i.print)
    (h₁ : ValidLayout (surfaceToks (ctx.map (Item.subst hole d))) l₁)
    (h₂ : ValidLayout (surfaceToks (ctx.map (Item.subst hole d'))) l₂) :
    (cli fuel (some (String.ofList (surfaceText (ctx.map (Item.subst hole d)) l₁)))).stdout =
      (cli fuel (some (String.ofList (surfaceText (ctx.map (Item.subst hole d')) l₂)))).stdout ∧
    (cli fuel (some (String.ofList (surfaceText (ctx.map (Item.subst hole d)) l₁)))).exitCode =
      (cli fuel (some (String.ofList (surfaceText (ctx.map (Item.subst hole d')) l₂)))).exitCode ∧
    (cli fuel (some (String.ofList (surfaceText (ctx.map (Item.subst hole d)) l₁)))).errKind =
      (cli fuel (some (String.ofList (surfaceText (ctx.map (Item.subst hole d')) l₂)))).errKind := by
  obtain ⟨a, b, c, _⟩ := cli_congr_of_sameRun_text
    (derived_form_equals_its_definition_in_context fuel (default_ false) rfl hole d d' hdef hat ctx l₁ l₂
      hwf₁ hwf₂ hsup₁ hsup₂ h₁ h₂)
  exact ⟨a, b, c⟩

/-! ### the sample program as a context -/

/-- the sample program with a hole for the body of `f`: `(define f (lambda (z) _))` -/
private def sampleCtx : List Item :=
  [.import_ [.direct [.ident "scheme", .ident "base"] none],
   .define "f" (.lambda ["z"] none [.var "_"]),
   .expr C05Nesting.sample]

/-- `(when z (or z 0))` and its definition `(if z (begin (or z 0)))` -/
private def sampleD : Surf := .when_ (.var "z") [.or_ [.var "z", .lit (.int 0)]]
private def sampleD' : Surf := .if2 (.var "z") (.begin_ [.or_ [.var "z", .lit (.int 0)]])

private theorem sampleCtx_plug : sampleCtx.map (Item.subst "_" sampleD) = samplePgm := by
  with_unfolding_all rfl

private theorem sample_wf' : ∀ i ∈ sampleCtx.map (Item.subst "_" sampleD'), i.WF := wf_of_all _ (by decide +kernel)

private theorem sample_sup'' : ∀ i ∈ sampleCtx.map (Item.subst "_" sampleD'), SupportedD i.print :=
  Text.Samples.supported_of_all Item.print _ (by decide +kernel)

/-- the hypotheses of `derived_form_equals_its_definition_in_context` hold for the sample program (the
nested program of `C05Nesting` after an import and the definition of `f`), the `when` form in the body of
`f`, the state of a fresh interpreter, one blank between the tokens of the first text and a comment and a
line end between those of the second -/
example : (default_ false).syn = stdEnv ∧ Defn sampleD sampleD' ∧ atomic sampleD' = false ∧
    sampleCtx.map (Item.subst "_" sampleD) = samplePgm ∧
    (∀ i ∈ sampleCtx.map (Item.subst "_" sampleD), i.WF) ∧ (∀ i ∈ sampleCtx.map (Item.subst "_" sampleD'), i.WF) ∧
    (∀ i ∈ sampleCtx.map (Item.subst "_" sampleD), SupportedD i.print) ∧
    (∀ i ∈ sampleCtx.map (Item.subst "_" sampleD'), SupportedD i.print) ∧
    ValidLayout (surfaceToks (sampleCtx.map (Item.subst "_" sampleD)))
      (sepLayout [' '] (surfaceToks (sampleCtx.map (Item.subst "_" sampleD)))) ∧
    ValidLayout (surfaceToks (sampleCtx.map (Item.subst "_" sampleD')))
      (sepLayout ";c\n".toList (surfaceToks (sampleCtx.map (Item.subst "_" sampleD')))) := by
  rw [sampleCtx_plug]
  exact ⟨rfl, .when_ _ _, rfl, rfl, sample_wf, sample_wf', sample_sup, sample_sup'', sample_layouts.1,
    layout_sep (by decide +kernel) sample_sup''⟩

/-! ### end to end on a concrete text -/

/-- `(define y (or #f (and 1 2)))
    (let* ((a y) (b (or #f a))) (cond ((and a b) => (lambda (t) (when t 7))) (else 0)))`:
needs no library procedure -/
private def small : List Item :=
  [.define "y" (.or_ [.lit (.bool false), .and_ [.lit (.int 1), .lit (.int 2)]]),
   .expr (.letstar [.mk "a" (.var "y"), .mk "b" (.or_ [.lit (.bool false), .var "a"])]
     [.cond_ [.arrow (.and_ [.var "a", .var "b"]) (.lambda ["t"] none [.when_ (.var "t") [.lit (.int 7)]]),
              .else_ [.lit (.int 0)]]])]

private def smallText : String :=
  " ( define y ( or #f ( and 1 2 ) ) ) ( let* ( ( a y ) ( b ( or #f a ) ) ) ( cond ( ( and a b ) => ( lambda ( t ) ( when t 7 ) ) ) ( else 0 ) ) ) "

private theorem small_text : surfaceText small (sepLayout [' '] (surfaceToks small)) = smallText.toList :=
  Text.Samples.eq_toList_of_bytes (by decide +kernel)

/-- the DESUGARED statements, evaluated by the model from the fresh interpreter, give 7 -/
private theorem small_runs : (runStmts 60 (default_ false) (small.map Item.stmt) none).1 = .ok (some (.num (.int 7))) :=
  eq_of_same (by decide +kernel)

private theorem small_wf : ∀ i ∈ small, i.WF := wf_of_all _ (by decide +kernel)

private theorem small_sup : ∀ i ∈ small, SupportedD i.print :=
  Text.Samples.supported_of_all Item.print small (by decide +kernel)

/-- the theorems applied to a concrete text: `Interpreter::eval` on it returns the value 7 (what its
desugaring evaluates to), and `ruschm FILE` exits with status 0 and no diagnostic -/
example : (∃ v, (evalText 60 (default_ false) smallText.toList).1 = .ok v ∧
      outcomeUnloc (.ok v) = outcomeUnloc (.ok (some (.num (.int 7))))) ∧
    (cli 60 (some smallText)).exitCode = 0 ∧ (cli 60 (some smallText)).diag = none := by
  have hl : ValidLayout (surfaceToks small) (sepLayout [' '] (surfaceToks small)) :=
    layout_sep (by decide +kernel) small_sup
  obtain ⟨_, h1, _, _⟩ := surface_program_text_evaluates_as_its_desugaring 60 (default_ false) rfl small
    (sepLayout [' '] (surfaceToks small)) small_wf small_sup hl
  obtain ⟨_, _, c3, _⟩ := cli_runs_the_desugared_statements 60 small (sepLayout [' '] (surfaceToks small))
    small_wf small_sup hl
  rw [small_text] at h1 c3
  rw [small_runs] at h1
  have hc := c3 _ small_runs
  simp only [String.ofList_toList] at hc
  refine ⟨?_, hc.1, hc.2.1⟩
  cases hx : (evalText 60 (default_ false) smallText.toList).1 with
  | ok v => exact ⟨v, rfl, hx ▸ h1⟩
  | error e => rw [hx] at h1; obtain ⟨k, l⟩ := e; cases h1

end Ruschm.C05Text
