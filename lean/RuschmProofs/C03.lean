/-
Property C03 — bindings, closures and vectors as objects with identity.

"set! changes the one binding that lexical scoping designates, and the change is seen by every
closure that shares that binding and by no other; each procedure call creates fresh bindings, so
closures from different calls never interfere. Vectors are objects with identity: all aliases of
a vector (variables, arguments, elements of lists or other vectors, captured references) observe
every vector-set!, distinct vectors never do, and literal vectors reject mutation."

Only property theorems live here (each is audited with `#print axioms`); helper lemmas are in
`RuschmProofs/StoreLemmas.lean`, vocabulary in `RuschmSpec/Store.lean`:
`Store.chain σ ρ` (the lexical scope of frame `ρ`), `Store.binding σ r x` / `Store.definesAt`
(the bindings as a finite map), `Store.SameExceptBinding`, `Store.SameExceptCell`
("differs exactly at"), `Store.Grows` ("only ever appends"), `Store.WF`, `Store.AllocIn`.

How the model represents the things the property talks about.
* A *binding* is a pair (frame id, name); a closure is `.closure lam ρ` and sees exactly the
  bindings of `Store.chain σ ρ`. Two closures *share* the binding of `x` iff `resolve` sends
  them to the same frame.
* A *vector object* is a cell id; every alias of a vector — wherever it is stored: a variable,
  an argument, a list element, an element of another vector, a closure's frame — is the value
  `.vec id` with the same `id`. `Value` offers no way to copy a cell: copying a value (pairs are
  copied structurally, as the Rust deep-copies boxes) copies the *reference*.
* Pairs have no identity (`eqv?` of two non-empty pairs is always `#f`): see `eqv_vector_identity`.

Index. 1 `set_locality`; 2 `set_visibility`, `define_visibility`; 3 `applyScheme_alloc`,
`frames_monotone_data`, `frames_monotone`, `fresh_frame_per_call`, `scoping_forms`;
4 `vector_set_outcome`, `vector_set_one_cell`, `vector_ref_reads_cell`, `vec_alias`,
`alias_transport`, `alloc_fresh`, `literal_vector_immutable`, `immutable_cells_never_change`,
`cells_only_from_allocators`; 5 `store_wf_data`, `store_wf_invariant`; 6 `eqv_vector_identity`.
All are proved at full strength (none needed weakening); `set_visibility`/`define_visibility`
need no well-formedness hypothesis because `lookupAux`/`resolveAux` guard `p < ρ` themselves.
-/
import RuschmProofs.StoreLemmas

namespace Ruschm.C03
open Ruschm Ruschm.Eval


/-! ## 1. `set!` changes the one binding that lexical scoping designates -/

/-- `set!` succeeds iff some frame on the chain of `ρ` defines `x`; it then writes to the
*first* such frame `r` and the new store differs from the old one exactly in the value that
frame `r` holds for `x` (every other frame, every other name of `r`, `r`'s parent, all vectors,
output, ticks and depth are unchanged). Otherwise it reports `false` and the store is unchanged. -/
theorem set_locality (σ : Store) (ρ : Nat) (x : String) (v : Value) :
    (∀ r, σ.resolve ρ x = some r →
        r ∈ σ.chain ρ ∧ (σ.chain ρ).find? (fun r => σ.definesAt r x) = some r ∧
        σ.definesAt r x = true ∧
        σ.set ρ x v = (true, σ.define r x v) ∧
        Store.SameExceptBinding σ (σ.define r x v) r x ∧
        (σ.define r x v).binding r x = some v) ∧
    (σ.resolve ρ x = none →
        (∀ r ∈ σ.chain ρ, σ.definesAt r x = false) ∧ σ.set ρ x v = (false, σ)) ∧
    ((σ.set ρ x v).1 = true ↔ ∃ r ∈ σ.chain ρ, σ.definesAt r x = true) := by
  refine ⟨fun r hr => ?_, fun hn => ?_, ?_⟩
  · have hf := hr
    rw [Store.resolve_eq_find] at hf
    have hs := Store.resolve_some hr
    refine ⟨List.mem_of_find?_eq_some hf, hf, hs.1, by rw [Store.set_eq, hr],
      Store.sameExceptBinding_define σ r x v, ?_⟩
    rw [Store.binding_define]; simp [hs.2.2]
  · have hf := hn
    rw [Store.resolve_eq_find, List.find?_eq_none] at hf
    exact ⟨fun r hr => by simpa using hf r hr, by rw [Store.set_eq, hn]⟩
  · exact Store.set_fst_iff

/-- non-vacuity: from frame 3 (scope 3 → 1 → 0), `set! x` writes to frame 1 (which shadows the
root's `x`), not to frame 0; from frame 2 it writes to frame 0; `set! nope` fails. -/
example : Store.demo.chain 3 = [3, 1, 0] ∧ Store.demo.resolve 3 "x" = some 1 ∧ Store.demo.resolve 2 "x" = some 0 ∧
    (Store.demo.set 3 "x" .nil).1 = true ∧ (Store.demo.set 3 "nope" .nil).1 = false ∧
    (Store.demo.set 3 "x" .nil).2.binding 1 "x" = some .nil ∧
    (Store.demo.set 3 "x" .nil).2.binding 0 "x" = some (.num (.int 1)) := by
  refine ⟨by decide, by decide, by decide, by decide, by decide, rfl, rfl⟩

/-! ## 2. the change is seen by every closure that shares the binding and by no other -/

/-- After a successful `set!` of `x` from frame `ρ`: scoping itself is unchanged (every name
resolves from every frame to the same frame as before); a lookup of `y` from ANY frame `ρ'`
(the environment of any closure) yields the new value if `y` is `x` and `ρ'` resolves it to the
same frame as `ρ` did — the closure shares the binding — and yields exactly what it yielded
before in every other case. (No well-formedness hypothesis is needed: `lookup`/`resolve` guard
the parent links themselves.) -/
theorem set_visibility {σ σ' : Store} {ρ : Nat} {x : String} {v : Value}
    (h : σ.set ρ x v = (true, σ')) (ρ' : Nat) (y : String) :
    σ'.resolve ρ' y = σ.resolve ρ' y ∧
    (y = x ∧ σ.resolve ρ' y = σ.resolve ρ x → σ'.lookup ρ' y = some v) ∧
    (¬ (y = x ∧ σ.resolve ρ' y = σ.resolve ρ x) → σ'.lookup ρ' y = σ.lookup ρ' y) :=
  Store.lookup_after_set h ρ' y

/-- non-vacuity: `set! x` from frame 3 of `demo` writes frame 1's `x`. Frames 3 and 1 share that
binding and see the new value; frames 0 and 2 (whose `x` is the root's) still see `1`; other
names are unaffected. -/
example : ∃ σ', Store.demo.set 3 "x" (.sym "new") = (true, σ') ∧
    σ'.lookup 3 "x" = some (.sym "new") ∧ σ'.lookup 1 "x" = some (.sym "new") ∧
    σ'.lookup 0 "x" = some (.num (.int 1)) ∧ σ'.lookup 2 "x" = some (.num (.int 1)) ∧
    σ'.lookup 3 "v" = some (.vec 0) :=
  ⟨_, rfl, rfl, rfl, rfl, rfl, rfl⟩

/-- `define` in an allocated frame `ρ`: afterwards a name `y` resolves from `ρ'` to the first
frame of the (unchanged) chain of `ρ'` that either is `ρ` (for `y = x`) or defined `y` before;
a lookup of `y` from any frame `ρ'` yields the new value if `y` is `x` and now resolves to `ρ`
(the definition is visible from `ρ'` and not shadowed), and is unchanged in every other case. -/
theorem define_visibility (σ : Store) {ρ : Nat} (x : String) (v : Value) (hρ : ρ < σ.frames.size)
    (ρ' : Nat) (y : String) :
    (σ.define ρ x v).chain ρ' = σ.chain ρ' ∧
    (σ.define ρ x v).resolve ρ' y =
      (σ.chain ρ').find? (fun j => decide (j = ρ ∧ y = x) || σ.definesAt j y) ∧
    (y = x ∧ (σ.define ρ x v).resolve ρ' x = some ρ → (σ.define ρ x v).lookup ρ' y = some v) ∧
    (¬ (y = x ∧ (σ.define ρ x v).resolve ρ' x = some ρ) →
      (σ.define ρ x v).lookup ρ' y = σ.lookup ρ' y) := by
  refine ⟨Store.chain_define σ ρ x v ρ', ?_, Store.lookup_after_define σ x v hρ ρ' y⟩
  rw [Store.resolve_define]; simp [hρ]

/-- non-vacuity: a new definition `v` in frame 1 of `demo` shadows the root's `v` for frames 1
and 3, not for frames 0 and 2. -/
example : ((Store.demo.define 1 "v" .nil).lookup 3 "v" = some .nil) ∧
    ((Store.demo.define 1 "v" .nil).lookup 1 "v" = some .nil) ∧
    ((Store.demo.define 1 "v" .nil).lookup 0 "v" = some (.vec 0)) ∧
    ((Store.demo.define 1 "v" .nil).lookup 2 "v" = some (.vec 0)) :=
  ⟨rfl, rfl, rfl, rfl⟩

/-! ## 4. vectors are objects with identity -/

/-- `vector-set!` through a reference `.vec id`: on an immutable cell it is rejected with
`RequiresMutable`, out of range with `VectorIndexOutOfBounds`, and in both cases nothing changes;
otherwise the new store differs from the old one exactly in the items of cell `id`, item `n`
of which is now `obj`. -/
theorem vector_set_outcome {σ : Store} {id : Nat} {cell : VecCell} (hc : σ.vecs[id]? = some cell)
    (n : Int) (obj : Value) :
    (cell.mutable = false →
      Prim.applyPure σ .vectorSet [.vec id, .num (.int n), obj] = (.error (.immutable, none), σ)) ∧
    (cell.mutable = true → (n < 0 ∨ cell.items.length ≤ n.toNat) →
      Prim.applyPure σ .vectorSet [.vec id, .num (.int n), obj] = (.error (.vectorIndex, none), σ)) ∧
    (cell.mutable = true → 0 ≤ n → n.toNat < cell.items.length →
      ∃ σ', Prim.applyPure σ .vectorSet [.vec id, .num (.int n), obj] = (.ok .void, σ') ∧
        Store.SameExceptCell σ σ' id ∧
        σ'.vecs[id]? = some { cell with items := cell.items.set n.toNat obj }) := by
  rw [Prim.vectorSet_outcome hc]
  refine ⟨fun hm => by simp [hm], fun hm hn => by simp [hm, hn], fun hm h0 hn => ?_⟩
  refine ⟨Prim.vsetStore σ id cell n.toNat obj, ?_, Prim.sameExceptCell_vsetStore hc _ _, ?_⟩
  · have : ¬ (n < 0 ∨ cell.items.length ≤ n.toNat) := by omega
    simp [hm, this]
  · exact Prim.vsetStore_vecs_self hc _ _

/-- Whatever the arguments: `vector-set!` through `.vec id` changes at most the items of cell
`id` (all other cells, all frames, the mutability flags, output, … are unchanged), and an error
outcome changes nothing at all. -/
theorem vector_set_one_cell {σ : Store} {id : Nat} {k obj : Value} {r : Except SErr Value} {σ' : Store}
    (h : Prim.applyPure σ .vectorSet [.vec id, k, obj] = (r, σ')) :
    Store.SameExceptCell σ σ' id ∧ (∀ e, r = .error e → σ' = σ) := by
  rcases Prim.applyPure_vectorSet_shape h with
    ⟨rfl, e, rfl⟩ | ⟨id', n, obj', rest, cell, hargs, hc, _, _, _, rfl, rfl⟩
  · exact ⟨⟨rfl, rfl, rfl, rfl, rfl, rfl, fun _ _ => rfl, rfl⟩, fun _ _ => rfl⟩
  · simp only [List.cons.injEq, Value.vec.injEq] at hargs
    obtain ⟨rfl, -, -, -⟩ := hargs
    exact ⟨Prim.sameExceptCell_vsetStore hc _ _, fun e he => by cases he⟩

/-- `vector-ref` through a reference `.vec id` reads cell `id`. -/
theorem vector_ref_reads_cell {σ : Store} {id : Nat} {cell : VecCell} (hc : σ.vecs[id]? = some cell)
    (n : Int) :
    Prim.applyPure σ .vectorRef [.vec id, .num (.int n)] =
      if n < 0 then (.error (.vectorIndex, none), σ)
      else match cell.items[n.toNat]? with
        | some x => (.ok x, σ)
        | none => (.error (.vectorIndex, none), σ) :=
  Prim.vectorRef_outcome hc n []

/-- Aliasing. After a successful `(vector-set! a n obj)` where `a` is any alias of cell `id`
(aliases are equal references `.vec id`, wherever they are stored), a `vector-ref` through any
alias of the same cell sees `obj` at index `n` and the old items elsewhere, and a `vector-ref`
through a reference to a *different* cell `id' ≠ id` gives exactly what it gave before, for
every index argument. -/
theorem vec_alias {σ σ' : Store} {id : Nat} {n : Int} {obj : Value}
    (h : Prim.applyPure σ .vectorSet [.vec id, .num (.int n), obj] = (.ok .void, σ')) :
    Prim.applyPure σ' .vectorRef [.vec id, .num (.int n)] = (.ok obj, σ') ∧
    (∀ m : Int, m ≠ n → (Prim.applyPure σ' .vectorRef [.vec id, .num (.int m)]).1 =
        (Prim.applyPure σ .vectorRef [.vec id, .num (.int m)]).1) ∧
    (∀ id' k, id' ≠ id → (Prim.applyPure σ' .vectorRef [.vec id', k]).1 =
        (Prim.applyPure σ .vectorRef [.vec id', k]).1) ∧
    (∀ id' k, (Prim.applyPure σ' .vectorRef [.vec id', k]).2 = σ') := by
  rcases Prim.applyPure_vectorSet_shape h with
    ⟨_, e, he⟩ | ⟨id', n', obj', rest, cell, hargs, hc, _, h0, hn, _, rfl⟩
  · cases he
  simp only [List.cons.injEq, Value.vec.injEq, Value.num.injEq, Num.int.injEq] at hargs
  obtain ⟨rfl, rfl, rfl, -⟩ := hargs
  have hnew := Prim.vsetStore_vecs_self hc n.toNat obj
  refine ⟨?_, fun m hm => ?_, fun id'' k hne => ?_, fun id'' k => ?_⟩
  · rw [Prim.vectorRef_outcome hnew]
    have : ¬ n < 0 := by omega
    simp [this, hn]
  · rw [Prim.vectorRef_outcome hnew, Prim.vectorRef_outcome hc]
    by_cases hm0 : m < 0
    · simp [hm0]
    · have : n.toNat ≠ m.toNat := by omega
      simp only [hm0, if_false, List.getElem?_set, this]
      split <;> rfl
  · exact (Prim.vectorRef_congr (by
      rw [Prim.vsetStore_vecs_getElem?]; simp [Ne.symm hne]) k []).1
  · exact (Prim.vectorRef_congr (σ := Prim.vsetStore σ id cell n.toNat obj) rfl k []).2

/-- non-vacuity: in `demo`, `v` (frame 0) and the car of `l` (frame 2) and item 0 of cell #1 are
aliases of cell #0; a `vector-set!` through one is seen through the others; cell #1 is a
different object and is immutable. -/
example : ∃ σ', Prim.applyPure Store.demo .vectorSet [.vec 0, .num (.int 1), .sym "new"] = (.ok .void, σ') ∧
    Store.demo.lookup 3 "v" = some (.vec 0) ∧ Store.demo.lookup 2 "l" = some (.pair (.vec 0) (.vec 1)) ∧
    Prim.applyPure σ' .vectorRef [.vec 0, .num (.int 1)] = (.ok (.sym "new"), σ') ∧
    Prim.applyPure σ' .vectorRef [.vec 1, .num (.int 0)] = (.ok (.vec 0), σ') ∧
    Prim.applyPure Store.demo .vectorSet [.vec 1, .num (.int 0), .nil] = (.error (.immutable, none), Store.demo) ∧
    Prim.applyPure Store.demo .vectorSet [.vec 0, .num (.int 2), .nil] = (.error (.vectorIndex, none), Store.demo) :=
  ⟨_, rfl, rfl, rfl, rfl, rfl, rfl, rfl⟩

/-- Values travel unchanged: storing a value and reading it back — through a variable
(`define` then `lookup`), a pair (`cons` then `car`/`cdr`), a procedure argument (`bindFixed` is
`define`), or another vector (`vector` then `vector-ref`) — yields the very same value. For a
reference `.vec id` this is the same `id`: every such path produces an alias, never a copy of
the cell (cf. `cells_only_from_allocators`). -/
theorem alias_transport (σ : Store) (v w : Value) :
    (∀ ρ x, ρ < σ.frames.size → (σ.define ρ x v).lookup ρ x = some v) ∧
    Prim.applyPure σ .cons [v, w] = (.ok (.pair v w), σ) ∧
    Prim.applyPure σ .car [.pair v w] = (.ok v, σ) ∧
    Prim.applyPure σ .cdr [.pair v w] = (.ok w, σ) ∧
    (∀ (items : List Value) (n : Nat), items[n]? = some v →
      Prim.applyPure (σ.allocVec true items).2 .vectorRef [(σ.allocVec true items).1, .num (.int n)] =
        (.ok v, (σ.allocVec true items).2)) := by
  refine ⟨fun ρ x hρ => ?_, rfl, rfl, rfl, fun items n hn => ?_⟩
  · exact Store.lookup_define_same σ x v hρ
  · have hc : (σ.allocVec true items).2.vecs[σ.vecs.size]? = some { mutable := true, items := items } := by
      simp
    rw [Store.allocVec_fst, Prim.vectorRef_outcome hc]
    simp [hn]

example : Prim.applyPure Store.demo .car [.pair (.vec 0) .nil] = (.ok (.vec 0), Store.demo) ∧
    (Store.demo.define 3 "w" (.vec 0)).lookup 3 "w" = some (.vec 0) := ⟨rfl, rfl⟩

/-- Fresh identity: `allocVec`, `(vector …)` and `(make-vector k fill)` return a reference to a
cell id that was not allocated before; all existing cells are unchanged. -/
theorem alloc_fresh (σ : Store) :
    σ.vecs[σ.vecs.size]? = none ∧
    (∀ m items, (σ.allocVec m items).1 = .vec σ.vecs.size ∧
      (σ.allocVec m items).2.vecs[σ.vecs.size]? = some { mutable := m, items := items } ∧
      (∀ j, j ≠ σ.vecs.size → (σ.allocVec m items).2.vecs[j]? = σ.vecs[j]?) ∧
      (σ.allocVec m items).2.frames = σ.frames) ∧
    (∀ args, Prim.applyPure σ .vector args = (.ok (.vec σ.vecs.size), (σ.allocVec true args).2)) ∧
    (∀ (n : Int) fill, 0 ≤ n → Prim.applyPure σ .makeVector [.num (.int n), fill] =
      (.ok (.vec σ.vecs.size), (σ.allocVec true (List.replicate n.toNat fill)).2)) := by
  refine ⟨by simp, fun m items => ⟨rfl, by simp, fun j hj => ?_, rfl⟩, fun _ => rfl, fun n fill hn => ?_⟩
  · simp [Array.getElem?_push, hj]
  · exact Prim.applyPure_makeVector σ hn fill

example : Prim.applyPure Store.demo .vector [.nil] = (.ok (.vec 2), (Store.demo.allocVec true [.nil]).2) ∧
    Store.demo.vecs[2]? = none := ⟨rfl, rfl⟩

/-- Literal vectors reject mutation: evaluating a vector literal (self-evaluating or quoted)
yields a reference to a cell that did not exist before, and every `vector-set!` through that
reference is rejected with `RequiresMutable`, leaving the store unchanged. -/
theorem literal_vector_immutable {fuel : Nat} {σ : Store} {ρ : Nat} {xs : List Datum} {l l' : Loc}
    {v : Value} {σ' : Store}
    (h : evalExpr (fuel + 1) σ ρ (.datum (.vec xs l) l') = (.ok v, σ') ∨
         evalExpr (fuel + 1) σ ρ (.quote (.vec xs l) l') = (.ok v, σ')) :
    ∃ id, v = .vec id ∧ σ.vecs.size ≤ id ∧ id < σ'.vecs.size ∧ σ'.frames = σ.frames ∧
      (∀ j, j < σ.vecs.size → σ'.vecs[j]? = σ.vecs[j]?) ∧
      ∀ (n : Int) obj,
        Prim.applyPure σ' .vectorSet [v, .num (.int n), obj] = (.error (.immutable, none), σ') := by
  have h' : readLiteral σ (.vec xs l) = (.ok v, σ') := by
    rcases h with h | h <;> simpa [evalExpr] using h
  obtain ⟨id, vs, rfl, hle, hsz, hcell⟩ := readLiteral_vec h'
  have hstep := readLiteral_litStep σ (.vec xs l)
  rw [h'] at hstep
  refine ⟨id, rfl, hle, by omega, hstep.frames, fun j hj => hstep.old_cells hj, fun n obj => ?_⟩
  rw [Prim.vectorSet_outcome hcell]; simp

example : ∃ σ', evalExpr 1 Store.demo 0 (.datum (.vec [.prim (.int 7) none] none) none) = (.ok (.vec 2), σ') ∧
    Prim.applyPure σ' .vectorSet [.vec 2, .num (.int 0), .nil] = (.error (.immutable, none), σ') :=
  ⟨(Store.demo.allocVec false [.num (.int 7)]).2,
    by simp [evalExpr, readLiteral, readLiterals, evalPrim, Store.allocVec, Store.demo], rfl⟩

/-- No operation other than the allocators creates a cell: `define`, `set`, `newFrame`,
parameter binding and every native procedure other than `vector` / `make-vector` leave the
number of cells unchanged (all but `vector-set!` leave the cells themselves unchanged). Values
are copied by mentioning the same id; there is no way to duplicate a cell. -/
theorem cells_only_from_allocators (σ : Store) :
    (∀ ρ x v, (σ.define ρ x v).vecs = σ.vecs) ∧
    (∀ ρ x v, (σ.set ρ x v).2.vecs = σ.vecs) ∧
    (∀ p, (σ.newFrame p).2.vecs = σ.vecs) ∧
    (∀ ρ names args, (bindFixed σ ρ names args).2.vecs = σ.vecs) ∧
    (∀ b args, b ≠ .vector → b ≠ .makeVector → (Prim.applyPure σ b args).2.vecs.size = σ.vecs.size) ∧
    (∀ b args, b ≠ .vector → b ≠ .makeVector → b ≠ .vectorSet → (Prim.applyPure σ b args).2.vecs = σ.vecs) := by
  refine ⟨fun _ _ _ => by simp, fun ρ x v => ?_, fun _ => rfl,
    fun ρ names args => ?_, fun b args h1 h2 => ?_,
    fun b args h1 h2 h3 => Prim.applyPure_vecs σ b args h1 h2 h3⟩
  · rw [Store.set_eq]; split <;> simp
  · rw [bindFixed_eq]
    exact bindAll_induct (P := fun σ τ => τ.vecs = σ.vecs) (fun _ => rfl) names args
      (fun σ x v τ _ _ ih => ih.trans (Store.define_vecs σ ρ x v)) σ
  · by_cases h3 : b = .vectorSet
    · subst h3
      rcases Prim.applyPure_vectorSet_shape (σ := σ) (args := args)
        (r := (Prim.applyPure σ .vectorSet args).1) (σ' := (Prim.applyPure σ .vectorSet args).2) rfl with
        ⟨h, _⟩ | ⟨id, n, obj, rest, cell, _, hc, _, _, _, _, h⟩
      · rw [h]
      · rw [h]; exact (Prim.sameExceptCell_vsetStore hc _ _).vecs_size
    · rw [Prim.applyPure_vecs σ b args h1 h2 h3]

/-! ## 3. each procedure call creates fresh bindings (data level) -/

/-- One step of `applyScheme`: it allocates frame `σ.frames.size` — an id that is not allocated
in `σ` — with the closure's frame `cenv` as parent and no definitions; every frame of `σ` and
every vector is untouched. The parameters are then bound in THAT frame only: after `bindFixed`
(and the rest parameter) all frames of `σ` are still untouched, the fresh frame still has parent
`cenv`, and its bindings are exactly the parameters (`names[i] ↦ args[i]`, last occurrence of a
repeated name first; the rest name ↦ the list of the remaining arguments). The internal
definitions and the body then run in the fresh frame. -/
theorem applyScheme_alloc (fuel : Nat) (σ : Store) (lam : Lambda) (cenv : Nat) (args : List Value) :
    let ρ := σ.frames.size
    let σ₀ := (σ.newFrame (some cenv)).2
    (σ.newFrame (some cenv)).1 = ρ ∧ σ.frames[ρ]? = none ∧
    σ₀.frames[ρ]? = some { parent := some cenv, defs := [] } ∧
    (∀ i, i ≠ ρ → σ₀.frames[i]? = σ.frames[i]?) ∧ σ₀.vecs = σ.vecs ∧
    (∀ er σ₁, bindFixed σ₀ ρ lam.formals.fixed args = (.error er, σ₁) →
      applyScheme (fuel + 1) σ lam cenv args = (.error (er, none), σ₁)) ∧
    (∀ rest σ₁, bindFixed σ₀ ρ lam.formals.fixed args = (.ok rest, σ₁) →
      let σ₂ := match lam.formals.rest with
        | some r => σ₁.define ρ r (Value.ofList rest)
        | none => σ₁
      (∀ i, i ≠ ρ → σ₂.frames[i]? = σ.frames[i]?) ∧ σ₂.vecs = σ.vecs ∧
      σ₂.frames.size = ρ + 1 ∧ σ₂.parentOf ρ = some cenv ∧
      rest = args.drop lam.formals.fixed.length ∧
      (∀ y, σ₂.binding ρ y =
        if lam.formals.rest = some y then some (Value.ofList rest)
        else ((lam.formals.fixed.zip args).reverse).lookup y) ∧
      applyScheme (fuel + 1) σ lam cenv args =
        match evalDefs fuel σ₂ ρ lam.defs with
        | (.error er, σ) => (.error er, σ)
        | (.ok (), σ) => evalBody fuel σ ρ lam.body) := by
  intro ρ σ₀
  have seq := applyScheme_seq fuel σ lam cenv args
  refine ⟨rfl, by simp [ρ], Store.pushFrame_get_last σ cenv [], fun i hi => Store.pushFrame_other σ cenv [] hi, rfl,
    fun er σ₁ hb => ?_, fun rest σ₁ hb => ?_⟩
  · rw [seq, show bindFixed (σ.newFrame (some cenv)).2 (σ.newFrame (some cenv)).1 _ _ = _ from hb]
  · obtain ⟨hle, -, -⟩ := bindFixed_ok hb
    obtain ⟨σ₁', hb', e⟩ := bindParams σ cenv lam.formals args hle
    cases hb.symm.trans hb'
    rw [show bindFixed (σ.newFrame (some cenv)).2 (σ.newFrame (some cenv)).1 _ _ = _ from hb] at seq
    intro σ₂
    have e₂ : σ₂ = σ.pushFrame cenv (paramDefs lam.formals args) := e
    clear_value σ₂
    subst e₂
    refine ⟨fun i hi => Store.pushFrame_other σ cenv _ hi, rfl, Store.pushFrame_size .., Store.parentOf_of_frame (Store.pushFrame_get_last ..),
      rfl, fun y => ?_, ?_⟩
    · rw [Store.binding_of_frame (Store.pushFrame_get_last ..), paramDefs_lookup]
    · rw [seq]
      show andThen (evalDefs fuel (Ref.bindRest σ₁ σ.frames.size lam.formals.rest _) ρ lam.defs) _ = _
      rw [e]
      rcases evalDefs fuel (σ.pushFrame cenv (paramDefs lam.formals args)) ρ lam.defs with ⟨_ | ⟨⟩, _⟩ <;> rfl

/-- non-vacuity: calling a closure of `demo` (over frame 0) allocates frame 4 — unallocated in
`demo` — under frame 0 and binds `a` there; a second call gets frame 5. -/
example : ∃ σ₁ σ₂, bindFixed (Store.demo.newFrame (some 0)).2 4 ["a"] [.nil] = (.ok [], σ₁) ∧
    Store.demo.frames[4]? = none ∧ σ₁.binding 4 "a" = some .nil ∧ σ₁.parentOf 4 = some 0 ∧
    (σ₁.newFrame (some 0)).1 = 5 ∧
    bindFixed (σ₁.newFrame (some 0)).2 5 ["a"] [.void] = (.ok [], σ₂) ∧
    σ₂.binding 4 "a" = some .nil ∧ σ₂.binding 5 "a" = some .void :=
  ⟨_, _, rfl, rfl, rfl, rfl, rfl, rfl, rfl, rfl⟩

/-- The data-level operations only ever append frames and cells (`Store.Grows`: sizes never
decrease, existing frames keep their parent and their defined names, existing cells keep their
mutability flag and length, immutable cells their contents). `Grows` is a preorder, so the
statement extends to any sequence of these operations. -/
theorem frames_monotone_data (σ : Store) :
    Store.Grows σ σ ∧
    (∀ σ₂ σ₃, Store.Grows σ σ₂ → Store.Grows σ₂ σ₃ → Store.Grows σ σ₃) ∧
    (∀ ρ x v, Store.Grows σ (σ.define ρ x v)) ∧
    (∀ ρ x v, Store.Grows σ (σ.set ρ x v).2) ∧
    (∀ p, Store.Grows σ (σ.newFrame p).2) ∧
    (∀ m items, Store.Grows σ (σ.allocVec m items).2) ∧
    (∀ b args, Store.Grows σ (Prim.applyPure σ b args).2) ∧
    (∀ d, Store.Grows σ (readLiteral σ d).2) ∧
    (∀ ρ names args, Store.Grows σ (bindFixed σ ρ names args).2) :=
  have h := stepRel_grows
  ⟨h.refl σ, fun _ _ => h.trans, h.define σ, h.set σ, h.newFrame σ, h.allocVec σ, h.applyPure σ,
   fun d => h.readLiteral d σ, fun ρ names args => h.bindFixed names args σ ρ⟩

example : Store.Grows Store.demo (Store.demo.set 3 "x" .nil).2 ∧ (Store.demo.set 3 "x" .nil).1 = true :=
  ⟨stepRel_grows.set Store.demo 3 "x" .nil, by decide +kernel⟩

/-! ## 5. the store invariant (data level) -/

/-- `Store.WF` holds of the initial store (one root frame) and is preserved by every data-level
operation on allocated arguments; the values these operations return mention allocated ids only. -/
theorem store_wf_data :
    Store.root.WF ∧
    ∀ σ : Store, σ.WF →
      (∀ ρ x v, σ.AllocIn v → (σ.define ρ x v).WF) ∧
      (∀ ρ x v, σ.AllocIn v → (σ.set ρ x v).2.WF) ∧
      (∀ p, (∀ q, p = some q → q < σ.frames.size) → (σ.newFrame p).2.WF) ∧
      (∀ m items, (∀ v ∈ items, σ.AllocIn v) →
        (σ.allocVec m items).2.WF ∧ (σ.allocVec m items).2.AllocIn (σ.allocVec m items).1) ∧
      (∀ b args, (∀ a ∈ args, σ.AllocIn a) →
        (Prim.applyPure σ b args).2.WF ∧
        ∀ v, (Prim.applyPure σ b args).1 = .ok v → (Prim.applyPure σ b args).2.AllocIn v) ∧
      (∀ d, (readLiteral σ d).2.WF ∧
        ∀ v, (readLiteral σ d).1 = .ok v → (readLiteral σ d).2.AllocIn v) ∧
      (∀ ρ names args, (∀ a ∈ args, σ.AllocIn a) →
        (bindFixed σ ρ names args).2.WF ∧
        ∀ rest, (bindFixed σ ρ names args).1 = .ok rest →
          ∀ a ∈ rest, (bindFixed σ ρ names args).2.AllocIn a) ∧
      (∀ σ' v, Store.Grows σ σ' → σ.AllocIn v → σ'.AllocIn v) :=
  ⟨Store.wf_root, fun σ wf =>
    ⟨fun ρ x _ hv => Store.wf_define wf ρ x hv, fun ρ x _ hv => wfInv_sound.set wf hv ρ x,
     fun p hp => Store.wf_newFrame wf p hp,
     fun m items hi => ⟨Store.wf_allocVec wf m hi, Store.allocIn_allocVec σ m items⟩,
     fun b _ ha => Prim.applyPure_wf wf b ha, fun d => readLiteral_wf wf d,
     fun ρ names args ha =>
       have h := wfInv_sound.bindFixed names args σ ρ wf ha (.inl fun _ => trivial); ⟨h.1, h.2.1⟩,
     fun _ _ g h => h.grows g⟩⟩

/-- the invariant is satisfiable by a store with closures, nested references and a parent chain
(`Store.demo_wf`), and a dangling reference breaks it -/
example : Store.demo.WF := Store.demo_wf

example : ¬ (Store.demo.define 0 "bad" (.vec 9)).WF := fun h => by
  have := h.frame_vals 0 _ rfl ("bad", .vec 9) (List.Mem.tail _ (List.Mem.tail _ (List.Mem.head _)))
  simp [Store.AllocIn, Store.demo] at this

/-! ## how the expression forms use the store operations -/

/-- The link between the Scheme forms and the store operations the theorems above are about:
a variable reference is `Store.lookup` from the current frame; a `lambda` captures the current
frame id; `(set! x e)` evaluates `e` and then is exactly `Store.set` from the current frame
(`Void` on success, `UnboundedSymbol` at the form's location and an unchanged store otherwise); an internal definition
evaluates its expression and then is `Store.define` in the call's own frame. -/
theorem scoping_forms (fuel : Nat) (σ : Store) (ρ : Nat) :
    (∀ s l, evalExpr (fuel + 1) σ ρ (.sym s l) =
      match σ.lookup ρ s with
      | some v => (.ok v, σ)
      | none => (.error (.unbound, l), σ)) ∧
    (∀ lam l, evalExpr (fuel + 1) σ ρ (.lambda lam l) = (.ok (.closure lam ρ), σ)) ∧
    (∀ x e l, evalExpr (fuel + 1) σ ρ (.assign x e l) =
      match evalExpr fuel σ ρ e with
      | (.error er, σ₁) => (.error er, σ₁)
      | (.ok v, σ₁) =>
        match σ₁.set ρ x v with
        | (true, σ₂) => (.ok .void, σ₂)
        | (false, σ₂) => (.error (.unbound, l), σ₂)) ∧
    (∀ name e l ds, evalDefs (fuel + 1) σ ρ (.mk name e l :: ds) =
      match evalExpr fuel σ ρ e with
      | (.error er, σ₁) => (.error er, σ₁)
      | (.ok v, σ₁) => evalDefs fuel (σ₁.define ρ name v) ρ ds) := by
  refine ⟨fun s l => ?_, fun lam l => ?_, fun x e l => ?_, fun name e l ds => ?_⟩
  · simp only [evalExpr]; rfl
  · simp only [evalExpr]
  · simp only [evalExpr]; rfl
  · simp only [evalDefs]; rfl

/-- non-vacuity: `(set! x 'new)` evaluated in frame 3 of `demo` writes frame 1's `x`, and the
variable `x` evaluated afterwards in frame 1 (sharing) gives `new`, in frame 2 (not sharing) `1`. -/
example : ∃ σ', evalExpr 2 Store.demo 3 (.assign "x" (.quote (.sym "new" none) none) none) = (.ok .void, σ') ∧
    evalExpr 1 σ' 1 (.sym "x" none) = (.ok (.sym "new"), σ') ∧
    evalExpr 1 σ' 2 (.sym "x" none) = (.ok (.num (.int 1)), σ') := by
  refine ⟨(Store.demo.set 3 "x" (.sym "new")).2, ?_, ?_, ?_⟩
  · simp only [evalExpr, readLiteral]; rfl
  · rw [(scoping_forms 0 _ 1).1]; rfl
  · rw [(scoping_forms 0 _ 2).1]; rfl

/-! ## 3 and 5 at the level of the whole evaluator (`StoreLemmas.growsAt`, an instance of `StepRel.eval`) -/

/-- Every evaluator function only ever appends frames and cells, whatever the fuel and whatever
the outcome (value, error, out of fuel): `Store.Grows σ σ'` — sizes never decrease; every frame
of `σ` keeps its parent link and its defined names; every cell of `σ` keeps its mutability flag
and its length; an immutable cell keeps its contents. No hypothesis on the store is needed. -/
theorem frames_monotone (fuel : Nat) :
    (∀ σ ρ e, Store.Grows σ (evalExpr fuel σ ρ e).2) ∧
    (∀ σ ρ es, Store.Grows σ (evalArgs fuel σ ρ es).2) ∧
    (∀ σ p args env, Store.Grows σ (applyProcedure fuel σ p args env).2) ∧
    (∀ σ p args env, Store.Grows σ (applyLoop fuel σ p args env).2) ∧
    (∀ σ lam cenv args, Store.Grows σ (applyScheme fuel σ lam cenv args).2) ∧
    (∀ σ ρ ds, Store.Grows σ (evalDefs fuel σ ρ ds).2) ∧
    (∀ σ ρ es, Store.Grows σ (evalBody fuel σ ρ es).2) ∧
    (∀ σ ρ e, Store.Grows σ (evalTail fuel σ ρ e).2) :=
  have h := growsAt fuel
  ⟨h.expr, h.args, h.proc, h.loop, h.scheme, h.defs, h.body, h.tail⟩

/-- the program `((lambda (a) (set! x a) (vector a)) 5)` -/
def prog : Expr :=
  .call (.lambda (.mk ⟨["a"], none⟩ []
      [.assign "x" (.sym "a" none) none, .call (.sym "vector" none) [.sym "a" none] none]) none)
    [.prim (.int 5) none] none

/-- non-vacuity (the statement has no hypothesis; this shows an instance that is not the trivial
reflexive one): running `prog` in frame 3 of `demo` with `vector` bound in the root returns `#2`,
a fresh one-element vector, in a store with 5 frames (frame 4, child of 3, binds `a ↦ 5`) and 3
cells, where `x` seen from frame 3 is now `5` and the root's `x` is still `1`. -/
example : ∃ σ', evalExpr 12 (Store.demo.define 0 "vector" (.builtin .vector)) 3 prog = (.ok (.vec 2), σ') ∧
    Store.Grows (Store.demo.define 0 "vector" (.builtin .vector)) σ' ∧
    σ'.frames.size = 5 ∧ σ'.vecs.size = 3 ∧ σ'.lookup 3 "x" = some (.num (.int 5)) ∧
    σ'.lookup 0 "x" = some (.num (.int 1)) ∧ σ'.parentOf 4 = some 3 ∧
    σ'.binding 4 "a" = some (.num (.int 5)) := by
  refine ⟨(evalExpr 12 (Store.demo.define 0 "vector" (.builtin .vector)) 3 prog).2, ?_,
    (frames_monotone 12).1 _ 3 prog, ?_, ?_, ?_, ?_, ?_, ?_⟩ <;> with_unfolding_all rfl

/-- Literal vectors never change: a cell that is immutable in `σ` has exactly the same contents
after any evaluation from `σ` (every `vector-set!` on it was rejected). Stated for `evalExpr`;
it holds for all eight functions by `frames_monotone`. -/
theorem immutable_cells_never_change (fuel : Nat) (σ : Store) (ρ : Nat) (e : Expr) {i : Nat} {c : VecCell}
    (hc : σ.vecs[i]? = some c) (hm : c.mutable = false) : (evalExpr fuel σ ρ e).2.vecs[i]? = some c := by
  obtain ⟨c', hc', _, _, heq⟩ := (evalExpr_grows fuel σ ρ e).cell i c hc
  rw [hc', heq hm]

/-- Each procedure call creates fresh bindings. A call (`applyScheme`, one fuel step) of a
closure over frame `cenv` runs in frame `ρ₁ = σ.frames.size`, which is not allocated in `σ` — so,
`σ` being well formed, no value stored anywhere in `σ` (no closure, no list element, no vector
item) refers to it. After the call, whatever its outcome, that frame exists and its parent is
still `cenv`; all frames of `σ` still have their parents and their names (`Store.Grows`). Any
later call — from any store `σ₂` reached from the call's result store — runs in a frame
`ρ₂ = σ₂.frames.size > ρ₁`: two calls never share their frame, and in `σ₂` frame `ρ₁` is still
the first call's frame (same parent), so closures created by different calls have different
environments. (Which bindings the body's own `set!`/`define` change is `set_locality` /
`set_visibility` / `define_visibility`; the parameters go to the fresh frame only:
`applyScheme_alloc`.) -/
theorem fresh_frame_per_call {fuel : Nat} {σ σ₁ : Store} {lam : Lambda} {cenv : Nat} {args : List Value}
    {r : Except SErr TailRes} (h : applyScheme (fuel + 1) σ lam cenv args = (r, σ₁))
    {σ₂ : Store} (hg : Store.Grows σ₁ σ₂) :
    let ρ₁ := σ.frames.size
    σ.frames[ρ₁]? = none ∧
    (σ.WF → (∀ (i : Nat) (f : Frame), σ.frames[i]? = some f → ∀ kv ∈ f.defs, ρ₁ ∉ kv.2.frameIds) ∧
            (∀ (i : Nat) (c : VecCell), σ.vecs[i]? = some c → ∀ v ∈ c.items, ρ₁ ∉ v.frameIds)) ∧
    Store.Grows σ σ₁ ∧ ρ₁ < σ₁.frames.size ∧ σ₁.parentOf ρ₁ = some cenv ∧
    σ₂.parentOf ρ₁ = some cenv ∧ ρ₁ < σ₂.frames.size ∧ σ₂.frames[σ₂.frames.size]? = none ∧
    (σ₂.newFrame (some cenv)).1 ≠ ρ₁ := by
  intro ρ₁
  have g0 : Store.Grows (σ.newFrame (some cenv)).2 σ₁ := by
    have := applyScheme_succ_grows fuel σ lam cenv args; rwa [h] at this
  have hf0 : (σ.newFrame (some cenv)).2.frames[ρ₁]? = some { parent := some cenv, defs := [] } := by
    simp [ρ₁]
  obtain ⟨f₁, hf₁, hp₁, -⟩ := g0.frame ρ₁ _ hf0
  obtain ⟨f₂, hf₂, hp₂, -⟩ := hg.frame ρ₁ _ hf₁
  have hlt₁ : ρ₁ < σ₁.frames.size := Store.getElem?_some_lt hf₁
  have hlt₂ : ρ₁ < σ₂.frames.size := Store.getElem?_some_lt hf₂
  refine ⟨by simp [ρ₁], fun wf => ⟨fun i f hf kv hkv hmem => ?_, fun i c hc v hv hmem => ?_⟩,
    ?_, hlt₁, ?_, ?_, hlt₂, by simp, ?_⟩
  · exact Nat.lt_irrefl _ ((wf.frame_vals i f hf kv hkv).1 _ hmem)
  · exact Nat.lt_irrefl _ ((wf.vec_vals i c hc v hv).1 _ hmem)
  · have := applyScheme_grows (fuel + 1) σ lam cenv args; rwa [h] at this
  · simp [Store.parentOf, hf₁, hp₁]
  · simp [Store.parentOf, hf₂, hp₂, hp₁]
  · simp only [Store.newFrame_fst]; omega

/-- non-vacuity: the hypotheses are satisfiable — a call of the closure `f` of `demo` (over frame
0) from the well-formed store `demo`, and a second call from the store the first one left. The
first runs in frame 4, which `demo` does not have; the second in a frame `≠ 4`. -/
example : Store.demo.WF ∧ Store.demo.frames[4]? = none ∧
    ((applyScheme 5 Store.demo (.mk ⟨["a"], none⟩ [] [.sym "x" none]) 0 [.nil]).2.newFrame (some 0)).1 ≠ 4 :=
  ⟨Store.demo_wf, rfl,
   (fresh_frame_per_call (σ := Store.demo) (fuel := 4) (lam := .mk ⟨["a"], none⟩ [] [.sym "x" none])
      (cenv := 0) (args := [.nil]) rfl (Store.Grows.refl _)).2.2.2.2.2.2.2.2⟩

/-- The store invariant is an invariant of the whole evaluator. From a well-formed store, with
the current environment / the procedure and its arguments / the closure's frame allocated,
every evaluator function returns a well-formed store — whatever the fuel and the outcome — and
a result that mentions allocated ids only (a value; a list of values; for the tail-position
functions a value or a pending tail call whose environment is allocated). Together with
`store_wf_data` (`Store.root.WF`) this makes `WF` hold of every store the interpreter reaches. -/
theorem store_wf_invariant (fuel : Nat) :
    (∀ σ ρ e r σ', evalExpr fuel σ ρ e = (r, σ') → σ.WF → ρ < σ.frames.size →
      σ'.WF ∧ ∀ v, r = .ok v → σ'.AllocIn v) ∧
    (∀ σ ρ es r σ', evalArgs fuel σ ρ es = (r, σ') → σ.WF → ρ < σ.frames.size →
      σ'.WF ∧ ∀ vs, r = .ok vs → ∀ v ∈ vs, σ'.AllocIn v) ∧
    (∀ σ p args env r σ', applyProcedure fuel σ p args env = (r, σ') → σ.WF → σ.AllocIn p →
      (∀ a ∈ args, σ.AllocIn a) → σ'.WF ∧ ∀ v, r = .ok v → σ'.AllocIn v) ∧
    (∀ σ p args env r σ', applyLoop fuel σ p args env = (r, σ') → σ.WF → σ.AllocIn p →
      (∀ a ∈ args, σ.AllocIn a) → σ'.WF ∧ ∀ v, r = .ok v → σ'.AllocIn v) ∧
    (∀ σ lam cenv args r σ', applyScheme fuel σ lam cenv args = (r, σ') → σ.WF →
      cenv < σ.frames.size → (∀ a ∈ args, σ.AllocIn a) →
      σ'.WF ∧ ∀ t, r = .ok t → TailRes.AllocIn σ' t) ∧
    (∀ σ ρ ds r σ', evalDefs fuel σ ρ ds = (r, σ') → σ.WF → ρ < σ.frames.size → σ'.WF) ∧
    (∀ σ ρ es r σ', evalBody fuel σ ρ es = (r, σ') → σ.WF → ρ < σ.frames.size →
      σ'.WF ∧ ∀ t, r = .ok t → TailRes.AllocIn σ' t) ∧
    (∀ σ ρ e r σ', evalTail fuel σ ρ e = (r, σ') → σ.WF → ρ < σ.frames.size →
      σ'.WF ∧ ∀ t, r = .ok t → TailRes.AllocIn σ' t) :=
  have h := wfAt fuel
  ⟨h.expr, h.args, h.proc, h.loop, h.scheme, h.defs, h.body, h.tail⟩

/-- non-vacuity: the hypotheses hold of the demo store (extended with `vector`), frame 3 and
`prog`, so the store after running `prog` is well formed. -/
example : (evalExpr 10 (Store.demo.define 0 "vector" (.builtin .vector)) 3 prog).2.WF :=
  ((store_wf_invariant 10).1 _ 3 prog _ _ rfl
    (Store.wf_define Store.demo_wf 0 "vector" (by simp [Store.AllocIn]))
    (by simp [Store.demo])).1

/-! ## 6. `eqv?` on vectors is identity of cells; pairs have no identity -/

/-- `eqv?` (and `eq?`, the same procedure) on two vector references compares the cell ids: two
references are `eqv?` iff they are aliases. Pairs are boxed values without identity in the Rust
(`Pair(Box<…>)`, compared by address of two distinct boxes): `eqv?` on two non-empty pairs is
always `#f`, even for "the same" pair, and on two empty lists `#t`. -/
theorem eqv_vector_identity :
    (∀ a b, Prim.eqv (.vec a) (.vec b) = (a == b)) ∧
    (∀ a d a' d', Prim.eqv (.pair a d) (.pair a' d') = false) ∧
    Prim.eqv .nil .nil = true ∧
    (∀ a d, Prim.eqv (.pair a d) .nil = false ∧ Prim.eqv .nil (.pair a d) = false) ∧
    (∀ (σ : Store) a b, Prim.applyPure σ .eqv [.vec a, .vec b] = (.ok (.bool (a == b)), σ) ∧
      Prim.applyPure σ .eq [.vec a, .vec b] = (.ok (.bool (a == b)), σ)) := by
  refine ⟨fun _ _ => rfl, fun _ _ _ _ => rfl, rfl, fun _ _ => ⟨rfl, rfl⟩, fun _ _ _ => ⟨rfl, rfl⟩⟩

example : Prim.eqv (.vec 0) (.vec 0) = true ∧ Prim.eqv (.vec 0) (.vec 1) = false ∧
    Prim.eqv (.pair (.vec 0) .nil) (.pair (.vec 0) .nil) = false := ⟨rfl, rfl, rfl⟩

end Ruschm.C03
