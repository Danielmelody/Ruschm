/-
Property C04 — syntax-rules expansion selects the first matching rule and fills its template.

"A use of a syntax-rules macro is rewritten by the first rule, in textual order, whose pattern
matches the use: pattern variables and _ match any form, literal identifiers match only
themselves, literal data match only equal data, sub-lists and vectors match element-wise, and a
sub-pattern followed by an ellipsis matches a run of forms. The result is that rule's template
with every pattern variable replaced by what it matched and every ellipsis sub-template repeated
once per matched item, in order; a use that matches no rule is a syntax error, never a silent
mis-expansion."

Only property theorems live here (each is audited with `#print axioms`); the model is
`RuschmModel/Macro.lean`, the specification vocabulary (`Supported`, `specMatch`, `specInst`,
`specTransform`) is `RuschmSpec/Macro.lean`, helper lemmas are in
`RuschmProofs/Macro{Lemmas,All,Tmpl,Match,Subst,Groups,Fuel,MoreLemmas}.lean`.
-/
import RuschmProofs.MacroGroups
import RuschmProofs.MacroMoreLemmas
import RuschmProofs.Same

namespace Ruschm.C04
open Ruschm Ruschm.Macro Ruschm.Macro.Ex

/-! ## 1. The first matching rule, in textual order (decision logic, no class hypothesis)

`Macro.fill fuel t σ loc` (in `MacroLemmas.lean`) is what `transform` does with the template of the
rule that matched with table `σ`: if some sub-template followed by an ellipsis mentions no pattern
variable (`ellipsisOk σ t = false`) it is a syntax error (`UnexpectedTemplate`), else the template
is filled (`subst`). -/

/-- the rule `(p, t)` is the first whose pattern matches: every earlier rule fails (`ok false`),
`p` succeeds with table `σ` -/
def FirstMatch (fuel : Nat) (lits : List String) (rules : List (Pat × Tmpl)) (use : Datum)
    (t : Tmpl) (σ : Subst) : Prop :=
  ∃ pre p post, rules = pre ++ (p, t) :: post ∧
    (∀ r ∈ pre, ∃ σ', matchDatum fuel lits r.1 use [] = .ok (false, σ')) ∧
    matchDatum fuel lits p use [] = .ok (true, σ)

/-- no rule matches -/
def NoMatch (fuel : Nat) (lits : List String) (rules : List (Pat × Tmpl)) (use : Datum) : Prop :=
  ∀ r ∈ rules, ∃ σ', matchDatum fuel lits r.1 use [] = .ok (false, σ')

/-- A use is rewritten by the FIRST rule, in textual order, whose pattern matches it: the result
is that rule's template filled with the table of that match (after the ellipsis test). -/
theorem transform_first_match {fuel lits rules use t σ}
    (h : FirstMatch fuel lits rules use t σ) :
    transformRules fuel lits rules use = fill fuel t σ use.loc := by
  obtain ⟨pre, p, post, rfl, hpre, hp⟩ := h
  rw [transformRules_eq_findSome, List.findSome?_eq_some_iff.2 ⟨pre, (p, t), post, rfl, by rw [tryRule, hp],
    fun r hr => tryRule_eq_none.2 (hpre r hr)⟩]
  rfl

example : FirstMatch 20 [] [(plist [.prim (.int 1)], .ident "one"), (plist [.ident "x"], .ident "x"),
      (plist [.underscore], .ident "other")] (lst [num 2]) (.ident "x") [("x", num 2, [])] ∧
    transformRules 20 [] [(plist [.prim (.int 1)], .ident "one"), (plist [.ident "x"], .ident "x"),
      (plist [.underscore], .ident "other")] (lst [num 2]) = .ok (num 2) :=
  ⟨⟨[_], _, [_], rfl, fun r hr => by cases List.mem_singleton.1 hr; exact ⟨_, rfl⟩, rfl⟩, rfl⟩

/-- When the first matching rule's template passes the ellipsis test, the result is `subst` of
that template (or the model's fuel error if the fuel is too small for the copy loop). -/
theorem transform_first_match_ok {fuel lits rules use t σ}
    (h : FirstMatch fuel lits rules use t σ) (he : ellipsisOk σ t = true) :
    transformRules fuel lits rules use =
      match subst fuel t σ use.loc with
      | some d => .ok d
      | none => .error (.fuel, none) := by
  rw [transform_first_match h, fill, he]; rfl

example : ellipsisOk [("x", num 2, [num 3])] (.list [(.ident "x", true)]) = true ∧
    transformRules 20 [] [(plist [.ident "x", .ellipsis], .list [(.ident "x", true)])]
      (lst [num 2, num 3]) = .ok (lst [num 2, num 3]) := ⟨rfl, rfl⟩

/-- **An ellipsis after a sub-template that mentions no pattern variable is a syntax error**
(`UnexpectedTemplate`), not an endless repetition: if the first matching rule's template fails
the ellipsis test, the expansion is `.error (.syntax, none)`. -/
theorem ellipsis_without_variable_is_error {fuel lits rules use t σ}
    (h : FirstMatch fuel lits rules use t σ) (he : ellipsisOk σ t = false) :
    transformRules fuel lits rules use = .error (.syntax, none) := by
  rw [transform_first_match h, fill, he]; rfl

example : ellipsisOk [("x", num 1, [])] (.list [(.prim (.int 5), true)]) = false ∧
    transformRules 20 [] [(plist [.ident "x"], .list [(.prim (.int 5), true)])] (lst [num 1]) =
      .error (.syntax, none) := ⟨rfl, rfl⟩

/-- A use that matches no rule is a syntax error (`MacroMissMatch`). -/
theorem transform_no_match {fuel lits rules use} (h : NoMatch fuel lits rules use) :
    transformRules fuel lits rules use = .error (.syntax, none) := by
  rw [transformRules_eq_findSome, List.findSome?_eq_none_iff.2 fun r hr => tryRule_eq_none.2 (h r hr)]
  rfl

example : NoMatch 20 [] [(plist [.prim (.int 1)], .ident "one")] (lst [num 2]) ∧
    transformRules 20 [] [(plist [.prim (.int 1)], .ident "one")] (lst [num 2]) =
      .error (.syntax, none) :=
  ⟨fun r hr => by cases List.mem_singleton.1 hr; exact ⟨_, rfl⟩, rfl⟩

/-- the outcome of `transformRules` is that of the first rule whose match attempt is not
`ok false`: an error of the matcher, or `fill` of the first matching rule, or — when all fail —
the syntax error -/
theorem transform_cases (fuel : Nat) (lits : List String) (rules : List (Pat × Tmpl))
    (use : Datum) :
    (∃ t σ, FirstMatch fuel lits rules use t σ ∧
      transformRules fuel lits rules use = fill fuel t σ use.loc) ∨
    (NoMatch fuel lits rules use ∧ transformRules fuel lits rules use = .error (.syntax, none)) ∨
    (∃ r ∈ rules, ∃ e, matchDatum fuel lits r.1 use [] = .error e ∧
      transformRules fuel lits rules use = .error e) :=
  transformRules_cases fuel lits rules use

example : ∃ e, matchDatum 20 ["k"] (plist [.ident "k", .ellipsis]) (lst [sy "k", sy "k"]) [] = .error e :=
  ⟨_, rfl⟩

/-- Never a value unless a rule matched: an `ok` result is the filled template of the first
matching rule, which passed the ellipsis test. -/
theorem transform_ok_inv {fuel lits rules use d}
    (h : transformRules fuel lits rules use = .ok d) :
    ∃ t σ, FirstMatch fuel lits rules use t σ ∧ ellipsisOk σ t = true ∧
      subst fuel t σ use.loc = some d := by
  rcases transform_cases fuel lits rules use with ⟨t, σ, hfm, h2⟩ | ⟨-, h2⟩ | ⟨r, -, e, -, h2⟩
  · exact ⟨t, σ, hfm, fill_eq_ok_iff.1 (h2 ▸ h)⟩
  · rw [h2] at h; cases h
  · rw [h2] at h; cases h

example : transformRules 20 [] [(plist [.ident "x"], .ident "x")] (lst [num 2]) = .ok (num 2) := rfl

/-- When every match attempt terminates normally (as it does for supported patterns with enough
fuel), the syntax error arises if AND ONLY IF no rule matches or the first matching rule's
template fails the ellipsis test. -/
theorem transform_syntax_error_iff {fuel lits rules use}
    (hok : ∀ r ∈ rules, ∃ b σ, matchDatum fuel lits r.1 use [] = .ok (b, σ)) :
    (∃ l, transformRules fuel lits rules use = .error (.syntax, l)) ↔
      (NoMatch fuel lits rules use ∨
        ∃ t σ, FirstMatch fuel lits rules use t σ ∧ ellipsisOk σ t = false) := by
  constructor
  · intro ⟨l, h⟩
    rcases transform_cases fuel lits rules use with ⟨t, σ, hfm, h2⟩ | ⟨h1, -⟩ | ⟨r, hr, e, h1, -⟩
    · rcases fill_eq_error_iff.1 (h2 ▸ h) with ⟨he, -⟩ | ⟨-, -, h'⟩
      · exact .inr ⟨t, σ, hfm, he⟩
      · cases h'
    · exact .inl h1
    · obtain ⟨b, σ, h'⟩ := hok r hr
      rw [h'] at h1; cases h1
  · rintro (h | ⟨t, σ, hfm, he⟩)
    · exact ⟨none, transform_no_match h⟩
    · exact ⟨none, ellipsis_without_variable_is_error hfm he⟩

example : ¬ NoMatch 20 [] [(plist [.ident "x"], .ident "x")] (lst [num 2]) := by
  intro h; obtain ⟨σ, hσ⟩ := h _ (List.mem_singleton.2 rfl); cases hσ

/-- **The expander is total** — for ALL rule sets, no class hypothesis: with enough fuel for
matching (`p.size + use.size` for every pattern) and more fuel than the longest sequence of
further matches in the table of any matching rule, `transformRules` never reports the model's
fuel error: since the ellipsis test, every copy loop that is entered ends. -/
theorem transform_terminates {fuel lits rules use}
    (hm : ∀ r ∈ rules, r.1.size + use.size ≤ fuel)
    (hs : ∀ r ∈ rules, ∀ σ, matchDatum fuel lits r.1 use [] = .ok (true, σ) →
      ∀ e ∈ σ, e.2.2.length < fuel) :
    ∀ l, transformRules fuel lits rules use ≠ .error (.fuel, l) := by
  intro l h
  rcases transform_cases fuel lits rules use with ⟨t, σ, hfm, h2⟩ | ⟨-, h2⟩ | ⟨r, hr, e, h1, h2⟩
  · obtain ⟨pre, p, post, hrules, -, hp⟩ := hfm
    have hmem : (p, t) ∈ rules := by rw [hrules]; simp
    rcases fill_eq_error_iff.1 (h2 ▸ h) with ⟨-, h'⟩ | ⟨he, hsb, -⟩
    · cases h'
    · have := (subst_isSome σ use.loc fuel (hs (p, t) hmem σ hp)).1 t he
      rw [hsb] at this; cases this
  · rw [h2] at h; cases h
  · rw [h2] at h; cases h
    exact matchDatum_fuel (hm r hr) h1

example : transformRules 30 [] [(plist [.ident "a", .ellipsis, .ident "z"],
      .list [(.list [(.ident "a", true)], true), (.prim (.int 5), false)])]
    (lst [num 1, num 2, num 3]) =
    .ok (lst [lst [num 1, num 2, num 3], lst [num 2], lst [num 3], num 5]) := rfl

/-! ## 2. The matcher terminates -/

/-- With `p.size + d.size` units of fuel matching never runs out of fuel — for ALL patterns, data,
literal lists and tables. -/
theorem match_terminates {lits fuel p d σ l} (h : p.size + d.size ≤ fuel) :
    matchDatum fuel lits p d σ ≠ .error (.fuel, l) :=
  matchDatum_fuel h

example : matchDatum 8 [] (plist [.ident "a", .ellipsis]) (lst [num 1]) [] =
    .ok (true, [("a", num 1, [])]) ∧ (plist [.ident "a", .ellipsis]).size + (lst [num 1]).size = 8 :=
  ⟨rfl, by decide⟩

/-- The model's `matchFuel d` (which looks at the datum only) suffices for every pattern of size
`≤ 3 * d.size + 64`, in particular for every bundled rule. -/
theorem match_terminates_matchFuel {lits fuel p d σ l} (hp : p.size ≤ 3 * d.size + 64)
    (h : matchFuel d ≤ fuel) : matchDatum fuel lits p d σ ≠ .error (.fuel, l) :=
  matchDatum_fuel (by unfold matchFuel at h; omega)

example : matchFuel (lst [num 1]) = 76 ∧ (plist [.ident "a", .ellipsis]).size = 5 :=
  ⟨by decide, by decide⟩

/-- For SUPPORTED patterns (shape only; no condition on the variables) the fuel need depends on the
datum only: the model's own `matchFuel d` suffices whatever the size of the pattern. -/
theorem match_terminates_supported {lits fuel p d σ l} (hok : Pat.ok lits p = true)
    (h : matchFuel d ≤ fuel) : matchDatum fuel lits p d σ ≠ .error (.fuel, l) :=
  matchDatum_fuel_supported hok (by unfold matchFuel at h; omega)

example : Pat.ok [] (plist [plist [.ident "a", .ident "b"], .ellipsis]) = true ∧
    matchDatum (matchFuel (lst [lst [num 1, num 2]])) [] (plist [plist [.ident "a", .ident "b"], .ellipsis])
      (lst [lst [num 1, num 2]]) [] = .ok (true, [("a", num 1, []), ("b", num 2, [])]) := ⟨rfl, rfl⟩

/-- full-strength statement with the model's own `matchFuel`: FALSE -/
def match_terminates_full : Prop :=
  ∀ (lits : List String) (fuel : Nat) (p : Pat) (d : Datum) (σ : Subst) (l : Loc),
    matchFuel d ≤ fuel → matchDatum fuel lits p d σ ≠ .error (.fuel, l)

/-- `matchFuel d` does not bound the need of every pattern: each `...` that is stepped over at
the end of the data costs a unit. Witness: `(a ... ... …)` with 80 ellipses against `(1)`. (The
Rust code has no fuel; this only says that the model's fuel has to grow with the pattern.) -/
theorem match_terminates_full_fails : ¬ match_terminates_full := fun h =>
  h [] (matchFuel (lst [num 1])) (plist (.ident "a" :: List.replicate 80 .ellipsis)) (lst [num 1])
    [] none (Nat.le_refl _) rfl

/-! ## 3. The `get_mut(var).unwrap()` of the ellipsis branch cannot fail -/

/-- `matchDatum` never panics — for ALL patterns (any ellipsis position and depth, dotted
patterns, repeated variables), data, literal lists, tables and fuel: the variables pushed by the
ellipsis branch are those of a sub-pattern that was matched successfully against the previous
item into the same table, and the table never loses a key (failed attempts are not undone, but
they only add keys). -/
theorem match_no_panic {lits fuel p d σ s l} :
    matchDatum fuel lits p d σ ≠ .error (.panic s, l) :=
  ((match_keys_aux lits fuel).1 p d σ).1 s l

/-- the same for `matchStream`, entered as `matchDatum` enters it (no pending sub-pattern) -/
theorem matchStream_no_panic {lits fuel ps ds σ s l} :
    matchStream fuel lits ps ds none σ ≠ .error (.panic s, l) :=
  Macro.matchStream_no_panic (fun _ h => by cases h)

example : matchDatum 30 [] (plist [.ident "a", .ellipsis, .ident "z"]) (lst [num 1, num 2, num 3]) [] =
    .ok (true, [("a", num 1, [num 2, num 3]), ("z", num 3, [])]) := rfl

/-! ## 4. The matcher is the declarative matcher on the supported class -/

/-- For `Supported` patterns, ALL literal lists and ALL data, with fuel `≥ p.size + d.size`: the
model matcher (started, as `transform` starts it, with the empty table) succeeds exactly when the
declarative matcher does, and then its table represents the same bindings
(`var ↦ (first, further)` is the item sequence `first :: further`). -/
theorem match_eq_spec {lits fuel p d} (hs : Supported lits p = true)
    (hf : p.size + d.size ≤ fuel) :
    (∀ β, specMatch lits p d = some β →
      matchDatum fuel lits p d [] = .ok (true, β.toSubst) ∧ β.toSubst.toBindings = β) ∧
    (specMatch lits p d = none → ∃ σ', matchDatum fuel lits p d [] = .ok (false, σ')) :=
  matchDatum_eq_spec_cases hs (matchDatum_fuel hf)

example : Supported [] (plist [.ident "a", plist [.ident "b", .ellipsis]]) = true ∧
    specMatch [] (plist [.ident "a", plist [.ident "b", .ellipsis]]) (lst [num 1, lst [num 2, num 3]]) =
      some [("a", [num 1]), ("b", [num 2, num 3])] := ⟨by decide +kernel, rfl⟩

/-- the same with the success flag and the represented bindings in one equation -/
theorem match_eq_spec' {lits fuel p d} (hs : Supported lits p = true)
    (hf : p.size + d.size ≤ fuel) :
    ∃ σ, matchDatum fuel lits p d [] = .ok ((specMatch lits p d).isSome, σ) ∧
      ∀ β, specMatch lits p d = some β → σ.toBindings = β := by
  obtain ⟨h1, h2⟩ := match_eq_spec (fuel := fuel) (d := d) hs hf
  cases h : specMatch lits p d with
  | some β => exact ⟨_, (h1 β h).1, fun β' hβ' => by cases hβ'; exact (h1 β h).2⟩
  | none => obtain ⟨σ', h'⟩ := h2 h; exact ⟨σ', h', fun β hβ => by cases hβ⟩

example : ∃ σ, matchDatum 20 [] (plist [.ident "a"]) (lst [num 1]) [] = .ok (true, σ) ∧
    σ.toBindings = [("a", [num 1])] := ⟨_, rfl, rfl⟩

/-- `match_eq_spec` with the model's own `matchFuel d` (what `transform` is run with) -/
theorem match_eq_spec_matchFuel {lits fuel p d} (hs : Supported lits p = true)
    (hf : matchFuel d ≤ fuel) :
    (∀ β, specMatch lits p d = some β →
      matchDatum fuel lits p d [] = .ok (true, β.toSubst) ∧ β.toSubst.toBindings = β) ∧
    (specMatch lits p d = none → ∃ σ', matchDatum fuel lits p d [] = .ok (false, σ')) :=
  matchDatum_eq_spec_cases hs (match_terminates_supported (supported_iff.1 hs).1 hf)

example : Supported ["=>"] (plist [.ident "t", .ident "=>", .ident "r"]) = true ∧
    specMatch ["=>"] (plist [.ident "t", .ident "=>", .ident "r"]) (lst [num 1, sy "=>", sy "f"]) =
      some [("t", [num 1]), ("r", [sy "f"])] := ⟨rfl, rfl⟩

/-- full-strength statement (all patterns): FALSE -/
def match_eq_spec_full : Prop :=
  ∀ (lits : List String) (fuel : Nat) (p : Pat) (d : Datum), p.size + d.size ≤ fuel →
    ∃ σ, matchDatum fuel lits p d [] = .ok ((specMatch lits p d).isSome, σ)

/-- Outside the class the matcher mis-binds: the non-final ellipsis `(a ... z)` matches `(1 2 3)`
with `a ↦ 1 2 3` and `z ↦ 3` (R7RS: `a ↦ 1 2`, `z ↦ 3`; the declarative matcher of the class: no
match). -/
theorem match_eq_spec_full_fails : ¬ match_eq_spec_full := fun h => by
  obtain ⟨σ, hσ⟩ := h [] 30 (plist [.ident "a", .ellipsis, .ident "z"]) (lst [num 1, num 2, num 3])
    (by decide)
  cases hσ

/-- Why the class excludes a LITERAL identifier followed by an ellipsis: `(k ...)` with `k` a
literal does not match `(k)` and raises a syntax error (`UnexpectedPattern`) at USE time on
`(k k)` — where the declarative matcher (and R7RS) match. -/
theorem literal_before_ellipsis_out_of_class :
    Supported ["k"] (plist [.ident "k", .ellipsis]) = false ∧
    matchDatum 20 ["k"] (plist [.ident "k", .ellipsis]) (lst [sy "k", sy "k"]) [] =
      .error (.syntax, none) ∧
    matchDatum 20 ["k"] (plist [.ident "k", .ellipsis]) (lst [sy "k"]) [] = .ok (false, []) ∧
    specMatch ["k"] (plist [.ident "k", .ellipsis]) (lst [sy "k", sy "k"]) = some [] :=
  ⟨rfl, rfl, rfl, rfl⟩

/-- Documented limit (not a refutation of the class statement): an ellipsis stands for ONE OR
MORE items, so `(m)` does not match `(m a ...)` — R7RS says it does, with `a` bound to nothing. -/
theorem zero_item_ellipsis_no_match {fuel} (hf : 6 ≤ fuel) :
    specMatch [] (plist [.ident "a", .ellipsis]) (lst []) = none ∧
    ∃ σ', matchDatum fuel [] (plist [.ident "a", .ellipsis]) (lst []) [] = .ok (false, σ') :=
  ⟨rfl, (match_eq_spec (by rfl) (Nat.le_trans (by decide) hf)).2 rfl⟩

example : transformRules 20 [] [(plist [.ident "a", .ellipsis], .ident "a")] (lst []) =
    .error (.syntax, none) := rfl

/-! ### the named clauses of the property -/

/-- pattern variables match any form (and bind it) -/
theorem var_matches_anything {lits fuel v} (d : Datum) (hv : lits.contains v = false)
    (hf : 1 ≤ fuel) :
    matchDatum fuel lits (.ident v) d [] = .ok (true, [(v, d, [])]) ∧
    specMatch lits (.ident v) d = some [(v, [d])] := by
  obtain ⟨n, rfl⟩ := Nat.exists_eq_add_one.2 hf
  exact ⟨matchDatum_var hv, specMatch_var hv⟩

example : matchDatum 1 ["else"] (.ident "x") (lst [num 1, sy "else"]) [] =
    .ok (true, [("x", lst [num 1, sy "else"], [])]) := rfl

/-- `_` matches any form (and binds nothing) -/
theorem underscore_matches_anything {lits fuel} (d : Datum) (σ : Subst) (hf : 1 ≤ fuel) :
    matchDatum fuel lits .underscore d σ = .ok (true, σ) ∧ specMatch lits .underscore d = some [] := by
  obtain ⟨n, rfl⟩ := Nat.exists_eq_add_one.2 hf
  exact ⟨matchDatum_underscore, rfl⟩

example : matchDatum 1 [] .underscore (lst [num 1]) [] = .ok (true, []) := rfl

/-- a literal identifier matches only the same symbol (and binds nothing) -/
theorem literal_ident_matches_only_itself {lits fuel v} (d : Datum) (σ : Subst)
    (hv : lits.contains v = true) (hf : 1 ≤ fuel) :
    ∃ b, matchDatum fuel lits (.ident v) d σ = .ok (b, σ) ∧ (b = true ↔ ∃ l, d = .sym v l) ∧
      ((specMatch lits (.ident v) d).isSome = b) := by
  obtain ⟨n, rfl⟩ := Nat.exists_eq_add_one.2 hf
  exact ⟨_, matchDatum_lit hv, by cases d <;> simp, specMatch_lit_isSome hv⟩

example : matchDatum 1 ["else"] (.ident "else") (sy "else") [] = .ok (true, []) ∧
    matchDatum 1 ["else"] (.ident "else") (sy "other") [] = .ok (false, []) ∧
    matchDatum 1 ["else"] (.ident "else") (num 1) [] = .ok (false, []) := ⟨rfl, rfl, rfl⟩

/-- a literal datum matches only an equal datum (and binds nothing) -/
theorem literal_datum_matches_only_equal {lits fuel a} (d : Datum) (σ : Subst) (hf : 1 ≤ fuel) :
    ∃ b, matchDatum fuel lits (.prim a) d σ = .ok (b, σ) ∧ (b = true ↔ ∃ l, d = .prim a l) ∧
      ((specMatch lits (.prim a) d).isSome = b) := by
  obtain ⟨n, rfl⟩ := Nat.exists_eq_add_one.2 hf
  exact ⟨_, matchDatum_prim, by cases d <;> simp; exact eq_comm, specMatch_prim_isSome⟩

example : matchDatum 1 [] (.prim (.int 1)) (num 1) [] = .ok (true, []) ∧
    matchDatum 1 [] (.prim (.int 1)) (num 2) [] = .ok (false, []) ∧
    matchDatum 1 [] (.prim (.int 1)) (sy "x") [] = .ok (false, []) := ⟨rfl, rfl, rfl⟩

/-- a (sub-)list pattern without ellipsis matches exactly the proper lists of the same length
whose elements match element-wise; the bindings are those of the elements, in order -/
theorem list_matches_elementwise {lits fuel ps} (d : Datum)
    (hs : Supported lits (Pat.ofList ps) = true) (hne : ∀ p ∈ ps, p.isEllipsis = false)
    (hf : (Pat.ofList ps).size + d.size ≤ fuel) :
    match (properElems d).bind (elementwise (specMatch lits) ps) with
    | some β => matchDatum fuel lits (Pat.ofList ps) d [] = .ok (true, β.toSubst) ∧
        β.toSubst.toBindings = β
    | none => ∃ σ', matchDatum fuel lits (Pat.ofList ps) d [] = .ok (false, σ') :=
  specMatch_ofList_elementwise hne d ▸ matchDatum_eq_spec hs hf

example : (properElems (lst [num 1, sy "k"])).bind
      (elementwise (specMatch ["k"]) [.ident "a", .ident "k"]) = some [("a", [num 1])] ∧
    (properElems (lst [num 1])).bind (elementwise (specMatch ["k"]) [.ident "a", .ident "k"]) = none ∧
    (properElems (.pair (num 1) (sy "k") none)).bind
      (elementwise (specMatch ["k"]) [.ident "a", .ident "k"]) = none := ⟨rfl, rfl, rfl⟩

/-- a vector pattern without ellipsis matches exactly the vectors of the same length whose
elements match element-wise -/
theorem vector_matches_elementwise {lits fuel ps} (d : Datum)
    (hs : Supported lits (.vec ps) = true) (hne : ∀ p ∈ ps, p.isEllipsis = false)
    (hf : (Pat.vec ps).size + d.size ≤ fuel) :
    match (vecElems d).bind (elementwise (specMatch lits) ps) with
    | some β => matchDatum fuel lits (.vec ps) d [] = .ok (true, β.toSubst) ∧
        β.toSubst.toBindings = β
    | none => ∃ σ', matchDatum fuel lits (.vec ps) d [] = .ok (false, σ') :=
  specMatch_vec_elementwise hne d ▸ matchDatum_eq_spec hs hf

example : matchDatum 20 [] (.vec [.ident "a", .prim (.int 2)]) (.vec [num 1, num 2] none) [] =
      .ok (true, [("a", num 1, [])]) ∧
    matchDatum 20 [] (.vec [.ident "a", .prim (.int 2)]) (lst [num 1, num 2]) [] = .ok (false, []) :=
  ⟨rfl, rfl⟩

/-- a sub-pattern followed by an ellipsis matches a run of forms: `(q ...)` against `d₁ … dₙ`
matches iff `n ≥ 1` and every `dᵢ` matches `q`; each variable of `q` is then bound to the sequence
of its matches (`combine`: the bindings of `d₁`, extended item by item, variable by variable) -/
theorem ellipsis_matches_run {lits fuel q} (d : Datum)
    (hs : Supported lits (Pat.ofList [q, .ellipsis]) = true)
    (hf : (Pat.ofList [q, .ellipsis]).size + d.size ≤ fuel) :
    match (properElems d).bind fun ds => (mapOpt (specMatch lits q) ds).bind combine with
    | some β => matchDatum fuel lits (Pat.ofList [q, .ellipsis]) d [] = .ok (true, β.toSubst) ∧
        β.toSubst.toBindings = β
    | none => ∃ σ', matchDatum fuel lits (Pat.ofList [q, .ellipsis]) d [] = .ok (false, σ') :=
  specMatch_run q d ▸ matchDatum_eq_spec hs hf

example : (properElems (lst [lst [sy "x", num 1], lst [sy "y", num 2]])).bind
      (fun ds => (mapOpt (specMatch [] (plist [.ident "name", .ident "val"])) ds).bind combine) =
      some [("name", [sy "x", sy "y"]), ("val", [num 1, num 2])] ∧
    (properElems (lst [lst [sy "x", num 1], num 2])).bind
      (fun ds => (mapOpt (specMatch [] (plist [.ident "name", .ident "val"])) ds).bind combine) = none ∧
    (properElems (lst [])).bind
      (fun ds => (mapOpt (specMatch [] (plist [.ident "name", .ident "val"])) ds).bind combine) = none :=
  ⟨rfl, rfl, rfl⟩

/-- what `combine` is: when the items `ds` all match `q`, with bindings `βs` (one per item), the
run binds EACH variable of `q` to the SEQUENCE of its matches in `d₁ … dₙ`, in order -/
theorem ellipsis_binds_sequences {lits q ds βs β}
    (hm : mapOpt (specMatch lits q) ds = some βs) (hc : combine βs = some β) :
    β.map Prod.fst = q.vars lits ∧
    ∀ v ∈ q.vars lits, β.lookup v = some (βs.flatMap fun b => (b.lookup v).getD []) := by
  obtain ⟨β1, rest, rfl, hk, hl⟩ := combine_lookup hc
  cases ds with
  | nil => simp [mapOpt] at hm
  | cons d ds =>
    obtain ⟨y, ys, hy, -, hys⟩ := mapOpt_cons_some.1 hm
    cases hys
    have := specMatch_keys hy
    exact ⟨hk.trans this, fun v hv => hl v (this ▸ hv)⟩

example : combine [[("a", [num 1]), ("b", [num 2])], [("a", [num 3]), ("b", [num 4])],
    [("a", [num 5]), ("b", [num 6])]] = some [("a", [num 1, num 3, num 5]), ("b", [num 2, num 4, num 6])] :=
  rfl

/-! ## 5. The template is filled as the declarative instantiation says -/

/-- For a supported rule and the bindings of a successful match of its pattern against `d`, with
fuel `≥ d.size`: `subst` yields the declarative instantiation — every variable replaced by what
it matched, every ellipsis sub-template repeated once per matched item, in order. -/
theorem subst_eq_spec {lits p t d β fuel loc} (hr : SupportedRule lits (p, t) = true)
    (hm : specMatch lits p d = some β) (hfu : d.size ≤ fuel) :
    subst fuel t β.toSubst loc = some (specInst t β loc) :=
  subst_of_match_wf (SupportedRule.wf hr).2 hm hfu

example : SupportedRule [] (plist [plist [plist [.ident "name", .ident "val"], .ellipsis],
        .ident "body", .ellipsis],
      .list [(.list [(.ident "lambda", false), (.list [(.ident "name", true)], false),
        (.ident "body", true)], false), (.ident "val", true)]) = true ∧
    specInst (.list [(.list [(.ident "lambda", false), (.list [(.ident "name", true)], false),
        (.ident "body", true)], false), (.ident "val", true)])
      [("name", [sy "x", sy "y"]), ("val", [num 1, num 2]), ("body", [sy "x"])] none =
      lst [lst [sy "lambda", lst [sy "x", sy "y"], sy "x"], num 1, num 2] := ⟨by decide +kernel, rfl⟩

/-- The general form, for ANY table: on a well-formed template (`Tmpl.wf`: every element followed
by an ellipsis has no nested ellipsis and mentions a variable of the table) and with more fuel
than the longest sequence of further matches, `subst` is the declarative instantiation under the
bindings the table represents. (Plain elements may mention ellipsis variables: they get the first
match; sub-templates mixing ellipses of different lengths stop at the shortest — both excluded
from `SupportedTmpl`, which is what R7RS allows.) -/
theorem subst_eq_spec_table {t σ fuel loc} (hwf : t.wf (Subst.keys σ) = true)
    (hfu : ∀ e ∈ σ, e.2.2.length < fuel) :
    subst fuel t σ loc = some (specInst t σ.toBindings loc) :=
  (subst_spec σ loc fuel hfu).1 t hwf

example : (Tmpl.list [(.ident "a", true), (.ident "a", false)]).wf
      (Subst.keys [("a", num 1, [num 2, num 3])]) = true ∧
    subst 3 (Tmpl.list [(.ident "a", true), (.ident "a", false)]) [("a", num 1, [num 2, num 3])] none =
      some (lst [num 1, num 2, num 3, num 1]) := ⟨rfl, rfl⟩

/-- "Repeated once per matched item" is unambiguous in the class: every pattern variable that an
ellipsis sub-template of a supported rule mentions matched exactly `copies β u` items (the
definition of `copies` — the least sequence length — is only a device to make `specInst` total
outside the class). -/
theorem copies_unambiguous {lits p d β u} (hs : Supported lits p = true)
    (hm : specMatch lits p d = some β)
    (hu : Tmpl.ellOk (p.vars lits) (p.ellGroups lits) u = true) :
    ∀ v ∈ u.vars, ∀ ms, β.lookup v = some ms → ms.length = copies β u :=
  copies_eq_length hs hm hu

example : Tmpl.ellOk ["name", "val", "body"] [["name", "val"], ["body"]]
      (.list [(.ident "name", false), (.ident "val", false)]) = true ∧
    Tmpl.ellOk ["name", "val", "body"] [["name", "val"], ["body"]]
      (.list [(.ident "name", false), (.ident "body", false)]) = false ∧
    copies [("name", [sy "x", sy "y"]), ("val", [num 1, num 2]), ("body", [sy "x"])]
      (.list [(.ident "name", false), (.ident "val", false)]) = 2 := by decide +kernel

/-- In the class `subst` does not run out of fuel: `d.size` units suffice after a match against
`d` (the copy loop makes at most as many copies as `d` has items). -/
theorem subst_terminates {lits p t d β fuel loc} (hr : SupportedRule lits (p, t) = true)
    (hm : specMatch lits p d = some β) (hfu : d.size ≤ fuel) :
    (subst fuel t β.toSubst loc).isSome = true := by
  rw [subst_eq_spec hr hm hfu]; rfl

example : (subst 2 (Tmpl.list [(.ident "a", true)]) [("a", num 1, [num 2, num 3])] none).isSome = false ∧
    (subst 3 (Tmpl.list [(.ident "a", true)]) [("a", num 1, [num 2, num 3])] none).isSome = true :=
  ⟨eq_of_same (by decide +kernel), eq_of_same (by decide +kernel)⟩

/-- full-strength statement (all templates): FALSE -/
def subst_terminates_full : Prop :=
  ∀ (t : Tmpl) (σ : Subst) (loc : Loc), ∃ fuel, (subst fuel t σ loc).isSome = true

/-- `subst` ALONE on a sub-template without pattern variable followed by an ellipsis, `(5 ...)`:
the copy loop never ends (the model runs out of any amount of fuel). `transform` no longer calls
`subst` on such a template: see `ellipsis_without_variable_is_error` and `transform_terminates`. -/
theorem subst_terminates_full_fails : ¬ subst_terminates_full := fun h => by
  obtain ⟨fuel, hf⟩ := h (.list [(.prim (.int 5), true)]) [] none
  simp [subst, substElems, substItemLoop_prim] at hf

/-- full-strength statement (all templates, some fuel): FALSE, same witness -/
def subst_eq_spec_full : Prop :=
  ∀ (t : Tmpl) (σ : Subst) (loc : Loc), ∃ fuel,
    subst fuel t σ loc = some (specInst t σ.toBindings loc)

theorem subst_eq_spec_full_fails : ¬ subst_eq_spec_full := fun h =>
  subst_terminates_full_fails fun t σ loc => by
    obtain ⟨fuel, hf⟩ := h t σ loc
    exact ⟨fuel, by rw [hf]; rfl⟩

/-! ## 6. No silent mis-expansion -/

/-- For a supported rule set and enough fuel (`p.size + use.size` for every pattern `p`), the
expander IS the declarative expander: … -/
theorem transform_eq_spec {fuel r use} (hs : SupportedRules r = true)
    (hf : ∀ rule ∈ r.rules, rule.1.size + use.size ≤ fuel) :
    transform fuel r use = specTransform r.literals r.rules use := by
  rcases r with ⟨lits, _ | ⟨r, rules⟩⟩
  · rfl
  · exact transformRules_eq_spec_of (by have := hf r (by simp); omega) _
      fun r hr => ⟨SupportedRule.wf (List.all_eq_true.1 hs r hr), matchDatum_fuel (hf r hr)⟩

example : SupportedRules ⟨["k"], [(plist [.ident "k", .ident "x"], .ident "x"),
      (plist [.ident "x", .ellipsis], .list [(.ident "x", true)])]⟩ = true ∧
    specTransform ["k"] [(plist [.ident "k", .ident "x"], .ident "x"),
      (plist [.ident "x", .ellipsis], .list [(.ident "x", true)])] (lst [sy "k", num 1]) = .ok (num 1) ∧
    specTransform ["k"] [(plist [.ident "k", .ident "x"], .ident "x"),
      (plist [.ident "x", .ellipsis], .list [(.ident "x", true)])] (lst [sy "j", num 1]) =
      .ok (lst [sy "j", num 1]) := ⟨by decide +kernel, rfl, rfl⟩

/-- … so the result is either the declarative instantiation of the FIRST rule (in textual order)
whose pattern declaratively matches the use, or — exactly when no rule matches — the syntax
error; never anything else. -/
theorem no_silent_misexpansion {fuel r use} (hs : SupportedRules r = true)
    (hf : ∀ rule ∈ r.rules, rule.1.size + use.size ≤ fuel) :
    (∃ pre p t post β, r.rules = pre ++ (p, t) :: post ∧
      (∀ q ∈ pre, specMatch r.literals q.1 use = none) ∧ specMatch r.literals p use = some β ∧
      transform fuel r use = .ok (specInst t β use.loc)) ∨
    ((∀ q ∈ r.rules, specMatch r.literals q.1 use = none) ∧
      transform fuel r use = .error (.syntax, none)) := by
  rw [transform_eq_spec hs hf]
  exact specTransform_cases r.literals r.rules use

example : transform 20 ⟨[], [(plist [.prim (.int 1)], .ident "one")]⟩ (lst [num 2]) =
    .error (.syntax, none) := rfl

/-- `transform_eq_spec` with the fuel the expander is actually run with: `matchFuel use` (or more)
suffices for every supported rule set, whatever the size of its patterns -/
theorem transform_eq_spec_matchFuel {fuel r use} (hs : SupportedRules r = true)
    (hf : matchFuel use ≤ fuel) :
    transform fuel r use = specTransform r.literals r.rules use :=
  Macro.transform_eq_spec_matchFuel hs hf

example : transform (matchFuel (lst [num 1, num 2])) ⟨[], [(plist [.ident "x", .ellipsis],
      .list [(.ident "x", true), (.ident "x", true)])]⟩ (lst [num 1, num 2]) =
    .ok (lst [num 1, num 2, num 1, num 2]) := rfl

/-- `no_silent_misexpansion` with `matchFuel use` -/
theorem no_silent_misexpansion_matchFuel {fuel r use} (hs : SupportedRules r = true)
    (hf : matchFuel use ≤ fuel) :
    (∃ pre p t post β, r.rules = pre ++ (p, t) :: post ∧
      (∀ q ∈ pre, specMatch r.literals q.1 use = none) ∧ specMatch r.literals p use = some β ∧
      transform fuel r use = .ok (specInst t β use.loc)) ∨
    ((∀ q ∈ r.rules, specMatch r.literals q.1 use = none) ∧
      transform fuel r use = .error (.syntax, none)) := by
  rw [transform_eq_spec_matchFuel hs hf]
  exact specTransform_cases r.literals r.rules use

example : transform (matchFuel (lst [])) ⟨[], [(plist [.ident "x", .ellipsis],
      .list [(.ident "x", true)])]⟩ (lst []) = .error (.syntax, none) := rfl

/-- for supported rule sets the expander is total with the fuel it is actually run with -/
theorem transform_terminates_supported {fuel r use} (hs : SupportedRules r = true)
    (hf : matchFuel use ≤ fuel) : ∀ l, transform fuel r use ≠ .error (.fuel, l) := by
  intro l h
  rcases no_silent_misexpansion_matchFuel hs hf with ⟨_, _, _, _, _, _, _, _, h'⟩ | ⟨_, h'⟩ <;>
  · rw [h'] at h; cases h

example : SupportedRules ⟨[], [(plist [.ident "x", .ellipsis], .list [(.ident "x", true)])]⟩ = true :=
  eq_of_same (by decide +kernel)

/-- full-strength statement (all rule sets): FALSE -/
def no_silent_misexpansion_full : Prop :=
  ∀ (fuel : Nat) (r : Rules) (use : Datum),
    (∀ rule ∈ r.rules, rule.1.size + use.size ≤ fuel) →
    transform fuel r use = specTransform r.literals r.rules use

/-- Outside the class there are silent mis-expansions: with the rule
`((m a ... z) '(a ... z))`-like `(a ... z) ⇒ (a ... z)`, the use `(1 2 3)` expands to
`(1 2 3 3)`. -/
theorem no_silent_misexpansion_full_fails : ¬ no_silent_misexpansion_full := fun h => by
  have := h 30 ⟨[], [(plist [.ident "a", .ellipsis, .ident "z"],
    .list [(.ident "a", true), (.ident "z", false)])]⟩ (lst [num 1, num 2, num 3]) (by decide)
  cases this

example : transform 30 ⟨[], [(plist [.ident "a", .ellipsis, .ident "z"],
    .list [(.ident "a", true), (.ident "z", false)])]⟩ (lst [num 1, num 2, num 3]) =
    .ok (lst [num 1, num 2, num 3, num 3]) := rfl

end Ruschm.C04
