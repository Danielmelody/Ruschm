/-
The second invariant of property C15: every element of the data carries a position (`Datum.HL`), so the statement
made from a datum has one and a run-time error always reports one. It goes through the reader and the macro
expander by the same rules as `locs ⊆ T` (`hl_closed`, `hl_elemClosed`, `hl_builds`), but not through
`XM.Hered`: the rest of a head-located list is only `TL`, so the transformer is taken by where the statement is
located (`XformLoc.toStatement_loc`).
-/
import RuschmProofs.LocProg

namespace Ruschm

/-! ## every element of the data carries a position (`Datum.HL`) -/

namespace HLoc

theorem hl_loc {d : Datum} (h : d.HL) : d.loc ≠ none := by
  cases d <;> simp only [Datum.HL] at h <;> simp only [Datum.loc] <;> first | exact h | exact h.1

theorem hl_tl {d : Datum} (h : d.HL) : d.TL := by
  cases d <;> simp only [Datum.HL] at h <;> simp only [Datum.TL] <;> first | exact h | exact h.2 | trivial

theorem hl_of_tl {d : Datum} (hl : d.isListy = false) (h : d.TL) : d.HL := by
  cases d <;> first | exact h | cases hl

theorem tl_pair (a d : Datum) (l : Loc) : (Datum.pair a d l).TL ↔ a.HL ∧ d.TL := by rw [Datum.TL]

theorem hls_iff {xs : List Datum} : Datum.HLs xs ↔ ∀ x ∈ xs, x.HL := by
  induction xs with
  | nil => simp [Datum.HLs]
  | cons x xs ih => simp [Datum.HLs, ih]

theorem tl_withLoc {d : Datum} (h : d.TL) {l : Loc} (hl : l ≠ none) : (d.withLoc l).HL := by
  cases d <;> simp only [Datum.TL] at h <;> simp only [Datum.withLoc, Datum.HL] <;>
    first | exact hl | exact ⟨hl, h⟩ | exact ⟨hl, h.2⟩

theorem tl_ofList_none : ∀ {xs : List Datum}, (∀ x ∈ xs, x.HL) → (Datum.ofList none xs).TL
  | [], _ => by simp [Datum.ofList, Datum.TL]
  | x :: xs, h => by
    simp only [Datum.ofList, Datum.TL]
    exact ⟨h x (by simp), tl_ofList_none (fun y hy => h y (by simp [hy]))⟩

theorem hl_ofList {l : Loc} (hl : l ≠ none) {xs : List Datum} (h : ∀ x ∈ xs, x.HL) :
    (Datum.ofList l xs).HL := by
  cases xs with
  | nil => simpa [Datum.ofList, Datum.HL] using hl
  | cons x xs =>
    simp only [Datum.ofList, Datum.HL]
    exact ⟨hl, h x (by simp), tl_ofList_none (fun y hy => h y (by simp [hy]))⟩

/-! ### macro expansion keeps data head-located -/

open Macro

theorem hl_elemClosed : ElemClosed Datum.HL where
  spine := fun d _ hd => Datum.spine_all (tl_pair ..).1 hl_of_tl d (hl_tl hd)
  vec := fun xs l h => by simp only [Datum.HL] at h; exact hls_iff.1 h.2

theorem hl_vec {l : Loc} (hl : l ≠ none) {xs : List Datum} (h : ∀ x ∈ xs, x.HL) : (Datum.vec xs l).HL := by
  simp only [Datum.HL]; exact ⟨hl, hls_iff.2 h⟩

theorem hl_builds {loc : Loc} (hl : loc ≠ none) : Builds Datum.HL (fun _ => True) loc where
  list := fun _ _ _ => trivial
  vec := fun _ _ _ => trivial
  sym := fun _ => hl
  prim := fun _ => hl
  ofList := hl_ofList hl
  mkVec := hl_vec hl

theorem substItems_hl : ∀ (es : List (Tmpl × Bool)) (σ : Subst) (i : Nat) (loc : Loc)
    (ds : List Datum), SubstAll Datum.HL σ → loc ≠ none → substItems es σ i loc = some ds →
    ∀ x ∈ ds, x.HL :=
  fun es _ i _ ds hσ hl h => (substItem_all (hl_builds hl) hσ i).2 es (fun _ _ => trivial) ds h

theorem substElems_hl (fuel : Nat) : ∀ (es : List (Tmpl × Bool)) (σ : Subst) (loc : Loc)
    (ds : List Datum), SubstAll Datum.HL σ → loc ≠ none → substElems fuel es σ loc = some ds →
    ∀ x ∈ ds, x.HL :=
  fun es _ _ ds hσ hl h => (subst_all (hl_builds hl) hσ fuel).2 es (fun _ _ => trivial) ds h

theorem transformRules_hl {fuel : Nat} {lits : List String} {use : Datum} (hu : use.HL) :
    ∀ (rules : List (Pat × Tmpl)) (d : Datum), transformRules fuel lits rules use = .ok d → d.HL :=
  fun rules d => transformRules_all hl_elemClosed (hl_builds (hl_loc hu)) hu rules d
    (fun _ _ => trivial)

/-! ### the statement made from a head-located datum has a position -/

open Xform XformLoc

theorem stmt_loc_some : ∀ (n : Nat) (d : Datum), d.HL → ∀ env s, (toStatement n d env).1 = .ok s →
    s.loc ≠ none
  | 0, d, _, env, s, h => by rw [toStatement] at h; cases h
  | n + 1, d, hd, env, s, h => by
    have hl := hl_loc hd
    rcases toStatement_loc n d env s h with
      ⟨a, rest, l, name, tl, rfl, _, hs⟩ | ⟨_, hs | ⟨kw, lk, b, l, rules, x, rfl, _, hx, hs⟩⟩
    · rw [hs]; cases tl
      · exact hl
      · simp
    · rw [hs]; exact hl
    · exact stmt_loc_some n x (transformRules_hl (tl_withLoc hd.2.2 hl) _ _ hx) env s hs

/-! ### the reader delivers head-located data when every token has a position -/

open Read

def TokLoc (s : PState) : Prop := ∀ t ∈ s.toks, t.loc ≠ none
def CurOK (s : PState) : Prop := ∀ t, s.cur = some t → t.loc ≠ none ∧ s.loc ≠ none

theorem hl_mkQuote {l : Loc} (hl : l ≠ none) {inner : Datum} (hi : inner.HL) : (mkQuote l inner).HL := by
  simp [mkQuote, Datum.HL, Datum.TL, hl, hi]

theorem hl_closed : Closed (fun t => t.loc ≠ none) (· ≠ none) Datum.HL Datum.TL where
  loc := id
  prim := fun _ _ hl => hl
  sym := fun hl => hl
  nil := trivial
  snoc := fun ha hx =>
    snoc_closed (B := fun a _ => a.HL) tl_pair ((tl_pair ..).2 ⟨hx, trivial⟩) _ ha
  tail := fun ha hx => setTail_closed (B := fun a _ => a.HL) tl_pair (hl_tl hx) _ ha
  withLoc := fun ha hl => tl_withLoc ha hl
  relabel := fun hd hl => tl_withLoc (hl_tl hd) hl
  vec := fun h hl => hl_vec hl h
  quote := fun hd hl => hl_mkQuote hl hd

/-- what `ReadSpec.snd_all` gives with `hl_closed` for the five functions of the reader, as one record; nothing in
the development builds it (`nextDatum_hl` uses `inv_nextDatum hl_closed`); `CurOK` serves only this record -/
structure HAt (fuel : Nat) : Prop where
  cur : ∀ s od s', currentDatum fuel s = .ok (od, s') → TokLoc s → CurOK s →
    TokLoc s' ∧ ∀ d, od = some d → d.HL
  loop : ∀ s listLoc acc dot d s', listLoop fuel s listLoc acc dot = .ok (d, s') → TokLoc s →
    listLoc ≠ none → acc.TL → TokLoc s' ∧ d.HL
  rep : ∀ s acc xs s', repeatDatum fuel s acc = .ok (xs, s') → TokLoc s → (∀ x ∈ acc, x.HL) →
    TokLoc s' ∧ (∀ x ∈ xs, x.HL) ∧ s'.loc ≠ none
  datum : ∀ s d s', datum fuel s = .ok (d, s') → TokLoc s → CurOK s → TokLoc s' ∧ d.HL
  quoted : ∀ s d s', parseQuoted fuel s = .ok (d, s') → TokLoc s → CurOK s → TokLoc s' ∧ d.HL

theorem nextDatum_hl {s s' : PState} {d : Datum} (h : nextDatum s = .ok (some d, s')) (ht : TokLoc s) :
    d.HL ∧ TokLoc s' :=
  have := inv_nextDatum hl_closed h ht
  ⟨this.2.2 d rfl, this.1⟩

theorem ofText_tokLoc (cs : List Char) : TokLoc (Read.ofText cs) :=
  (Text.all_stream cs).forall (R := fun t => t.loc ≠ none) fun _ => nofun

/-! ### a run-time error always has a position -/

open Interp InterpLoc

theorem evalAst_located {fuel : Nat} {st st' : State} {s : Statement} {k : Err} {loc : Loc}
    (h : evalAst fuel st s = (.error (k, loc), st')) (hs : s.loc ≠ none) : loc ≠ none := by
  obtain ⟨loc0, -, rfl⟩ := (evalAst_post h).2 k loc rfl
  cases loc0
  · exact hs
  · simp

/-- an error without a position was raised while reading or transforming a form (a syntax error),
never while evaluating one -/
def SyntaxStage (k : Err) : Prop :=
  (∃ s : PState, nextDatum s = .error (k, none)) ∨
  (∃ d env env', toStatement (xformFuel d) d env = (.error (k, none), env'))

theorem evalForm_located {fuel : Nat} {st st' : State} {d : Datum} {k : Err} (hd : d.HL)
    (h : FrontSpec.evalForm fuel st d = (.error (k, none), st')) : SyntaxStage k := by
  rcases hx : toStatement (xformFuel d) d st.syn with ⟨_ | stmt, syn⟩
  · cases (FrontSpec.evalForm_error hx).symm.trans h; exact .inr ⟨d, _, _, hx⟩
  · rw [FrontSpec.evalForm_ok hx] at h
    exact absurd rfl (evalAst_located h (stmt_loc_some _ d hd st.syn stmt (by rw [hx])))

theorem evalText_go_located (fuel : Nat) (n : Nat) (s : PState) (st : State) (last : Option Value)
    (k : Err) (st' : State) (ht : TokLoc s) (h : evalText.go fuel n s st last = (.error (k, none), st')) :
    k = .fuel ∨ SyntaxStage k :=
  (evalText_go_rule (J := fun s _ => TokLoc s) (Q := fun _ => True)
    (E := fun e => ∀ k, e = (k, none) → k = .fuel ∨ SyntaxStage k)
    (fun _ _ _ => trivial) (fun k hk => by cases hk; exact .inl rfl)
    (fun s _ e _ he k hk => .inr (.inl ⟨s, hk ▸ he⟩))
    (fun s st d s' ht hd => ⟨fun _ _ _ => (nextDatum_hl hd ht).2,
      fun e st' hx => ⟨trivial, fun k hk => .inr (evalForm_located (nextDatum_hl hd ht).1 (hk ▸ hx))⟩⟩)
    n s st last ht).2 _ (by rw [h]) k rfl

end HLoc

end Ruschm
