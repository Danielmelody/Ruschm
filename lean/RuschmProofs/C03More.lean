/-
C03, main theorem: every history of store operations shows the same on the model's `Store`
(`RuschmModel/Value.lean`, vector primitives of `RuschmModel/Prim.lean`) as on the abstract store
of `RuschmSpec/AbsStore.lean`.
-/
import RuschmSpec.AbsStore
import RuschmProofs.StoreLemmas
import RuschmProofs.Same
import RuschmProofs.AbsStoreLemmas

namespace Ruschm.C03More

open Ruschm.AbsStore

/-! ## the history run on the model -/

/-- outcome of a native procedure as an observation -/
def outOfRes : Except SErr Value → Out
  | .ok v => .val v
  | .error (e, _) => .err e

/-- an operand, evaluated on the model's store -/
def evalSrcM (σ : Store) (outs : List Out) : Src → Except Out Value
  | .const v => .ok v
  | .var ρ x =>
    match σ.lookup ρ x with
    | some v => .ok v
    | none => .error (.err .unbound)
  | .res k => resValue outs k

def evalSrcsM (σ : Store) (outs : List Out) : List Src → Except Out (List Value)
  | [] => .ok []
  | a :: as =>
    match evalSrcM σ outs a with
    | .error o => .error o
    | .ok v =>
      match evalSrcsM σ outs as with
      | .error o => .error o
      | .ok vs => .ok (v :: vs)

/-- one operation on the model: `Store.newFrame`, `Store.define`, `Store.set`, `Store.lookup`,
`Store.allocVec`, and the native procedures `vector`, `make-vector`, `vector-ref`, `vector-set!`
through `Prim.applyPure` -/
def stepM (σ : Store) (outs : List Out) : Op → Out × Store
  | .newFrame p =>
    let (id, σ') := σ.newFrame p
    (.frame id, σ')
  | .callFrame f =>
    match evalSrcM σ outs f with
    | .error o => (o, σ)
    | .ok (.closure _ env) =>
      let (id, σ') := σ.newFrame (some env)
      (.frame id, σ')
    | .ok _ => (.err .nonProcedure, σ)
  | .define ρ x e =>
    match evalSrcM σ outs e with
    | .error o => (o, σ)
    | .ok v => (.done, σ.define ρ x v)
  | .assign ρ x e =>
    match evalSrcM σ outs e with
    | .error o => (o, σ)
    | .ok v =>
      match σ.set ρ x v with
      | (true, σ') => (.done, σ')
      | (false, σ') => (.err .unbound, σ')
  | .lookup ρ x =>
    match σ.lookup ρ x with
    | some v => (.val v, σ)
    | none => (.err .unbound, σ)
  | .allocVec m items =>
    match evalSrcsM σ outs items with
    | .error o => (o, σ)
    | .ok vs =>
      if m then
        let (r, σ') := Prim.applyPure σ .vector vs
        (outOfRes r, σ')
      else
        let (v, σ') := σ.allocVec false vs
        (.val v, σ')
  | .makeVector k fill =>
    match evalSrcM σ outs k with
    | .error o => (o, σ)
    | .ok kv =>
      match evalSrcM σ outs fill with
      | .error o => (o, σ)
      | .ok fv =>
        let (r, σ') := Prim.applyPure σ .makeVector [kv, fv]
        (outOfRes r, σ')
  | .vecRef v k =>
    match evalSrcM σ outs v with
    | .error o => (o, σ)
    | .ok vv =>
      match evalSrcM σ outs k with
      | .error o => (o, σ)
      | .ok kv =>
        let (r, σ') := Prim.applyPure σ .vectorRef [vv, kv]
        (outOfRes r, σ')
  | .vecSet v k obj =>
    match evalSrcM σ outs v with
    | .error o => (o, σ)
    | .ok vv =>
      match evalSrcM σ outs k with
      | .error o => (o, σ)
      | .ok kv =>
        match evalSrcM σ outs obj with
        | .error o => (o, σ)
        | .ok ov =>
          match Prim.applyPure σ .vectorSet [vv, kv, ov] with
          | (.ok _, σ') => (.done, σ')
          | (.error (e, _), σ') => (.err e, σ')

/-- run a history on the model from a store -/
def runFromM (σ : Store) (outs : List Out) : List Op → List Out × Store
  | [] => (outs, σ)
  | op :: ops => runFromM (stepM σ outs op).2 (outs ++ [(stepM σ outs op).1]) ops

/-- a history run by a fresh interpreter (`Store.root`: the global frame, no vectors) -/
def runModel (ops : List Op) : List Out × Store := runFromM Store.root [] ops

/-! ## the abstraction relation -/

/-- `Abs σ s`: the abstract state `s` is a reading of the model's store `σ`.
Scope ids are frame ids and object ids are cell ids; the scopes around a scope are the frame's
parent chain; what frame `r` holds for `x` is the value of the binding scope `r` names `x`;
different (frame, name) pairs have different bindings, all of them below the counter. -/
structure Abs (σ : Store) (s : State) : Prop where
  size : s.scopes.length = σ.frames.size
  chain : ∀ ρ, scopeChain s ρ = σ.chain ρ
  binding : ∀ r x, σ.binding r x = ((ownNames s r).lookup x).map s.vals
  fresh : ∀ r x b, (ownNames s r).lookup x = some b → b < s.nextB
  inj : ∀ r x r' x' b, (ownNames s r).lookup x = some b → (ownNames s r').lookup x' = some b →
    r = r' ∧ x = x'
  vecs : ∀ i, s.vecs i = (σ.vecs[i]?).map (fun c => (c.mutable, c.items))
  nextV : s.nextV = σ.vecs.size


/-! ## reading names through `Abs` -/

private theorem ownNames_some_lt {s : State} {r : Nat} {x : String} {b : BId}
    (h : (ownNames s r).lookup x = some b) : r < s.scopes.length := by
  unfold ownNames at h
  cases hs : s.scopes[r]? with
  | none => simp [hs] at h
  | some sc => exact (List.getElem?_eq_some_iff.1 hs).1

private theorem definesAt_eq {σ : Store} {s : State} (a : Abs σ s) (r : Nat) (x : String) :
    σ.definesAt r x = ((ownNames s r).lookup x).isSome := by
  unfold Store.definesAt
  rw [a.binding]
  cases (ownNames s r).lookup x <;> rfl

/-- the binding id the abstract environment of `ρ` gives for `x` is the one the frame picked by
`resolve` names -/
private theorem env_lookup {σ : Store} {s : State} (a : Abs σ s) (ρ : Nat) (x : String) :
    (env s ρ).lookup x = (σ.resolve ρ x).bind (fun r => (ownNames s r).lookup x) := by
  unfold env
  rw [lookup_flatMap, a.chain, Store.resolve_eq_find]
  have : (fun r => ((ownNames s r).lookup x).isSome) = (fun r => σ.definesAt r x) := by
    funext r; exact (definesAt_eq a r x).symm
  rw [this]

private theorem lookup_map {σ : Store} {s : State} (a : Abs σ s) (ρ : Nat) (x : String) :
    σ.lookup ρ x = ((env s ρ).lookup x).map s.vals := by
  rw [Store.lookup_eq_bind, env_lookup a]
  cases σ.resolve ρ x with
  | none => rfl
  | some r => simp [a.binding]


/-! ## `define` and `set!` -/

/-- `define` in frame `r`, read as giving the value `v` to a binding `b` that no other (frame, name) pair has -/
private theorem binding_upd {σ : Store} {s : State} (a : Abs σ s) {r : Nat} (hr : r < σ.frames.size) {x : String}
    {b : BId} (v : Value)
    (hb : ∀ r' y b', (ownNames s r').lookup y = some b' → ¬ (r' = r ∧ y = x) → b' ≠ b) (r' : Nat) (y : String) :
    (σ.define r x v).binding r' y =
      (if r' = r ∧ y = x then some b else (ownNames s r').lookup y).map (upd s.vals b v) := by
  rw [Store.binding_define]
  by_cases hc : r' = r ∧ y = x
  · rw [if_pos ⟨hc.1, hc.2, hr⟩, if_pos hc]; simp [upd]
  · rw [if_neg fun h => hc ⟨h.1, h.2.1⟩, if_neg hc, a.binding]
    cases hl : (ownNames s r').lookup y with
    | none => rfl
    | some b' => simp [upd, hb _ _ _ hl hc]

/-- overwriting the value of the binding that frame `r` has for `x` -/
private theorem abs_update {σ : Store} {s : State} (a : Abs σ s) {r : Nat} {x : String} {b : BId}
    (hb : (ownNames s r).lookup x = some b) (v : Value) :
    Abs (σ.define r x v) { s with vals := upd s.vals b v } := by
  have hr : r < σ.frames.size := a.size ▸ ownNames_some_lt hb
  refine ⟨?_, ?_, ?_, a.fresh, a.inj, ?_, ?_⟩
  · simpa using a.size
  · intro ρ; rw [Store.chain_define]; exact a.chain ρ
  · intro r' y
    rw [binding_upd a hr v (fun _ _ _ hl hc e => hc (a.inj _ _ _ _ _ hl (e ▸ hb)))]
    show _ = ((ownNames s r').lookup y).map (upd s.vals b v)
    split
    · next hc => rw [hc.1, hc.2, hb]
    · rfl
  · intro i; rw [Store.define_vecs]; exact a.vecs i
  · rw [Store.define_vecs]; exact a.nextV

private theorem abs_defineNew {σ : Store} {s : State} (a : Abs σ s) {r : Nat} {sc : Scope}
    (hs : s.scopes[r]? = some sc) (x : String) (v : Value) :
    Abs (σ.define r x v) (defineNew s r sc x v) := by
  have hlt : r < s.scopes.length := (List.getElem?_eq_some_iff.1 hs).1
  have hr : r < σ.frames.size := a.size ▸ hlt
  refine ⟨?_, ?_, ?_, ?_, ?_, ?_, ?_⟩
  · simpa [defineNew] using a.size
  · intro ρ; rw [Store.chain_define, scopeChain_defineNew hs]; exact a.chain ρ
  · intro r' y
    rw [ownNames_defineNew hs]
    exact binding_upd a hr v (fun _ _ _ hl _ => Nat.ne_of_lt (a.fresh _ _ _ hl)) r' y
  · intro r' y b hb
    rw [ownNames_defineNew hs] at hb
    show b < s.nextB + 1
    split at hb
    · cases hb; exact Nat.lt_succ_self _
    · exact Nat.lt_succ_of_lt (a.fresh _ _ _ hb)
  · intro r₁ x₁ r₂ x₂ b h₁ h₂
    rw [ownNames_defineNew hs] at h₁ h₂
    split at h₁ <;> split at h₂
    · rename_i c₁ c₂; exact ⟨c₁.1.trans c₂.1.symm, c₁.2.trans c₂.2.symm⟩
    · cases h₁; exact absurd (a.fresh _ _ _ h₂) (Nat.lt_irrefl _)
    · cases h₂; exact absurd (a.fresh _ _ _ h₁) (Nat.lt_irrefl _)
    · exact a.inj _ _ _ _ _ h₁ h₂
  · intro i; rw [Store.define_vecs]; exact a.vecs i
  · rw [Store.define_vecs]; exact a.nextV

/-- **`define` refines**: `Store.define` in frame `ρ` is the spec's `define` in scope `ρ` -/
theorem define_refines {σ : Store} {s : State} (a : Abs σ s) (ρ : Nat) (x : String) (v : Value) :
    Abs (σ.define ρ x v) (AbsStore.define s ρ x v) := by
  unfold AbsStore.define
  cases hs : s.scopes[ρ]? with
  | none =>
    show Abs _ s
    rw [Store.define_of_not_lt _ _ _ (a.size ▸ Nat.not_lt.mpr (List.getElem?_eq_none_iff.mp hs))]; exact a
  | some sc =>
    have hn : ownNames s ρ = sc.names := by simp [ownNames, hs]
    simp only
    cases hl : sc.names.lookup x with
    | some b => exact abs_update a (by rw [hn]; exact hl) v
    | none => exact abs_defineNew a hs x v

/-- **variable reference refines**: `Store.lookup` from frame `ρ` gives the value the spec's
`lookup` gives, and is `none` exactly when the spec says `unbound` -/
theorem lookup_refines {σ : Store} {s : State} (a : Abs σ s) (ρ : Nat) (x : String) :
    AbsStore.lookup s ρ x = match σ.lookup ρ x with
      | some v => .ok v
      | none => .error .unbound := by
  unfold AbsStore.lookup
  rw [lookup_map a]
  cases (env s ρ).lookup x <;> rfl

/-- **`set!` refines**: `Store.set` from frame `ρ` succeeds exactly when the spec's `assign`
does (otherwise: `unbound`, nothing changed on either side), and the resulting stores are related -/
theorem assign_refines {σ : Store} {s : State} (a : Abs σ s) (ρ : Nat) (x : String) (v : Value) :
    ((σ.set ρ x v).1 = true ↔ (AbsStore.assign s ρ x v).1 = .ok ()) ∧
    ((σ.set ρ x v).1 = false ↔ (AbsStore.assign s ρ x v).1 = .error .unbound) ∧
    Abs (σ.set ρ x v).2 (AbsStore.assign s ρ x v).2 := by
  unfold AbsStore.assign
  rw [Store.set_eq, env_lookup a]
  cases hr : σ.resolve ρ x with
  | none => simp [a]
  | some r =>
    have hd := (Store.resolve_some hr).1
    rw [definesAt_eq a] at hd
    cases hl : (ownNames s r).lookup x with
    | none => simp [hl] at hd
    | some b =>
      simp only [Option.bind_some, hl]
      exact ⟨by simp, by simp, abs_update a hl v⟩


/-! ## `newFrame` -/

/-- **`newFrame` refines**: `Store.newFrame` gives the id the spec's `extend` gives (the number
of frames so far - a frame nobody has yet), and the resulting stores are related -/
theorem newFrame_refines {σ : Store} {s : State} (a : Abs σ s) (p : Option Nat) :
    (σ.newFrame p).1 = (extend s p).1 ∧ Abs (σ.newFrame p).2 (extend s p).2 := by
  refine ⟨a.size.symm, ?_, ?_, ?_, ?_, ?_, a.vecs, a.nextV⟩
  · simp [extend, Store.newFrame, a.size]
  · intro ρ
    rw [Store.chain_newFrame, scopeChain_extend, a.size, a.chain]
    cases p with
    | none => rfl
    | some q => simp only [a.chain]
  · intro r x
    rw [Store.binding_newFrame, ownNames_extend]; exact a.binding r x
  · intro r x b h
    rw [ownNames_extend] at h; exact a.fresh r x b h
  · intro r x r' x' b h h'
    rw [ownNames_extend] at h h'; exact a.inj r x r' x' b h h'


/-! ## vectors -/

/-- a change of the vector part only -/
private theorem abs_vecs {σ σ' : Store} {s : State} (a : Abs σ s) (hf : σ'.frames = σ.frames)
    (vecs' : OId → Option (Bool × List Value)) (nextV' : Nat)
    (hv : ∀ i, vecs' i = (σ'.vecs[i]?).map (fun c => (c.mutable, c.items)))
    (hn : nextV' = σ'.vecs.size) :
    Abs σ' { s with vecs := vecs', nextV := nextV' } := by
  refine ⟨?_, ?_, ?_, a.fresh, a.inj, hv, hn⟩
  · rw [hf]; exact a.size
  · intro ρ
    rw [Store.chain_congr (σ := σ) (σ' := σ') (by intro i; rw [hf])]
    exact a.chain ρ
  · intro r x
    have : σ'.binding r x = σ.binding r x := by unfold Store.binding; rw [hf]
    rw [this]; exact a.binding r x

/-- **allocation refines**: `Store.allocVec` returns a reference to the object id the spec's
`allocVec` returns (the number of vectors so far - an id nobody has yet) -/
theorem allocVec_refines {σ : Store} {s : State} (a : Abs σ s) (m : Bool) (items : List Value) :
    (σ.allocVec m items).1 = .vec (AbsStore.allocVec s m items).1 ∧
    Abs (σ.allocVec m items).2 (AbsStore.allocVec s m items).2 := by
  refine ⟨by simp [AbsStore.allocVec, a.nextV], ?_⟩
  refine abs_vecs (σ' := (σ.allocVec m items).2) a rfl _ _ ?_ ?_
  · intro i
    simp only [Store.allocVec, Array.getElem?_push, upd, a.nextV]
    split
    · rfl
    · exact a.vecs i
  · simp [Store.allocVec, a.nextV]

private theorem vecInt_cases (v k : Value) :
    (∃ id n, v = .vec id ∧ k = .num (.int n)) ∨
    ((∀ s, vecRefV s v k = .error .type) ∧ (∀ s obj, vecSetV s v k obj = (.error .type, s)) ∧
     (∀ σ, Prim.applyPure σ .vectorRef [v, k] = (.error (.type, none), σ)) ∧
     ∀ σ obj, Prim.applyPure σ .vectorSet [v, k, obj] = (.error (.type, none), σ)) := by
  by_cases hv : ∃ id, v = .vec id
  · by_cases hk : ∃ n, k = .num (.int n)
    · obtain ⟨id, rfl⟩ := hv; obtain ⟨n, rfl⟩ := hk; exact .inl ⟨id, n, rfl, rfl⟩
    · have hk' : ∀ n, k ≠ .num (.int n) := fun n e => hk ⟨n, e⟩
      obtain ⟨id, rfl⟩ := hv
      refine .inr ⟨fun s => ?_, fun s obj => ?_, fun σ => (Prim.type_of_not_int hk' _ k).1,
        fun σ obj => (Prim.type_of_not_int hk' _ obj).2.1⟩
      · unfold vecRefV; split
        · exact absurd rfl (hk' _)
        · rfl
      · unfold vecSetV; split
        · exact absurd rfl (hk' _)
        · rfl
  · have hv' : ∀ id, v ≠ .vec id := fun id e => hv ⟨id, e⟩
    refine .inr ⟨fun s => ?_, fun s obj => ?_, fun σ => (Prim.type_of_not_vec hv' k k).1,
      fun σ obj => (Prim.type_of_not_vec hv' k obj).2.1⟩
    · unfold vecRefV; split
      · exact absurd rfl (hv' _)
      · rfl
    · unfold vecSetV; split
      · exact absurd rfl (hv' _)
      · rfl

/-- **`vector-ref` refines**: the native procedure, on any two operands, yields what the spec's
`vecRefV` yields (item, `type`, `vectorIndex`, or the dangling-reference panic) and leaves the
store alone -/
theorem vecRef_refines {σ : Store} {s : State} (a : Abs σ s) (v k : Value) :
    Prim.applyPure σ .vectorRef [v, k] =
      ((match vecRefV s v k with
        | .ok x => .ok x
        | .error e => .error (e, none) : Except SErr Value), σ) := by
  rcases vecInt_cases v k with ⟨id, n, rfl, rfl⟩ | ⟨h₁, -, h₂, -⟩
  · show _ = ((match vecRef s id n with
        | .ok x => .ok x
        | .error e => .error (e, none) : Except SErr Value), σ)
    unfold vecRef
    rw [a.vecs]
    cases hc : σ.vecs[id]? with
    | none => rw [Prim.vectorRef_dangling hc]; rfl
    | some cell =>
      rw [Prim.vectorRef_outcome hc]
      simp only [Option.map_some]
      split
      · rfl
      · cases cell.items[n.toNat]? <;> rfl
  · rw [h₂, h₁]

/-- **`vector-set!` refines**: the native procedure, on any three operands, yields what the spec's
`vecSetV` yields - `immutable` on an immutable object, `vectorIndex`, `type`, the dangling panic,
all with nothing changed - and on success the resulting stores are related -/
theorem vecSet_refines {σ : Store} {s : State} (a : Abs σ s) (v k obj : Value) :
    (Prim.applyPure σ .vectorSet [v, k, obj]).1 =
      (match (vecSetV s v k obj).1 with
        | .ok _ => .ok .void
        | .error e => .error (e, none)) ∧
    Abs (Prim.applyPure σ .vectorSet [v, k, obj]).2 (vecSetV s v k obj).2 := by
  rcases vecInt_cases v k with ⟨id, n, rfl, rfl⟩ | ⟨-, h₁, -, h₂⟩
  · show _ = (match (vecSet s id n obj).1 with
        | .ok _ => .ok .void
        | .error e => .error (e, none) : Except SErr Value) ∧ Abs _ (vecSet s id n obj).2
    unfold vecSet
    rw [a.vecs]
    cases hc : σ.vecs[id]? with
    | none => rw [Prim.vectorSet_dangling hc]; exact ⟨rfl, a⟩
    | some cell =>
      rw [Prim.vectorSet_outcome hc]
      simp only [Option.map_some]
      split
      · exact ⟨rfl, a⟩
      · split
        · exact ⟨rfl, a⟩
        · refine ⟨rfl, ?_⟩
          refine abs_vecs (σ' := Prim.vsetStore σ id cell n.toNat obj) a rfl _ _ ?_ ?_
          · intro j
            rw [Prim.vsetStore_vecs_getElem?]
            simp only [upd]
            by_cases hj : id = j
            · subst hj
              simp [Store.getElem?_some_lt hc]
            · have : ¬ j = id := fun e => hj e.symm
              simp [hj, this, a.vecs]
          · rw [(Prim.sameExceptCell_vsetStore hc _ _).vecs_size]; exact a.nextV
  · rw [h₂, h₁]
    exact ⟨rfl, a⟩

/-- **`make-vector` refines** (any two operands): `type` for a length that is not an exact
integer, `negativeLength`, or a reference to a fresh mutable object whose every slot is `fill` -/
theorem makeVector_refines {σ : Store} {s : State} (a : Abs σ s) (k fill : Value) :
    (Prim.applyPure σ .makeVector [k, fill]).1 =
      (match (makeVectorV s k fill).1 with
        | .ok id => .ok (.vec id)
        | .error e => .error (e, none)) ∧
    Abs (Prim.applyPure σ .makeVector [k, fill]).2 (makeVectorV s k fill).2 := by
  by_cases h : ∃ n, k = .num (.int n)
  · obtain ⟨n, rfl⟩ := h
    simp only [Prim.applyPure, makeVectorV]
    by_cases hn : n < 0
    · simp only [hn, if_true]; exact ⟨rfl, a⟩
    · simp only [hn, if_false]
      have := allocVec_refines a true (List.replicate n.toNat fill)
      refine ⟨?_, this.2⟩
      simp [Prim.ok, AbsStore.allocVec, a.nextV]
  · have h' : ∀ n, k = .num (.int n) → False := fun n e => h ⟨n, e⟩
    have e₁ : Prim.applyPure σ .makeVector [k, fill] = (.error (.type, none), σ) :=
      (Prim.type_of_not_int h' fill fill).2.2
    have e₂ : makeVectorV s k fill = (.error .type, s) := by
      unfold makeVectorV
      split
      · exact absurd rfl (h' _)
      · rfl
    rw [e₁, e₂]; exact ⟨rfl, a⟩


/-! ## one operation, then histories -/

private theorem evalSrc_refines {σ : Store} {s : State} (a : Abs σ s) (outs : List Out) (e : Src) :
    evalSrcM σ outs e = evalSrc s outs e := by
  cases e with
  | const v | res k => rfl
  | var ρ x =>
    simp only [evalSrcM, evalSrc, lookup_refines a]
    cases σ.lookup ρ x <;> rfl

private theorem evalSrcs_refines {σ : Store} {s : State} (a : Abs σ s) (outs : List Out) :
    ∀ es : List Src, evalSrcsM σ outs es = evalSrcs s outs es
  | [] => rfl
  | e :: es => by
    simp only [evalSrcsM, evalSrcs, evalSrc_refines a, evalSrcs_refines a outs es]
    rfl

/-- **one operation refines**: from related states, every operation shows the same on the model
as on the spec, and leaves related states -/
theorem step_refines {σ : Store} {s : State} (a : Abs σ s) (outs : List Out) (op : Op) :
    (stepM σ outs op).1 = (step s outs op).1 ∧ Abs (stepM σ outs op).2 (step s outs op).2 := by
  cases op with
  | newFrame p => exact ⟨congrArg Out.frame (newFrame_refines a p).1, (newFrame_refines a p).2⟩
  | callFrame f =>
    simp only [stepM, step, evalSrc_refines a]
    cases evalSrc s outs f with
    | error o => exact ⟨rfl, a⟩
    | ok v =>
      cases v with
      | closure lam scope =>
        exact ⟨congrArg Out.frame (newFrame_refines a (some scope)).1, (newFrame_refines a (some scope)).2⟩
      | _ => exact ⟨rfl, a⟩
  | define ρ x e =>
    simp only [stepM, step, evalSrc_refines a]
    cases evalSrc s outs e with
    | error o => exact ⟨rfl, a⟩
    | ok v => exact ⟨rfl, define_refines a ρ x v⟩
  | assign ρ x e =>
    simp only [stepM, step, evalSrc_refines a]
    cases evalSrc s outs e with
    | error o => exact ⟨rfl, a⟩
    | ok v =>
      have := assign_refines a ρ x v
      dsimp only
      generalize σ.set ρ x v = p at this ⊢
      generalize AbsStore.assign s ρ x v = q at this ⊢
      obtain ⟨b, σ'⟩ := p
      obtain ⟨r, s'⟩ := q
      cases b
      · cases this.2.1.1 rfl; exact ⟨rfl, this.2.2⟩
      · cases this.1.1 rfl; exact ⟨rfl, this.2.2⟩
  | lookup ρ x =>
    simp only [stepM, step, lookup_refines a]
    cases σ.lookup ρ x <;> exact ⟨rfl, a⟩
  | allocVec m items =>
    simp only [stepM, step, evalSrcs_refines a]
    cases evalSrcs s outs items with
    | error o => exact ⟨rfl, a⟩
    | ok vs =>
      have := allocVec_refines a m vs
      cases m <;> exact ⟨congrArg Out.val this.1, this.2⟩
  | makeVector k fill =>
    simp only [stepM, step, evalSrc_refines a]
    cases evalSrc s outs k with
    | error o => exact ⟨rfl, a⟩
    | ok kv =>
      cases evalSrc s outs fill with
      | error o => exact ⟨rfl, a⟩
      | ok fv =>
        have := makeVector_refines a kv fv
        dsimp only
        generalize Prim.applyPure σ .makeVector [kv, fv] = p at this ⊢
        generalize makeVectorV s kv fv = q at this ⊢
        obtain ⟨r, σ'⟩ := p
        obtain ⟨r', s'⟩ := q
        cases this.1
        cases r' <;> exact ⟨rfl, this.2⟩
  | vecRef v k =>
    simp only [stepM, step, evalSrc_refines a]
    cases evalSrc s outs v with
    | error o => exact ⟨rfl, a⟩
    | ok vv =>
      cases evalSrc s outs k with
      | error o => exact ⟨rfl, a⟩
      | ok kv =>
        simp only [vecRef_refines a vv kv]
        cases vecRefV s vv kv <;> exact ⟨rfl, a⟩
  | vecSet v k obj =>
    simp only [stepM, step, evalSrc_refines a]
    cases evalSrc s outs v with
    | error o => exact ⟨rfl, a⟩
    | ok vv =>
      cases evalSrc s outs k with
      | error o => exact ⟨rfl, a⟩
      | ok kv =>
        cases evalSrc s outs obj with
        | error o => exact ⟨rfl, a⟩
        | ok ov =>
          have := vecSet_refines a vv kv ov
          dsimp only
          generalize Prim.applyPure σ .vectorSet [vv, kv, ov] = p at this ⊢
          generalize vecSetV s vv kv ov = q at this ⊢
          obtain ⟨r, σ'⟩ := p
          obtain ⟨r', s'⟩ := q
          cases this.1
          cases r' <;> exact ⟨rfl, this.2⟩

/-- the fresh interpreter: the root store is read as the initial abstract state -/
theorem abs_init : Abs Store.root init := by
  refine ⟨rfl, ?_, ?_, ?_, ?_, ?_, rfl⟩
  · intro ρ
    cases ρ with
    | zero => rfl
    | succ n => simp [scopeChain, init, Store.chain_of_none, Store.root]
  · intro r x
    cases r with
    | zero => rfl
    | succ n => simp [ownNames, init, Store.binding, Store.root]
  · intro r x b h
    cases r <;> simp [ownNames, init] at h
  · intro r x r' x' b h
    cases r <;> simp [ownNames, init] at h
  · intro i; simp [init, Store.root]

/-- histories from related states -/
theorem runFrom_refines : ∀ (ops : List Op) {σ : Store} {s : State} (_ : Abs σ s) (outs : List Out),
    (runFromM σ outs ops).1 = (runFrom s outs ops).1 ∧
    Abs (runFromM σ outs ops).2 (runFrom s outs ops).2
  | [], _, _, a, _ => ⟨rfl, a⟩
  | op :: ops, σ, s, a, outs => by
    have h := step_refines a outs op
    simp only [runFromM, runFrom]
    rw [h.1]
    exact runFrom_refines ops h.2 _

/-- **Main theorem of C03.** For EVERY history of operations - new frames and call frames,
definitions, assignments, variable probes through any frame, vector creations (mutable, literal,
`make-vector`), `vector-set!` and `vector-ref` probes through any alias (a constant reference, a
variable of any frame, an earlier result such as an item read out of another vector) - a fresh
interpreter store of the model shows, operation by operation, exactly what the abstract store
shows: values, frame ids, and the errors `unbound`, `immutable`, `vectorIndex`, `type`,
`negativeLength`, `nonProcedure`. -/
theorem history_refines_store_spec (ops : List Op) :
    observe (runModel ops) = observe (runSpec ops) :=
  (runFrom_refines ops abs_init []).1

/-- … and after every history the model's store is still read as the abstract state the spec
reached (so the agreement continues whatever comes next). -/
theorem history_preserves_abs (ops : List Op) : Abs (runModel ops).2 (runSpec ops).2 :=
  (runFrom_refines ops abs_init []).2


/-! ## the hypotheses of the per-operation lemmas are satisfiable

`Abs σ s` holds of the fresh interpreter (`abs_init`) and of the states after any history
(`history_preserves_abs`); here after a history with two frames, a shadowed name and two vectors. -/

/-- a small history used to instantiate the lemmas above -/
def demoOps : List Op :=
  [ .define 0 "x" (.const (.sym "a")),
    .newFrame (some 0),
    .define 1 "x" (.const (.sym "b")),
    .allocVec true [.const .nil, .var 1 "x"],
    .define 0 "v" (.res 3),
    .allocVec false [.res 3] ]

example : Abs (runModel demoOps).2 (runSpec demoOps).2 := history_preserves_abs demoOps

example : Abs ((runModel demoOps).2.define 1 "y" .nil) (AbsStore.define (runSpec demoOps).2 1 "y" .nil) :=
  define_refines (history_preserves_abs demoOps) 1 "y" .nil

example : AbsStore.lookup (runSpec demoOps).2 1 "x" = .ok (.sym "b") ∧
    (runModel demoOps).2.lookup 1 "x" = some (.sym "b") :=
  ⟨eq_of_same (by decide +kernel), eq_of_same (by decide +kernel)⟩

example : ((runModel demoOps).2.set 1 "x" .nil).1 = true ∧
    (AbsStore.assign (runSpec demoOps).2 1 "x" .nil).1 = .ok () :=
  ⟨rfl, ((assign_refines (history_preserves_abs demoOps) 1 "x" .nil).1).1 rfl⟩

example : ((runModel demoOps).2.newFrame (some 1)).1 = 2 ∧
    Abs ((runModel demoOps).2.newFrame (some 1)).2 (extend (runSpec demoOps).2 (some 1)).2 :=
  ⟨rfl, (newFrame_refines (history_preserves_abs demoOps) (some 1)).2⟩

example : Abs ((runModel demoOps).2.allocVec true [.nil]).2 (AbsStore.allocVec (runSpec demoOps).2 true [.nil]).2 :=
  (allocVec_refines (history_preserves_abs demoOps) true [.nil]).2

example : Prim.applyPure (runModel demoOps).2 .vectorRef [.vec 0, .num (.int 1)] =
    (.ok (.sym "b"), (runModel demoOps).2) := eq_of_same (by decide +kernel)

example : (Prim.applyPure (runModel demoOps).2 .vectorSet [.vec 1, .num (.int 0), .nil]).1 =
    .error (.immutable, none) := eq_of_same (by decide +kernel)

example : Abs (Prim.applyPure (runModel demoOps).2 .vectorSet [.vec 0, .num (.int 0), .void]).2
    (vecSetV (runSpec demoOps).2 (.vec 0) (.num (.int 0)) .void).2 :=
  (vecSet_refines (history_preserves_abs demoOps) _ _ _).2

example : Abs (Prim.applyPure (runModel demoOps).2 .makeVector [.num (.int 2), .vec 0]).2
    (makeVectorV (runSpec demoOps).2 (.num (.int 2)) (.vec 0)).2 :=
  (makeVector_refines (history_preserves_abs demoOps) _ _).2

example : (stepM (runModel demoOps).2 (runModel demoOps).1 (.lookup 1 "v")).1 =
    (step (runSpec demoOps).2 (runModel demoOps).1 (.lookup 1 "v")).1 :=
  (step_refines (history_preserves_abs demoOps) _ _).1

example : (runFromM (runModel demoOps).2 [] [.lookup 1 "v"]).1 =
    (runFrom (runSpec demoOps).2 [] [.lookup 1 "v"]).1 :=
  (runFrom_refines _ (history_preserves_abs demoOps) []).1

/-! ## consequences, read off the abstract store

Each scenario is a history run on the MODEL; its observation is obtained by rewriting with
`history_refines_store_spec` and evaluating the abstract store. Values are arbitrary. -/

/-- an exact-integer operand -/
def int (n : Int) : Src := .const (.num (.int n))

/-- evaluate a closed history on the abstract store -/
local macro "spec_eval" : tactic =>
  `(tactic| simp [observe, runSpec, runFrom, step, evalSrc, evalSrcs, resValue, AbsStore.lookup,
      AbsStore.assign, AbsStore.define, extend, env, scopeChain, ownNames, init, upd, List.lookup,
      AbsStore.allocVec, vecRefV, vecSetV, makeVectorV, vecRef, vecSet, dangling, int, List.replicate])

/-- **Two closures sharing one frame see each other's assignment.** Frame 1 (made inside the
global frame) defines `n`; two closures over frame 1 are stored in the globals `inc` and `get`.
A call of `inc` (frame 2, inside frame 1) does `(set! n w)`; a later call of `get` (frame 3, a
different frame inside frame 1) then reads `n` as `w`, as does frame 1 itself; the global frame
never had an `n`. -/
theorem closures_sharing_a_frame (v w : Value) (l₁ l₂ : Lambda) :
    observe (runModel
      [ .newFrame (some 0),
        .define 1 "n" (.const v),
        .define 0 "inc" (.const (.closure l₁ 1)),
        .define 0 "get" (.const (.closure l₂ 1)),
        .callFrame (.var 0 "inc"),
        .assign 2 "n" (.const w),
        .callFrame (.var 0 "get"),
        .lookup 3 "n",
        .lookup 1 "n",
        .lookup 0 "n" ])
    = [.frame 1, .done, .done, .done, .frame 2, .done, .frame 3, .val w, .val w, .err .unbound] := by
  rw [history_refines_store_spec]; spec_eval

/-- **A shadowing inner definition hides the outer binding from assignment.** The global frame and
frame 1 both define `x`; `(set! x w)` from frame 2 (inside frame 1) changes frame 1's `x` only:
the global frame and a sibling frame 3 still read the global value `v₀`. A second `define` of `x`
in frame 1 re-uses frame 1's binding (frame 2 sees it), again leaving the global `x` alone. -/
theorem shadowing_hides_outer_binding (v₀ v₁ w u : Value) :
    observe (runModel
      [ .define 0 "x" (.const v₀),
        .newFrame (some 0),
        .define 1 "x" (.const v₁),
        .newFrame (some 1),
        .lookup 2 "x",
        .assign 2 "x" (.const w),
        .lookup 0 "x",
        .lookup 1 "x",
        .lookup 2 "x",
        .newFrame (some 0),
        .lookup 3 "x",
        .define 1 "x" (.const u),
        .lookup 2 "x",
        .lookup 0 "x",
        .assign 3 "y" (.const u) ])
    = [.done, .frame 1, .done, .frame 2, .val v₁, .done, .val v₀, .val w, .val w, .frame 3, .val v₀,
       .done, .val u, .val v₀, .err .unbound] := by
  rw [history_refines_store_spec]; spec_eval

/-- **Two names and two containers holding one vector see each other's `vector-set!`.** Vector #0 is
bound to `v`, then to `w` (in another frame) by copying the VALUE of `v`; it is also stored as an
item of vector #1 and as the fill of `(make-vector 2 v)` = vector #2. A `vector-set!` through `w`
is read back through `v`, through the item taken out of #1, and through both slots of #2; a
`vector-set!` through a slot of #2 is read back through `v`. A second vector with equal
contents (#3) is a different object and is not affected. -/
theorem vector_aliases (a b c d : Value) :
    observe (runModel
      [ .allocVec true [.const a, .const b],          -- 0: #0
        .define 0 "v" (.res 0),
        .newFrame (some 0),                            -- 2: frame 1
        .define 1 "w" (.var 1 "v"),
        .allocVec true [.var 0 "v"],                   -- 4: #1 = #(#0)
        .makeVector (int 2) (.var 0 "v"),              -- 5: #2 = #(#0 #0)
        .allocVec true [.const a, .const b],           -- 6: #3, equal contents
        .vecSet (.var 1 "w") (int 1) (.const c),       -- 7
        .vecRef (.var 0 "v") (int 1),                  -- 8: c
        .vecRef (.res 4) (int 0),                      -- 9: #0
        .vecRef (.res 9) (int 1),                      -- 10: c
        .vecRef (.res 5) (int 1),                      -- 11: #0
        .vecSet (.res 11) (int 0) (.const d),          -- 12
        .vecRef (.var 0 "v") (int 0),                  -- 13: d
        .vecRef (.res 5) (int 0),                      -- 14: #0
        .vecRef (.res 14) (int 0),                     -- 15: d
        .vecRef (.res 6) (int 0),                      -- 16: a
        .vecRef (.res 6) (int 1) ])                    -- 17: b
    = [.val (.vec 0), .done, .frame 1, .done, .val (.vec 1), .val (.vec 2), .val (.vec 3), .done,
       .val c, .val (.vec 0), .val c, .val (.vec 0), .done, .val d, .val (.vec 0), .val d,
       .val a, .val b] := by
  rw [history_refines_store_spec]; spec_eval

/-- **`vector-set!` on an immutable (literal) vector is the `immutable` error and changes
nothing**, through a name as well as through the reference itself, and whatever the index
(the mutability check comes before the range check); reads still work and give the old items.
The other vector errors for comparison: index out of range or negative, operands of the wrong
type, a reference to a vector that was never made (impossible in the Rust code; a panic in the
model), a negative length. -/
theorem literal_vector_is_immutable (a b c : Value) :
    observe (runModel
      [ .allocVec false [.const a, .const b],          -- 0: literal #0
        .define 0 "lit" (.res 0),
        .vecSet (.var 0 "lit") (int 0) (.const c),     -- immutable
        .vecSet (.res 0) (int 7) (.const c),           -- immutable (not vectorIndex)
        .vecRef (.var 0 "lit") (int 0),                -- a
        .vecRef (.var 0 "lit") (int 1),                -- b
        .allocVec true [.var 0 "lit"],                 -- 6: mutable #1 holding the literal
        .vecRef (.res 6) (int 0),                      -- 7: #0
        .vecSet (.res 7) (int 0) (.const c),           -- immutable, through the container
        .vecSet (.res 6) (int 0) (.const c),           -- the container itself is mutable
        .vecRef (.res 6) (int 0),                      -- c
        .vecRef (.res 0) (int 0),                      -- a: the literal is unchanged
        .vecSet (.res 6) (int 1) (.const c),           -- vectorIndex
        .vecRef (.res 6) (int (-1)),                   -- vectorIndex
        .vecRef (.const (.sym "v")) (int 0),           -- type: not a vector
        .vecSet (.res 6) (.const (.sym "k")) (.const c), -- type: not an exact integer
        .vecRef (.const (.vec 9)) (int 0),             -- a reference nobody made: dangling
        .makeVector (int (-1)) (.const a) ])           -- negativeLength
    = [.val (.vec 0), .done, .err .immutable, .err .immutable, .val a, .val b, .val (.vec 1),
       .val (.vec 0), .err .immutable, .done, .val c, .val a, .err .vectorIndex, .err .vectorIndex,
       .err .type, .err .type, .err (.panic "dangling vector"), .err .negativeLength] := by
  rw [history_refines_store_spec]; spec_eval


/-! ## a fresh frame per `newFrame`, for every history -/

/-- the frame ids a list of observations shows, in order -/
def frameIds (outs : List Out) : List Nat :=
  outs.filterMap (fun o => match o with
    | .frame id => some id
    | _ => none)

/-- an operation of the spec either shows no frame and keeps the number of scopes, or shows the
number of scopes so far as the new frame's id and adds one scope -/
private theorem step_frames (s : State) (outs : List Out) (op : Op) :
    ((step s outs op).2.scopes.length = s.scopes.length ∧ ∀ id, (step s outs op).1 ≠ .frame id) ∨
    ((step s outs op).1 = .frame s.scopes.length ∧
      (step s outs op).2.scopes.length = s.scopes.length + 1) := by
  -- only `extend` changes the scopes: the other operations return a state with the scopes of `s`
  have kept : ∀ {α : Type} {p : α × State} {r : α} {s' : State}, p = (r, s') → p.2.scopes = s.scopes →
      s'.scopes.length = s.scopes.length := fun h e => by subst h; exact congrArg _ e
  cases op with
  | newFrame p => right; exact ⟨rfl, by simp [step, extend]⟩
  | callFrame f =>
    simp only [step]
    split
    · rename_i o h; left; exact ⟨rfl, evalSrc_noframe h⟩
    · right; exact ⟨rfl, by simp [extend]⟩
    · left; exact ⟨rfl, by simp⟩
  | define ρ x e =>
    simp only [step]
    split
    · rename_i o h; left; exact ⟨rfl, evalSrc_noframe h⟩
    · left; exact ⟨define_scopes_length .., by simp⟩
  | assign ρ x e =>
    simp only [step]
    split
    · rename_i o h; left; exact ⟨rfl, evalSrc_noframe h⟩
    · split <;> (rename_i h; left; exact ⟨kept h (assign_scopes ..), by simp⟩)
  | lookup ρ x =>
    simp only [step]
    split <;> (left; exact ⟨rfl, by simp⟩)
  | allocVec m items =>
    simp only [step]
    split
    · rename_i o h; left; exact ⟨rfl, evalSrcs_noframe h⟩
    · left; exact ⟨rfl, by simp [AbsStore.allocVec]⟩
  | makeVector k fill =>
    simp only [step]
    split
    · rename_i o h; left; exact ⟨rfl, evalSrc_noframe h⟩
    · split
      · rename_i o h; left; exact ⟨rfl, evalSrc_noframe h⟩
      · split <;> (rename_i h; left; exact ⟨kept h (makeVectorV_scopes ..), by simp⟩)
  | vecRef v k =>
    simp only [step]
    split
    · rename_i o h; left; exact ⟨rfl, evalSrc_noframe h⟩
    · split
      · rename_i o h; left; exact ⟨rfl, evalSrc_noframe h⟩
      · split <;> (left; exact ⟨rfl, by simp⟩)
  | vecSet v k obj =>
    simp only [step]
    split
    · rename_i o h; left; exact ⟨rfl, evalSrc_noframe h⟩
    · split
      · rename_i o h; left; exact ⟨rfl, evalSrc_noframe h⟩
      · split
        · rename_i o h; left; exact ⟨rfl, evalSrc_noframe h⟩
        · split <;> (rename_i h; left; exact ⟨kept h (vecSetV_scopes ..), by simp⟩)


private theorem frameIds_snoc_other (outs : List Out) (o : Out) (h : ∀ id, o ≠ .frame id) :
    frameIds (outs ++ [o]) = frameIds outs := by
  cases o with
  | frame id => exact absurd rfl (h id)
  | _ => simp [frameIds, List.filterMap_append]

private theorem frameIds_snoc_frame (outs : List Out) (id : Nat) :
    frameIds (outs ++ [.frame id]) = frameIds outs ++ [id] := by
  simp [frameIds, List.filterMap_append]

/-- the frame ids a history shows are the numbers of the scopes it adds, in order -/
private theorem runFrom_frames : ∀ (ops : List Op) (s : State) (outs : List Out),
    ∃ k, (runFrom s outs ops).2.scopes.length = s.scopes.length + k ∧
      frameIds (runFrom s outs ops).1 = frameIds outs ++ List.range' s.scopes.length k
  | [], _, _ => ⟨0, rfl, (List.append_nil _).symm⟩
  | op :: ops, s, outs => by
    obtain ⟨k, hl, hf⟩ := runFrom_frames ops (step s outs op).2 (outs ++ [(step s outs op).1])
    rw [runFrom]
    rcases step_frames s outs op with ⟨hs, hn⟩ | ⟨ho, hs⟩
    · exact ⟨k, by rw [hl, hs], by rw [hf, frameIds_snoc_other outs _ hn, hs]⟩
    · refine ⟨k + 1, by rw [hl, hs, Nat.add_assoc, Nat.add_comm 1], ?_⟩
      rw [hf, ho, frameIds_snoc_frame, hs, List.append_assoc, List.range'_succ]
      rfl

/-- **A fresh frame per `newFrame`, in every history.** The frame ids a history shows (one per
`newFrame` and per `callFrame` of a closure) are strictly increasing - so no two of them are
equal -, none is the global frame 0, and all are frames of the model's final store. -/
theorem fresh_frame_per_newFrame (ops : List Op) :
    (frameIds (observe (runModel ops))).Pairwise (· < ·) ∧
    ∀ id ∈ frameIds (observe (runModel ops)), 0 < id ∧ id < (runModel ops).2.frames.size := by
  rw [history_refines_store_spec, ← (history_preserves_abs ops).size]
  obtain ⟨k, hl, hf⟩ := runFrom_frames ops init []
  show (frameIds (runFrom init [] ops).1).Pairwise _ ∧ ∀ id ∈ frameIds (runFrom init [] ops).1,
    0 < id ∧ id < (runFrom init [] ops).2.scopes.length
  rw [hf, hl]
  exact ⟨List.pairwise_lt_range', fun id h => List.mem_range'_1.1 h⟩

private theorem runFromM_append : ∀ (ops : List Op) (σ : Store) (outs : List Out) (ops' : List Op),
    runFromM σ outs (ops ++ ops') = runFromM (runFromM σ outs ops).2 (runFromM σ outs ops).1 ops'
  | [], _, _, _ => rfl
  | op :: ops, σ, outs, ops' => by
    simp only [List.cons_append, runFromM]
    exact runFromM_append ops _ _ ops'

/-- a history followed by one more operation -/
theorem runModel_snoc (ops : List Op) (op : Op) :
    runModel (ops ++ [op]) =
      ((runModel ops).1 ++ [(stepM (runModel ops).2 (runModel ops).1 op).1],
       (stepM (runModel ops).2 (runModel ops).1 op).2) := by
  unfold runModel
  rw [runFromM_append]
  rfl

/-- … and the `newFrame` that follows ANY history shows a frame (it cannot fail) whose id no earlier
operation of the history has shown. -/
theorem newFrame_after_history (ops : List Op) (p : Option Nat) :
    observe (runModel (ops ++ [.newFrame p])) =
      observe (runModel ops) ++ [.frame (runModel ops).2.frames.size] ∧
    (runModel ops).2.frames.size ∉ frameIds (observe (runModel ops)) := by
  refine ⟨by rw [runModel_snoc]; rfl, fun h => ?_⟩
  exact Nat.lt_irrefl _ ((fresh_frame_per_newFrame ops).2 _ h).2

example : frameIds (observe (runModel [.newFrame none, .lookup 0 "x", .newFrame (some 1),
    .callFrame (.const (.closure default 0))])) = [1, 2, 3] := by decide +kernel

/-! ## a failed `vector-set!` changes nothing, after every history -/

private theorem stepM_vecSet_err {σ : Store} {outs : List Out} {v k obj : Src} {e : Err}
    (h : (stepM σ outs (.vecSet v k obj)).1 = .err e) : (stepM σ outs (.vecSet v k obj)).2 = σ := by
  revert h
  simp only [stepM]
  cases evalSrcM σ outs v with
  | error o => exact fun _ => rfl
  | ok vv =>
    cases evalSrcM σ outs k with
    | error o => exact fun _ => rfl
    | ok kv =>
      cases evalSrcM σ outs obj with
      | error o => exact fun _ => rfl
      | ok ov =>
        dsimp only
        rcases hp : Prim.applyPure σ .vectorSet [vv, kv, ov] with ⟨e' | _, σ'⟩
        · exact fun _ => (Prim.applyPure_error hp).2
        · exact nofun

/-- **A rejected `vector-set!` changes nothing.** After any history, a `vector-set!` (operands of
any kind) that shows an error - `immutable` for a literal vector, `vectorIndex`, `type`, an
unbound operand - leaves the model's whole store exactly as it was. -/
theorem failed_vector_set_changes_nothing (ops : List Op) (v k obj : Src) (e : Err)
    (h : observe (runModel (ops ++ [.vecSet v k obj])) = observe (runModel ops) ++ [.err e]) :
    (runModel (ops ++ [.vecSet v k obj])).2 = (runModel ops).2 := by
  rw [runModel_snoc] at h ⊢
  simp only [observe, List.append_cancel_left_eq, List.cons.injEq, and_true] at h
  exact stepM_vecSet_err h

/-- the hypothesis holds for the literal vector of `literal_vector_is_immutable` -/
example (a c : Value) :
    observe (runModel ([.allocVec false [.const a]] ++ [.vecSet (.res 0) (int 0) (.const c)])) =
      observe (runModel [.allocVec false [.const a]]) ++ [.err .immutable] := by
  rw [history_refines_store_spec, history_refines_store_spec]; spec_eval

end Ruschm.C03More
