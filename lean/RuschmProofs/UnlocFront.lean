/-
Location erasure, conclusion: the outcome of a text (value or error kind, output, final state up to locations) depends
on its TOKENS only, not on where in the text they stand (`evalText_sameTokens`). `SameRun` names this agreement of
two runs; `ruschm FILE` and the REPL show of a run only what `SameRun` keeps.
-/
import RuschmProofs.UnlocInterp
import RuschmProofs.FrontLemmas
namespace Ruschm
open Interp Front FrontSpec

/-! ## the read-eval loop up to locations

`IU g r` (`UnlocInterp`): the result `r` without locations; `EI r`: only the error's location erased. -/

namespace FrontSpec

theorem evalForm_unloc (fuel : Nat) (st : State) (d : Datum) :
    EI (evalForm fuel st.unloc d.strip) = IU (Option.map Value.unloc) (evalForm fuel st d) := by
  rw [evalForm, evalForm, xformFuel_strip, State.unloc_syn, toStatement_strip]
  rcases Xform.toStatement (Xform.xformFuel d) d st.syn with ⟨_ | stmt, syn⟩
  · rfl
  · exact evalAst_unloc fuel { st with syn := syn } stmt

end FrontSpec

theorem go_unloc (fuel : Nat) : ∀ (n : Nat) (s : Read.PState) (st : State) (last : Option Value),
    EI (evalText.go fuel n s.unloc st.unloc (last.map Value.unloc)) =
      IU (Option.map Value.unloc) (evalText.go fuel n s st last)
  | 0, s, st, last => by rw [evalText.go, evalText.go]; rfl
  | n + 1, s, st, last => by
    rcases mapE_id_cases ((nextDatum_unloc s).trans (PRes.unloc_eq_mapE _ _)) with
      ⟨e, e', hd, hd', he⟩ | ⟨⟨_ | d, s'⟩, hd, hd'⟩
    · rw [evalText.go, evalText.go, hd, hd']; simp [EI, IU, he]
    · rw [evalText.go, evalText.go, hd, hd']; rfl
    · rw [evalText_go_form fuel n st last hd, evalText_go_form fuel n st.unloc _ hd']
      rcases EI_cases (evalForm_unloc fuel st d) with ⟨e1, e1', st1, h1, h2, h3⟩ | ⟨v, st1, h1, h2⟩
      · simp only [h1, h2]; simp [EI, IU, h3]
      · simp only [h1, h2]; exact go_unloc fuel n s' st1 v

theorem ofText_unloc_eq {t₁ t₂ : List Char} (ht : toksOf t₁ = toksOf t₂) :
    (Read.ofText t₁).unloc = (Read.ofText t₂).unloc ∧ (Read.ofText t₁).toks.length = (Read.ofText t₂).toks.length := by
  obtain ⟨h1, h2⟩ := Prod.mk.inj ht
  have e : ∀ l : List LToken, l.map LToken.unloc = (l.map (·.tok)).map (fun t => (⟨t, none⟩ : LToken)) :=
    fun l => by simp [LToken.unloc]
  have he : ∀ o : Option Lex.Pos, o.map (fun _ => ((0, 0) : Lex.Pos)) = if o.isSome then some (0, 0) else none :=
    fun o => by cases o <;> rfl
  refine ⟨?_, by simpa [Read.ofText] using congrArg List.length h1⟩
  simp only [Read.ofText, Read.PState.unloc, e, he, h1, h2]

theorem evalText_sameTokens (fuel : Nat) (st₁ st₂ : State) (t₁ t₂ : List Char)
    (ht : toksOf t₁ = toksOf t₂) (hs : st₁.unloc = st₂.unloc) :
    IU (Option.map Value.unloc) (evalText fuel st₁ t₁) = IU (Option.map Value.unloc) (evalText fuel st₂ t₂) := by
  obtain ⟨h1, h2⟩ := ofText_unloc_eq ht
  unfold evalText
  simp only
  have a := go_unloc fuel ((Read.ofText t₁).toks.length + 1) (Read.ofText t₁) st₁ none
  have b := go_unloc fuel ((Read.ofText t₂).toks.length + 1) (Read.ofText t₂) st₂ none
  rw [← a, ← b, h1, h2, hs]

theorem unloc_out_eq {st₁ st₂ : State} (h : st₁.unloc = st₂.unloc) : st₁.store.out = st₂.store.out := by
  have := congrArg (fun s : State => s.store.out) h
  simpa using this

theorem outText_unloc_eq {st₁ st₂ : State} (h : st₁.unloc = st₂.unloc) : outText st₁.store = outText st₂.store := by
  unfold outText; rw [unloc_out_eq h]

theorem outcomeUnloc_eq {x y : Except SErr (Option Value)}
    (h : mapE (Option.map Value.unloc) x = mapE (Option.map Value.unloc) y) : outcomeUnloc x = outcomeUnloc y := by
  have e : ∀ z, outcomeUnloc z = match mapE (Option.map Value.unloc) z with | .ok v => .ok v | .error e => .error e.1 :=
    fun z => by rcases z with ⟨k, l⟩ | a <;> rfl
  rw [e, e, h]

/-! ## runs that agree up to locations -/

/-- the same value up to the positions recorded in closures, or the same error KIND; what may differ is the location
an error reports. The third conjunct follows from the second (`unloc_out_eq`); it is written out so that the
definition says it. -/
def SameRun (x y : IRes (Option Value)) : Prop :=
  outcomeUnloc x.1 = outcomeUnloc y.1 ∧ x.2.unloc = y.2.unloc ∧ x.2.store.out = y.2.store.out

theorem SameRun.refl (x : IRes (Option Value)) : SameRun x x := ⟨rfl, rfl, rfl⟩

theorem SameRun.symm {x y : IRes (Option Value)} (h : SameRun x y) : SameRun y x :=
  ⟨h.1.symm, h.2.1.symm, h.2.2.symm⟩

theorem SameRun.trans {x y z : IRes (Option Value)} (h : SameRun x y) (h' : SameRun y z) : SameRun x z :=
  ⟨h.1.trans h'.1, h.2.1.trans h'.2.1, h.2.2.trans h'.2.2⟩

theorem sameRun_of_IU {x y : IRes (Option Value)}
    (h : IU (Option.map Value.unloc) x = IU (Option.map Value.unloc) y) : SameRun x y :=
  have ⟨h1, h2⟩ := Prod.mk.inj h
  ⟨outcomeUnloc_eq h1, h2, unloc_out_eq h2⟩

theorem SameRun.cases {x y : IRes (Option Value)} (h : SameRun x y) :
    (∃ a b s₁ s₂, x = (.ok a, s₁) ∧ y = (.ok b, s₂) ∧ a.map Value.unloc = b.map Value.unloc ∧ s₁.unloc = s₂.unloc) ∨
    (∃ k l₁ l₂ s₁ s₂, x = (.error (k, l₁), s₁) ∧ y = (.error (k, l₂), s₂) ∧ s₁.unloc = s₂.unloc) := by
  obtain ⟨rx, sx⟩ := x
  obtain ⟨ry, sy⟩ := y
  obtain ⟨h1, h2, _⟩ := h
  rcases rx with ⟨k, l⟩ | a <;> rcases ry with ⟨k', l'⟩ | b <;> simp only [outcomeUnloc] at h1
  · cases h1; exact .inr ⟨k, l, l', sx, sy, rfl, rfl, h2⟩
  · cases h1
  · cases h1
  · exact .inl ⟨a, b, sx, sy, rfl, rfl, Except.ok.inj h1, h2⟩

theorem cli_of_sameRun {fuel : Nat} {text : String} {y : IRes (Option Value)}
    (h : SameRun (evalText fuel (default_ false) text.toList) y) :
    (cli fuel (some text)).stdout = String.join y.2.store.out.reverse ∧
    ((cli fuel (some text)).exitCode = 0 ↔ ∃ v, y.1 = .ok v) ∧
    (∀ v, y.1 = .ok v →
      (cli fuel (some text)).exitCode = 0 ∧ (cli fuel (some text)).diag = none ∧
      (cli fuel (some text)).errKind = none) ∧
    (∀ e loc, y.1 = .error (e, loc) →
      (cli fuel (some text)).exitCode = 255 ∧ (cli fuel (some text)).diag.isSome = true ∧
      (cli fuel (some text)).errKind = some e) := by
  rw [cli_some]
  rcases h.cases with ⟨a, b, s₁, s₂, h1, rfl, _, hs⟩ | ⟨k, l₁, l₂, s₁, s₂, h1, rfl, hs⟩
  · rw [h1]
    exact ⟨outText_unloc_eq hs, ⟨fun _ => ⟨b, rfl⟩, fun _ => rfl⟩,
      fun _ _ => ⟨rfl, rfl, rfl⟩, fun _ _ he => (nomatch he)⟩
  · rw [h1]
    exact ⟨outText_unloc_eq hs, ⟨fun he => (nomatch he), fun ⟨_, he⟩ => (nomatch he)⟩,
      fun _ he => (nomatch he), fun _ _ he => by cases he; exact ⟨rfl, rfl, rfl⟩⟩

theorem cli_congr_of_sameRun {fuel : Nat} {s₁ s₂ : String}
    (h : SameRun (evalText fuel (default_ false) s₁.toList) (evalText fuel (default_ false) s₂.toList)) :
    (cli fuel (some s₁)).stdout = (cli fuel (some s₂)).stdout ∧
    (cli fuel (some s₁)).exitCode = (cli fuel (some s₂)).exitCode ∧
    (cli fuel (some s₁)).errKind = (cli fuel (some s₂)).errKind ∧
    (cli fuel (some s₁)).diag.isSome = (cli fuel (some s₂)).diag.isSome := by
  rw [cli_some, cli_some]
  rcases h.cases with ⟨a, b, st₁, st₂, h1, h2, _, hs⟩ | ⟨k, l₁, l₂, st₁, st₂, h1, h2, hs⟩ <;>
    (rw [h1, h2]; exact ⟨outText_unloc_eq hs, rfl, rfl, rfl⟩)

theorem cli_congr_of_sameRun_text {fuel : Nat} {t₁ t₂ : List Char}
    (h : SameRun (evalText fuel (default_ false) t₁) (evalText fuel (default_ false) t₂)) :
    (cli fuel (some (String.ofList t₁))).stdout = (cli fuel (some (String.ofList t₂))).stdout ∧
    (cli fuel (some (String.ofList t₁))).exitCode = (cli fuel (some (String.ofList t₂))).exitCode ∧
    (cli fuel (some (String.ofList t₁))).errKind = (cli fuel (some (String.ofList t₂))).errKind ∧
    (cli fuel (some (String.ofList t₁))).diag.isSome = (cli fuel (some (String.ofList t₂))).diag.isSome :=
  cli_congr_of_sameRun (by rwa [String.toList_ofList, String.toList_ofList])

theorem echoOf_of_ne_void (σ : Store) {v : Value} (h : v ≠ .void) :
    echoOf σ (some v) = Prim.display σ 100000 v ++ "\n" := by
  cases v <;> first | exact absurd rfl h | rfl

theorem echoOf_unloc (σ : Store) (v : Option Value) : echoOf σ.unloc (v.map Value.unloc) = echoOf σ v := by
  rcases v with _ | a
  · rfl
  · cases a <;> first | exact congrArg (· ++ "\n") (display_unloc σ 100000 _) | rfl

theorem echoOf_unloc_eq {st₁ st₂ : State} (h : st₁.unloc = st₂.unloc) {v₁ v₂ : Option Value}
    (hv : v₁.map Value.unloc = v₂.map Value.unloc) : echoOf st₁.store v₁ = echoOf st₂.store v₂ := by
  have hs : st₁.store.unloc = st₂.store.unloc := congrArg (fun s : State => s.store) h
  rw [← echoOf_unloc st₁.store, ← echoOf_unloc st₂.store, hs, hv]

theorem clearOut_unloc (st : State) : (clearOut st).unloc = clearOut st.unloc := rfl

theorem unloc_syn_eq {st₁ st₂ : State} (h : st₁.unloc = st₂.unloc) : st₁.syn = st₂.syn := by
  rw [← State.unloc_syn st₁, h, State.unloc_syn]

namespace Session

/-- what the outcome of a submission makes the REPL print, and the state in which the session continues -/
def replOutcome (x : Except SErr (Option Value) × State) : State × ReplOut :=
  match x with
  | (.ok v, st') => (st', { stdout := outText st'.store ++ echoOf st'.store v, submitted := true })
  | (.error (e, _), st') => (st', { stdout := outText st'.store, err := some e, submitted := true })

theorem submit_eq (fuel : Nat) (st : State) (src : String) :
    submit fuel st src = replOutcome (evalText fuel (clearOut st) src.toList) := by
  unfold submit replOutcome
  rfl

theorem replOutcome_fst (x : Except SErr (Option Value) × State) : (replOutcome x).1 = x.2 := by
  rcases x with ⟨⟨k, l⟩ | v, st⟩ <;> rfl

theorem replOutcome_err_of_ok {x : Except SErr (Option Value) × State} (h : ∃ v, x.1 = .ok v) :
    (replOutcome x).2.err = none := by
  obtain ⟨r, st⟩ := x
  obtain ⟨v, ⟨⟩⟩ := h
  rfl

theorem replOutcome_sameRun {x y : IRes (Option Value)} (h : SameRun x y) :
    (replOutcome x).2 = (replOutcome y).2 ∧ (replOutcome x).1.unloc = (replOutcome y).1.unloc := by
  rcases h.cases with ⟨a, b, s₁, s₂, rfl, rfl, hv, hs⟩ | ⟨k, l₁, l₂, s₁, s₂, rfl, rfl, hs⟩
  · simp only [replOutcome, outText_unloc_eq hs, echoOf_unloc_eq hs hv]
    exact ⟨trivial, hs⟩
  · simp only [replOutcome, outText_unloc_eq hs]
    exact ⟨trivial, hs⟩

end Session

theorem submit_sameTokens (fuel : Nat) (st₁ st₂ : State) (g₁ g₂ : String)
    (ht : toksOf g₁.toList = toksOf g₂.toList) (hs : st₁.unloc = st₂.unloc) :
    (submit fuel st₁ g₁).2 = (submit fuel st₂ g₂).2 ∧ (submit fuel st₁ g₁).1.unloc = (submit fuel st₂ g₂).1.unloc := by
  rw [Session.submit_eq, Session.submit_eq]
  exact Session.replOutcome_sameRun (sameRun_of_IU (evalText_sameTokens fuel _ _ _ _ ht
    (by rw [clearOut_unloc, clearOut_unloc, hs])))

theorem session_sameTokens (fuel : Nat) : ∀ (gs₁ gs₂ : List String) (st₁ st₂ : State),
    SameTokens gs₁ gs₂ → st₁.unloc = st₂.unloc →
    (session fuel st₁ gs₁).2 = (session fuel st₂ gs₂).2 ∧
      (session fuel st₁ gs₁).1.unloc = (session fuel st₂ gs₂).1.unloc
  | [], [], _, _, _, hs => ⟨rfl, hs⟩
  | g :: gs, h :: hs', st₁, st₂, ht, hs => by
    obtain ⟨a, b⟩ := submit_sameTokens fuel st₁ st₂ g h ht.1 hs
    obtain ⟨c, d⟩ := session_sameTokens fuel gs hs' _ _ ht.2 b
    simp only [session]
    exact ⟨by rw [a, c], d⟩
  | [], _ :: _, _, _, ht, _ | _ :: _, [], _, _, ht, _ => by cases ht

theorem cli_sameTokens (fuel : Nat) (s₁ s₂ : String) (ht : toksOf s₁.toList = toksOf s₂.toList) :
    (cli fuel (some s₁)).stdout = (cli fuel (some s₂)).stdout ∧
    (cli fuel (some s₁)).exitCode = (cli fuel (some s₂)).exitCode ∧
    (cli fuel (some s₁)).errKind = (cli fuel (some s₂)).errKind ∧
    (cli fuel (some s₁)).diag.isSome = (cli fuel (some s₂)).diag.isSome :=
  cli_congr_of_sameRun (sameRun_of_IU (evalText_sameTokens fuel _ _ _ _ ht rfl))

theorem toksOf_interleave (ts : List Token) (layout : List (List Char))
    (hs : ∀ t ∈ ts, Text.SupportedTok t) (hl : Text.ValidLayout ts layout) :
    toksOf (String.ofList (Text.interleave ts layout)).toList = (ts, false) := by
  obtain ⟨h1, h2⟩ := Text.all_render ts layout hs hl
  simp [toksOf, h1, h2]

theorem sameTokens_refl : ∀ (gs : List String), SameTokens gs gs
  | [] => trivial
  | _ :: gs => ⟨rfl, sameTokens_refl gs⟩

end Ruschm
