/-
Property C02, third part: tail position in the DATA the parser transforms (`DTail`), so that the bundled derived
forms can be followed through one expansion step each; `XE.dtail` carries it over to tail position in the
transformed expressions.
-/
import RuschmProofs.StdEnv
import RuschmProofs.TailDepth

namespace Ruschm.Macro
open Ruschm.C05

/-- tail position in a datum as the parser will transform it; `expand` is one expansion step of a bundled derived
form (`expand1` on the generated `Gen.grammarData`; the use is what follows the keyword, located at the form, as
`transform_to_statement` passes it) -/
inductive DTail : Datum → Datum → Prop
  | here (d : Datum) : DTail d d
  | if_then {sub d i t c rest} (hd : IsList d (i :: t :: c :: rest)) (hi : isSym "if" i = true)
      (h : DTail sub c) : DTail sub d
  | if_else {sub d i t c a rest} (hd : IsList d (i :: t :: c :: a :: rest)) (hi : isSym "if" i = true)
      (h : DTail sub a) : DTail sub d
  | lam_call {sub d lam args k formals pre last} (hd : IsList d (lam :: args))
      (hl : IsList lam (k :: formals :: (pre ++ [last]))) (hk : isSym "lambda" k = true)
      (h : DTail sub last) : DTail sub d
  | expand {sub kw l₁ rest l d'} (hkw : kw ∈ keywords)
      (hx : ∀ fuel, matchFuel (rest.withLoc l) ≤ fuel → expand1 fuel kw (rest.withLoc l) = .ok d')
      (h : DTail sub d') : DTail sub (.pair (.sym kw l₁) rest l)

theorem DTail.trans {a b c : Datum} (h₁ : DTail a b) (h₂ : DTail b c) : DTail a c := by
  induction h₂ with
  | here => exact h₁
  | if_then hd hi _ ih => exact .if_then hd hi ih
  | if_else hd hi _ ih => exact .if_else hd hi ih
  | lam_call hd hl hk _ ih => exact .lam_call hd hl hk ih
  | expand hkw hx _ ih => exact .expand hkw hx ih

/-- the tail form of `((lambda formals body… last) args…)` as a template builds it -/
theorem DTail.of_lambda_call {sub : Datum} (loc : Loc) (formals : Datum) (pre : List Datum) (last : Datum)
    (args : List Datum) (h : DTail sub last) :
    DTail sub (L loc (L loc (S loc "lambda" :: formals :: (pre ++ [last])) :: args)) :=
  .lam_call (isList_ofList _ _) (isList_ofList _ _) rfl h

theorem dtail_begin {sub l₁ rest l pre last} (hu : IsList rest (pre ++ [last])) (h : DTail sub last) :
    DTail sub (.pair (.sym "begin" l₁) rest l) :=
  .expand (by decide) (fun _ => begin_shape (isList_withLoc l hu) (by simp)) (DTail.of_lambda_call _ _ pre last [] h)

theorem dtail_begin_built {sub : Datum} (loc : Loc) {pre last} (h : DTail sub last) :
    DTail sub (L loc (S loc "begin" :: (pre ++ [last]))) :=
  dtail_begin (isList_ofList none _) h

theorem dtail_let {sub l₁ rest l bs bds nvs pre last} (hu : IsList rest (bs :: (pre ++ [last])))
    (hbs : IsList bs bds) (hp : IsPairs bds nvs) (h : DTail sub last) :
    DTail sub (.pair (.sym "let" l₁) rest l) :=
  .expand (by decide) (fun _ => let_any_shape (isList_withLoc l hu) hbs hp (by simp))
    (DTail.of_lambda_call _ _ pre last _ h)

theorem dtail_let1_built {sub : Datum} (loc : Loc) (x v body : Datum) (h : DTail sub body) :
    DTail sub (L loc [S loc "let", L loc [L loc [x, v]], body]) := by
  exact dtail_let (pre := []) (nvs := [(x, v)]) (isList_ofList none _) (isList_ofList _ [_])
    (.cons (isList_ofList _ _) .nil) h

theorem dtail_letstar {sub pre last} (h : DTail sub last) : ∀ (nvs : List (Datum × Datum)) {l₁ rest l bs bds},
    IsList rest (bs :: (pre ++ [last])) → IsList bs bds → IsPairs bds nvs →
    DTail sub (.pair (.sym "let*" l₁) rest l)
  | [], l₁, rest, l, bs, bds, hu, hbs, hp => by
    cases hp
    refine .expand (by decide) (fun _ => letstar_empty_shape (isList_withLoc l hu) hbs (by simp)) ?_
    exact dtail_let (bs := L _ []) (isList_ofList none _) (isList_ofList _ _) .nil h
  | [nv], l₁, rest, l, bs, bds, hu, hbs, hp => by
    cases hp with
    | cons hb hps =>
      cases hps
      refine .expand (by decide) (fun _ => letstar_one_shape (isList_withLoc l hu) hbs hb (by simp)) ?_
      exact dtail_let (isList_ofList none _) (isList_ofList _ [_]) (.cons (xy := nv) (isList_ofList _ _) .nil) h
  | nv :: nv₂ :: more, l₁, rest, l, bs, bds, hu, hbs, hp => by
    cases hp with
    | cons hb hps =>
      refine .expand (by decide) (fun _ => letstar_more_shape (isList_withLoc l hu) hbs hb hps (by simp) (by simp)) ?_
      refine dtail_let (pre := []) (isList_ofList none _) (isList_ofList _ [_])
        (.cons (xy := nv) (isList_ofList _ _) .nil) ?_
      exact dtail_letstar h (nv₂ :: more) (isList_ofList none _) (isList_ofList _ _) (isPairs_built _ _)

theorem dtail_and {sub last} (h : DTail sub last) : ∀ (pre : List Datum) {l₁ rest l},
    IsList rest (pre ++ [last]) → DTail sub (.pair (.sym "and" l₁) rest l)
  | [], l₁, rest, l, hu =>
    .expand (by decide) (fun _ => and_one_shape (isList_withLoc l hu)) h
  | t :: pre, l₁, rest, l, hu => by
    refine .expand (by decide) (fun _ => and_more_shape (test := t) (tests := pre ++ [last]) (isList_withLoc l hu) (by simp)) ?_
    refine .if_then (isList_ofList _ _) rfl ?_
    exact dtail_and h pre (isList_ofList none _)

theorem dtail_or {sub last} (h : DTail sub last) : ∀ (pre : List Datum) {l₁ rest l},
    IsList rest (pre ++ [last]) → DTail sub (.pair (.sym "or" l₁) rest l)
  | [], l₁, rest, l, hu =>
    .expand (by decide) (fun _ => or_one_shape (isList_withLoc l hu)) h
  | t :: pre, l₁, rest, l, hu => by
    refine .expand (by decide) (fun _ => or_more_shape (test := t) (tests := pre ++ [last]) (isList_withLoc l hu) (by simp)) ?_
    refine dtail_let1_built _ _ t _ (.if_else (isList_ofList _ _) rfl ?_)
    exact dtail_or h pre (isList_ofList none _)

end Ruschm.Macro

/-! ## from tail position in the data to tail position in the expressions -/

namespace Ruschm.Meaning
open Ruschm Ruschm.Xform Ruschm.Macro

theorem XE.dtail {sub d : Datum} (h : DTail sub d) : ∀ {env e}, StdEnv env → XE env d e →
    ∃ esub, XE env sub esub ∧ Eval.InTail esub e := by
  induction h with
  | here => exact fun _ hx => ⟨_, hx, .here _⟩
  | if_then hd hi _ ih =>
    intro env e hstd hx
    obtain ⟨te, ce, l, _, hc, he⟩ := hx.if_inv hd hi
    obtain ⟨esub, hs, hin⟩ := ih hstd hc
    rcases he with ⟨_, rfl⟩ | ⟨_, _, _, _, _, rfl⟩ <;> exact ⟨esub, hs, .cond_then hin⟩
  | if_else hd hi _ ih =>
    intro env e hstd hx
    obtain ⟨te, ce, l, _, _, he⟩ := hx.if_inv hd hi
    rcases he with ⟨h, _⟩ | ⟨a', _, ae, h, ha, rfl⟩
    · cases h
    · cases h
      obtain ⟨esub, hs, hin⟩ := ih hstd ha
      exact ⟨esub, hs, .cond_else hin⟩
  | lam_call hd hl hk _ ih =>
    intro env e hstd hx
    obtain ⟨fe, aes, l₂, hfe, _, rfl⟩ := hx.call_inv hd (ordinary_of_list hl)
    obtain ⟨F, D, Epre, elast, loc, rfl, hlast⟩ := hfe.lambda_last_inv hl hk
    obtain ⟨esub, hs, hin⟩ := ih hstd hlast
    exact ⟨esub, hs, .lam_call hin⟩
  | expand hkw hxp _ ih => exact fun hstd hx => ih hstd (hx.expand_inv hstd hkw hxp)

end Ruschm.Meaning
