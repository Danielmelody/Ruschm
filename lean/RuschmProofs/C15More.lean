/-
Property C15 at the level of program TEXT: reported error locations point into the form that failed.

  "Every run-time error reported for a program carries a source location, and that line and column
   lie within the text of the top-level form whose evaluation failed - at the offending identifier or
   operator when the fault is an unbound variable or a non-procedure, otherwise anywhere in the form -
   never in another form, beyond the end of the file, or in the interpreter's own bundled sources."

`RuschmProofs/C15.lean` proves the position discipline stage by stage (lexer, reader, expander,
transformer, evaluator, `eval_ast`) and, for whole programs, that a reported position is the cursor
after SOME prefix of the program text.  `RuschmProofs/C17More.lean` says that a program text IS the run
of its statements.  Here the two are composed: the position reported for the text of the statements
`pre ++ s :: post`, when `s` is the first statement that fails, lies within the EXTENT of form number
`|pre|` of that text.

Vocabulary:
* `programText sts layout`, `programToks`, `ValidLayout`, `okStmt`, `printStmt`, `runStmts` — the
  text-level vocabulary of C17More, `Ruschm.ProgramText.*` of `ProgramTextLemmas.lean`: THE SAME
  definitions `C17More.lean` states its theorems about;
and, from `RuschmProofs/TextExtentLemmas.lean` (namespace `Ruschm.TextExtent`):
* `extent sts layout i : Pos × Pos` — the position `Text.advs` assigns (from 1:1) to the place where
  the first token of form `i` starts, and the cursor after its last token; both are `Text.advs` of a
  prefix of `programText sts layout`;
* `posLt`, `posLe` — the order of positions (line, then column);
* `Within ext l` — `ext.1 < l ≤ ext.2`.  The interpreter reports CURSORS AFTER tokens (C15
  `token_locs_in_text`), so the positions of the tokens of a form are exactly the positions `l` with
  `start < l ≤ end` that are token cursors; consecutive extents `(start, end]` are disjoint.
-/
import RuschmProofs.TextExtentLemmas
import RuschmProofs.C15

-- some statements below keep a hypothesis that their proof does not use (`CoreShape s`)
set_option linter.unusedVariables false

namespace Ruschm.C15More
open Ruschm Ruschm.Interp Ruschm.Front Ruschm.FrontSpec Ruschm.Xform Ruschm.CoreSyntax Ruschm.Text
open Ruschm.ProgramText Ruschm.TextExtent

/-! ## sample program, used by the `example`s: `(define x 1)  (1)  x` — the fault is in the second form -/

private def samplePre : List Statement := [.definition (.mk "x" (.prim (.int 1) none) none)]
private def sampleBad : Statement := .expr (.call (.prim (.int 1) none) [] none)
private def samplePost : List Statement := [.expr (.sym "x" none)]
private def samplePgm : List Statement := samplePre ++ sampleBad :: samplePost

/-- one form per line: `(define x 1)⏎(1)⏎x⏎` -/
private def layoutA : List (List Char) := [[], [], [' '], [' '], [], ['\n'], [], [], ['\n'], ['\n']]

/-- a comment first, the definition over two lines, the other forms behind it on the same line, no
final newline: `;c⏎( define x⏎1 )  (1) x` -/
private def layoutB : List (List Char) :=
  [";c\n".toList, [' '], [' '], ['\n'], [' '], [' ', ' '], [], [], [' '], []]

private theorem sample_textA : programText samplePgm layoutA = "(define x 1)\n(1)\nx\n".toList := by decide +kernel
private theorem sample_textB : programText samplePgm layoutB = ";c\n( define x\n1 )  (1) x".toList := by decide +kernel

private theorem sample_layoutA : ValidLayout (programToks samplePgm) layoutA := by decide +kernel
private theorem sample_layoutB : ValidLayout (programToks samplePgm) layoutB := by decide +kernel

/-- THE EXTENTS COMPUTED, layout A: line 1 columns 1–13, line 2 columns 1–4, line 3 columns 1–2 -/
example : extent samplePgm layoutA 0 = ((1, 1), (1, 13)) ∧ extent samplePgm layoutA 1 = ((2, 1), (2, 4)) ∧
    extent samplePgm layoutA 2 = ((3, 1), (3, 2)) := by decide +kernel

/-- THE EXTENTS COMPUTED, layout B: the definition from 2:1 to 3:4, `(1)` from 3:6 to 3:9, `x` from 3:10
to 3:11 -/
example : extent samplePgm layoutB 0 = ((2, 1), (3, 4)) ∧ extent samplePgm layoutB 1 = ((3, 6), (3, 9)) ∧
    extent samplePgm layoutB 2 = ((3, 10), (3, 11)) := by decide +kernel

/-- the cursor after the operator `1` of `(1)` — 2:3 under layout A, 3:8 under layout B — lies within
the extent of the second form and of no other -/
example : Within (extent samplePgm layoutA 1) (2, 3) ∧ ¬ Within (extent samplePgm layoutA 0) (2, 3) ∧
    ¬ Within (extent samplePgm layoutA 2) (2, 3) ∧
    Within (extent samplePgm layoutB 1) (3, 8) ∧ ¬ Within (extent samplePgm layoutB 0) (3, 8) ∧
    ¬ Within (extent samplePgm layoutB 2) (3, 8) := by decide +kernel

/-- the samples are `(define x 1)`, a statement `mid`, `x` -/
private theorem sample_around {P : Statement → Prop} {mid : Statement} (h₁ : P (.definition (.mk "x" (.prim (.int 1) none) none)))
    (h₂ : P mid) (h₃ : P (.expr (.sym "x" none))) : ∀ s ∈ samplePre ++ mid :: samplePost, P s :=
  List.forall_mem_cons.2 ⟨h₁, List.forall_mem_cons.2 ⟨h₂, List.forall_mem_cons.2 ⟨h₃, nofun⟩⟩⟩

private theorem sample_ok : ∀ s ∈ samplePgm, okStmt (C01More.macroOf (default_ false).syn) s := by
  rw [default_macros]
  exact sample_around (by decide : coreStmt C01More.isStdMacro (.definition _) = true)
    (by decide : coreStmt C01More.isStdMacro (.expr _) = true) (by decide : coreStmt C01More.isStdMacro (.expr _) = true)

private theorem sample_sup : ∀ s ∈ samplePgm, SupportedD (printStmt s) :=
  sample_around ⟨.inl (by decide +kernel), .inl (by decide +kernel), (by decide : fitsI32 1 = true), trivial⟩
    ⟨(by decide : fitsI32 1 = true), trivial⟩ (.inl (by decide +kernel))

/-- the definition `(define x 1)` succeeds in every state -/
private theorem sample_pre_ok (st : State) : ∃ v st₁, runStmts 2 st samplePre none = (.ok v, st₁) := by
  simp [samplePre, runStmts, evalAst_definition, Eval.evalExpr, Eval.evalPrim]

/-- the statement `(1)` fails in every state: the operator is not a procedure -/
private theorem sample_fail (st : State) : ∃ loc st₂,
    evalAst 2 st sampleBad = (.error (.nonProcedure, loc), st₂) := lit_call_fails st

/-! ## 1. the extents of the forms are ordered, disjoint, and inside the text -/

/-- EXTENTS ARE ORDERED.  For the text of the statements `sts` under ANY layout (valid or not: this is a
fact about the text alone): every form's extent starts at or after 1:1, is non-empty (`start < end`: a
form has at least one token, a token at least one character) and ends at or before the cursor after the
whole text — never beyond the end of the file; the extent of a form ends at or before the start of every
later form (consecutive forms: `end i ≤ start (i+1)`, with equality exactly when nothing separates
them); hence no position lies within the extents of two different forms. -/
theorem extents_ordered (sts : List Statement) (layout : List (List Char))
    (hsup : ∀ s ∈ sts, SupportedD (printStmt s)) :
    (∀ i, i < sts.length →
      posLe (1, 1) (extent sts layout i).1 ∧ posLt (extent sts layout i).1 (extent sts layout i).2 ∧
      posLe (extent sts layout i).2 (Text.advs (programText sts layout) (1, 1))) ∧
    (∀ i j, i < j → posLe (extent sts layout i).2 (extent sts layout j).1) ∧
    (∀ i j l, i < sts.length → j < sts.length →
      Within (extent sts layout i) l → Within (extent sts layout j) l → i = j) := by
  refine ⟨fun i hi => ⟨advs_le _ _, extent_start_lt_end sts layout i hi hsup, extent_end_le_text sts layout i⟩,
    fun i j h => extent_end_le_start sts layout h, ?_⟩
  intro i j l hi hj hwi hwj
  rcases Nat.lt_trichotomy i j with h | h | h
  · exact (posLt_irrefl_of_le hwj.1 (posLe_trans hwi.2 (extent_end_le_start sts layout h))).elim
  · exact h
  · exact (posLt_irrefl_of_le hwi.1 (posLe_trans hwj.2 (extent_end_le_start sts layout h))).elim

example : ∀ s ∈ samplePgm, SupportedD (printStmt s) := sample_sup

/-! ## 2. the reported position lies within the failing form -/

/-- where a position reported for the failure of form `i` may lie: within the extent of form `i`; or —
for the listed error kinds only — within the extent of an EARLIER form `j < i` (the identifier /
operator written in a procedure that form `j` defined); or the error arose while reading a library
source file (`C15.LibReadErr`: the position then refers to that file, the residue stated in C15). -/
def PositionOK (kinds : List Err) (sts : List Statement) (layout : List (List Char)) (i : Nat) (e : Err)
    (l : Pos) : Prop :=
  Within (extent sts layout i) l ∨
  (e ∈ kinds ∧ ∃ j, j < i ∧ Within (extent sts layout j) l) ∨
  C15.LibReadErr (e, some l)

/-- NEVER AFTER THE FAILING FORM, NEVER OUTSIDE THE TEXT: a position that is `PositionOK` for form `i`
stems from reading a library source, or lies at or before the end of the text of form `i` — so not within
a later form's extent, and not beyond the end of the file. -/
theorem positionOK_not_later (kinds : List Err) (sts : List Statement) (layout : List (List Char))
    (i : Nat) (e : Err) (l : Pos) (h : PositionOK kinds sts layout i e l) :
    C15.LibReadErr (e, some l) ∨
    (posLe l (extent sts layout i).2 ∧ posLe l (Text.advs (programText sts layout) (1, 1)) ∧
      ∀ j, i < j → ¬ Within (extent sts layout j) l) := by
  rcases h with h | ⟨-, j, hj, h⟩ | h
  · exact .inr ⟨h.2, not_later_of_le_end sts layout h.2⟩
  · have key := posLe_trans h.2 (extent_end_mono sts layout (Nat.le_of_lt hj))
    exact .inr ⟨key, not_later_of_le_end sts layout key⟩
  · exact .inl h

example : PositionOK [.unbound, .nonProcedure] samplePgm layoutA 1 .nonProcedure (2, 3) := Or.inl (by decide +kernel)

/-- THE FULL STATEMENT of (2): as `error_position_within_failing_form_partial` below, with the second
alternative restricted to the kinds unbound variable and non-procedure.  PROVED:
`error_position_within_failing_form` below. -/
def error_position_within_failing_form_full : Prop :=
  ∀ (fuel : Nat) (st st₁ st₂ : State) (pre post : List Statement) (s : Statement)
    (v : Option Value) (e : Err) (loc : Loc) (layout : List (List Char)),
    locs st = [] →
    (∀ s' ∈ pre ++ s :: post, okStmt (C01More.macroOf st.syn) s') →
    (∀ s' ∈ pre ++ s :: post, SupportedD (printStmt s')) →
    ValidLayout (programToks (pre ++ s :: post)) layout →
    runStmts fuel st pre none = (.ok v, st₁) → evalAst fuel st₁ s = (.error (e, loc), st₂) →
    ∃ l st₂', evalText fuel st (programText (pre ++ s :: post) layout) = (.error (e, some l), st₂') ∧
      st₂'.unloc = st₂.unloc ∧
      PositionOK [.unbound, .nonProcedure] (pre ++ s :: post) layout pre.length e l

/-- THE REPORTED POSITION LIES WITHIN THE FAILING FORM — THE FULL STATEMENT, for every program statement
(expression, definition, IMPORT DECLARATION).  Let `pre ++ s :: post` be program statements (`okStmt`) whose
literals the lexer can spell, written as a text under ANY valid layout and run by `Interpreter::eval` from a
state `st` that holds no source position.  If the statements `pre` succeed (leaving `st₁`) and `s` — form
number `i = |pre|` — is the first that fails, with an error of kind `e`, then the run of the TEXT ends in an
error of that kind `e` which CARRIES a position `l`, in the state `s` left (up to the positions stored in
closures), and
 * EITHER `l` lies within the extent of form `i`;
 * OR the kind is UNBOUND VARIABLE or NON-PROCEDURE and `l` lies within the extent of an EARLIER form `j < i`
   (the identifier / operator written in a procedure that form `j` defined);
 * or the error arose while reading a library source file (C15's residue).
In particular a CYCLIC IMPORT or a MISSING LIBRARY is reported inside the import declaration that failed —
at the library name, by `C15.error_kind_and_position` —, never at a library name of an earlier
declaration: the state never holds a position in the role of a library name
(`LibNamePos.evalAst_noLib`: what an import declaration leaves in the state does not depend on the positions
written in its import sets). -/
theorem error_position_within_failing_form : error_position_within_failing_form_full := by
  intro fuel st st₁ st₂ pre post s v e loc layout hst hok hsup hl hpre hfail
  obtain ⟨d, s', st₁', l, st₂', F⟩ :=
    text_fails_at fuel st st₁ st₂ pre post s v e loc layout hst hok hsup hl hpre hfail
  have htoks := programToks_supported _ hsup
  rw [programToks_append, programToks_cons] at htoks
  have hin : ∀ q ∈ locs d, Within (extent (pre ++ s :: post) layout pre.length) q := fun q hq =>
    formTokLocs_within pre post s layout
      (fun t ht => htoks t (List.mem_append_right _ (List.mem_append_left _ ht))) q (F.form_locs q hq)
  refine ⟨l, st₂', F.run, F.state, ?_⟩
  rcases (ProgLoc.evalAst_of_datum (by rw [F.made]) F.fails).2 e l rfl with h | ⟨ro, hk, hm⟩ | h
  · exact Or.inl (hin l h)
  · -- a position the state held: at a token of an earlier form, and not in the role of a library name
    refine Or.inr (Or.inl ⟨?_, ?_⟩)
    · rcases Role.kinds_cases hk with ⟨-, rfl | rfl⟩ | ⟨rfl, -⟩
      · exact List.mem_cons_self ..
      · exact List.mem_cons_of_mem _ (List.mem_cons_self ..)
      · exact absurd rfl (F.noLib _ hm)
    · obtain ⟨j, hj, hw⟩ := locate_in_some_extent layout pre
        (fun t ht => htoks t (List.mem_append_left _ ht)) l (F.state_locs l (mem_unrole.2 ⟨ro, hm⟩))
      exact ⟨j, hj, by rw [extent_prefix pre (s :: post) layout j hj]; exact hw⟩
  · exact Or.inr (Or.inr h)

private theorem PositionOK.mono {kinds kinds' : List Err} (hk : kinds ⊆ kinds') {sts : List Statement}
    {layout : List (List Char)} {i : Nat} {e : Err} {l : Pos} (h : PositionOK kinds sts layout i e l) :
    PositionOK kinds' sts layout i e l :=
  h.imp_right (Or.imp_left (And.imp_left (@hk e)))

private theorem sample_run {layout : List (List Char)} (hl : ValidLayout (programToks samplePgm) layout) :
    ∃ l st', evalText 2 (default_ false) (programText samplePgm layout) = (.error (.nonProcedure, some l), st') ∧
      PositionOK [.unbound, .nonProcedure] samplePgm layout 1 .nonProcedure l := by
  obtain ⟨v, st₁, h1⟩ := sample_pre_ok (default_ false)
  obtain ⟨loc, st₂, h2⟩ := sample_fail st₁
  obtain ⟨l, st', k1, -, k3⟩ := error_position_within_failing_form 2 (default_ false) st₁ st₂ samplePre samplePost
    sampleBad v .nonProcedure loc layout (C15.default_state_unlocated false 0).1 sample_ok sample_sup hl h1 h2
  exact ⟨l, st', k1, k3⟩

/-- THE REPORTED POSITION LIES WITHIN THE FAILING FORM.  Let `pre ++ s :: post` be program statements
(core expressions and definitions, import declarations: `okStmt`, w.r.t. the macro keywords of the
interpreter's syntax environment) whose literals the lexer can spell, written as a text under ANY valid
layout, and run by `Interpreter::eval` from a state `st` that holds no source position (`default()`,
`new_with_stdlib()`: `C15.default_state_unlocated`).  If the statements `pre` succeed (leaving `st₁`) and
`s` — form number `i = |pre|` — is the first that fails, with an error of kind `e`, then the run of the
TEXT ends in an error of that kind `e` which CARRIES a position `l` (a line and a column), in the state
`s` left (up to the positions stored in closures), and
 * EITHER `l` lies within the extent of form `i` — after the start of its first token, at or before the
   cursor after its last token;
 * OR the kind is unbound variable / non-procedure / cyclic import / missing library and `l` lies within
   the extent of an EARLIER form `j < i`;
 * or the error arose while reading a library source file (C15's residue).
In particular (`positionOK_not_later`) never after form `i`, never in a later form, never beyond the end
of the text.

A corollary of `error_position_within_failing_form`: here the kinds cyclic import / missing library are not
excluded from the second alternative (they cannot occur there — the state never stores the position of a
library name: `LibNamePos.evalAst_noLib`).  This is the list of kinds with which
`layout_moves_positions_only` is stated. -/
theorem error_position_within_failing_form_partial (fuel : Nat) (st st₁ st₂ : State)
    (pre post : List Statement) (s : Statement) (v : Option Value) (e : Err) (loc : Loc)
    (layout : List (List Char))
    (hst : locs st = [])
    (hok : ∀ s' ∈ pre ++ s :: post, okStmt (C01More.macroOf st.syn) s')
    (hsup : ∀ s' ∈ pre ++ s :: post, SupportedD (printStmt s'))
    (hl : ValidLayout (programToks (pre ++ s :: post)) layout)
    (hpre : runStmts fuel st pre none = (.ok v, st₁)) (hfail : evalAst fuel st₁ s = (.error (e, loc), st₂)) :
    ∃ l st₂', evalText fuel st (programText (pre ++ s :: post) layout) = (.error (e, some l), st₂') ∧
      st₂'.unloc = st₂.unloc ∧
      PositionOK [.unbound, .nonProcedure, .cyclic, .libNotFound] (pre ++ s :: post) layout pre.length e l := by
  obtain ⟨l, st₂', h1, h2, h3⟩ :=
    error_position_within_failing_form fuel st st₁ st₂ pre post s v e loc layout hst hok hsup hl hpre hfail
  exact ⟨l, st₂', h1, h2, h3.mono (by simp)⟩

/-- the hypotheses hold for the sample program `(define x 1) (1) x` in `Interpreter::default()`, under
both layouts, with the fault in the SECOND form -/
example : locs (default_ false) = [] ∧
    (∀ s' ∈ samplePre ++ sampleBad :: samplePost, okStmt (C01More.macroOf (default_ false).syn) s') ∧
    (∀ s' ∈ samplePre ++ sampleBad :: samplePost, SupportedD (printStmt s')) ∧
    ValidLayout (programToks (samplePre ++ sampleBad :: samplePost)) layoutA ∧
    ValidLayout (programToks (samplePre ++ sampleBad :: samplePost)) layoutB ∧
    ∃ v st₁ loc st₂, runStmts 2 (default_ false) samplePre none = (.ok v, st₁) ∧
      evalAst 2 st₁ sampleBad = (.error (.nonProcedure, loc), st₂) := by
  obtain ⟨v, st₁, h1⟩ := sample_pre_ok (default_ false)
  obtain ⟨loc, st₂, h2⟩ := sample_fail st₁
  exact ⟨(C15.default_state_unlocated false 0).1, sample_ok, sample_sup, sample_layoutA, sample_layoutB,
    v, st₁, loc, st₂, h1, h2⟩

/-- … so the text `(define x 1)⏎(1)⏎x⏎` run in `Interpreter::default()` reports a non-procedure error at
a position within 2:1–2:4, the extent of `(1)` (the other alternatives are empty: not reading a library,
and no position of line 1 is the operator of a call) -/
example : ∃ l st', evalText 2 (default_ false) "(define x 1)\n(1)\nx\n".toList = (.error (.nonProcedure, some l), st') ∧
    PositionOK [.unbound, .nonProcedure, .cyclic, .libNotFound] samplePgm layoutA 1 .nonProcedure l := by
  obtain ⟨l, st', k1, k3⟩ := sample_run sample_layoutA
  exact ⟨l, st', sample_textA ▸ k1, k3.mono (by simp)⟩

/-- … AT FULL STRENGTH WHEN THE FAILING STATEMENT IS AN EXPRESSION OR A DEFINITION (every run-time fault
other than a failing import).  Same hypotheses, `s` an expression or a definition: the position `l`
reported for the text lies within the extent of form `i = |pre|`, OR the kind is UNBOUND VARIABLE or
NON-PROCEDURE and `l` lies within the extent of an EARLIER form `j < i` — or the error arose while reading
a library source.  Every other kind of fault (type, arity, division by zero, index, …) is reported inside
the form that failed. -/
theorem error_position_within_failing_form_expr (fuel : Nat) (st st₁ st₂ : State)
    (pre post : List Statement) (s : Statement) (v : Option Value) (e : Err) (loc : Loc)
    (layout : List (List Char))
    (hst : locs st = []) (hs : CoreShape s)
    (hok : ∀ s' ∈ pre ++ s :: post, okStmt (C01More.macroOf st.syn) s')
    (hsup : ∀ s' ∈ pre ++ s :: post, SupportedD (printStmt s'))
    (hl : ValidLayout (programToks (pre ++ s :: post)) layout)
    (hpre : runStmts fuel st pre none = (.ok v, st₁)) (hfail : evalAst fuel st₁ s = (.error (e, loc), st₂)) :
    ∃ l st₂', evalText fuel st (programText (pre ++ s :: post) layout) = (.error (e, some l), st₂') ∧
      st₂'.unloc = st₂.unloc ∧
      PositionOK [.unbound, .nonProcedure] (pre ++ s :: post) layout pre.length e l :=
  error_position_within_failing_form fuel st st₁ st₂ pre post s v e loc layout hst hok hsup hl hpre hfail

example : CoreShape sampleBad := trivial

/-- for the sample: the non-procedure error of `(define x 1)⏎(1)⏎x⏎` is reported within 2:1–2:4 or — as
far as this theorem goes — at a token of line 1 -/
example : ∃ l st', evalText 2 (default_ false) "(define x 1)\n(1)\nx\n".toList = (.error (.nonProcedure, some l), st') ∧
    PositionOK [.unbound, .nonProcedure] samplePgm layoutA 1 .nonProcedure l := by
  obtain ⟨l, st', k1, k3⟩ := sample_run sample_layoutA
  exact ⟨l, st', sample_textA ▸ k1, k3⟩

/-- for the sample (hypotheses: the `example` after `error_position_within_failing_form_partial`): the
non-procedure error of `(define x 1)⏎(1)⏎x⏎` is reported within 2:1–2:4 or — as far as this theorem goes —
at a token of line 1 -/
example : ∃ l st', evalText 2 (default_ false) "(define x 1)\n(1)\nx\n".toList = (.error (.nonProcedure, some l), st') ∧
    PositionOK [.unbound, .nonProcedure] samplePgm layoutA 1 .nonProcedure l := by
  obtain ⟨l, st', k1, k3⟩ := sample_run sample_layoutA
  exact ⟨l, st', sample_textA ▸ k1, k3⟩

/-! sample program with a failing IMPORT: `(import (nolib))  x` -/

private def sampleImp : Statement := .importDecl [.direct [.ident "nolib"] none] none
private def impPost : List Statement := [.expr (.sym "x" none)]
private def layoutImp : List (List Char) := [[], [], [' '], [], [], [], ['\n'], ['\n']]

private theorem default_fields : (default_ false).importEnd = false ∧ (default_ false).inProgress = [] ∧
    (default_ false).instances = [] ∧ (default_ false).files = [] :=
  have h := FrontSpec.default_store false
  ⟨h.2.2.2.1, h.2.2.2.2.1, h.2.2.1, h.2.2.2.2.2⟩

private theorem default_no_nolib : libLookup (default_ false).factories [.ident "nolib"] = none := by
  obtain ⟨b, w, h⟩ := FrontSpec.default_factories false
  rw [h]
  cases factoryOfText libSchemeBase b <;> cases factoryOfText libSchemeWrite w <;>
    simp [libLookup, libRuschmBase, libRuschmWrite, libSchemeBase, libSchemeWrite]

/-- importing a library that is neither registered nor on file fails: missing library -/
private theorem sampleImp_fails (st : State) (h1 : st.importEnd = false) (h2 : st.inProgress = [])
    (h3 : st.instances = []) (h4 : st.files = []) (h5 : libLookup st.factories [.ident "nolib"] = none) :
    ∃ st₂, evalAst 4 st sampleImp = (.error (.libNotFound, none), st₂) := by
  have key : (evalAst 4 st sampleImp).1 = .error (.libNotFound, none) := by
    unfold sampleImp evalAst evalImport evalImportSets evalImportSet getLibrary
    simp only [h1, h2, h3, h4, h5, libLookup, List.lookup, Bool.not_false, if_true, List.contains_nil,
      Bool.false_eq_true, if_false]
    rfl
  exact ⟨_, Prod.ext key rfl⟩

private theorem sampleImp_ok :
    ∀ s' ∈ [] ++ sampleImp :: impPost, okStmt (C01More.macroOf (default_ false).syn) s' := by
  rw [default_macros]
  exact List.forall_mem_cons.2 ⟨List.forall_mem_cons.2 ⟨⟨_, _, rfl, by decide⟩, nofun⟩,
    List.forall_mem_cons.2 ⟨(by decide : coreStmt C01More.isStdMacro (.expr _) = true), nofun⟩⟩

private theorem sampleImp_sup : ∀ s' ∈ [] ++ sampleImp :: impPost, SupportedD (printStmt s') :=
  List.forall_mem_cons.2 ⟨⟨.inl (by decide +kernel), ⟨.inl (by decide +kernel), trivial⟩, trivial⟩,
    List.forall_mem_cons.2 ⟨.inl (by decide +kernel), nofun⟩⟩

private theorem imp_text :
    programText ([] ++ sampleImp :: impPost) layoutImp = "(import (nolib))\nx\n".toList := by decide +kernel
private theorem imp_extent : extent ([] ++ sampleImp :: impPost) layoutImp 0 = ((1, 1), (1, 17)) := by
  decide +kernel
private theorem imp_layout : ValidLayout (programToks ([] ++ sampleImp :: impPost)) layoutImp := by
  decide +kernel
private theorem imp_fails : ∃ st₂, evalAst 4 (default_ false) sampleImp = (.error (.libNotFound, none), st₂) :=
  sampleImp_fails _ default_fields.1 default_fields.2.1 default_fields.2.2.1 default_fields.2.2.2 default_no_nolib

/-- the hypotheses of `error_position_within_failing_form` hold for `(import (nolib))⏎x⏎` in
`Interpreter::default()`, the failing statement being the IMPORT DECLARATION (form 0, extent 1:1–1:17) … -/
example : programText ([] ++ sampleImp :: impPost) layoutImp = "(import (nolib))\nx\n".toList ∧
    extent ([] ++ sampleImp :: impPost) layoutImp 0 = ((1, 1), (1, 17)) ∧
    locs (default_ false) = [] ∧
    (∀ s' ∈ [] ++ sampleImp :: impPost, okStmt (C01More.macroOf (default_ false).syn) s') ∧
    (∀ s' ∈ [] ++ sampleImp :: impPost, SupportedD (printStmt s')) ∧
    ValidLayout (programToks ([] ++ sampleImp :: impPost)) layoutImp ∧
    runStmts 4 (default_ false) [] none = (.ok none, default_ false) ∧
    ∃ st₂, evalAst 4 (default_ false) sampleImp = (.error (.libNotFound, none), st₂) :=
  ⟨imp_text, imp_extent, (C15.default_state_unlocated false 0).1, sampleImp_ok, sampleImp_sup, imp_layout, rfl,
    imp_fails⟩

/-- … so the missing library is reported at a position WITHIN THE IMPORT DECLARATION, 1:1–1:17: there is no
earlier form, and a missing-library error is not an error from reading a library source unless a library
source was read (the third alternative, C15's residue) -/
example : ∃ l st', evalText 4 (default_ false) "(import (nolib))\nx\n".toList = (.error (.libNotFound, some l), st') ∧
    (Within ((1, 1), (1, 17)) l ∨ C15.LibReadErr (.libNotFound, some l)) := by
  obtain ⟨st₂, h2⟩ := imp_fails
  obtain ⟨l, st', k1, -, k3⟩ := error_position_within_failing_form 4 (default_ false) (default_ false) st₂ []
    impPost sampleImp none .libNotFound none layoutImp (C15.default_state_unlocated false 0).1 sampleImp_ok
    sampleImp_sup imp_layout rfl h2
  rw [imp_text] at k1
  refine ⟨l, st', k1, ?_⟩
  rcases k3 with h | ⟨-, j, hj, -⟩ | h
  · rw [show extent ([] ++ sampleImp :: impPost) layoutImp ([] : List Statement).length = ((1, 1), (1, 17))
      from imp_extent] at h
    exact Or.inl h
  · exact absurd hj (by simp)
  · exact Or.inr h

/-! ## 3. an unbound identifier is reported exactly at the identifier -/

/-- AN UNBOUND VARIABLE IS REPORTED AT THE IDENTIFIER ITSELF.  Let form `i = |pre|` of the program be a
bare identifier `x` — the unbound variable is an identifier of form `i` itself, not reached through a
procedure defined earlier —, unbound in the state `st₁` the statements `pre` leave.  Then
`Interpreter::eval` on the text, under any valid layout, reports the unbound-variable error EXACTLY at the
end of the extent of form `i`, and that is exactly the cursor after the identifier's token: the start of
the extent advanced over the characters of `x` (`Text.renderTok (.ident x)`). -/
theorem error_position_is_the_identifier (fuel : Nat) (st st₁ : State) (pre post : List Statement)
    (x : String) (loc₀ : Loc) (v : Option Value) (layout : List (List Char))
    (hst : locs st = [])
    (hok : ∀ s' ∈ pre ++ .expr (.sym x loc₀) :: post, okStmt (C01More.macroOf st.syn) s')
    (hsup : ∀ s' ∈ pre ++ .expr (.sym x loc₀) :: post, SupportedD (printStmt s'))
    (hl : ValidLayout (programToks (pre ++ .expr (.sym x loc₀) :: post)) layout)
    (hpre : runStmts (fuel + 1) st pre none = (.ok v, st₁)) (hx : st₁.store.lookup st₁.env x = none) :
    (∃ st', evalText (fuel + 1) st (programText (pre ++ .expr (.sym x loc₀) :: post) layout) =
      (.error (.unbound, some (extent (pre ++ .expr (.sym x loc₀) :: post) layout pre.length).2), st')) ∧
    (extent (pre ++ .expr (.sym x loc₀) :: post) layout pre.length).2 =
      Text.advs (renderTok (.ident x)) (extent (pre ++ .expr (.sym x loc₀) :: post) layout pre.length).1 := by
  refine ⟨?_, by rw [extent_at]; simp only [stmtToks_sym, textThrough, List.append_nil, advs_append]⟩
  obtain ⟨st₂, hfail⟩ := evalAst_unbound_sym fuel st₁ x loc₀ hx
  obtain ⟨d, s', st₁', l, st₂', F⟩ :=
    text_fails_at (fuel + 1) st st₁ st₂ pre post (.expr (.sym x loc₀)) v .unbound loc₀ layout hst hok hsup hl hpre hfail
  refine ⟨st₂', ?_⟩
  rw [F.run]
  -- the statement made from the datum is the identifier; it fails at its own position
  obtain ⟨loc', rfl⟩ := Statement.eq_sym_of_unloc F.same
  obtain ⟨st₃, hev⟩ := evalAst_unbound_sym fuel st₁' x loc' (lookup_none_of_unloc F.before hx)
  obtain rfl : loc' = some l := by have := hev.symm.trans F.fails; simp at this; exact this.1
  -- which is a position of the datum, i.e. of the one token of the form
  have := F.form_locs l ((XformLoc.toStatement_locs (fuel := xformFuel d) (d := d) (env := st.syn)).1 _
    (by rw [F.made]) (by simp [Statement.rlocs, Expr.rlocs, Loc.as, unrole]))
  rw [formTokLocs_sym pre post, List.mem_singleton] at this
  rw [this]

/-- `(define x 1)  y  x` under layout A: the hypotheses hold in `Interpreter::default()`; the unbound `y`
of line 2 is reported at 2:2, the cursor after `y` -/
private def sampleSym : List Statement := samplePre ++ .expr (.sym "y" none) :: samplePost
private def layoutSym : List (List Char) := [[], [], [' '], [' '], [], ['\n'], ['\n'], ['\n']]

private theorem sym_text : programText (samplePre ++ .expr (.sym "y" none) :: samplePost) layoutSym =
    "(define x 1)\ny\nx\n".toList := by decide +kernel
private theorem sym_layout :
    ValidLayout (programToks (samplePre ++ .expr (.sym "y" none) :: samplePost)) layoutSym := by decide +kernel
private theorem sym_extent :
    extent (samplePre ++ .expr (.sym "y" none) :: samplePost) layoutSym 1 = ((2, 1), (2, 2)) := by decide +kernel

example : programText sampleSym layoutSym = "(define x 1)\ny\nx\n".toList ∧
    ValidLayout (programToks sampleSym) layoutSym ∧ extent sampleSym layoutSym 1 = ((2, 1), (2, 2)) :=
  ⟨sym_text, sym_layout, sym_extent⟩

private theorem sample_y_unbound : ∃ v st₁, runStmts 2 (default_ false) samplePre none = (.ok v, st₁) ∧
    st₁.store.lookup st₁.env "y" = none :=
  ⟨_, _, by with_unfolding_all rfl, by with_unfolding_all rfl⟩

/-- `y` is unbound after `(define x 1)` in an interpreter whose store is the fresh root frame -/
example : ∃ v st₁, runStmts 2 (default_ false) samplePre none = (.ok v, st₁) ∧
    st₁.store.lookup st₁.env "y" = none := sample_y_unbound

/-- … so `Interpreter::default()` on the text `(define x 1)⏎y⏎x⏎` reports the unbound variable at 2:2 -/
example : ∃ st', evalText 2 (default_ false) "(define x 1)\ny\nx\n".toList = (.error (.unbound, some (2, 2)), st') := by
  obtain ⟨v, st₁, h, hy⟩ := sample_y_unbound
  have hok : ∀ s' ∈ samplePre ++ .expr (.sym "y" none) :: samplePost, okStmt (C01More.macroOf (default_ false).syn) s' := by
    rw [default_macros]
    exact sample_around (by decide : coreStmt C01More.isStdMacro (.definition _) = true)
      (by decide : coreStmt C01More.isStdMacro (.expr _) = true) (by decide : coreStmt C01More.isStdMacro (.expr _) = true)
  have hsup : ∀ s' ∈ samplePre ++ .expr (.sym "y" none) :: samplePost, SupportedD (printStmt s') :=
    sample_around ⟨.inl (by decide +kernel), .inl (by decide +kernel), (by decide : fitsI32 1 = true), trivial⟩
      (.inl (by decide +kernel)) (.inl (by decide +kernel))
  obtain ⟨⟨st', k⟩, -⟩ := error_position_is_the_identifier 1 (default_ false) st₁ samplePre samplePost "y" none v
    layoutSym (C15.default_state_unlocated false 0).1 hok hsup sym_layout h hy
  rw [sym_text, show samplePre.length = 1 from rfl, sym_extent] at k
  exact ⟨st', k⟩

/-! ## 4. the layout moves the positions, and nothing else -/

/-- THE LAYOUT MOVES POSITIONS ONLY, with the full classification (`error_position_within_failing_form`) for
EVERY failing statement, import declarations included: under two valid layouts of the same statements both
texts fail with the same kind `e` for the same form `i = |pre|`, in states equal up to stored positions, and
each reported position lies within form `i` of ITS OWN text — or, for an unbound variable / a non-procedure
only, within an earlier form of its own text; or the error arose while reading a library source. -/
theorem layout_moves_positions_only_full (fuel : Nat) (st st₁ st₂ : State) (pre post : List Statement)
    (s : Statement) (v : Option Value) (e : Err) (loc : Loc) (l₁ l₂ : List (List Char))
    (hst : locs st = [])
    (hok : ∀ s' ∈ pre ++ s :: post, okStmt (C01More.macroOf st.syn) s')
    (hsup : ∀ s' ∈ pre ++ s :: post, SupportedD (printStmt s'))
    (h₁ : ValidLayout (programToks (pre ++ s :: post)) l₁) (h₂ : ValidLayout (programToks (pre ++ s :: post)) l₂)
    (hpre : runStmts fuel st pre none = (.ok v, st₁)) (hfail : evalAst fuel st₁ s = (.error (e, loc), st₂)) :
    ∃ p₁ p₂ st₁' st₂',
      evalText fuel st (programText (pre ++ s :: post) l₁) = (.error (e, some p₁), st₁') ∧
      evalText fuel st (programText (pre ++ s :: post) l₂) = (.error (e, some p₂), st₂') ∧
      st₁'.unloc = st₂'.unloc ∧
      PositionOK [.unbound, .nonProcedure] (pre ++ s :: post) l₁ pre.length e p₁ ∧
      PositionOK [.unbound, .nonProcedure] (pre ++ s :: post) l₂ pre.length e p₂ := by
  obtain ⟨p₁, st₁', a1, a2, a3⟩ :=
    error_position_within_failing_form fuel st st₁ st₂ pre post s v e loc l₁ hst hok hsup h₁ hpre hfail
  obtain ⟨p₂, st₂', b1, b2, b3⟩ :=
    error_position_within_failing_form fuel st st₁ st₂ pre post s v e loc l₂ hst hok hsup h₂ hpre hfail
  exact ⟨p₁, p₂, st₁', st₂', a1, b1, a2.trans b2.symm, a3, b3⟩

/-- THE LAYOUT MOVES POSITIONS ONLY.  Two valid layouts of the same program statements — other line
breaks, indentation, comments — run from a state without positions: when the statements `pre` succeed and
`s`, form number `i = |pre|`, fails with kind `e`, BOTH texts end in an error of the SAME KIND `e`, for the
SAME FORM `i`, in states equal up to the positions stored in closures; each reports a position, and each
position is `PositionOK` for form `i` w.r.t. the extents of ITS OWN text: the two positions differ
exactly as the two layouts place the forms. -/
theorem layout_moves_positions_only (fuel : Nat) (st st₁ st₂ : State) (pre post : List Statement)
    (s : Statement) (v : Option Value) (e : Err) (loc : Loc) (l₁ l₂ : List (List Char))
    (hst : locs st = [])
    (hok : ∀ s' ∈ pre ++ s :: post, okStmt (C01More.macroOf st.syn) s')
    (hsup : ∀ s' ∈ pre ++ s :: post, SupportedD (printStmt s'))
    (h₁ : ValidLayout (programToks (pre ++ s :: post)) l₁) (h₂ : ValidLayout (programToks (pre ++ s :: post)) l₂)
    (hpre : runStmts fuel st pre none = (.ok v, st₁)) (hfail : evalAst fuel st₁ s = (.error (e, loc), st₂)) :
    ∃ p₁ p₂ st₁' st₂',
      evalText fuel st (programText (pre ++ s :: post) l₁) = (.error (e, some p₁), st₁') ∧
      evalText fuel st (programText (pre ++ s :: post) l₂) = (.error (e, some p₂), st₂') ∧
      st₁'.unloc = st₂'.unloc ∧
      PositionOK [.unbound, .nonProcedure, .cyclic, .libNotFound] (pre ++ s :: post) l₁ pre.length e p₁ ∧
      PositionOK [.unbound, .nonProcedure, .cyclic, .libNotFound] (pre ++ s :: post) l₂ pre.length e p₂ ∧
      (CoreShape s →
        PositionOK [.unbound, .nonProcedure] (pre ++ s :: post) l₁ pre.length e p₁ ∧
        PositionOK [.unbound, .nonProcedure] (pre ++ s :: post) l₂ pre.length e p₂) := by
  obtain ⟨p₁, p₂, st₁', st₂', a1, b1, h, a3, b3⟩ :=
    layout_moves_positions_only_full fuel st st₁ st₂ pre post s v e loc l₁ l₂ hst hok hsup h₁ h₂ hpre hfail
  exact ⟨p₁, p₂, st₁', st₂', a1, b1, h, a3.mono (by simp), b3.mono (by simp), fun _ => ⟨a3, b3⟩⟩

/-- the sample program under its two layouts: hypotheses as for (2) -/
example : ValidLayout (programToks (samplePre ++ sampleBad :: samplePost)) layoutA ∧
    ValidLayout (programToks (samplePre ++ sampleBad :: samplePost)) layoutB ∧
    programText (samplePre ++ sampleBad :: samplePost) layoutA ≠ programText (samplePre ++ sampleBad :: samplePost) layoutB :=
  ⟨sample_layoutA, sample_layoutB, by decide +kernel⟩

/-- … so both `(define x 1)⏎(1)⏎x⏎` and `;c⏎( define x⏎1 )  (1) x` report a non-procedure error, the first
within 2:1–2:4 and the second within 3:6–3:9 (or, as far as the theorem goes, at a token of the definition) -/
example : ∃ p₁ p₂ st₁' st₂',
    evalText 2 (default_ false) "(define x 1)\n(1)\nx\n".toList = (.error (.nonProcedure, some p₁), st₁') ∧
    evalText 2 (default_ false) ";c\n( define x\n1 )  (1) x".toList = (.error (.nonProcedure, some p₂), st₂') ∧
    PositionOK [.unbound, .nonProcedure] samplePgm layoutA 1 .nonProcedure p₁ ∧
    PositionOK [.unbound, .nonProcedure] samplePgm layoutB 1 .nonProcedure p₂ := by
  obtain ⟨p₁, st₁', k1, k3⟩ := sample_run sample_layoutA
  obtain ⟨p₂, st₂', k2, k4⟩ := sample_run sample_layoutB
  exact ⟨p₁, p₂, st₁', st₂', sample_textA ▸ k1, sample_textB ▸ k2, k3, k4⟩

/-- the hypotheses are those of `layout_moves_positions_only` (the sample program under its two layouts) -/
example : ∃ p₁ p₂ st₁' st₂',
    evalText 2 (default_ false) "(define x 1)\n(1)\nx\n".toList = (.error (.nonProcedure, some p₁), st₁') ∧
    evalText 2 (default_ false) ";c\n( define x\n1 )  (1) x".toList = (.error (.nonProcedure, some p₂), st₂') ∧
    PositionOK [.unbound, .nonProcedure] samplePgm layoutA 1 .nonProcedure p₁ ∧
    PositionOK [.unbound, .nonProcedure] samplePgm layoutB 1 .nonProcedure p₂ := by
  obtain ⟨p₁, st₁', k1, k3⟩ := sample_run sample_layoutA
  obtain ⟨p₂, st₂', k2, k4⟩ := sample_run sample_layoutB
  exact ⟨p₁, p₂, st₁', st₂', sample_textA ▸ k1, sample_textB ▸ k2, k3, k4⟩

end Ruschm.C15More
