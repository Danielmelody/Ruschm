/-
For C13Sharing: the frame of a library is a root frame of the store (`Lib.IsRoot`, `libraryDef_root`: LibLemmas) and
stays one as the store grows; here: older frames and other roots do not see it; importing an instantiated library again
evaluates nothing (`importSet_cached`).
-/
import RuschmProofs.LibMoreLemmas

namespace Ruschm
namespace Lib
open Interp

/-- the frames a frame `r` is certainly invisible from: the older ones and the other roots -/
theorem not_mem_chain_of_older_or_root {σ : Store} {ρ' r : Nat}
    (h : ρ' < r ∨ (ρ' ≠ r ∧ σ.parentOf ρ' = none)) : r ∉ σ.chain ρ' := by
  rcases h with h | ⟨hne, hp⟩
  · exact Store.not_mem_chain_of_lt h
  · exact Store.not_mem_chain_of_parent_none hne hp

theorem not_mem_chain_of_getLast_ne {σ : Store} {r ρ q : Nat} (hr : σ.parentOf r = none)
    (hq : (σ.chain ρ).getLast? = some q) (hne : q ≠ r) : r ∉ σ.chain ρ := by
  intro hm
  rw [Store.chain_getLast_of_root hr hm] at hq
  cases hq
  exact hne rfl

/-! ## `set!` -/

theorem evalExpr_assign_ok {fuel : Nat} {σ₀ σ : Store} {ρ r : Nat} {x : String} {ve : Expr} {v : Value}
    (loc : Loc) (he : Eval.evalExpr fuel σ₀ ρ ve = (.ok v, σ)) (hr : σ.resolve ρ x = some r) :
    Eval.evalExpr (fuel + 1) σ₀ ρ (.assign x ve loc) = (.ok .void, σ.define r x v) := by
  rw [Eval.evalExpr_assign, he]
  simp only [andThen_ok, Store.set_eq, hr]

/-! ## what a successful import declaration does -/

theorem evalImport_ok {fuel : Nat} {st st' : State} {sets : List ImportSet} {ρ : Nat}
    (h : evalImport fuel st sets ρ = (.ok (), st')) :
    ∃ k defs st₀, fuel = k + 1 ∧ evalImportSets k st sets [] = (.ok defs, st₀) ∧
      st' = { st₀ with store := defs.foldl (fun σ p => σ.define ρ p.1 p.2) st₀.store } ∧
      DefinedIn st₀.store st'.store ρ (S.asMap defs) := by
  cases fuel with
  | zero => rw [evalImport] at h; cases h
  | succ k =>
    rw [evalImport] at h
    split at h
    · cases h
    · rename_i defs st₀ he
      cases h
      exact ⟨k, defs, st₀, rfl, he, rfl, foldl_define_spec ρ defs st₀.store⟩

theorem libraryDef_grows (fuel : Nat) (st : State) (decls : List LibDecl) :
    Store.Grows st.store (evalLibraryDef fuel st decls).2.store :=
  (run_inv storeRel_grows fuel st (.libraryDef decls)).store

/-! ## importing an instantiated library again -/

theorem importSet_cached (s : ImportSet) (n : Nat) {st : State} {d : S.Bindings}
    (hc : libLookup st.instances (S.leaf s) = some d) (hip : S.leaf s ∉ st.inProgress) :
    evalImportSet (n + 2 + S.depth s) st s = (.ok (S.transform s d), st) := by
  rw [importSet_factors s (n + 2) st, direct_cached hip hc]

theorem transform_values (s : ImportSet) (d : S.Bindings) :
    ∀ p ∈ S.transform s d, ∃ q ∈ d, q.2 = p.2 := by
  induction s using ImportSet.opInduction with
  | direct name loc => intro p hp; exact ⟨p, hp, rfl⟩
  | wrap op sub ih =>
    intro p hp
    rw [ImportOp.transform_wrap] at hp
    obtain ⟨q, hq, e⟩ := ImportOp.mem_apply hp
    obtain ⟨q', hq', e'⟩ := ih q hq
    exact ⟨q', hq', e'.trans e⟩

end Lib
end Ruschm
