/-
Property C18, continued — "a REPL session equals evaluating its forms in sequence", composed with
C17More "a program text evaluates as its statements": A SESSION IN WHICH THE PRINTED TEXT OF STATEMENTS IS
TYPED EVALUATES THESE STATEMENTS.

Vocabulary (`RuschmProofs/SessionLemmas.lean`, namespace `Ruschm.Session`):
* `TLine` — a typed line: its tokens and the blanks/comments before, between and after them
  (`TLine.Valid`: `Text.ValidLayout`, a last comment may run to the end of the line; `TLine.Supp`: tokens
  the lexer can spell; `TLine.str`: the string `readline` returns);
* `TypedAs lines sts` — the tokens of the lines, in order, are the tokens of the printed forms
  (`ProgramText.printStmt`) of `sts`: ANY distribution of the tokens over lines (a form may span several
  lines, several forms may share a line), any valid layout inside each line, any number of empty lines
  and of lines holding only blanks or comments.  `joinLines lines` is the whole text (the lines joined
  by newlines); it is a valid layout of `programToks sts` (`typed_text_is_a_program_text`), i.e. one of
  the texts C17More speaks about, and the session's lines are that text split at the joining newlines;
* `tgroups lines` — the line groups computed on TOKENS: empty lines dropped, a group ends with the first
  line at whose end the group's tokens have nesting depth `≤ 0`;
* `submitStmts`/`sessionStmts` — chunks of statements submitted one after another: each chunk is run by
  `eval_ast` statement after statement from the state the previous submission left (`runStmts`, C17More),
  STOPPING AT THE FIRST ERROR INSIDE THE CHUNK, and the session goes on with the next chunk;
  `foldStmts` — the fold of `eval_ast` over all statements (every chunk one statement).

WHAT IS TRUE, PRECISELY.  `Interpreter::eval` stops at the first error of the text it is given, and the
REPL gives it a whole line group.  So "the session continues after a failing statement" holds BETWEEN
SUBMISSIONS: when two statements share a line (more precisely a line group) and the first fails, the
second is NOT evaluated.  Theorem (1) therefore says: the groups cut the statements into consecutive
chunks (`chunks.flatten = sts`, the chunk of a group being the statements whose tokens were typed in it),
and the session is `sessionStmts` of these chunks; when no two statements share a group
(`session_one_statement_per_line`) it is `foldStmts`, the fold of `eval_ast` over ALL statements.

LINES AND NEWLINES.  The theorems hold for every list of `TLine`s; a `TLine` is a line `readline` can return
when its text contains no newline (decidable: `'\n' ∉ L.text`; a token can contain one: `#\` + newline,
`|a` newline `b|`) — not needed as a hypothesis.  Not proved here: the converse of
`typed_text_is_a_program_text`, that every valid layout of `programToks sts` whose tokens contain no newline,
split at its newlines, is `lines.map TLine.str` for some `TypedAs lines sts`.

THE OUTPUT BUFFER.  As in C18 (`FrontSpec.submit`) the model's output buffer `Store.out` is emptied before
each submission, so that the output in it afterwards is that submission's.  `sessionStmts` does the same.

THE QUOTE MARK.  The REPL submits a line as soon as the bracket count is `≤ 0`; a line ending in a lone
`'` is therefore submitted at once, before its datum is typed (`lone_quote_is_submitted_at_once`).  The
decidable side condition is `endsInQuote L = false` for every line.  It is NOT a hypothesis of the
theorems below because it holds for every typing of PRINTED statements: `printStmt` writes `(quote x)` in
full (`Syn.ofDatum`), so no `'` token occurs, and every printed form is a `Tight` token list (depth `> 0`
at every proper cut, `Session.toks_tight`) — which is exactly what fails for `'` followed by a datum
(`quote_abbreviation_is_not_tight`).
-/
import RuschmProofs.SessionLemmas
import RuschmProofs.C17More
import RuschmProofs.C18


namespace Ruschm.C18More
open Ruschm Ruschm.Interp Ruschm.Front Ruschm.FrontSpec Ruschm.Text Ruschm.ProgramText Ruschm.Session

/-! ## sample session, used by the `example`s -/

/-- `(define x 1)  (display x)` -/
private def sampleSts : List Statement :=
  [.definition (.mk "x" (.prim (.int 1) none) none),
   .expr (.call (.sym "display" none) [.sym "x" none] none)]

/-- typed as `(define x` / `` / `  1) (display ;c` / `x)`: the first form spans two lines (with an empty
line between), the second starts on the line on which the first ends -/
private def sampleLines : List TLine :=
  [⟨[.lparen, .ident "define", .ident "x"], [[], [], [' '], []]⟩,
   ⟨[], [[]]⟩,
   ⟨[.prim (.int 1), .rparen, .lparen, .ident "display"], [[' ', ' '], [], [' '], [], " ;c".toList]⟩,
   ⟨[.ident "x", .rparen], [[], [], []]⟩]

/-- typed one statement per line: `(define x 1)` / ` (display x) ; shows 1` -/
private def sampleLines1 : List TLine :=
  [⟨[.lparen, .ident "define", .ident "x", .prim (.int 1), .rparen], [[], [], [' '], [' '], [], []]⟩,
   ⟨[.lparen, .ident "display", .ident "x", .rparen], [[' '], [], [' '], [], " ; shows 1".toList]⟩]

private theorem sample_strs : sampleLines.map TLine.str = ["(define x", "", "  1) (display ;c", "x)"] := by
  decide +kernel

private theorem lines_ok {lines : List TLine}
    (h : (lines.all fun L => decide (ValidLayout L.toks L.lay) && L.toks.all Text.Samples.supTok) = true) :
    ∀ L ∈ lines, L.Valid ∧ L.Supp := by
  intro L hL
  have hL := List.all_eq_true.1 h L hL
  rw [Bool.and_eq_true] at hL
  exact ⟨(of_decide_eq_true hL.1 : ValidLayout L.toks L.lay),
    fun t ht => Text.Samples.supTok_sound t (List.all_eq_true.1 hL.2 t ht)⟩

private theorem oneEach_of : ∀ (lines : List TLine) (sts : List Statement), (∀ L ∈ lines, L.Valid ∧ L.Supp) →
    lines.map TLine.toks = sts.map (fun s => programToks [s]) → OneEach lines sts
  | [], [], _, _ => trivial
  | L :: Ls, s :: ss, hl, ht =>
    have ht := List.cons_eq_cons.1 ht
    have hl := List.forall_mem_cons.1 hl
    ⟨⟨hl.1.1, hl.1.2, ht.1⟩, oneEach_of Ls ss hl.2 ht.2⟩
  | [], _ :: _, _, ht => by cases ht
  | _ :: _, [], _, ht => by cases ht

private theorem sample_typed : TypedAs sampleLines sampleSts := ⟨lines_ok (by decide +kernel), by decide +kernel⟩

private theorem sample_oneEach : OneEach sampleLines1 sampleSts :=
  oneEach_of _ _ (lines_ok (by decide +kernel)) (by decide +kernel)

private theorem sample_ok : ∀ s ∈ sampleSts, okStmt C01More.isStdMacro s :=
  ProgramText.Samples.ok_of_all _ _ (by decide +kernel)

private theorem sample_sup : ∀ s ∈ sampleSts, SupportedD (printStmt s) :=
  Text.Samples.supported_of_all printStmt sampleSts (by decide +kernel)

/-! ## 0. the typed lines are a program text; the REPL's groups are the groups on tokens -/

/-- THE TYPED TEXT IS A PROGRAM TEXT.  The lines joined by newlines are `programText sts layout` for a
valid layout — one of the texts of C17More `program_text_evaluates_as_its_statements` — and the session's
lines are this text cut at the joining newlines (`Session.glue_text`: the text of two pieces is the first,
a newline, the second). -/
theorem typed_text_is_a_program_text (lines : List TLine) (sts : List Statement) (ht : TypedAs lines sts) :
    (joinLines lines).text = programText sts (joinLines lines).lay ∧
    ValidLayout (programToks sts) (joinLines lines).lay := by
  have hv := (joinLines_valid lines ht.1).1
  unfold TLine.Valid at hv
  rw [joinLines_toks, ht.2] at hv
  refine ⟨?_, hv⟩
  rw [programText_eq, ← ht.2, ← joinLines_toks]
  rfl

example : TypedAs sampleLines sampleSts := sample_typed
example : (joinLines sampleLines).str = "(define x\n\n  1) (display ;c\nx)" := by decide +kernel

/-- THE REPL'S LINE GROUPS ARE THE GROUPS ON TOKENS.  For lines that are valid layouts of supported
tokens the REPL — which counts brackets on characters — submits exactly the groups `tgroups lines`: empty
lines are dropped, a group ends with the first line at whose end its TOKENS have depth `≤ 0` (C18
`repl_groups` with C18 `bracket_of_rendered`); every group is again a valid layout of its tokens. -/
theorem typed_groups (lines : List TLine) (hl : ∀ L ∈ lines, L.Valid ∧ L.Supp) :
    groups (lines.map TLine.str) = (tgroups lines).map TLine.str ∧
    unfinished (lines.map TLine.str) = pendStr (gAux none lines).2 ∧
    ∀ G ∈ tgroups lines, G.Valid ∧ G.Supp := by
  obtain ⟨h, hv⟩ := groupsAux_typed lines none hl (fun P h => by cases h)
  exact ⟨congrArg Prod.fst h, congrArg Prod.snd h, hv⟩

example : tgroups sampleLines = [(sampleLines[0].glue sampleLines[2]).glue sampleLines[3]] := by decide +kernel
example : groups (sampleLines.map TLine.str) = ["(define x\n  1) (display ;c\nx)"] := by
  rw [(typed_groups sampleLines sample_typed.1).1]; decide +kernel

/-! ## 1. a session evaluates its statements -/

/-- (1) A SESSION EVALUATES AS ITS STATEMENTS.  Let `sts` be program statements (class `okStmt` for the
macro keywords of the nine bundled derived forms, literals the lexer can spell) and let `lines` be ANY way
of typing their printed text into the REPL (`TypedAs`).  Then there are consecutive chunks of the
statements, `chunks.flatten = sts`, one chunk per line group — the chunk of a group consists of the
statements whose tokens were typed in that group (`(tgroups lines).map toks = chunks.map programToks`); no
statement is ever split between two submissions; a chunk is empty for a line of blanks or comments —
such that:
* the REPL submits exactly these groups and nothing is left pending at the end;
* the submissions print, one by one, exactly what `sessionStmts` prints: for each chunk, evaluated by
  `eval_ast` statement after statement from the state the PREVIOUS SUBMISSION left — whether that one
  failed or not — and stopping at the first error inside the chunk: the output written, then the echo of
  the last statement's value (its `display` form; nothing for a definition, an import, the unspecified
  value, an empty chunk), or, on an error, the output before it and the error message (kind);
  hence the same transcript and the same error messages;
* the interpreter ends in the state `sessionStmts` ends in, up to the source positions recorded in the
  code of closures (the location erasure of C17More).
For every evaluation fuel, the same on both sides. -/
theorem session_evaluates_as_its_statements (fuel : Nat) (sts : List Statement) (lines : List TLine)
    (hok : ∀ s ∈ sts, okStmt C01More.isStdMacro s) (hsup : ∀ s ∈ sts, SupportedD (printStmt s))
    (ht : TypedAs lines sts) :
    ∃ chunks : List (List Statement), chunks.flatten = sts ∧
      (tgroups lines).map TLine.toks = chunks.map programToks ∧
      groups (lines.map TLine.str) = (tgroups lines).map TLine.str ∧
      (replRun fuel (lines.map TLine.str)).1.pending = "" ∧
      (replRun fuel (lines.map TLine.str)).2.filter (·.submitted) =
        (sessionStmts fuel (withStdlib fuel false) chunks).2 ∧
      transcript (replRun fuel (lines.map TLine.str)).2 =
        transcript (sessionStmts fuel (withStdlib fuel false) chunks).2 ∧
      errors (replRun fuel (lines.map TLine.str)).2 =
        errors (sessionStmts fuel (withStdlib fuel false) chunks).2 ∧
      (replRun fuel (lines.map TLine.str)).1.st.unloc =
        (sessionStmts fuel (withStdlib fuel false) chunks).1.unloc := by
  obtain ⟨chunks, c1, c2, c3⟩ := gAux_chunks lines none sts (fun L h => (ht.1 L h).2) (fun P h => by cases h)
    (by simpa [pendToks] using ht.2)
  obtain ⟨hg, hp, a⟩ := replRun_chunks fuel lines chunks ht.1 c2 (c1 ▸ hok) (c1 ▸ hsup)
  exact ⟨chunks, c1, c2, hg, by rw [hp, c3]; rfl, a⟩

example : (∀ s ∈ sampleSts, okStmt C01More.isStdMacro s) ∧ (∀ s ∈ sampleSts, SupportedD (printStmt s)) ∧
    TypedAs sampleLines sampleSts :=
  ⟨sample_ok, sample_sup, sample_typed⟩

/-- (1, one statement per submission) THE SESSION IS THE FOLD OF `eval_ast` OVER ALL STATEMENTS.  When
line `i` holds the printed form of statement `i` alone, under any valid layout (`OneEach`), the REPL submits
every line by itself and the session is `foldStmts`: EVERY statement is evaluated by one `eval_ast`, in
order, from the state the previous statement left — the session CONTINUES AFTER A FAILING STATEMENT, unlike
a program file (C17More `statements_stop_at_first_error`) — and for each statement the REPL prints its
output and then the `display` form of its value (nothing for a definition, an import, the unspecified
value), or its output and the error message.  The final state is that of the fold, up to the source
positions recorded in code. -/
theorem session_one_statement_per_line (fuel : Nat) (sts : List Statement) (lines : List TLine)
    (hok : ∀ s ∈ sts, okStmt C01More.isStdMacro s) (hsup : ∀ s ∈ sts, SupportedD (printStmt s))
    (h1 : OneEach lines sts) :
    groups (lines.map TLine.str) = lines.map TLine.str ∧
    (replRun fuel (lines.map TLine.str)).1.pending = "" ∧
    (replRun fuel (lines.map TLine.str)).2.filter (·.submitted) = (foldStmts fuel (withStdlib fuel false) sts).2 ∧
    transcript (replRun fuel (lines.map TLine.str)).2 = transcript (foldStmts fuel (withStdlib fuel false) sts).2 ∧
    errors (replRun fuel (lines.map TLine.str)).2 = errors (foldStmts fuel (withStdlib fuel false) sts).2 ∧
    (replRun fuel (lines.map TLine.str)).1.st.unloc = (foldStmts fuel (withStdlib fuel false) sts).1.unloc := by
  obtain ⟨hl, htoks⟩ := oneEach_valid lines sts h1
  have hgA := oneEach_groups lines sts h1
  have hgr : tgroups lines = lines := congrArg Prod.fst hgA
  have hfl : (sts.map (fun s => [s])).flatten = sts := by rw [← List.flatMap_def, List.flatMap_singleton']
  obtain ⟨hg, hp, a⟩ := replRun_chunks fuel lines (sts.map (fun s => [s])) hl (hgr.symm ▸ htoks)
    (hfl.symm ▸ hok) (hfl.symm ▸ hsup)
  rw [sessionStmts_singletons] at a
  rw [hgr] at hg
  exact ⟨hg, by rw [hp, hgA]; rfl, a⟩

example : (∀ s ∈ sampleSts, okStmt C01More.isStdMacro s) ∧ (∀ s ∈ sampleSts, SupportedD (printStmt s)) ∧
    OneEach sampleLines1 sampleSts :=
  ⟨sample_ok, sample_sup, sample_oneEach⟩

/-- WHY CHUNKS: statements sharing a line are ONE submission.  `1 2` on one line is one group, `1` and `2`
on two lines are two: the first session echoes once (the value of the last form), the second twice; and
were the first form of `1 2` to fail, `Interpreter::eval` would stop there and the second form would not be
evaluated (C17More `program_text_stops_at_first_failure` applied to the group). -/
theorem forms_sharing_a_line_are_one_submission (fuel : Nat) :
    ((replRun fuel ["1 2"]).2.filter (·.submitted)).length = 1 ∧
    ((replRun fuel ["1", "2"]).2.filter (·.submitted)).length = 2 := by
  have g1 : groups ["1 2"] = ["1 2"] := by decide +kernel
  have g2 : groups ["1", "2"] = ["1", "2"] := by decide +kernel
  rw [(C18.repl_groups fuel ["1 2"]).2.1, (C18.repl_groups fuel ["1", "2"]).2.1, g1, g2]
  exact ⟨rfl, rfl⟩

/-! ## 2. a session without errors and the same text as a program -/

/-- (2), FULL STATEMENT (proved in `C18Full.lean`, `session_equals_program_when_no_error`): as
`session_equals_program_when_no_error_partial` below without the hypothesis `OutBlind fuel sts`.  What it
takes is that the model's evaluator never READS the output buffer (`∀ fuel sts, OutBlind fuel sts`):
`Store.out` is only pushed to, by `newline` and `display` (`RuschmModel/Prim.lean`). -/
def session_equals_program_when_no_error_full : Prop :=
  ∀ (fuel : Nat) (sts : List Statement) (lines : List TLine),
    (∀ s ∈ sts, okStmt C01More.isStdMacro s) → (∀ s ∈ sts, SupportedD (printStmt s)) → TypedAs lines sts →
    AllOk fuel (withStdlib fuel false) sts →
    (setOut (runStmts fuel (withStdlib fuel false) sts none).2.store.out
        (replRun fuel (lines.map TLine.str)).1.st).unloc =
      (runStmts fuel (withStdlib fuel false) sts none).2.unloc ∧
    errors (replRun fuel (lines.map TLine.str)).2 = []

/-- (2) A SESSION WITHOUT ERRORS IS THE PROGRAM RUN.  Let the statements `sts` be typed into the REPL in
any way (`TypedAs`), let EVERY statement succeed when they are run one after another as a program from the
REPL's initial interpreter (`AllOk`, i.e. `runStmts` ends in a value), and let the evaluator not read the
output buffer for these statements (`OutBlind` — the part that is assumed, see
`session_equals_program_when_no_error_full`).  Then, with `chunks` the portions in which the session
submits the statements:
* no submission prints an error message;
* the session's final interpreter state is the final state of the program run `runStmts` (C17More) but for
  the output buffer — which the session empties before each submission — up to recorded source positions;
* the program's output buffer is what the submissions wrote, accumulated (`sessionOut`: the buffers the
  submissions left, one on top of the other, on top of what the initial state held); the REPL prints each
  of these pieces followed by the echo of the submission's value (`Session.replOutcome`): the echoes are
  extra;
* and the program run is also `Interpreter::eval` on the session's whole text, the lines joined by
  newlines (C17More `program_text_evaluates_as_its_statements`): same state up to locations, same output. -/
theorem session_equals_program_when_no_error_partial (fuel : Nat) (sts : List Statement) (lines : List TLine)
    (hok : ∀ s ∈ sts, okStmt C01More.isStdMacro s) (hsup : ∀ s ∈ sts, SupportedD (printStmt s))
    (ht : TypedAs lines sts) (hblind : OutBlind fuel sts) (hall : AllOk fuel (withStdlib fuel false) sts) :
    ∃ chunks : List (List Statement), chunks.flatten = sts ∧
      (tgroups lines).map TLine.toks = chunks.map programToks ∧
      errors (replRun fuel (lines.map TLine.str)).2 = [] ∧
      (setOut (runStmts fuel (withStdlib fuel false) sts none).2.store.out
          (replRun fuel (lines.map TLine.str)).1.st).unloc =
        (runStmts fuel (withStdlib fuel false) sts none).2.unloc ∧
      (runStmts fuel (withStdlib fuel false) sts none).2.store.out =
        sessionOut fuel (withStdlib fuel false) chunks ++ (withStdlib fuel false).store.out ∧
      (evalText fuel (withStdlib fuel false) (joinLines lines).text).2.unloc =
        (runStmts fuel (withStdlib fuel false) sts none).2.unloc ∧
      (evalText fuel (withStdlib fuel false) (joinLines lines).text).2.store.out =
        (runStmts fuel (withStdlib fuel false) sts none).2.store.out := by
  obtain ⟨chunks, c1, c2, _, _, _, _, a3, a4⟩ := session_evaluates_as_its_statements fuel sts lines hok hsup ht
  have hrun : ∃ v, (runStmts fuel (pushOut [] (withStdlib fuel false)) chunks.flatten none).1 = .ok v := by
    rw [pushOut_nil, c1]
    exact (runStmts_ok_iff_allOk fuel sts _ none).2 hall
  obtain ⟨p1, p2⟩ := sessionStmts_program fuel chunks (withStdlib fuel false) [] none (by rw [c1]; exact hblind) hrun
  rw [pushOut_nil, c1, List.append_nil] at p1
  obtain ⟨t1, t2⟩ := typed_text_is_a_program_text lines sts ht
  obtain ⟨_, e2, e3⟩ := C17More.program_text_evaluates_as_its_statements fuel (withStdlib fuel false) sts
    (joinLines lines).lay (by rw [stdlib_macros]; exact hok) hsup t2
  refine ⟨chunks, c1, c2, ?_, ?_, ?_, ?_, ?_⟩
  · rw [a3]; exact List.filterMap_eq_nil_iff.2 p2
  · rw [setOut_unloc, a4, ← setOut_unloc, p1]
    rfl
  · rw [p1]; rfl
  · rw [t1]; exact e2
  · rw [t1]; exact e3

/-- the statement `1`, typed on a line of its own: it succeeds from every state, and `eval_ast` on it does
not read the output buffer -/
private def one : Statement := .expr (.prim (.int 1) none)

private theorem one_eval (st : State) :
    evalAst 1 st one = (.ok (some (.num (.int 1))), { st with importEnd := true }) :=
  lit_one_evals st

example : (∀ s ∈ [one], okStmt C01More.isStdMacro s) ∧ (∀ s ∈ [one], SupportedD (printStmt s)) ∧
    TypedAs [⟨[.prim (.int 1)], [[], " ; one".toList]⟩] [one] ∧ OutBlind 1 [one] ∧
    AllOk 1 (withStdlib 1 false) [one] :=
  ⟨ProgramText.Samples.ok_of_all _ _ (by decide +kernel),
    Text.Samples.supported_of_all printStmt _ (by decide +kernel),
    ⟨lines_ok (by decide +kernel), by decide +kernel⟩,
    List.forall_mem_singleton.2 fun st o => by rw [one_eval, one_eval]; rfl, ⟨_, _, one_eval _, trivial⟩⟩

/-! ## 3. the way the statements are spread over lines does not matter -/

/-- (3) LINE SPLITTING AND LAYOUT ARE IRRELEVANT.  Two ways of typing the SAME STATEMENTS — different line
breaks inside the forms, different indentation, comments, empty lines — that send the statements to the
interpreter in the same portions (the token lists of their groups agree, `tgroups`) print the same thing
submission by submission (output, echo, error message), hence have the same transcript and error messages,
and end in the same interpreter state up to recorded source positions.  What is new w.r.t. C18
`repl_split_invariance` (same TOKENS in each group ⇒ same session): both sessions are moreover THE session
of the statement chunks (`session_evaluates_as_its_statements`), so the common transcript is determined by
the statements.  The side condition on the portions is needed: `forms_sharing_a_line_are_one_submission`. -/
theorem session_line_split_irrelevant (fuel : Nat) (sts : List Statement) (lines₁ lines₂ : List TLine)
    (hok : ∀ s ∈ sts, okStmt C01More.isStdMacro s) (hsup : ∀ s ∈ sts, SupportedD (printStmt s))
    (h₁ : TypedAs lines₁ sts) (h₂ : TypedAs lines₂ sts)
    (hsame : (tgroups lines₁).map TLine.toks = (tgroups lines₂).map TLine.toks) :
    (replRun fuel (lines₁.map TLine.str)).2.filter (·.submitted) =
      (replRun fuel (lines₂.map TLine.str)).2.filter (·.submitted) ∧
    transcript (replRun fuel (lines₁.map TLine.str)).2 = transcript (replRun fuel (lines₂.map TLine.str)).2 ∧
    errors (replRun fuel (lines₁.map TLine.str)).2 = errors (replRun fuel (lines₂.map TLine.str)).2 ∧
    (replRun fuel (lines₁.map TLine.str)).1.st.unloc = (replRun fuel (lines₂.map TLine.str)).1.st.unloc := by
  obtain ⟨chunks, c1, c2, _, _, a1, a2, a3, a4⟩ := session_evaluates_as_its_statements fuel sts lines₁ hok hsup h₁
  obtain ⟨_, _, b1, b2, b3, b4⟩ := replRun_chunks fuel lines₂ chunks h₂.1 (hsame ▸ c2) (c1 ▸ hok) (c1 ▸ hsup)
  exact ⟨a1.trans b1.symm, a2.trans b2.symm, a3.trans b3.symm, a4.trans b4.symm⟩

/-- the same statements typed with another layout inside the group: `(define x 1) (display` / `x)` -/
private def sampleLines2 : List TLine :=
  [⟨[.lparen, .ident "define", .ident "x", .prim (.int 1), .rparen, .lparen, .ident "display"],
      [[], [], [' '], [' '], [], [' '], [], []]⟩,
   ⟨[.ident "x", .rparen], [['\t'], [], []]⟩]

example : TypedAs sampleLines sampleSts ∧ TypedAs sampleLines2 sampleSts ∧
    (tgroups sampleLines).map TLine.toks = (tgroups sampleLines2).map TLine.toks := by
  exact ⟨sample_typed, ⟨lines_ok (by decide +kernel), by decide +kernel⟩, by decide +kernel⟩

/-- … in particular, with one statement per line, ANY two layouts of the lines. -/
theorem session_layout_irrelevant_one_per_line (fuel : Nat) (sts : List Statement) (lines₁ lines₂ : List TLine)
    (hok : ∀ s ∈ sts, okStmt C01More.isStdMacro s) (hsup : ∀ s ∈ sts, SupportedD (printStmt s))
    (h₁ : OneEach lines₁ sts) (h₂ : OneEach lines₂ sts) :
    (replRun fuel (lines₁.map TLine.str)).2.filter (·.submitted) =
      (replRun fuel (lines₂.map TLine.str)).2.filter (·.submitted) ∧
    transcript (replRun fuel (lines₁.map TLine.str)).2 = transcript (replRun fuel (lines₂.map TLine.str)).2 ∧
    errors (replRun fuel (lines₁.map TLine.str)).2 = errors (replRun fuel (lines₂.map TLine.str)).2 ∧
    (replRun fuel (lines₁.map TLine.str)).1.st.unloc = (replRun fuel (lines₂.map TLine.str)).1.st.unloc := by
  obtain ⟨_, _, a1, a2, a3, a4⟩ := session_one_statement_per_line fuel sts lines₁ hok hsup h₁
  obtain ⟨_, _, b1, b2, b3, b4⟩ := session_one_statement_per_line fuel sts lines₂ hok hsup h₂
  exact ⟨a1.trans b1.symm, a2.trans b2.symm, a3.trans b3.symm, a4.trans b4.symm⟩

example : OneEach sampleLines1 sampleSts := sample_oneEach

/-! ## the quote mark -/

/-- the decidable side condition of the REPL's documented limit: the line's last token is a bare `'` -/
def endsInQuote (L : TLine) : Bool := L.toks.getLast? == some .quote

/-- A LINE ENDING IN A LONE QUOTE MARK IS SUBMITTED AT ONCE: `'` / `a` are two submissions (the first one
a reader error), `'a` is one. -/
theorem lone_quote_is_submitted_at_once :
    groups ["'", "a"] = ["'", "a"] ∧ groups ["'a"] = ["'a"] ∧ groups ["(quote", "a)"] = ["(quote\na)"] := by
  decide +kernel

/-- … because `'` followed by a datum is not `Tight`: after the quote mark the depth is 0.  Printed
statements never contain the abbreviation (`Syn.ofDatum` writes `(quote x)`), and `Session.toks_tight`
proves every printed form tight; this is why `endsInQuote L = false` is not a hypothesis above. -/
theorem quote_abbreviation_is_not_tight : ¬ Tight [.quote, .ident "a"] := by
  intro h
  have := h.2.2 [.quote] [.ident "a"] rfl (by simp) (by simp)
  simp [weight] at this

example : endsInQuote ⟨[.quote], [[], []]⟩ = true ∧ ∀ L ∈ sampleLines, endsInQuote L = false := by decide +kernel

end Ruschm.C18More
