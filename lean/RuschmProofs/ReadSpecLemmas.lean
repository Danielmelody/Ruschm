/-
The model reader (`RuschmModel/Read.lean`) and the token grammar `ReadSpec.Parses`
(`RuschmSpec/ReadSpec.lean`) define the same relation. Completeness is one rule per production, with the
fuel a parameter. Soundness is one induction (`snd_all`) that also records which tokens a run consumed and
that the datum is built from them, so whatever the reader's constructions keep (`Read.Closed`) holds of the
datum: a new invariant of the reader is an instance (`inv_nextDatum`, `allAux_inv`). The error
side (`errAt`) says where an error sits and that with the model's fuel it is a syntax error.
-/
import RuschmSpec.ReadSpec
import RuschmProofs.ReadBasic
namespace Ruschm.ReadSpec
open Ruschm Ruschm.Read Ruschm.Text

/-! ## single steps of the two loops on a known next token -/

theorem loop_close_step {f : Nat} {s : PState} {lrp : LToken} {rest0 : List LToken} (loc : Loc)
    (acc : Datum) (dot : Bool) (hs : s.toks = lrp :: rest0) (hrp : lrp.tok = .rparen) :
    listLoop (f + 1) s loc acc dot
      = .ok (acc.withLoc loc, { s with toks := rest0, cur := some lrp, loc := lrp.loc }) := by
  rw [listLoop_succ, advanceUnwrap_cons hs, ok_bind]
  simp only [hrp, reduceCtorEq, if_false, if_true]; rfl

theorem loop_period_step {f : Nat} {s : PState} {lp : LToken} {rest0 : List LToken} (loc : Loc)
    (acc : Datum) (hs : s.toks = lp :: rest0) (hp : lp.tok = .period) :
    listLoop (f + 1) s loc acc false
      = listLoop f { s with toks := rest0, cur := some lp, loc := lp.loc } loc acc true := by
  rw [listLoop_succ, advanceUnwrap_cons hs, ok_bind]
  simp only [hp, if_true, Bool.false_eq_true, if_false]

theorem loop_elem_step {f : Nat} {s s2 : PState} {lt0 : LToken} {rest0 : List LToken} (loc : Loc)
    (acc : Datum) (dot : Bool) {e : Datum} (hs : s.toks = lt0 :: rest0)
    (hst : Syn.isStartTok lt0.tok = true)
    (hc : currentDatum f { s with toks := rest0, cur := some lt0, loc := lt0.loc }
      = .ok (some e, s2)) :
    listLoop (f + 1) s loc acc dot =
      if isPair acc && dot then do
        let (t2, s3) ← advanceUnwrap s2
        if t2.tok = .rparen then pure ((setTail acc e).withLoc loc, s3)
        else .error (.syntax, s3.loc)
      else listLoop f s2 loc (snoc acc e) dot := by
  rw [listLoop_succ, advanceUnwrap_cons hs, ok_bind]
  simp only [(start_ne hst).1, (start_ne hst).2, if_false, hc, ok_bind]

theorem rep_close_step {f : Nat} {s : PState} {lrp : LToken} {rest0 : List LToken} (acc : List Datum)
    (hs : s.toks = lrp :: rest0) (hrp : lrp.tok = .rparen) :
    repeatDatum (f + 1) s acc
      = .ok (acc.reverse, { s with toks := rest0, cur := some lrp, loc := lrp.loc }) := by
  rw [repeatDatum_succ, peek_cons hs, advance_cons hs]
  simp only [ok_bind, hrp, if_true]; rfl

theorem rep_elem_step {f : Nat} {s s2 : PState} {lt0 : LToken} {rest0 : List LToken} (acc : List Datum)
    {e : Datum} (hs : s.toks = lt0 :: rest0) (hst : Syn.isStartTok lt0.tok = true)
    (hc : datum f { s with toks := rest0, cur := some lt0, loc := lt0.loc } = .ok (e, s2)) :
    repeatDatum (f + 1) s acc = repeatDatum f s2 (e :: acc) := by
  rw [repeatDatum_succ, peek_cons hs, advance_cons hs]
  simp only [ok_bind, (start_ne hst).2, if_false, hc]

/-! ## lists as data -/

theorem improper_proper (ds es : List Datum) : improper ds (proper es) = proper (ds ++ es) := by
  induction ds with
  | nil => rfl
  | cons x ds ih => simp only [improper, proper, List.cons_append] at ih ⊢; rw [ih]

theorem setTail_proper (es : List Datum) (d : Datum) : setTail (proper es) d = improper es d := by
  induction es with
  | nil => rfl
  | cons x es ih => simp only [proper, improper, setTail] at ih ⊢; rw [ih]

theorem snoc_proper (es : List Datum) (d : Datum) : snoc (proper es) d = proper (es ++ [d]) := by
  rw [snoc_eq_setTail, setTail_proper]; exact improper_proper es [d]

theorem isPair_of_strip {acc : Datum} {es : List Datum} (h : acc.strip = proper es) :
    isPair acc = true ↔ es ≠ [] := by
  cases es <;> cases acc <;> simp_all [proper, improper, Datum.strip, isPair]

theorem strip_snoc_proper {acc e : Datum} {es : List Datum} (h : acc.strip = proper es) :
    (snoc acc e).strip = proper (es ++ [e.strip]) := by
  rw [strip_snoc, h, snoc_proper]

/-! ## completeness: every derivation is read

The fuel that suffices is a parameter of the rules; `curOK_of_parses` puts `2 * ts.length` for it. -/

/-- the first token is delivered, with the fact that it can start a datum: a caller need not know how
`ts` begins -/
def CurOK (n : Nat) (ts : List Token) (d : Datum) : Prop :=
  ∀ (fuel : Nat) (lts lrest : List LToken), n ≤ fuel → lts.map (·.tok) = ts →
    ∃ lt0 lmore, lts = lt0 :: lmore ∧ Syn.isStartTok lt0.tok = true ∧
      ∀ s : PState, s.cur = some lt0 → s.toks = lmore ++ lrest →
        ∃ d' s', currentDatum fuel s = .ok (some d', s') ∧ d'.strip = d ∧ Leaves s s' lrest

theorem CurOK.intro {n : Nat} {t : Token} {ts : List Token} {d : Datum} (hst : Syn.isStartTok t = true)
    (h : ∀ (fuel : Nat) (s : PState) (lt0 : LToken) (lmore lrest : List LToken), n ≤ fuel →
      lt0.tok = t → lmore.map (·.tok) = ts → s.cur = some lt0 → s.toks = lmore ++ lrest →
      ∃ d' s', currentDatum fuel s = .ok (some d', s') ∧ d'.strip = d ∧ Leaves s s' lrest) :
    CurOK n (t :: ts) d := by
  intro fuel lts lrest hf hm
  obtain ⟨lt0, lmore, rfl, h0, hm⟩ := map_tok_cons hm
  exact ⟨lt0, lmore, rfl, h0 ▸ hst, fun s => h fuel s lt0 lmore lrest hf h0 hm⟩

theorem CurOK.at {n : Nat} {ts : List Token} {d : Datum} (h : CurOK n ts d)
    (fuel : Nat) (s : PState) (lt0 : LToken) (lmore lrest : List LToken) (hf : n ≤ fuel)
    (hm : (lt0 :: lmore).map (·.tok) = ts) (hc : s.cur = some lt0) (hs : s.toks = lmore ++ lrest) :
    ∃ d' s', currentDatum fuel s = .ok (some d', s') ∧ d'.strip = d ∧ Leaves s s' lrest := by
  obtain ⟨_, _, e, -, h'⟩ := h fuel _ lrest hf hm
  cases e
  exact h' s hc hs

theorem CurOK.mono {n m : Nat} {ts : List Token} {d : Datum} (h : CurOK n ts d) (hnm : n ≤ m) :
    CurOK m ts d :=
  fun fuel lts lrest hf => h fuel lts lrest (Nat.le_trans hnm hf)

theorem CurOK.datum {n : Nat} {ts : List Token} {d : Datum} (h : CurOK n ts d)
    (fuel : Nat) (s : PState) (lt0 : LToken) (lmore lrest : List LToken) (hf : n ≤ fuel)
    (hm : (lt0 :: lmore).map (·.tok) = ts) (hc : s.cur = some lt0) (hs : s.toks = lmore ++ lrest) :
    ∃ d' s', datum fuel s = .ok (d', s') ∧ d'.strip = d ∧ Leaves s s' lrest := by
  obtain ⟨d', s', h1, h2, h3⟩ := h.at fuel s lt0 lmore lrest hf hm hc hs
  have := datum_current fuel s lt0 hc
  rw [h1] at this
  obtain ⟨d2, c, g1, rfl | rfl, -⟩ := this
  · exact ⟨_, _, g1, h2, h3⟩
  · exact ⟨_, _, g1, by rw [strip_withLoc]; exact h2, h3⟩

/-- the loop reads `ds` and goes on behind them with at least `G` fuel; a caller puts for `G` the turns
still to come: 1 for `)`, 2 for `. )`, `m + 2` before a dotted tail that needs `m` -/
def LoopOK (n : Nat) (ts : List Token) (ds : List Datum) : Prop :=
  ∀ (G fuel : Nat) (s : PState) (lts lrest : List LToken) (loc : Loc) (acc : Datum)
    (es : List Datum),
    1 ≤ G → n + G ≤ fuel → lts.map (·.tok) = ts → s.toks = lts ++ lrest →
    acc.strip = proper es →
    ∃ fuel' acc' s2, G ≤ fuel' ∧
      listLoop fuel s loc acc false = listLoop fuel' s2 loc acc' false ∧
      acc'.strip = proper (es ++ ds) ∧ Leaves s s2 lrest

def RepOK (n : Nat) (ts : List Token) (ds : List Datum) : Prop :=
  ∀ (G fuel : Nat) (s : PState) (lts lrest : List LToken) (acc : List Datum),
    1 ≤ G → n + G ≤ fuel → lts.map (·.tok) = ts → s.toks = lts ++ lrest →
    ∃ (fuel' : Nat) (ds' : List Datum) (s2 : PState), G ≤ fuel' ∧
      repeatDatum fuel s acc = repeatDatum fuel' s2 (ds'.reverse ++ acc) ∧
      ds'.map Datum.strip = ds ∧ Leaves s s2 lrest

theorem loopOK_nil : LoopOK 0 [] [] := by
  intro G fuel s lts lrest loc acc es hG hf hl hs hacc
  cases List.map_eq_nil_iff.1 hl
  exact ⟨fuel, acc, s, by omega, rfl, by rw [List.append_nil]; exact hacc, hs, rfl⟩

theorem repOK_nil : RepOK 0 [] [] := by
  intro G fuel s lts lrest acc hG hf hl hs
  cases List.map_eq_nil_iff.1 hl
  exact ⟨fuel, [], s, by omega, rfl, rfl, hs, rfl⟩

/-- the fuel of the two parts is not added up: `k` bounds both, and `1 + m + n` is a possible `k` -/
theorem loopOK_cons {m n k : Nat} {t ts : List Token} {d : Datum} {ds : List Datum}
    (h1 : CurOK m t d) (h2 : LoopOK n ts ds) (hm : m ≤ k) (hn : n + 1 ≤ k) :
    LoopOK k (t ++ ts) (d :: ds) := by
  intro G fuel s lts lrest loc acc es hG hf hl hs hacc
  obtain ⟨lx, lr, rfl, hlx, hlr⟩ := map_tok_append hl
  obtain ⟨f, rfl⟩ := Nat.exists_eq_add_of_le' (Nat.le_trans hG (Nat.le_trans (Nat.le_add_left ..) hf))
  obtain ⟨lt0, lmore, rfl, hst, h1⟩ := h1 f lx (lr ++ lrest) (by omega) hlx
  obtain ⟨e, s2, hc, he, hl2, hl2'⟩ :=
    h1 { s with toks := lmore ++ (lr ++ lrest), cur := some lt0, loc := lt0.loc } rfl rfl
  have step := loop_elem_step loc acc false (by rw [hs]; simp) hst hc
  simp only [Bool.and_false, Bool.false_eq_true, if_false] at step
  obtain ⟨fuel', acc', s3, g1, g2, g3, g4, g5⟩ := h2 G f s2 lr lrest loc (snoc acc e) (es ++ [d])
    hG (by omega) hlr hl2 (by rw [strip_snoc_proper hacc, he])
  exact ⟨fuel', acc', s3, g1, step.trans g2, by simpa using g3, g4, g5.trans hl2'⟩

theorem repOK_cons {m n k : Nat} {t ts : List Token} {d : Datum} {ds : List Datum}
    (h1 : CurOK m t d) (h2 : RepOK n ts ds) (hm : m ≤ k) (hn : n + 1 ≤ k) :
    RepOK k (t ++ ts) (d :: ds) := by
  intro G fuel s lts lrest acc hG hf hl hs
  obtain ⟨lx, lr, rfl, hlx, hlr⟩ := map_tok_append hl
  obtain ⟨f, rfl⟩ := Nat.exists_eq_add_of_le' (Nat.le_trans hG (Nat.le_trans (Nat.le_add_left ..) hf))
  obtain ⟨lt0, lmore, rfl, hst, -⟩ := h1 f lx (lr ++ lrest) (by omega) hlx
  obtain ⟨e, s2, hc, he, hl2, hl2'⟩ := h1.datum f
    { s with toks := lmore ++ (lr ++ lrest), cur := some lt0, loc := lt0.loc } lt0 lmore _ (by omega) hlx rfl rfl
  have step := rep_elem_step acc (by rw [hs]; simp) hst hc
  obtain ⟨fuel', ds', s3, g1, g2, g3, g4, g5⟩ := h2 G f s2 lr lrest (e :: acc) hG (by omega) hlr hl2
  exact ⟨fuel', e :: ds', s3, g1, by rw [step, g2]; simp, by simp [he, g3], g4, g5.trans hl2'⟩

theorem parses_head {ts : List Token} {d : Datum} {rest : List Token} (h : Parses ts d rest) :
    ∃ t0 more, ts = t0 :: more ∧ Syn.isStartTok t0 = true := by
  cases h <;> exact ⟨_, _, rfl, rfl⟩

theorem curOK_atom (t : Token) (h : Syn.isAtomTok t = true) :
    CurOK 1 [t] (Syn.denote (.atom t)) := by
  refine .intro (by cases t <;> first | rfl | cases h) fun fuel s lt0 lmore lrest hf h0 hm hc hs => ?_
  cases List.map_eq_nil_iff.1 hm
  obtain ⟨f, rfl⟩ := Nat.exists_eq_add_of_le' hf
  rw [cur_succ f s lt0 hc, h0]
  cases t <;> first | exact ⟨_, _, rfl, rfl, hs, rfl⟩ | cases h

/-- behind `(` the loop reads `ts` and is then in the state `dot` with the elements `ds`; with a dot,
that is the last of `ts` or the first, as in `St` -/
def OpenOK (n : Nat) (ts : List Token) (ds : List Datum) (dot : Bool) : Prop :=
  ∀ (G fuel : Nat) (s : PState) (lts lrest : List LToken) (loc : Loc),
    1 ≤ G → n + G ≤ fuel → lts.map (·.tok) = ts → s.toks = lts ++ lrest →
    ∃ fuel' acc' s2, G ≤ fuel' ∧
      listLoop fuel s loc (.nil none) false = listLoop fuel' s2 loc acc' dot ∧
      acc'.strip = proper ds ∧ Leaves s s2 lrest

theorem LoopOK.opened {n : Nat} {ts : List Token} {ds : List Datum} (h : LoopOK n ts ds) :
    OpenOK n ts ds false :=
  fun G fuel s lts lrest loc hG hf hl hs => h G fuel s lts lrest loc (.nil none) [] hG hf hl hs rfl

theorem openOK_dot {n : Nat} {ts : List Token} {ds : List Datum} (h : LoopOK n ts ds) :
    OpenOK (n + 1) (ts ++ [.period]) ds true := by
  intro G fuel s lts lrest loc hG hf hl hs
  obtain ⟨lts, lb, rfl, hlts, hlb⟩ := map_tok_append hl
  obtain ⟨lp, lb', rfl, hp, hnil⟩ := map_tok_cons hlb
  cases List.map_eq_nil_iff.1 hnil
  obtain ⟨fuel', acc', s2, g1, g2, g3, g4, g5⟩ := h (G + 1) fuel s lts (lp :: lrest) loc (.nil none) []
    (by omega) (by omega) hlts (by rw [hs, List.append_assoc]; rfl) rfl
  obtain ⟨f', rfl⟩ := Nat.exists_eq_add_of_le' (Nat.le_trans (Nat.le_add_left ..) g1)
  exact ⟨f', acc', _, by omega, g2.trans (loop_period_step loc acc' g4 hp), g3, rfl, g5⟩

theorem openOK_leadingDot {m : Nat} {t1 : List Token} {d1 : Datum} (h1 : CurOK m t1 d1) :
    OpenOK (m + 2) (.period :: t1) [d1] true := by
  intro G fuel s lts lrest loc hG hf hl hs
  obtain ⟨lp, ltt, rfl, hp, hltt⟩ := map_tok_cons hl
  obtain ⟨f, rfl⟩ := Nat.exists_eq_add_of_le' (Nat.le_trans (Nat.le_add_left 2 m) (Nat.le_trans (Nat.le_add_right ..) hf))
  obtain ⟨lt1, lmore1, rfl, hst, h1⟩ := h1 f ltt lrest (by omega) hltt
  obtain ⟨e, s3, k1, k2, k3, k4⟩ :=
    h1 { s with toks := lmore1 ++ lrest, cur := some lt1, loc := lt1.loc } rfl rfl
  refine ⟨f, snoc (.nil none) e, s3, by omega, ?_,
    by simp only [snoc, Datum.strip, k2, proper, improper], k3, k4⟩
  rw [loop_period_step loc (.nil none) (show s.toks = lp :: (lt1 :: (lmore1 ++ lrest)) from hs) hp,
    loop_elem_step (s := { s with toks := lt1 :: (lmore1 ++ lrest), cur := some lp, loc := lp.loc })
      loc (.nil none) true rfl hst k1]
  rfl

theorem curOK_close {n : Nat} {ts : List Token} {ds : List Datum} {dot : Bool}
    (h : OpenOK n ts ds dot) : CurOK (n + 2) (.lparen :: (ts ++ [.rparen])) (proper ds) := by
  refine .intro rfl fun fuel s lt0 lmore lrest hf h0 hm hc hs => ?_
  obtain ⟨lts, lb, rfl, hlts, hlb⟩ := map_tok_append hm
  obtain ⟨lrp, lb', rfl, hrp, hnil⟩ := map_tok_cons hlb
  cases List.map_eq_nil_iff.1 hnil
  obtain ⟨f, rfl⟩ := Nat.exists_eq_add_of_le' (Nat.le_trans (Nat.le_add_left 1 (n + 1)) hf)
  rw [cur_succ f s lt0 hc]
  simp only [h0]
  obtain ⟨fuel', acc', s2, g1, g2, g3, g4, g5⟩ := h 1 f s lts (lrp :: lrest) s.loc
    (by omega) (by omega) hlts (by rw [hs, List.append_assoc]; rfl)
  obtain ⟨f', rfl⟩ := Nat.exists_eq_add_of_le' g1
  rw [g2, loop_close_step s.loc acc' dot g4 hrp]
  exact ⟨_, _, rfl, by rw [strip_withLoc, g3], rfl, g5⟩

theorem curOK_tail {n m : Nat} {ts tt : List Token} {ds : List Datum} {tl : Datum}
    (h : OpenOK n ts ds true) (hne : ds ≠ []) (htl : CurOK m tt tl) :
    CurOK (n + m + 2) (.lparen :: (ts ++ (tt ++ [.rparen]))) (improper ds tl) := by
  refine .intro rfl fun fuel s lt0 lmore lrest hf h0 hm hc hs => ?_
  obtain ⟨lts, lb, rfl, hlts, hlb⟩ := map_tok_append hm
  obtain ⟨ltt, lb', rfl, hltt, hlb'⟩ := map_tok_append hlb
  obtain ⟨lrp, lb'', rfl, hrp, hnil⟩ := map_tok_cons hlb'
  cases List.map_eq_nil_iff.1 hnil
  obtain ⟨f, rfl⟩ := Nat.exists_eq_add_of_le' (Nat.le_trans (Nat.le_add_left 1 (n + m + 1)) hf)
  rw [cur_succ f s lt0 hc]
  simp only [h0]
  obtain ⟨fuel', acc', s2, g1, g2, g3, g4, g5⟩ := h (m + 1) f s lts (ltt ++ lrp :: lrest) s.loc
    (by omega) (by omega) hlts (by rw [hs]; simp)
  obtain ⟨f', rfl⟩ := Nat.exists_eq_add_of_le' (Nat.le_trans (Nat.le_add_left ..) g1)
  obtain ⟨lt1, lmore1, rfl, hst, htl⟩ := htl f' ltt (lrp :: lrest) (by omega) hltt
  obtain ⟨e, s3, k1, k2, k3, k4⟩ :=
    htl { s2 with toks := lmore1 ++ lrp :: lrest, cur := some lt1, loc := lt1.loc } rfl rfl
  rw [g2, loop_elem_step s.loc acc' true g4 hst k1]
  simp only [(isPair_of_strip g3).2 hne, Bool.and_true, if_true, advanceUnwrap_cons k3, ok_bind, hrp]
  refine ⟨_, _, rfl, ?_, rfl, k4.trans g5⟩
  rw [strip_withLoc, strip_setTail, g3, k2]
  exact setTail_proper ds tl

theorem curOK_list {n : Nat} {ts : List Token} {ds : List Datum} (h : LoopOK n ts ds) :
    CurOK (n + 2) (.lparen :: (ts ++ [.rparen])) (proper ds) :=
  curOK_close h.opened

theorem curOK_dotted {n m : Nat} {ts tt : List Token} {ds : List Datum} {tl : Datum}
    (h : LoopOK n ts ds) (hne : ds ≠ []) (htl : CurOK m tt tl) :
    CurOK (n + m + 3) (.lparen :: (ts ++ .period :: (tt ++ [.rparen]))) (improper ds tl) :=
  (List.append_assoc ts [Token.period] _ ▸ curOK_tail (openOK_dot h) hne htl).mono (by omega)

theorem curOK_vec {n : Nat} {ts : List Token} {ds : List Datum} (h : RepOK n ts ds) :
    CurOK (n + 2) (.vecIntro :: (ts ++ [.rparen])) (.vec ds none) := by
  refine .intro rfl fun fuel s lt0 lmore lrest hf h0 hm hc hs => ?_
  obtain ⟨lts, lb, rfl, hlts, hlb⟩ := map_tok_append hm
  obtain ⟨lrp, lb', rfl, hrp, hnil⟩ := map_tok_cons hlb
  cases List.map_eq_nil_iff.1 hnil
  obtain ⟨f, rfl⟩ := Nat.exists_eq_add_of_le' (Nat.le_trans (Nat.le_add_left 1 (n + 1)) hf)
  rw [cur_succ f s lt0 hc]
  simp only [h0]
  obtain ⟨fuel', ds', s2, g1, g2, g3, g4, g5⟩ := h 1 f s lts (lrp :: lrest) []
    (by omega) (by omega) hlts (by rw [hs, List.append_assoc]; rfl)
  obtain ⟨f', rfl⟩ := Nat.exists_eq_add_of_le' g1
  rw [g2, rep_close_step _ g4 hrp]
  refine ⟨_, _, rfl, ?_, rfl, g5⟩
  simp [Datum.strip, Datum.stripList_eq_map, g3]

theorem curOK_quote {m : Nat} {ts : List Token} {d : Datum} (h : CurOK m ts d) :
    CurOK (m + 2) (.quote :: ts) (quoteForm d) := by
  refine .intro rfl fun fuel s lt0 lmore lrest hf h0 hm hc hs => ?_
  obtain ⟨f, rfl⟩ := Nat.exists_eq_add_of_le' (Nat.le_trans (Nat.le_add_left ..) hf)
  rw [cur_succ (f + 1) s lt0 hc]
  simp only [h0]
  obtain ⟨lt1, lmore1, rfl, -, -⟩ := h f lmore lrest (by omega) hm
  rw [advance_cons (show s.toks = lt1 :: (lmore1 ++ lrest) from hs), ok_bind, parseQuoted_succ]
  obtain ⟨e, s3, k1, k2, k3, k4⟩ := h.datum f
    { s with toks := lmore1 ++ lrest, cur := some lt1, loc := lt1.loc } lt1 lmore1 lrest (by omega) hm rfl rfl
  rw [k1]
  exact ⟨_, _, rfl, by simp [mkQuote, Datum.strip, k2, quoteForm], k3, k4⟩

mutual
theorem curOK_of_parses : ∀ {ts : List Token} {d : Datum} {rest : List Token},
    Parses ts d rest → CurOK (2 * ts.length) ts d
  | _, _, _, .prim p _ => (curOK_atom (.prim p) rfl).mono (by simp)
  | _, _, _, .ident a _ => (curOK_atom (.ident a) rfl).mono (by simp)
  | _, _, _, .list h => (curOK_list (loopOK_of_seq h).1).mono (by simp; omega)
  | _, _, _, .dotted h hne ht =>
    (curOK_dotted (loopOK_of_seq h).1 hne (curOK_of_parses ht)).mono (by simp; omega)
  | _, _, _, .vec h => (curOK_vec (loopOK_of_seq h).2).mono (by simp; omega)
  | _, _, _, .quote h => (curOK_quote (curOK_of_parses h)).mono (by simp; omega)
  | _, _, _, .quirkDotClose h =>
    (List.append_assoc _ [Token.period] _ ▸ curOK_close (openOK_dot (loopOK_of_seq h).1)).mono (by simp; omega)
  | _, _, _, .quirkLeadingDot h =>
    (curOK_close (openOK_leadingDot (curOK_of_parses h))).mono (by simp; omega)
  | _, _, _, .quirkLeadingDotPair h1 h2 =>
    (curOK_tail (openOK_leadingDot (curOK_of_parses h1)) (List.cons_ne_nil _ _)
      (curOK_of_parses h2)).mono (by simp; omega)
theorem loopOK_of_seq : ∀ {ts : List Token} {ds : List Datum} {rest : List Token},
    ParsesSeq ts ds rest → LoopOK (2 * ts.length) ts ds ∧ RepOK (2 * ts.length) ts ds
  | _, _, _, .nil _ => ⟨loopOK_nil, repOK_nil⟩
  | _, _, _, .cons h hs =>
    have ⟨t0, more, e, _⟩ := parses_head h
    ⟨loopOK_cons (curOK_of_parses h) (loopOK_of_seq hs).1 (by simp; omega) (by subst e; simp; omega),
      repOK_cons (curOK_of_parses h) (loopOK_of_seq hs).2
        (by simp; omega) (by subst e; simp; omega)⟩
end

/-! ## the context of a datum never matters -/

mutual
theorem parses_frame : ∀ {ts : List Token} {d : Datum} {rest : List Token}, Parses ts d rest →
    ∀ rest', Parses ts d rest'
  | _, _, _, .prim p _, r' => .prim p r'
  | _, _, _, .ident p _, r' => .ident p r'
  | _, _, _, .list h, _ => .list (seq_frame h _)
  | _, _, _, .dotted h hne ht, _ => .dotted (seq_frame h _) hne (parses_frame ht _)
  | _, _, _, .vec h, _ => .vec (seq_frame h _)
  | _, _, _, .quote h, _ => .quote (parses_frame h _)
  | _, _, _, .quirkDotClose h, _ => .quirkDotClose (seq_frame h _)
  | _, _, _, .quirkLeadingDot h, _ => .quirkLeadingDot (parses_frame h _)
  | _, _, _, .quirkLeadingDotPair h1 h2, _ =>
    .quirkLeadingDotPair (parses_frame h1 _) (parses_frame h2 _)
theorem seq_frame : ∀ {ts : List Token} {ds : List Datum} {rest : List Token},
    ParsesSeq ts ds rest → ∀ rest', ParsesSeq ts ds rest'
  | _, _, _, .nil _, r' => .nil r'
  | _, _, _, .cons h hs, _ => .cons (parses_frame h _) (seq_frame hs _)
end

/-! ## soundness: whatever is read has a derivation, and takes its positions from the tokens used -/

theorem seq_snoc : ∀ {ts : List Token} {ds : List Datum} {R : List Token}, ParsesSeq ts ds R →
    ∀ {t : List Token} {d : Datum} {r : List Token}, Parses t d r → ∀ r', ParsesSeq (ts ++ t) (ds ++ [d]) r'
  | _, _, _, .nil _, t, d, _, h, r' => by
    simpa using ParsesSeq.cons (ts := []) (ds := []) (parses_frame h _) (.nil r')
  | _, _, _, .cons (t := t0) h0 hs, t, d, _, h, r' => by
    simpa using ParsesSeq.cons (t := t0) (parses_frame h0 _) (seq_snoc hs h r')

/-- the state of the list loop, as a statement about the tokens `pfx` consumed since the opening
parenthesis: without a dot they are the elements read so far; with a dot, either the dot is the
last of them, or it was the very first and exactly one element followed -/
def St (pfx : List Token) (es : List Datum) (dot : Bool) : Prop :=
  (dot = false ∧ ParsesSeq pfx es []) ∨
  (dot = true ∧ ∃ tsPre, pfx = tsPre ++ [.period] ∧ ParsesSeq tsPre es []) ∨
  (dot = true ∧ ∃ t1 d1, pfx = .period :: t1 ∧ es = [d1] ∧ Parses t1 d1 [])

section sound

/- In each clause the run consumed the tokens `lpre` (`Steps`); the result has every property `Q`
that the reader's constructions keep (`Read.Closed`) once `P` holds of the tokens it was built from
and `L` of the locations the parser held; and the grammar derives the result from the tokens
consumed. A loop leaves the parser on the closing parenthesis, one of the tokens consumed. -/

def SndCur (f : Nat) : Prop :=
  ∀ (s : PState) (lt0 : LToken) (od : Option Datum) (s' : PState), s.cur = some lt0 →
    currentDatum f s = .ok (od, s') →
    ∃ d lpre, od = some d ∧ Steps s s' lpre ∧
      (∀ {P : LToken → Prop} {L : Loc → Prop} {Q A : Datum → Prop}, Closed P L Q A → HeldP P L s →
        (∀ t ∈ lpre, P t) → Q d) ∧
      Parses (lt0.tok :: lpre.map (·.tok)) d.strip (s'.toks.map (·.tok))

def SndDat (f : Nat) : Prop :=
  ∀ (s : PState) (d : Datum) (s' : PState), datum f s = .ok (d, s') →
    ∃ lt0 lpre, s.cur = some lt0 ∧ Steps s s' lpre ∧
      (∀ {P : LToken → Prop} {L : Loc → Prop} {Q A : Datum → Prop}, Closed P L Q A → HeldP P L s →
        (∀ t ∈ lpre, P t) → Q d) ∧
      Parses (lt0.tok :: lpre.map (·.tok)) d.strip (s'.toks.map (·.tok))

def SndQ (f : Nat) : Prop :=
  ∀ (s : PState) (d : Datum) (s' : PState), parseQuoted f s = .ok (d, s') →
    ∃ lt0 lpre d0, s.cur = some lt0 ∧ Steps s s' lpre ∧
      (∀ {P : LToken → Prop} {L : Loc → Prop} {Q A : Datum → Prop}, Closed P L Q A → HeldP P L s →
        (∀ t ∈ lpre, P t) → Q d) ∧
      d.strip = quoteForm d0 ∧ Parses (lt0.tok :: lpre.map (·.tok)) d0 (s'.toks.map (·.tok))

def SndLoop (f : Nat) : Prop :=
  ∀ (s : PState) (loc : Loc) (acc : Datum) (dot : Bool) (d : Datum) (s' : PState),
    listLoop f s loc acc dot = .ok (d, s') →
    ∃ lbody, Steps s s' lbody ∧
      (∀ {P : LToken → Prop} {L : Loc → Prop} {Q A : Datum → Prop}, Closed P L Q A → L loc → A acc →
        (∀ t ∈ lbody, P t) → Q d ∧ HeldP P L s') ∧
      ∀ (pfx : List Token) (es : List Datum), acc.strip = proper es → St pfx es dot →
        Parses (.lparen :: (pfx ++ lbody.map (·.tok))) d.strip (s'.toks.map (·.tok))

def SndRep (f : Nat) : Prop :=
  ∀ (s : PState) (acc ds : List Datum) (s' : PState), repeatDatum f s acc = .ok (ds, s') →
    ∃ lbody, Steps s s' lbody ∧
      (∀ {P : LToken → Prop} {L : Loc → Prop} {Q A : Datum → Prop}, Closed P L Q A →
        (∀ x ∈ acc, Q x) → (∀ t ∈ lbody, P t) → (∀ x ∈ ds, Q x) ∧ HeldP P L s') ∧
      ∀ (pfx : List Token) {R : List Token}, ParsesSeq pfx (acc.reverse.map Datum.strip) R →
        Parses (.vecIntro :: (pfx ++ lbody.map (·.tok))) (.vec (ds.map Datum.strip) none)
          (s'.toks.map (·.tok))

theorem sndDat_of_sndCur {f : Nat} (h : SndCur f) : SndDat f := by
  intro s d s' hd
  obtain ⟨t, hc⟩ := datum_cur_some hd
  have := datum_current f s t hc
  cases hcd : currentDatum f s with
  | error e =>
    rw [hcd] at this
    rcases this with hl | ⟨-, hl⟩ <;> rw [hl] at hd <;> cases hd
  | ok r =>
    obtain ⟨od, s1⟩ := r
    obtain ⟨d1, lpre, rfl, hst, hloc, hp⟩ := h s t od s1 hc hcd
    rw [hcd] at this
    obtain ⟨d2, c, k1, k2, k3⟩ := this
    rw [k1] at hd
    cases hd
    refine ⟨t, lpre, hc, ⟨hst.toks, hst.lexErr, fun hl hh hu => ?_⟩, fun C hh hu => ?_, ?_⟩
    · have h1 := hst.held hl hh hu
      rcases k3 with rfl | rfl
      · exact h1
      · exact ⟨h1.1, hh.2⟩
    · rcases k2 with rfl | rfl
      · exact hloc C hh hu
      · exact C.relabel (hloc C hh hu) hh.1
    · rcases k2 with rfl | rfl
      · exact hp
      · rw [strip_withLoc]; exact hp

theorem sndQ_succ {f : Nat} (h : SndDat f) : SndQ (f + 1) := by
  intro s d s' hq
  rw [parseQuoted_succ] at hq
  obtain ⟨⟨d0, s1⟩, hd, hq⟩ := bind_eq_ok hq
  cases hq
  obtain ⟨lt0, lpre, g0, hst, hloc, hp⟩ := h s d0 _ hd
  exact ⟨lt0, lpre, d0.strip, g0, hst,
    fun C hh hu => C.quote (hloc C hh hu) hh.1,
    by simp [mkQuote, Datum.strip, quoteForm], hp⟩

theorem sndCur_succ {f : Nat} (hL : SndLoop f) (hR : SndRep f) (hQ : SndQ f) : SndCur (f + 1) := by
  intro s lt0 od s' hc h
  rw [cur_succ f s lt0 hc] at h
  split at h
  next htok =>
    rw [htok]; cases h
    exact ⟨_, [], rfl, steps_dropCur s,
      fun C hh _ => C.prim (hh.2 _ hc) htok (C.loc (hh.2 _ hc)), .prim _ _⟩
  next htok =>
    rw [htok]; cases h
    exact ⟨_, [], rfl, steps_dropCur s, fun C hh _ => C.sym (C.loc (hh.2 _ hc)), .ident _ _⟩
  next htok =>
    rw [htok]
    obtain ⟨⟨d, s1⟩, hl, h⟩ := bind_eq_ok h
    cases h
    obtain ⟨lbody, hst, hloc, hp⟩ := hL s s.loc (.nil none) false d _ hl
    exact ⟨d, lbody, rfl, hst, fun C hh hu => (hloc C hh.1 C.nil hu).1,
      hp [] [] rfl (Or.inl ⟨rfl, .nil _⟩)⟩
  next htok =>
    rw [htok]
    obtain ⟨⟨xs, s1⟩, hl, h⟩ := bind_eq_ok h
    cases h
    obtain ⟨lbody, hst, hloc, hp⟩ := hR s [] xs _ hl
    refine ⟨_, lbody, rfl, hst, fun C hh hu => ?_, ?_⟩
    · have r := hloc C (fun _ h => nomatch h) hu
      exact C.vec r.1 r.2.1
    · rw [Datum.strip, Datum.stripList_eq_map]; exact hp [] (.nil [])
  next htok =>
    rw [htok]
    obtain ⟨s1, ha, h⟩ := bind_eq_ok h
    obtain ⟨⟨d, s2⟩, hq, h⟩ := bind_eq_ok h
    cases h
    obtain ⟨lt1, lpre, d0, g0, hst, hloc, g3, g4⟩ := hQ s1 d _ hq
    rcases advance_ok_inv ha with ⟨t', rest0, hs, rfl⟩ | ⟨-, rfl⟩
    · cases g0
      refine ⟨d, lt1 :: lpre, rfl, (Steps.cons hs).trans hst, fun C _ hu => ?_, ?_⟩
      · rw [List.forall_mem_cons] at hu
        exact hloc C (held_cons C.loc hu.1) hu.2
      · rw [g3]; exact .quote g4
    · cases g0
  next => cases h

theorem sndRep_succ {f : Nat} (hD : SndDat f) (hR : SndRep f) : SndRep (f + 1) := by
  intro s acc ds s' h
  rw [repeatDatum_succ] at h
  obtain ⟨o, hp, h⟩ := bind_eq_ok h
  cases o with
  | none => cases h
  | some t =>
    obtain ⟨rest0, hs⟩ := peek_some hp
    rw [advance_cons hs] at h
    obtain ⟨s1, ha, h⟩ := bind_eq_ok h
    cases ha
    by_cases hrp : t.tok = .rparen
    · rw [if_pos hrp] at h
      cases h
      refine ⟨[t], Steps.cons hs, fun C ha hu => ⟨fun x hx => ha x (List.mem_reverse.1 hx),
        held_cons C.loc (hu t List.mem_cons_self)⟩, fun pfx _ hseq => ?_⟩
      simpa [hrp] using Parses.vec (rest := rest0.map (·.tok)) (seq_frame hseq _)
    · rw [if_neg hrp] at h
      obtain ⟨⟨d, s2⟩, hd, h⟩ := bind_eq_ok h
      obtain ⟨lt0, lpre, g0, hst, hloc, g3⟩ := hD _ d s2 hd
      cases g0
      obtain ⟨lbody, hst3, hloc3, k3⟩ := hR s2 (d :: acc) ds s' h
      refine ⟨t :: (lpre ++ lbody), (Steps.cons hs).trans (hst.trans hst3), fun C ha ht => ?_,
        fun pfx _ hseq => ?_⟩
      · rw [List.forall_mem_cons, List.forall_mem_append] at ht
        refine hloc3 C (fun x hx => ?_) ht.2.2
        rcases List.mem_cons.1 hx with rfl | hx
        · exact hloc C (held_cons C.loc ht.1) ht.2.1
        · exact ha x hx
      · simpa using k3 (pfx ++ (t.tok :: lpre.map (·.tok))) (R := []) (by simpa using seq_snoc hseq g3 [])

theorem sndLoop_succ {f : Nat} (hC : SndCur f) (hL : SndLoop f) : SndLoop (f + 1) := by
  intro s loc acc dot d s' h
  rw [listLoop_succ] at h
  obtain ⟨⟨t, s1⟩, ha, h1⟩ := bind_eq_ok h
  obtain ⟨rest0, hs, rfl⟩ := advanceUnwrap_ok_inv ha
  clear h ha
  have st1 := Steps.cons hs
  dsimp only at h1
  by_cases hp : t.tok = .period
  · rw [if_pos hp] at h1
    cases dot with
    | true => cases h1
    | false =>
      obtain ⟨lbody, st2, hloc, g3⟩ := hL _ loc acc true d s' h1
      refine ⟨t :: lbody, st1.trans st2,
        fun C hl ha ht => hloc C hl ha (List.forall_mem_cons.1 ht).2, fun pfx es hacc hst => ?_⟩
      obtain ⟨-, hst⟩ | ⟨⟨⟩, -⟩ | ⟨⟨⟩, -⟩ := hst
      have := g3 (pfx ++ [.period]) es hacc (.inr (.inl ⟨rfl, pfx, rfl, hst⟩))
      simpa [hp] using this
  rw [if_neg hp] at h1
  by_cases hrp : t.tok = .rparen
  · rw [if_pos hrp] at h1
    cases h1
    refine ⟨[t], st1, fun C hl ha ht => ⟨C.withLoc ha hl, held_cons C.loc (ht t List.mem_cons_self)⟩,
      fun pfx es hacc hst => ?_⟩
    rw [strip_withLoc, hacc]
    rcases hst with ⟨-, hst⟩ | ⟨-, tsPre, rfl, hst⟩ | ⟨-, t1, d1, rfl, rfl, hst⟩
    · simpa [hrp] using Parses.list (rest := rest0.map (·.tok)) (seq_frame hst _)
    · simpa [hrp] using Parses.quirkDotClose (rest := rest0.map (·.tok)) (seq_frame hst _)
    · simpa [hrp] using Parses.quirkLeadingDot (rest := rest0.map (·.tok)) (parses_frame hst _)
  rw [if_neg hrp] at h1
  obtain ⟨⟨od, s2⟩, hcd, h2⟩ := bind_eq_ok h1
  clear h1
  obtain ⟨e, lpre, rfl, st2, hloce, g3⟩ := hC _ t od s2 rfl hcd
  dsimp only at h2
  by_cases hpd : (isPair acc && dot) = true
  · -- the element after the dot: the tail
    rw [if_pos hpd] at h2
    simp only [Bool.and_eq_true] at hpd
    obtain ⟨⟨t2, s3⟩, ha2, h3⟩ := bind_eq_ok h2
    obtain ⟨rest2, hs2, rfl⟩ := advanceUnwrap_ok_inv ha2
    dsimp only at h3
    by_cases hrp2 : t2.tok = .rparen
    · rw [if_pos hrp2] at h3
      cases h3
      refine ⟨t :: (lpre ++ [t2]), st1.trans (st2.trans (Steps.cons hs2)), fun C hl ha ht => ?_,
        fun pfx es hacc hst => ?_⟩
      · rw [List.forall_mem_cons, List.forall_mem_append] at ht
        exact ⟨C.withLoc (C.tail ha (hloce C (held_cons C.loc ht.1) ht.2.1)) hl,
          held_cons C.loc (ht.2.2 t2 List.mem_cons_self)⟩
      · rw [strip_withLoc, strip_setTail, hacc, setTail_proper]
        have hne := (isPair_of_strip hacc).1 hpd.1
        rcases hst with ⟨hf, -⟩ | ⟨-, tsPre, rfl, hst⟩ | ⟨-, t1, d1, rfl, rfl, hst⟩
        · rw [hpd.2] at hf; cases hf
        · simpa [hrp2] using Parses.dotted (rest := rest2.map (·.tok)) (seq_frame hst _) hne (parses_frame g3 _)
        · simpa [hrp2] using
            Parses.quirkLeadingDotPair (rest := rest2.map (·.tok)) (parses_frame hst _) (parses_frame g3 _)
    · rw [if_neg hrp2] at h3
      cases h3
  · -- an ordinary element (or the first one after a leading dot)
    rw [if_neg hpd] at h2
    obtain ⟨lbody, st3, hloc3, k3⟩ := hL s2 loc (snoc acc e) dot d s' h2
    refine ⟨t :: (lpre ++ lbody), st1.trans (st2.trans st3), fun C hl ha ht => ?_,
      fun pfx es hacc hst => ?_⟩
    · rw [List.forall_mem_cons, List.forall_mem_append] at ht
      exact hloc3 C hl (C.snoc ha (hloce C (held_cons C.loc ht.1) ht.2.1)) ht.2.2
    · have fin : St (pfx ++ (t.tok :: lpre.map (·.tok))) (es ++ [e.strip]) dot →
          Parses (.lparen :: (pfx ++ (t :: (lpre ++ lbody)).map (·.tok))) d.strip (s'.toks.map (·.tok)) :=
        fun hst' => by simpa using k3 _ _ (strip_snoc_proper (e := e) hacc) hst'
      rcases hst with ⟨hdot, hst⟩ | ⟨hdot, tsPre, rfl, hst⟩ | ⟨hdot, t1, d1, rfl, rfl, hst⟩
      · exact fin (.inl ⟨hdot, seq_snoc hst g3 []⟩)
      · obtain rfl : es = [] := Decidable.byContradiction fun h =>
          hpd (by rw [(isPair_of_strip hacc).2 h, hdot]; rfl)
        cases hst
        exact fin (.inr (.inr ⟨hdot, _, _, rfl, rfl, parses_frame g3 []⟩))
      · exact absurd (by rw [(isPair_of_strip hacc).2 (List.cons_ne_nil _ _), hdot]; rfl) hpd

theorem snd_all : ∀ f : Nat, SndCur f ∧ SndDat f ∧ SndQ f ∧ SndLoop f ∧ SndRep f
  | 0 => by
    refine ⟨?_, ?_, ?_, ?_, ?_⟩
    · intro s lt0 od s' _ h; rw [currentDatum] at h; cases h
    · intro s d s' h; rw [datum] at h; cases h
    · intro s d s' h; rw [parseQuoted] at h; cases h
    · intro s loc acc dot d s' h; rw [listLoop] at h; cases h
    · intro s acc ds s' h; rw [repeatDatum] at h; cases h
  | f + 1 => by
    obtain ⟨hC, hD, hQ, hL, hR⟩ := snd_all f
    have hC' := sndCur_succ hL hR hQ
    exact ⟨hC', sndDat_of_sndCur hC', sndQ_succ hD, sndLoop_succ hC hL, sndRep_succ hD hR⟩

/-! ## errors: a syntax error at a position the parser holds or still has in front of it -/

/-- `L` holds of every location an error raised from `s` may carry -/
def Avail (L : Loc → Prop) (s : PState) : Prop :=
  Held L s ∧ (∀ t ∈ s.toks, L t.loc) ∧ ∀ p, s.lexErr = some p → L (some p)

/-- the `∀ L` says: no location, or one of those `Avail` speaks of -/
def ErrOK (s : PState) (e : SErr) : Prop :=
  e = (.fuel, none) ∨ (e.1 = .syntax ∧ ∀ {L : Loc → Prop}, L none → Avail L s → L e.2)

theorem Avail.of_steps {L : Loc → Prop} {s s1 : PState} {u : List LToken} (h : Steps s s1 u)
    (ha : Avail L s) : Avail L s1 :=
  ⟨h.held id ha.1 fun t ht => ha.2.1 t (by rw [h.toks]; exact List.mem_append_left _ ht),
    fun t ht => ha.2.1 t (by rw [h.toks]; exact List.mem_append_right _ ht),
    fun p hp => ha.2.2 p (by rw [← h.lexErr]; exact hp)⟩

theorem ErrOK.of_steps {s s1 : PState} {u : List LToken} {e : SErr} (h : Steps s s1 u) :
    ErrOK s1 e → ErrOK s e
  | .inl h1 => .inl h1
  | .inr h1 => .inr ⟨h1.1, fun hn ha => h1.2 hn (ha.of_steps h)⟩

theorem ErrOK.of_advance {s s1 : PState} {e : SErr} (ha : advance s = .ok s1) (h : ErrOK s1 e) :
    ErrOK s e := by
  rcases advance_ok_inv ha with ⟨t, rest, hs, rfl⟩ | ⟨-, rfl⟩
  · exact h.of_steps (Steps.cons hs)
  · rcases h with h | h
    · exact .inl h
    · exact .inr ⟨h.1, fun hn ha => h.2 hn ⟨⟨hn, fun _ h => nomatch h⟩, ha.2.1, ha.2.2⟩⟩

theorem errOK_none (s : PState) : ErrOK s (.syntax, none) := .inr ⟨rfl, fun hn _ => hn⟩

theorem errOK_loc (s : PState) : ErrOK s (.syntax, s.loc) := .inr ⟨rfl, fun _ ha => ha.1.1⟩

theorem errOK_cur {s : PState} {t : LToken} (h : s.cur = some t) : ErrOK s (.syntax, t.loc) :=
  .inr ⟨rfl, fun _ ha => ha.1.2 t h⟩

theorem errOK_lexErr {s : PState} {p : Lex.Pos} (h : s.lexErr = some p) :
    ErrOK s (.syntax, some p) :=
  .inr ⟨rfl, fun _ ha => ha.2.2 p h⟩

/-- `ErrOK` with a bound: `enough` says that the fuel suffices for what is left of the stream -/
def ErrB (enough : Prop) (s : PState) (e : SErr) : Prop := ErrOK s e ∧ (enough → e.1 = .syntax)

theorem ErrB.now {enough : Prop} {s : PState} {l : Loc} (h : ErrOK s (.syntax, l)) :
    ErrB enough s (.syntax, l) := ⟨h, fun _ => rfl⟩

theorem ErrB.of_steps {a b : Prop} {s s1 : PState} {u : List LToken} {e : SErr} (h : Steps s s1 u)
    (hb : ErrB b s1 e) (hab : a → s1.toks.length ≤ s.toks.length → b) : ErrB a s e :=
  ⟨hb.1.of_steps h, fun ha => hb.2 (hab ha (by rw [h.toks, List.length_append]; omega))⟩

theorem ErrB.mono {a b : Prop} {s : PState} {e : SErr} (hb : ErrB b s e) (hab : a → b) :
    ErrB a s e := ⟨hb.1, fun ha => hb.2 (hab ha)⟩

theorem advance_err {a : Prop} {s : PState} {e : SErr} (h : advance s = .error e) : ErrB a s e := by
  rcases advance_cases s with ⟨_, _, _, ha⟩ | ⟨_, p, he, ha⟩ | ⟨_, _, ha⟩ <;> rw [ha] at h <;> cases h
  exact .now (errOK_lexErr he)

theorem advanceUnwrap_err {a : Prop} {s : PState} {e : SErr} (h : advanceUnwrap s = .error e) :
    ErrB a s e := by
  rcases advanceUnwrap_cases s with ⟨_, _, _, ha⟩ | ⟨_, l, hl, ha⟩ <;> rw [ha] at h <;> cases h
  rcases hl with rfl | rfl
  · exact .now (errOK_loc s)
  · cases he : s.lexErr with
    | none => exact .now (errOK_none s)
    | some p => exact .now (errOK_lexErr he)

theorem peek_err {a : Prop} {s : PState} {e : SErr} (h : peek s = .error e) : ErrB a s e := by
  rcases peek_cases s with ⟨_, _, _, ha⟩ | ⟨_, p, he, ha⟩ | ⟨_, _, ha⟩ <;> rw [ha] at h <;> cases h
  exact .now (errOK_lexErr he)

/-- for a function that looks at the current token before it pulls one: `k` calls that pull nothing
(1 for `current_datum` and `datum`, 2 for `parse_quoted`), then two units for every token left and two
more; without a current token it ends within the `k` calls -/
def Enough (k f : Nat) (s : PState) : Prop :=
  (s.cur.isSome = true → 2 * s.toks.length + k + 2 ≤ f) ∧ k ≤ f

/-- Every turn of a loop and every nested datum pulls a token, so two units of fuel per token left, and
a few for the calls in between, are enough. -/
structure ErrAt (f : Nat) : Prop where
  cur : ∀ {s e}, currentDatum f s = .error e → ErrB (Enough 1 f s) s e
  loop : ∀ {s loc acc dot e}, listLoop f s loc acc dot = .error e →
    ErrB (2 * s.toks.length + 2 ≤ f) s e
  rep : ∀ {s acc e}, repeatDatum f s acc = .error e → ErrB (2 * s.toks.length + 2 ≤ f) s e
  dat : ∀ {s e}, datum f s = .error e → ErrB (Enough 1 f s) s e
  quo : ∀ {s e}, parseQuoted f s = .error e → ErrB (Enough 2 f s) s e

theorem quo_after_advance {f : Nat} (ih : ErrAt f) {s s1 : PState} {e : SErr}
    (ha : advance s = .ok s1) (hq : parseQuoted f s1 = .error e) :
    ErrB (2 * s.toks.length + 2 ≤ f) s e := by
  refine ⟨(ih.quo hq).1.of_advance ha, fun hb => (ih.quo hq).2 ?_⟩
  rcases advance_ok_inv ha with ⟨t, rest, hs, rfl⟩ | ⟨hs, rfl⟩
  · rw [hs, List.length_cons] at hb
    exact ⟨fun _ => by show 2 * rest.length + 2 + 2 ≤ f; omega, by omega⟩
  · exact ⟨nofun, by omega⟩

theorem errAt : ∀ f, ErrAt f
  | 0 =>
    ⟨fun h => by rw [currentDatum] at h; cases h; exact ⟨.inl rfl, fun hb => absurd hb.2 (by omega)⟩,
      fun h => by rw [listLoop] at h; cases h; exact ⟨.inl rfl, fun hb => absurd hb (by omega)⟩,
      fun h => by rw [repeatDatum] at h; cases h; exact ⟨.inl rfl, fun hb => absurd hb (by omega)⟩,
      fun h => by rw [datum] at h; cases h; exact ⟨.inl rfl, fun hb => absurd hb.2 (by omega)⟩,
      fun h => by rw [parseQuoted] at h; cases h; exact ⟨.inl rfl, fun hb => absurd hb.2 (by omega)⟩⟩
  | f + 1 => by
    have ih := errAt f
    have cur : ∀ {s e}, currentDatum (f + 1) s = .error e → ErrB (Enough 1 (f + 1) s) s e := by
      intro s e h
      cases hc : s.cur with
      | none => rw [cur_none f hc] at h; cases h
      | some t =>
        have hb : Enough 1 (f + 1) s → 2 * s.toks.length + 2 ≤ f := fun hb => by
          have := hb.1 (by rw [hc]; rfl); omega
        rw [cur_succ f s t hc] at h
        split at h
        · cases h
        · cases h
        · rcases bind_eq_error h with h1 | ⟨_, _, h1⟩
          · exact (ih.loop h1).mono hb
          · cases h1
        · rcases bind_eq_error h with h1 | ⟨_, _, h1⟩
          · exact (ih.rep h1).mono hb
          · cases h1
        · rcases bind_eq_error h with ha | ⟨s1, ha, h1⟩
          · exact advance_err ha
          · rcases bind_eq_error h1 with hq | ⟨_, _, h2⟩
            · exact (quo_after_advance ih ha hq).mono hb
            · cases h2
        · cases h; exact .now (errOK_cur hc)
    refine ⟨cur, ?_, ?_, ?_, ?_⟩
    · intro s loc acc dot e h
      rw [listLoop_succ] at h
      rcases bind_eq_error h with ha | ⟨⟨t, s1⟩, ha, h1⟩
      · exact advanceUnwrap_err ha
      obtain ⟨rest, hs, rfl⟩ := advanceUnwrap_ok_inv ha
      refine ErrB.of_steps (b := 2 * rest.length + 3 ≤ f) (Steps.cons hs) ?_ fun hb _ => by
        rw [hs, List.length_cons] at hb; omega
      dsimp only at h1
      by_cases hp : t.tok = .period
      · rw [if_pos hp] at h1
        cases dot with
        | true => cases h1; exact .now (errOK_cur rfl)
        | false => exact (ih.loop h1).mono fun hb => by show 2 * rest.length + 2 ≤ f; omega
      rw [if_neg hp] at h1
      by_cases hr : t.tok = .rparen
      · rw [if_pos hr] at h1; cases h1
      rw [if_neg hr] at h1
      rcases bind_eq_error h1 with hcd | ⟨⟨od, s2⟩, hcd, h2⟩
      · exact (ih.cur hcd).mono fun hb => ⟨fun _ => hb, by omega⟩
      -- the element was read: soundness says which tokens it took, so how many are left
      obtain ⟨x, lpre, rfl, st2, -, -⟩ := (snd_all f).1 _ t od s2 rfl hcd
      refine ErrB.of_steps (b := 2 * s2.toks.length + 2 ≤ f) st2 ?_ fun hb hl => by
        have hl : s2.toks.length ≤ rest.length := hl
        omega
      dsimp only at h2
      by_cases hd : (isPair acc && dot) = true
      · rw [if_pos hd] at h2
        rcases bind_eq_error h2 with ha2 | ⟨⟨t2, s3⟩, ha2, h3⟩
        · exact advanceUnwrap_err ha2
        obtain ⟨rest2, hs2, rfl⟩ := advanceUnwrap_ok_inv ha2
        dsimp only at h3
        by_cases hr2 : t2.tok = .rparen
        · rw [if_pos hr2] at h3; cases h3
        · rw [if_neg hr2] at h3; cases h3
          exact .now ((errOK_loc _).of_steps (Steps.cons hs2))
      · rw [if_neg hd] at h2
        exact ih.loop h2
    · intro s acc e h
      rw [repeatDatum_succ] at h
      rcases bind_eq_error h with hp | ⟨o, hp, h1⟩
      · exact peek_err hp
      cases o with
      | none => cases h1; exact .now (errOK_loc s)
      | some t =>
        obtain ⟨rest, hs⟩ := peek_some hp
        simp only [advance_cons hs, ok_bind] at h1
        refine ErrB.of_steps (b := 2 * rest.length + 3 ≤ f) (Steps.cons hs) ?_ fun hb _ => by
          rw [hs, List.length_cons] at hb; omega
        by_cases hr : t.tok = .rparen
        · rw [if_pos hr] at h1; cases h1
        rw [if_neg hr] at h1
        rcases bind_eq_error h1 with hd | ⟨⟨d, s2⟩, hd, h2⟩
        · exact (ih.dat hd).mono fun hb => ⟨fun _ => hb, by omega⟩
        obtain ⟨_, lpre, -, st2, -, -⟩ := (snd_all f).2.1 _ d s2 hd
        exact (ih.rep h2).of_steps st2 fun hb hl => by
          have hl : s2.toks.length ≤ rest.length := hl
          show 2 * s2.toks.length + 2 ≤ f; omega
    · intro s e h
      cases hc : s.cur with
      | none => rw [datum_none f hc] at h; cases h; exact .now (errOK_loc s)
      | some t =>
        have := datum_current (f + 1) s t hc
        cases hcd : currentDatum (f + 1) s with
        | ok r =>
          rw [hcd] at this
          obtain ⟨_ | d, s'⟩ := r
          · exact this.elim
          · obtain ⟨_, _, k, -⟩ := this
            rw [k] at h; cases h
        | error e0 =>
          rw [hcd] at this
          rcases this with k | ⟨he, k⟩ <;> rw [k] at h <;> cases h
          · exact cur hcd
          · rw [he]; exact .now (errOK_loc s)
    · intro s e h
      rw [parseQuoted_succ] at h
      rcases bind_eq_error h with hd | ⟨_, _, h1⟩
      · exact (ih.dat hd).mono fun hb => ⟨fun hc => by have := hb.1 hc; omega, by have := hb.2; omega⟩
      · cases h1

end sound

/-! ## syntax trees: the quirk-free derivations, and their unique readability -/

theorem denoteL_improper (xs : List Syn) (tl : Datum) :
    Syn.denoteL xs tl = improper (Syn.denoteV xs) tl := by
  induction xs with
  | nil => rfl
  | cons x xs ih => simp [Syn.denoteL, Syn.denoteV, improper, ih]

theorem denoteV_ne_nil {xs : List Syn} (h : xs ≠ []) : Syn.denoteV xs ≠ [] := by
  cases xs with
  | nil => exact absurd rfl h
  | cons x xs => simp [Syn.denoteV]

mutual
theorem parses_of_syn : (x : Syn) → WellFormed x → ∀ rest, Parses x.toks x.denote rest
  | .atom t, h, rest => by
    cases t <;> simp [WellFormed, Syn.isAtomTok] at h
    · exact .ident _ _
    · exact .prim _ _
  | .list xs, h, rest => by
    have := Parses.list (seq_of_syns xs (by simpa [WellFormed] using h) (.rparen :: rest))
    simpa [Syn.toks, Syn.denote, denoteL_improper, proper] using this
  | .dotted xs t, h, rest => by
    simp only [WellFormed] at h
    have := Parses.dotted (seq_of_syns xs h.2.1 _) (denoteV_ne_nil h.1)
      (parses_of_syn t h.2.2 (.rparen :: rest))
    simpa [Syn.toks, Syn.denote, denoteL_improper] using this
  | .vec xs, h, rest => by
    have := Parses.vec (seq_of_syns xs (by simpa [WellFormed] using h) (.rparen :: rest))
    simpa [Syn.toks, Syn.denote] using this
  | .quote x, h, rest => by
    have := Parses.quote (parses_of_syn x (by simpa [WellFormed] using h) rest)
    simpa [Syn.toks, Syn.denote, quoteForm] using this
theorem seq_of_syns : (xs : List Syn) → WellFormedL xs → ∀ rest,
    ParsesSeq (Syn.toksL xs) (Syn.denoteV xs) rest
  | [], _, rest => .nil rest
  | x :: xs, h, rest => by
    simp only [WellFormedL] at h
    exact .cons (parses_of_syn x h.1 _) (seq_of_syns xs h.2 rest)
end

theorem wf_head (x : Syn) (h : WellFormed x) :
    ∃ t0 more, x.toks = t0 :: more ∧ Syn.isStartTok t0 = true :=
  parses_head (parses_of_syn x h [])

mutual
theorem toks_unique : (x : Syn) → WellFormed x → ∀ y, WellFormed y → ∀ r r',
    x.toks ++ r = y.toks ++ r' → x = y ∧ r = r'
  | .atom t, hx, y, hy, r, r', h => by
    rw [WellFormed] at hx
    cases y <;> simp only [Syn.toks, List.cons_append, List.nil_append, List.cons.injEq] at h
    case atom t' => exact ⟨by rw [h.1], h.2⟩
    all_goals rw [h.1] at hx; cases hx
  -- in the other cases the first token tells the forms apart, but for `(`
  | .list xs, hx, y, hy, r, r', h => by
    rw [WellFormed] at hx
    cases y <;> rw [WellFormed] at hy <;>
      simp only [Syn.toks, List.cons_append, List.append_assoc, List.nil_append, List.cons.injEq,
        reduceCtorEq, false_and, true_and] at h
    case atom t' => rw [← h.1] at hy; cases hy
    case list ys =>
      obtain ⟨e1, -, e3⟩ := toksL_unique xs hx ys hy _ _ r r' rfl rfl h
      exact ⟨by rw [e1], e3⟩
    case dotted ys t' => cases (toksL_unique xs hx ys hy.2.1 _ _ r _ rfl rfl h).2.1
  | .dotted xs t, hx, y, hy, r, r', h => by
    rw [WellFormed] at hx
    cases y <;> rw [WellFormed] at hy <;>
      simp only [Syn.toks, List.cons_append, List.append_assoc, List.nil_append, List.cons.injEq,
        reduceCtorEq, false_and, true_and] at h
    case atom t' => rw [← h.1] at hy; cases hy
    case list ys => cases (toksL_unique xs hx.2.1 ys hy _ _ _ r' rfl rfl h).2.1
    case dotted ys t' =>
      obtain ⟨e1, -, e3⟩ := toksL_unique xs hx.2.1 ys hy.2.1 _ _ _ _ rfl rfl h
      obtain ⟨e4, e5⟩ := toks_unique t hx.2.2 t' hy.2.2 _ _ e3
      exact ⟨by rw [e1, e4], List.tail_eq_of_cons_eq e5⟩
  | .vec xs, hx, y, hy, r, r', h => by
    rw [WellFormed] at hx
    cases y <;> rw [WellFormed] at hy <;>
      simp only [Syn.toks, List.cons_append, List.append_assoc, List.nil_append, List.cons.injEq,
        reduceCtorEq, false_and, true_and] at h
    case atom t' => rw [← h.1] at hy; cases hy
    case vec ys =>
      obtain ⟨e1, -, e3⟩ := toksL_unique xs hx ys hy _ _ r r' rfl rfl h
      exact ⟨by rw [e1], e3⟩
  | .quote x, hx, y, hy, r, r', h => by
    rw [WellFormed] at hx
    cases y <;> rw [WellFormed] at hy <;>
      simp only [Syn.toks, List.cons_append, List.cons.injEq, reduceCtorEq, false_and, true_and] at h
    case atom t' => rw [← h.1] at hy; cases hy
    case quote y =>
      obtain ⟨e1, e2⟩ := toks_unique x hx y hy r r' h
      exact ⟨by rw [e1], e2⟩
theorem toksL_unique : (xs : List Syn) → WellFormedL xs → ∀ ys, WellFormedL ys →
    ∀ (e e' : Token) (r r' : List Token), Syn.isStartTok e = false → Syn.isStartTok e' = false →
    Syn.toksL xs ++ e :: r = Syn.toksL ys ++ e' :: r' → xs = ys ∧ e = e' ∧ r = r'
  | [], _, ys, hy, e, e', r, r', he, he', h => by
    cases ys with
    | nil => simp only [Syn.toksL, List.nil_append, List.cons.injEq] at h; exact ⟨rfl, h.1, h.2⟩
    | cons y ys =>
      simp only [WellFormedL] at hy
      obtain ⟨t0, more, ht, hst⟩ := wf_head y hy.1
      simp only [Syn.toksL, ht, List.nil_append, List.cons_append, List.cons.injEq] at h
      rw [h.1, hst] at he; cases he
  | x :: xs, hx, ys, hy, e, e', r, r', he, he', h => by
    simp only [WellFormedL] at hx
    cases ys with
    | nil =>
      obtain ⟨t0, more, ht, hst⟩ := wf_head x hx.1
      simp only [Syn.toksL, ht, List.nil_append, List.cons_append, List.cons.injEq] at h
      rw [← h.1, hst] at he'; cases he'
    | cons y ys =>
      simp only [WellFormedL] at hy
      simp only [Syn.toksL, List.append_assoc] at h
      obtain ⟨e1, e2⟩ := toks_unique x hx.1 y hy.1 _ _ h
      obtain ⟨e3, e4, e5⟩ := toksL_unique xs hx.2 ys hy.2 e e' r r' he he' e2
      exact ⟨by rw [e1, e3], e4, e5⟩
end

mutual
theorem wf_of_supported : (x : Syn) → Syn.Supported x → WellFormed x
  | .atom t, h => h.1
  | .list xs, h | .vec xs, h => by
    simp only [WellFormed]; exact wfL_of_supported xs (by simpa [Syn.Supported] using h)
  | .dotted xs t, h => by
    simp only [Syn.Supported] at h
    simp only [WellFormed]
    exact ⟨h.1, wfL_of_supported xs h.2.1, wf_of_supported t h.2.2⟩
  | .quote x, h => by
    simp only [WellFormed]; exact wf_of_supported x (by simpa [Syn.Supported] using h)
theorem wfL_of_supported : (xs : List Syn) → Syn.SupportedL xs → WellFormedL xs
  | [], _ => trivial
  | x :: xs, h => by
    simp only [Syn.SupportedL] at h
    exact ⟨wf_of_supported x h.1, wfL_of_supported xs h.2⟩
end

/-! ## the entry point `nextDatum` -/

/-- `fuelFor` after the `advance`, `4 * (rest0.length + 2)`, as a successor: one unit for `current_datum`,
`4 * rest0.length + 7` for what it calls (the `7` of `nextDatum_open`) -/
theorem nextDatum_cons {s : PState} {t : LToken} {rest0 : List LToken} (hs : s.toks = t :: rest0) :
    nextDatum s = currentDatum (4 * rest0.length + 7 + 1)
      { s with toks := rest0, cur := some t, loc := t.loc } := by
  rw [nextDatum, advance_cons hs]; rfl

theorem nextDatum_nil {s : PState} (hs : s.toks = []) :
    nextDatum s = match s.lexErr with
      | some e => .error (.syntax, some e)
      | none => .ok (none, { s with cur := none, loc := none }) := by
  cases he : s.lexErr <;>
    simp [nextDatum, advance, hs, he, bind, Except.bind, fuelFor, currentDatum]

/-- a datum read is built from the tokens `used`: it has every property the reader's constructions keep
(`Closed`) once `P` holds of them, and what the parser holds afterwards is one of them -/
theorem nextDatum_sound {s s' : PState} {od : Option Datum} (h : nextDatum s = .ok (od, s')) :
    ∃ used, s.toks = used ++ s'.toks ∧ s'.lexErr = s.lexErr ∧ ∀ d, od = some d →
      Read.Steps s s' used ∧
      (∀ {P : LToken → Prop} {L : Loc → Prop} {Q A : Datum → Prop}, Closed P L Q A →
        (∀ t ∈ used, P t) → Q d ∧ HeldP P L s') ∧
      Parses (used.map (·.tok)) d.strip (s'.toks.map (·.tok)) := by
  cases hs : s.toks with
  | nil =>
    rw [nextDatum_nil hs] at h
    cases he : s.lexErr <;> rw [he] at h <;> cases h
    exact ⟨[], hs.symm, rfl, fun _ hd => nomatch hd⟩
  | cons t rest0 =>
    rw [nextDatum_cons hs] at h
    obtain ⟨d, lpre, rfl, st, hloc, hp⟩ := (snd_all _).1 _ t od s' rfl h
    have st' := (Read.Steps.cons hs).trans st
    refine ⟨t :: lpre, hs ▸ st'.toks, st'.lexErr, fun _ hd => ?_⟩
    cases hd
    refine ⟨st', fun C hu => ?_, hp⟩
    rw [List.forall_mem_cons] at hu
    have hh := Read.held_cons (s := s) (rest := rest0) C.loc hu.1
    exact ⟨hloc C hh hu.2, st.held C.loc hh hu.2⟩

theorem nextDatum_none {s s' : PState} (h : nextDatum s = .ok (none, s')) :
    s.toks = [] ∧ s.lexErr = none ∧ s'.cur = none := by
  cases hs : s.toks with
  | nil =>
    rw [nextDatum_nil hs] at h
    cases he : s.lexErr <;> rw [he] at h <;> cases h
    exact ⟨rfl, rfl, rfl⟩
  | cons t rest0 =>
    rw [nextDatum_cons hs] at h
    obtain ⟨_, _, e, -⟩ := (snd_all _).1 _ t _ _ rfl h
    cases e

theorem nextDatum_errOK {s : PState} {e : SErr} (h : nextDatum s = .error e) : ErrOK s e := by
  rcases bind_eq_error h with ha | ⟨s1, ha, h1⟩
  · exact (advance_err (a := True) ha).1
  · exact ((errAt _).cur h1).1.of_advance ha

/-- the fuel the model supplies is enough -/
theorem nextDatum_err_syntax {s : PState} {e : SErr} (h : nextDatum s = .error e) :
    e.1 = .syntax := by
  rcases bind_eq_error h with ha | ⟨s1, ha, h1⟩
  · exact (advance_err (a := True) ha).2 trivial
  · exact ((errAt _).cur h1).2 ⟨fun _ => by rw [fuelFor]; omega, by rw [fuelFor]; omega⟩

theorem nextDatum_complete {ts : List Token} {d : Datum} {rest : List Token}
    (h : Parses ts d rest) (s : PState) (lts lrest : List LToken)
    (hl : lts.map (·.tok) = ts) (hs : s.toks = lts ++ lrest) :
    ∃ d' s', nextDatum s = .ok (some d', s') ∧ d'.strip = d ∧ Leaves s s' lrest := by
  obtain ⟨lt0, lmore, rfl, -, h⟩ := curOK_of_parses h (4 * (lts ++ lrest).length + 4) lts lrest
    (by rw [← hl, List.length_map, List.length_append]; omega) hl
  rw [nextDatum_cons (show s.toks = lt0 :: (lmore ++ lrest) from hs)]
  -- the two spellings of the fuel are equal by computation on `Nat`
  exact h _ rfl rfl

/-- behind `( ts`: the reader is in the list loop, in front of what follows, with `G` fuel or more -/
theorem nextDatum_open {ts : List Token} {ds : List Datum} {rest : List Token}
    (h : ParsesSeq ts ds rest) {s : PState} {lp : LToken} {lts lrest : List LToken}
    (hp : lp.tok = .lparen) (hl : lts.map (·.tok) = ts) (hs : s.toks = lp :: (lts ++ lrest))
    (G : Nat) (hG : 1 ≤ G) (hG' : G ≤ 7) :
    ∃ fuel' acc' s2, G ≤ fuel' ∧ s2.toks = lrest ∧
      nextDatum s = (do let (d, s') ← listLoop fuel' s2 lp.loc acc' false; pure (some d, s')) := by
  obtain ⟨fuel', acc', s2, g1, g2, -, g4, -⟩ := (loopOK_of_seq h).1 G (4 * (lts ++ lrest).length + 7)
    { s with toks := lts ++ lrest, cur := some lp, loc := lp.loc } lts lrest lp.loc (.nil none) []
    hG (by rw [← hl, List.length_map, List.length_append]; omega) hl rfl rfl
  refine ⟨fuel', acc', s2, g1, g4, ?_⟩
  rw [nextDatum_cons hs, cur_succ _ _ lp rfl]
  simp only [hp]
  rw [g2]

end Ruschm.ReadSpec

/-! ## any property the reader's constructions keep -/

namespace Ruschm.Read
open ReadSpec
variable {P : LToken → Prop} {L : Loc → Prop} {Q A : Datum → Prop}

theorem inv_nextDatum (C : Closed P L Q A) {s s' : PState} {od : Option Datum}
    (h : nextDatum s = .ok (od, s')) (hs : ∀ t ∈ s.toks, P t) :
    (∀ t ∈ s'.toks, P t) ∧ (∀ t, s'.cur = some t → P t) ∧ ∀ d, od = some d → Q d := by
  obtain ⟨used, ht, -, hd⟩ := nextDatum_sound h
  rw [ht, List.forall_mem_append] at hs
  refine ⟨hs.2, fun t hc => ?_, fun d e => ((hd d e).2.1 C hs.1).1⟩
  cases od with
  | none => rw [(nextDatum_none h).2.2] at hc; cases hc
  | some d => exact ((hd d rfl).2.1 (L := L) C hs.1).2.2 t hc

theorem allAux_inv {I : PState → Prop} {Q : Datum → Prop} {E : SErr → Prop}
    (step : ∀ {s v}, nextDatum s = .ok v → I s → I v.2 ∧ ∀ d, v.1 = some d → Q d)
    (err : ∀ {s e}, nextDatum s = .error e → E e) : ∀ (fuel : Nat) (s : PState) (acc : List Datum), I s →
    (∀ d ∈ acc, Q d) → (∀ d ∈ (allAux fuel s acc).1, Q d) ∧ ∀ e, (allAux fuel s acc).2 = some e → E e
  | 0, s, acc, _, hacc => ⟨by simpa [allAux] using hacc, by simp [allAux]⟩
  | fuel + 1, s, acc, hs, hacc => by
    rw [allAux]
    split
    · rename_i e he; exact ⟨by simpa using hacc, fun _ h => by cases h; exact err he⟩
    · exact ⟨by simpa using hacc, nofun⟩
    · rename_i d s' hn
      have := step hn hs
      exact allAux_inv step err fuel s' _ this.1 (List.forall_mem_cons.2 ⟨this.2 _ rfl, hacc⟩)

end Ruschm.Read
