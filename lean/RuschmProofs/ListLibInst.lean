/-
Stores that have a library frame: the bindings of an instance of `(scheme base)` (`libDefs`), the smallest
such store (`libStore`), and `evalLibraryDef` on the generated declarations, which builds one in every
interpreter state that has `(ruschm base)` registered (`libFrame_of_evalLibraryDef`).
-/
import RuschmProofs.ListLibStore

namespace Ruschm.ListLib
open Ruschm Ruschm.Eval Ruschm.ListSpec Ruschm.Store

/-! ## a store with the library frame -/

/-- the bindings of an instance of `(scheme base)` in frame `b` -/
def libDefs (b : Nat) : List (String × Value) :=
  Interp.nativeBase ++ baseDefs.map fun p => (p.1, libProc p.1 b)

theorem libDefs_keys (b : Nat) :
    (libDefs b).map (·.1) = Interp.nativeBase.map (·.1) ++ expectedDefs.map (·.1) := by
  rw [libDefs, baseDefs_eq, List.map_append, List.map_map]; rfl

theorem libDefs_keys_nodup (b : Nat) : ((libDefs b).map (·.1)).Nodup := by
  rw [libDefs_keys]; exact libKeys_nodup

theorem LibFrame.of_defs {σ : Store} {b : Nat} (h : σ.frames[b]? = some { parent := none, defs := libDefs b }) :
    LibFrame σ b := by
  refine ⟨⟨_, h, rfl, fun n hn => ?_, fun bi hbi => ?_⟩⟩
  · apply Assoc.lookup_of_mem_nodup (libDefs_keys_nodup b)
    obtain ⟨p, hp, rfl⟩ := List.mem_map.mp hn
    exact List.mem_append_right _ (List.mem_map.mpr ⟨p, hp, rfl⟩)
  · apply Assoc.lookup_of_mem_nodup (libDefs_keys_nodup b)
    exact List.mem_append_left _ (List.mem_map.mpr ⟨bi, hbi, rfl⟩)

/-- the smallest store with a library frame -/
def libStore : Store := { frames := #[{ parent := none, defs := libDefs 0 }] }

theorem libFrame_libStore : LibFrame libStore 0 := LibFrame.of_defs rfl

/-! ## `evalLibraryDef` on the generated declarations builds a library frame

Stated symbolically, for every interpreter state in which `(ruschm base)` is registered and not yet loaded:
the closed computation `Interp.withStdlib`, which also lexes and parses the text, is not evaluated. -/

section instantiate
open Interp

def expectedLams : List (String × Lambda) :=
  expectedDefs.filterMap fun p => match p.2 with | .lambda lam _ => some (p.1, lam) | _ => none

theorem expectedDefs_lams : expectedDefs = expectedLams.map fun p => (p.1, .lambda p.2 none) := by rfl

theorem libDefs_eq (b : Nat) : libDefs b = nativeBase ++ expectedLams.map fun p => (p.1, .closure p.2 b) := by
  unfold libDefs
  rw [baseDefs_eq, expectedDefs_lams, List.map_map]
  exact congrArg _ (List.map_congr_left fun p hp =>
    congrArg (Prod.mk p.1) (libProc_of_mem (expectedDefs_lams ▸ List.mem_map_of_mem hp) b))

/-- fuel: `evalStatements` spends one unit per statement, and the last definition two more (`evalExprOrDef`,
`evalExpr`) -/
theorem evalStatements_lams (ρ : Nat) : ∀ (lams : List (String × Lambda)) (fuel : Nat) (st : State),
    lams.length + 2 ≤ fuel →
    evalStatements fuel st ρ (lams.map fun p => .definition (.mk p.1 (.lambda p.2 none) none)) =
      (.ok (), { st with
        store := List.foldl (fun σ p => σ.define ρ p.1 p.2) st.store (lams.map fun p => (p.1, Value.closure p.2 ρ)) })
  | [], fuel, st, h => by
    obtain ⟨k, rfl⟩ := Nat.exists_eq_add_of_le' (Nat.le_of_add_left_le h)
    simp [evalStatements]
  | p :: lams, fuel, st, h => by
    obtain ⟨k, rfl⟩ := Nat.exists_eq_add_of_le' (Nat.le_of_add_left_le h)
    simp only [List.map_cons, evalStatements, evalExprOrDef, evalExpr, List.foldl_cons]
    rw [evalStatements_lams ρ lams (k + 1) _ (Nat.succ_le_succ (Nat.le_of_add_le_add_right h))]

/-- fuel 4: one unit each for `evalImport`, `evalImportSets`, `evalImportSet`, `getLibrary` -/
theorem evalImport_native (st : State) (ρ : Nat) (fuel : Nat) (hfuel : 4 ≤ fuel) {lib : LibName}
    {nat : List (String × Value)} (hnd : (nat.map (·.1)).Nodup)
    (h₁ : libLookup st.instances lib = none)
    (h₂ : libLookup st.factories lib = some (.native nat))
    (h₃ : st.inProgress.contains lib = false) :
    ∃ st', evalImport fuel st [.direct lib none] ρ = (.ok (), st') ∧
      st'.store = nat.foldl (fun σ p => σ.define ρ p.1 p.2) st.store := by
  obtain ⟨k, rfl⟩ := Nat.exists_eq_add_of_le' hfuel
  simp only [evalImport, evalImportSets, evalImportSet, h₃, getLibrary, h₁, h₂, Bool.false_eq_true, if_false]
  -- merging the natives into the (empty) import map: the names are distinct, no conflict test is reached
  rw [Assoc.foldlM_merge_fresh ?_ nat [] hnd]
  · exact ⟨_, rfl, rfl⟩
  · exact fun a p h => by simp only [h]

theorem foldlM_error_elim {α β} {F : β → α → Except SErr β} {xs : List α} {acc : β} {e : SErr}
    (h : xs.foldlM F acc = .error e) : ∃ acc', ∃ x ∈ xs, ∃ e', F acc' x = .error e' :=
  (foldlM_post (P := fun _ => True) (E := fun _ => ∃ acc', ∃ x ∈ xs, ∃ e', F acc' x = .error e') xs acc trivial
    fun b _ a ha => ⟨fun _ _ => trivial, fun e he => ⟨b, a, ha, e, he⟩⟩).2 e h

theorem exportNames_bound : ∀ n ∈ exportNames, n ∈ nativeBase.map (·.1) ++ expectedDefs.map (·.1) := by
  decide +kernel

/-- fuel: `evalLibDecls` spends one unit per declaration, so the import runs at `fuel - 1` (needs 4) and the `begin`
body at `fuel - 3` (needs the 31 definitions plus 2); 39 is enough, not the least -/
theorem evalLibDecls_base (st : State) (ρ : Nat) (fuel : Nat) (hfuel : 39 ≤ fuel)
    (h₁ : libLookup st.instances libRuschmBase = none)
    (h₂ : libLookup st.factories libRuschmBase = some (.native nativeBase))
    (h₃ : st.inProgress.contains libRuschmBase = false) :
    ∃ st', evalLibDecls fuel st ρ expectedDecls [] = (.ok (exportNames.map (ExportSpec.direct · none)), st') ∧
      st'.store = List.foldl (fun σ p => σ.define ρ p.1 p.2) st.store
        (nativeBase ++ expectedLams.map fun p => (p.1, Value.closure p.2 ρ)) := by
  obtain ⟨k, rfl⟩ := Nat.exists_eq_add_of_le' hfuel
  obtain ⟨st₁, hi₁, hs₁⟩ := evalImport_native st ρ (k + 38) (by omega) (List.nodup_append.mp libKeys_nodup).1 h₁ h₂ h₃
  simp only [expectedDecls, evalLibDecls, hi₁, List.nil_append]
  rw [expectedDefs_lams, List.map_map]
  have hst := evalStatements_lams ρ expectedLams (k + 36) st₁ (by
    have : expectedLams.length = 31 := by rfl
    omega)
  simp only [Function.comp_def] at hst ⊢
  rw [hst]
  exact ⟨_, rfl, by rw [hs₁, List.foldl_append]⟩

/-- fuel 40: one unit for `evalLibraryDef`, then `evalLibDecls_base` -/
theorem libFrame_of_evalLibraryDef (st : State) (fuel : Nat) (hfuel : 40 ≤ fuel)
    (h₁ : libLookup st.instances libRuschmBase = none)
    (h₂ : libLookup st.factories libRuschmBase = some (.native nativeBase))
    (h₃ : st.inProgress.contains libRuschmBase = false) :
    ∃ exports st', evalLibraryDef fuel st libDecls = (.ok exports, st') ∧
      LibFrame st'.store st.store.frames.size ∧
      st'.store.frames[st.store.frames.size]? = some { parent := none, defs := libDefs st.store.frames.size } ∧
      st.store.Ext st'.store := by
  obtain ⟨k, rfl⟩ := Nat.exists_eq_add_of_le' hfuel
  obtain ⟨st', hd, hs'⟩ := evalLibDecls_base { st with store := (st.store.newFrame none).2 }
    (st.store.newFrame none).1 (k + 39) (by omega) h₁ h₂ h₃
  rw [libDecls_eq]
  simp only [evalLibraryDef]
  rw [hd]
  simp only
  -- the store after the natives and the definitions: the new frame holds `libDefs`
  have hs'' : st'.store =
      { st.store with frames := st.store.frames.push { parent := none, defs := libDefs st.store.frames.size } } := by
    have hnd := libDefs_keys_nodup st.store.frames.size
    rw [libDefs_eq] at hnd ⊢
    rw [← List.nil_append (nativeBase ++ _), ← Assoc.foldl_defsInsert_fresh _ [] (by simpa using hnd)]
    exact hs'.trans (foldl_define_push st.store _ ⟨none, []⟩)
  have hframe : st'.store.frames[st.store.frames.size]? =
      some { parent := none, defs := libDefs st.store.frames.size } := by
    rw [hs'']; exact Array.getElem?_push_size
  have hlib := LibFrame.of_defs hframe
  have hbound : ∀ n ∈ exportNames, ∃ v, st'.store.lookup st.store.frames.size n = some v := fun n hn => by
    have hk : n ∈ (libDefs st.store.frames.size).map (·.1) := by
      rw [libDefs_keys]; exact exportNames_bound n hn
    obtain ⟨v, hv, -⟩ := Assoc.lookup_of_mem_keys hk
    exact ⟨v, by rw [lookup_of_frame hframe, hv]⟩
  have hext : st.store.Ext st'.store := hs'' ▸ ext_push st.store _
  generalize hres : List.foldlM (m := Except SErr) (s := List (String × Value)) _ _ _ = res
  cases res with
  | ok l => exact ⟨l, st', rfl, hlib, hframe, hext⟩
  | error e =>
    exfalso
    obtain ⟨acc', x, hx, e', he⟩ := foldlM_error_elim hres
    obtain ⟨n, hn, rfl⟩ := List.mem_map.mp hx
    obtain ⟨v, hv⟩ := hbound n hn
    simp [Store.newFrame, hv] at he

end instantiate

end Ruschm.ListLib
