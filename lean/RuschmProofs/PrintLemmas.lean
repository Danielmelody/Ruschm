/-
What `display` prints reads back. A value is `Readable` if it is built from printable atoms, pairs and vectors of the
store nested without a cycle; the specification computes `Readable` and `datumOf` level by level, descending at most
`vecs.size` levels into vectors. `readable_rec` presents the datum of a readable value as the relation its
constructors generate, and every later theorem - what `display` prints, what `readLiteral` makes of the datum, that
equal values have the same datum - is one use of it with a bullet per constructor. That the levels stabilise (a
pigeonhole count over the cells) is needed only to prove that `Readable` is the inductive `ReadableI` and that every
sufficient level gives the same datum.
-/
import RuschmSpec.Print
import RuschmProofs.ReadLemmas
import RuschmProofs.EvalTextForms
import RuschmProofs.LitHom
import RuschmProofs.StoreLemmas
import RuschmProofs.DatumLemmas

namespace Ruschm.Print
open Ruschm Ruschm.Text Ruschm.Lex

/-! ## the printer's layout -/

theorem interleave_lay (o : Bool) (ts : List Token) : interleave ts (lay o ts) = layText o ts := by
  induction ts generalizing o with
  | nil => rfl
  | cons t ts ih => simp [interleave, lay, layText, ih]

theorem layText_append (o : Bool) (xs ys : List Token) (t : Token) :
    layText o (xs ++ t :: ys)
      = layText o xs ++ layText ((xs.getLast?.map opens).getD o) (t :: ys) := by
  induction xs generalizing o with
  | nil => simp [layText]
  | cons x xs ih =>
    simp only [List.cons_append, layText, ih, List.append_assoc]
    cases xs <;> simp [List.getLast?]

/-- tokens of the cdr chain of a list, up to and including the closing parenthesis (`Text.tailToks`, of
`ReadLemmas`, is the same for the tail of a syntax tree) -/
def tailToks (d : Datum) : List Token :=
  Syn.toksL (Syn.ofTail d).1 ++ Text.tailToks (Syn.ofTail d).2

theorem toks_ofDatum_pair (a d : Datum) (l : Loc) :
    (Syn.ofDatum (.pair a d l)).toks = .lparen :: ((Syn.ofDatum a).toks ++ tailToks d) := by
  simp only [Syn.ofDatum, tailToks]
  split <;> rename_i h <;> simp [Syn.toks, Syn.toksL, h, Text.tailToks]

theorem tailToks_pair (a d : Datum) (l : Loc) :
    tailToks (.pair a d l) = (Syn.ofDatum a).toks ++ tailToks d := by
  simp [tailToks, Syn.ofTail, Syn.toksL]

theorem tailToks_nil (l : Loc) : tailToks (.nil l) = [.rparen] := by
  simp [tailToks, Syn.ofTail, Syn.toksL, Text.tailToks]

theorem tailToks_prim (p : Prim) (l : Loc) :
    tailToks (.prim p l) = [.period, .prim p, .rparen] := by
  simp [tailToks, Syn.ofTail, Syn.toksL, Text.tailToks, Syn.toks]

theorem tailToks_sym (s : String) (l : Loc) :
    tailToks (.sym s l) = [.period, .ident s, .rparen] := by
  simp [tailToks, Syn.ofTail, Syn.toksL, Text.tailToks, Syn.toks]

theorem tailToks_vec (xs : List Datum) (l : Loc) :
    tailToks (.vec xs l)
      = .period :: .vecIntro :: (Syn.toksL (Syn.ofDatums xs) ++ [.rparen, .rparen]) := by
  simp [tailToks, Syn.ofTail, Syn.toksL, Text.tailToks, Syn.toks]

/-- the separator the printer puts before a datum -/
def pre (o : Bool) : List Char := if o then [] else [' ']

mutual
theorem layText_datum : (d : Datum) → (o : Bool) → (more : List Token) →
    layText o ((Syn.ofDatum d).toks ++ more) = pre o ++ (showDatum d ++ layText false more)
  | .prim _ _, o, more | .sym _ _, o, more => by
    cases o <;> simp [Syn.ofDatum, Syn.toks, layText, sep, pre, showDatum, opens]
  | .nil _, o, more => by
    cases o <;> simp [Syn.ofDatum, Syn.toks, Syn.toksL, layText, sep, pre, showDatum, opens,
      renderTok]
  | .vec xs _, o, more => by
    have h := layText_items xs more
    simp only [Syn.ofDatum, Syn.toks, List.cons_append, List.append_assoc, List.nil_append,
      layText, opens, h, showDatum]
    cases o <;> simp [sep, pre, renderTok]
  | .pair a d l, o, more => by
    rw [toks_ofDatum_pair]
    have h1 := layText_datum a true (tailToks d ++ more)
    have h2 := layText_tail d more
    simp only [List.cons_append, List.append_assoc, layText, opens, h1, h2, showDatum]
    cases o <;> simp [sep, pre, renderTok]
theorem layText_tail : (d : Datum) → (more : List Token) →
    layText false (tailToks d ++ more) = showTail d ++ (')' :: layText false more)
  | .nil _, more => by simp [tailToks_nil, layText, sep, showTail, renderTok, opens]
  | .pair a d l, more => by
    rw [tailToks_pair]
    have h1 := layText_datum a false (tailToks d ++ more)
    have h2 := layText_tail d more
    simp [List.append_assoc, h1, h2, showTail, pre]
  | .prim _ _, more | .sym _ _, more => by
    simp [tailToks_prim, tailToks_sym, layText, sep, showTail, renderTok, opens]
  | .vec xs _, more => by
    have h := layText_items xs (.rparen :: more)
    simp only [tailToks_vec, List.cons_append, List.append_assoc, List.nil_append, layText, opens,
      h, showTail]
    simp [sep, renderTok]
theorem layText_items : (xs : List Datum) → (more : List Token) →
    layText true (Syn.toksL (Syn.ofDatums xs) ++ .rparen :: more)
      = showItems xs ++ (')' :: layText false more)
  | [], more => by simp [Syn.ofDatums, Syn.toksL, layText, sep, showItems, renderTok, opens]
  | x :: xs, more => by
    have h1 := layText_datum x true (Syn.toksL (Syn.ofDatums xs) ++ .rparen :: more)
    have h2 := layText_rest xs more
    simp [Syn.ofDatums, Syn.toksL, List.append_assoc, h1, h2, showItems, pre]
theorem layText_rest : (xs : List Datum) → (more : List Token) →
    layText false (Syn.toksL (Syn.ofDatums xs) ++ .rparen :: more)
      = showRest xs ++ (')' :: layText false more)
  | [], more => by simp [Syn.ofDatums, Syn.toksL, layText, sep, showRest, renderTok, opens]
  | x :: xs, more => by
    have h1 := layText_datum x false (Syn.toksL (Syn.ofDatums xs) ++ .rparen :: more)
    have h2 := layText_rest xs more
    simp [Syn.ofDatums, Syn.toksL, List.append_assoc, h1, h2, showRest, pre]
end

theorem renderDatum_printerLayout (d : Datum) : renderDatum d (printerLayout d) = showDatum d := by
  have h := layText_datum d true []
  simp only [List.append_nil, pre, layText] at h
  simp [renderDatum, Syn.render, printerLayout, interleave_lay, h]

theorem followOK_opens (t : Token) (h : opens t = true) (rest : List Char) :
    followOK t rest = true :=
  followOK_selfDelimiting t (by cases t <;> first | rfl | cases h) rest

theorem validGaps_lay (ts : List Token) (o : Bool) (h : ∀ t ∈ ts, t ≠ .unquote) :
    ValidGaps ts (lay o ts) := by
  induction ts generalizing o with
  | nil => simp [lay, ValidGaps, isTrail]
  | cons t ts ih =>
    simp only [lay, ValidGaps]
    refine ⟨?_, ?_, ih _ (List.forall_mem_cons.1 h).2⟩
    · unfold sep; split <;> simp [isAtmos, isWs]
    · cases ts with
      | nil => simpa [lay, gapOK] using (List.forall_mem_cons.1 h).1
      | cons t2 ts' =>
        simp only [lay, List.headD_cons, gapOK, List.head?_cons]
        by_cases ho : opens t = true
        · simp [followOK_opens t ho]
        · by_cases hr : t2 = .rparen
          · subst hr; simp [renderTok, followOK_rparen t]
          · simp [sep, ho, hr]

/-! ## the defining equations of `display` -/

theorem display_zero (σ : Store) (v : Value) : Prim.display σ 0 v = "…" := rfl
theorem display_int (σ : Store) (f : Nat) (i : Int) :
    Prim.display σ (f + 1) (.num (.int i)) = toString i := rfl
theorem display_rat (σ : Store) (f : Nat) (n d : Int) :
    Prim.display σ (f + 1) (.num (.rat n d)) = toString n ++ "/" ++ toString d := rfl
theorem display_bool (σ : Store) (f : Nat) (b : Bool) :
    Prim.display σ (f + 1) (.bool b) = if b then "#t" else "#f" := by cases b <;> rfl
theorem display_char (σ : Store) (f : Nat) (c : Char) :
    Prim.display σ (f + 1) (.char c) = "#\\" ++ c.toString := rfl
theorem display_sym (σ : Store) (f : Nat) (s : String) : Prim.display σ (f + 1) (.sym s) = s := rfl
theorem display_nil (σ : Store) (f : Nat) : Prim.display σ (f + 1) .nil = "()" := rfl
theorem display_pair (σ : Store) (f : Nat) (a d : Value) :
    Prim.display σ (f + 1) (.pair a d)
      = "(" ++ Prim.display σ f a ++ Prim.displayTail σ f d ++ ")" := rfl
theorem display_vec (σ : Store) (f : Nat) (id : Nat) :
    Prim.display σ (f + 1) (.vec id) = match σ.vecs[id]? with
      | some cell => "#(" ++ " ".intercalate (cell.items.map (Prim.display σ f)) ++ ")"
      | none => "#(?)" := rfl
theorem displayTail_nil (σ : Store) (f : Nat) : Prim.displayTail σ (f + 1) .nil = "" := rfl
theorem displayTail_pair (σ : Store) (f : Nat) (a d : Value) :
    Prim.displayTail σ (f + 1) (.pair a d)
      = " " ++ Prim.display σ f a ++ Prim.displayTail σ f d := rfl
theorem displayTail_atomic (σ : Store) (f : Nat) (v : Value) (h : isAtomic v = true) :
    Prim.displayTail σ (f + 1) v = " . " ++ Prim.display σ f v := by
  cases v <;> first | rfl | simp [isAtomic] at h

/-! ## decimal text -/

theorem toString_nat (n : Nat) : (toString n).toList = showNat n := by
  simp [toString, showNat, Nat.repr]

theorem toString_int (i : Int) : (toString i).toList = showInt i := by
  cases i with
  | ofNat m => simp [toString, Int.repr, showInt, showNat, Nat.repr]
  | negSucc m => simp [toString, Int.repr, showInt, showNat, Nat.repr, Int.negSucc_lt_zero]

theorem toString_posInt (d : Int) (h : 0 < d) : (toString d).toList = showNat d.toNat := by
  rw [toString_int, showInt, if_neg (by omega)]
  congr 1; omega

/-! ## readable values, case by case -/

theorem readableStep_ind {σ : Store} {R : Value → Bool} {M : Value → Prop}
    (int : ∀ i, fitsI32 i = true → M (.num (.int i)))
    (rat : ∀ n d, Num.WF (.rat n d) → M (.num (.rat n d)))
    (bool : ∀ b, M (.bool b)) (char : ∀ c, M (.char c))
    (sym : ∀ s, isPlainIdent s.toList = true → M (.sym s)) (nil : M .nil)
    (pair : ∀ a d, readableStep σ R a = true → readableStep σ R d = true → M a → M d →
      M (.pair a d))
    (vec : ∀ id cell, σ.vecs[id]? = some cell → (∀ x ∈ cell.items, R x = true) → M (.vec id)) :
    ∀ v, readableStep σ R v = true → M v := by
  intro v
  induction v with
  | num x =>
    intro h
    cases x with
    | int i => exact int i h
    | rat n d => exact rat n d (of_decide_eq_true h)
    | real r => cases h
  | bool b => exact fun _ => bool b
  | char c => exact fun _ => char c
  | sym s => exact sym s
  | nil => exact fun _ => nil
  | pair a d iha ihd =>
    intro h
    simp only [readableStep, Bool.and_eq_true] at h
    exact pair a d h.1 h.2 (iha h.1) (ihd h.2)
  | vec id =>
    intro h
    simp only [readableStep] at h
    split at h
    next cell hc => exact vec id cell hc (List.all_eq_true.1 h)
    next => cases h
  | str s | closure l e | builtin b | transformer r | void => exact fun h => nomatch h

/-- The datum of a readable value as the relation its constructors generate: `P v (datumOf σ v)` holds for every
readable `v` as soon as `P` is closed under them. (The items of a vector may be given any data `g` that satisfy `P`.) -/
theorem readable_rec {σ : Store} {P : Value → Datum → Prop}
    (int : ∀ i, fitsI32 i = true → P (.num (.int i)) (.prim (.int i) none))
    (rat : ∀ n d, Num.WF (.rat n d) → P (.num (.rat n d)) (.prim (.rat n d.toNat) none))
    (bool : ∀ b, P (.bool b) (.prim (.bool b) none)) (char : ∀ c, P (.char c) (.prim (.chr c) none))
    (sym : ∀ s, isPlainIdent s.toList = true → P (.sym s) (.sym s none)) (nil : P .nil (.nil none))
    (pair : ∀ a d A D, P a A → P d D → P (.pair a d) (.pair A D none))
    (vec : ∀ id cell (g : Value → Datum), σ.vecs[id]? = some cell → (∀ x ∈ cell.items, P x (g x)) →
      P (.vec id) (.vec (cell.items.map g) none)) :
    ∀ v, Readable σ v → P v (datumOf σ v) := by
  have step : ∀ (R : Value → Bool) (D : Value → Datum), (∀ x, R x = true → P x (D x)) →
      ∀ v, readableStep σ R v = true → P v (datumStep σ D v) := by
    intro R D H
    refine readableStep_ind int rat bool char sym nil (fun a d _ _ ha hd => pair a d _ _ ha hd)
      fun id cell hc hr => ?_
    simp only [datumStep, hc]
    exact vec id cell D hc fun x hx => H x (hr x hx)
  have all : ∀ n v, readableN σ n v = true → P v (datumN σ n v) := by
    intro n
    induction n with
    | zero => exact step _ _ (fun x h => by simp at h)
    | succ n ih => exact step _ _ ih
  exact fun v h => all _ v h

/-! ## more vector levels change nothing -/

theorem readableStep_mono (σ : Store) (R R' : Value → Bool) (D D' : Value → Datum)
    (H : ∀ x, R x = true → R' x = true ∧ D' x = D x) :
    ∀ v, readableStep σ R v = true → readableStep σ R' v = true ∧ datumStep σ D' v = datumStep σ D v := by
  apply readableStep_ind
  · exact fun i h => ⟨h, rfl⟩
  · exact fun n d h => ⟨decide_eq_true h, rfl⟩
  · exact fun _ => ⟨rfl, rfl⟩
  · exact fun _ => ⟨rfl, rfl⟩
  · exact fun s h => ⟨h, rfl⟩
  · exact ⟨rfl, rfl⟩
  · intro a d _ _ iha ihd
    simp only [readableStep, datumStep, Bool.and_eq_true, iha, ihd, and_self]
  · intro id cell hc hr
    simp only [readableStep, datumStep, hc, Datum.vec.injEq, and_true]
    exact ⟨List.all_eq_true.2 fun x hx => (H x (hr x hx)).1, List.map_congr_left fun x hx => (H x (hr x hx)).2⟩

theorem readableN_succ (σ : Store) (n : Nat) :
    ∀ v, readableN σ n v = true → readableN σ (n + 1) v = true ∧ datumN σ (n + 1) v = datumN σ n v := by
  induction n with
  | zero => exact readableStep_mono σ _ _ _ _ (fun x h => by simp at h)
  | succ n ih => exact readableStep_mono σ _ _ _ _ ih

theorem readableN_le (σ : Store) {n m : Nat} (h : n ≤ m) (v : Value)
    (hv : readableN σ n v = true) : readableN σ m v = true ∧ datumN σ m v = datumN σ n v := by
  induction h with
  | refl => exact ⟨hv, rfl⟩
  | step _ ih => exact ⟨(readableN_succ σ _ v ih.1).1, (readableN_succ σ _ v ih.1).2.trans ih.2⟩

theorem datumN_pair (σ : Store) (n : Nat) (a d : Value) :
    datumN σ n (.pair a d) = .pair (datumN σ n a) (datumN σ n d) none := by
  cases n <;> rfl

theorem readableN_pair (σ : Store) (n : Nat) (a d : Value) :
    readableN σ n (.pair a d) = (readableN σ n a && readableN σ n d) := by
  cases n <;> rfl

/-! ## `Readable` is the inductive predicate `ReadableI`: nesting deeper than the number of
cells means a cycle -/

theorem readableI_of_readable (σ : Store) : ∀ v, Readable σ v → ReadableI σ v := by
  refine readable_rec (P := fun v _ => ReadableI σ v) .int .rat .bool .char .sym .nil
    (fun _ _ _ _ iha ihd => .pair iha ihd) fun id cell _ hc H => .vec hc ?_
  generalize cell.items = items at H
  induction items with
  | nil => exact .nil
  | cons x xs ih => exact .cons (List.forall_mem_cons.1 H).1 (ih (List.forall_mem_cons.1 H).2)

mutual
theorem readableN_of_readableI (σ : Store) : ∀ {v : Value}, ReadableI σ v →
    ∃ n, readableN σ n v = true
  | _, .int i h => ⟨0, h⟩
  | _, .rat n d h => ⟨0, decide_eq_true h⟩
  | _, .bool b => ⟨0, rfl⟩
  | _, .char c => ⟨0, rfl⟩
  | _, .sym s h => ⟨0, h⟩
  | _, .nil => ⟨0, rfl⟩
  | _, .pair ha hd => by
    obtain ⟨n, hn⟩ := readableN_of_readableI σ ha
    obtain ⟨m, hm⟩ := readableN_of_readableI σ hd
    refine ⟨max n m, ?_⟩
    rw [readableN_pair, Bool.and_eq_true]
    exact ⟨(readableN_le σ (Nat.le_max_left n m) _ hn).1, (readableN_le σ (Nat.le_max_right n m) _ hm).1⟩
  | _, .vec (cell := cell) hc hs => by
    obtain ⟨n, hn⟩ := readableNs_of_readableIs σ hs
    refine ⟨n + 1, ?_⟩
    simp only [readableN, readableStep, hc]
    exact List.all_eq_true.2 hn
theorem readableNs_of_readableIs (σ : Store) : ∀ {vs : List Value}, ReadableIs σ vs →
    ∃ n, ∀ x ∈ vs, readableN σ n x = true
  | _, .nil => ⟨0, by simp⟩
  | _, .cons hx hxs => by
    obtain ⟨n, hn⟩ := readableN_of_readableI σ hx
    obtain ⟨m, hm⟩ := readableNs_of_readableIs σ hxs
    exact ⟨max n m, List.forall_mem_cons.2 ⟨(readableN_le σ (Nat.le_max_left n m) _ hn).1,
      fun y hy => (readableN_le σ (Nat.le_max_right n m) _ (hm y hy)).1⟩⟩
end

theorem stab_step (σ : Store) (k : Nat)
    (H : ∀ id, readableN σ (k + 1) (.vec id) = readableN σ k (.vec id)) :
    readableN σ (k + 1) = readableN σ k := by
  funext x
  induction x with
  | pair a d iha ihd => rw [readableN_pair, readableN_pair, iha, ihd]
  | vec id => exact H id
  | num y => cases k <;> cases y <;> rfl
  | _ => cases k <;> rfl

/-- each level is `readableStep` of the one before -/
theorem stab_all (σ : Store) (k : Nat) (H : readableN σ (k + 1) = readableN σ k) :
    ∀ j, readableN σ (k + j) = readableN σ k
  | 0 => rfl
  | j + 1 => by
    show readableStep σ (readableN σ (k + j)) = _
    rw [stab_all σ k H j]; exact H

theorem subset_of_countP_eq {α} {p q : α → Bool} {l : List α} (hpq : ∀ x ∈ l, p x = true → q x = true)
    (hc : l.countP p = l.countP q) : ∀ x ∈ l, q x = true → p x = true := by
  have h : (l.filter q).countP p = (l.filter q).length := by
    rw [List.countP_filter, ← List.countP_eq_length_filter, ← hc]
    exact List.countP_congr fun x hx => by
      rw [Bool.and_eq_true]; exact ⟨fun h => h.1, fun h => ⟨h, hpq x hx h⟩⟩
  exact fun x hx hq => List.countP_eq_length.mp h x (List.mem_filter.mpr ⟨hx, hq⟩)

/-- number of cells whose vector is readable at level `k` -/
def lvlCount (σ : Store) (k : Nat) : Nat :=
  (List.range σ.vecs.size).countP (fun id => readableN σ k (.vec id))

theorem lvlCount_le (σ : Store) (k : Nat) : lvlCount σ k ≤ σ.vecs.size :=
  List.length_range (n := σ.vecs.size) ▸ List.countP_le_length

theorem lvlCount_mono (σ : Store) (k : Nat) : lvlCount σ k ≤ lvlCount σ (k + 1) :=
  List.countP_mono_left (fun _ _ h => (readableN_succ σ k _ h).1)

theorem readableN_vec_oob (σ : Store) (k id : Nat) (h : σ.vecs.size ≤ id) :
    readableN σ k (.vec id) = false := by
  have : σ.vecs[id]? = none := Array.getElem?_eq_none h
  cases k <;> simp [readableN, readableStep, this]

theorem stable_of_count (σ : Store) (k : Nat) (h : lvlCount σ k = lvlCount σ (k + 1)) :
    readableN σ (k + 1) = readableN σ k := by
  refine stab_step σ k fun id => ?_
  rcases Nat.lt_or_ge id σ.vecs.size with hid | hid
  · exact Bool.eq_iff_iff.mpr ⟨subset_of_countP_eq (fun i _ h => (readableN_succ σ k _ h).1) h id (List.mem_range.2 hid),
      fun h => (readableN_succ σ k _ h).1⟩
  · rw [readableN_vec_oob σ _ id hid, readableN_vec_oob σ _ id hid]

/-- pigeonhole: the count grows with the level and is at most the number of cells, so one of the first levels makes
no further vector readable -/
theorem exists_stable (σ : Store) : ∃ k, k ≤ σ.vecs.size ∧ lvlCount σ k = lvlCount σ (k + 1) := by
  apply Classical.byContradiction
  intro hne
  have grow : ∀ m, m ≤ σ.vecs.size + 1 → m ≤ lvlCount σ m := by
    intro m
    induction m with
    | zero => intro _; exact Nat.zero_le _
    | succ m ih =>
      intro hm
      have h1 := ih (by omega)
      have h2 := lvlCount_mono σ m
      have h3 : lvlCount σ m ≠ lvlCount σ (m + 1) := fun he => hne ⟨m, by omega, he⟩
      omega
  have := grow (σ.vecs.size + 1) (Nat.le_refl _)
  have := lvlCount_le σ (σ.vecs.size + 1)
  omega

theorem readableN_size (σ : Store) (n : Nat) (v : Value) (h : readableN σ n v = true) :
    readableN σ σ.vecs.size v = true := by
  rcases Nat.le_total n σ.vecs.size with hn | hn
  · exact (readableN_le σ hn v h).1
  · obtain ⟨k, hk, hc⟩ := exists_stable σ
    have hs := stab_all σ k (stable_of_count σ k hc)
    have e := hs (n - k)
    rw [Nat.add_sub_cancel' (Nat.le_trans hk hn)] at e
    rw [e] at h
    exact (readableN_le σ hk v h).1

theorem readable_iff_readableI (σ : Store) (v : Value) : Readable σ v ↔ ReadableI σ v :=
  ⟨readableI_of_readable σ v, fun h => by
    obtain ⟨n, hn⟩ := readableN_of_readableI σ h
    exact readableN_size σ n v hn⟩

/-! ## the datum does not depend on the level -/

theorem datumOf_eq_datumN (σ : Store) (n : Nat) (v : Value) (h : readableN σ n v = true) :
    datumN σ n v = datumOf σ v := by
  unfold datumOf
  rcases Nat.le_total n σ.vecs.size with hn | hn
  · exact (readableN_le σ hn v h).2.symm
  · exact (readableN_le σ hn v (readableN_size σ n v h)).2

/-! ## `datumOf` and `Readable` on pairs, lists and atoms -/

theorem datumOf_pair (σ : Store) (a d : Value) :
    datumOf σ (.pair a d) = .pair (datumOf σ a) (datumOf σ d) none := datumN_pair σ _ a d

theorem readable_pair (σ : Store) (a d : Value) : Readable σ (.pair a d) ↔ Readable σ a ∧ Readable σ d := by
  simp only [Readable, readableN_pair, Bool.and_eq_true]

theorem readable_vec (σ : Store) (id : Nat) (h : Readable σ (.vec id)) :
    ∃ cell, σ.vecs[id]? = some cell ∧ (∀ x ∈ cell.items, Readable σ x) ∧
      datumOf σ (.vec id) = .vec (cell.items.map (datumOf σ)) none := by
  unfold Readable datumOf at *
  cases hs : σ.vecs.size with
  | zero => rw [hs, readableN_vec_oob σ 0 id (by omega)] at h; cases h
  | succ n =>
    simp only [hs, readableN, readableStep] at h
    split at h
    next cell hc =>
      have hx := fun x hx' => readableN_succ σ n x (List.all_eq_true.1 h x hx')
      refine ⟨cell, hc, fun x hx' => (hx x hx').1, ?_⟩
      simp only [datumN, datumStep, hc]
      exact congrArg (Datum.vec · none) (List.map_congr_left fun x hx' => (hx x hx').2.symm)
    next => cases h

/-- a value that is neither a pair nor a vector is looked at on the first level only -/
theorem datumOf_atom (σ : Store) {v : Value} (ha : isAtomic v = true) (hn : ∀ id, v ≠ .vec id) :
    datumOf σ v = datumStep σ (fun _ => .nil none) v ∧
      (Readable σ v ↔ readableStep σ (fun _ => false) v = true) := by
  have key : ∀ n, datumN σ n v = datumStep σ (fun _ => .nil none) v ∧
      readableN σ n v = readableStep σ (fun _ => false) v := by
    intro n
    cases v with
    | num x => cases n <;> cases x <;> exact ⟨rfl, rfl⟩
    | pair a d => simp [isAtomic] at ha
    | vec id => exact absurd rfl (hn id)
    | _ => cases n <;> exact ⟨rfl, rfl⟩
  exact ⟨(key _).1, by unfold Readable; rw [(key _).2]⟩

theorem datumOf_num {σ : Store} {x : Num} (hv : Readable σ (.num x)) : ∃ p, datumOf σ (.num x) = .prim p none := by
  obtain ⟨e, hr⟩ := datumOf_atom σ (v := .num x) rfl nofun
  rw [e]
  cases x <;> first | exact ⟨_, rfl⟩ | cases hr.1 hv

theorem datumOf_nil (σ : Store) : datumOf σ .nil = .nil none := by
  unfold datumOf; cases σ.vecs.size <;> rfl

theorem datumOf_consTail (σ : Store) (xs : List Value) (t : Value) :
    datumOf σ (consTail xs t) = (xs.map (datumOf σ)).foldr (fun x acc => .pair x acc none) (datumOf σ t) := by
  induction xs with
  | nil => rfl
  | cons x xs ih => rw [List.map_cons, List.foldr_cons, ← ih]; exact datumOf_pair σ x _

theorem readable_consTail (σ : Store) (xs : List Value) (t : Value) :
    Readable σ (consTail xs t) ↔ (∀ x ∈ xs, Readable σ x) ∧ Readable σ t := by
  induction xs with
  | nil => simp [consTail]
  | cons x xs ih =>
    rw [List.forall_mem_cons, and_assoc, ← ih]; exact readable_pair σ x _

theorem datumOf_ofList (σ : Store) (xs : List Value) :
    datumOf σ (Value.ofList xs) = Datum.ofList none (xs.map (datumOf σ)) := by
  induction xs with
  | nil => exact datumOf_nil σ
  | cons x xs ih => rw [Value.ofList, datumOf_pair, ih]; rfl

/-! ## `display` on readable values -/

theorem showItems_eq : ∀ ds : List Datum, showItems ds = [' '].intercalate (ds.map showDatum)
  | [] => rfl
  | [d] => by simp [showItems, showRest, List.intercalate]
  | d :: e :: ds => by
    have ih := showItems_eq (e :: ds)
    rw [showItems] at ih ⊢
    rw [showRest, ih, List.intercalate, List.intercalate, List.map_cons, List.map_cons, List.map_cons,
      List.intersperse_cons_cons, List.flatten_cons, List.flatten_cons]
    rfl

def datumAtomic : Datum → Bool
  | .pair _ _ _ | .nil _ => false
  | _ => true

theorem showTail_atomic {D : Datum} (h : datumAtomic D = true) :
    showTail D = ' ' :: '.' :: ' ' :: showDatum D := by
  cases D <;> simp_all [datumAtomic, showTail, showDatum]

theorem display_atom {σ : Store} {v : Value} {D : Datum} (hv : isAtomic v = true)
    (hD : datumAtomic D = true)
    (h : ∀ g, D.size ≤ g + 1 → (Prim.display σ (g + 1) v).toList = showDatum D) (f : Nat) :
    (D.size ≤ f → (Prim.display σ f v).toList = showDatum D) ∧
      (D.size + 1 ≤ f → (Prim.displayTail σ f v).toList = showTail D) := by
  have hs := Datum.size_pos D
  constructor <;> intro hf
  · obtain ⟨g, rfl⟩ := Nat.exists_eq_add_one.2 (Nat.lt_of_lt_of_le hs hf)
    exact h g hf
  · obtain ⟨g, rfl⟩ := Nat.exists_eq_add_of_le' (show 2 ≤ f from Nat.le_trans (Nat.succ_le_succ hs) hf)
    rw [displayTail_atomic _ _ _ hv, showTail_atomic hD, String.toList_append, h g (Nat.le_of_succ_le_succ hf)]
    rfl

theorem display_readable (σ : Store) : ∀ v, Readable σ v → ∀ f,
    ((datumOf σ v).size ≤ f → (Prim.display σ f v).toList = showDatum (datumOf σ v)) ∧
    ((datumOf σ v).size + 1 ≤ f → (Prim.displayTail σ f v).toList = showTail (datumOf σ v)) := by
  apply readable_rec (P := fun v D => ∀ f,
    (D.size ≤ f → (Prim.display σ f v).toList = showDatum D) ∧
    (D.size + 1 ≤ f → (Prim.displayTail σ f v).toList = showTail D))
  · exact fun i _ => display_atom rfl rfl (fun g _ => by rw [display_int, toString_int]; rfl)
  · intro n d hw
    refine display_atom rfl rfl (fun g _ => ?_)
    rw [display_rat, String.toList_append, String.toList_append, toString_int,
      toString_posInt d hw.2.2.1]
    simp [showDatum, renderTok]
  · intro b
    refine display_atom rfl rfl (fun g _ => ?_)
    rw [display_bool]
    cases b <;> simp [showDatum, renderTok]
  · intro c
    refine display_atom rfl rfl (fun g _ => ?_)
    rw [display_char]
    simp [showDatum, renderTok]
  · intro s hp
    refine display_atom rfl rfl (fun g _ => ?_)
    rw [display_sym]
    simp [showDatum, renderTok, hp]
  · intro f
    constructor <;> intro hf <;> obtain ⟨f, rfl⟩ := Nat.exists_eq_add_one.2 (Nat.zero_lt_of_lt hf)
    · rw [display_nil]; simp [showDatum]
    · rw [displayTail_nil]; simp [showTail]
  · intro a d A D iha ihd f
    have sa := Datum.size_pos A
    have sd := Datum.size_pos D
    simp only [Datum.size]
    cases f with
    | zero => exact ⟨fun hf => by omega, fun hf => by omega⟩
    | succ f =>
      have h1 := (iha f).1; have h2 := (ihd f).2
      exact ⟨fun hf => by rw [display_pair]; simp [showDatum, h1 (by omega), h2 (by omega)],
        fun hf => by rw [displayTail_pair]; simp [showTail, h1 (by omega), h2 (by omega)]⟩
  · intro id cell g hc H
    refine display_atom rfl rfl (fun f hf => ?_)
    simp only [Datum.size] at hf
    have key : cell.items.map (fun x => (Prim.display σ f x).toList) = cell.items.map fun x => showDatum (g x) :=
      List.map_congr_left fun x hx =>
        (H x hx f).1 (Nat.le_trans (Datum.size_le_sizeList (List.mem_map_of_mem hx)) (by omega))
    rw [display_vec]
    simp [hc, showDatum, showItems_eq, String.toList_intercalate, List.map_map, Function.comp_def, key]

/-! ## the printer's layout is valid, the data of readable values are supported -/

mutual
theorem toks_noUnquote : (d : Datum) → ∀ t ∈ (Syn.ofDatum d).toks, t ≠ .unquote
  | .prim _ _ | .sym _ _ | .nil _ => by simp [Syn.ofDatum, Syn.toks, Syn.toksL]
  | .vec xs _ => by
    simp only [Syn.ofDatum, Syn.toks, List.forall_mem_cons, List.forall_mem_append]
    exact ⟨Token.noConfusion, toksL_noUnquote xs, Token.noConfusion, fun _ h => nomatch h⟩
  | .pair a d l => by
    rw [toks_ofDatum_pair, List.forall_mem_cons, List.forall_mem_append]
    exact ⟨Token.noConfusion, toks_noUnquote a, tailToks_noUnquote d⟩
theorem tailToks_noUnquote : (d : Datum) → ∀ t ∈ tailToks d, t ≠ .unquote
  | .nil _ | .prim _ _ | .sym _ _ => by simp [tailToks_nil, tailToks_prim, tailToks_sym]
  | .vec xs _ => by
    simp only [tailToks_vec, List.forall_mem_cons, List.forall_mem_append]
    exact ⟨Token.noConfusion, Token.noConfusion, toksL_noUnquote xs, Token.noConfusion, Token.noConfusion,
      fun _ h => nomatch h⟩
  | .pair a d l => by
    rw [tailToks_pair, List.forall_mem_append]
    exact ⟨toks_noUnquote a, tailToks_noUnquote d⟩
theorem toksL_noUnquote : (xs : List Datum) → ∀ t ∈ Syn.toksL (Syn.ofDatums xs), t ≠ .unquote
  | [] => fun _ h => nomatch h
  | x :: xs => by
    rw [Syn.ofDatums, Syn.toksL, List.forall_mem_append]
    exact ⟨toks_noUnquote x, toksL_noUnquote xs⟩
end

theorem validLayout_printerLayout (d : Datum) (hd : SupportedD d) :
    ValidLayout (Syn.ofDatum d).toks (printerLayout d) :=
  validLayout_of_gaps _ _ (toks_supported _ (ofDatum_supported d hd))
    (validGaps_lay _ true (toks_noUnquote d))

theorem supportedD_readable (σ : Store) : ∀ v, Readable σ v → SupportedD (datumOf σ v) := by
  apply readable_rec
  · exact fun i h => h
  · intro n d hw
    obtain ⟨h1, h2, h3, -, -⟩ := hw
    refine ⟨h1, by omega, ?_⟩
    simp only [fitsI32, Bool.and_eq_true, decide_eq_true_eq] at h2
    omega
  · exact fun _ => trivial
  · exact fun _ => trivial
  · exact fun s h => Or.inl h
  · trivial
  · exact fun a d _ _ iha ihd => ⟨iha, ihd⟩
  · exact fun id cell g _ H => supportedDs_iff.2 (List.forall_mem_map.2 H)

/-! ## the shape of printed lists, for arbitrary values -/

def spaced : List String → String
  | [] => ""
  | x :: xs => " " ++ x ++ spaced xs

theorem intercalate_cons_spaced (a : String) (l : List String) :
    " ".intercalate (a :: l) = a ++ spaced l := by
  induction l generalizing a with
  | nil => simp [spaced]
  | cons b l ih => rw [String.intercalate_cons_cons, ih]; simp [spaced, String.append_assoc]

def endText (σ : Store) (f : Nat) (t : Value) : String :=
  match t with
  | .nil => ""
  | t => " . " ++ Prim.display σ f t

theorem endText_atomic (σ : Store) (f : Nat) {t : Value} (ha : isAtomic t = true) :
    endText σ f t = " . " ++ Prim.display σ f t := by
  cases t <;> first | rfl | simp [isAtomic] at ha

theorem consTail_nil : ∀ xs : List Value, consTail xs .nil = Value.ofList xs
  | [] => rfl
  | x :: xs => congrArg (Value.pair x) (consTail_nil xs)

theorem displayTail_consTail (σ : Store) (f : Nat) (xs : List Value) (t : Value)
    (hx : ∀ x ∈ xs, Enough σ f x) (ht : t = .nil ∨ (isAtomic t = true ∧ Enough σ f t)) :
    ∀ F, f + xs.length < F →
      Prim.displayTail σ F (consTail xs t)
        = spaced (xs.map (Prim.display σ f)) ++ endText σ f t := by
  induction xs with
  | nil =>
    intro F hF
    obtain ⟨g, rfl⟩ := Nat.exists_eq_add_one.2 (Nat.zero_lt_of_lt hF)
    rcases ht with rfl | ⟨ha, he⟩
    · simp [consTail, displayTail_nil, endText, spaced]
    · simp only [List.length_nil, Nat.add_zero] at hF
      simp [consTail, displayTail_atomic _ _ _ ha, endText_atomic σ f ha, spaced, he g (by omega)]
  | cons x xs ih =>
    intro F hF
    obtain ⟨g, rfl⟩ := Nat.exists_eq_add_one.2 (Nat.zero_lt_of_lt hF)
    simp only [List.length_cons] at hF
    have h1 := (List.forall_mem_cons.1 hx).1 g (by omega)
    have h2 := ih (List.forall_mem_cons.1 hx).2 g (by omega)
    simp only [consTail, List.foldr_cons] at h2 ⊢
    rw [displayTail_pair, h1, h2]
    simp [spaced, String.append_assoc]

theorem display_consTail (σ : Store) (f : Nat) (x : Value) (xs : List Value) (t : Value)
    (hx : ∀ y ∈ x :: xs, Enough σ f y) (ht : t = .nil ∨ (isAtomic t = true ∧ Enough σ f t))
    (F : Nat) (hF : f + (x :: xs).length < F) :
    Prim.display σ F (consTail (x :: xs) t)
      = "(" ++ " ".intercalate ((x :: xs).map (Prim.display σ f)) ++ endText σ f t ++ ")" := by
  obtain ⟨g, rfl⟩ := Nat.exists_eq_add_one.2 (Nat.zero_lt_of_lt hF)
  simp only [List.length_cons] at hF
  have h1 := (List.forall_mem_cons.1 hx).1 g (by omega)
  have h2 := displayTail_consTail σ f xs t (List.forall_mem_cons.1 hx).2 ht g (by omega)
  simp only [consTail, List.foldr_cons] at h2 ⊢
  rw [display_pair, h1, h2, List.map_cons, intercalate_cons_spaced]
  simp [String.append_assoc]

/-! ## fuel -/

theorem enough_sym (σ : Store) (s : String) : Enough σ 1 (.sym s) := by
  intro f' hf'
  obtain ⟨g, rfl⟩ := Nat.exists_eq_add_of_le' hf'
  rfl

theorem enough_of_readable (σ : Store) (v : Value) (h : Readable σ v) :
    Enough σ (datumOf σ v).size v := by
  intro f' hf
  apply String.toList_injective
  rw [(display_readable σ v h f').1 hf, (display_readable σ v h _).1 (Nat.le_refl _)]

theorem Enough.mono {σ : Store} {f g : Nat} {v : Value} (h : Enough σ f v) (hfg : f ≤ g) :
    Enough σ g v :=
  fun f' hf' => (h f' (Nat.le_trans hfg hf')).trans (h g hfg).symm

/-! ## the data of values carry no locations -/

theorem strip_step (σ : Store) (recD : Value → Datum) (H : ∀ x, (recD x).strip = recD x) :
    ∀ v, (datumStep σ recD v).strip = datumStep σ recD v := by
  intro v
  induction v with
  | num x => cases x <;> rfl
  | pair a d iha ihd => simp only [datumStep, Datum.strip, iha, ihd]
  | vec id =>
    simp only [datumStep]
    split
    · simp only [Datum.strip, Datum.stripList_eq_map, List.map_map, Function.comp_def, H]
    · rfl
  | _ => rfl

theorem strip_datumN (σ : Store) (n : Nat) : ∀ v, (datumN σ n v).strip = datumN σ n v := by
  induction n with
  | zero => exact strip_step σ _ (fun _ => rfl)
  | succ n ih => exact strip_step σ _ ih

/-! ## `readLiteral` ignores locations and only ever adds cells -/

/-! `LitHom`'s `Eval.readLiteral_strip` and `Eval.readLiterals_strip`, under the names `C16` cites -/

theorem readLiterals_strip : (xs : List Datum) → (τ : Store) →
    Eval.readLiterals τ (Datum.stripList xs) = Eval.readLiterals τ xs := Eval.readLiterals_strip

theorem readLiteral_prim_store (τ : Store) (d : Datum) (p : Prim)
    (h : d.strip = .prim p none) : (Eval.readLiteral τ d).2 = τ := by
  cases d with
  | prim q l =>
    simp only [Eval.readLiteral]
    cases Eval.evalPrim q <;> rfl
  | _ => cases h

theorem extends_of_litStep {τ τ' : Store} (h : Eval.LitStep τ τ') : Extends τ τ' := fun _ _ hc =>
  (h.old_cells (Store.getElem?_some_lt hc)).trans hc

theorem extends_readLiteral {τ τ' : Store} {d : Datum} {r} (h : Eval.readLiteral τ d = (r, τ')) : Extends τ τ' :=
  extends_of_litStep (by have := Eval.readLiteral_litStep τ d; rwa [h] at this)

theorem extends_readLiterals {τ τ' : Store} {ds : List Datum} {r} (h : Eval.readLiterals τ ds = (r, τ')) :
    Extends τ τ' :=
  extends_of_litStep (by
    have := Eval.readLiterals_rel Eval.LitStep.refl Eval.LitStep.trans Eval.LitStep.allocVec ds τ; rwa [h] at this)

/-! ## structural equality is stable under store extension -/

section
variable {σ₁ σ₂ σ₂' : Store} (h : Extends σ₂ σ₂')
include h

theorem EqualV.mono_right {v w : Value} (e : EqualV σ₁ σ₂ v w) : EqualV σ₁ σ₂' v w :=
  e.rec (motive_1 := fun v w _ => EqualV σ₁ σ₂' v w) (motive_2 := fun vs ws _ => EqualVs σ₁ σ₂' vs ws)
    .num .bool .char .str .sym .nil (fun _ _ ha hd => .pair ha hd) (fun h1 h2 _ hs => .vec h1 (h _ _ h2) hs)
    .nil (fun _ _ hx hxs => .cons hx hxs)

theorem EqualVs.mono_right : ∀ {vs ws : List Value}, EqualVs σ₁ σ₂ vs ws → EqualVs σ₁ σ₂' vs ws
  | _, _, .nil => .nil
  | _, _, .cons hx hxs => .cons (hx.mono_right h) hxs.mono_right

end

theorem EqualV.symm {σ₁ σ₂ : Store} {v w : Value} (e : EqualV σ₁ σ₂ v w) : EqualV σ₂ σ₁ w v :=
  e.rec (motive_1 := fun v w _ => EqualV σ₂ σ₁ w v) (motive_2 := fun vs ws _ => EqualVs σ₂ σ₁ ws vs)
    .num .bool .char .str .sym .nil (fun _ _ ha hd => .pair ha hd) (fun h1 h2 _ hs => .vec h2 h1 hs)
    .nil (fun _ _ hx hxs => .cons hx hxs)

theorem EqualVs.symm {σ₁ σ₂ : Store} : ∀ {vs ws : List Value}, EqualVs σ₁ σ₂ vs ws → EqualVs σ₂ σ₁ ws vs
  | _, _, .nil => .nil
  | _, _, .cons hx hxs => .cons hx.symm hxs.symm

theorem EqualV.eq_of_atomic {σ₁ σ₂ : Store} {v w : Value} (h : EqualV σ₁ σ₂ v w) (ha : isAtomic v = true)
    (hn : ∀ id, v ≠ .vec id) : v = w := by
  cases h with
  | vec => exact absurd rfl (hn _)
  | pair => simp [isAtomic] at ha
  | _ => rfl

theorem EqualV.mono_left {σ₁ σ₁' σ₂ : Store} (h : Extends σ₁ σ₁') {v w : Value}
    (e : EqualV σ₁ σ₂ v w) : EqualV σ₁' σ₂ v w :=
  (e.symm.mono_right h).symm

theorem EqualVs.mono_left {σ₁ σ₁' σ₂ : Store} (h : Extends σ₁ σ₁') :
    ∀ {vs ws : List Value}, EqualVs σ₁ σ₂ vs ws → EqualVs σ₁' σ₂ vs ws :=
  fun e => (e.symm.mono_right h).symm

/-! ## reading the datum of a readable value back -/

/-- an instance of `Num.exactRatio_complete`, computed here so that this file does not import `NumLemmas` -/
theorem exactRatio_self_of_wf (n d : Int) (h : Num.WF (.rat n d)) :
    Num.exactRatio n d = .ok (.rat n d) := by
  obtain ⟨h1, h2, h3, h4, h5⟩ := h
  have hs : d.sign = 1 := Int.sign_eq_one_of_pos h3
  simp [Num.exactRatio, h5, hs, h1, h2, h4]

/-- what reading a datum back must deliver; that the store has only grown is `extends_readLiteral` -/
def ReadsBack (σ : Store) (v : Value) (d : Datum) : Prop :=
  ∀ τ : Store, ∃ w τ', Eval.readLiteral τ d = (.ok w, τ') ∧ EqualV σ τ' v w

theorem readLiterals_map (σ : Store) (recD : Value → Datum) (items : List Value)
    (h : ∀ x ∈ items, ReadsBack σ x (recD x)) (τ : Store) :
    ∃ ws τ', Eval.readLiterals τ (items.map recD) = (.ok ws, τ') ∧ EqualVs σ τ' items ws := by
  induction items generalizing τ with
  | nil => exact ⟨[], τ, rfl, .nil⟩
  | cons x xs ih =>
    obtain ⟨w, τ1, e1, q1⟩ := (List.forall_mem_cons.1 h).1 τ
    obtain ⟨ws, τ2, e2, q2⟩ := ih (List.forall_mem_cons.1 h).2 τ1
    refine ⟨w :: ws, τ2, ?_, .cons (q1.mono_right (extends_readLiterals e2)) q2⟩
    simp only [List.map_cons, Eval.readLiterals, e1, e2]

theorem readsBack_readable (σ : Store) : ∀ v, Readable σ v → ReadsBack σ v (datumOf σ v) := by
  apply readable_rec
  · exact fun i _ τ => ⟨_, τ, rfl, .num _⟩
  · intro n d hw τ
    have hd : ((d.toNat : Nat) : Int) = d := Int.toNat_of_nonneg (by have := hw.2.2.1; omega)
    refine ⟨.num (.rat n d), τ, ?_, .num _⟩
    simp only [Eval.readLiteral, Eval.evalPrim, hd, exactRatio_self_of_wf n d hw]
    rfl
  · exact fun b τ => ⟨_, τ, rfl, .bool b⟩
  · exact fun c τ => ⟨_, τ, rfl, .char c⟩
  · exact fun s _ τ => ⟨_, τ, rfl, .sym s⟩
  · exact fun τ => ⟨_, τ, rfl, .nil⟩
  · intro a d A D iha ihd τ
    obtain ⟨wa, τ1, e1, q1⟩ := iha τ
    obtain ⟨wd, τ2, e2, q2⟩ := ihd τ1
    refine ⟨.pair wa wd, τ2, ?_, .pair (q1.mono_right (extends_readLiteral e2)) q2⟩
    simp only [Eval.readLiteral, e1, e2]
  · intro id cell g hc H τ
    obtain ⟨ws, τ1, e1, q1⟩ := readLiterals_map σ g cell.items H τ
    refine ⟨(τ1.allocVec false ws).1, (τ1.allocVec false ws).2, ?_, ?_⟩
    · simp only [Eval.readLiteral, e1]
    · exact .vec (c₂ := ⟨false, ws⟩) hc (by simp [Store.allocVec]) (q1.mono_right (extends_of_litStep (.allocVec τ1 ws)))

/-! ## values with the same datum are structurally equal -/

mutual
theorem EqualV.trans {σ₁ σ₂ σ₃ : Store} : ∀ {u v : Value}, EqualV σ₁ σ₂ u v →
    ∀ {w : Value}, EqualV σ₂ σ₃ v w → EqualV σ₁ σ₃ u w
  | _, _, .num _, _, h | _, _, .bool _, _, h | _, _, .char _, _, h | _, _, .str _, _, h | _, _, .sym _, _, h
  | _, _, .nil, _, h => by cases h; constructor
  | _, _, .pair ha hd, _, h => by
    cases h with
    | pair ha' hd' => exact .pair (ha.trans ha') (hd.trans hd')
  | _, _, .vec h1 h2 hs, _, h => by
    cases h with
    | vec h2' h3 hs' =>
      cases h2.symm.trans h2'
      exact .vec h1 h3 (hs.trans hs')
theorem EqualVs.trans {σ₁ σ₂ σ₃ : Store} : ∀ {us vs : List Value}, EqualVs σ₁ σ₂ us vs →
    ∀ {ws : List Value}, EqualVs σ₂ σ₃ vs ws → EqualVs σ₁ σ₃ us ws
  | _, _, .nil, _, h => by cases h; exact .nil
  | _, _, .cons hx hxs, _, h => by
    cases h with
    | cons hy hys => exact .cons (hx.trans hy) (hxs.trans hys)
end

/-- both values are equal to what reading their common datum back delivers -/
theorem equalV_of_datumOf (σ₁ σ₂ : Store) (v w : Value) (hv : Readable σ₁ v) (hw : Readable σ₂ w)
    (he : datumOf σ₁ v = datumOf σ₂ w) : EqualV σ₁ σ₂ v w := by
  obtain ⟨u, τ, e1, q1⟩ := readsBack_readable σ₁ v hv σ₁
  obtain ⟨u', τ', e2, q2⟩ := readsBack_readable σ₂ w hw σ₁
  rw [he, e2] at e1
  cases e1
  exact q1.trans q2.symm

/-! ## and conversely: equal values have the same datum -/

theorem EqualVs.readableIs_map {σ₁ σ₂ : Store} {f g : Value → Datum} :
    ∀ {xs ys : List Value}, EqualVs σ₁ σ₂ xs ys →
      (∀ x ∈ xs, ∀ y, EqualV σ₁ σ₂ x y → ReadableI σ₂ y ∧ f y = g x) → ReadableIs σ₂ ys ∧ ys.map f = xs.map g
  | _, _, .nil, _ => ⟨.nil, rfl⟩
  | _, _, .cons hx hxs, h => by
    obtain ⟨h1, h2⟩ := List.forall_mem_cons.1 h
    obtain ⟨r, e⟩ := h1 _ hx
    obtain ⟨rs, es⟩ := hxs.readableIs_map h2
    exact ⟨.cons r rs, by rw [List.map_cons, List.map_cons, e, es]⟩

theorem equal_datumOf (σ₁ σ₂ : Store) (v w : Value) (he : EqualV σ₁ σ₂ v w)
    (hv : Readable σ₁ v) : Readable σ₂ w ∧ datumOf σ₂ w = datumOf σ₁ v := by
  suffices h : ∀ v, Readable σ₁ v → ∀ w, EqualV σ₁ σ₂ v w → ReadableI σ₂ w ∧ datumOf σ₂ w = datumOf σ₁ v from
    (h v hv w he).imp_left (readable_iff_readableI σ₂ w).2
  have atom : ∀ {v : Value}, isAtomic v = true → (∀ id, v ≠ .vec id) →
      datumOf σ₂ v = datumStep σ₂ (fun _ => .nil none) v := fun ha hn => (datumOf_atom σ₂ ha hn).1
  refine readable_rec (P := fun v D => ∀ w, EqualV σ₁ σ₂ v w → ReadableI σ₂ w ∧ datumOf σ₂ w = D)
    (fun i h w e => by cases e; exact ⟨.int i h, atom rfl nofun⟩)
    (fun n d h w e => by cases e; exact ⟨.rat n d h, atom rfl nofun⟩)
    (fun b w e => by cases e; exact ⟨.bool b, atom rfl nofun⟩)
    (fun c w e => by cases e; exact ⟨.char c, atom rfl nofun⟩)
    (fun s h w e => by cases e; exact ⟨.sym s h, atom rfl nofun⟩)
    (fun w e => by cases e; exact ⟨.nil, datumOf_nil σ₂⟩) ?_ ?_
  · intro a d A D iha ihd w e
    cases e with
    | pair ea ed =>
      obtain ⟨ra, da⟩ := iha _ ea
      obtain ⟨rd, dd⟩ := ihd _ ed
      exact ⟨.pair ra rd, by rw [datumOf_pair, da, dd]⟩
  · intro id cell g hc H w e
    cases e with
    | vec h1 h2 hs =>
      cases hc.symm.trans h1
      obtain ⟨r, m⟩ := hs.readableIs_map H
      have hr : ReadableI σ₂ (.vec _) := .vec h2 r
      -- the cell `readable_vec` finds is `h2`'s
      obtain ⟨c, hc', -, e⟩ := readable_vec σ₂ _ ((readable_iff_readableI σ₂ _).2 hr)
      cases h2.symm.trans hc'
      exact ⟨hr, e.trans (by rw [m])⟩

/-! ## evaluating `'<text>` -/

theorem toStatement_quote (f : Nat) (d : Datum) (l₁ l₂ l₃ l₄ : Loc) (env : Xform.SynEnv) :
    Xform.toStatement (f + 1) (.pair (.sym "quote" l₁) (.pair d (.nil l₂) l₃) l₄) env
      = (.ok (.expr (.quote d l₄)), env) := by
  unfold Xform.toStatement
  simp [Macro.popProper, Xform.lift, bind, Datum.elems, Datum.spine, Xform.need, pure, Datum.loc]

theorem quote_shape (q D : Datum)
    (h : q.strip = .pair (.sym "quote" none) (.pair D (.nil none) none) none) :
    ∃ d l₁ l₂ l₃ l₄, q = .pair (.sym "quote" l₁) (.pair d (.nil l₂) l₃) l₄ ∧ d.strip = D := by
  cases q with
  | pair a r l₄ =>
    rw [Datum.strip] at h
    injection h with ha hr
    cases a with
    | sym s l₁ =>
      cases ha
      cases r with
      | pair d n l₃ =>
        cases n with
        | nil l₂ => cases hr; exact ⟨d, l₁, l₂, l₃, l₄, rfl, rfl⟩
        | _ => cases hr
      | _ => cases hr
    | _ => cases ha
  | _ => cases h

theorem evalAst_quote (k : Nat) (st : Interp.State) (d : Datum) (l : Loc) (w : Value) (σ' : Store)
    (h : Eval.readLiteral st.store d = (.ok w, σ')) :
    ∃ st', Interp.evalAst (k + 1) st (.expr (.quote d l)) = (.ok (some w), st') ∧
      st'.store = σ' ∧ st'.env = st.env := by
  unfold Interp.evalAst
  cases hi : st.importEnd <;> simp [hi, Interp.evalExprOrDef, Eval.evalExpr, h]

theorem evalText_quote (k : Nat) (st : Interp.State) (D : Datum) (hD : SupportedD D)
    (hs : D.strip = D) (w : Value) (σ' : Store)
    (h : Eval.readLiteral st.store D = (.ok w, σ')) :
    ∃ st', Interp.evalText (k + 1) st ('\'' :: renderDatum D (printerLayout D))
        = (.ok (some w), st') ∧ st'.store = σ' ∧ st'.env = st.env := by
  have hx : (Syn.quote (Syn.ofDatum D)).Supported := ofDatum_supported D hD
  have hl : ValidLayout (Syn.quote (Syn.ofDatum D)).toks ([] :: printerLayout D) := by
    refine ⟨rfl, rfl, validLayout_printerLayout D hD⟩
  have ht : '\'' :: renderDatum D (printerLayout D)
      = interleave (Syn.quote (Syn.ofDatum D)).toks ([] :: printerLayout D) := by
    simp [Syn.toks, interleave, renderTok, renderDatum, Syn.render]
  obtain ⟨r1, r2⟩ := readAll_render [Syn.quote (Syn.ofDatum D)] ⟨hx, trivial⟩ ([] :: printerLayout D)
    (by simpa [Syn.toksL] using hl)
  simp only [Syn.toksL, List.append_nil, ← ht] at r1 r2
  -- the text is one form, `(quote d)` with `d` the datum up to locations
  rw [FrontSpec.evalText_of_read r2]
  obtain ⟨q, hq1, hq⟩ := List.map_eq_singleton_iff.mp r1
  simp only [Syn.denote, ofDatum_denote, hs] at hq
  obtain ⟨d, l₁, l₂, l₃, l₄, rfl, hd⟩ := quote_shape q D hq
  -- `evalForm` runs the statement in `{ st with syn := syn }`, and `quote` leaves `syn` as it was: stated for that
  -- state, `a1` rewrites the goal below
  obtain ⟨st', a1, a2, a3⟩ := evalAst_quote k { st with syn := st.syn } d l₄ w σ'
    (by rw [← Eval.readLiteral_strip d, hd]; exact h)
  refine ⟨st', ?_, a2, a3⟩
  simp only [FrontSpec.formsOf, hq1, FrontSpec.runForms,
    FrontSpec.evalForm_ok (toStatement_quote _ d l₁ l₂ l₃ l₄ st.syn), a1]

/-! ## a sample: `(1 -1/2 #\a (x . y) #(#t ()))` with its vector in cell 1 of the store -/
namespace Samples

def store : Store :=
  { vecs := #[{ mutable := true, items := [.sym "unrelated"] },
              { mutable := true, items := [.bool true, .nil] }] }

def value : Value :=
  Value.ofList [.num (.int 1), .num (.rat (-1) 2), .char 'a', .pair (.sym "x") (.sym "y"), .vec 1]

def datum : Datum :=
  Datum.ofList none [.prim (.int 1) none, .prim (.rat (-1) 2) none, .prim (.chr 'a') none,
    .pair (.sym "x" none) (.sym "y" none) none,
    .vec [.prim (.bool true) none, .nil none] none]

def text : String := "(1 -1/2 #\\a (x . y) #(#t ()))"

/-- the store after the sample has been read back into it: a fresh immutable cell 2 -/
def store2 : Store :=
  { store with vecs := store.vecs.push { mutable := false, items := [.bool true, .nil] } }

/-- the copy of the sample that reading it back produces -/
def value2 : Value :=
  Value.ofList [.num (.int 1), .num (.rat (-1) 2), .char 'a', .pair (.sym "x") (.sym "y"), .vec 2]

theorem value_equal_value2 : EqualV store store2 value value2 :=
  .pair (.num _) (.pair (.num _) (.pair (.char _) (.pair (.pair (.sym _) (.sym _))
    (.pair (.vec (c₁ := { mutable := true, items := [.bool true, .nil] })
      (c₂ := { mutable := false, items := [.bool true, .nil] }) rfl rfl
      (.cons (.bool _) (.cons .nil .nil))) .nil))))

end Samples

end Ruschm.Print
