/-
Erasing source locations commutes with the evaluator: the erased code on the erased store
(`RuschmSpec/Unloc.lean`) gives the erased result — same values, same error kinds, same output;
only the LOCATION of an error is lost. This is `unlocHom`, an instance of `EvalHom`: what stands
before it is one commutation per primitive step, each a field of it.
-/
import RuschmSpec.Unloc
import RuschmProofs.StoreLemmas
import RuschmProofs.EvalHom
import RuschmProofs.LitHom
import RuschmProofs.ArgLists
namespace Ruschm
open Eval Prim

@[simp] theorem Value.unloc_num (n) : (Value.num n).unloc = .num n := rfl
@[simp] theorem Value.unloc_bool (n) : (Value.bool n).unloc = .bool n := rfl
@[simp] theorem Value.unloc_char (n) : (Value.char n).unloc = .char n := rfl
@[simp] theorem Value.unloc_str (n) : (Value.str n).unloc = .str n := rfl
@[simp] theorem Value.unloc_sym (n) : (Value.sym n).unloc = .sym n := rfl
@[simp] theorem Value.unloc_closure (l e) : (Value.closure l e).unloc = .closure l.unloc e := rfl
@[simp] theorem Value.unloc_builtin (n) : (Value.builtin n).unloc = .builtin n := rfl
@[simp] theorem Value.unloc_vec (n) : (Value.vec n).unloc = .vec n := rfl
@[simp] theorem Value.unloc_pair (a d) : (Value.pair a d).unloc = .pair a.unloc d.unloc := rfl
@[simp] theorem Value.unloc_nil : Value.nil.unloc = .nil := rfl
@[simp] theorem Value.unloc_transformer (n) : (Value.transformer n).unloc = .transformer n := rfl
@[simp] theorem Value.unloc_void : Value.void.unloc = .void := rfl

@[simp] theorem Store.unloc_out (σ : Store) : σ.unloc.out = σ.out := rfl
@[simp] theorem Store.unloc_ticks (σ : Store) : σ.unloc.ticks = σ.ticks := rfl
@[simp] theorem Store.unloc_depth (σ : Store) : σ.unloc.depth = σ.depth := rfl
@[simp] theorem Store.unloc_maxDepth (σ : Store) : σ.unloc.maxDepth = σ.maxDepth := rfl
@[simp] theorem Store.unloc_frames_size (σ : Store) : σ.unloc.frames.size = σ.frames.size := by simp [Store.unloc]
@[simp] theorem Store.unloc_vecs_size (σ : Store) : σ.unloc.vecs.size = σ.vecs.size := by simp [Store.unloc]
theorem Store.unloc_frames_get (σ : Store) (i : Nat) : σ.unloc.frames[i]? = σ.frames[i]?.map Frame.unloc := by
  simp [Store.unloc]
theorem Store.unloc_vecs_get (σ : Store) (i : Nat) : σ.unloc.vecs[i]? = σ.vecs[i]?.map VecCell.unloc := by
  simp [Store.unloc]

theorem Store.unloc_chain (σ : Store) (ρ : Nat) : σ.unloc.chain ρ = σ.chain ρ :=
  Store.chain_congr (fun i => by rw [Store.unloc_frames_get]; cases σ.frames[i]? <;> rfl) ρ

theorem Store.unloc_binding (σ : Store) (r : Nat) (k : String) :
    σ.unloc.binding r k = (σ.binding r k).map Value.unloc := by
  unfold Store.binding
  rw [Store.unloc_frames_get]
  cases σ.frames[r]? with
  | none => rfl
  | some f => exact Assoc.lookup_map_val (fun _ => Value.unloc) k f.defs

@[simp] theorem Store.unloc_resolve (σ : Store) (ρ : Nat) (k : String) :
    σ.unloc.resolve ρ k = σ.resolve ρ k := by
  rw [Store.resolve_eq_find, Store.resolve_eq_find, Store.unloc_chain]
  congr 1
  funext r
  simp [Store.definesAt, Store.unloc_binding]

@[simp] theorem Store.unloc_lookup (σ : Store) (ρ : Nat) (k : String) :
    σ.unloc.lookup ρ k = (σ.lookup ρ k).map Value.unloc := by
  rw [Store.lookup_eq_bind, Store.lookup_eq_bind, Store.unloc_resolve]
  cases σ.resolve ρ k with
  | none => rfl
  | some r => exact Store.unloc_binding σ r k

@[simp] theorem Store.unloc_define (σ : Store) (ρ : Nat) (k : String) (v : Value) :
    (σ.define ρ k v).unloc = σ.unloc.define ρ k v.unloc := by
  unfold Store.define
  by_cases h : ρ < σ.frames.size
  · simp only [h, dite_true, Store.unloc_frames_size]
    simp only [Store.unloc]
    congr 1
    apply Array.ext
    · simp
    · intro i h1 h2
      simp only [Array.getElem_map, Array.getElem_modify]
      split
      · simp [Frame.unloc, Assoc.insert_map_of Value.unloc (ins := Store.defsInsert) (ins' := Store.defsInsert)
          (fun _ _ => rfl) (fun _ _ => rfl) (fun _ _ _ _ _ => rfl) (fun _ _ _ _ _ => rfl)]
      · rfl
  · simp [h]

@[simp] theorem Store.unloc_set (σ : Store) (ρ : Nat) (k : String) (v : Value) :
    σ.unloc.set ρ k v.unloc = ((σ.set ρ k v).1, (σ.set ρ k v).2.unloc) := by
  unfold Store.set
  rw [Store.unloc_resolve]
  cases σ.resolve ρ k <;> simp

@[simp] theorem Store.unloc_newFrame (σ : Store) (p : Option Nat) :
    σ.unloc.newFrame p = ((σ.newFrame p).1, (σ.newFrame p).2.unloc) := by
  simp [Store.newFrame, Store.unloc, Frame.unloc]

@[simp] theorem Store.unloc_allocVec (σ : Store) (m : Bool) (items : List Value) :
    σ.unloc.allocVec m (items.map Value.unloc) = ((σ.allocVec m items).1, (σ.allocVec m items).2.unloc) := by
  simp [Store.allocVec, Store.unloc, VecCell.unloc]

@[simp] theorem unloc_enter (σ : Store) : (enter σ).unloc = enter σ.unloc := rfl
@[simp] theorem unloc_leave (σ : Store) : (leave σ).unloc = leave σ.unloc := rfl

/-! ## code -/

@[simp] theorem Lambda.unloc_formals (l : Lambda) : l.unloc.formals = l.formals := by cases l; rfl
@[simp] theorem Lambda.unloc_defs (l : Lambda) : l.unloc.defs = Def.unlocList l.defs := by cases l; rfl
@[simp] theorem Lambda.unloc_body (l : Lambda) : l.unloc.body = Expr.unlocList l.body := by cases l; rfl
@[simp] theorem Expr.unloc_loc (e : Expr) : e.unloc.loc = none := by cases e <;> simp [Expr.unloc, Expr.loc]

theorem Expr.unlocList_eq_map (es : List Expr) : Expr.unlocList es = es.map Expr.unloc := by
  induction es with
  | nil => rfl
  | cons e es ih => rw [Expr.unlocList, ih, List.map_cons]
theorem Def.unlocList_eq_map (ds : List Def) : Def.unlocList ds = ds.map Def.unloc := by
  induction ds with
  | nil => rfl
  | cons d ds ih => rw [Def.unlocList, ih, List.map_cons]
theorem Statement.unlocList_eq_map (es : List Statement) : Statement.unlocList es = es.map Statement.unloc := by
  induction es with
  | nil => rfl
  | cons e es ih => simp [Statement.unlocList, ih]
theorem LibDecl.unlocList_eq_map (es : List LibDecl) : LibDecl.unlocList es = es.map LibDecl.unloc := by
  induction es with
  | nil => rfl
  | cons e es ih => simp [LibDecl.unlocList, ih]

theorem Statement.eq_sym_of_unloc {s : Statement} {x : String} {loc : Loc}
    (h : s.unloc = (Statement.expr (.sym x loc)).unloc) : ∃ loc', s = .expr (.sym x loc') := by
  cases s with
  | expr e =>
    cases e <;> simp [Statement.unloc, Expr.unloc] at h
    exact ⟨_, by rw [h]⟩
  | _ => simp [Statement.unloc] at h

mutual
theorem Datum.beq_strip : ∀ (a b : Datum), Datum.beq a.strip b.strip = Datum.beq a b
  | .prim _ _, b | .sym _ _, b | .nil _, b => by cases b <;> (unfold Datum.beq; rfl)
  | .pair a d _, b => by
    cases b with
    | pair a' d' _ =>
      rw [Datum.strip, Datum.strip, Datum.beq, Datum.beq, Datum.beq_strip a a', Datum.beq_strip d d']
    | _ => unfold Datum.beq; rfl
  | .vec xs _, b => by
    cases b with
    | vec ys _ => rw [Datum.strip, Datum.strip, Datum.beq, Datum.beq, Datum.beqList_strip xs ys]
    | _ => unfold Datum.beq; rfl
termination_by structural a => a
theorem Datum.beqList_strip : ∀ (xs ys : List Datum),
    Datum.beqList (Datum.stripList xs) (Datum.stripList ys) = Datum.beqList xs ys
  | [], ys => by cases ys <;> (unfold Datum.beqList; rfl)
  | x :: xs, ys => by
    cases ys with
    | nil => unfold Datum.beqList; rfl
    | cons y ys =>
      rw [Datum.stripList, Datum.stripList, Datum.beqList, Datum.beqList, Datum.beq_strip x y,
        Datum.beqList_strip xs ys]
termination_by structural xs => xs
end

mutual
theorem Expr.beq_unloc : ∀ (a b : Expr), Expr.beq a.unloc b.unloc = Expr.beq a b
  | .sym _ _, b | .prim _ _, b => by cases b <;> (unfold Expr.beq; rfl)
  | .assign n e l, b => by
    cases b with
    | assign n' e' l' => rw [Expr.unloc, Expr.unloc, Expr.beq, Expr.beq, Expr.beq_unloc e e']
    | _ => unfold Expr.beq; rfl
  | .lambda lam l, b => by
    cases b with
    | lambda lam' l' => rw [Expr.unloc, Expr.unloc, Expr.beq, Expr.beq, Lambda.beq_unloc lam lam']
    | _ => unfold Expr.beq; rfl
  | .call f as l, b => by
    cases b with
    | call f' as' l' =>
      rw [Expr.unloc, Expr.unloc, Expr.beq, Expr.beq, Expr.beq_unloc f f', Expr.beqList_unloc as as']
    | _ => unfold Expr.beq; rfl
  | .cond t c none l, b => by
    cases b with
    | cond t' c' a' l' =>
      cases a' <;> simp only [Expr.unloc, Expr.unlocOpt, Expr.beq, Expr.beq_unloc t t', Expr.beq_unloc c c']
    | _ => unfold Expr.beq; rfl
  | .cond t c (some x) l, b => by
    cases b with
    | cond t' c' a' l' =>
      cases a' <;>
        simp only [Expr.unloc, Expr.unlocOpt, Expr.beq, Expr.beq_unloc t t', Expr.beq_unloc c c', Expr.beq_unloc x]
    | _ => unfold Expr.beq; rfl
  | .quote d l, b => by
    cases b with
    | quote d' l' => rw [Expr.unloc, Expr.unloc, Expr.beq, Expr.beq, Datum.beq_strip]
    | _ => unfold Expr.beq; rfl
  | .datum d l, b => by
    cases b with
    | datum d' l' => rw [Expr.unloc, Expr.unloc, Expr.beq, Expr.beq, Datum.beq_strip]
    | _ => unfold Expr.beq; rfl
termination_by structural a => a
theorem Expr.beqList_unloc : ∀ (xs ys : List Expr),
    Expr.beqList (Expr.unlocList xs) (Expr.unlocList ys) = Expr.beqList xs ys
  | [], ys => by cases ys <;> (unfold Expr.beqList; rfl)
  | x :: xs, ys => by
    cases ys with
    | nil => unfold Expr.beqList; rfl
    | cons y ys =>
      rw [Expr.unlocList, Expr.unlocList, Expr.beqList, Expr.beqList, Expr.beq_unloc x y, Expr.beqList_unloc xs ys]
termination_by structural xs => xs
theorem Lambda.beq_unloc : ∀ (a b : Lambda), Lambda.beq a.unloc b.unloc = Lambda.beq a b
  | .mk f ds bs, .mk f' ds' bs' => by
    rw [Lambda.unloc, Lambda.unloc, Lambda.beq, Lambda.beq, Def.beqList_unloc ds ds', Expr.beqList_unloc bs bs']
termination_by structural a => a
theorem Def.beq_unloc : ∀ (a b : Def), Def.beq a.unloc b.unloc = Def.beq a b
  | .mk n e l, .mk n' e' l' => by rw [Def.unloc, Def.unloc, Def.beq, Def.beq, Expr.beq_unloc e e']
termination_by structural a => a
theorem Def.beqList_unloc : ∀ (xs ys : List Def),
    Def.beqList (Def.unlocList xs) (Def.unlocList ys) = Def.beqList xs ys
  | [], ys => by cases ys <;> (unfold Def.beqList; rfl)
  | x :: xs, ys => by
    cases ys with
    | nil => unfold Def.beqList; rfl
    | cons y ys =>
      rw [Def.unlocList, Def.unlocList, Def.beqList, Def.beqList, Def.beq_unloc x y, Def.beqList_unloc xs ys]
termination_by structural xs => xs
end

/-! ## values -/

@[simp] theorem Value.unloc_truthy (v : Value) : v.unloc.truthy = v.truthy := by
  cases v <;> rfl

@[simp] theorem procArity_unloc (v : Value) : procArity v.unloc = procArity v := by
  cases v <;> simp [procArity, Value.unloc]

@[simp] theorem Value.unloc_ofList (vs : List Value) : Value.ofList (vs.map Value.unloc) = (Value.ofList vs).unloc := by
  induction vs with
  | nil => rfl
  | cons v vs ih => simp [Value.ofList, ih]

@[simp] theorem Value.unloc_elems : ∀ (v : Value), v.unloc.elems = v.elems.map Value.unloc
  | .pair a d => by simp [Value.elems, Value.unloc_elems d]
  | .nil => rfl
  | .num _ | .bool _ | .char _ | .str _ | .sym _ | .closure _ _ | .builtin _ | .vec _
  | .transformer _ | .void => by simp [Value.elems, Value.unloc]

@[simp] theorem valueEq_unloc (a b : Value) : valueEq a.unloc b.unloc = valueEq a b := by
  cases a with
  | closure l e =>
    cases b with
    | closure l' e' => exact Lambda.beq_unloc l l'
    | _ => rfl
  | _ => cases b <;> rfl

@[simp] theorem eqv_unloc (a b : Value) : eqv a.unloc b.unloc = eqv a b := by
  cases a with
  | closure l e =>
    cases b with
    | closure l' e' => exact Lambda.beq_unloc l l'
    | _ => rfl
  | _ => cases b <;> rfl

mutual
theorem derivedEq_unloc (σ : Store) : ∀ (n : Nat) (a b : Value),
    derivedEq σ.unloc n a.unloc b.unloc = derivedEq σ n a b
  | 0, _, _ => rfl
  | n + 1, a, b => by
    cases a with
    | pair a1 d1 =>
      cases b with
      | pair a2 d2 =>
        simp only [Value.unloc, derivedEq, derivedEq_unloc σ n a1 a2, derivedEq_unloc σ n d1 d2]
      | _ => rfl
    | vec i =>
      cases b with
      | vec j =>
        simp only [Value.unloc, derivedEq, Store.unloc_vecs_get]
        cases σ.vecs[i]? with
        | none => rfl
        | some c1 =>
          cases σ.vecs[j]? with
          | none => rfl
          | some c2 => exact congrArg (c1.mutable == c2.mutable && ·) (derivedEqList_unloc σ n c1.items c2.items)
      | _ => rfl
    | closure l e =>
      cases b with
      | closure l' e' => exact Lambda.beq_unloc l l'
      | _ => rfl
    | _ => cases b <;> rfl
theorem derivedEqList_unloc (σ : Store) : ∀ (n : Nat) (xs ys : List Value),
    derivedEqList σ.unloc n (xs.map Value.unloc) (ys.map Value.unloc) = derivedEqList σ n xs ys
  | 0, _, _ | _ + 1, [], [] | _ + 1, [], _ :: _ | _ + 1, _ :: _, [] => rfl
  | n + 1, x :: xs, y :: ys => by
    simp only [List.map_cons, derivedEqList, derivedEq_unloc σ n x y, derivedEqList_unloc σ n xs ys]
end

/-- `display` and `canon` are printers of this one shape: a pair by `P` of its head and `T` of its tail, a
vector by `vec` of its cell's flag and its printed items, any other value by `leaf` -/
theorem printer_unloc {P T : Store → Nat → Value → String} {leaf : Value → String}
    {vec : Option (Bool × List String) → String}
    (hP0 : ∀ σ v, P σ 0 v = "…") (hT0 : ∀ σ v, T σ 0 v = "…")
    (hP : ∀ σ n v, P σ (n + 1) v = match v with
      | .pair a d => "(" ++ P σ n a ++ T σ n d ++ ")"
      | .vec id => vec (σ.vecs[id]?.map fun c => (c.mutable, c.items.map (P σ n)))
      | v => leaf v)
    (hT : ∀ σ n v, T σ (n + 1) v = match v with
      | .nil => ""
      | .pair a d => " " ++ P σ n a ++ T σ n d
      | v => " . " ++ P σ n v)
    (hleaf : ∀ v, leaf v.unloc = leaf v) (σ : Store) :
    ∀ n v, P σ.unloc n v.unloc = P σ n v ∧ T σ.unloc n v.unloc = T σ n v := by
  intro n
  induction n with
  | zero => intro v; exact ⟨by rw [hP0, hP0], by rw [hT0, hT0]⟩
  | succ n ih =>
    have e1 : ∀ x, P σ.unloc n (Value.unloc x) = P σ n x := fun x => (ih x).1
    have e2 : ∀ x, T σ.unloc n (Value.unloc x) = T σ n x := fun x => (ih x).2
    have items : ∀ c : VecCell, (c.unloc.mutable, c.unloc.items.map (P σ.unloc n)) = (c.mutable, c.items.map (P σ n)) :=
      fun c => by simp only [VecCell.unloc, List.map_map, Function.comp_def, e1]
    have hd : ∀ v : Value, P σ.unloc (n + 1) v.unloc = P σ (n + 1) v := fun v => by
      rw [hP, hP]
      cases v with
      | vec id => simp only [Value.unloc, Store.unloc_vecs_get, Option.map_map, Function.comp_def, items]
      | pair a d => simp only [Value.unloc, e1, e2]
      | _ => exact hleaf _
    intro v
    refine ⟨hd v, ?_⟩
    rw [hT, hT]
    cases v with
    | pair a d => simp only [Value.unloc, e1, e2]
    | nil => rfl
    | _ => exact congrArg (" . " ++ ·) (e1 _)

@[simp] theorem display_unloc (σ : Store) (n : Nat) (v : Value) : display σ.unloc n v.unloc = display σ n v := by
  refine (printer_unloc (T := displayTail) (leaf := display {} 1)
    (vec := fun o => match o with | some c => "#(" ++ " ".intercalate c.2 ++ ")" | none => "#(?)")
    (fun _ _ => by unfold display; rfl) (fun _ _ => by unfold displayTail; rfl) ?_ ?_ ?_ σ n v).1
  · intro σ n v
    rw [display.eq_def]
    cases v with
    | vec id => simp only; cases σ.vecs[id]? <;> rfl
    | num x => cases x <;> rfl
    | bool b => cases b <;> rfl
    | _ => rfl
  · intro σ n v; rw [displayTail.eq_def]; cases v <;> rfl
  · intro v
    cases v with
    | closure l e => rw [Value.unloc, display.eq_def, display.eq_def]; simp only [Lambda.unloc_formals]
    | _ => rfl

@[simp] theorem canon_unloc (σ : Store) (n : Nat) (v : Value) : canon σ.unloc n v.unloc = canon σ n v := by
  refine (printer_unloc (T := canonTail) (leaf := canon {} 1)
    (vec := fun o => match o with
      | some c => (if c.1 then "#m(" else "#i(") ++ " ".intercalate c.2 ++ ")" | none => "#?()")
    (fun _ _ => by unfold canon; rfl) (fun _ _ => by unfold canonTail; rfl) ?_ ?_ ?_ σ n v).1
  · intro σ n v
    rw [canon.eq_def]
    cases v with
    | vec id => simp only; cases σ.vecs[id]? <;> rfl
    | bool b => cases b <;> rfl
    | _ => rfl
  · intro σ n v; rw [canonTail.eq_def]; cases v <;> rfl
  · intro v; cases v <;> rfl

theorem getLast?_map {α β} (f : α → β) (l : List α) : (l.map f).getLast? = l.getLast?.map f :=
  List.getLast?_map

theorem spreadApply_unloc (args : List Value) :
    spreadApply (args.map Value.unloc) =
      match spreadApply args with
      | .ok (f, as) => .ok (f.unloc, as.map Value.unloc)
      | .error e => .error e := by
  unfold spreadApply
  cases args with
  | nil => rfl
  | cons f rest =>
    simp only [List.map_cons, procArity_unloc]
    cases procArity f with
    | none => rfl
    | some a =>
      simp only [List.getLast?_map]
      cases rest.getLast? with
      | none => rfl
      | some last =>
        simp only [Option.map_some]
        cases last <;> simp [Value.unloc, List.map_dropLast]
        · rw [← Value.unloc_pair, Value.unloc_elems]
        · rfl

/-! ## results

`mapE f` is an outcome alone without locations: the value by `f`, the error without its location
(`eraseErr` is `mapE id`). The specification's `Res.unloc f` pairs it with the erased store, as `PRes.unloc`
(reader) and `IU` (interpreter) pair it with their erased states. -/

@[simp] theorem Res.unloc_ok {α} (f : α → α) (a : α) (σ : Store) :
    Res.unloc f ((.ok a, σ) : Res α) = (.ok (f a), σ.unloc) := rfl
@[simp] theorem Res.unloc_error {α} (f : α → α) (e : SErr) (σ : Store) :
    Res.unloc f ((.error e, σ) : Res α) = (.error e.unloc, σ.unloc) := rfl
@[simp] theorem SErr.unloc_mk (e : Err) (l : Loc) : SErr.unloc (e, l) = (e, none) := rfl
@[simp] theorem SErr.unloc_unloc (e : SErr) : e.unloc.unloc = e.unloc := rfl

def mapE {α β} (f : α → β) : Except SErr α → Except SErr β
  | .ok a => .ok (f a)
  | .error e => .error e.unloc

@[simp] theorem mapE_ok {α β} (f : α → β) (a : α) : mapE f (.ok a) = .ok (f a) := rfl
@[simp] theorem mapE_error {α β} (f : α → β) (e : SErr) : mapE f (.error e : Except SErr α) = .error e.unloc := rfl

def eraseErr {β} : Except SErr β → Except SErr β
  | .error e => .error e.unloc
  | .ok x => .ok x

@[simp] theorem eraseErr_ok {β} (x : β) : eraseErr (.ok x : Except SErr β) = .ok x := rfl
@[simp] theorem eraseErr_error {β} (e : SErr) : eraseErr (.error e : Except SErr β) = .error e.unloc := rfl

theorem mapE_bind {α β γ δ} (f : α → β) (h : γ → δ) (x : Except SErr α) (g : α → Except SErr γ) (g' : β → Except SErr δ)
    (hg : ∀ a, g' (f a) = mapE h (g a)) : (mapE f x >>= g') = mapE h (x >>= g) := by
  cases x with
  | error e => rfl
  | ok a => exact hg a

theorem mapE_id_cases {α α'} {r : α → α'} {x' : Except SErr α'} {x : Except SErr α} (h : mapE id x' = mapE r x) :
    (∃ e e', x = .error e ∧ x' = .error e' ∧ e'.unloc = e.unloc) ∨ ∃ a, x = .ok a ∧ x' = .ok (r a) := by
  rcases x with e | a <;> rcases x' with e' | a'
  · exact .inl ⟨e, e', rfl, rfl, Except.error.inj h⟩
  · cases h
  · cases h
  · cases h; exact .inr ⟨a, rfl, rfl⟩

theorem evalPrim_unloc {p : Prim} {v : Value} (h : evalPrim p = .ok v) : v.unloc = v :=
  evalPrim_val (Q := fun v => v.unloc = v) (fun _ => rfl) (fun _ => rfl) (fun _ => rfl) (fun _ => rfl) h

theorem litHom_unloc : LitHom Store.unloc (fun _ => none) Value.unloc :=
  ⟨rfl, fun h => evalPrim_unloc h, fun _ => rfl, rfl, fun _ _ => rfl, fun σ items => Store.unloc_allocVec σ false items⟩

theorem readLiteral_unloc (d : Datum) (σ : Store) :
    readLiteral σ.unloc d.strip = Res.unloc Value.unloc (readLiteral σ d) := by
  rw [readLiteral_strip, litHom_unloc.readLiteral]; rfl

theorem readLiterals_unloc : ∀ (ds : List Datum) (σ : Store),
    readLiterals σ.unloc (Datum.stripList ds) = Res.unloc (List.map Value.unloc) (readLiterals σ ds) := fun ds σ => by
  rw [readLiterals_strip, litHom_unloc.readLiterals]; rfl

/-! ## native procedures -/

@[simp] theorem expectNumber_unloc (v : Value) : expectNumber v.unloc = expectNumber v := by
  cases v <;> rfl

theorem expectBool_unloc (v : Value) : expectBool v.unloc = expectBool v := by cases v <;> rfl

theorem lift_unloc {α} (σ : Store) (r : Except Err α) (k : α → Value) (hk : ∀ a, (k a).unloc = k a) :
    lift σ.unloc r k = Res.unloc Value.unloc (lift σ r k) := by
  cases r <;> simp [lift, ok, err, hk]

theorem applyPure_unloc (σ : Store) (b : Builtin) (args : List Value) :
    applyPure σ.unloc b (args.map Value.unloc) = Res.unloc Value.unloc (applyPure σ b args) := by
  have hn : ∀ a : Num, (Value.num a).unloc = Value.num a := fun _ => rfl
  have hb : ∀ a : Bool, (Value.bool a).unloc = Value.bool a := fun _ => rfl
  cases b
  case display | tick =>
    simp only [applyPure]
    cases args with
    | nil => rfl
    | cons x rest => simp only [List.map_cons, ok, Res.unloc_ok, display_unloc, canon_unloc]; rfl
  case vector => simp [applyPure, ok]
  case makeVector =>
    simp only [applyPure]
    cases args with
    | nil => rfl
    | cons k rest =>
      cases rest with
      | nil => rfl
      | cons fill more =>
        cases k <;> try rfl
        rename_i n
        cases n <;> try rfl
        rename_i i
        simp only [List.map_cons, Value.unloc]
        split
        · rfl
        · rw [← List.map_replicate, Store.unloc_allocVec]; rfl
  case vectorLength =>
    simp only [applyPure]
    cases args with
    | nil => rfl
    | cons x rest =>
      cases x <;> try rfl
      rename_i id
      simp only [List.map_cons, Value.unloc, Store.unloc_vecs_get]
      cases σ.vecs[id]? <;> simp [VecCell.unloc, ok, err]
  case vectorRef =>
    simp only [applyPure]
    cases args with
    | nil => rfl
    | cons v rest =>
      cases rest with
      | nil => rfl
      | cons k more =>
        cases v <;> try rfl
        rename_i id
        cases k <;> try rfl
        rename_i n
        cases n <;> try rfl
        rename_i i
        simp only [List.map_cons, Value.unloc, Store.unloc_vecs_get]
        cases σ.vecs[id]? with
        | none => rfl
        | some cell =>
          simp only [Option.map_some, VecCell.unloc]
          split
          · rfl
          · rw [List.getElem?_map]
            cases cell.items[i.toNat]? <;> rfl
  case vectorSet =>
    simp only [applyPure]
    cases args with
    | nil => rfl
    | cons v rest =>
      cases rest with
      | nil => rfl
      | cons k more =>
        cases more with
        | nil => rfl
        | cons obj more' =>
          cases v <;> try rfl
          rename_i id
          cases k <;> try rfl
          rename_i n
          cases n <;> try rfl
          rename_i i
          simp only [List.map_cons, Value.unloc, Store.unloc_vecs_get]
          cases hc : σ.vecs[id]? with
          | none => rfl
          | some cell =>
            simp only [Option.map_some, VecCell.unloc]
            split
            · rfl
            · split
              · rfl
              · rw [listSet_map]
                cases listSet cell.items i.toNat obj with
                | none => rfl
                | some items =>
                  simp only [Option.map_some, ok, Res.unloc_ok, Value.unloc]
                  congr 1
                  simp only [Store.unloc]
                  rw [Array.set!_eq_setIfInBounds, Array.set!_eq_setIfInBounds, Array.map_setIfInBounds]; rfl
  case apply => rfl
  case newline => rfl
  case eqv | eq | cons =>
    simp only [applyPure]
    cases args with
    | nil => rfl
    | cons a rest =>
      cases rest with
      | nil => rfl
      | cons c more => simp only [List.map_cons, eqv_unloc]; rfl
  case car | cdr | isBoolean | isChar | isNumber | isString | isSymbol | isPair | isProcedure | isVector | not =>
    simp only [applyPure]
    cases args with
    | nil => rfl
    | cons x rest => cases x <;> rfl
  case booleanEq | numEq | lt | le | gt | ge =>
    simp only [applyPure, cmpBool_comm expectBool_unloc, cmpNum_comm expectNumber_unloc]; exact lift_unloc σ _ _ hb
  all_goals
    simp only [applyPure, realFn, realFn2, num1_eq, num2_eq, numArg1_comm expectNumber_unloc,
      numArg2_comm expectNumber_unloc, foldNum_comm expectNumber_unloc, subDiv_comm expectNumber_unloc,
      divArgs_comm expectNumber_unloc, extremum_comm expectNumber_unloc]
    exact lift_unloc σ _ _ hn

/-! ## the evaluator -/

structure UnlocAt (fuel : Nat) : Prop where
  expr : ∀ σ ρ e, evalExpr fuel σ.unloc ρ e.unloc = Res.unloc Value.unloc (evalExpr fuel σ ρ e)
  args : ∀ σ ρ es, evalArgs fuel σ.unloc ρ (Expr.unlocList es) = Res.unloc (List.map Value.unloc) (evalArgs fuel σ ρ es)
  proc : ∀ σ p args env, applyProcedure fuel σ.unloc p.unloc (args.map Value.unloc) env =
    Res.unloc Value.unloc (applyProcedure fuel σ p args env)
  loop : ∀ σ p args env, applyLoop fuel σ.unloc p.unloc (args.map Value.unloc) env =
    Res.unloc Value.unloc (applyLoop fuel σ p args env)
  scheme : ∀ σ lam cenv args, applyScheme fuel σ.unloc lam.unloc cenv (args.map Value.unloc) =
    Res.unloc TailRes.unloc (applyScheme fuel σ lam cenv args)
  defs : ∀ σ ρ ds, evalDefs fuel σ.unloc ρ (Def.unlocList ds) = Res.unloc id (evalDefs fuel σ ρ ds)
  body : ∀ σ ρ es, evalBody fuel σ.unloc ρ (Expr.unlocList es) = Res.unloc TailRes.unloc (evalBody fuel σ ρ es)
  tail : ∀ σ ρ e, evalTail fuel σ.unloc ρ e.unloc = Res.unloc TailRes.unloc (evalTail fuel σ ρ e)

def unlocHom : EvalHom where
  store := Store.unloc
  value := Value.unloc
  loc := fun _ => none
  datum := Datum.strip
  expr := Expr.unloc
  lam := Lambda.unloc
  defn := Def.unloc
  expr_eq := fun e => by
    cases e <;> simp only [Expr.unloc, Expr.unlocList_eq_map]
    rename_i a l; cases a <;> rfl
  lam_eq := fun f ds b => by simp only [Lambda.unloc, Expr.unlocList_eq_map, Def.unlocList_eq_map]
  defn_eq := fun _ _ _ => rfl
  loc_none := rfl
  closure := fun _ _ => rfl
  builtin := fun _ => rfl
  void := rfl
  truthy := Value.unloc_truthy
  procArity := procArity_unloc
  ofList := Value.unloc_ofList
  evalPrim := fun _ _ => evalPrim_unloc
  spreadApply := spreadApply_unloc
  lookup := Store.unloc_lookup
  set := Store.unloc_set
  define := fun σ ρ k v => (Store.unloc_define σ ρ k v).symm
  newFrame := Store.unloc_newFrame
  enter := fun _ => rfl
  leave := fun _ => rfl
  readLiteral := fun σ d => readLiteral_unloc d σ
  applyPure := applyPure_unloc

theorem unlocHom_tail : unlocHom.tail = TailRes.unloc := by
  funext t
  cases t with
  | value v => rfl
  | tailCall f args env => rw [TailRes.unloc, Expr.unlocList_eq_map]; rfl

theorem unlocAt (fuel : Nat) : UnlocAt fuel :=
  have h := unlocHom.eval fuel
  { expr := h.expr
    args := fun σ ρ es => Expr.unlocList_eq_map es ▸ h.args σ ρ es
    proc := h.proc
    loop := h.loop
    scheme := unlocHom_tail ▸ h.scheme
    defs := fun σ ρ ds => Def.unlocList_eq_map ds ▸ h.defs σ ρ ds
    body := fun σ ρ es => Expr.unlocList_eq_map es ▸ unlocHom_tail ▸ h.body σ ρ es
    tail := unlocHom_tail ▸ h.tail }

theorem evalExpr_unloc (fuel σ ρ e) :
    evalExpr fuel σ.unloc ρ e.unloc = Res.unloc Value.unloc (evalExpr fuel σ ρ e) := (unlocAt fuel).expr σ ρ e

end Ruschm
