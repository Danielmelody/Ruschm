/-
The helper modules of property C11 (the list library of `(scheme base)`), in the order to read them: `ListLibCode`,
`ListLibStore`, `ListLibRules`, `ListLibProcs`, `ListLibHigher`; `ListLibInst` beside them.
-/
import RuschmProofs.ListLibHigher
import RuschmProofs.ListLibInst
