/-
The native procedures do not panic on safe arguments. Two facts carry it. On numbers with positive
denominators no operation of the tower panics and the results have positive denominators again:
`Num.towerInv_posDen`, an instance of `Num.TowerInv`, which takes this through all numeric natives at
once. What a native procedure returns and stores is safe by `Prim.applyPure_all` at `primInv_safe`; its errors are
the cases of `Prim.PrimErr`, none of which is a panic on safe, allocated arguments (`applyPure_rok`).
-/
import RuschmSpec.Safe
import RuschmProofs.C09
import RuschmProofs.StoreLemmas

namespace Ruschm
open Ruschm

/-! ## panic sites -/

namespace Num

/-- the panic sites of the tower operations that `Prim` calls -/
def numSites : List String :=
  ["exact_ratio: zero denominator", "floor: zero denominator", "ceiling: zero denominator"]

end Num

namespace Prim
open Num Eval

/-- the panic sites a native procedure can still reach once the arity check has passed -/
def pureSites : List String :=
  ["applyPure: apply", "dangling vector"] ++ numSites

/-- none of the `iter.next().unwrap()` sites of `base.rs` is left once `apply_procedure` has checked the arity -/
theorem applyPure_sites {σ : Store} {b : Builtin} {args : List Value}
    (har : arityOk b.arity.1 b.arity.2 args.length = true) :
    ∀ s l, (applyPure σ b args).1 = .error (.panic s, l) → s ∈ pureSites := by
  intro s l h
  obtain ⟨r, e, ho, heq⟩ := applyPure_outcome σ b args
  rw [heq] at h
  cases ho with
  | err hp =>
    cases h
    cases hp with
    | tower _ ht =>
      exact ht (P := fun e => ∀ s, e = .panic s → s ∈ pureSites)
        (.ofErrs nofun fun _ he => by cases he <;> simp [pureSites, numSites]) (fun _ _ => trivial) s rfl
    | apply _ => simp [pureSites]
    | dangling _ _ => simp [pureSites]
    | missing _ h' => rw [har] at h'; cases h'
  | _ => cases h

/-- in particular its label is not that of an `unwrap` on a missing argument -/
theorem applyPure_not_unwrap {σ : Store} {b : Builtin} {args : List Value}
    (har : arityOk b.arity.1 b.arity.2 args.length = true) {s l}
    (h : (applyPure σ b args).1 = .error (.panic s, l)) (x : String) : s ≠ "base.rs unwrap: " ++ x := fun e => by
  have key : ∀ t ∈ pureSites, t.startsWith "base.rs unwrap: " = false := by decide +kernel
  have := key s (applyPure_sites har s l h)
  rw [e, String.startsWith_string_eq_false_iff, String.toList_append] at this
  exact this (List.prefix_append _ _)

end Prim

/-! ## safe operands -/

namespace Num

abbrev SafeRes (x : Except Err Num) : Prop := Yields PosDen (fun e => ∀ s, e ≠ .panic s) x

theorem SafeRes.noPanicE {x : Except Err Num} (h : SafeRes x) : NoPanicE x := fun s hx => h.2 _ hx s rfl

theorem safeRes_of {x : Except Err Num} (h : IsOk x ∨ x = .error .divZero) (hw : ∀ r, x = .ok r → r.PosDen) : SafeRes x := by
  refine ⟨hw, fun e he s hs => ?_⟩
  subst hs
  rcases h with ⟨r, hr⟩ | hd
  · rw [hr] at he; cases he
  · rw [hd] at he; cases he

section
variable {a b : Num} (pa : a.PosDen) (pb : b.PosDen)
include pa

theorem safe_abs : SafeRes (abs a) := safeRes_of (.inl (abs_isOk pa)) fun _ h => (abs_wf h).posDen

theorem safe_floor : SafeRes (floor a) := by
  refine safeRes_of (.inl (floor_isOk pa)) fun r h => ?_
  cases a with
  | int i => cases h; trivial
  | real x => cases h; trivial
  | rat n d => rw [floor_rat pa] at h; exact (exactRatio_wf h).posDen

theorem safe_ceiling : SafeRes (ceiling a) := by
  refine safeRes_of (.inl (ceiling_isOk pa)) fun r h => ?_
  cases a with
  | int i => cases h; trivial
  | real x => cases h; trivial
  | rat n d => rw [ceiling_rat pa] at h; exact (exactRatio_wf h).posDen

theorem safe_exact : SafeRes (exact a) := by
  cases a with
  | real x =>
    simp only [exact]
    split
    · exact yields_ok trivial
    · exact yields_error nofun
  | int i => exact yields_ok trivial
  | rat n d => exact yields_ok pa

include pb

theorem safe_add : SafeRes (add a b) :=
  safeRes_of (.inl (tower_add.isOk pa pb fun _ _ _ => trivial)) fun _ h => (tower_add.wf h).posDen
theorem safe_sub : SafeRes (sub a b) :=
  safeRes_of (.inl (tower_sub.isOk pa pb fun _ _ _ => trivial)) fun _ h => (tower_sub.wf h).posDen
theorem safe_mul : SafeRes (mul a b) :=
  safeRes_of (.inl (tower_mul.isOk pa pb fun _ _ _ => trivial)) fun _ h => (tower_mul.wf h).posDen
theorem safe_div : SafeRes (div a b) :=
  safeRes_of ((div_cases pa pb).elim (fun h => .inr h.2.2.2) fun h => .inl h.2) fun _ h => (tower_div.wf h).posDen
theorem safe_floorQuotient : SafeRes (floorQuotient a b) :=
  safeRes_of (floorQuotient_cases pa pb) fun _ h => (floorQuotient_wf h).posDen
theorem safe_floorRemainder : SafeRes (floorRemainder a b) :=
  safeRes_of (floorRemainder_cases pa pb) fun _ h => (floorRemainder_wf h).posDen

end

theorem posDen_maxStep {a b : Num} (pa : a.PosDen) (pb : b.PosDen) : (maxStep a b).PosDen := by
  unfold maxStep; repeat' split
  all_goals trivial
theorem posDen_minStep {a b : Num} (pa : a.PosDen) (pb : b.PosDen) : (minStep a b).PosDen := by
  unfold minStep; repeat' split
  all_goals trivial

theorem towerInv_posDen : TowerInv PosDen (fun e => ∀ s, e ≠ .panic s) where
  type := nofun
  divZero := nofun
  int := fun _ => trivial
  real := fun _ => trivial
  add := fun _ _ => safe_add
  sub := fun _ _ => safe_sub
  mul := fun _ _ => safe_mul
  div := fun _ _ => safe_div
  floorQuotient := fun _ _ => safe_floorQuotient
  floorRemainder := fun _ _ => safe_floorRemainder
  abs := fun _ => safe_abs
  floor := fun _ => safe_floor
  ceiling := fun _ => safe_ceiling
  exact := fun _ => safe_exact
  maxStep := fun _ _ => posDen_maxStep
  minStep := fun _ _ => posDen_minStep

end Num

/-! ## values -/

namespace Value

@[simp] theorem safe_num {n : Num} : (Value.num n).Safe ↔ n.PosDen := Iff.rfl
@[simp] theorem safe_pair {a d : Value} : (Value.pair a d).Safe ↔ a.Safe ∧ d.Safe := Iff.rfl
@[simp] theorem safe_closure {l : Lambda} {ρ : Nat} : (Value.closure l ρ).Safe ↔ l.ok = true := Iff.rfl
@[simp] theorem safe_bool {b : Bool} : (Value.bool b).Safe := trivial
@[simp] theorem safe_void : Value.void.Safe := trivial
@[simp] theorem safe_nil : Value.nil.Safe := trivial
@[simp] theorem safe_vec {i : Nat} : (Value.vec i).Safe := trivial
@[simp] theorem safe_builtin {b : Builtin} : (Value.builtin b).Safe := trivial
@[simp] theorem safe_sym {s : String} : (Value.sym s).Safe := trivial
@[simp] theorem safe_str {s : String} : (Value.str s).Safe := trivial
@[simp] theorem safe_char {c : Char} : (Value.char c).Safe := trivial
@[simp] theorem safe_transformer {r : Macro.Rules} : (Value.transformer r).Safe := trivial

end Value

def SafeAll (vs : List Value) : Prop := ∀ v ∈ vs, v.Safe

namespace Prim

structure ROK (r : Res Value) : Prop where
  np : NoPanic r.1
  val : ∀ v, r.1 = .ok v → v.Safe

theorem vec_alloc_some {σ : Store} {id : Nat} (h : σ.AllocIn (.vec id)) : σ.vecs[id]? ≠ none := by
  have : id < σ.vecs.size := h.2 id (by simp [Value.vecIds])
  simp [this]

theorem _root_.Ruschm.Store.valsSafe_all {σ : Store} : σ.ValsSafe ↔ σ.All Value.Safe :=
  ⟨fun h => ⟨h.frame_vals, h.vec_vals⟩, fun h => ⟨h.frame, h.cell⟩⟩

theorem primInv_safe : PrimInv (fun _ => Value.Safe) Num.PosDen :=
  ⟨fun _ h => h, Iff.rfl, Iff.rfl, fun _ _ => trivial, fun _ => trivial, fun _ _ _ => trivial⟩

theorem applyPure_safe {σ : Store} (h : σ.ValsSafe) (b : Builtin) {args : List Value} (ha : SafeAll args) :
    (applyPure σ b args).2.All Value.Safe ∧ ∀ v, (applyPure σ b args).1 = .ok v → v.Safe :=
  applyPure_all primInv_safe Num.towerInv_posDen (Store.valsSafe_all.1 h) b ha

theorem applyPure_rok {σ : Store} {b : Builtin} {args : List Value} (hb : b ≠ .apply)
    (har : Eval.arityOk b.arity.1 b.arity.2 args.length = true) (ha : SafeAll args)
    (hal : ∀ a ∈ args, σ.AllocIn a) (hv : σ.ValsSafe) : ROK (applyPure σ b args) := by
  refine ⟨fun s l he => ?_, (applyPure_safe hv b ha).2⟩
  obtain ⟨r, e, ho, heq⟩ := applyPure_outcome σ b args
  rw [heq] at he
  cases ho with
  | err hp =>
    cases he
    cases hp with
    | tower _ h => exact h Num.towerInv_posDen (fun m hm => ha _ hm) s rfl
    | apply hb' => exact hb hb'
    | dangling hid hV => exact vec_alloc_some (hal _ hid) hV
    | missing _ h' => rw [har] at h'; cases h'
  | _ => cases he

theorem applyPure_valsSafe {σ : Store} (h : σ.ValsSafe) (b : Builtin) {args : List Value}
    (ha : SafeAll args) : (applyPure σ b args).2.ValsSafe :=
  Store.valsSafe_all.2 (applyPure_safe h b ha).1

end Prim
end Ruschm
