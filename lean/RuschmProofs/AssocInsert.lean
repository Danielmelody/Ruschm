/-
The loader's insertions into association lists (`Interp.assocInsert`; `Interp.libInsert` with `Interp.libLookup`)
as instances of `AssocLemmas`; `Store.defsInsert` is `assocInsert` at values (`defsInsert_eq_assocInsert`).
-/
import RuschmModel.Interp
import RuschmProofs.DefsInsert

namespace Ruschm.Assoc
open Ruschm.Store Ruschm.Interp
universe u v

theorem defsInsert_eq_assocInsert : ∀ (d : List (String × Value)) (k : String) (v : Value),
    defsInsert d k v = assocInsert d k v
  | [], _, _ => rfl
  | (k', v') :: d, k, v => by rw [defsInsert, assocInsert, defsInsert_eq_assocInsert d k v]

section
variable {α : Type u}

theorem lookup_assocInsert (l : List (String × α)) (k : String) (v : α) (y : String) :
    (assocInsert l k v).lookup y = if y = k then some v else l.lookup y :=
  lookup_insert_of (fun _ _ => rfl) (fun _ _ _ _ _ => rfl) k v y l

theorem mem_assocInsert {l : List (String × α)} {k : String} {v : α} {x} (h : x ∈ assocInsert l k v) :
    x = (k, v) ∨ x ∈ l :=
  mem_insert_of (fun _ _ => rfl) (fun _ _ _ _ _ => rfl) h

theorem names_assocInsert (l : List (String × α)) (k : String) (v : α) :
    (assocInsert l k v).map (·.1) = if k ∈ l.map (·.1) then l.map (·.1) else l.map (·.1) ++ [k] :=
  names_insert_of (fun _ _ => rfl) (fun _ _ _ _ _ => rfl) k v l

theorem nodup_assocInsert (l : List (String × α)) (k : String) (v : α) (h : (l.map (·.1)).Nodup) :
    ((assocInsert l k v).map (·.1)).Nodup := by
  rw [names_assocInsert]
  split
  · exact h
  · rename_i hk
    rw [List.nodup_append]
    exact ⟨h, by simp, by intro a ha b hb; simp at hb; subst hb; rintro rfl; exact hk ha⟩

theorem assocInsert_fresh (l : List (String × α)) (k : String) (v : α) (h : k ∉ l.map (·.1)) :
    assocInsert l k v = l ++ [(k, v)] :=
  insert_fresh_of (fun _ _ => rfl) (fun _ _ _ _ _ => rfl) k v l h

theorem foldlM_merge_fresh {ε} {F : List (String × α) → String × α → Except ε (List (String × α))}
    (hF : ∀ a p, a.lookup p.1 = none → F a p = .ok (assocInsert a p.1 p.2)) :
    ∀ (l acc : List (String × α)), ((acc ++ l).map (·.1)).Nodup → l.foldlM F acc = .ok (acc ++ l) :=
  foldlM_insert_fresh_of (ins := assocInsert) (fun _ _ => rfl) (fun _ _ _ _ _ => rfl)
    fun a p hp => hF a p (lookup_none_of_not_mem hp)

theorem lookup_libInsert (l : List (LibName × α)) (k : LibName) (v : α) (y : LibName) :
    libLookup (libInsert l k v) y = if k = y then some v else libLookup l y :=
  look_insert_of (fun _ _ => rfl) (fun _ _ _ _ _ => rfl) (fun _ => rfl) (fun _ _ _ _ => rfl) k v y l

end

end Ruschm.Assoc
