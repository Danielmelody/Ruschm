/-
Property C06, reader half, CONVERSE direction: the reader accepts nothing but what the token
grammar `ReadSpec.Parses` (`RuschmSpec/ReadSpec.lean`) derives.

`C06.lean` proves RENDER → READ (the tokens of a syntax tree are read back as the datum it
denotes). Here:

1. SOUNDNESS      — whatever the model reader returns has a `Parses` derivation;
2. COMPLETENESS   — every `Parses` derivation is read (fuel bound `2 * ts.length`); hence
                    reader = grammar (`reader_iff_parses`);
3. DETERMINISM    — `Parses` is functional; `Syn.toks` is injective on well-formed trees;
4. ERRORS         — the reader fails exactly when no prefix of the input has a derivation, every
                    failure is a *syntax* error (never "out of fuel", never a panic), and the
                    named cases.

The grammar has three `quirk…` constructors (token sequences that R7RS 7.1.2 does not derive but
Ruschm reads); section 5 shows each of them at work, and section 6 lists what R7RS derives but
Ruschm rejects.

Only property theorems live here; helper lemmas are in `RuschmProofs/ReadBasic.lean` and
`RuschmProofs/ReadSpecLemmas.lean`.
Data are compared after `Datum.strip` (source locations erased), as in `C06.read_tokens`.
-/
import RuschmProofs.ReadSpecLemmas
import RuschmProofs.SimpSets

namespace Ruschm.C06Read
open Ruschm Ruschm.Read Ruschm.Text Ruschm.ReadSpec

/-- a token without a location (for examples) -/
private def mk (t : Token) : LToken := ⟨t, none⟩

/-- a parser state in front of the given tokens, no pending lexer error -/
private def st (ts : List Token) : PState := { toks := ts.map mk, lexErr := none }

private theorem mk_tok (ts : List Token) : (ts.map mk).map (·.tok) = ts := by
  rw [List.map_map]; exact List.map_id'' (fun _ => rfl) ts

attribute [local read_eval] st mk nextDatum advance fuelFor currentDatum listOrPair listLoop
  advanceUnwrap repeatDatum datum parseQuoted peek bind Except.bind pure Except.pure snoc setTail
  Datum.withLoc Datum.strip Datum.stripList proper improper mkQuote quoteForm Except.map

/-- the outcome of the reader with the locations of the datum erased and the state dropped -/
private def outcome (s : PState) : Except SErr (Option Datum) :=
  (nextDatum s).map (fun r => r.1.map Datum.strip)

/-! ### sample derivations (used by the `example`s below) -/

private theorem seq_a (rest : List Token) : ParsesSeq [.ident "a"] [.sym "a" none] rest := by
  simpa using ParsesSeq.cons (t := [.ident "a"]) (ts := []) (.ident "a" _) (.nil rest)

/-- `(a . b)` -/
private theorem der_pair (rest : List Token) :
    Parses [.lparen, .ident "a", .period, .ident "b", .rparen]
      (.pair (.sym "a" none) (.sym "b" none) none) rest := by
  simpa [improper] using Parses.dotted (seq_a _) (by simp) (.ident "b" (.rparen :: rest))

/-- `(a . )`, the first quirk -/
private theorem der_dotClose (rest : List Token) :
    Parses [.lparen, .ident "a", .period, .rparen] (proper [.sym "a" none]) rest := by
  simpa using Parses.quirkDotClose (seq_a (.period :: .rparen :: rest))

/-! ## 1. Soundness -/

/-- SOUNDNESS of `current_datum`, for every fuel and every parser state: if the reader, standing
on the token `lt0`, returns successfully, then it returns a datum (not "end of input"), it has
consumed a prefix `lpre` of the pending tokens, a pending lexer error stays pending, and the
consumed tokens `lt0 :: lpre` are — according to the grammar — exactly one written datum: the one
returned (locations erased), in front of the tokens that are left. -/
theorem current_datum_sound (fuel : Nat) (s : PState) (lt0 : LToken) (od : Option Datum)
    (s' : PState) (hc : s.cur = some lt0) (h : currentDatum fuel s = .ok (od, s')) :
    ∃ d lpre, od = some d ∧ s.toks = lpre ++ s'.toks ∧ s'.lexErr = s.lexErr ∧
      Parses (lt0.tok :: lpre.map (·.tok)) d.strip (s'.toks.map (·.tok)) :=
  let ⟨d, lpre, hd, st, _, hp⟩ := (snd_all fuel).1 s lt0 od s' hc h
  ⟨d, lpre, hd, st.toks, st.lexErr, hp⟩

/-- SOUNDNESS of `datum`, the restricted reader used after a quote mark and inside vectors: the
same statement; so both readers accept the same language. -/
theorem datum_sound (fuel : Nat) (s : PState) (d : Datum) (s' : PState)
    (h : datum fuel s = .ok (d, s')) :
    ∃ lt0 lpre, s.cur = some lt0 ∧ s.toks = lpre ++ s'.toks ∧ s'.lexErr = s.lexErr ∧
      Parses (lt0.tok :: lpre.map (·.tok)) d.strip (s'.toks.map (·.tok)) :=
  let ⟨lt0, lpre, hc, st, _, hp⟩ := (snd_all fuel).2.1 s d s' h
  ⟨lt0, lpre, hc, st.toks, st.lexErr, hp⟩

/-- SOUNDNESS of the reader's entry point (`Parser::parse` up to the datum: `advance`, then
`current_datum` with the fuel the model supplies): whenever it returns a datum `d`, it has
consumed a prefix `lpre` of the token stream, and `Parses` holds of that prefix, `d` (locations
erased) and the rest. The reader accepts nothing the grammar does not derive. -/
theorem reader_sound (s : PState) (d : Datum) (s' : PState)
    (h : nextDatum s = .ok (some d, s')) :
    ∃ lpre, s.toks = lpre ++ s'.toks ∧ s'.lexErr = s.lexErr ∧
      Parses (lpre.map (·.tok)) d.strip (s'.toks.map (·.tok)) :=
  let ⟨u, h1, h2, h3⟩ := nextDatum_sound h
  ⟨u, h1, h2, (h3 d rfl).2.2⟩

/-- the hypothesis is satisfiable: `(a . )` followed by `x` is read (as `(a)`), so it has a
derivation — by the quirk constructor `quirkDotClose`, the only one that fits -/
example : outcome (st [.lparen, .ident "a", .period, .rparen, .ident "x"])
    = .ok (some (proper [.sym "a" none])) := by
  unfold outcome; simp [read_eval]

/-! ## 2. Completeness -/

/-- COMPLETENESS of `current_datum` with the fuel bound: if the grammar derives `Parses ts d rest`
then, on any parser state whose current token and pending tokens spell `ts` followed by anything
(`lrest`: the frame does not matter), `current_datum` with any fuel `≥ 2 * ts.length` returns a
datum that is `d` up to locations and leaves exactly `lrest`; a pending lexer error stays
pending. -/
theorem current_datum_complete {ts : List Token} {d : Datum} {rest : List Token}
    (h : Parses ts d rest) (fuel : Nat) (s : PState) (lt0 : LToken) (lmore lrest : List LToken)
    (hfuel : 2 * ts.length ≤ fuel) (hl : (lt0 :: lmore).map (·.tok) = ts)
    (hc : s.cur = some lt0) (hs : s.toks = lmore ++ lrest) :
    ∃ d' s', currentDatum fuel s = .ok (some d', s') ∧ d'.strip = d ∧ s'.toks = lrest ∧
      s'.lexErr = s.lexErr :=
  (curOK_of_parses h).at fuel s lt0 lmore lrest hfuel hl hc hs

/-- The same for `datum` (after a quote mark, inside vectors). -/
theorem datum_complete {ts : List Token} {d : Datum} {rest : List Token}
    (h : Parses ts d rest) (fuel : Nat) (s : PState) (lt0 : LToken) (lmore lrest : List LToken)
    (hfuel : 2 * ts.length ≤ fuel) (hl : (lt0 :: lmore).map (·.tok) = ts)
    (hc : s.cur = some lt0) (hs : s.toks = lmore ++ lrest) :
    ∃ d' s', datum fuel s = .ok (d', s') ∧ d'.strip = d ∧ s'.toks = lrest ∧
      s'.lexErr = s.lexErr :=
  (curOK_of_parses h).datum fuel s lt0 lmore lrest hfuel hl hc hs

/-- COMPLETENESS of the reader's entry point: whenever `Parses ts d rest`, the reader on a token
stream that spells `ts` followed by `lrest` returns `d` (up to locations) leaving `lrest` — the
fuel `4 * (length + 2)` the model supplies is enough. -/
theorem reader_complete {ts : List Token} {d : Datum} {rest : List Token}
    (h : Parses ts d rest) (s : PState) (lts lrest : List LToken)
    (hl : lts.map (·.tok) = ts) (hs : s.toks = lts ++ lrest) :
    ∃ d' s', nextDatum s = .ok (some d', s') ∧ d'.strip = d ∧ s'.toks = lrest ∧
      s'.lexErr = s.lexErr :=
  nextDatum_complete h s lts lrest hl hs

example : ∃ d' s', nextDatum (st [.lparen, .ident "a", .period, .ident "b", .rparen, .rparen])
    = .ok (some d', s') ∧ d'.strip = .pair (.sym "a" none) (.sym "b" none) none ∧
      s'.toks = [mk .rparen] ∧ s'.lexErr = none :=
  reader_complete (der_pair [.rparen]) _ ([.lparen, .ident "a", .period, .ident "b", .rparen].map mk)
    [mk .rparen] (by decide +kernel) rfl

/-- READER = GRAMMAR. For a token stream split as `lpre ++ lrest`: the reader returns (a located
version of) `d` and stops exactly in front of `lrest` if and only if the grammar derives
`Parses lpre d lrest` (on the tokens, locations dropped). -/
theorem reader_iff_parses (s : PState) (lpre lrest : List LToken) (hs : s.toks = lpre ++ lrest)
    (d : Datum) :
    (∃ d' s', nextDatum s = .ok (some d', s') ∧ d'.strip = d ∧ s'.toks = lrest) ↔
      Parses (lpre.map (·.tok)) d (lrest.map (·.tok)) := by
  constructor
  · rintro ⟨d', s', h, rfl, rfl⟩
    obtain ⟨lpre', g1, -, g3⟩ := reader_sound s d' s' h
    have : lpre' = lpre := List.append_cancel_right (g1.symm.trans hs)
    rw [← this]; exact g3
  · intro h
    obtain ⟨d', s', g1, g2, g3, -⟩ := reader_complete h s lpre lrest rfl hs
    exact ⟨d', s', g1, g2, g3⟩

example : (∃ d' s', nextDatum (st [.lparen, .ident "a", .period, .rparen]) = .ok (some d', s') ∧
    d'.strip = proper [.sym "a" none] ∧ s'.toks = []) := by
  have h := der_dotClose []
  rw [← mk_tok [.lparen, .ident "a", .period, .rparen]] at h
  exact (reader_iff_parses (st [.lparen, .ident "a", .period, .rparen]) _ [] (by simp [st]) _).2 h

/-- What follows a datum never influences how it is read: a derivation in front of `rest` is a
derivation in front of any `rest'` (the reader has no lookahead beyond the closing token). -/
theorem parses_frame_independent {ts : List Token} {d : Datum} {rest : List Token}
    (h : Parses ts d rest) (rest' : List Token) : Parses ts d rest' :=
  parses_frame h rest'

example : Parses [.lparen, .ident "a", .period, .rparen] (proper [.sym "a" none]) [.quote] :=
  parses_frame_independent (der_dotClose []) _

/-! ## 3. Determinism and unique readability -/

/-- DETERMINISM: `Parses` is functional. A token list has at most one reading: if it splits in two
ways into a written datum and a remainder, the two splits, the two data and the two remainders
coincide. (Proof: both derivations are what the reader — a function — returns.) -/
theorem parses_functional {ts ts' : List Token} {d d' : Datum} {rest rest' : List Token}
    (h : Parses ts d rest) (h' : Parses ts' d' rest') (he : ts ++ rest = ts' ++ rest') :
    ts = ts' ∧ d = d' ∧ rest = rest' := by
  obtain ⟨d1, s1, g1, g2, g3, -⟩ := reader_complete h (st (ts ++ rest)) (ts.map mk) (rest.map mk)
    (mk_tok ts) (by simp [st])
  obtain ⟨d2, s2, k1, k2, k3, -⟩ := reader_complete h' (st (ts ++ rest)) (ts'.map mk)
    (rest'.map mk) (mk_tok ts') (by simp [st, he])
  rw [g1] at k1
  simp only [Except.ok.injEq, Prod.mk.injEq, Option.some.injEq] at k1
  obtain ⟨rfl, rfl⟩ := k1
  have hr : rest = rest' := by
    have := congrArg (List.map (·.tok)) (g3.symm.trans k3)
    rwa [mk_tok, mk_tok] at this
  subst hr
  exact ⟨List.append_cancel_right he, g2.symm.trans k2, rfl⟩

/-- In particular a token list denotes at most one datum. -/
theorem parses_deterministic {ts : List Token} {d d' : Datum} {rest : List Token}
    (h : Parses ts d rest) (h' : Parses ts d' rest) : d = d' :=
  (parses_functional h h' rfl).2.1

/-- `(a . )` denotes `(a)` and nothing else -/
example (d : Datum) (h : Parses [.lparen, .ident "a", .period, .rparen] d []) :
    d = proper [.sym "a" none] :=
  parses_deterministic h (der_dotClose [])

/-- … and no proper prefix or extension of a written datum is a written datum (prefix-freeness):
`(a . b)` cannot also be read as a shorter datum followed by more tokens. -/
example (ts : List Token) (d : Datum) (rest : List Token) (h : Parses ts d rest)
    (he : ts ++ rest = [.lparen, .ident "a", .period, .ident "b", .rparen] ++ [.quote]) :
    ts = [.lparen, .ident "a", .period, .ident "b", .rparen] ∧ rest = [.quote] := by
  have := parses_functional h (der_pair [.quote]) he
  exact ⟨this.1, this.2.2⟩

/-- QUIRK-FREE DERIVATIONS. Every well-formed syntax tree (`Text.Syn`: atoms, `( … )`,
`( …+ . tail)`, `#( … )`, `'x`) is a derivation that uses the R7RS productions only: its tokens
parse as the datum it denotes. -/
theorem syn_parses (x : Syn) (hx : WellFormed x) (rest : List Token) :
    Parses x.toks x.denote rest :=
  parses_of_syn x hx rest

example : Parses (Syn.toks (.dotted [.atom (.ident "a")] (.atom (.ident "b"))))
    (.pair (.sym "a" none) (.sym "b" none) none) [] :=
  syn_parses (.dotted [.atom (.ident "a")] (.atom (.ident "b")))
    ⟨by simp, ⟨rfl, trivial⟩, rfl⟩ []

/-- the trees covered by the RENDER → READ theorems of `C06.lean` are well-formed -/
theorem supported_wellFormed (x : Syn) (hx : x.Supported) : WellFormed x :=
  wf_of_supported x hx

/-- UNIQUE READABILITY. `Syn.toks` is injective on well-formed trees — even in front of
arbitrary further tokens: if the tokens of `x` followed by `r` are the tokens of `y` followed by
`r'`, then `x = y` and `r = r'`. The written form determines the tree (not only the datum:
`(a . (b))` and `(a b)` denote the same datum but are written differently). -/
theorem syn_toks_prefix_unique (x y : Syn) (hx : WellFormed x) (hy : WellFormed y)
    (r r' : List Token) (h : x.toks ++ r = y.toks ++ r') : x = y ∧ r = r' :=
  toks_unique x hx y hy r r' h

/-- `Syn.toks` is injective on well-formed trees (compare `C16.display_injective`). -/
theorem syn_toks_injective (x y : Syn) (hx : WellFormed x) (hy : WellFormed y)
    (h : x.toks = y.toks) : x = y :=
  (toks_unique x hx y hy [] [] (by rw [h])).1

/-- … in particular on the `Supported` trees of `C06.read_render`. -/
theorem supported_toks_injective (x y : Syn) (hx : x.Supported) (hy : y.Supported)
    (h : x.toks = y.toks) : x = y :=
  syn_toks_injective x y (wf_of_supported x hx) (wf_of_supported y hy) h

example (y : Syn) (hy : WellFormed y)
    (h : Syn.toks (.list [.atom (.ident "a")]) = y.toks) : Syn.list [.atom (.ident "a")] = y :=
  syn_toks_injective _ y ⟨rfl, trivial⟩ hy h

/-- well-formedness cannot be dropped: with parentheses abused as "atoms", two different trees
are written `( ( ) )` -/
example : Syn.toks (.list [.atom .lparen, .atom .rparen]) = Syn.toks (.list [.list []]) := rfl

/-! ## 4. Errors -/

/-- The reader's entry point has exactly three kinds of outcome, on every parser state: a SYNTAX
error (never the model's "out of fuel", never a panic, never any other error kind); the end of
the input (only when no token is pending and no lexer error either); or a datum that the grammar
derives from a prefix of the pending tokens. -/
theorem reader_outcomes (s : PState) :
    (∃ l, nextDatum s = .error (.syntax, l)) ∨
    (s.toks = [] ∧ s.lexErr = none ∧ ∃ s', nextDatum s = .ok (none, s')) ∨
    (∃ d s' lpre, nextDatum s = .ok (some d, s') ∧ s.toks = lpre ++ s'.toks ∧
      Parses (lpre.map (·.tok)) d.strip (s'.toks.map (·.tok))) := by
  cases hn : nextDatum s with
  | error e => exact .inl ⟨e.2, by rw [← nextDatum_err_syntax hn]⟩
  | ok r =>
    obtain ⟨_ | d, s'⟩ := r
    · exact .inr (.inl ⟨(nextDatum_none hn).1, (nextDatum_none hn).2.1, s', rfl⟩)
    · exact .inr (.inr ⟨d, s', (reader_sound s d s' hn).imp fun _ g => ⟨rfl, g.1, g.2.2⟩⟩)

/-- Every failure of the reader is a syntax error: the fuel the model supplies always suffices,
and there is no panic site in the reader. -/
theorem reader_error_is_syntax (s : PState) (e : SErr) (h : nextDatum s = .error e) :
    e.1 = .syntax :=
  nextDatum_err_syntax h

private theorem open_a_err : nextDatum (st [.lparen, .ident "a"]) = .error (.syntax, none) := by
  simp [read_eval]

example : nextDatum (st [.lparen, .ident "a"]) = .error (.syntax, none) := open_a_err

/-- ERRORS = NO DERIVATION. With at least one token pending, the reader fails if and only if no
prefix of the pending tokens is a written datum according to the grammar. -/
theorem reader_error_iff (s : PState) (hne : s.toks ≠ []) :
    (∃ e, nextDatum s = .error e) ↔
      ¬ ∃ lpre lrest d, s.toks = lpre ++ lrest ∧ Parses (lpre.map (·.tok)) d (lrest.map (·.tok)) := by
  constructor
  · rintro ⟨e, he⟩ ⟨lpre, lrest, d, hs, hp⟩
    obtain ⟨d', s', g1, -⟩ := reader_complete hp s lpre lrest rfl hs
    rw [g1] at he; cases he
  · intro hno
    rcases reader_outcomes s with ⟨l, hl⟩ | ⟨h0, -⟩ | ⟨d, s', lpre, -, g1, g2⟩
    · exact ⟨_, hl⟩
    · exact absurd h0 hne
    · exact absurd ⟨lpre, s'.toks, d.strip, g1, g2⟩ hno

/-- hence: no derivation starts at the head of `( a` (end of input inside a list) -/
example : ¬ ∃ lpre lrest d, [mk .lparen, mk (.ident "a")] = lpre ++ lrest ∧
    Parses (lpre.map (·.tok)) d (lrest.map (·.tok)) :=
  (reader_error_iff (st [.lparen, .ident "a"]) (by simp [st])).1 ⟨_, open_a_err⟩

/-- The direction asked for explicitly: a reader error means that no complete datum stands at
the head of the token stream. -/
theorem reader_error_no_derivation (s : PState) (e : SErr) (h : nextDatum s = .error e)
    (lpre lrest : List LToken) (d : Datum) (hs : s.toks = lpre ++ lrest) :
    ¬ Parses (lpre.map (·.tok)) d (lrest.map (·.tok)) := by
  intro hp
  obtain ⟨d', s', g1, -⟩ := reader_complete hp s lpre lrest rfl hs
  rw [g1] at h; cases h

/-- A written datum starts with a primitive, an identifier, `(`, `#(` or `'`. -/
theorem parses_starts {ts : List Token} {d : Datum} {rest : List Token} (h : Parses ts d rest) :
    ∃ t more, ts = t :: more ∧ Syn.isStartTok t = true :=
  parses_head h

/-- NAMED CASE: unexpected `)`, a lone `.` at top level, and the tokens of the R7RS forms Ruschm
does not read — `` ` `` `,` `,@` `#u8(` — are rejected at once, with a syntax error located at
that token. -/
theorem reject_unsupported_head (s : PState) (t : LToken) (rest0 : List LToken)
    (hs : s.toks = t :: rest0) (ht : Syn.isStartTok t.tok = false) :
    nextDatum s = .error (.syntax, t.loc) := by
  rw [nextDatum_cons hs, cur_not_start _ rfl ht]

theorem unexpected_rparen (s : PState) (t : LToken) (rest0 : List LToken)
    (hs : s.toks = t :: rest0) (ht : t.tok = .rparen) :
    nextDatum s = .error (.syntax, t.loc) :=
  reject_unsupported_head s t rest0 hs (by rw [ht]; rfl)

theorem lone_period (s : PState) (t : LToken) (rest0 : List LToken)
    (hs : s.toks = t :: rest0) (ht : t.tok = .period) :
    nextDatum s = .error (.syntax, t.loc) :=
  reject_unsupported_head s t rest0 hs (by rw [ht]; rfl)

example : nextDatum (st [.rparen, .ident "a"]) = .error (.syntax, none) :=
  unexpected_rparen _ (mk .rparen) [mk (.ident "a")] rfl rfl

example : nextDatum { toks := [⟨.period, some (3, 4)⟩], lexErr := none }
    = .error (.syntax, some (3, 4)) :=
  lone_period _ ⟨.period, some (3, 4)⟩ [] rfl rfl

example : nextDatum (st [.quasiquote, .ident "a"]) = .error (.syntax, none) :=
  reject_unsupported_head _ (mk .quasiquote) [mk (.ident "a")] rfl rfl

/-- NAMED CASE: the end of the input inside a list — `(`, any number of complete data, and then
nothing (or a pending lexer error) — is a syntax error. -/
theorem unexpected_end_in_list {ts : List Token} {ds : List Datum} {rest : List Token}
    (h : ParsesSeq ts ds rest) (s : PState) (lp : LToken) (lts : List LToken)
    (hp : lp.tok = .lparen) (hl : lts.map (·.tok) = ts) (hs : s.toks = lp :: lts) :
    ∃ l, nextDatum s = .error (.syntax, l) := by
  obtain ⟨fuel', acc', s2, g1, g4, g2⟩ := nextDatum_open h hp hl (lrest := [])
    (by rw [List.append_nil]; exact hs) 1 (by omega) (by omega)
  obtain ⟨f', rfl⟩ := Nat.exists_eq_add_of_le' g1
  rw [g2, listLoop_succ]
  rcases advanceUnwrap_cases s2 with ⟨t, rest0, hs2, -⟩ | ⟨-, e, -, ha⟩
  · rw [g4] at hs2; cases hs2
  · rw [ha]; exact ⟨e, rfl⟩

example : ∃ l, nextDatum (st [.lparen, .ident "a"]) = .error (.syntax, l) :=
  unexpected_end_in_list (seq_a []) _ (mk .lparen) [mk (.ident "a")] rfl rfl rfl

/-- NAMED CASE: two dots in a list — `(`, any number of data, `.`, `.` — are a syntax error
located at the second dot. -/
theorem two_dots {ts : List Token} {ds : List Datum} {rest : List Token}
    (h : ParsesSeq ts ds rest) (s : PState) (lp d1 d2 : LToken) (lts lrest : List LToken)
    (hp : lp.tok = .lparen) (hl : lts.map (·.tok) = ts) (h1 : d1.tok = .period)
    (h2 : d2.tok = .period) (hs : s.toks = lp :: (lts ++ d1 :: d2 :: lrest)) :
    nextDatum s = .error (.syntax, d2.loc) := by
  obtain ⟨fuel', acc', s2, g1, g4, g2⟩ := nextDatum_open h hp hl hs 2 (by omega) (by omega)
  obtain ⟨f', rfl⟩ := Nat.exists_eq_add_of_le' g1
  rw [g2, loop_period_step lp.loc acc' g4 h1, listLoop_succ, advanceUnwrap_cons rfl, ok_bind]
  simp [h2]; rfl

example : nextDatum ⟨[mk .lparen, mk (.ident "a"), mk .period, ⟨.period, some (1, 7)⟩,
      mk (.ident "b"), mk .rparen], none, none, none⟩ = .error (.syntax, some (1, 7)) :=
  two_dots (seq_a []) _ (mk .lparen) (mk .period) ⟨.period, some (1, 7)⟩ [mk (.ident "a")]
    [mk (.ident "b"), mk .rparen] rfl rfl rfl rfl rfl

/-- NAMED CASE: a dot directly after the opening parenthesis, followed by another dot, is an
error too (`( . . a)`), located at the second dot. -/
example : nextDatum ⟨[mk .lparen, mk .period, ⟨.period, some (1, 5)⟩, mk (.ident "a"),
      mk .rparen], none, none, none⟩ = .error (.syntax, some (1, 5)) :=
  two_dots (.nil []) _ (mk .lparen) (mk .period) ⟨.period, some (1, 5)⟩ [] _ rfl rfl rfl rfl rfl

/-- NAMED CASE: the quote mark must be followed by a datum: `'` before `)`, before `.`, before
an unsupported token, is a syntax error located at that token. -/
theorem quote_needs_datum (s : PState) (q t : LToken) (rest0 : List LToken)
    (hq : q.tok = .quote) (ht : Syn.isStartTok t.tok = false) (hs : s.toks = q :: t :: rest0) :
    nextDatum s = .error (.syntax, t.loc) := by
  rw [nextDatum_cons hs, cur_succ _ _ q rfl]
  simp only [hq]
  rw [advance_cons (t := t) (rest := rest0) rfl, ok_bind, parseQuoted_succ,
    datum_not_start _ (t := t) rfl ht]
  rfl

example : nextDatum (st [.lparen, .ident "a", .quote, .rparen]) = .error (.syntax, none) := by
  simp [read_eval]

example : nextDatum { toks := [mk .quote, ⟨.rparen, some (1, 3)⟩], lexErr := none }
    = .error (.syntax, some (1, 3)) :=
  quote_needs_datum _ (mk .quote) ⟨.rparen, some (1, 3)⟩ [] rfl rfl rfl

/-- … and so is the quote mark at the very end of the input. -/
theorem quote_at_end (s : PState) (q : LToken) (hq : q.tok = .quote) (hs : s.toks = [q]) :
    ∃ l, nextDatum s = .error (.syntax, l) := by
  rw [nextDatum_cons hs, cur_succ _ _ q rfl]
  simp only [hq]
  rcases advance_cases { s with toks := [], cur := some q, loc := q.loc }
    with ⟨_, _, h, -⟩ | ⟨-, p, -, ha⟩ | ⟨-, -, ha⟩
  · cases h
  · rw [ha]; exact ⟨_, rfl⟩
  · rw [ha, ok_bind, parseQuoted_succ, datum_none _ rfl]; exact ⟨_, rfl⟩

example : ∃ l, nextDatum (st [.quote]) = .error (.syntax, l) :=
  quote_at_end _ (mk .quote) rfl rfl

/-! ## 5. The quirks at work

Each `quirk…` constructor of `ReadSpec.Parses` is inhabited, i.e. the reader really accepts these
non-R7RS forms (Rust: `current_list_or_pair`, the `encounter_period` flag is only looked at when
an element arrives and the list is non-empty). -/

/-- QUIRK `(x … . )`: a dot directly before the closing parenthesis is ignored. -/
theorem quirk_dot_before_close {ts : List Token} {ds : List Datum} {rest : List Token}
    (h : ParsesSeq ts ds (.period :: .rparen :: rest)) (s : PState) (lts lrest : List LToken)
    (hl : lts.map (·.tok) = .lparen :: (ts ++ [.period, .rparen])) (hs : s.toks = lts ++ lrest) :
    ∃ d' s', nextDatum s = .ok (some d', s') ∧ d'.strip = proper ds ∧ s'.toks = lrest :=
  let ⟨d', s', g1, g2, g3, _⟩ := reader_complete (.quirkDotClose h) s lts lrest hl hs
  ⟨d', s', g1, g2, g3⟩

/-- `(a . )` reads as `(a)` … -/
example : outcome (st [.lparen, .ident "a", .period, .rparen])
    = .ok (some (.pair (.sym "a" none) (.nil none) none)) := by
  unfold outcome; simp [read_eval]
/-- … and `( . )` as `()` -/
example : outcome (st [.lparen, .period, .rparen])
    = .ok (some (.nil none)) := by
  unfold outcome; simp [read_eval]

/-- QUIRK `( . x)`: NOT an error — a leading dot followed by one datum is ignored. -/
theorem quirk_leading_dot {t1 : List Token} {d1 : Datum} {rest : List Token}
    (h : Parses t1 d1 (.rparen :: rest)) (s : PState) (lts lrest : List LToken)
    (hl : lts.map (·.tok) = .lparen :: .period :: (t1 ++ [.rparen])) (hs : s.toks = lts ++ lrest) :
    ∃ d' s', nextDatum s = .ok (some d', s') ∧ d'.strip = proper [d1] ∧ s'.toks = lrest :=
  let ⟨d', s', g1, g2, g3, _⟩ := reader_complete (.quirkLeadingDot h) s lts lrest hl hs
  ⟨d', s', g1, g2, g3⟩

/-- `( . a)` reads as `(a)` -/
example : outcome (st [.lparen, .period, .ident "a", .rparen])
    = .ok (some (.pair (.sym "a" none) (.nil none) none)) := by
  unfold outcome; simp [read_eval]

/-- QUIRK `( . x y)`: a leading dot followed by two data is read as if it stood between them. -/
theorem quirk_leading_dot_pair {t1 t2 : List Token} {d1 d2 : Datum} {rest : List Token}
    (h1 : Parses t1 d1 (t2 ++ .rparen :: rest)) (h2 : Parses t2 d2 (.rparen :: rest))
    (s : PState) (lts lrest : List LToken)
    (hl : lts.map (·.tok) = .lparen :: .period :: (t1 ++ (t2 ++ [.rparen])))
    (hs : s.toks = lts ++ lrest) :
    ∃ d' s', nextDatum s = .ok (some d', s') ∧ d'.strip = .pair d1 d2 none ∧ s'.toks = lrest :=
  let ⟨d', s', g1, g2, g3, _⟩ := reader_complete (.quirkLeadingDotPair h1 h2) s lts lrest hl hs
  ⟨d', s', g1, g2, g3⟩

/-- `( . a b)` reads as `(a . b)`; `( . a b c)` is an error -/
example : outcome (st [.lparen, .period, .ident "a", .ident "b", .rparen])
    = .ok (some (.pair (.sym "a" none) (.sym "b" none) none)) := by
  unfold outcome; simp [read_eval]
example : nextDatum (st [.lparen, .period, .ident "a", .ident "b", .ident "c", .rparen])
    = .error (.syntax, none) := by simp [read_eval]

/-- NOT a quirk: a dotted tail that is itself a list is the longer list — `(x … . (y …))` and
`(x … y …)` denote the same datum (R7RS 6.4), here by the standard constructor `dotted`. -/
theorem dotted_list_tail (ds es : List Datum) : improper ds (proper es) = proper (ds ++ es) :=
  improper_proper ds es

/-- `(a . (b c))` reads as `(a b c)` -/
example : outcome (st [.lparen, .ident "a", .period, .lparen, .ident "b", .ident "c",
      .rparen, .rparen])
    = .ok (some (proper [.sym "a" none, .sym "b" none, .sym "c" none])) := by
  unfold outcome; simp [read_eval]

/-- after a dotted tail only `)` may follow: `(a . b c)` and `(a . b . )` are errors -/
example : nextDatum (st [.lparen, .ident "a", .period, .ident "b", .ident "c", .rparen])
    = .error (.syntax, none) := by simp [read_eval]
example : nextDatum (st [.lparen, .ident "a", .period, .ident "b", .period, .rparen])
    = .error (.syntax, none) := by simp [read_eval]

/-- nested abbreviations are read (`datum()` has a `Quote` arm): `''a` is `(quote (quote a))` -/
example : outcome (st [.quote, .quote, .ident "a"])
    = .ok (some (quoteForm (quoteForm (.sym "a" none)))) := by
  unfold outcome; simp [read_eval]

/-! ## 6. Where the reader is narrower than R7RS 7.1.2

Stated as the `Prop` one would like to have and its refutation. -/

/-- FULL abbreviation coverage: `` `x ``, `,x`, `,@x` read as `(quasiquote x)`, `(unquote x)`,
`(unquote-splicing x)` (R7RS 7.1.2 `<abbrev prefix>`), and `#u8( … )` reads as a bytevector. -/
def reads_all_r7rs_prefixes_full : Prop :=
  ∀ t : Token, t = .quasiquote ∨ t = .unquote ∨ t = .unquoteSplicing ∨ t = .byteVecIntro →
    ∃ d s', nextDatum (st [t, .prim (.int 1), .rparen]) = .ok (some d, s')

/-- It fails: these four tokens are produced by the lexer and rejected by the reader
(`current_datum`, arm `other => UnexpectedToken`). -/
theorem reads_all_r7rs_prefixes_full_fails : ¬ reads_all_r7rs_prefixes_full := by
  intro h
  obtain ⟨d, s', hd⟩ := h .quasiquote (Or.inl rfl)
  rw [reject_unsupported_head _ (mk .quasiquote) _ rfl rfl] at hd
  cases hd

end Ruschm.C06Read
