/-
What the operations of the abstract store of `RuschmSpec/AbsStore.lean` do to the names a scope defines, to the
scopes around a scope and to the number of scopes; operands that fail.
-/
import RuschmSpec.AbsStore
import RuschmProofs.AssocLemmas

namespace Ruschm.AbsStore

/-! ## list facts -/

theorem lookup_flatMap {α : Type} (f : α → Env) (x : String) : ∀ l : List α,
    (l.flatMap f).lookup x =
      (l.find? (fun r => ((f r).lookup x).isSome)).bind (fun r => (f r).lookup x)
  | [] => by simp
  | a :: l => by
    rw [List.flatMap_cons, List.lookup_append, List.find?_cons, lookup_flatMap f x l]
    cases h : (f a).lookup x <;> simp [h]

theorem getElem?_concat {α : Type} (l : List α) (a : α) (i : Nat) :
    (l ++ [a])[i]? = if i = l.length then some a else l[i]? := by
  split
  · next h => rw [h, List.getElem?_concat_length]
  · next h =>
    by_cases hl : i < l.length
    · exact List.getElem?_append_left hl
    · have hn := Nat.le_of_not_lt hl
      rw [List.getElem?_eq_none hn, List.getElem?_eq_none (List.length_append ▸ Nat.lt_of_le_of_ne hn (Ne.symm h))]

/-! ## `define` of a name the scope did not have -/

/-- what `AbsStore.define` returns in its last branch: scope `r` is `sc` and does not name `x` -/
def defineNew (s : State) (r : Nat) (sc : Scope) (x : String) (v : Value) : State :=
  { s with vals := upd s.vals s.nextB v, nextB := s.nextB + 1,
           scopes := s.scopes.set r { sc with names := (x, s.nextB) :: sc.names } }

theorem ownNames_defineNew {s : State} {r : Nat} {sc : Scope} (hs : s.scopes[r]? = some sc)
    (x : String) (v : Value) (r' : Nat) (y : String) :
    (ownNames (defineNew s r sc x v) r').lookup y =
      if r' = r ∧ y = x then some s.nextB else (ownNames s r').lookup y := by
  have hlt : r < s.scopes.length := (List.getElem?_eq_some_iff.1 hs).1
  unfold ownNames defineNew
  simp only [List.getElem?_set]
  by_cases hr : r = r'
  · subst hr
    simp only [hlt, if_true, hs, Assoc.lookup_cons_ite, true_and]
  · have : ¬ (r' = r ∧ y = x) := fun h => hr h.1.symm
    simp [hr, this]

theorem scopeChain_defineNew {s : State} {r : Nat} {sc : Scope} (hs : s.scopes[r]? = some sc)
    (x : String) (v : Value) (ρ : Nat) :
    scopeChain (defineNew s r sc x v) ρ = scopeChain s ρ := by
  have hlt : r < s.scopes.length := (List.getElem?_eq_some_iff.1 hs).1
  unfold scopeChain defineNew
  simp only [List.getElem?_set]
  by_cases hr : r = ρ
  · subst hr; simp only [hlt, if_true, hs]
  · simp [hr]

/-! ## `extend` -/

theorem ownNames_extend (s : State) (p : Option Nat) (r : Nat) :
    ownNames (extend s p).2 r = ownNames s r := by
  unfold ownNames extend
  rw [getElem?_concat]
  by_cases h : r = s.scopes.length
  · rw [if_pos h, h, List.getElem?_eq_none (Nat.le_refl _)]
  · rw [if_neg h]

theorem scopeChain_extend (s : State) (p : Option Nat) (ρ : Nat) :
    scopeChain (extend s p).2 ρ =
      if ρ = s.scopes.length then
        ρ :: (match p with
              | some q => scopeChain s q
              | none => [])
      else scopeChain s ρ := by
  unfold scopeChain extend
  rw [getElem?_concat]
  by_cases h : ρ = s.scopes.length
  · rw [if_pos h, if_pos h]; rfl
  · rw [if_neg h, if_neg h]

/-! ## which operations add a scope -/

theorem define_scopes_length (s : State) (ρ : Nat) (x : String) (v : Value) :
    (AbsStore.define s ρ x v).scopes.length = s.scopes.length := by
  unfold AbsStore.define
  split
  · rfl
  · split
    · rfl
    · simp

theorem assign_scopes (s : State) (ρ : Nat) (x : String) (v : Value) :
    (AbsStore.assign s ρ x v).2.scopes = s.scopes := by
  unfold AbsStore.assign; split <;> rfl

theorem makeVectorV_scopes (s : State) (k fill : Value) :
    (makeVectorV s k fill).2.scopes = s.scopes := by
  unfold makeVectorV
  split
  · split <;> rfl
  · rfl

theorem vecSetV_scopes (s : State) (v k obj : Value) : (vecSetV s v k obj).2.scopes = s.scopes := by
  unfold vecSetV
  split
  · unfold vecSet
    split
    · rfl
    · split
      · rfl
      · split <;> rfl
  · rfl

/-! ## operands that fail show no frame -/

theorem evalSrc_noframe {s : State} {outs : List Out} {e : Src} {o : Out} (h : evalSrc s outs e = .error o)
    (id : Nat) : o ≠ .frame id := by
  cases e with
  | const v => simp [evalSrc] at h
  | var ρ x =>
    simp only [evalSrc] at h
    split at h
    · cases h
    · cases h; simp
  | res k =>
    simp only [evalSrc, resValue] at h
    split at h
    · cases h
    · cases h; simp

theorem evalSrcs_noframe {s : State} {outs : List Out} : ∀ {es : List Src} {o : Out},
    evalSrcs s outs es = .error o → ∀ id, o ≠ .frame id
  | [], _, h => by simp [evalSrcs] at h
  | e :: es, o, h => by
    simp only [evalSrcs] at h
    split at h
    · rename_i o' he; cases h; exact evalSrc_noframe he
    · split at h
      · rename_i o' hes; cases h; exact evalSrcs_noframe hes
      · cases h

end Ruschm.AbsStore
