/-
Property C11 — the list library computes what its specification says.

"car, cdr, cons, the twelve c[ad]{2,3}r compositions, list, make-list, null?, pair?, list?, append,
map, for-each, fold-left, fold-right, list-tail, list-ref, last-pair, memq, memv, equal? and apply
return, for every argument in their domain, the result their R7RS (or, for the folds, minischeme)
definition gives, call their procedure argument once per element in list order, and raise an error
rather than return a value when a list is too short for the request."

Only property theorems live here (each audited with `#print axioms`). Vocabulary:

* the SPEC functions (`carS … cdddrS`, `listTailS`, `memS`, `equalS`, …) are plain Lean functions
  on values in `RuschmSpec/ListLib.lean`, with lemmas relating them to `List.drop`, `xs[k]`, …;
* `libProc name b` is the closure over frame `b` of the lambda that the MODEL's transformer makes
  of the definition of `name` in the GENERATED datum of `base.sld` (`RuschmProofs/ListLibCode`):
  the theorems are about that code, not about a copy;
* `LibFrame σ b`: frame `b` of `σ` is an instance of `(scheme base)` (every defined name bound to
  its `libProc`, every native bound to its builtin);
* `Applies σ p args env r σ'`: the trampoline loop of `apply_procedure` started with procedure `p`
  and arguments `args` (from a caller in frame `env`) ends with outcome `r` — a value or a
  non-fuel error — in store `σ'` (`RuschmProofs/EvalFuel`, rules in `EvalRules`);
* `σ.Ext σ'`: `σ'` is `σ` with frames appended — no existing frame, no vector, no output changed,
  same activation depth. In particular `LibFrame σ' b` still holds (`libFrame_ext`).
-/
import RuschmProofs.ListLibLemmas

namespace Ruschm.C11
open Ruschm Ruschm.Eval Ruschm.ListSpec Ruschm.ListLib

/-! ## sample data for the non-vacuity examples -/

def num (i : Int) : Value := .num (.int i)
/-- `(1 2 3)` -/
def l123 : Value := Value.ofList [num 1, num 2, num 3]

/-- library frames exist: `libStore` is a store whose frame 0 holds exactly the bindings of
`(scheme base)` -/
example : LibFrame libStore 0 := libFrame_libStore

/-- … and they are what the interpreter builds: in a state whose registered `(ruschm base)` is the
native library, `Interp.evalLibraryDef` on the declarations generated from `base.sld` succeeds and
its fresh root frame (here frame 1) is a library frame (`libFrame_of_evalLibraryDef`, for every such
state) -/
example : ∃ exports st', Interp.evalLibraryDef 40
      { store := (({} : Store).newFrame none).2, factories := [(Interp.libRuschmBase, .native Interp.nativeBase)] }
      libDecls = (.ok exports, st') ∧ LibFrame st'.store 1 := by
  obtain ⟨exports, st', h, hl, _⟩ := libFrame_of_evalLibraryDef
    { store := (({} : Store).newFrame none).2, factories := [(Interp.libRuschmBase, .native Interp.nativeBase)] }
    40 (Nat.le_refl _) rfl rfl rfl
  exact ⟨exports, st', h, hl⟩

/-- appending frames keeps the library frame -/
theorem libFrame_ext {σ σ' : Store} {b : Nat} (h : LibFrame σ b) (he : σ.Ext σ') : LibFrame σ' b :=
  h.ext he.framesExt

example : LibFrame (callFrame libStore 0 ⟨["x"], none⟩ [num 1]) 0 :=
  libFrame_ext libFrame_libStore (callFrame_ext _ _ _ _)

/-! ## the natives -/

/-- `car` returns the first component of a pair; on `()` and on any other non-pair it is a type
error; the store is untouched -/
theorem car_spec (σ : Store) (v : Value) (env : Nat) : Applies σ (.builtin .car) [v] env (carS v) σ :=
  Applies.builtin_run (by decide) (by rfl) (applyPure_car σ v)

example : carS (.pair (num 1) (num 2)) = .ok (num 1) ∧ carS .nil = .error typeErr ∧
    carS (num 5) = .error typeErr := ⟨rfl, rfl, rfl⟩

theorem cdr_spec (σ : Store) (v : Value) (env : Nat) : Applies σ (.builtin .cdr) [v] env (cdrS v) σ :=
  Applies.builtin_run (by decide) (by rfl) (applyPure_cdr σ v)

example : cdrS l123 = .ok (Value.ofList [num 2, num 3]) ∧ cdrS .nil = .error typeErr := ⟨rfl, rfl⟩

theorem cons_spec (σ : Store) (a d : Value) (env : Nat) :
    Applies σ (.builtin .cons) [a, d] env (.ok (.pair a d)) σ :=
  Applies.builtin_run (by decide) (by rfl) (applyPure_cons σ a d)

example : Applies libStore (.builtin .cons) [num 1, .nil] 0 (.ok (Value.ofList [num 1])) libStore :=
  cons_spec _ _ _ _

theorem pair_spec (σ : Store) (v : Value) (env : Nat) :
    Applies σ (.builtin .isPair) [v] env (.ok (.bool (isPair v))) σ :=
  Applies.builtin_run (by decide) (by rfl) (applyPure_isPair σ v)

example : isPair l123 = true ∧ isPair .nil = false := ⟨rfl, rfl⟩

/-- `(apply f a … lst)` continues the loop with `f` applied to `a …` followed by the elements of
`lst`, which must be a pair or `()`. DEVIATION from R7RS: an improper `lst` is accepted and its
final tail becomes a last argument (`Value.elems`). -/
theorem apply_spec {σ : Store} {f : Value} {init : List Value} {last : Value} {env : Nat}
    {r : Except SErr Value} {σ' : Store} (hf : (procArity f).isSome) (hl : isPair last = true ∨ last = .nil)
    (h : Applies σ f (init ++ last.elems) env r σ') :
    Applies σ (.builtin .apply) (f :: (init ++ [last])) env r σ' := by
  exact Applies.apply (by simp) (spreadApply_snoc hf (hl.symm.imp_right exists_pair)) h

/-- `(apply f)` applies `f` to no argument; a last argument that is not a list is a type error,
an operator that is not a procedure a non-procedure error -/
theorem apply_spec_edge {σ : Store} {f : Value} {env : Nat} :
    (∀ {r σ'}, (procArity f).isSome → Applies σ f [] env r σ' → Applies σ (.builtin .apply) [f] env r σ') ∧
    (∀ init last, (procArity f).isSome → isPair last = false → last ≠ .nil →
      Applies σ (.builtin .apply) (f :: (init ++ [last])) env (.error typeErr) σ) ∧
    (∀ rest, procArity f = none →
      Applies σ (.builtin .apply) (f :: rest) env (.error (.nonProcedure, none)) σ) := by
  refine ⟨fun hf h => ?_, fun init last hf hp hn => ?_, fun rest hf => ?_⟩
  · refine Applies.apply (by simp) ?_ h
    obtain ⟨a, ha⟩ := Option.isSome_iff_exists.mp hf
    simp [spreadApply, ha]
  · refine Applies.apply_err (by simp) ?_
    obtain ⟨a, ha⟩ := Option.isSome_iff_exists.mp hf
    simp only [spreadApply, ha, List.getLast?_append, List.getLast?_singleton]
    cases last <;> simp_all [isPair]
  · exact Applies.apply_err (by simp) (by simp [spreadApply, hf])

/-- `(apply cons 1 '(2))` is `(cons 1 2)` -/
example : Applies libStore (.builtin .apply) [.builtin .cons, num 1, Value.ofList [num 2]] 0
    (.ok (.pair (num 1) (num 2))) libStore :=
  apply_spec (init := [num 1]) (by rfl) (.inl rfl) (cons_spec _ _ _ _)

/-! ## procedures written in Scheme in `base.sld`

Each theorem: in every store with the library frame, whoever the caller, the procedure applied to
the arguments has the outcome the spec function gives — the error included when the list is too
short — and the store is only extended by frames. -/

section lib
variable {σ : Store} {b : Nat}

/-- `(null? x)` is `(eqv? x '())`: true exactly for the empty list -/
theorem null_spec (h : LibFrame σ b) (x : Value) (env : Nat) :
    ∃ σ', Applies σ (libProc "null?" b) [x] env (.ok (.bool (isNil x))) σ' ∧ σ.Ext σ' :=
  papp_null b x σ env h rfl

example : ∃ σ', Applies libStore (libProc "null?" 0) [.nil] 0 (.ok (.bool true)) σ' ∧ libStore.Ext σ' :=
  null_spec libFrame_libStore .nil 0

theorem caar_spec (h : LibFrame σ b) (x : Value) (env : Nat) :
    ∃ σ', Applies σ (libProc "caar" b) [x] env (caarS x) σ' ∧ σ.Ext σ' := papp_cxr b true [true] (i := 0) rfl x σ env h rfl
theorem cadr_spec (h : LibFrame σ b) (x : Value) (env : Nat) :
    ∃ σ', Applies σ (libProc "cadr" b) [x] env (cadrS x) σ' ∧ σ.Ext σ' := papp_cxr b true [false] (i := 1) rfl x σ env h rfl
theorem cdar_spec (h : LibFrame σ b) (x : Value) (env : Nat) :
    ∃ σ', Applies σ (libProc "cdar" b) [x] env (cdarS x) σ' ∧ σ.Ext σ' := papp_cxr b false [true] (i := 2) rfl x σ env h rfl
theorem cddr_spec (h : LibFrame σ b) (x : Value) (env : Nat) :
    ∃ σ', Applies σ (libProc "cddr" b) [x] env (cddrS x) σ' ∧ σ.Ext σ' := papp_cxr b false [false] (i := 3) rfl x σ env h rfl
theorem caaar_spec (h : LibFrame σ b) (x : Value) (env : Nat) :
    ∃ σ', Applies σ (libProc "caaar" b) [x] env (caaarS x) σ' ∧ σ.Ext σ' := papp_cxr b true [true, true] (i := 4) rfl x σ env h rfl
theorem caadr_spec (h : LibFrame σ b) (x : Value) (env : Nat) :
    ∃ σ', Applies σ (libProc "caadr" b) [x] env (caadrS x) σ' ∧ σ.Ext σ' := papp_cxr b true [true, false] (i := 5) rfl x σ env h rfl
theorem cadar_spec (h : LibFrame σ b) (x : Value) (env : Nat) :
    ∃ σ', Applies σ (libProc "cadar" b) [x] env (cadarS x) σ' ∧ σ.Ext σ' := papp_cxr b true [false, true] (i := 6) rfl x σ env h rfl
theorem caddr_spec (h : LibFrame σ b) (x : Value) (env : Nat) :
    ∃ σ', Applies σ (libProc "caddr" b) [x] env (caddrS x) σ' ∧ σ.Ext σ' := papp_cxr b true [false, false] (i := 7) rfl x σ env h rfl
theorem cdaar_spec (h : LibFrame σ b) (x : Value) (env : Nat) :
    ∃ σ', Applies σ (libProc "cdaar" b) [x] env (cdaarS x) σ' ∧ σ.Ext σ' := papp_cxr b false [true, true] (i := 8) rfl x σ env h rfl
theorem cdadr_spec (h : LibFrame σ b) (x : Value) (env : Nat) :
    ∃ σ', Applies σ (libProc "cdadr" b) [x] env (cdadrS x) σ' ∧ σ.Ext σ' := papp_cxr b false [true, false] (i := 9) rfl x σ env h rfl
theorem cddar_spec (h : LibFrame σ b) (x : Value) (env : Nat) :
    ∃ σ', Applies σ (libProc "cddar" b) [x] env (cddarS x) σ' ∧ σ.Ext σ' := papp_cxr b false [false, true] (i := 10) rfl x σ env h rfl
theorem cdddr_spec (h : LibFrame σ b) (x : Value) (env : Nat) :
    ∃ σ', Applies σ (libProc "cdddr" b) [x] env (cdddrS x) σ' ∧ σ.Ext σ' := papp_cxr b false [false, false] (i := 11) rfl x σ env h rfl

/-- what the compositions select from a structure that is long enough, and the error when it is
too short -/
example (a b c d e f g : Value) :
    caarS (.pair (.pair a b) c) = .ok a ∧ cadrS (.pair a (.pair b c)) = .ok b ∧
    cdarS (.pair (.pair a b) c) = .ok b ∧ cddrS (.pair a (.pair b c)) = .ok c ∧
    caaarS (.pair (.pair (.pair a b) c) d) = .ok a ∧ caadrS (.pair a (.pair (.pair b c) d)) = .ok b ∧
    cadarS (.pair (.pair a (.pair b c)) d) = .ok b ∧ caddrS (.pair a (.pair b (.pair c d))) = .ok c ∧
    cdaarS (.pair (.pair (.pair a b) c) d) = .ok b ∧ cdadrS (.pair a (.pair (.pair b c) d)) = .ok c ∧
    cddarS (.pair (.pair a (.pair b c)) d) = .ok c ∧ cdddrS (.pair a (.pair b (.pair c d))) = .ok d ∧
    caddrS (Value.ofList [e, f]) = .error typeErr ∧ cdddrS (Value.ofList [e, f]) = .error typeErr ∧
    caarS (Value.ofList [num 1]) = .error typeErr ∧ cadrS (Value.ofList [g]) = .error typeErr :=
  ⟨rfl, rfl, rfl, rfl, rfl, rfl, rfl, rfl, rfl, rfl, rfl, rfl, rfl, rfl, rfl, rfl⟩

example : ∃ σ', Applies libStore (libProc "caddr" 0) [l123] 0 (.ok (num 3)) σ' ∧ libStore.Ext σ' :=
  caddr_spec libFrame_libStore l123 0
example : ∃ σ', Applies libStore (libProc "cdddr" 0) [Value.ofList [num 1, num 2]] 0 (.error typeErr) σ' ∧
    libStore.Ext σ' :=
  cdddr_spec libFrame_libStore _ 0

/-- `(list a …)` returns the list of its arguments -/
theorem list_spec (h : LibFrame σ b) (args : List Value) (env : Nat) :
    ∃ σ', Applies σ (libProc "list" b) args env (.ok (Value.ofList args)) σ' ∧ σ.Ext σ' :=
  papp_list b args σ env h rfl

example : ∃ σ', Applies libStore (libProc "list" 0) [num 1, num 2, num 3] 0 (.ok l123) σ' ∧ libStore.Ext σ' :=
  list_spec libFrame_libStore _ 0

/-- `(list-tail x k)` for an index `0 ≤ k` (in the `i32` range of the interpreter's integers): `k`
times `cdr` — for a proper list `List.drop k` (`listTailS_ofList`) — and the `cdr` type error when
the list has fewer than `k` elements (`listTailS_short`).
DEVIATION: a negative or non-integer `k` never satisfies `(= k 0)`; the recursion then runs down
the whole list and ends in the `cdr` error (not proved here: outside the domain). -/
theorem list_tail_spec (h : LibFrame σ b) (x : Value) (k : Nat) (hk : (k : Int) ≤ 2147483647) (env : Nat) :
    ∃ σ', Applies σ (libProc "list-tail" b) [x, .num (.int k)] env (listTailS x k) σ' ∧ σ.Ext σ' :=
  papp_list_tail b k x hk σ env h rfl

example : ∃ σ', Applies libStore (libProc "list-tail" 0) [l123, num 2] 0 (.ok (Value.ofList [num 3])) σ' ∧
    libStore.Ext σ' :=
  list_tail_spec libFrame_libStore l123 2 (by decide) 0
/-- too short: an error, not a value -/
example : ∃ σ', Applies libStore (libProc "list-tail" 0) [l123, num 4] 0 (.error typeErr) σ' ∧
    libStore.Ext σ' :=
  list_tail_spec libFrame_libStore l123 4 (by decide) 0

/-- `(list-ref x k)`: the `k`-th element (`listRefS_ofList`), an error when `k` is not below the
length (`listRefS_short`) -/
theorem list_ref_spec (h : LibFrame σ b) (x : Value) (k : Nat) (hk : (k : Int) ≤ 2147483647) (env : Nat) :
    ∃ σ', Applies σ (libProc "list-ref" b) [x, .num (.int k)] env (listRefS x k) σ' ∧ σ.Ext σ' :=
  papp_list_ref b k x hk σ env h rfl

example : ∃ σ', Applies libStore (libProc "list-ref" 0) [l123, num 1] 0 (.ok (num 2)) σ' ∧ libStore.Ext σ' :=
  list_ref_spec libFrame_libStore l123 1 (by decide) 0
example : ∃ σ', Applies libStore (libProc "list-ref" 0) [l123, num 3] 0 (.error typeErr) σ' ∧ libStore.Ext σ' :=
  list_ref_spec libFrame_libStore l123 3 (by decide) 0

/-- `(last-pair x)`: the last pair of the spine of a non-empty (proper or improper) list
(`lastPairS_ofList`); an error on `()` and on any other non-pair -/
theorem last_pair_spec (h : LibFrame σ b) (x : Value) (env : Nat) :
    ∃ σ', Applies σ (libProc "last-pair" b) [x] env (lastPairS x) σ' ∧ σ.Ext σ' :=
  papp_last_pair b x σ env h rfl

example : ∃ σ', Applies libStore (libProc "last-pair" 0) [l123] 0 (.ok (Value.ofList [num 3])) σ' ∧ libStore.Ext σ' :=
  last_pair_spec libFrame_libStore l123 0
example : lastPairS .nil = .error typeErr ∧ lastPairS (.pair (num 1) (num 2)) = .ok (.pair (num 1) (num 2)) :=
  ⟨rfl, rfl⟩

/-- `(memq obj lst)`: the first sublist whose `car` is `eq?` to `obj` (`eq?` is the native `eqv?`
here), `#f` if the proper list has none (`memS_ofList`); if `lst` is improper and no element
before its tail matches, the `car` type error -/
theorem memq_spec (h : LibFrame σ b) (obj lst : Value) (env : Nat) :
    ∃ σ', Applies σ (libProc "memq" b) [obj, lst] env (memS obj lst) σ' ∧ σ.Ext σ' :=
  papp_memq b obj lst σ env h rfl

theorem memv_spec (h : LibFrame σ b) (obj lst : Value) (env : Nat) :
    ∃ σ', Applies σ (libProc "memv" b) [obj, lst] env (memS obj lst) σ' ∧ σ.Ext σ' :=
  papp_memv b obj lst σ env h rfl

example : ∃ σ', Applies libStore (libProc "memv" 0) [num 2, l123] 0 (.ok (Value.ofList [num 2, num 3])) σ' ∧
    libStore.Ext σ' :=
  memv_spec libFrame_libStore (num 2) l123 0
example : ∃ σ', Applies libStore (libProc "memq" 0) [num 7, l123] 0 (.ok (.bool false)) σ' ∧ libStore.Ext σ' :=
  memq_spec libFrame_libStore (num 7) l123 0
example : memS (num 7) (.pair (num 1) (num 2)) = .error typeErr := rfl

/-- `(list? x)`: `#t` exactly for the proper lists (`isProperList_iff`) -/
theorem list_pred_spec (h : LibFrame σ b) (x : Value) (env : Nat) :
    ∃ σ', Applies σ (libProc "list?" b) [x] env (.ok (.bool (isProperList x))) σ' ∧ σ.Ext σ' :=
  papp_list_pred b x σ env h rfl

example : ∃ σ', Applies libStore (libProc "list?" 0) [l123] 0 (.ok (.bool true)) σ' ∧ libStore.Ext σ' :=
  list_pred_spec libFrame_libStore l123 0
example : isProperList (.pair (num 1) (num 2)) = false := rfl

/-- `(equal? x y)`: structural equality on pairs AND vectors — two vectors are `equal?` when their
cells in the store have the same length and pairwise `equal?` items, read from the store
(mutability ignored) — with `eqv?` at the other leaves. Pairs may contain vectors and vectors
pairs, to any depth.
RESTRICTION: vectors are store cells and can be cyclic, and the comparison of cyclic structures
does not terminate; the theorem is about the comparisons that are finite: `equalS σ n x y = some r`
says that the comparison, followed to nesting depth `n`, has the outcome `r` (for data without
vectors `n` = the depth of `x` suffices; `equalS` is `none` beyond the bound and for a dangling
vector reference). Vector lengths are assumed to be in the `i32` range of the interpreter's
integers (the index arithmetic of the helper `vector-equal-from?`). -/
theorem equal_spec (h : LibFrame σ b)
    (hfit : ∀ (i : Nat) (c : VecCell), σ.vecs[i]? = some c → (c.items.length : Int) ≤ 2147483647)
    (x y : Value) (n : Nat) (r : Bool) (hr : equalS σ n x y = some r) (env : Nat) :
    ∃ σ', Applies σ (libProc "equal?" b) [x, y] env (.ok (.bool r)) σ' ∧ σ.Ext σ' :=
  papp_equal b σ hfit n x y r hr σ env h rfl

example : ∃ σ', Applies libStore (libProc "equal?" 0) [l123, l123] 0 (.ok (.bool true)) σ' ∧ libStore.Ext σ' :=
  equal_spec libFrame_libStore (fun i c h => by simp [libStore] at h) l123 l123 4 true (by decide +kernel) 0
example : equalS libStore 4 l123 (Value.ofList [num 1, num 2]) = some false ∧
    equalS libStore 1 (.str "a") (.str "a") = some true ∧ equalS libStore 2 l123 l123 = none :=
  ⟨by decide +kernel, by decide +kernel, by decide +kernel⟩

/-- a store with three vectors: `#(1 2)` (mutable), `#(1 2)` (a literal, immutable), `#(1 (3))` -/
def vecStore : Store :=
  { libStore with vecs := #[⟨true, [num 1, num 2]⟩, ⟨false, [num 1, num 2]⟩,
      ⟨true, [num 1, Value.ofList [num 3]]⟩] }

/-- `(equal? (list v0 v2) (list v1 v2))` is `#t`: vectors inside lists, a list inside a vector,
mutability ignored; `(equal? v0 v2)` is `#f` -/
example : (∃ σ', Applies vecStore (libProc "equal?" 0) [Value.ofList [.vec 0, .vec 2], Value.ofList [.vec 1, .vec 2]] 0
      (.ok (.bool true)) σ' ∧ vecStore.Ext σ') ∧
    (∃ σ', Applies vecStore (libProc "equal?" 0) [.vec 0, .vec 2] 0 (.ok (.bool false)) σ' ∧ vecStore.Ext σ') := by
  have hl : LibFrame vecStore 0 := LibFrame.of_defs rfl
  have hfit := fit_of_all (σ := vecStore) (by decide +kernel)
  exact ⟨equal_spec hl hfit _ _ 6 true (by decide +kernel) 0, equal_spec hl hfit _ _ 3 false (by decide +kernel) 0⟩

/-- `(make-list k fill)` for an integer `k` (`i32`): `k` copies of `fill`; none when `k ≤ 0`
(`makeListS_nonpos`) -/
theorem make_list_spec (h : LibFrame σ b) (k : Int) (hk : k ≤ 2147483647) (fill : Value) (env : Nat) :
    ∃ σ', Applies σ (libProc "make-list" b) [.num (.int k), fill] env (.ok (makeListS k fill)) σ' ∧ σ.Ext σ' :=
  papp_make_list b fill k.toNat k rfl hk σ env h rfl

example : ∃ σ', Applies libStore (libProc "make-list" 0) [num 2, num 7] 0 (.ok (Value.ofList [num 7, num 7])) σ' ∧
    libStore.Ext σ' :=
  make_list_spec libFrame_libStore 2 (by decide) (num 7) 0
example : ∃ σ', Applies libStore (libProc "make-list" 0) [num (-3), num 7] 0 (.ok .nil) σ' ∧ libStore.Ext σ' :=
  make_list_spec libFrame_libStore (-3) (by decide) (num 7) 0

/-- `(append l₁ … lₙ)` on ALL argument lists: `()` for none; the last argument (any value) behind
the elements of the others (`appendE_eq`: `appendS` when every argument but the last is a proper
list); the `car` type error when an argument other than the last is not a proper list. The
procedure recurses through the native `apply`. -/
theorem append_spec (h : LibFrame σ b) (args : List Value) (env : Nat) :
    ∃ σ', Applies σ (libProc "append" b) args env (appendE args) σ' ∧ σ.Ext σ' :=
  papp_append_all b args σ env h rfl

example : ∃ σ', Applies libStore (libProc "append" 0) [] 0 (.ok .nil) σ' ∧ libStore.Ext σ' :=
  append_spec libFrame_libStore [] 0
/-- `(append '(1 2 3) '() '(1 2 3) 7)` is `(1 2 3 1 2 3 . 7)` -/
example : ∃ σ', Applies libStore (libProc "append" 0) [l123, .nil, l123, num 7] 0
    (.ok (withTail [num 1, num 2, num 3, num 1, num 2, num 3] (num 7))) σ' ∧ libStore.Ext σ' :=
  append_spec libFrame_libStore _ 0
example : appendE [num 5, l123] = .error typeErr ∧ appendE [.pair (num 1) (num 2), l123] = .error typeErr :=
  ⟨rfl, rfl⟩
example (xs ys : List Value) : appendE [Value.ofList xs, Value.ofList ys] = .ok (Value.ofList (xs ++ ys)) := by
  have hd : appendDomain [Value.ofList xs, Value.ofList ys] := ⟨(isProperList_iff _).mpr ⟨xs, rfl⟩, trivial⟩
  rw [appendE_eq _ hd, appendS_ofList]

/-! ### the higher-order procedures

`f` is an arbitrary procedure value that satisfies `ProcArg b N K f dom`: on the argument lists in
`dom`, in every store satisfying the caller's invariant `K` (an invariant that appending frames
cannot break), applying `f` has an outcome, keeps the library frame and the frames the running
library procedure has allocated (numbers `≥ N`, unreachable for `f`), and re-establishes `K` when
it returns normally. The conclusion gives the outcome of the library procedure together with the
exact chain of applications of `f` (`MapM`/`FoldLM`/`FoldRM` in `RuschmSpec/ListLib.lean`): once
per element, in list order, each in the store the previous one left (up to frames appended by the
library, `Store.DExt`); the first error ends the traversal and is the outcome. -/

/-- `(map f l)` for EVERY value `l` (elements `xs`, final tail `t`): `f` is applied to each element
in list order; the result is the list of the results, on the same tail.
DEVIATION from R7RS: an improper list (or a non-list) is accepted, its tail is returned as the
tail of the result. -/
theorem map_spec {K : Store → Prop} {f : Value} (h : LibFrame σ b) (hK : K σ) (l : Value)
    (hf : ProcArg b σ.frames.size K f (fun args => ∃ x ∈ (spine l).1, args = [x])) (env : Nat) :
    ∃ r σ', Applies σ (libProc "map" b) [f, l] env (r.map (withTail · (spine l).2)) σ' ∧
      MapM (AppOf f) Store.DExt σ (spine l).1 r σ' ∧ (∀ vs, r = .ok vs → K σ') := by
  have := map_run (spine l).2 (spine_tail_not_pair l) (spine l).1 σ ⟨hf, h, hK, Nat.le_refl _⟩ env
  rwa [spine_withTail] at this

/-- `(for-each f l)`: as `map`, the results being dropped; the value is unspecified (`Void`).
DEVIATION: an improper tail ends the traversal silently. -/
theorem for_each_spec {K : Store → Prop} {f : Value} (h : LibFrame σ b) (hK : K σ) (l : Value)
    (hf : ProcArg b σ.frames.size K f (fun args => ∃ x ∈ (spine l).1, args = [x])) (env : Nat) :
    ∃ r σ', Applies σ (libProc "for-each" b) [f, l] env (r.map fun _ => Value.void) σ' ∧
      MapM (AppOf f) Store.DExt σ (spine l).1 r σ' ∧ (∀ vs, r = .ok vs → K σ') := by
  have := for_each_run (spine l).2 (spine_tail_not_pair l) (spine l).1 σ ⟨hf, h, hK, Nat.le_refl _⟩ env
  rwa [spine_withTail] at this

/-- `(fold-left f init l)` as minischeme defines it: `(f elem acc)` for each element in list order
(NOT the `(f acc elem)` of SRFI 1 / R6RS), the result being the next accumulator; on a proper list
the last accumulator is returned, on an improper one the `car` type error is raised after the last
element (`foldEnd`). -/
theorem fold_left_spec {K : Store → Prop} {f : Value} (h : LibFrame σ b) (hK : K σ) (init l : Value)
    (hf : ProcArg b σ.frames.size K f (fun args => ∃ x ∈ (spine l).1, ∃ a, args = [x, a])) (env : Nat) :
    ∃ r σ', Applies σ (libProc "fold-left" b) [f, init, l] env (r.bind (foldEnd (spine l).2)) σ' ∧
      FoldLM (AppOf f) Store.DExt σ init (spine l).1 r σ' ∧ (∀ v, r = .ok v → K σ') := by
  have := fold_left_run (spine l).2 (spine_tail_not_pair l) (spine l).1 σ init ⟨hf, h, hK, Nat.le_refl _⟩ env
  rwa [spine_withTail] at this

/-- `(fold-right f init l)` on a proper list: `(f elem (fold-right f init rest))` — the applications
happen on the way back, last element first, the outermost one as a tail call. -/
theorem fold_right_spec {K : Store → Prop} {f : Value} (h : LibFrame σ b) (hK : K σ) (init : Value)
    (xs : List Value) (hf : ProcArg b σ.frames.size K f (fun args => ∃ x ∈ xs, ∃ a, args = [x, a])) (env : Nat) :
    ∃ r σ', Applies σ (libProc "fold-right" b) [f, init, Value.ofList xs] env r σ' ∧
      FoldRM (AppOf f) Store.DExt σ init xs r σ' ∧ (∀ v, r = .ok v → K σ') :=
  fold_right_run xs σ init ⟨hf, h, hK, Nat.le_refl _⟩ env

/-! non-vacuity: the host procedure `tick` (returns its argument and records it on the trace) is a
procedure argument in every store; mapping it over `(1 2 3)` returns `(1 2 3)` and leaves the
trace `3 2 1` (most recent first): one application per element, in list order -/
example : ∃ σ', Applies libStore (libProc "map" 0) [.builtin .tick, l123] 0 (.ok l123) σ' ∧
    σ'.ticks = ["i:3", "i:2", "i:1"] := by
  obtain ⟨r, σ', h₁, h₂, _⟩ := map_spec (K := fun _ => True) libFrame_libStore trivial l123
    (procArg_tick 0 _ _ fun args ⟨x, _, e⟩ => e ▸ rfl) 0
  obtain ⟨rfl, ht, _⟩ := mapM_tick h₂
  exact ⟨σ', h₁, ht⟩

example : ∃ σ', Applies libStore (libProc "for-each" 0) [.builtin .tick, l123] 0 (.ok .void) σ' ∧
    σ'.ticks = ["i:3", "i:2", "i:1"] := by
  obtain ⟨r, σ', h₁, h₂, _⟩ := for_each_spec (K := fun _ => True) libFrame_libStore trivial l123
    (procArg_tick 0 _ _ fun args ⟨x, _, e⟩ => e ▸ rfl) 0
  obtain ⟨rfl, ht, _⟩ := mapM_tick h₂
  exact ⟨σ', h₁, ht⟩

/-- with a PURE procedure argument (here the native `car`; any library procedure would do,
`ProcArg.of_papp`) `map` computes `List.mapM`: `(map car '((1) (2)))` is `(1 2)`, and mapping `car`
over `(1 2 3)` is the type error of the first application -/
example : ∃ σ', Applies libStore (libProc "map" 0) [.builtin .car, Value.ofList [Value.ofList [num 1], Value.ofList [num 2]]]
    0 (.ok (Value.ofList [num 1, num 2])) σ' ∧ libStore.DExt σ' := by
  obtain ⟨r, σ', h₁, h₂, _⟩ := map_spec (K := fun σ => LibFrame σ 0) (f := .builtin .car) libFrame_libStore
    libFrame_libStore (Value.ofList [Value.ofList [num 1], Value.ofList [num 2]])
    (ProcArg.of_papp (g := fun args => carS (args.headD .nil)) rfl
      fun V args h => by obtain ⟨x, _, rfl⟩ := h; exact PApp.car) 0
  obtain ⟨rfl, e⟩ := mapM_of_papp (g := carS) (fun V x => PApp.car) h₂ libFrame_libStore
  exact ⟨σ', h₁, e⟩
example : ∃ σ', Applies libStore (libProc "map" 0) [.builtin .car, l123] 0 (.error typeErr) σ' := by
  obtain ⟨r, σ', h₁, h₂, _⟩ := map_spec (K := fun σ => LibFrame σ 0) (f := .builtin .car) libFrame_libStore
    libFrame_libStore l123
    (ProcArg.of_papp (g := fun args => carS (args.headD .nil)) rfl
      fun V args h => by obtain ⟨x, _, rfl⟩ := h; exact PApp.car) 0
  obtain ⟨rfl, e⟩ := mapM_of_papp (g := carS) (fun V x => PApp.car) h₂ libFrame_libStore
  exact ⟨σ', h₁⟩

/-- `(fold-right cons '() '(1 2 3))` is `(1 2 3)`; `(fold-left cons '() '(1 2 3))` is `(3 2 1)` -/
example : ∃ σ', Applies libStore (libProc "fold-right" 0) [.builtin .cons, .nil, l123] 0 (.ok l123) σ' := by
  obtain ⟨r, σ', h₁, h₂, _⟩ := fold_right_spec (K := fun _ => True) libFrame_libStore trivial .nil
    [num 1, num 2, num 3] (procArg_cons 0 _ _ fun args ⟨x, _, a, e⟩ => e ▸ rfl) 0
  obtain ⟨rfl, -⟩ := foldRM_of_papp (g := fun a d => .ok (.pair a d)) (fun _ _ _ => PApp.cons) h₂ libFrame_libStore
  exact ⟨σ', h₁⟩

end lib

end Ruschm.C11
