/-
Property C13, finer facts about `Interp.evalLibraryDef` / `Interp.newLibrary` / `Interp.getLibrary`
of the MODEL (`RuschmProofs/C13.lean` has the five main theorems):

1. `export_under_several_names`  — one internal identifier exported under several names;
2. `rename_export_does_not_touch_library_frame` — exporting never writes to the library frame;
3. `exports_resolved_after_body` — exports are resolved after the whole body, wherever the
   `export` declarations stand;
4. `unbound_export_is_error` — which error, where, and nothing is cached;
5. `library_body_never_sees_importer` — the library frame's lookups stay in the library frame; the
   result does not depend on the importer-side fields of the interpreter (`_partial`: the literal
   statement "the same export table whoever imports it" is FALSE — store addresses differ — see
   `export_table_depends_on_store_addresses`);
6. `instance_cache_only_grows_across_nested_loads` — a dependency instantiated on the way stays
   cached, whatever happens to the library that imported it.

Helpers: `RuschmProofs/LoaderMono.lean` (fuel monotonicity of the interpreter block),
`RuschmProofs/LibMoreLemmas.lean` (`stripExports`, `evalLibDecls_strip`, `evalLibraryDef_strip`,
`exportFold_unbound`, `getLibrary_error_keeps`, `unobserved_withImporter`, `evalImportSet_ok_cached`).
-/
import RuschmProofs.LibMoreLemmas
import RuschmProofs.LibRefine
import RuschmProofs.C13
import RuschmSpec.Loc
import RuschmProofs.Same

namespace Ruschm.C13More
open Ruschm Ruschm.Interp

/-- evaluate a definition and show the names of its table (for the `#eval`-free examples below the
tables are computed by `simp`) -/
def int (n : Int) : Expr := .prim (.int n) none
def defn (x : String) (e : Expr) : Statement := .definition (.mk x e none)

/-! ## 1. one internal identifier, several external names -/

/-- When a library definition evaluates to the table `defs` (frame `ρlib = st.store.frames.size`):
every export spec — whatever `export` declaration it stands in, in whatever order — contributes
its external name; a spec whose external name is not claimed by a spec with another internal
identifier is bound to the value of ITS internal identifier; hence an identifier exported plainly
and renamed, or renamed several times, is in the table under ALL those names with one value. -/
theorem export_under_several_names {fuel : Nat} {st st' : State} {decls : List LibDecl} {defs : S.Bindings}
    (h : evalLibraryDef fuel st decls = (.ok defs, st')) :
    (∀ sp ∈ S.exportSpecs decls, sp.external ∈ defs.map Prod.fst) ∧
    (∀ sp ∈ S.exportSpecs decls,
      (∀ sp' ∈ S.exportSpecs decls, sp'.external = sp.external → sp'.internal = sp.internal) →
      defs.lookup sp.external = st'.store.lookup st.store.frames.size sp.internal ∧
      (defs.lookup sp.external).isSome) ∧
    (∀ sp₁ ∈ S.exportSpecs decls, ∀ sp₂ ∈ S.exportSpecs decls, sp₁.internal = sp₂.internal →
      (∀ sp' ∈ S.exportSpecs decls, sp'.external = sp₁.external → sp'.internal = sp₁.internal) →
      (∀ sp' ∈ S.exportSpecs decls, sp'.external = sp₂.external → sp'.internal = sp₂.internal) →
      defs.lookup sp₁.external = defs.lookup sp₂.external) := by
  obtain ⟨h1, -, h3, h4⟩ := C13.exports_exact h
  have key : ∀ sp ∈ S.exportSpecs decls,
      (∀ sp' ∈ S.exportSpecs decls, sp'.external = sp.external → sp'.internal = sp.internal) →
      defs.lookup sp.external = st'.store.lookup st.store.frames.size sp.internal := by
    intro sp hsp huniq
    rw [h3]
    obtain ⟨sp', hf⟩ := Option.isSome_iff_exists.1 (exportFor_isSome hsp)
    rw [hf, Option.bind_some, huniq sp' (exportFor_some hf).1 (exportFor_some hf).2]
  refine ⟨fun sp hsp => (h1 _).2 ⟨sp, hsp, rfl⟩, fun sp hsp hu => ⟨key sp hsp hu, ?_⟩, ?_⟩
  · rw [key sp hsp hu]; exact h4 sp hsp
  · intro sp₁ h₁ sp₂ h₂ hi u₁ u₂
    rw [key sp₁ h₁ u₁, key sp₂ h₂ u₂, hi]

/-- `(export a (rename a b)) (begin (define a 7)) (export (rename a c))` -/
def severalNames : List LibDecl :=
  [.export [.direct "a" none, .rename "a" "b" none], .begin_ [defn "a" (int 7)], .export [.rename "a" "c" none]]

example : (evalLibraryDef 6 {} severalNames).1 =
    .ok [("a", .num (.int 7)), ("b", .num (.int 7)), ("c", .num (.int 7))] := by
  exact eq_of_same (by decide +kernel)

/-! ## 2. exporting does not write to the library frame -/

/-- The state in which `evalLibraryDef` ends — in particular the library's own frame — IS the state
in which the evaluation of its body ends, and that is the state the declarations WITHOUT any
`export` declaration end in: neither an `export` declaration nor the final resolution of the specs
(plain or `(rename a b)`) defines, overwrites or removes any binding. An internal `b` keeps its
value when `a` is exported as `b`, and the library's procedures keep seeing it. -/
theorem rename_export_does_not_touch_library_frame {fuel : Nat} {st st' : State} {decls : List LibDecl}
    {r : Except SErr S.Bindings} (h : evalLibraryDef (fuel + 1) st decls = (r, st')) (hr : Eval.NotFuel r) :
    let st0 : State := { st with store := (st.store.newFrame none).2 }
    (∃ rb, evalLibDecls fuel st0 st.store.frames.size decls [] = (rb, st')) ∧
    (∃ rb, evalLibDecls fuel st0 st.store.frames.size (stripExports decls) [] = (rb, st')) := by
  intro st0
  obtain ⟨x, hd, nf⟩ := evalLibraryDef_libDecls fuel st decls
  rw [h] at hd nf
  exact ⟨⟨x, hd⟩, ⟨_, evalLibDecls_strip [] decls fuel _ _ [] hd (nf hr)⟩⟩

/-- `(export (rename a b)) (begin (define b 1) (define a 2))`: the table binds `b` to 2, the
library frame still binds `b` to 1 -/
def renameOnto : List LibDecl :=
  [.export [.rename "a" "b" none], .begin_ [defn "b" (int 1), defn "a" (int 2)]]

example : (evalLibraryDef 6 {} renameOnto).1 = .ok [("b", .num (.int 2))] ∧
    (evalLibraryDef 6 {} renameOnto).2.store.lookup 0 "b" = some (.num (.int 1)) := by
  constructor <;> exact eq_of_same (by decide +kernel)

/-! ## 3. exports are resolved after the whole body -/

/-- The table is computed from ALL export specs of the definition (`S.exportSpecs`, in order) by
looking each internal identifier up in the library frame of the FINAL state `st'`, i.e. after every
`begin` block and every import declaration has been evaluated — not at the place where the
`export` declaration stands. Consequently two definitions with the same body declarations in the
same order and the same export specs, differing only in where the `export` declarations stand,
have the same outcome, the same table and the same final state. -/
theorem exports_resolved_after_body :
    (∀ (fuel : Nat) (st st' : State) (decls : List LibDecl) (exports : List ExportSpec),
      evalLibDecls fuel { st with store := (st.store.newFrame none).2 } st.store.frames.size decls [] =
        (.ok exports, st') →
      exports = S.exportSpecs decls ∧
      evalLibraryDef (fuel + 1) st decls =
        ((S.exportSpecs decls).foldlM (exportStep (st'.store.lookup st.store.frames.size)) [], st')) ∧
    (∀ (decls₁ decls₂ : List LibDecl) (n₁ n₂ : Nat) (st st₁ st₂ : State) (r₁ r₂ : Except SErr S.Bindings),
      stripExports decls₁ = stripExports decls₂ → S.exportSpecs decls₁ = S.exportSpecs decls₂ →
      evalLibraryDef n₁ st decls₁ = (r₁, st₁) → Eval.NotFuel r₁ →
      evalLibraryDef n₂ st decls₂ = (r₂, st₂) → Eval.NotFuel r₂ → r₁ = r₂ ∧ st₁ = st₂) := by
  constructor
  · intro fuel st st' decls exports h
    exact ⟨by simpa using evalLibDecls_exports _ _ _ _ _ _ _ h, evalLibraryDef_of_libDecls h⟩
  · intro d₁ d₂ n₁ n₂ st st₁ st₂ r₁ r₂ hs hx h₁ hr₁ h₂ hr₂
    have e₁ := evalLibraryDef_strip
      (runCall_mono_le (m := max n₁ n₂ + 1) (.libraryDef d₁) h₁ hr₁ (Nat.le_succ_of_le (Nat.le_max_left ..))) hr₁
    have e₂ := evalLibraryDef_strip
      (runCall_mono_le (m := max n₁ n₂ + 1) (.libraryDef d₂) h₂ hr₂ (Nat.le_succ_of_le (Nat.le_max_right ..))) hr₂
    rw [hs, hx] at e₁
    exact Prod.mk.inj (e₁.trans e₂.symm)

/-- the `export` first, between or last: `x` is exported with its FINAL value 2 -/
def exportFirst : List LibDecl := [.export [.direct "x" none], .begin_ [defn "x" (int 1)], .begin_ [defn "x" (int 2)]]
def exportBetween : List LibDecl := [.begin_ [defn "x" (int 1)], .export [.direct "x" none], .begin_ [defn "x" (int 2)]]

example : (evalLibraryDef 6 {} exportFirst).1 = .ok [("x", .num (.int 2))] ∧
    evalLibraryDef 6 {} exportBetween = evalLibraryDef 6 {} exportFirst := by
  have h1 : (evalLibraryDef 6 {} exportFirst).1 = .ok [("x", .num (.int 2))] := by with_unfolding_all rfl
  have h2 : Eval.NotFuel (evalLibraryDef 6 {} exportBetween).1 := by with_unfolding_all rfl
  have h3 : Eval.NotFuel (evalLibraryDef 6 {} exportFirst).1 := by rw [h1]; exact .ok _
  have := exports_resolved_after_body.2 exportBetween exportFirst 6 6 {} _ _ _ _ rfl rfl rfl h2 rfl h3
  exact ⟨h1, Prod.ext this.1 this.2⟩

/-! ## 4. an unbound export -/

/-- If, after the body, the internal identifier of some export spec is bound neither by the body
nor by the library's imports (`lookup` in the library frame finds nothing), the definition fails
with `unbound` (`LogicError::UnboundedSymbol`) at the location of the FIRST such spec; and an
import of a library that fails — for this or any other reason — caches no instance for it. -/
theorem unbound_export_is_error :
    (∀ (fuel : Nat) (st st' : State) (decls : List LibDecl) (exports : List ExportSpec) (sp : ExportSpec),
      evalLibDecls fuel { st with store := (st.store.newFrame none).2 } st.store.frames.size decls [] =
        (.ok exports, st') →
      firstUnbound (st'.store.lookup st.store.frames.size) (S.exportSpecs decls) = some sp →
      evalLibraryDef (fuel + 1) st decls = (.error (.unbound, sp.loc), st')) ∧
    (∀ (fuel : Nat) (st st' : State) (name : LibName) (loc : Loc) (e : SErr),
      evalImportSet fuel st (.direct name loc) = (.error e, st') → name ∉ st.inProgress →
      libLookup st.instances name = none → libLookup st'.instances name = none) := by
  constructor
  · intro fuel st st' decls exports sp h hu
    rw [(exports_resolved_after_body.1 fuel st st' decls exports h).2]
    have := exportFold_unbound (st'.store.lookup st.store.frames.size) (S.exportSpecs decls) []
    rw [hu] at this
    rw [this]
    cases sp <;> rfl
  · intro fuel st st' name loc e h hip hi
    cases fuel with
    | zero => rw [evalImportSet] at h; cases h; exact hi
    | succ fuel =>
      rw [evalImportSet_direct_eq hip] at h
      have hr : (getLibrary fuel { st with inProgress := name :: st.inProgress } name loc).1 = .error e :=
        congrArg Prod.fst h
      have hs : _ = st' := congrArg Prod.snd h
      rw [← hs]
      exact (getLibrary_error_keeps (Prod.ext hr rfl) (List.mem_cons_self ..)).trans hi

/-- `(define-library (g) (export ghost) (begin (define real 1)))`, registered -/
def libG : LibName := [.ident "g"]
def ghostState : State :=
  { store := Store.root
    factories := [(libG, .ast [.export [.direct "ghost" (some (3, 4))], .begin_ [defn "real" (int 1)]])] }

example : (evalImportSet 8 ghostState (.direct libG none)).1 = .error (.unbound, some (3, 4)) ∧
    libLookup (evalImportSet 8 ghostState (.direct libG none)).2.instances libG = none := by
  have h1 : (evalImportSet 8 ghostState (.direct libG none)).1 = .error (.unbound, some (3, 4)) := by
    exact eq_of_same (by decide +kernel)
  exact ⟨h1, unbound_export_is_error.2 8 ghostState _ libG none _ (Prod.ext h1 rfl) List.not_mem_nil rfl⟩

/-! ## 5. the library body never sees the importer -/

/-- Whatever the outcome of a library definition: every lookup from the library frame `ρlib` is
answered by that frame alone (`lookup ρlib x = binding ρlib x`: the frame has no parent), the
importing interpreter's global frame `st.env` is not on its chain, and `ρlib` is on the chain of no
frame that existed before. -/
theorem library_body_never_sees_importer (fuel : Nat) (st : State) (decls : List LibDecl)
    (henv : st.env < st.store.frames.size) :
    let ρlib := st.store.frames.size
    let st' := (evalLibraryDef (fuel + 1) st decls).2
    (∀ x, st'.store.lookup ρlib x = st'.store.binding ρlib x) ∧
    st.env ∉ st'.store.chain ρlib ∧ ρlib ∉ st'.store.chain st.env := by
  intro ρlib st'
  obtain ⟨-, -, -, -, hchain, hpre⟩ := C13.lib_env_is_fresh_root fuel st decls
  refine ⟨fun x => ?_, ?_, hpre st.env henv⟩
  · show st'.store.lookup ρlib x = st'.store.binding ρlib x
    rw [Store.lookup_eq_findSome, hchain, List.findSome?_cons, List.findSome?_nil]
    cases st'.store.binding ρlib x <;> rfl
  · rw [hchain]
    simp only [List.mem_singleton]
    exact Nat.ne_of_lt henv

/-- the importer defines `a` globally; the library that exports an undefined `a` does not see it -/
example : (evalLibraryDef 6 { store := (Store.root.define 0 "a" (.num (.int 5))) }
    [.export [.direct "a" none]]).1 = .error (.unbound, none) := by
  with_unfolding_all rfl

/-- PARTIAL form of "a library means the same whoever imports it": the evaluation of a library
definition, `getLibrary` and an import never read the importer-side fields of the interpreter —
its global frame pointer `env`, its syntax scope `syn`, its `importEnd` flag — and hand them back
unchanged: with those fields replaced by the ones of any other interpreter `t`, the outcome, the
export table and the rest of the resulting state are the same. (The literal statement for two
importers with different STORES is false: see `export_table_depends_on_store_addresses`.) -/
theorem library_independent_of_importer_partial (fuel : Nat) (t st : State) :
    (∀ decls, evalLibraryDef fuel (withImporter t st) decls =
      ((evalLibraryDef fuel st decls).1, withImporter t (evalLibraryDef fuel st decls).2)) ∧
    (∀ name loc, getLibrary fuel (withImporter t st) name loc =
      ((getLibrary fuel st name loc).1, withImporter t (getLibrary fuel st name loc).2)) ∧
    (∀ s, evalImportSet fuel (withImporter t st) s =
      ((evalImportSet fuel st s).1, withImporter t (evalImportSet fuel st s).2)) :=
  have c {α} (c : Call α) := comm_run (unobserved_withImporter t) fuel st c trivial
  ⟨fun decls => c (.libraryDef decls), fun name loc => c (.getLibrary name loc), fun s => c (.importSet s)⟩

example : (evalLibraryDef 6 { store := Store.root, env := 0, importEnd := true } renameOnto).1 =
    (evalLibraryDef 6 { store := Store.root } renameOnto).1 := by
  have := (library_independent_of_importer_partial 6
    { store := Store.root, env := 0, importEnd := true } { store := Store.root }).1 renameOnto
  have e : withImporter { store := Store.root, env := 0, importEnd := true } { store := Store.root } =
      ({ store := Store.root, env := 0, importEnd := true } : State) := rfl
  rw [e] at this
  rw [this]

/-- `(export f) (begin (define f (lambda () 1)))` -/
def exportsClosure : List LibDecl :=
  [.export [.direct "f" none], .begin_ [defn "f" (.lambda (.mk ⟨[], none⟩ [] [int 1]) none)]]

/-- COUNTEREXAMPLE to the literal statement. The same library evaluated for an importer whose
store has one frame and for one whose store has two frames exports `f` as closures over DIFFERENT
frame numbers (1 and 2): export tables are equal only up to a renaming of store locations. This
is a property of the model's explicit store (in the Rust code: different `Rc` pointers), not a
defect; a proof of equality up to renaming would need a relocation-invariance theorem for the
whole evaluator, which does not exist yet. -/
theorem export_table_depends_on_store_addresses :
    (evalLibraryDef 6 { store := Store.root } exportsClosure).1 =
      .ok [("f", .closure (.mk ⟨[], none⟩ [] [int 1]) 1)] ∧
    (evalLibraryDef 6 { store := (Store.root.newFrame none).2 } exportsClosure).1 =
      .ok [("f", .closure (.mk ⟨[], none⟩ [] [int 1]) 2)] := by
  constructor <;> with_unfolding_all rfl

/-! ## 6. what was instantiated on the way stays cached -/

/-- Let library `A` (not yet instantiated; source definition `decls` beginning with an import
declaration whose first set names another library `D = S.leaf s`). Loading `A` evaluates that
import first, in the state `stA` (= `st` with `A`'s factory registered if it came from a file, and
`A`'s fresh frame). If that import succeeds — `D` is instantiated on the way, with export list
`d` — then WHATEVER the outcome of the rest of `A` (further imports, body, exports: ok or any
error), `D ↦ d` is in the instance cache after `getLibrary … A`, and every later `getLibrary`/import
of `D` on a state whose cache has it returns THAT `d` (the same values: closures over the same
frames) without evaluating anything. -/
theorem instance_cache_only_grows_across_nested_loads (k : Nat) (st : State) (A : LibName) (loc : Loc)
    (s : ImportSet) (more : List ImportSet) (rest : List LibDecl)
    (hi : libLookup st.instances A = none)
    (hf : factoryFor st A = some (.ast (.importDecl (s :: more) :: rest))) (hne : S.leaf s ≠ A) :
    let stF := (findFactory st A loc).2
    let stA : State := { stF with store := (stF.store.newFrame none).2 }
    ∀ defs st1, evalImportSet k stA s = (.ok defs, st1) →
      ∃ d, libLookup st1.instances (S.leaf s) = some d ∧ defs = S.transform s d ∧
        libLookup (getLibrary (k + 5) st A loc).2.instances (S.leaf s) = some d ∧
        (∀ (fuel' : Nat) (st'' : State) (loc' : Loc), libLookup st''.instances (S.leaf s) = some d →
          getLibrary (fuel' + 1) st'' (S.leaf s) loc' = (.ok d, st'') ∧
          (S.leaf s ∉ st''.inProgress →
            evalImportSet (fuel' + 2) st'' (.direct (S.leaf s) loc') = (.ok d, st''))) := by
  intro stF stA defs st1 h1
  have hget := (getLibrary_of_factoryFor (k := k + 4) (loc := loc) hi hf).2.2.2
  obtain ⟨d, hd, hdefs⟩ := evalImportSet_ok_cached s h1
  refine ⟨d, hd, hdefs, ?_, fun fuel' st'' loc' hc => ⟨?_, fun hip => direct_cached hip hc⟩⟩
  · rw [hget]
    simp only [newLibrary]
    have h2 := (libraryDef_after_first (more := more) (rest := rest) h1).instances _ _ hd
    unfold cacheInstance
    split
    · simp only [libLookup_libInsert_ne _ _ hne]; exact h2
    · exact h2
  · rw [getLibrary_succ_eq, hc]

/-- `(a)` imports `(b)` (native) and then has a faulting body `(1)`: loading `(a)` fails with
`nonProcedure`, but `(b)` was instantiated on the way and is in the cache afterwards -/
def libA : LibName := [.ident "a"]
def libB : LibName := [.ident "b"]
def nestedState : State :=
  { store := Store.root
    factories := [(libA, .ast [.importDecl [.direct libB none], .begin_ faultyBody]),
                  (libB, .native [("x", .num (.int 1))])] }

example : (getLibrary 9 nestedState libA none).1 = .error (.nonProcedure, none) ∧
    libLookup (getLibrary 9 nestedState libA none).2.instances libB = some [("x", .num (.int 1))] := by
  obtain ⟨d, hd, hdefs, hfinal, -⟩ := instance_cache_only_grows_across_nested_loads 4 nestedState libA none
    (.direct libB none) [] [.begin_ faultyBody] rfl rfl (by decide) [("x", .num (.int 1))]
    { nestedState with store := (nestedState.store.newFrame none).2,
                       instances := [(libB, [("x", .num (.int 1))])] }
    (by with_unfolding_all rfl)
  cases hdefs
  exact ⟨by with_unfolding_all rfl, hfinal⟩

end Ruschm.C13More
