/-
The evaluator in sequence form: for each of the eight functions of `RuschmModel/Eval.lean` and each shape of its
argument, ONE unfolding written as a sequence (`andThen`) of its parts, where the definition has a `match` on every
intermediate result. What is shown of the whole block — fuel monotonicity, invariants, homomorphisms, the big-step
rules, the simulation by the reference evaluator — is then a walk over these equations with one lemma about
`andThen` and the leaves, and no case analysis of the control flow.
-/
import RuschmSpec.Ref
import RuschmProofs.AndThen
namespace Ruschm

namespace Eval
open Prim

/-! ## out of fuel -/

theorem evalExpr_zero (σ : Store) (ρ : Nat) (e : Expr) : evalExpr 0 σ ρ e = (.error (.fuel, none), σ) := by rw [evalExpr]
theorem evalArgs_zero (σ : Store) (ρ : Nat) (es : List Expr) : evalArgs 0 σ ρ es = (.error (.fuel, none), σ) := by
  rw [evalArgs]
theorem applyProcedure_zero (σ : Store) (p : Value) (as : List Value) (env : Nat) :
    applyProcedure 0 σ p as env = (.error (.fuel, none), σ) := by rw [applyProcedure]
theorem applyLoop_zero (σ : Store) (p : Value) (as : List Value) (env : Nat) :
    applyLoop 0 σ p as env = (.error (.fuel, none), σ) := by rw [applyLoop]
theorem applyScheme_zero (σ : Store) (lam : Lambda) (cenv : Nat) (as : List Value) :
    applyScheme 0 σ lam cenv as = (.error (.fuel, none), σ) := by rw [applyScheme]
theorem evalDefs_zero (σ : Store) (ρ : Nat) (ds : List Def) : evalDefs 0 σ ρ ds = (.error (.fuel, none), σ) := by
  rw [evalDefs]
theorem evalBody_zero (σ : Store) (ρ : Nat) (es : List Expr) : evalBody 0 σ ρ es = (.error (.fuel, none), σ) := by
  rw [evalBody]
theorem evalTail_zero (σ : Store) (ρ : Nat) (e : Expr) : evalTail 0 σ ρ e = (.error (.fuel, none), σ) := by rw [evalTail]

/-! ## literals -/

theorem readLiteral_pair (σ : Store) (a d : Datum) (l : Loc) :
    readLiteral σ (.pair a d l) = andThen (readLiteral σ a) fun va σ₁ =>
      andThen (readLiteral σ₁ d) fun vd σ₂ => (.ok (.pair va vd), σ₂) := by
  rw [readLiteral]; rcases readLiteral σ a with ⟨_ | _, σ₁⟩
  · rfl
  · simp only [andThen_ok]; rcases readLiteral σ₁ d with ⟨_ | _, _⟩ <;> rfl

theorem readLiteral_vec_eq (σ : Store) (xs : List Datum) (l : Loc) :
    readLiteral σ (.vec xs l) = andThen (readLiterals σ xs) fun vs σ₁ =>
      (.ok (σ₁.allocVec false vs).1, (σ₁.allocVec false vs).2) := by
  rw [readLiteral]; rcases readLiterals σ xs with ⟨_ | _, _⟩ <;> rfl

theorem readLiterals_cons (σ : Store) (x : Datum) (xs : List Datum) :
    readLiterals σ (x :: xs) = andThen (readLiteral σ x) fun v σ₁ =>
      andThen (readLiterals σ₁ xs) fun vs σ₂ => (.ok (v :: vs), σ₂) := by
  rw [readLiterals]; rcases readLiteral σ x with ⟨_ | _, σ₁⟩
  · rfl
  · simp only [andThen_ok]; rcases readLiterals σ₁ xs with ⟨_ | _, _⟩ <;> rfl

/-! ## expressions -/

theorem evalExpr_prim (n : Nat) (σ : Store) (ρ : Nat) (p : Prim) (l : Loc) :
    evalExpr (n+1) σ ρ (.prim p l) = match evalPrim p with
      | .ok v => (.ok v, σ)
      | .error er => (.error (er, none), σ) := by rw [evalExpr]; cases evalPrim p <;> rfl
theorem evalExpr_datum (n : Nat) (σ : Store) (ρ : Nat) (d : Datum) (l : Loc) :
    evalExpr (n+1) σ ρ (.datum d l) = readLiteral σ d := by rw [evalExpr]
theorem evalExpr_quote (n : Nat) (σ : Store) (ρ : Nat) (d : Datum) (l : Loc) :
    evalExpr (n+1) σ ρ (.quote d l) = readLiteral σ d := by rw [evalExpr]
theorem evalExpr_lambda (n : Nat) (σ : Store) (ρ : Nat) (lam : Lambda) (l : Loc) :
    evalExpr (n+1) σ ρ (.lambda lam l) = (.ok (.closure lam ρ), σ) := by rw [evalExpr]
theorem evalExpr_sym (n : Nat) (σ : Store) (ρ : Nat) (s : String) (l : Loc) :
    evalExpr (n+1) σ ρ (.sym s l) = match σ.lookup ρ s with
      | some v => (.ok v, σ)
      | none => (.error (.unbound, l), σ) := by rw [evalExpr]; cases σ.lookup ρ s <;> rfl

theorem evalExpr_assign (n : Nat) (σ : Store) (ρ : Nat) (x : String) (e : Expr) (l : Loc) :
    evalExpr (n+1) σ ρ (.assign x e l) = andThen (evalExpr n σ ρ e) fun v σ₁ =>
      match σ₁.set ρ x v with
      | (true, σ₂) => (.ok .void, σ₂)
      | (false, σ₂) => (.error (.unbound, l), σ₂) := by
  rw [evalExpr]; rcases evalExpr n σ ρ e with ⟨_ | _, _⟩ <;> rfl

theorem evalExpr_cond (n : Nat) (σ : Store) (ρ : Nat) (t c : Expr) (a : Option Expr) (l : Loc) :
    evalExpr (n+1) σ ρ (.cond t c a l) = andThen (evalExpr n σ ρ t) fun tv σ₁ =>
      if tv.truthy then evalExpr n σ₁ ρ c
      else match a with
        | some alt => evalExpr n σ₁ ρ alt
        | none => (.ok .void, σ₁) := by
  rw [evalExpr]; rcases evalExpr n σ ρ t with ⟨_ | _, _⟩ <;> rfl

/-- a call whose operator is no procedure, after its operands: whatever they gave, values or an error, the operator is
reported; only the fuel error among them, which is no outcome, stays -/
def nonProcAfter {α} (loc : Loc) : Except SErr α → Except SErr Value
  | .error (.fuel, l) => .error (.fuel, l)
  | _ => .error (.nonProcedure, loc)

theorem evalExpr_call (n : Nat) (σ : Store) (ρ : Nat) (f : Expr) (args : List Expr) (l : Loc) :
    evalExpr (n+1) σ ρ (.call f args l) = andThen (evalExpr n σ ρ f) fun fv σ₁ =>
      if (procArity fv).isSome then andThen (evalArgs n σ₁ ρ args) fun vs σ₂ => applyProcedure n σ₂ fv vs ρ
      else (nonProcAfter f.loc (evalArgs n σ₁ ρ args).1, (evalArgs n σ₁ ρ args).2) := by
  rw [evalExpr]
  rcases evalExpr n σ ρ f with ⟨_ | fv, σ₁⟩
  · rfl
  · simp only [andThen_ok]
    rcases evalArgs n σ₁ ρ args with ⟨ra, σ₂⟩
    cases procArity fv with
    | some a => cases ra <;> rfl
    | none =>
      rcases ra with ⟨k, l'⟩ | vs
      · cases k <;> rfl
      · rfl

theorem evalArgs_nil (n : Nat) (σ : Store) (ρ : Nat) : evalArgs (n+1) σ ρ [] = (.ok [], σ) := by rw [evalArgs]

theorem evalArgs_cons (n : Nat) (σ : Store) (ρ : Nat) (a : Expr) (as : List Expr) :
    evalArgs (n+1) σ ρ (a :: as) = andThen (evalExpr n σ ρ a) fun v σ₁ =>
      andThen (evalArgs n σ₁ ρ as) fun vs σ₂ => (.ok (v :: vs), σ₂) := by
  rw [evalArgs]; rcases evalExpr n σ ρ a with ⟨_ | _, σ₁⟩
  · rfl
  · simp only [andThen_ok]; rcases evalArgs n σ₁ ρ as with ⟨_ | _, _⟩ <;> rfl

/-! ## applications -/

theorem applyProcedure_succ (n : Nat) (σ : Store) (p : Value) (as : List Value) (env : Nat) :
    applyProcedure (n+1) σ p as env =
      ((applyLoop n (enter σ) p as env).1, leave (applyLoop n (enter σ) p as env).2) := by
  rw [applyProcedure]

theorem arityOk_iff (f : Nat) (v : Bool) (n : Nat) : arityOk f v n = true ↔ f ≤ n ∧ (n ≤ f ∨ v = true) := by
  cases v <;> simp [arityOk, Nat.not_lt]
theorem arityOk_le {f : Nat} {v : Bool} {n : Nat} (h : arityOk f v n = true) : f ≤ n := ((arityOk_iff ..).1 h).1
theorem arityOk_variadic (n m : Nat) : arityOk n true m = true ↔ n ≤ m := by simp [arityOk_iff]
theorem arityOk_fixed (n m : Nat) : arityOk n false m = true ↔ m = n := by simp [arityOk_iff]; omega

theorem applyLoop_not_proc (n : Nat) (σ : Store) {p : Value} (args : List Value) (env : Nat)
    (hp : procArity p = none) :
    applyLoop (n+1) σ p args env = (.error (.panic "apply_procedure: not a procedure", none), σ) := by
  unfold applyLoop; simp only [hp]

theorem applyLoop_arity_gate (n : Nat) (σ : Store) {p : Value} {args : List Value} (env : Nat) {fixed variadic}
    (hp : procArity p = some (fixed, variadic)) (ha : arityOk fixed variadic args.length = false) :
    applyLoop (n+1) σ p args env = (.error (.arity, none), σ) := by
  unfold applyLoop; simp only [hp, ha]; simp

theorem applyLoop_builtin_step (n : Nat) (σ : Store) {b : Builtin} {args : List Value} (env : Nat)
    (hb : b ≠ .apply) (ha : arityOk b.arity.1 b.arity.2 args.length = true) :
    applyLoop (n+1) σ (.builtin b) args env = applyPure σ b args := by
  rw [applyLoop]
  · simp only [procArity, ha]; simp
  · exact fun h => hb h

/-- `ha`: `Builtin.arity .apply = (1, true)` -/
theorem applyLoop_apply (n : Nat) (σ : Store) {args : List Value} (env : Nat) (ha : 1 ≤ args.length) :
    applyLoop (n+1) σ (.builtin .apply) args env =
      match spreadApply args with
      | .error er => (.error (er, none), σ)
      | .ok (f, args') => applyLoop n σ f args' env := by
  rw [applyLoop]; simp only [procArity, Builtin.arity, (arityOk_variadic ..).mpr ha]
  rcases spreadApply args with _ | ⟨f, args'⟩ <;> rfl

theorem applyLoop_apply_err (n : Nat) (σ : Store) {args : List Value} (env : Nat) {er}
    (ha : 1 ≤ args.length) (hs : spreadApply args = .error er) :
    applyLoop (n+1) σ (.builtin .apply) args env = (.error (er, none), σ) := by
  rw [applyLoop_apply n σ env ha, hs]

theorem elems_ofList (vs : List Value) : (Value.ofList vs).elems = vs := by
  induction vs with
  | nil => rfl
  | cons v vs ih => simp [Value.ofList, Value.elems, ih]

theorem spreadApply_snoc {f : Value} {as : List Value} {lst : Value} (hf : (procArity f).isSome)
    (hl : lst = .nil ∨ ∃ a d, lst = .pair a d) :
    spreadApply (f :: (as ++ [lst])) = .ok (f, as ++ lst.elems) := by
  obtain ⟨ar, har⟩ := Option.isSome_iff_exists.mp hf
  unfold spreadApply
  simp only [har, List.getLast?_append, List.getLast?_singleton, List.dropLast_concat]
  rcases hl with rfl | ⟨a, d, rfl⟩ <;> simp

/-- the five ways `applyLoop` (and the reference's `apply`) goes on with `p` and `as` -/
theorem applied_cases (p : Value) (as : List Value) :
    procArity p = none ∨
    (∃ f v, procArity p = some (f, v) ∧ arityOk f v as.length = false) ∨
    (∃ lam cenv, p = .closure lam cenv ∧
      arityOk lam.formals.fixed.length lam.formals.rest.isSome as.length = true) ∨
    (p = .builtin .apply ∧ 1 ≤ as.length) ∨
    ∃ b, p = .builtin b ∧ b ≠ .apply ∧ arityOk b.arity.1 b.arity.2 as.length = true := by
  cases hp : procArity p with
  | none => exact .inl rfl
  | some a =>
    cases ha : arityOk a.1 a.2 as.length with
    | false => exact .inr (.inl ⟨a.1, a.2, rfl, ha⟩)
    | true =>
      match p, hp with
      | .closure lam cenv, hp => cases hp; exact .inr (.inr (.inl ⟨lam, cenv, rfl, ha⟩))
      | .builtin b, hp =>
        cases hp
        by_cases hb : b = .apply
        · subst hb; exact .inr (.inr (.inr (.inl ⟨rfl, (arityOk_variadic ..).mp ha⟩)))
        · exact .inr (.inr (.inr (.inr ⟨b, rfl, hb, ha⟩)))

/-- `eval_procedure_call` in the loop: the operator and the operands of a pending tail call, the
procedure test, and the loop goes on — a new iteration, with a new gate — with the callee -/
def pendingCall (n : Nat) (σ₁ : Store) (tenv : Nat) (f : Expr) (targs : List Expr) (env : Nat) : Res Value :=
  andThen (evalExpr n σ₁ tenv f) fun fv σ₂ => andThen (evalArgs n σ₂ tenv targs) fun vs σ₃ =>
    if (procArity fv).isSome then applyLoop n σ₃ fv vs env else (.error (.nonProcedure, f.loc), σ₃)

theorem applyLoop_closure (n : Nat) (σ : Store) {lam : Lambda} (cenv : Nat) {args : List Value} (env : Nat)
    (ha : arityOk lam.formals.fixed.length lam.formals.rest.isSome args.length = true) :
    applyLoop (n+1) σ (.closure lam cenv) args env = andThen (applyScheme n σ lam cenv args) fun t σ₁ =>
      match t with
      | .value v => (.ok v, σ₁)
      | .tailCall f targs tenv => pendingCall n σ₁ tenv f targs env := by
  rw [applyLoop]
  simp only [show procArity (.closure lam cenv) = some (lam.formals.fixed.length, lam.formals.rest.isSome) from rfl,
    ha, Bool.not_true, Bool.false_eq_true, if_false]
  rcases applyScheme n σ lam cenv args with ⟨_ | _ | ⟨f, targs, tenv⟩, σ₁⟩ <;> try rfl
  simp only [andThen_ok, pendingCall]
  rcases evalExpr n σ₁ tenv f with ⟨_ | fv, σ₂⟩
  · rfl
  · simp only [andThen_ok]
    rcases evalArgs n σ₂ tenv targs with ⟨_ | vs, σ₃⟩
    · rfl
    · cases procArity fv <;> rfl

theorem applyLoop_value_step (n : Nat) {σ : Store} {lam : Lambda} {cenv : Nat} {args : List Value} (env : Nat)
    {v σ₁} (ha : arityOk lam.formals.fixed.length lam.formals.rest.isSome args.length = true)
    (hs : applyScheme n σ lam cenv args = (.ok (.value v), σ₁)) :
    applyLoop (n+1) σ (.closure lam cenv) args env = (.ok v, σ₁) := by
  rw [applyLoop_closure n σ cenv env ha, hs]; rfl

theorem applyLoop_env : ∀ (n : Nat) (σ : Store) (p : Value) (args : List Value) (env env' : Nat),
    applyLoop n σ p args env = applyLoop n σ p args env'
  | 0, _, _, _, _, _ => by simp only [applyLoop]
  | n + 1, σ, p, args, env, env' => by
    have ih := fun σ p args => applyLoop_env n σ p args env env'
    unfold applyLoop
    simp only [ih]

/-! ## procedure bodies -/

/-- the rest-parameter step is written with `Ref.bindRest` (`RuschmSpec/Ref.lean`), so that `Ref.apply_closure` has this
right-hand side -/
theorem applyScheme_seq (n : Nat) (σ : Store) (lam : Lambda) (cenv : Nat) (args : List Value) :
    applyScheme (n+1) σ lam cenv args =
      match bindFixed (σ.newFrame (some cenv)).2 (σ.newFrame (some cenv)).1 lam.formals.fixed args with
      | (.error er, σ₁) => (.error (er, none), σ₁)
      | (.ok restArgs, σ₁) =>
        andThen (evalDefs n (Ref.bindRest σ₁ (σ.newFrame (some cenv)).1 lam.formals.rest restArgs)
            (σ.newFrame (some cenv)).1 lam.defs) fun _ σ₂ => evalBody n σ₂ (σ.newFrame (some cenv)).1 lam.body := by
  rw [applyScheme]; simp only [Ref.bindRest]
  generalize bindFixed _ _ _ _ = x
  obtain ⟨_ | ra, σ₁⟩ := x
  · rfl
  · simp only
    generalize lam.formals.rest = rest
    cases rest <;> simp only <;> rcases evalDefs n _ _ lam.defs with ⟨_ | _, _⟩ <;> rfl

theorem evalDefs_nil (n : Nat) (σ : Store) (ρ : Nat) : evalDefs (n+1) σ ρ [] = (.ok (), σ) := by rw [evalDefs]

theorem evalDefs_cons (n : Nat) (σ : Store) (ρ : Nat) (x : String) (e : Expr) (l : Loc) (ds : List Def) :
    evalDefs (n+1) σ ρ (.mk x e l :: ds) =
      andThen (evalExpr n σ ρ e) fun v σ₁ => evalDefs n (σ₁.define ρ x v) ρ ds := by
  rw [evalDefs]; rcases evalExpr n σ ρ e with ⟨_ | _, _⟩ <;> rfl

theorem evalBody_nil (n : Nat) (σ : Store) (ρ : Nat) :
    evalBody (n+1) σ ρ [] = (.error (.panic "apply_scheme_procedure: empty body", none), σ) := by rw [evalBody]

theorem evalBody_last (n : Nat) (σ : Store) (ρ : Nat) (e : Expr) : evalBody (n+1) σ ρ [e] = evalTail n σ ρ e := by
  rw [evalBody]

theorem evalBody_cons (n : Nat) (σ : Store) (ρ : Nat) (e e' : Expr) (es : List Expr) :
    evalBody (n+1) σ ρ (e :: e' :: es) = andThen (evalExpr n σ ρ e) fun _ σ₁ => evalBody n σ₁ ρ (e' :: es) := by
  rw [evalBody]
  · rcases evalExpr n σ ρ e with ⟨_ | _, _⟩ <;> rfl
  · simp

/-! ## tail expressions -/

theorem _root_.Ruschm.Expr.tail_cases (e : Expr) :
    (∃ f as l, e = .call f as l) ∨ (∃ t c a l, e = .cond t c a l) ∨
      ((∀ f as l, e ≠ .call f as l) ∧ ∀ t c a l, e ≠ .cond t c a l) := by
  cases e
  case call f as l => exact .inl ⟨f, as, l, rfl⟩
  case cond t c a l => exact .inr (.inl ⟨t, c, a, l, rfl⟩)
  all_goals exact .inr (.inr ⟨fun _ _ _ h => Expr.noConfusion h, fun _ _ _ _ h => Expr.noConfusion h⟩)

theorem evalTail_call (n : Nat) (σ : Store) (ρ : Nat) (f : Expr) (args : List Expr) (l : Loc) :
    evalTail (n+1) σ ρ (.call f args l) = (.ok (.tailCall f args ρ), σ) := by rw [evalTail]

theorem evalTail_cond (n : Nat) (σ : Store) (ρ : Nat) (t c : Expr) (a : Option Expr) (l : Loc) :
    evalTail (n+1) σ ρ (.cond t c a l) = andThen (evalExpr n σ ρ t) fun tv σ₁ =>
      if tv.truthy then evalTail n σ₁ ρ c
      else match a with
        | some alt => evalTail n σ₁ ρ alt
        | none => (.ok (.value .void), σ₁) := by
  rw [evalTail]; rcases evalExpr n σ ρ t with ⟨_ | _, _⟩ <;> rfl

theorem evalTail_other {n σ ρ e} (hcall : ∀ f as l, e ≠ .call f as l) (hcond : ∀ t c a l, e ≠ .cond t c a l) :
    evalTail (n+1) σ ρ e = andThen (evalExpr n σ ρ e) fun v σ₁ => (.ok (.value v), σ₁) := by
  unfold evalTail
  split
  · exact absurd rfl (hcall _ _ _)
  · exact absurd rfl (hcond _ _ _ _)
  · rcases evalExpr n σ ρ e with ⟨_ | _, _⟩ <;> rfl

end Eval
end Ruschm
