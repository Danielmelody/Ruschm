/-
Property C01 — the core forms evaluate as the R7RS evaluation rules prescribe.

"Evaluating a program made of the core forms (procedure application with fixed and rest
parameters, lambda, top-level and internal definitions, if, quote, self-evaluating literals,
higher-order procedures, apply) yields for every top-level form exactly the value the R7RS
evaluation rules assign: lexical lookup of the innermost binding, every operand evaluated exactly
once before the call, only #f counting as false, internal definitions visible to the whole body.
This holds however the forms are nested and whichever of the equivalent spellings (define sugar vs
lambda, fixed vs rest parameters, direct call vs apply) is used."

Only property theorems live here (each is audited with `#print axioms`); helper lemmas are in
`RuschmProofs/EvalRules.lean`, `RefSim.lean` and the modules they rest on; vocabulary and the reference evaluator in
`RuschmSpec/Ref.lean`.
The judgements `Evals σ ρ e r σ'`, `EvalsArgs`, `AppliesProc`, `Applies`, … mean "for every large
enough fuel the model function returns the outcome `r` (not the fuel error) and the store `σ'`".
-/
import RuschmSpec.Ref
import RuschmProofs.RefSim
import RuschmProofs.Same
import RuschmModel.Interp
import RuschmProofs.XformScope

namespace Ruschm.C01
open Ruschm Ruschm.Eval Ruschm.Ref

/-! ## sample data for the non-vacuity examples -/

def num (i : Int) : Value := .num (.int i)
def lit (i : Int) : Expr := .prim (.int i) none
def var (s : String) : Expr := .sym s none

/-- a global frame 0 (`x = 1`, `y = 10`, some builtins) and a child frame 1 (`x = 2`) -/
def σ₀ : Store :=
  let σ := ((({} : Store).newFrame none).2.define 0 "x" (num 1)).define 0 "y" (num 10)
  let σ := ((σ.define 0 "+" (.builtin .add)).define 0 "tick" (.builtin .tick)).define 0 "apply" (.builtin .apply)
  let σ := ((σ.define 0 "cons" (.builtin .cons)).define 0 "car" (.builtin .car)).define 0 "*" (.builtin .mul)
  (σ.newFrame (some 0)).2.define 1 "x" (num 2)

private theorem parentsOlder_of_all {σ : Store}
    (h : ((List.range σ.frames.size).all fun i => (σ.frames[i]?.bind (·.parent)).all (· < i)) = true) :
    ParentsOlder σ := by
  intro i f p hf hp
  have hi : i < σ.frames.size := Nat.lt_of_not_le fun hc => by
    rw [Array.getElem?_eq_none hc] at hf; cases hf
  have := List.all_eq_true.mp h i (List.mem_range.mpr hi)
  rw [hf] at this
  simpa [hp] using this

/-- the sample store satisfies the hypothesis of `lookup_innermost` -/
example : ParentsOlder σ₀ := parentsOlder_of_all (by decide +kernel)

/-! ## 1. lexical lookup: the innermost binding -/

/-- In a store whose frames have older parents, looking `x` up from frame `ρ` gives the binding of
the NEAREST frame on `ρ`'s parent chain that binds `x` (`findSome?` over the chain, innermost
first). -/
theorem lookup_innermost {σ : Store} (h : ParentsOlder σ) (ρ : Nat) (x : String) :
    σ.lookup ρ x = (chain σ ρ).findSome? (frameBinding σ x) :=
  chainOlder_eq_chain h ρ ▸ lookup_eq_chainOlder σ ρ x

/-- Without any hypothesis on the store: the lookup is the binding of the nearest frame on the chain
of OLDER parents (`chainOlder`: a parent link to a frame that is not older ends the chain), and that
chain is the whole parent chain when parents are older. -/
theorem lookup_innermost_unconditional (σ : Store) (ρ : Nat) (x : String) :
    σ.lookup ρ x = (chainOlder σ ρ).findSome? (frameBinding σ x) ∧
    (ParentsOlder σ → ρ < σ.frames.size → chainOlder σ ρ = chain σ ρ) :=
  ⟨lookup_eq_chainOlder σ ρ x, fun h _ => chainOlder_eq_chain h ρ⟩

example : chainOlder σ₀ 1 = [1, 0] := eq_of_same (by decide +kernel)

/-- … spelled out: `some v` iff some frame `i` of the chain binds `x` to `v` and no frame before it
(nearer to `ρ`) binds `x`; `none` iff no frame of the chain binds `x`. -/
theorem lookup_innermost_iff {σ : Store} (h : ParentsOlder σ) (ρ : Nat) (x : String) :
    (∀ v, σ.lookup ρ x = some v ↔
      ∃ nearer i outer, chain σ ρ = nearer ++ i :: outer ∧ frameBinding σ x i = some v ∧
        ∀ j ∈ nearer, frameBinding σ x j = none) ∧
    (σ.lookup ρ x = none ↔ ∀ i ∈ chain σ ρ, frameBinding σ x i = none) := by
  rw [lookup_innermost h]
  exact ⟨fun v => List.findSome?_eq_some_iff, List.findSome?_eq_none_iff⟩

example : chain σ₀ 1 = [1, 0] ∧ σ₀.lookup 1 "x" = some (num 2) ∧ σ₀.lookup 0 "x" = some (num 1) ∧
    σ₀.lookup 1 "y" = some (num 10) ∧ (σ₀.lookup 1 "z").isNone := ⟨eq_of_same (by decide +kernel), eq_of_same (by decide +kernel), eq_of_same (by decide +kernel), eq_of_same (by decide +kernel), eq_of_same (by decide +kernel)⟩

/-! ## 2. only `#f` is false; `if` evaluates the test once and exactly the selected arm -/

theorem truthy_iff (v : Value) : v.truthy = false ↔ v = .bool false := by
  cases v <;> simp [Value.truthy]
  rename_i b; cases b <;> simp

example : (num 0).truthy = true ∧ Value.nil.truthy = true ∧ (Value.str "").truthy = true ∧
    Value.void.truthy = true := ⟨rfl, rfl, rfl, rfl⟩

/-- One step of the evaluator on `(if t c a)`: the test once; an error of the test is the outcome;
otherwise exactly one arm is evaluated, in the store the test left — the alternative (or `Void`
when there is none) exactly when the test gave `#f`. -/
theorem cond_selects_step (n : Nat) (σ : Store) (ρ : Nat) (t c : Expr) (a : Option Expr) (l : Loc) :
    evalExpr (n+1) σ ρ (.cond t c a l) =
      match evalExpr n σ ρ t with
      | (.error er, σ₁) => (.error er, σ₁)
      | (.ok (.bool false), σ₁) =>
        (match a with
         | some alt => evalExpr n σ₁ ρ alt
         | none => (.ok .void, σ₁))
      | (.ok _, σ₁) => evalExpr n σ₁ ρ c := by
  rw [evalExpr_cond]
  rcases evalExpr n σ ρ t with ⟨_ | tv, σ₁⟩
  · rfl
  · cases tv <;> try rfl
    rename_i b; cases b <;> rfl

/-- The fuel-free rule, as an equivalence: `(if t c a)` has outcome `r` exactly when the test has an
outcome and then the selected arm (and no other) has outcome `r`. -/
theorem cond_selects {σ ρ t c a l r σ'} :
    Evals σ ρ (.cond t c a l) r σ' ↔
      (∃ er, Evals σ ρ t (.error er) σ' ∧ r = .error er) ∨
      (∃ tv σ₁, Evals σ ρ t (.ok tv) σ₁ ∧
        ((tv ≠ .bool false ∧ Evals σ₁ ρ c r σ') ∨
         (tv = .bool false ∧ ∃ alt, a = some alt ∧ Evals σ₁ ρ alt r σ') ∨
         (tv = .bool false ∧ a = none ∧ r = .ok .void ∧ σ' = σ₁))) := by
  refine Evals.cond_iff.trans (or_congr_right (exists_congr fun tv => exists_congr fun σ₁ => and_congr_right fun _ => ?_))
  by_cases htv : tv = .bool false
  · subst htv
    cases a <;> simp [Value.truthy]
  · have : tv.truthy = true := by rw [← Bool.not_eq_false, truthy_iff]; exact htv
    simp [this, htv]

/-- `(if 0 (tick 1) (tick 2))`: `0` is true; the value is the consequent's and exactly one `tick` happened -/
example :
    let r := evalExpr 10 σ₀ 1 (.cond (lit 0) (.call (var "tick") [lit 1] none) (some (.call (var "tick") [lit 2] none)) none)
    r.1 = .ok (num 1) ∧ r.2.ticks.length = 1 :=
  ⟨eq_of_same (by decide +kernel), by decide +kernel⟩

/-! ## 3. operands: each exactly once, left to right, before the call -/

/-- Whenever `evalArgs` returns (not the fuel error) it returned the left-to-right store-threading
`mapM` of `evalExpr` over the operand list (`Ref.mapEval`: each operand handed to the evaluator
exactly once, in the store its predecessor left, the first error ending the traversal). -/
theorem operands_once_in_order {n σ ρ es r σ'} (h : evalArgs n σ ρ es = (r, σ')) (hr : NotFuel r) :
    mapEval (fun σ e => evalExpr n σ ρ e) σ es = (r, σ') :=
  evalArgs_eq_mapEval h hr

/-- The same without fuel: `EvalsArgs` IS the left-to-right `mapM` of `Evals`. -/
theorem operands_once_in_order' {σ ρ es r σ'} :
    EvalsArgs σ ρ es r σ' ↔ MapEvals (fun σ e r σ' => Evals σ ρ e r σ') σ es r σ' :=
  evalsArgs_iff_mapEvals

/-- `(+ (tick 1) (tick 2))`-like: two operands, two ticks, in order (the later tick is the head of the trace) -/
example :
    let r := evalArgs 10 σ₀ 1 [.call (var "tick") [var "x"] none, .call (var "tick") [var "y"] none]
    r.1 = .ok [num 2, num 10] ∧ r.2.ticks.length = 2 :=
  ⟨eq_of_same (by decide +kernel), by decide +kernel⟩

/-- One step of the evaluator on a call: the operator; then ALL the operands (`evalArgs`, whatever the
operator gave); a non-procedure operator is the outcome, else the operands' error, else the
application of the operator's value to the operands' values. -/
theorem call_rule_step (n : Nat) (σ : Store) (ρ : Nat) (f : Expr) (args : List Expr) (l : Loc) :
    evalExpr (n+1) σ ρ (.call f args l) =
      match evalExpr n σ ρ f with
      | (.error er, σ₁) => (.error er, σ₁)
      | (.ok fv, σ₁) =>
        match evalArgs n σ₁ ρ args with
        | (ra, σ₂) =>
          match procArity fv, ra with
          | none, .error (.fuel, l) => (.error (.fuel, l), σ₂)
          | none, _ => (.error (.nonProcedure, f.loc), σ₂)
          | some _, .error er => (.error er, σ₂)
          | some _, .ok vs => applyProcedure n σ₂ fv vs ρ := by
  rw [evalExpr_call]
  rcases evalExpr n σ ρ f with ⟨_ | fv, σ₁⟩
  · rfl
  · simp only [andThen_ok]
    rcases evalArgs n σ₁ ρ args with ⟨ra, σ₂⟩
    cases procArity fv with
    | some a => cases ra <;> rfl
    | none =>
      rcases ra with ⟨k, l'⟩ | vs
      · cases k <;> rfl
      · rfl

/-- The fuel-free call rule, as an equivalence: operator, operands, application. -/
theorem call_rule {σ ρ f args l r σ'} :
    Evals σ ρ (.call f args l) r σ' ↔
      (∃ er, Evals σ ρ f (.error er) σ' ∧ r = .error er) ∨
      (∃ fv σ₁ ra σ₂, Evals σ ρ f (.ok fv) σ₁ ∧ EvalsArgs σ₁ ρ args ra σ₂ ∧
        ((procArity fv = none ∧ r = .error (.nonProcedure, f.loc) ∧ σ' = σ₂) ∨
         ((procArity fv).isSome ∧ ∃ er, ra = .error er ∧ r = .error er ∧ σ' = σ₂) ∨
         ((procArity fv).isSome ∧ ∃ vs, ra = .ok vs ∧ AppliesProc σ₂ fv vs ρ r σ'))) :=
  Evals.call_iff

/-- `(+ x y)` in the inner frame, by the rules: operator `+`, operands 2 (innermost `x`) and 10, then the addition -/
example : Evals σ₀ 1 (.call (var "+") [var "x", var "y"] none) (.ok (num 12)) (leave (enter σ₀)) :=
  .call (.sym rfl) (.cons (.sym rfl) (.cons (.sym rfl) .nil)) rfl
    (.of_loop (.builtin_run (by decide) rfl rfl))

/-! ## 4. internal definitions: evaluated in order in the call frame, visible to the whole body -/

/-- What a run of `apply_scheme_procedure` consists of.  The call frame `ρ = σ.frames.size` is NEW
and a child of the closure's frame `cenv` (`newFrame (some cenv)`); the fixed parameters are bound
in it, then the rest parameter (`bindRest`); then the internal definitions are evaluated IN THAT
FRAME, in order, each right-hand side in the store where the parameters and all earlier definitions
are already bound in `ρ` (`DefsSeq`); only when all of them are bound does the body run, in the same
frame — so every body expression sees every definition. -/
theorem body_definitions_scope {σ lam cenv args rt σ'} (ρ : Nat) (hρ : ρ = σ.frames.size) :
    AppliesScheme σ lam cenv args rt σ' ↔
      (∃ e σ₁, bindFixed (σ.newFrame (some cenv)).2 ρ lam.formals.fixed args = (.error e, σ₁) ∧
        rt = .error (e, none) ∧ σ' = σ₁) ∨
      (∃ restArgs σ₁,
        bindFixed (σ.newFrame (some cenv)).2 ρ lam.formals.fixed args = (.ok restArgs, σ₁) ∧
        ((∃ er, DefsSeq (fun τ e r τ' => Evals τ ρ e r τ') ρ
              (bindRest σ₁ ρ lam.formals.rest restArgs) lam.defs (.error er) σ' ∧ rt = .error er) ∨
         (∃ σ₂, DefsSeq (fun τ e r τ' => Evals τ ρ e r τ') ρ
              (bindRest σ₁ ρ lam.formals.rest restArgs) lam.defs (.ok ()) σ₂ ∧
            EvalsBody σ₂ ρ lam.body rt σ'))) := by
  subst hρ
  simp only [← evalsDefs_iff_defsSeq]
  exact AppliesScheme.iff rfl

/-- The body proper: the expressions before the last one are evaluated in order (`MapEvals`: each
once, values dropped, the first error ends the body), then the last one as the tail expression. -/
theorem body_sequence {σ ρ es last rt σ'} :
    EvalsBody σ ρ (es ++ [last]) rt σ' ↔
      (∃ er, MapEvals (fun τ e r τ' => Evals τ ρ e r τ') σ es (.error er) σ' ∧ rt = .error er) ∨
      (∃ vs σ₁, MapEvals (fun τ e r τ' => Evals τ ρ e r τ') σ es (.ok vs) σ₁ ∧ EvalsTail σ₁ ρ last rt σ') :=
  evalsBody_iff

/-- A `lambda` (in particular the right-hand side of an internal definition, evaluated in the call
frame `ρ`) yields a closure that CAPTURES `ρ`: when it is called later its frame is a child of `ρ`
(`body_definitions_scope`: `newFrame (some cenv)`), so it sees every binding `ρ` has by then —
definitions made after its own included. -/
theorem definition_closure_captures_frame {σ ρ lam l r σ'} :
    Evals σ ρ (.lambda lam l) r σ' ↔ r = .ok (.closure lam ρ) ∧ σ' = σ :=
  Evals.lambda_iff

/-- What `define ρ x v` (a parameter binding or an internal definition) changes: frame `ρ` now binds
`x` to `v`; no other (frame, name) pair changes and no parent chain changes.  With
`lookup_innermost` this says who sees the definition: every frame whose chain reaches `ρ` before
another binding of `x`. -/
theorem definition_visible {σ : Store} {ρ : Nat} (hρ : ρ < σ.frames.size) (x : String) (v : Value) :
    (∀ y i, frameBinding (σ.define ρ x v) y i = if i = ρ ∧ y = x then some v else frameBinding σ y i) ∧
    (∀ i, chain (σ.define ρ x v) i = chain σ i) ∧
    (ParentsOlder σ → (σ.define ρ x v).lookup ρ x = some v) :=
  ⟨frameBinding_define hρ x v, chain_define σ ρ x v, fun _ => Store.lookup_define_same σ x v hρ⟩

/-- mutual reference between internal definitions:
`((lambda () (define (f) (g)) (define (g) 42) (f)))` — `f`'s closure captures the call frame, in
which `g` is bound by the time `f` is called -/
example :
    (applyLoop 10 σ₀ (.closure (.mk ⟨[], none⟩
      [.mk "f" (.lambda (.mk ⟨[], none⟩ [] [.call (var "g") [] none]) none) none,
       .mk "g" (.lambda (.mk ⟨[], none⟩ [] [lit 42]) none) none]
      [.call (var "f") [] none]) 0) [] 0).1 = .ok (num 42) := by
  exact eq_of_same (by decide +kernel)

/-- a later definition sees an earlier one and the parameters:
`((lambda (a) (define b (+ a 1)) (define c (* b 2)) c) 4)` = 10 -/
example :
    (applyLoop 10 σ₀ (.closure (.mk ⟨["a"], none⟩
      [.mk "b" (.call (var "+") [var "a", lit 1] none) none,
       .mk "c" (.call (var "*") [var "b", lit 2] none) none]
      [var "c"]) 0) [num 4] 0).1 = .ok (num 10) :=
  eq_of_same (by decide +kernel)

/-! ## 5. equivalent spellings: fixed vs rest parameters, direct call vs `apply`, define sugar vs lambda -/

/-- the rest of `apply_scheme_procedure` once the parameters are bound: definitions, then the body -/
def runBody (k : Nat) (σ : Store) (ρ : Nat) (defs : List Def) (body : List Expr) : Res TailRes :=
  match Eval.evalDefs k σ ρ defs with
  | (.error er, σ₁) => (.error er, σ₁)
  | (.ok (), σ₁) => evalBody k σ₁ ρ body

/-- Parameter binding, for an argument count that passes the arity test: in the new frame the fixed
parameters are bound pairwise, in order, to the first arguments (`bindAll`), and a rest parameter is
bound to the LIST (`Value.ofList`) of the remaining arguments. -/
theorem rest_binding {k σ fixed rest defs body cenv args}
    (ha : arityOk fixed.length rest.isSome args.length = true) :
    applyScheme (k+1) σ (.mk ⟨fixed, rest⟩ defs body) cenv args =
      runBody k
        (match rest with
         | some r => (bindAll (σ.newFrame (some cenv)).2 σ.frames.size fixed args).define σ.frames.size r
                        (Value.ofList (args.drop fixed.length))
         | none => bindAll (σ.newFrame (some cenv)).2 σ.frames.size fixed args)
        σ.frames.size defs body := by
  have hlen : fixed.length ≤ args.length := by
    cases rest with
    | none => have := (arityOk_fixed _ _).mp ha; omega
    | some r => exact (arityOk_variadic _ _).mp ha
  rw [applyScheme_seq]
  simp only [Lambda.formals, Lambda.defs, Lambda.body, Store.newFrame, bindFixed_eq, if_pos hlen, runBody]
  cases rest <;> simp only [bindRest] <;> generalize Eval.evalDefs k _ _ defs = x <;> rcases x with ⟨_ | _, _⟩ <;> rfl

/-- `n` fixed parameters and a rest parameter, called with exactly `n` arguments, behave as the `n`
fixed parameters alone, except that the rest name is additionally bound to the empty list. -/
theorem rest_empty_as_fixed {k σ fixed r defs body cenv args} (hn : args.length = fixed.length) :
    applyScheme (k+1) σ (.mk ⟨fixed, some r⟩ defs body) cenv args =
      runBody k ((bindAll (σ.newFrame (some cenv)).2 σ.frames.size fixed args).define σ.frames.size r .nil)
        σ.frames.size defs body ∧
    applyScheme (k+1) σ (.mk ⟨fixed, none⟩ defs body) cenv args =
      runBody k (bindAll (σ.newFrame (some cenv)).2 σ.frames.size fixed args) σ.frames.size defs body := by
  constructor
  · rw [rest_binding (by simp [arityOk, hn])]
    simp [← hn, Value.ofList]
  · rw [rest_binding (by simp [arityOk, hn])]

/-- `((lambda (a . r) r) 1 2 3)` binds `r` to the list `(2 3)`; with one argument to `()` -/
example :
    (applyLoop 10 σ₀ (.closure (.mk ⟨["a"], some "r"⟩ [] [var "r"]) 0) [num 1, num 2, num 3] 0).1
      = .ok (Value.ofList [num 2, num 3]) ∧
    (applyLoop 10 σ₀ (.closure (.mk ⟨["a"], some "r"⟩ [] [var "r"]) 0) [num 1] 0).1 = .ok .nil := by
  constructor <;> exact eq_of_same (by decide +kernel)

/-- `(apply f a… lst)` IS the call of `f` on `a… ++ elements of lst`: the trampoline iteration that
meets `apply` continues — in the same activation, one unit of fuel later — with `f` and the spread
arguments.  (`f` a procedure, `lst` a pair or the empty list; otherwise `apply` is an error.) -/
theorem apply_spread {k σ f as lst env} (hf : (procArity f).isSome)
    (hl : lst = .nil ∨ ∃ a d, lst = .pair a d) :
    applyLoop (k+1) σ (.builtin .apply) (f :: (as ++ [lst])) env = applyLoop k σ f (as ++ lst.elems) env := by
  rw [applyLoop_apply k σ env (by simp), spreadApply_snoc hf hl]

/-- … fuel-free, as an equivalence of outcomes, and for a proper list of arguments. -/
theorem apply_spread_iff {σ f as vs env r σ'} (hf : (procArity f).isSome) :
    Applies σ (.builtin .apply) (f :: (as ++ [Value.ofList vs])) env r σ' ↔ Applies σ f (as ++ vs) env r σ' := by
  have hl : Value.ofList vs = .nil ∨ ∃ a d, Value.ofList vs = .pair a d := by
    cases vs with
    | nil => exact .inl rfl
    | cons v vs => exact .inr ⟨_, _, rfl⟩
  exact Applies.apply_iff (by simp) (by rw [spreadApply_snoc hf hl, elems_ofList]) r σ'

/-- `(apply + 1 '(2 3))` and `(+ 1 2 3)` -/
example : (applyLoop 10 σ₀ (.builtin .apply) [.builtin .add, num 1, Value.ofList [num 2, num 3]] 0).1 = .ok (num 6) ∧
    (applyLoop 10 σ₀ (.builtin .add) [num 1, num 2, num 3] 0).1 = .ok (num 6) := by
  constructor <;> exact eq_of_same (by decide +kernel)

section sugar
open Ruschm.Xform
variable (f : String) (formalsD bsD : Datum) (ld lf l₁ l₂ l : Loc) (ld' lf' l₃ l₄ l₅ l₆ l₇ l₈ l' : Loc)

/-- the datum `(define (f . formals) body…)` -/
def sugarDatum : Datum :=
  .pair (.sym "define" ld) (.pair (.pair (.sym f lf) formalsD l₁) bsD l₂) l
/-- the datum `(define f (lambda formals body…))` -/
def lambdaDatum : Datum :=
  .pair (.sym "define" ld') (.pair (.sym f lf') (.pair (.pair (.sym "lambda" l₃) (.pair formalsD bsD l₄) l₅) (.nil l₆) l₇) l₈) l'

/-- What `transform_to_statement` makes of the two spellings, exactly: both are the definition of `f`
as `(lambda formals defs body)` with `formals = toFormals formalsD` and `(defs, body)` the
transformed body data — identical but for (1) the location fields (sugar: the `lambda` node carries
the location of the name `f`; explicit lambda: that of the `(lambda …)` datum), (2) the syntax scope
the body is transformed in (sugar: the enclosing scope itself; explicit lambda: a fresh child scope,
`inChild`, dropped afterwards), (3) three units of fuel. -/
theorem define_sugar_eq (j : Nat) (s : SynEnv) :
    toStatement (j+2) (sugarDatum f formalsD bsD ld lf l₁ l₂ l) s =
      (do let formals ← toFormals formalsD
          let (defs, body) ← toBody j bsD.elems [] []
          pure (Statement.definition (.mk f (.lambda (.mk formals defs body) lf) l))) s ∧
    toStatement (j+5) (lambdaDatum f formalsD bsD ld' lf' l₃ l₄ l₅ l₆ l₇ l₈ l') s =
      (do let formals ← toFormals formalsD
          let (defs, body) ← inChild (toBody j bsD.elems [] [])
          pure (Statement.definition (.mk f (.lambda (.mk formals defs body) l₅) l'))) s := by
  constructor
  · rw [sugarDatum, toStatement_define, toDefinition_sugar]
    simp only [bind_assoc]
    rfl
  · rw [lambdaDatum, toStatement_define, Datum.elems_pair, Datum.elems_nil, XM.bind_def, toDefinition_lambda,
      ← XM.bind_def]
    simp only [bind_assoc]
    rfl

/-- Consequently the two definitions have the same name and `Expr.beq`-equal right-hand sides
(Rust's `==` on expressions, which ignores locations) whenever the body data transform to the same
thing in the enclosing scope and in a fresh child scope of it. -/
theorem define_sugar_beq_partial (j : Nat) (s : SynEnv)
    (hscope : (inChild (toBody j bsD.elems [] []) s).1 = (toBody j bsD.elems [] [] s).1)
    {n₁ e₁ d₁ s₁ n₂ e₂ d₂ s₂}
    (h₁ : toStatement (j+2) (sugarDatum f formalsD bsD ld lf l₁ l₂ l) s = (.ok (.definition (.mk n₁ e₁ d₁)), s₁))
    (h₂ : toStatement (j+5) (lambdaDatum f formalsD bsD ld' lf' l₃ l₄ l₅ l₆ l₇ l₈ l') s =
            (.ok (.definition (.mk n₂ e₂ d₂)), s₂)) :
    n₁ = n₂ ∧ Expr.beq e₁ e₂ = true := by
  obtain ⟨g₁, g₂⟩ := define_sugar_eq f formalsD bsD ld lf l₁ l₂ l ld' lf' l₃ l₄ l₅ l₆ l₇ l₈ l' j s
  rw [g₁] at h₁; rw [g₂] at h₂
  obtain ⟨fm, s', hf, k₁⟩ := XM.bind_eq_ok h₁
  obtain ⟨fm', _, hf', k₂⟩ := XM.bind_eq_ok h₂
  cases hf.symm.trans hf'
  obtain rfl : s' = s := by rw [← toFormals_env formalsD s, hf]
  obtain ⟨db, _, hb, k₁⟩ := XM.bind_eq_ok k₁
  obtain ⟨db', _, hb', k₂⟩ := XM.bind_eq_ok k₂
  rw [hb, hb'] at hscope
  cases hscope; cases k₁; cases k₂
  exact ⟨rfl, by simp [Expr.beq, Lambda.beq_refl]⟩

end sugar

open Ruschm.Xform in
/-- Unconditionally: whenever both spellings transform (in the same syntax environment, with the
corresponding fuel) they define the same name with `Expr.beq`-equal right-hand sides.  (The body
data transform alike in the enclosing scope and in a fresh child scope of it — `toBody_inChild`,
proved by showing that every function of `RuschmModel/Xform.lean` uses the syntax environment only
through lookups, `define` and child scopes.) -/
theorem define_sugar_beq (f : String) (formalsD bsD : Datum) (ld lf l₁ l₂ l ld' lf' l₃ l₄ l₅ l₆ l₇ l₈ l' : Loc)
    (j : Nat) (s : SynEnv) {n₁ e₁ d₁ s₁ n₂ e₂ d₂ s₂}
    (h₁ : toStatement (j+2) (sugarDatum f formalsD bsD ld lf l₁ l₂ l) s = (.ok (.definition (.mk n₁ e₁ d₁)), s₁))
    (h₂ : toStatement (j+5) (lambdaDatum f formalsD bsD ld' lf' l₃ l₄ l₅ l₆ l₇ l₈ l') s =
            (.ok (.definition (.mk n₂ e₂ d₂)), s₂)) :
    n₁ = n₂ ∧ Expr.beq e₁ e₂ = true :=
  define_sugar_beq_partial f formalsD bsD ld lf l₁ l₂ l ld' lf' l₃ l₄ l₅ l₆ l₇ l₈ l' j s
    (toBody_inChild j bsD.elems s) h₁ h₂

open Ruschm.Xform in
/-- `(define (f x . r) (cons x r))` and `(define f (lambda (x . r) (cons x r)))` -/
example :
    let formalsD : Datum := .pair (.sym "x" none) (.sym "r" none) none
    let bsD : Datum := Datum.ofList none [Datum.ofList none [.sym "cons" none, .sym "x" none, .sym "r" none]]
    let a := toStatement 30 (sugarDatum "f" formalsD bsD none (some (1, 9)) none none none) [[]]
    let b := toStatement 33 (lambdaDatum "f" formalsD bsD none none none none (some (1, 11)) none none none none) [[]]
    (match a.1, b.1 with
     | .ok (.definition (.mk n₁ e₁ _)), .ok (.definition (.mk n₂ e₂ _)) => n₁ == n₂ && Expr.beq e₁ e₂ && n₁ == "f"
     | _, _ => false) = true := by
  decide +kernel

/-! ## 6. MAIN: the model refines the reference semantics

`Ref.eval` (`RuschmSpec/Ref.lean`) is the direct-style evaluator written from the R7RS rules: no
trampoline, a procedure call runs the whole body by plain recursion.  Stores are compared after
`Store.erase` (the activation-depth instrumentation `depth`/`maxDepth` is not semantics: the
reference never touches it).  Outcomes are compared with `Ref.Agree`: equal values; equal errors,
except that where the reference reports a non-procedure operator (R7RS leaves the order of these
checks open) the model — whose trampoline evaluates a pending tail call with
`eval_procedure_call`, operands first — may report that call's operand error instead. -/

/-- Every outcome of the model's `evalExpr` that is not the fuel error is the outcome of the
reference evaluator (for some fuel), with the same final store. -/
theorem model_refines_ref {n σ ρ e r σ'} (h : evalExpr n σ ρ e = (r, σ')) (hr : NotFuel r) :
    ∃ m r', Ref.eval m σ.erase ρ e = (r', σ'.erase) ∧ Agree r r' :=
  (refines_all n).expr h hr

/-- … exactly, for values: the model computes the value the reference semantics assigns. -/
theorem model_refines_ref_value {n σ ρ e v σ'} (h : evalExpr n σ ρ e = (.ok v, σ')) :
    ∃ m, Ref.eval m σ.erase ρ e = (.ok v, σ'.erase) :=
  ((refines_all n).sExpr h (by simp)).ok.run

/-- … and for errors: the reference fails too, in the same store, with the same error unless the
reference's error is a non-procedure operator. -/
theorem model_refines_ref_error {n σ ρ e er σ'} (h : evalExpr n σ ρ e = (.error er, σ')) (hr : er.1 ≠ .fuel) :
    ∃ m er', Ref.eval m σ.erase ρ e = (.error er', σ'.erase) ∧ (er' = er ∨ ∃ l, er' = (.nonProcedure, l)) := by
  obtain ⟨er', S, ha⟩ := ((refines_all n).sExpr h (.error_of (l := er.2) hr)).error
  exact S.run.imp fun m hm => ⟨er', hm, ha.imp Eq.symm id⟩

/-- The same for a procedure application (one activation of `apply_procedure`, trampoline
included) against `Ref.apply`. -/
theorem applyProcedure_refines_ref {n σ p args env r σ'} (h : applyProcedure n σ p args env = (r, σ'))
    (hr : NotFuel r) : ∃ m r', Ref.apply m σ.erase p args = (r', σ'.erase) ∧ Agree r r' :=
  (refines_all n).proc h hr

/-- Fuel-free form: if `e` evaluates (in the sense of `Evals`) to a value, the reference evaluates it
to that value. -/
theorem evals_value_ref {σ ρ e v σ'} (h : Evals σ ρ e (.ok v) σ') :
    ∃ m, Ref.eval m σ.erase ρ e = (.ok v, σ'.erase) := by
  obtain ⟨_, n, hn⟩ := evals_iff.mp h
  exact model_refines_ref_value hn

/-- Conversely, for values: whatever value the reference semantics assigns to `e`, the model
computes it (with some fuel), ending in the same store. -/
theorem ref_refines_model {m σ ρ e v τ} (h : Ref.eval m σ.erase ρ e = (.ok v, τ)) :
    ∃ n σ', evalExpr n σ ρ e = (.ok v, σ') ∧ σ'.erase = τ := by
  obtain ⟨σ', h₁, h₂⟩ := (conv_all m).eval h
  obtain ⟨_, n, hn⟩ := evals_iff.mp h₁
  exact ⟨n, σ', hn, h₂⟩

/-- The model and the reference assign the same values (and final stores) to every expression. -/
theorem model_iff_ref_value {σ ρ e v τ} :
    (∃ n σ', evalExpr n σ ρ e = (.ok v, σ') ∧ σ'.erase = τ) ↔ ∃ m, Ref.eval m σ.erase ρ e = (.ok v, τ) := by
  constructor
  · rintro ⟨n, σ', h, rfl⟩; exact model_refines_ref_value h
  · rintro ⟨m, h⟩; exact ref_refines_model h

/-- … and to every application of a procedure to arguments. -/
theorem ref_apply_refines_model {m σ p args v τ} (h : Ref.apply m σ.erase p args = (.ok v, τ)) (env : Nat) :
    ∃ n σ', applyProcedure n σ p args env = (.ok v, σ') ∧ σ'.erase = τ := by
  obtain ⟨σ', h₁, h₂⟩ := (conv_all m).apply (σ := enter σ) (by simpa using h) env
  obtain ⟨_, N, hN⟩ := AppliesProc.of_loop h₁
  exact ⟨N, leave σ', hN N (Nat.le_refl _), by simpa using h₂⟩

/-- Top-level forms (`eval_expression_or_definition` in the frame `ρ`): an expression statement
yields the value, a definition binds the name in `ρ`, as the reference prescribes; nothing else
of the interpreter state changes. -/
theorem toplevel_refines_ref {n st s ρ r st'} (hs : (∃ e, s = .expr e) ∨ (∃ d, s = .definition d))
    (h : Interp.evalExprOrDef n st s ρ = (r, st')) (hr : NotFuel r) :
    ∃ m r', Ref.evalTop m st.store.erase ρ s = (r', st'.store.erase) ∧ Agree r r' ∧
      st' = { st with store := st'.store } := by
  rcases hs with ⟨e, rfl⟩ | ⟨⟨x, e, l⟩, rfl⟩ <;>
  · simp only [Interp.evalExprOrDef] at h
    rcases he : evalExpr n st.store ρ e with ⟨er | v, σ'⟩ <;> rw [he] at h <;> cases h
    · obtain ⟨m, r', hm, ha⟩ := model_refines_ref he hr.cast
      obtain ⟨er', rfl, hag⟩ := Agree.error_iff.mp ha
      exact ⟨m, .error er', by simp [Ref.evalTop, hm], hag, rfl⟩
    · obtain ⟨m, hm⟩ := model_refines_ref_value he
      exact ⟨m, .ok _, by simp [Ref.evalTop, hm, Store.erase_define], rfl, rfl⟩

/-- the top-level definition `(define z (+ x 4))` in the global frame, then `z` seen from the inner frame -/
example : ((Interp.evalExprOrDef 9 { store := σ₀ }
      (.definition (.mk "z" (.call (var "+") [var "x", lit 4] none) none)) 0).2.store.lookup 1 "z") = some (num 5) :=
  eq_of_same (by decide +kernel)

/-- A store that carries no instrumentation is its own erasure (so for such a start store the
reference runs from the very same store). -/
theorem erase_eq_self {σ : Store} (h₁ : σ.depth = 0) (h₂ : σ.maxDepth = 0) : σ.erase = σ := by
  cases σ; simp_all [Store.erase]

/-- a loop written with a tail call and an internal definition:
`((lambda (n) (define (go i acc) (if i (go #f (+ acc n)) acc)) (go #t 1)) 41)` — the model (through
the trampoline) and the reference (by plain recursion) both give 42 -/
def loopProg : Expr :=
  .call (.lambda (.mk ⟨["n"], none⟩
      [.mk "go" (.lambda (.mk ⟨["i", "acc"], none⟩ []
          [.cond (var "i") (.call (var "go") [.prim (.bool false) none, .call (var "+") [var "acc", var "n"] none] none)
            (some (var "acc")) none]) none) none]
      [.call (var "go") [.prim (.bool true) none, lit 1] none]) none)
    [lit 41] none

example : (evalExpr 20 σ₀ 1 loopProg).1 = .ok (num 42) ∧ (Ref.eval 20 σ₀.erase 1 loopProg).1 = .ok (num 42) ∧
    (evalExpr 20 σ₀ 1 loopProg).2.erase = (Ref.eval 20 σ₀.erase 1 loopProg).2 := by
  have h₁ : (evalExpr 20 σ₀ 1 loopProg).1 = .ok (num 42) := eq_of_same (by decide +kernel)
  have h₂ : (Ref.eval 20 σ₀.erase 1 loopProg).1 = .ok (num 42) := eq_of_same (by decide +kernel)
  refine ⟨h₁, h₂, ?_⟩
  -- the stores: by `model_refines_ref_value` the reference succeeds with the model's store for some fuel,
  -- and two successful runs of the reference coincide
  obtain ⟨m, hm⟩ := model_refines_ref_value (Prod.ext h₁ rfl : evalExpr 20 σ₀ 1 loopProg = (.ok (num 42), _))
  have h20 : Ref.eval 20 σ₀.erase 1 loopProg = (.ok (num 42), _) := Prod.ext h₂ rfl
  rcases Nat.le_total m 20 with h | h
  · rw [Ref.eval_mono_le hm (by simp) h]
  · rw [Ref.eval_mono_le h20 (by simp) h] at hm
    exact (congrArg Prod.snd hm).symm

/-- the two orders of the call checks: in tail position `(1 (car 2))` gives the operand's type error
in the model, the non-procedure error in the reference -/
example :
    (evalExpr 20 σ₀ 1 (.call (.lambda (.mk ⟨[], none⟩ [] [.call (lit 1) [.call (var "car") [lit 2] none] none]) none) [] none)).1
      = .error (.type, none) ∧
    (Ref.eval 20 σ₀.erase 1 (.call (.lambda (.mk ⟨[], none⟩ [] [.call (lit 1) [.call (var "car") [lit 2] none] none]) none) [] none)).1
      = .error (.nonProcedure, none) :=
  ⟨eq_of_same (by decide +kernel), eq_of_same (by decide +kernel)⟩

end Ruschm.C01
