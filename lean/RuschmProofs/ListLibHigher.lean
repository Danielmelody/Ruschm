/-
Property C11, the higher-order procedures. `ProcArg` is what they need of their procedure argument; `Ready` and
`Live` carry it, with the library frame and the caller's invariant, through a run, so that `map_run`,
`for_each_run` and the two fold runs read alike: `Ready.enter` for the body and its test, `Live.apply_car` for `f`
on the next element, the recursive call's outcome from the induction hypothesis. The goals are `ListLib.TailRuns`;
the rules that close them are those of `Eval.TailRuns` and `Eval.PendingRuns` (head of `ListLibStore`).
-/
import RuschmProofs.ListLibProcs

namespace Ruschm.ListLib
open Ruschm Ruschm.Eval Ruschm.ListSpec Ruschm.Store

/-! ## procedure arguments -/

/-- What a higher-order library procedure, entered when the store had `N` frames, needs of its procedure argument
`f` on the argument lists in `dom`: in every store that satisfies the caller's invariant `K` (which appending
frames cannot break) `f` can be applied, the application terminates, keeps the library frame and the frames
allocated since the entry (it cannot reach them), and after a normal return `K` holds again. -/
structure ProcArg (b N : Nat) (K : Store → Prop) (f : Value) (dom : List Value → Prop) : Prop where
  proc : (procArity f).isSome
  stable : ∀ σ σ', K σ → σ.DExt σ' → K σ'
  app : ∀ σ args, K σ → N ≤ σ.frames.size → dom args →
    ∃ r σ', (∀ env, Applies σ f args env r σ') ∧ σ.Keeps b N σ' ∧ (∀ v, r = .ok v → K σ')

theorem ProcArg.mono {b N K f dom dom'} (h : ProcArg b N K f dom) (hd : ∀ args, dom' args → dom args) :
    ProcArg b N K f dom' :=
  ⟨h.proc, h.stable, fun σ args hK hs hdom => h.app σ args hK hs (hd args hdom)⟩

theorem ProcArg.native {b N : Nat} {bi : Builtin} {dom : List Value → Prop} (hb : bi ≠ .apply)
    (ha : ∀ args, dom args → arityOk bi.arity.1 bi.arity.2 args.length = true) :
    ProcArg b N (fun _ => True) (.builtin bi) dom where
  proc := rfl
  stable _ _ _ _ := trivial
  app σ args _ _ hd :=
    ⟨(Prim.applyPure σ bi args).1, (Prim.applyPure σ bi args).2,
      fun _ => Applies.builtin_run hb (ha args hd) rfl,
      ⟨by rw [Prim.applyPure_frames]; exact Nat.le_refl _, fun i _ _ => by rw [Prim.applyPure_frames]⟩, fun _ _ => trivial⟩

/-- `ProcArg.native` with a hypothesis it does not need: no native returns the fuel error -/
theorem ProcArg.builtin {b N : Nat} {bi : Builtin} {dom : List Value → Prop} (hb : bi ≠ .apply)
    (ha : ∀ args, dom args → arityOk bi.arity.1 bi.arity.2 args.length = true)
    (hr : ∀ σ args, dom args → NotFuel (Prim.applyPure σ bi args).1)
    (hf : ∀ σ args, (Prim.applyPure σ bi args).2.frames = σ.frames) :
    ProcArg b N (fun _ => True) (.builtin bi) dom :=
  (fun _ _ => ProcArg.native hb ha) hr hf

/-- a procedure of the library, by its place in `base.sld` -/
theorem Applies.lib_simple (i : Nat) {n : String} {σ formals e args env r σ'} {b : Nat}
    (hi : expectedDefs[i]? = some (n, .lambda (.mk formals [] [e]) none))
    (ha : arityOk formals.fixed.length formals.rest.isSome args.length = true)
    (h : TailRuns (callFrame σ b formals args) σ.frames.size e env r σ') :
    Applies σ (libProc n b) args env r σ' :=
  libProc_of_index hi b ▸ Applies.closure_simple ha h

/-! ## the state of a running higher-order procedure -/

/-- the applications of `f`, whoever the caller -/
abbrev AppOf (f : Value) : Store → List Value → Except SErr Value → Store → Prop :=
  fun σ args r σ' => ∀ env, Applies σ f args env r σ'

/-- frame `ρ` belongs to the call in frame `base`: `base` itself, or above it the frame of a `cond` clause body.
Described by contents, so that it survives whatever keeps these frames. -/
inductive Under (b : Nat) (bs : List (String × Value)) (base : Nat) (σ : Store) : Nat → Prop
  | call : b < base → σ.frames[base]? = some { parent := some b, defs := bs } → Under b bs base σ base
  | thunk {ρ ρ'} : Under b bs base σ ρ → ρ < ρ' → σ.frames[ρ']? = some { parent := some ρ, defs := [] } →
      Under b bs base σ ρ'

theorem Under.le {b bs base σ ρ} (h : Under b bs base σ ρ) : base ≤ ρ := by
  induction h with
  | call => exact Nat.le_refl _
  | thunk _ hlt _ ih => exact Nat.le_trans ih (Nat.le_of_lt hlt)

theorem Under.lt {b bs base σ ρ} (h : Under b bs base σ ρ) : ρ < σ.frames.size := by
  cases h with
  | call _ hf => exact getElem?_some_lt hf
  | thunk _ _ hf => exact getElem?_some_lt hf

theorem Under.keep {b bs base σ σ' ρ N} (h : Under b bs base σ ρ) (hk : σ.Keeps b N σ') (hN : N ≤ base) :
    Under b bs base σ' ρ := by
  induction h with
  | call hb hf => exact .call hb (by rw [hk.frames _ (getElem?_some_lt hf) (.inr hN)]; exact hf)
  | thunk h hlt hf ih =>
    exact .thunk ih hlt (by rw [hk.frames _ (getElem?_some_lt hf) (.inr (Nat.le_trans hN (Nat.le_trans h.le (Nat.le_of_lt hlt))))]; exact hf)

theorem Under.scope {b bs base σ ρ} (h : Under b bs base σ ρ) (hl : LibFrame σ b) : Scope b ρ bs σ := by
  induction h with
  | call hb hf => exact .of_frame hl hb hf
  | thunk _ hlt hf ih => exact ih.child hlt hf

/-- the procedure may go on in `σ`: the library frame is there, the caller's invariant holds, no frame has gone -/
structure Ready (b N : Nat) (K : Store → Prop) (f : Value) (dom : List Value → Prop) (σ : Store) : Prop where
  arg : ProcArg b N K f dom
  lib : LibFrame σ b
  inv : K σ
  size : N ≤ σ.frames.size

theorem Ready.dext {b N K f dom σ σ'} (h : Ready b N K f dom σ) (he : σ.DExt σ') : Ready b N K f dom σ' :=
  ⟨h.arg, h.lib.ext he.framesExt, h.arg.stable _ _ h.inv he, Nat.le_trans h.size he.size⟩

/-- the rest of the list: the domain of the procedure argument shrinks with it -/
theorem Ready.tail {b N K f σ x xs} {P : Value → List Value → Prop}
    (h : Ready b N K f (fun args => ∃ y ∈ x :: xs, P y args) σ) : Ready b N K f (fun args => ∃ y ∈ xs, P y args) σ :=
  ⟨h.arg.mono fun _ ⟨y, hy, e⟩ => ⟨y, List.mem_cons_of_mem _ hy, e⟩, h.lib, h.inv, h.size⟩

/-- … and it is running in frame `ρ` of its call -/
structure Live (b N : Nat) (K : Store → Prop) (f : Value) (dom : List Value → Prop) (bs : List (String × Value))
    (base ρ : Nat) (σ : Store) : Prop extends Ready b N K f dom σ where
  le : N ≤ base
  under : Under b bs base σ ρ

section live
variable {b N : Nat} {K : Store → Prop} {f : Value} {dom : List Value → Prop} {bs : List (String × Value)}
  {base ρ : Nat} {σ : Store}

theorem Live.scope (h : Live b N K f dom bs base ρ σ) : Scope b ρ bs σ := h.under.scope h.lib

theorem Live.dext {σ'} (h : Live b N K f dom bs base ρ σ) (he : σ.DExt σ') : Live b N K f dom bs base ρ σ' :=
  ⟨h.toReady.dext he, h.le, h.under.keep (.of_framesExt he.framesExt b N) h.le⟩

theorem Ready.call (h : Ready b N K f dom σ) (F : Formals) (args : List Value) :
    Live b N K f dom (paramDefs F args) σ.frames.size σ.frames.size (callFrame σ b F args) ∧
      σ.DExt (callFrame σ b F args) :=
  have e := (callFrame_ext σ b F args).dExt
  ⟨⟨h.dext e, h.size, .call h.lib.lt (Store.pushFrame_get_last σ b _)⟩, e⟩

theorem Live.thunk (h : Live b N K f dom bs base ρ σ) :
    Live b N K f dom bs base σ.frames.size (callFrame σ ρ ⟨[], none⟩ []) ∧ σ.DExt (callFrame σ ρ ⟨[], none⟩ []) :=
  have e := (callFrame_ext σ ρ ⟨[], none⟩ []).dExt
  ⟨⟨h.toReady.dext e, h.le, .thunk (h.dext e).under h.under.lt (Store.pushFrame_get_last σ ρ _)⟩, e⟩

/-- library code that does not apply `f` -/
theorem Live.eval (h : Live b N K f dom bs base ρ σ) {e r} (he : ∀ V, PEval V b ρ bs e r) :
    ∃ σ', Evals σ ρ e r σ' ∧ σ.DExt σ' ∧ Live b N K f dom bs base ρ σ' :=
  let ⟨σ', h', e'⟩ := he _ σ h.scope rfl
  ⟨σ', h', e'.dExt, h.dext e'.dExt⟩

theorem Live.args (h : Live b N K f dom bs base ρ σ) {es r r'} (he : ∀ V, PArgs V b ρ bs es r') (hr : r' = r) :
    ∃ σ', EvalsArgs σ ρ es r σ' ∧ σ.DExt σ' ∧ Live b N K f dom bs base ρ σ' :=
  let ⟨σ', h', e'⟩ := he _ σ h.scope rfl
  ⟨σ', hr ▸ h', e'.dExt, h.dext e'.dExt⟩

/-- `(y a …)` not in tail position, the operands not applying `f`: one application, one activation deeper -/
theorem Live.apply (h : Live b N K f dom bs base ρ σ) {y l l' as r' vs} (hy : σ.lookup ρ y = some f)
    (ha : ∀ V, PArgs V b ρ bs as r') (hr : r' = .ok vs) (hd : dom vs) :
    ∃ r σ₁ σ₂ σ', σ.DExt σ₁ ∧ AppOf f σ₁ vs r σ₂ ∧ σ₂.DExt σ' ∧ Evals σ ρ (.call (.sym y l) as l') r σ' ∧
      σ.Keeps b N σ' ∧ ∀ v, r = .ok v → Live b N K f dom bs base ρ σ' := by
  obtain ⟨σ₁, h₁, e₁, L₁⟩ := h.args ha hr
  have L₂ := L₁.dext (dExt_enter σ₁)
  obtain ⟨r, σ₂, happ, hkeep, hK⟩ := h.arg.app (enter σ₁) vs L₂.inv L₂.size hd
  refine ⟨r, enter σ₁, σ₂, leave σ₂, e₁.trans (dExt_enter σ₁), happ, dExt_leave σ₂,
    Evals.call_loop (Evals.sym hy) h₁ h.arg.proc (happ _),
    ((Keeps.of_framesExt (e₁.trans (dExt_enter σ₁)).framesExt b N).trans hkeep).trans
      (.of_framesExt (dExt_leave σ₂).framesExt b N), fun v hv => ?_⟩
  exact Live.dext ⟨⟨h.arg, L₂.lib.keep hkeep, hK v hv, Nat.le_trans L₂.size hkeep.size⟩, h.le,
    L₂.under.keep hkeep h.le⟩ (dExt_leave σ₂)

/-- the call entered and the test of the body evaluated -/
theorem Ready.enter (h : Ready b N K f dom σ) (F : Formals) (args : List Value) {t r}
    (ht : ∀ V, PEval V b σ.frames.size (paramDefs F args) t r) :
    ∃ σ', Evals (callFrame σ b F args) σ.frames.size t r σ' ∧ σ.DExt σ' ∧
      Live b N K f dom (paramDefs F args) σ.frames.size σ.frames.size σ' :=
  let ⟨L, e⟩ := h.call F args
  let ⟨σ', h', e', L'⟩ := L.eval ht
  ⟨σ', h', e.trans e', L'⟩

/-- `(y (car z) a …)`: parameter `i`, the procedure argument, on the first element of parameter `j` -/
theorem Live.apply_car {F : Formals} {args : List Value} (h : Live b N K f dom (paramDefs F args) base ρ σ)
    (hnd : F.names.Nodup) (hcar : "car" ∉ F.names) (i j : Nat) {y z : String} {x d : Value} {rest : List Expr}
    {rr rvs l l'} (hrest : ∀ V, PArgs V b ρ (paramDefs F args) rest rr) (hr : rr = .ok rvs) (hd : dom (x :: rvs))
    (hi : F.fixed[i]? = some y := by rfl) (hf : args[i]? = some f := by rfl)
    (hj : F.fixed[j]? = some z := by rfl) (hp : args[j]? = some (.pair x d) := by rfl) :
    ∃ r σ₁ σ₂ σ', σ.DExt σ₁ ∧ AppOf f σ₁ (x :: rvs) r σ₂ ∧ σ₂.DExt σ' ∧
      Evals σ ρ (.call (.sym y l) (ca "car" [sy z] :: rest) l') r σ' ∧ σ.Keeps b N σ' ∧
      ∀ v, r = .ok v → Live b N K f dom (paramDefs F args) base ρ σ' :=
  h.apply (h.scope.arg hnd i hi hf) (fun V => PArgs.cons (PEval.car hcar (PEval.arg hnd j hj hp)) (hrest V))
    (by subst hr; rfl) hd

end live

section traces
variable {app : Store → List Value → Except SErr Value → Store → Prop} {ext : Store → Store → Prop}
  (tr : ∀ {a b c}, ext a b → ext b c → ext a c)
include tr

theorem MapM.ext_left {σ₀ σ xs r σ'} (he : ext σ₀ σ) (h : MapM app ext σ xs r σ') : MapM app ext σ₀ xs r σ' := by
  cases h with
  | nil e => exact .nil (tr he e)
  | cons_err e h e' => exact .cons_err (tr he e) h e'
  | cons e h hr e' => exact .cons (tr he e) h hr e'

theorem FoldLM.ext_left {σ₀ σ acc xs r σ'} (he : ext σ₀ σ) (h : FoldLM app ext σ acc xs r σ') :
    FoldLM app ext σ₀ acc xs r σ' := by
  cases h with
  | nil e => exact .nil (tr he e)
  | cons_err e h e' => exact .cons_err (tr he e) h e'
  | cons e h hr e' => exact .cons (tr he e) h hr e'

theorem FoldLM.ext_right {σ acc xs r σ' σ''} (h : FoldLM app ext σ acc xs r σ') (he : ext σ' σ'') :
    FoldLM app ext σ acc xs r σ'' := by
  cases h with
  | nil e => exact .nil (tr e he)
  | cons_err e h e' => exact .cons_err e h (tr e' he)
  | cons e h hr e' => exact .cons e h hr (tr e' he)

theorem FilterM.ext_left {σ₀ σ xs r σ'} (he : ext σ₀ σ) (h : FilterM app ext σ xs r σ') : FilterM app ext σ₀ xs r σ' := by
  cases h with
  | nil e => exact .nil (tr he e)
  | cons_err e h e' => exact .cons_err (tr he e) h e'
  | cons_keep e h hv hr e' => exact .cons_keep (tr he e) h hv hr e'
  | cons_drop e h hv e' => exact .cons_drop (tr he e) h hv e'

end traces

/-- the pending call `(cons a e)`: an error of `e` is the outcome -/
theorem PendingRuns.cons {env σ ρ a e x R σ₁ σ₂} (hc : Evals σ ρ (sy "cons") (.ok (.builtin .cons)) σ)
    (h₁ : Evals σ ρ a (.ok x) σ₁) (h₂ : Evals σ₁ ρ e R σ₂) :
    PendingRuns env σ ρ (sy "cons") [a, e] (R.map (.pair x)) σ₂ := by
  cases R with
  | error er => exact .arg_err hc (.cons_tail_err h₁ (.cons_err h₂))
  | ok v => exact .ok hc (.cons h₁ (.cons h₂ .nil)) rfl (Applies.builtin_run (by decide) (by rfl) (applyPure_cons _ _ _))

/-! ## `map` -/

section hmap
variable {b N : Nat} {K : Store → Prop} {f : Value}

theorem proc_list_names : (["proc", "list"] : List String).Nodup ∧ "pair?" ∉ ["proc", "list"] ∧
    "car" ∉ ["proc", "list"] ∧ "cdr" ∉ ["proc", "list"] ∧ "cons" ∉ ["proc", "list"] ∧ "map" ∉ ["proc", "list"] ∧
    "for-each" ∉ ["proc", "list"] := by decide +kernel

/-- the recursive call is an OPERAND of `cons`, a nested activation: the induction hypothesis is used at `enter σ₆`,
with the frame of this call for `env` -/
theorem map_run (t : Value) (ht : isPair t = false) : ∀ (xs : List Value) (σ : Store),
    Ready b N K f (fun args => ∃ x ∈ xs, args = [x]) σ → ∀ env,
    ∃ r σ', Applies σ (libProc "map" b) [f, withTail xs t] env (r.map (withTail · t)) σ' ∧
      MapM (AppOf f) Store.DExt σ xs r σ' ∧ (∀ vs, r = .ok vs → K σ') := by
  have ⟨nd, hpair, hcar, hcdr, hcons, hself, _⟩ := proc_list_names
  have test : ∀ (l : Value) ρ V, PEval V b ρ (paramDefs ⟨["proc", "list"], none⟩ [f, l]) (ca "pair?" [sy "list"])
      (.ok (.bool (isPair l))) := fun l ρ V => PEval.congr (PEval.isPair hpair (PEval.arg nd 1)) rfl
  intro xs
  induction xs with
  | nil =>
    intro σ R env
    obtain ⟨σ₂, h₂, e₂, L₂⟩ := R.enter ⟨["proc", "list"], none⟩ [f, t] (test t _)
    exact ⟨.ok [], σ₂, Applies.lib_simple 16 rfl (by rfl) (TailRuns.cond_false h₂ (by simp [ht])
      (TailRuns.value nofun nofun (Evals.sym (L₂.scope.arg nd 1)))), .nil e₂, fun _ _ => L₂.inv⟩
  | cons x xs ih =>
    intro σ R env
    obtain ⟨σ₂, h₂, e₂, L₂⟩ := R.enter ⟨["proc", "list"], none⟩ [f, .pair x (withTail xs t)] (test _ _)
    obtain ⟨r₁, σ₃, σ₄, σ₅, d₃, happ, d₅, harg1, -, L₅⟩ := L₂.apply_car (l := none) (l' := none) nd hcar 0 1
      (fun _ => PArgs.nil) rfl ⟨x, by simp, rfl⟩
    have run : ∀ {r σ'}, PendingRuns env σ₂ σ.frames.size (sy "cons") _ r σ' → Applies σ (libProc "map" b) _ env r σ' :=
      fun h => Applies.lib_simple 16 rfl (by rfl) (TailRuns.cond_true h₂ rfl (TailRuns.call h))
    have hcons := Evals.sym (l := none) (L₂.scope.nat .cons hcons)
    cases r₁ with
    | error er =>
      exact ⟨.error er, σ₅, run (.arg_err hcons (EvalsArgs.cons_err harg1)), .cons_err (e₂.trans d₃) happ d₅, nofun⟩
    | ok v =>
      obtain ⟨σ₆, h₆, e₆, L₆⟩ := (L₅ v rfl).args (r := .ok [f, withTail xs t])
        (fun V => PArgs.cons (PEval.arg nd 0) (PArgs.cons (PEval.cdr hcdr (PEval.arg nd 1)) PArgs.nil)) rfl
      have R₆ := (L₆.toReady.dext (dExt_enter σ₆)).tail
      obtain ⟨r₂, σ₇, happ₂, htr₂, hK₇⟩ := ih (enter σ₆) R₆ σ.frames.size
      have harg2 := Evals.call_loop (l := none) (Evals.sym (l := none) ((L₅ v rfl).scope.libProc 16 hself)) h₆
        (procArity_libProc (i := 16) rfl) happ₂
      have hres : (r₂.map (withTail · t)).map (.pair v) = (r₂.map (v :: ·)).map (withTail · t) := by cases r₂ <;> rfl
      exact ⟨r₂.map (v :: ·), leave σ₇, run (hres ▸ PendingRuns.cons hcons harg1 harg2), .cons (e₂.trans d₃) happ
        (MapM.ext_left @Store.DExt.trans ((d₅.trans e₆).trans (dExt_enter σ₆)) htr₂) (dExt_leave σ₇),
        fun vs h => let ⟨vs', e, _⟩ := map_ok h; R.arg.stable _ _ (hK₇ vs' e) (dExt_leave σ₇)⟩

end hmap

/-! ## `for-each`, `fold-left`, `fold-right` -/

section hfor
variable {b N : Nat} {K : Store → Prop} {f : Value}

/-- the recursive call is a TAIL call, the same loop: the induction hypothesis is used at `σ₆`, with the caller's `env` -/
theorem for_each_run (t : Value) (ht : isPair t = false) : ∀ (xs : List Value) (σ : Store),
    Ready b N K f (fun args => ∃ x ∈ xs, args = [x]) σ → ∀ env,
    ∃ r σ', Applies σ (libProc "for-each" b) [f, withTail xs t] env (r.map fun _ => Value.void) σ' ∧
      MapM (AppOf f) Store.DExt σ xs r σ' ∧ (∀ vs, r = .ok vs → K σ') := by
  have ⟨nd, hpair, hcar, hcdr, _, _, hself⟩ := proc_list_names
  have test : ∀ (l : Value) ρ V, PEval V b ρ (paramDefs ⟨["proc", "list"], none⟩ [f, l]) (ca "pair?" [sy "list"])
      (.ok (.bool (isPair l))) := fun l ρ V => PEval.congr (PEval.isPair hpair (PEval.arg nd 1)) rfl
  intro xs
  induction xs with
  | nil =>
    intro σ R env
    obtain ⟨σ₂, h₂, e₂, L₂⟩ := R.enter ⟨["proc", "list"], none⟩ [f, t] (test t _)
    exact ⟨.ok [], σ₂, Applies.lib_simple 18 rfl (by rfl) (TailRuns.cond_void h₂ (by simp [ht])), .nil e₂,
      fun _ _ => L₂.inv⟩
  | cons x xs ih =>
    intro σ R env
    obtain ⟨σ₂, h₂, e₂, L₂⟩ := R.enter ⟨["proc", "list"], none⟩ [f, .pair x (withTail xs t)] (test _ _)
    -- the body of the `lambda ()` runs in a fresh frame under the frame of the call
    obtain ⟨L₃, e₃⟩ := L₂.thunk
    obtain ⟨r₁, σ₃, σ₄, σ₅, d₃, happ, d₅, harg1, -, L₅⟩ := L₃.apply_car (l := none) (l' := none) nd hcar 0 1
      (fun _ => PArgs.nil) rfl ⟨x, by simp, rfl⟩
    have run : ∀ {r σ'}, Applies σ₂ (.closure (.mk ⟨[], none⟩ [] [_, _]) σ.frames.size) [] env r σ' →
        Applies σ (libProc "for-each" b) _ env r σ' := fun h =>
      Applies.lib_simple 18 rfl (by rfl) (TailRuns.cond_true h₂ rfl (TailRuns.call_ok Evals.lambda EvalsArgs.nil rfl h))
    have d := (e₂.trans e₃).trans d₃
    cases r₁ with
    | error er => exact ⟨.error er, σ₅, run (Applies.closure_body_err (pre := []) (by rfl) .nil harg1), .cons_err d happ d₅, nofun⟩
    | ok v =>
      obtain ⟨σ₆, h₆, e₆, L₆⟩ := (L₅ v rfl).args (r := .ok [f, withTail xs t])
        (fun V => PArgs.cons (PEval.arg nd 0) (PArgs.cons (PEval.cdr hcdr (PEval.arg nd 1)) PArgs.nil)) rfl
      have R₆ := L₆.toReady.tail
      obtain ⟨r₂, σ₇, happ₂, htr₂, hK₇⟩ := ih σ₆ R₆ env
      refine ⟨r₂.map (v :: ·), σ₇, ?_, .cons d happ (MapM.ext_left @Store.DExt.trans (d₅.trans e₆) htr₂) (.refl _),
        fun vs h => let ⟨vs', e, _⟩ := map_ok h; hK₇ vs' e⟩
      have hres : (r₂.map (v :: ·)).map (fun _ => Value.void) = r₂.map fun _ => Value.void := by cases r₂ <;> rfl
      exact hres ▸ run (Applies.closure_body (pre := [_]) (by rfl) (.cons harg1 .nil) (TailRuns.call_ok
        (Evals.sym ((L₅ v rfl).scope.libProc 18 hself)) h₆ (procArity_libProc (i := 18) rfl) happ₂))

end hfor

section hfold
variable {b N : Nat} {K : Store → Prop} {f : Value}

/-- how a left fold ends on the final tail `t` of its list -/
def foldEnd (t : Value) (acc : Value) : Except SErr Value :=
  if isNil t then .ok acc else .error typeErr

theorem fold_names : (["f", "init", "seq"] : List String).Nodup ∧ "null?" ∉ ["f", "init", "seq"] ∧
    "car" ∉ ["f", "init", "seq"] ∧ "cdr" ∉ ["f", "init", "seq"] ∧ "fold-left" ∉ ["f", "init", "seq"] ∧
    "fold-right" ∉ ["f", "init", "seq"] := by decide +kernel

/-- at the end of the list `f` is not applied: on `()` the accumulator, on any other non-pair the type error of
`(car seq)` among the operands of the recursive call -/
theorem papp_fold_left_end {V : Array VecCell} (b : Nat) (f acc t : Value) (hp : (procArity f).isSome)
    (ht : isPair t = false) : PApp V b (libProc "fold-left" b) [f, acc, t] (foldEnd t acc) := by
  have ⟨nd, hnull, hcar, hcdr, hself, _⟩ := fold_names
  exact (PApp.lib 19 rfl (by rfl) fun _ => PTail.cond (PEval.null hnull (PEval.arg nd 2)) (PTail.arg nd 1)
    (PTail.app3 (k := fun _ _ _ => .error typeErr) (Opr.lib 19 hself) (PEval.arg nd 0)
      (PEval.app2 (k := fun _ _ => .error typeErr) (Opr.arg nd 0 hp) (PEval.car hcar (PEval.arg nd 2)) (PEval.arg nd 1)
        fun _ _ h => by rw [bind_ok, carS_nonpair ht] at h; cases h)
      (PEval.cdr hcdr (PEval.arg nd 2)) fun _ _ _ _ h => by rw [bind_ok, carS_nonpair ht] at h; cases h)).congr (by
        simp only [bind_ok, truthy_bool, carS_nonpair ht, foldEnd]; cases isNil t <;> rfl)

theorem fold_left_run (t : Value) (ht : isPair t = false) : ∀ (xs : List Value) (σ : Store) (acc : Value),
    Ready b N K f (fun args => ∃ x ∈ xs, ∃ a, args = [x, a]) σ → ∀ env,
    ∃ r σ', Applies σ (libProc "fold-left" b) [f, acc, withTail xs t] env (r.bind (foldEnd t)) σ' ∧
      FoldLM (AppOf f) Store.DExt σ acc xs r σ' ∧ (∀ v, r = .ok v → K σ') := by
  have ⟨nd, hnull, hcar, hcdr, hself, _⟩ := fold_names
  intro xs
  induction xs with
  | nil =>
    intro σ acc R env
    obtain ⟨σ', h', e'⟩ := papp_fold_left_end b f acc t R.arg.proc ht σ env R.lib rfl
    exact ⟨.ok acc, σ', h', .nil e'.dExt, fun _ _ => R.arg.stable _ _ R.inv e'.dExt⟩
  | cons x xs ih =>
    intro σ acc R env
    obtain ⟨σ₂, h₂, e₂, L₂⟩ := R.enter ⟨["f", "init", "seq"], none⟩ [f, acc, .pair x (withTail xs t)]
      (r := .ok (.bool false)) fun V => PEval.congr (PEval.null hnull (PEval.arg nd 2)) rfl
    obtain ⟨r₁, σ₃, σ₄, σ₅, d₃, happ, d₅, harg, -, L₅⟩ := L₂.apply_car (l := none) (l' := none) nd hcar 0 2
      (fun _ => PArgs.cons (PEval.arg nd 1) PArgs.nil) rfl ⟨x, by simp, acc, rfl⟩
    have run : ∀ {r σ'}, PendingRuns env σ₂ σ.frames.size (sy "fold-left") _ r σ' →
        Applies σ (libProc "fold-left" b) _ env r σ' :=
      fun h => Applies.lib_simple 19 rfl (by rfl) (TailRuns.cond_false h₂ rfl (TailRuns.call h))
    have hop := Evals.sym (l := none) (L₂.scope.libProc 19 hself)
    have hf₂ := Evals.sym (l := none) (L₂.scope.arg nd 0)
    have d := e₂.trans d₃
    cases r₁ with
    | error er =>
      exact ⟨.error er, σ₅, run (.arg_err hop (EvalsArgs.cons_tail_err hf₂ (EvalsArgs.cons_err harg))),
        .cons_err d happ d₅, nofun⟩
    | ok v =>
      obtain ⟨σ₆, h₆, e₆, L₆⟩ := (L₅ v rfl).args (r := .ok [withTail xs t])
        (fun V => PArgs.cons (PEval.cdr hcdr (PEval.arg nd 2)) PArgs.nil) rfl
      have R₆ := L₆.toReady.tail
      obtain ⟨r₂, σ₇, happ₂, htr₂, hK₇⟩ := ih σ₆ v R₆ env
      exact ⟨r₂, σ₇, run (.ok hop (EvalsArgs.cons hf₂ (EvalsArgs.cons harg h₆)) (procArity_libProc (i := 19) rfl) happ₂),
        .cons d happ (FoldLM.ext_left @Store.DExt.trans (d₅.trans e₆) htr₂) (.refl _), hK₇⟩

/-- `f` is applied AFTER the recursive call has returned, in the store it left; `ProcArg.app` wants `N` frames there:
no run loses a frame (`growsAt`) -/
theorem fold_right_run : ∀ (xs : List Value) (σ : Store) (init : Value),
    Ready b N K f (fun args => ∃ x ∈ xs, ∃ a, args = [x, a]) σ → ∀ env,
    ∃ r σ', Applies σ (libProc "fold-right" b) [f, init, Value.ofList xs] env r σ' ∧
      FoldRM (AppOf f) Store.DExt σ init xs r σ' ∧ (∀ v, r = .ok v → K σ') := by
  have ⟨nd, hnull, hcar, hcdr, _, hself⟩ := fold_names
  have test : ∀ (init l : Value) ρ V, PEval V b ρ (paramDefs ⟨["f", "init", "seq"], none⟩ [f, init, l])
      (ca "null?" [sy "seq"]) (.ok (.bool (isNil l))) := fun init l ρ V =>
    PEval.congr (PEval.null hnull (PEval.arg nd 2)) rfl
  intro xs
  induction xs with
  | nil =>
    intro σ init R env
    obtain ⟨σ₂, h₂, e₂, L₂⟩ := R.enter ⟨["f", "init", "seq"], none⟩ [f, init, .nil] (test init .nil _)
    exact ⟨.ok init, σ₂, Applies.lib_simple 20 rfl (by rfl) (TailRuns.cond_true h₂ rfl
      (TailRuns.value nofun nofun (Evals.sym (L₂.scope.arg nd 1)))), .nil e₂, fun _ _ => L₂.inv⟩
  | cons x xs ih =>
    intro σ init R env
    obtain ⟨σ₂, h₂, e₂, L₂⟩ := R.enter ⟨["f", "init", "seq"], none⟩ [f, init, Value.ofList (x :: xs)] (test init _ _)
    obtain ⟨σ₃, h₃, e₃, L₃⟩ := L₂.eval (r := .ok x) fun V => PEval.congr (PEval.car hcar (PEval.arg nd 2)) rfl
    obtain ⟨σ₄, h₄, e₄, L₄⟩ := L₃.args (r := .ok [f, init, Value.ofList xs]) (fun V => PArgs.cons (PEval.arg nd 0)
      (PArgs.cons (PEval.arg nd 1) (PArgs.cons (PEval.cdr hcdr (PEval.arg nd 2)) PArgs.nil))) rfl
    have d : σ.DExt (enter σ₄) := ((e₂.trans e₃).trans e₄).trans (Store.dExt_enter σ₄)
    have R₄ := (L₄.toReady.dext (Store.dExt_enter σ₄)).tail
    obtain ⟨r₂, σ₅, happ₂, htr₂, hK₅⟩ := ih (enter σ₄) init R₄ σ.frames.size
    have harg2 := Evals.call_loop (l := none) (Evals.sym (l := none) (L₃.scope.libProc 20 hself)) h₄
      (procArity_libProc (i := 20) rfl) happ₂
    have run : ∀ {r σ'}, PendingRuns env σ₂ σ.frames.size (sy "f") _ r σ' →
        Applies σ (libProc "fold-right" b) _ env r σ' :=
      fun h => Applies.lib_simple 20 rfl (by rfl) (TailRuns.cond_false h₂ rfl (TailRuns.call h))
    have hop := Evals.sym (l := none) (L₂.scope.arg nd 0)
    cases r₂ with
    | error er =>
      exact ⟨.error er, leave σ₅, run (.arg_err hop (EvalsArgs.cons_tail_err h₃ (EvalsArgs.cons_err harg2))),
        .cons_err d htr₂ (Store.dExt_leave σ₅), nofun⟩
    | ok acc =>
      obtain ⟨r, σ', happ, hkeep, hK'⟩ := R.arg.app (leave σ₅) [x, acc] (R.arg.stable _ _ (hK₅ acc rfl) (Store.dExt_leave σ₅))
        (Nat.le_trans R₄.size (happ₂.store fun n => (growsAt n).loop ..).frames_size) ⟨x, by simp, acc, rfl⟩
      exact ⟨r, σ', run (.ok hop (EvalsArgs.cons h₃ (EvalsArgs.cons harg2 EvalsArgs.nil)) R.arg.proc (happ env)),
        .cons d htr₂ (Store.dExt_leave σ₅) happ, hK'⟩

end hfold

/-! ## the order of the applications observed: the host procedure `tick` -/

/-- the store after `(tick x)`; `100000` is the fuel `tick` gives `canon` (`RuschmModel/Prim.lean`) -/
def tickStore (σ : Store) (x : Value) : Store := { σ with ticks := Prim.canon σ 100000 x :: σ.ticks }

theorem applies_tick (σ : Store) (x : Value) (env : Nat) :
    Applies σ (.builtin .tick) [x] env (.ok x) (tickStore σ x) :=
  Applies.builtin_run (by decide) (by rfl) rfl

theorem procArg_tick (b N : Nat) (dom : List Value → Prop) (hd : ∀ args, dom args → args.length = 1) :
    ProcArg b N (fun _ => True) (.builtin .tick) dom :=
  ProcArg.native (by decide) fun args h => by rw [hd args h]; rfl

/-- the trace is most-recent-first -/
theorem mapM_tick {σ : Store} {xs : List Value} {r σ'} (h : MapM (AppOf (.builtin .tick)) Store.DExt σ xs r σ') :
    r = .ok xs ∧ σ'.ticks = (xs.map (Prim.canon σ 100000)).reverse ++ σ.ticks ∧ σ'.vecs = σ.vecs := by
  induction h with
  | nil e => exact ⟨rfl, by simpa using e.ticks, e.vecs⟩
  | @cons_err σ σ₁ σ₂ σ' x xs er e₁ happ e₂ =>
    have := (Applies.unique (happ 0) (applies_tick σ₁ x 0)).1
    cases this
  | @cons σ σ₁ σ₂ σ₃ σ' x xs v r e₁ happ _ e₂ ih =>
    obtain ⟨hv, hσ⟩ := Applies.unique (happ 0) (applies_tick σ₁ x 0)
    cases hv; subst hσ
    obtain ⟨rfl, ht, hvecs⟩ := ih
    refine ⟨rfl, ?_, ?_⟩
    · rw [e₂.ticks, ht]
      have hx : Prim.canon σ₁ 100000 x = Prim.canon σ 100000 x := congrFun (Prim.canon_vecs e₁.vecs _).1 x
      rw [(Prim.canon_vecs (σ' := tickStore σ₁ x) (σ := σ) e₁.vecs _).1]
      simp only [tickStore, hx, e₁.ticks, List.map_cons, List.reverse_cons, List.append_assoc,
        List.singleton_append]
    · rw [e₂.vecs, hvecs]; exact e₁.vecs

/-! ## pure procedure arguments -/

section pureArg
variable {b : Nat}

/-- a pure procedure is a good procedure argument, with the library frame itself as the invariant -/
theorem ProcArg.of_papp {N : Nat} {f : Value} {dom : List Value → Prop} {g : List Value → Except SErr Value}
    (hp : (procArity f).isSome) (h : ∀ V args, dom args → PApp V b f args (g args)) :
    ProcArg b N (fun σ => LibFrame σ b) f dom where
  proc := hp
  stable _ _ hK he := hK.ext he.framesExt
  app σ args hK _ hd := by
    obtain ⟨σ', h', e⟩ := h σ.vecs args hd σ 0 hK rfl
    exact ⟨g args, σ', fun env => Applies.env_irrel h' env, Store.Keeps.of_framesExt e.framesExt b N,
      fun _ _ => hK.ext e.framesExt⟩

/-- an application of a pure procedure, as a trace records it, is the one `PApp` gives -/
theorem AppOf.of_papp {f : Value} {args g σ r σ'} (happ : AppOf f σ args r σ') (h : PApp σ.vecs b f args g)
    (hl : LibFrame σ b) : r = g ∧ σ.Ext σ' := by
  obtain ⟨σ'', h', e⟩ := h σ 0 hl rfl
  obtain ⟨rfl, rfl⟩ := Applies.unique (happ 0) h'
  exact ⟨rfl, e⟩

theorem mapM_of_papp {f : Value} {g : Value → Except SErr Value} (h : ∀ V x, PApp V b f [x] (g x))
    {σ : Store} {xs : List Value} {r σ'} (htr : MapM (AppOf f) Store.DExt σ xs r σ') (hl : LibFrame σ b) :
    r = xs.mapM g ∧ σ.DExt σ' := by
  induction htr with
  | nil e => exact ⟨rfl, e⟩
  | cons_err e₁ happ e₂ =>
    obtain ⟨hr, e'⟩ := AppOf.of_papp happ (h _ _) (hl.ext e₁.framesExt)
    exact ⟨by simp only [List.mapM_cons, ← hr, bind, Except.bind], (e₁.trans e'.dExt).trans e₂⟩
  | @cons _ _ _ _ _ _ xs _ _ e₁ happ _ e₂ ih =>
    obtain ⟨hr, e'⟩ := AppOf.of_papp happ (h _ _) (hl.ext e₁.framesExt)
    obtain ⟨rfl, e₃⟩ := ih ((hl.ext e₁.framesExt).ext e'.framesExt)
    refine ⟨?_, ((e₁.trans e'.dExt).trans e₃).trans e₂⟩
    simp only [List.mapM_cons, ← hr, bind, Except.bind]
    cases List.mapM g xs <;> rfl

theorem foldRM_of_papp {f : Value} {g : Value → Value → Except SErr Value} (h : ∀ V x a, PApp V b f [x, a] (g x a))
    {σ : Store} {init : Value} {xs : List Value} {r σ'} (htr : FoldRM (AppOf f) Store.DExt σ init xs r σ')
    (hl : LibFrame σ b) : r = xs.foldrM g init ∧ σ.DExt σ' := by
  induction htr with
  | nil e => exact ⟨rfl, e⟩
  | cons_err e₁ _ e₂ ih =>
    obtain ⟨hr, e⟩ := ih (hl.ext e₁.framesExt)
    exact ⟨by rw [List.foldrM_cons, ← hr]; rfl, (e₁.trans e).trans e₂⟩
  | cons e₁ _ e₂ happ ih =>
    obtain ⟨hr, e⟩ := ih (hl.ext e₁.framesExt)
    have d := (e₁.trans e).trans e₂
    obtain ⟨rfl, e'⟩ := AppOf.of_papp happ (h _ _ _) (hl.ext d.framesExt)
    exact ⟨by rw [List.foldrM_cons, ← hr]; rfl, d.trans e'.dExt⟩

theorem procArg_cons (b N : Nat) (dom : List Value → Prop) (hd : ∀ args, dom args → args.length = 2) :
    ProcArg b N (fun _ => True) (.builtin .cons) dom :=
  ProcArg.native (by decide) fun args h => by rw [hd args h]; rfl

end pureArg

end Ruschm.ListLib
