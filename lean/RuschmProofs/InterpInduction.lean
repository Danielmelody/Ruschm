/-
Two rules for properties of the interpreter's mutual block, each shown once, of `stepCall`.
One run: from what the leaves do for an invariant `I` of the state, a property `V` of the values bound and a set
`E` of errors (`Leaves`), every call keeps them (`unary_run`), and the state it leaves extends the state it
started in (`Inv`), which is what lets facts about values persist past a call; the leaf that runs the evaluator
comes from a sound invariant of the evaluator (`exprOrDef_of_sound`).
Two runs: maps of state, values and code that the leaves commute with (`Hom`) commute with every call
(`Hom.run`); when only a part of the state is changed that no leaf looks at, the runs are equal (`Unobserved`,
`comm_run`).
-/
import RuschmProofs.LoaderStep
import RuschmProofs.EvalAst
import RuschmProofs.EvalInduction

namespace Ruschm
namespace Interp
open Lib

/-! ## what every step preserves -/

/-- `st'` extends `st`: a relation between two states, not an invariant of one -/
structure Inv (R : Store → Store → Prop) (st st' : State) : Prop where
  inProgress : st'.inProgress = st.inProgress
  instances : ∀ n d, libLookup st.instances n = some d → libLookup st'.instances n = some d
  factories : ∀ n f, libLookup st.factories n = some f → libLookup st'.factories n = some f
  files : st'.files = st.files
  env : st'.env = st.env
  syn : st'.syn = st.syn
  importEnd : st'.importEnd = st.importEnd
  store : R st.store st'.store
  dir : st'.dir = st.dir

/-- what the block needs of a relation on stores; every `Eval.StepRel` has it (`of_stepRel`) -/
structure StoreRel (R : Store → Store → Prop) : Prop where
  refl : ∀ σ, R σ σ
  trans : ∀ {a b c}, R a b → R b c → R a c
  expr : ∀ {fuel σ ρ e r σ'}, Eval.evalExpr fuel σ ρ e = (r, σ') → R σ σ'
  define : ∀ σ ρ k v, R σ (σ.define ρ k v)
  newFrame : ∀ σ p, R σ (σ.newFrame p).2

theorem StoreRel.of_stepRel {R : Store → Store → Prop} (h : Eval.StepRel R) : StoreRel R where
  refl := h.refl
  trans := h.trans
  expr := fun {fuel σ ρ e _ _} he => by have := (h.eval fuel).expr σ ρ e; rwa [he] at this
  define := h.define
  newFrame := h.newFrame

variable {R : Store → Store → Prop}

theorem Inv.refl (hR : StoreRel R) (st : State) : Inv R st st :=
  ⟨rfl, fun _ _ h => h, fun _ _ h => h, rfl, rfl, rfl, rfl, hR.refl _, rfl⟩

theorem Inv.trans (hR : StoreRel R) {a b c : State} (h1 : Inv R a b) (h2 : Inv R b c) : Inv R a c :=
  ⟨h2.inProgress.trans h1.inProgress, fun n d h => h2.instances n d (h1.instances n d h),
   fun n f h => h2.factories n f (h1.factories n f h), h2.files.trans h1.files,
   h2.env.trans h1.env, h2.syn.trans h1.syn, h2.importEnd.trans h1.importEnd,
   hR.trans h1.store h2.store, h2.dir.trans h1.dir⟩

theorem Inv.store_step (st : State) {σ' : Store} (h : R st.store σ') :
    Inv R st { st with store := σ' } :=
  ⟨rfl, fun _ _ h => h, fun _ _ h => h, rfl, rfl, rfl, rfl, h, rfl⟩

theorem foldl_define_rel (hR : StoreRel R) (ρ : Nat) (defs : List (String × Value)) (σ : Store) :
    R σ (defs.foldl (fun σ p => σ.define ρ p.1 p.2) σ) := by
  induction defs generalizing σ with
  | nil => exact hR.refl _
  | cons p rest ih => exact hR.trans (hR.define σ ρ p.1 p.2) (ih _)

theorem evalExprOrDef_inv (hR : StoreRel R) {fuel st s ρ r st'}
    (h : evalExprOrDef fuel st s ρ = (r, st')) : Inv R st st' := by
  have c := evalExprOrDef_cases fuel st s ρ
  rw [h] at c
  cases c with
  | error _ he => exact Inv.store_step _ (hR.expr he)
  | value he => exact Inv.store_step _ (hR.expr he)
  | define he => exact Inv.store_step _ (hR.trans (hR.expr he) (hR.define _ _ _ _))
  | syntaxDef => exact Inv.store_step _ (hR.define _ _ _ _)
  | other => exact Inv.refl hR _

/-- `run_inv` for each of the seven functions by name -/
structure InvAt (R : Store → Store → Prop) (fuel : Nat) : Prop where
  importSet : ∀ {st s r st'}, evalImportSet fuel st s = (r, st') → Inv R st st'
  getLibrary : ∀ {st name loc r st'}, getLibrary fuel st name loc = (r, st') → Inv R st st'
  import_ : ∀ {st sets ρ r st'}, evalImport fuel st sets ρ = (r, st') → Inv R st st'
  importSets : ∀ {st sets acc r st'}, evalImportSets fuel st sets acc = (r, st') → Inv R st st'
  libraryDef : ∀ {st decls r st'}, evalLibraryDef fuel st decls = (r, st') → Inv R st st'
  libDecls : ∀ {st ρ decls acc r st'}, evalLibDecls fuel st ρ decls acc = (r, st') → Inv R st st'
  statements : ∀ {st ρ ss r st'}, evalStatements fuel st ρ ss = (r, st') → Inv R st st'

theorem findFactory_inv (hR : StoreRel R) {st name loc r st'} (h : findFactory st name loc = (r, st')) :
    Inv R st st' ∧ st'.instances = st.instances := by
  have hf := findFactory_found st name loc
  rw [h] at hf
  cases hf with
  | registered _ => exact ⟨Inv.refl hR _, rfl⟩
  | fromFile h1 _ _ =>
    exact ⟨⟨rfl, fun _ _ h => h, fun n f' h' => libLookup_libInsert_of_some _ h1 h', rfl, rfl, rfl, rfl,
      hR.refl _, rfl⟩, rfl⟩
  | error _ _ => exact ⟨Inv.refl hR _, rfl⟩

theorem Inv.cache {st st2 : State} {name : LibName} (defs : List (String × Value))
    (hnone : libLookup st.instances name = none) (i : Inv R st st2) :
    Inv R st { st2 with instances := libInsert st2.instances name defs } := by
  refine ⟨i.inProgress, ?_, i.factories, i.files, i.env, i.syn, i.importEnd, i.store, i.dir⟩
  intro n d hn
  have hne : n ≠ name := by rintro rfl; simp [hnone] at hn
  simpa [libLookup_libInsert_ne _ _ hne] using i.instances n d hn

/-- enough for everything that does not concern the store -/
theorem storeRel_true : StoreRel (fun _ _ => True) :=
  ⟨fun _ => trivial, fun _ _ => trivial, fun _ => trivial, fun _ _ _ _ => trivial, fun _ _ => trivial⟩

/-! ## one rule for the unary invariants of the block -/

/-- `Ends` of `AndThen.lean`, the value judged in the store reached -/
abbrev Ends (I : State → Prop) (E : SErr → Prop) {α} (Q : Store → α → Prop) (x : Except SErr α × State) : Prop :=
  Ruschm.Ends I E (fun st => Q st.store) x

abbrev EndsFrom (R : Store → Store → Prop) (I : State → Prop) (E : SErr → Prop) {α} (Q : Store → α → Prop)
    (st : State) (x : Except SErr α × State) : Prop :=
  Ruschm.EndsFrom (Inv R) I E (fun st => Q st.store) st x

def Binds (V : Store → Value → Prop) (σ : Store) (defs : List (String × Value)) : Prop := ∀ kv ∈ defs, V σ kv.2

/-- a library declaration whose import sets name libraries at positions in `L`, whose export specs are
in `X`, whose statements are in `P` -/
def DeclAll (L : Loc → Prop) (X : ExportSpec → Prop) (P : Statement → Prop) : LibDecl → Prop
  | .importDecl sets => ∀ s ∈ sets, L (S.leafLoc s)
  | .export specs => ∀ x ∈ specs, X x
  | .begin_ body => ∀ s ∈ body, P s

def FactoryAll (V : Store → Value → Prop) (L : Loc → Prop) (X : ExportSpec → Prop) (P : Statement → Prop)
    (σ : Store) : Factory → Prop
  | .native defs => Binds V σ defs
  | .ast decls => ∀ d ∈ decls, DeclAll L X P d

/-- What the leaves of the block must do for an invariant `I` of the state, with `V` of the values
bound, `Fr` of the frame statements run in and `E` of the errors; `R` is a preorder on stores along
which `V` and `Fr` persist; `L`, `X`, `P` as in `DeclAll`. Trap: by `inProgress`, `I` cannot speak of the
in-progress set. -/
structure Leaves (R : Store → Store → Prop) (I : State → Prop) (V : Store → Value → Prop)
    (Fr : Store → Nat → Prop) (E : SErr → Prop) (L : Loc → Prop) (X : ExportSpec → Prop)
    (P : Statement → Prop) : Prop where
  rel : StoreRel R
  vmono : ∀ {σ σ' v}, R σ σ' → V σ v → V σ' v
  fmono : ∀ {σ σ' ρ}, R σ σ' → Fr σ ρ → Fr σ' ρ
  fuel : E (.fuel, none)
  other : E (.other, none)
  cyclic : ∀ {loc}, L loc → E (.cyclic, loc)
  unbound : ∀ {ex}, X ex → E (.unbound, match ex with | .direct _ l => l | .rename _ _ l => l)
  inProgress : ∀ {st} ip, I st → I { st with inProgress := ip }
  hit : ∀ {st name defs}, I st → libLookup st.instances name = some defs → Binds V st.store defs
  find : ∀ {st name loc}, I st → L loc → Ends I E (FactoryAll V L X P) (findFactory st name loc)
  cache : ∀ {st name defs}, I st → Binds V st.store defs →
    I { st with instances := libInsert st.instances name defs }
  newFrame : ∀ {st}, I st →
    I { st with store := (st.store.newFrame none).2 } ∧ Fr (st.store.newFrame none).2 st.store.frames.size
  define : ∀ {st ρ k v}, I st → V st.store v → I { st with store := st.store.define ρ k v }
  lookup : ∀ {st ρ k v}, I st → st.store.lookup ρ k = some v → V st.store v
  exprOrDef : ∀ fuel st s ρ, I st → Fr st.store ρ → P s →
    Ends I E (fun _ _ => True) (evalExprOrDef fuel st s ρ)

/-- The leaf `exprOrDef` for a state invariant `I` that carries on its store a sound invariant `S` of the
evaluator: `code` takes the expression out of the statements in `P`. -/
theorem exprOrDef_of_sound {S : Eval.EvalInv} (hS : S.Sound) {I : State → Prop} {E : SErr → Prop}
    {P : Statement → Prop} (store : ∀ {st}, I st → S.I st.store)
    (withStore : ∀ {st σ}, I st → S.I σ → S.G st.store σ → I { st with store := σ })
    (err : ∀ {e}, S.Err e → E e)
    (code : ∀ {s e}, P s → (s = .expr e ∨ ∃ x l, s = .definition (.mk x e l)) → S.C e)
    (transformer : ∀ {σ r}, S.V σ (.transformer r))
    (fuel : Nat) (st : State) (s : Statement) (ρ : Nat) (hI : I st) (hρ : S.Env st.store ρ) (hp : P s) :
    Ends I E (fun _ _ => True) (evalExprOrDef fuel st s ρ) := by
  have run : ∀ {e r σ}, S.C e → Eval.evalExpr fuel st.store ρ e = (r, σ) → S.Post st.store S.V (r, σ) :=
    fun hc he => he ▸ (hS.eval fuel).expr _ _ _ (store hI) hρ hc
  have c := evalExprOrDef_cases fuel st s ρ
  generalize evalExprOrDef fuel st s ρ = x at c
  cases c with
  | error hse he =>
    have p := run (code hp hse) he
    exact .ofErr (withStore hI p.inv p.rel) (err (p.err _ rfl))
  | value he =>
    have p := run (code hp (.inl rfl)) he
    exact .ofOk (withStore hI p.inv p.rel) trivial
  | define he =>
    have p := run (code hp (.inr ⟨_, _, rfl⟩)) he
    exact .ofOk (withStore hI (hS.define p.inv (p.ok _ rfl) _ _) (hS.rel.trans p.rel (hS.rel.define ..))) trivial
  | syntaxDef => exact .ofOk (withStore hI (hS.define (store hI) transformer _ _) (hS.rel.define ..)) trivial
  | other => exact .ofErr hI (err (hS.err _ nofun))

section unary
variable {I : State → Prop} {V : Store → Value → Prop} {Fr : Store → Nat → Prop} {E : SErr → Prop}
  {L : Loc → Prop} {X : ExportSpec → Prop} {P : Statement → Prop}

theorem Binds.apply {σ : Store} {op : ImportOp} {defs} (h : Binds V σ defs) : Binds V σ (op.apply defs) :=
  fun _ hkv => let ⟨_, hm, e⟩ := ImportOp.mem_apply hkv; e ▸ h _ hm

theorem Binds.insert {σ : Store} {acc k v} (ha : Binds V σ acc) (hv : V σ v) : Binds V σ (assocInsert acc k v) :=
  fun kv hkv => (Assoc.mem_assocInsert hkv).elim (fun e => e ▸ hv) (ha kv)

variable (lv : Leaves R I V Fr E L X P)
include lv

theorem Binds.mono {σ σ' : Store} {defs} (h : Binds V σ defs) (g : R σ σ') : Binds V σ' defs :=
  fun kv hkv => lv.vmono g (h kv hkv)

theorem EndsFrom.after {α} {Q : Store → α → Prop} {st st1 : State} {x : Except SErr α × State}
    (j : Inv R st st1) (k : EndsFrom R I E Q st1 x) : EndsFrom R I E Q st x :=
  Ruschm.EndsFrom.after k (Inv.trans lv.rel) j

theorem mergeFold_ends {σ : Store} {eq} {defs acc : List (String × Value)} (hd : Binds V σ defs)
    (ha : Binds V σ acc) :
    (∀ acc', defs.foldlM (Lib.mergeStep eq) acc = .ok acc' → Binds V σ acc') ∧
    (∀ e, defs.foldlM (Lib.mergeStep eq) acc = .error e → E e) := by
  refine foldlM_post defs acc ha fun a ha p hp => ?_
  rcases mergeStep_cases eq a p with h | h <;> rw [h]
  · exact ⟨fun b' hb => (by cases hb; exact ha.insert (hd p hp)), fun e he => nomatch he⟩
  · exact ⟨fun b' hb => (nomatch hb), fun e he => (by cases he; exact lv.other)⟩

theorem exportFold_ends {st : State} (hI : I st) (ρ : Nat) {exports : List ExportSpec}
    (hx : ∀ x ∈ exports, X x) :
    (∀ defs, exports.foldlM (exportStep (st.store.lookup ρ)) [] = .ok defs → Binds V st.store defs) ∧
    (∀ e, exports.foldlM (exportStep (st.store.lookup ρ)) [] = .error e → E e) := by
  refine foldlM_post exports [] (fun _ h => nomatch h) fun a ha ex hex => ?_
  rcases exportStep_cases (st.store.lookup ρ) a ex with ⟨v, hv, h⟩ | h <;> rw [h]
  · exact ⟨fun b' hb => (by cases hb; exact ha.insert (lv.lookup hI hv)), fun e he => nomatch he⟩
  · exact ⟨fun b' hb => (nomatch hb), fun e he => (by cases he; exact lv.unbound (hx ex hex))⟩

theorem foldlDefine_inv (ρ : Nat) : ∀ (defs : List (String × Value)) {st : State}, I st → Binds V st.store defs →
    I { st with store := defs.foldl (fun σ p => σ.define ρ p.1 p.2) st.store }
  | [], _, h, _ => h
  | p :: rest, st, h, hd =>
    foldlDefine_inv ρ rest (st := { st with store := st.store.define ρ p.1 p.2 })
      (lv.define h (hd p (List.mem_cons_self ..)))
      (Binds.mono lv (fun kv hkv => hd kv (List.mem_cons_of_mem _ hkv)) (lv.rel.define ..))

/-- what a call asks of the state it starts in and of its arguments -/
def Call.Pre (V : Store → Value → Prop) (Fr : Store → Nat → Prop) (L : Loc → Prop) (X : ExportSpec → Prop)
    (P : Statement → Prop) (st : State) : {α : Type} → Call α → Prop
  | _, .importSet s => L (S.leafLoc s)
  | _, .getLibrary _ loc => L loc
  | _, .import_ sets _ => ∀ s ∈ sets, L (S.leafLoc s)
  | _, .importSets sets acc => (∀ s ∈ sets, L (S.leafLoc s)) ∧ Binds V st.store acc
  | _, .libraryDef decls => ∀ d ∈ decls, DeclAll L X P d
  | _, .libDecls ρ decls acc => Fr st.store ρ ∧ (∀ d ∈ decls, DeclAll L X P d) ∧ ∀ x ∈ acc, X x
  | _, .statements ρ ss => Fr st.store ρ ∧ ∀ s ∈ ss, P s

/-- what a call says of its value -/
def Call.Post (V : Store → Value → Prop) (X : ExportSpec → Prop) : {α : Type} → Call α → Store → α → Prop
  | _, .importSet _ | _, .getLibrary _ _ | _, .importSets _ _ | _, .libraryDef _ => Binds V
  | _, .import_ _ _ | _, .statements _ _ => fun _ _ => True
  | _, .libDecls _ _ _ => fun _ ex => ∀ x ∈ ex, X x

/-- SEQUENCING (`EndsFrom.andThen` of `AndThen.lean`; `Inv R` is transitive) -/
theorem EndsFrom.andThen {α β} {Q : Store → α → Prop} {Q' : Store → β → Prop} {st : State}
    {x : Except SErr α × State} {k : α → State → Except SErr β × State} (hx : EndsFrom R I E Q st x)
    (hk : ∀ a st1, I st1 → Q st1.store a → Inv R st st1 → EndsFrom R I E Q' st1 (k a st1)) :
    EndsFrom R I E Q' st (Ruschm.andThen x k) :=
  Ruschm.EndsFrom.andThen hx (Inv.trans lv.rel) hk

/-- If the leaves keep `I`, bind values in `V` and fail with errors in `E`, so does every call; that it
preserves `Inv R` is what lets `V` and `Fr` persist past a call. -/
theorem unary_run : ∀ n {α} (st : State) (c : Call α), I st → c.Pre V Fr L X P st →
    EndsFrom R I E (c.Post V X) st (runCall n st c) :=
  run_rule (P := fun _ st c x => I st → c.Pre V Fr L X P st → EndsFrom R I E (c.Post V X) st x)
    (fun _ _ hs _ => .ofErr hs lv.fuel (Inv.refl lv.rel _)) fun n ih α st c hs pre => by
    have here {α} {Q : Store → α → Prop} {a : α} (h : Q st.store a) : EndsFrom R I E Q st (.ok a, st) :=
      .ofOk hs h (Inv.refl lv.rel _)
    cases c with
    | importSet s =>
      cases s using ImportSet.opInduction with
      | direct name loc =>
        rw [stepCall_direct]
        split
        · exact .ofErr hs (lv.cyclic pre) (Inv.refl lv.rel _)
        · have i := ih _ (.getLibrary name loc) (lv.inProgress (name :: st.inProgress) hs) pre
          have j := i.rel
          -- `simp`: the mark pushed before `get_library` is erased after it, whatever it returned
          exact ⟨⟨lv.inProgress _ i.inv, i.ok, i.err⟩, by simp [j.inProgress], j.instances, j.factories, j.files,
            j.env, j.syn, j.importEnd, j.store, j.dir⟩
      | wrap op sub =>
        rw [stepCall_wrap]
        have pre' : L (S.leafLoc sub) := ImportOp.leafLoc_wrap op sub ▸ (pre : L (S.leafLoc (op.wrap sub)))
        exact (ih st (.importSet sub) hs pre').andThen lv fun _ _ h1 hd _ =>
          .ofOk h1 hd.apply (Inv.refl lv.rel _)
    | getLibrary name loc =>
      simp only [stepCall]
      split
      · rename_i defs hc; exact here (lv.hit hs hc)
      · rename_i hc
        refine EndsFrom.andThenFrom ⟨lv.find (name := name) hs pre, (findFactory_inv lv.rel (Prod.eta _).symm).1⟩
          fun f st1 e1 h1 hf j1 => EndsFrom.after lv j1 ?_
        -- the instance enters the cache of the state the factory was found in, where the name has none
        have hc1 : libLookup st1.instances name = none := (findFactory_inv lv.rel e1).2 ▸ hc
        refine EndsFrom.andThenFrom (Q := fun st : State => Binds V st.store) ?_ fun defs st2 _ h2 hd j2 =>
          .ofOk (lv.cache h2 hd) hd (j2.cache defs hc1)
        cases f with
        | native defs => exact .ofOk h1 hf (Inv.refl lv.rel _)
        | ast decls => exact ih st1 (.libraryDef decls) h1 hf
    | import_ sets ρ =>
      exact (ih st (.importSets sets []) hs ⟨pre, fun _ h => nomatch h⟩).andThen lv fun defs st1 h1 hd _ =>
        .ofOk (foldlDefine_inv lv ρ defs h1 hd) trivial (Inv.store_step _ (foldl_define_rel lv.rel _ _ _))
    | importSets sets acc =>
      cases sets with
      | nil => exact here pre.2
      | cons s rest =>
        refine (ih st (.importSet s) hs (pre.1 s (List.mem_cons_self ..))).andThen lv fun defs st1 h1 hd j1 => ?_
        -- the bindings merged so far are still good in the store the set was loaded into
        exact EndsFrom.andThen lv (.ofPure h1 (mergeFold_ends lv hd (Binds.mono lv pre.2 j1.store)) (Inv.refl lv.rel _))
          fun acc' st2 h2 ha _ => ih st2 (.importSets rest acc') h2 ⟨fun s h => pre.1 s (List.mem_cons_of_mem _ h), ha⟩
    | libraryDef decls =>
      have hn := lv.newFrame hs
      refine EndsFrom.after lv (Inv.store_step _ (lv.rel.newFrame st.store none))
        ((ih _ (.libDecls st.store.frames.size decls []) hn.1 ⟨hn.2, pre, fun _ h => nomatch h⟩).andThen lv
          fun exports st1 h1 hx _ => .ofPure h1 (exportFold_ends lv h1 st.store.frames.size hx) (Inv.refl lv.rel _))
    | libDecls ρ decls acc =>
      cases decls with
      | nil => exact here pre.2.2
      | cons d ds =>
        have hd1 := pre.2.1 d (List.mem_cons_self ..)
        have hds := fun d' h => pre.2.1 d' (List.mem_cons_of_mem d h)
        cases d with
        | importDecl sets =>
          exact (ih st (.import_ sets ρ) hs hd1).andThen lv fun _ st1 h1 _ j1 =>
            ih st1 (.libDecls ρ ds acc) h1 ⟨lv.fmono j1.store pre.1, hds, pre.2.2⟩
        | «export» specs =>
          exact ih st (.libDecls ρ ds (acc ++ specs)) hs
            ⟨pre.1, hds, fun x h => (List.mem_append.1 h).elim (pre.2.2 x) (hd1 x)⟩
        | begin_ body =>
          exact (ih st (.statements ρ body) hs ⟨pre.1, hd1⟩).andThen lv fun _ st1 h1 _ j1 =>
            ih st1 (.libDecls ρ ds acc) h1 ⟨lv.fmono j1.store pre.1, hds, pre.2.2⟩
    | statements ρ ss =>
      cases ss with
      | nil => exact here trivial
      | cons s rest =>
        exact EndsFrom.andThen lv (Q := fun _ _ => True) ⟨lv.exprOrDef n st s ρ hs pre.1 (pre.2 s (List.mem_cons_self ..)),
            evalExprOrDef_inv lv.rel (Prod.eta _).symm⟩ fun _ st1 h1 _ j1 =>
          ih st1 (.statements ρ rest) h1 ⟨lv.fmono j1.store pre.1, fun s h => pre.2 s (List.mem_cons_of_mem _ h)⟩

end unary

theorem declAll_true : ∀ d, DeclAll (fun _ => True) (fun _ => True) (fun _ => True) d
  | .importDecl _ | .export _ | .begin_ _ => fun _ _ => trivial

theorem leaves_true (hR : StoreRel R) : Leaves R (fun _ => True) (fun _ _ => True) (fun _ _ => True)
    (fun _ => True) (fun _ => True) (fun _ => True) (fun _ => True) :=
  have t {α} (_ : α) : True := trivial
  ⟨hR, fun _ => t, fun _ => t, trivial, trivial, t, t, fun _ => t, fun _ _ _ _ => trivial,
   fun _ _ => ⟨trivial, fun f _ => match f with | .native _ => fun _ _ => trivial | .ast _ => fun d _ => declAll_true d,
     fun _ _ => trivial⟩,
   fun _ _ => trivial, fun _ => ⟨trivial, trivial⟩, fun _ _ => trivial, fun _ _ => trivial,
   fun _ _ _ _ _ _ _ => ⟨trivial, fun _ _ => trivial, fun _ _ => trivial⟩⟩

theorem Call.pre_true (st : State) : ∀ {α} (c : Call α),
    c.Pre (fun _ _ => True) (fun _ _ => True) (fun _ => True) (fun _ => True) (fun _ => True) st
  | _, .importSet _ | _, .getLibrary _ _ => trivial
  | _, .import_ _ _ => fun _ _ => trivial
  | _, .importSets _ _ => ⟨fun _ _ => trivial, fun _ _ => trivial⟩
  | _, .libraryDef _ => fun d _ => declAll_true d
  | _, .libDecls _ _ _ => ⟨trivial, fun d _ => declAll_true d, fun _ _ => trivial⟩
  | _, .statements _ _ => ⟨trivial, fun _ _ => trivial⟩

theorem run_inv (hR : StoreRel R) (n : Nat) {α} (st : State) (c : Call α) : Inv R st (runCall n st c).2 :=
  (unary_run (leaves_true hR) n st c trivial (Call.pre_true st c)).rel

theorem inv_of_run (hR : StoreRel R) {n : Nat} {α} {st : State} (c : Call α) {r st'}
    (h : runCall n st c = (r, st')) : Inv R st st' := by
  have := run_inv hR n st c; rwa [h] at this

theorem invAt (hR : StoreRel R) (fuel : Nat) : InvAt R fuel where
  importSet {_ s _ _} h := inv_of_run hR (.importSet s) h
  getLibrary {_ name loc _ _} h := inv_of_run hR (.getLibrary name loc) h
  import_ {_ sets ρ _ _} h := inv_of_run hR (.import_ sets ρ) h
  importSets {_ sets acc _ _} h := inv_of_run hR (.importSets sets acc) h
  libraryDef {_ decls _ _} h := inv_of_run hR (.libraryDef decls) h
  libDecls {_ ρ decls acc _ _} h := inv_of_run hR (.libDecls ρ decls acc) h
  statements {_ ρ ss _ _} h := inv_of_run hR (.statements ρ ss) h

/-! ## homomorphisms of the block -/

abbrev mapBinds (v : Value → Value) (l : List (String × Value)) : List (String × Value) :=
  l.map fun p => (p.1, v p.2)

/-- `x'` ends in the image of the state `x` ends in, with the image of its value or with a related error.
The image comes first and the original second, here and in `E`. -/
def HSim (φ : State → State) (E : SErr → SErr → Prop) {α β : Type} (g : α → β)
    (x' : Except SErr β × State) (x : Except SErr α × State) : Prop :=
  (∃ e' e st, x' = (.error e', φ st) ∧ x = (.error e, st) ∧ E e' e) ∨
  ∃ a st, x' = (.ok (g a), φ st) ∧ x = (.ok a, st)

def HSimE (E : SErr → SErr → Prop) {α β : Type} (g : α → β) : Except SErr β → Except SErr α → Prop
  | .ok d, .ok a => d = g a
  | .error e', .error e => E e' e
  | _, _ => False

theorem HSim.ok {φ E} {α β : Type} {g : α → β} {a : α} {st : State} :
    HSim φ E g (.ok (g a), φ st) (.ok a, st) := .inr ⟨a, st, rfl, rfl⟩

theorem HSim.ofE {φ E} {α β : Type} {g : α → β} {x' : Except SErr β} {x : Except SErr α} {st : State}
    (h : HSimE E g x' x) : HSim φ E g (x', φ st) (x, st) := by
  cases x' <;> cases x
  · exact .inl ⟨_, _, st, rfl, rfl, h⟩
  · exact h.elim
  · exact h.elim
  · cases h; exact .inr ⟨_, st, rfl, rfl⟩

theorem HSim.err {φ E} {α β : Type} {g : α → β} {e' e : SErr} {st : State} (h : E e' e) :
    HSim φ E g (.error e', φ st) (.error e, st) := .inl ⟨e', e, st, rfl, rfl, h⟩

theorem HSim.andThen {φ E} {α α' β β' : Type} {g : α → α'} {g2 : β → β'} {x' : Except SErr α' × State}
    {x : Except SErr α × State} {k' : α' → State → Except SErr β' × State} {k : α → State → Except SErr β × State}
    (hx : HSim φ E g x' x) (hk : ∀ a st1, x = (.ok a, st1) → HSim φ E g2 (k' (g a) (φ st1)) (k a st1)) :
    HSim φ E g2 (andThen x' k') (andThen x k) := by
  rcases hx with ⟨e', e, st, rfl, rfl, he⟩ | ⟨a, st, rfl, rfl⟩
  · exact .err he
  · exact hk a st rfl

/-- Maps of the state, of the values and of the code that the leaves of the block commute with, up to `E`
on the errors, as long as `I` holds. Trap: by `keep`, `I` can speak of the files and the lookup directory only. -/
structure Hom where
  st : State → State
  store : Store → Store
  value : Value → Value
  loc : Loc → Loc
  stmt : Statement → Statement
  decl : LibDecl → LibDecl
  iset : ImportSet → ImportSet
  xspec : ExportSpec → ExportSpec
  fac : Factory → Factory
  E : SErr → SErr → Prop
  I : State → Prop
  E_none : ∀ k, E (k, none) (k, none)
  E_loc : ∀ k l, E (k, loc l) (k, l)
  iset_direct : ∀ name l, iset (.direct name l) = .direct name (loc l)
  iset_wrap : ∀ (op : ImportOp) s, iset (op.wrap s) = op.wrap (iset s)
  decl_eq : ∀ d, decl d = match d with
    | .importDecl sets => .importDecl (sets.map iset)
    | .export specs => .export (specs.map xspec)
    | .begin_ body => .begin_ (body.map stmt)
  xspec_eq : ∀ x, xspec x = match x with
    | .direct n l => .direct n (loc l)
    | .rename a b l => .rename a b (loc l)
  fac_eq : ∀ f, fac f = match f with
    | .native defs => .native (mapBinds value defs)
    | .ast decls => .ast (decls.map decl)
  inProgress : ∀ s, (st s).inProgress = s.inProgress
  setInProgress : ∀ s ip, st { s with inProgress := ip } = { st s with inProgress := ip }
  instances : ∀ s name, libLookup (st s).instances name = (libLookup s.instances name).map (mapBinds value)
  cache : ∀ s name defs, st { s with instances := libInsert s.instances name defs } =
    { st s with instances := libInsert (st s).instances name (mapBinds value defs) }
  store_eq : ∀ s, (st s).store = store s.store
  setStore : ∀ s σ, st { s with store := σ } = { st s with store := store σ }
  keep : ∀ {s s'}, s'.files = s.files → s'.dir = s.dir → I s → I s'
  find : ∀ s name l, I s → HSim st E fac (findFactory (st s) name (loc l)) (findFactory s name l)
  exprOrDef : ∀ n s x ρ, I s →
    HSim st E (Option.map value) (evalExprOrDef n (st s) (stmt x) ρ) (evalExprOrDef n s x ρ)
  define : ∀ σ ρ k v, (store σ).define ρ k (value v) = store (σ.define ρ k v)
  newFrame : ∀ σ, (store σ).newFrame none = ((σ.newFrame none).1, store (σ.newFrame none).2)
  lookup : ∀ σ ρ k, (store σ).lookup ρ k = (σ.lookup ρ k).map value
  derivedEq : ∀ σ n a b, Prim.derivedEq (store σ) n (value a) (value b) = Prim.derivedEq σ n a b

namespace Hom
variable (H : Hom)

abbrev binds := mapBinds H.value
abbrev sim {α β : Type} (g : α → β) := HSim H.st H.E g

/-- the call on the images of the arguments -/
def call : {α : Type} → Call α → Call α
  | _, .importSet s => .importSet (H.iset s)
  | _, .getLibrary name l => .getLibrary name (H.loc l)
  | _, .import_ sets ρ => .import_ (sets.map H.iset) ρ
  | _, .importSets sets acc => .importSets (sets.map H.iset) (H.binds acc)
  | _, .libraryDef decls => .libraryDef (decls.map H.decl)
  | _, .libDecls ρ decls acc => .libDecls ρ (decls.map H.decl) (acc.map H.xspec)
  | _, .statements ρ ss => .statements ρ (ss.map H.stmt)

/-- the image of the value of a call -/
def val : {α : Type} → Call α → α → α
  | _, .importSet _ | _, .getLibrary _ _ | _, .importSets _ _ | _, .libraryDef _ => H.binds
  | _, .import_ _ _ | _, .statements _ _ => id
  | _, .libDecls _ _ _ => List.map H.xspec

theorem assocInsert_binds (l : List (String × Value)) (k : String) (v : Value) :
    H.binds (assocInsert l k v) = assocInsert (H.binds l) k (H.value v) :=
  Assoc.insert_map_of H.value (fun _ _ => rfl) (fun _ _ => rfl) (fun _ _ _ _ _ => rfl) (fun _ _ _ _ _ => rfl) k v l

theorem lookup_binds (l : List (String × Value)) (k : String) :
    (H.binds l).lookup k = (l.lookup k).map H.value :=
  Assoc.lookup_map_val (fun _ => H.value) k l

theorem foldlM_sim {α β γ δ : Type} (fa : α → γ) (fb : β → δ) (step : β → α → Except SErr β)
    (step' : δ → γ → Except SErr δ) (h : ∀ b a, HSimE H.E fb (step' (fb b) (fa a)) (step b a)) :
    ∀ (l : List α) (b : β), HSimE H.E fb ((l.map fa).foldlM step' (fb b)) (l.foldlM step b)
  | [], b => rfl
  | a :: l, b => by
    simp only [List.map_cons, List.foldlM_cons]
    have := h b a
    revert this
    cases step' (fb b) (fa a) <;> cases step b a <;> intro this
    · exact this
    · exact this.elim
    · exact this.elim
    · cases this; exact foldlM_sim fa fb step step' h l _

theorem merge (st : State) (defs acc : List (String × Value)) :
    HSimE H.E H.binds ((H.binds defs).foldlM (Lib.mergeStep (importEq (H.st st))) (H.binds acc))
      (defs.foldlM (Lib.mergeStep (importEq st)) acc) := by
  refine H.foldlM_sim (fun p : String × Value => (p.1, H.value p.2)) H.binds _ _ (fun a p => ?_) defs acc
  have he : ∀ prev, importEq (H.st st) (H.value prev) (H.value p.2) = importEq st prev p.2 := fun prev => by
    simp only [importEq, H.store_eq, H.derivedEq]
  simp only [Lib.mergeStep, H.lookup_binds]
  cases a.lookup p.1 with
  | none => exact (H.assocInsert_binds ..).symm
  | some prev =>
    simp only [Option.map_some, he]
    cases importEq st prev p.2
    · exact H.E_none _
    · exact (H.assocInsert_binds ..).symm

theorem exports (σ : Store) (ρ : Nat) (xs : List ExportSpec) (acc : List (String × Value)) :
    HSimE H.E H.binds ((xs.map H.xspec).foldlM (exportStep ((H.store σ).lookup ρ)) (H.binds acc))
      (xs.foldlM (exportStep (σ.lookup ρ)) acc) := by
  refine H.foldlM_sim H.xspec H.binds _ _ (fun a x => ?_) xs acc
  rw [H.xspec_eq]
  cases x <;> simp only [exportStep, ExportSpec.internal, ExportSpec.external, H.lookup] <;>
    (cases σ.lookup ρ _
     · exact H.E_loc _ _
     · exact (H.assocInsert_binds ..).symm)

theorem foldl_define (ρ : Nat) (defs : List (String × Value)) (σ : Store) :
    (H.binds defs).foldl (fun σ p => σ.define ρ p.1 p.2) (H.store σ) =
      H.store (defs.foldl (fun σ p => σ.define ρ p.1 p.2) σ) :=
  List.foldl_map.trans (List.foldl_hom H.store fun σ p => H.define σ ρ p.1 p.2)

theorem run : ∀ n {α} (st : State) (c : Call α), H.I st →
    H.sim (H.val c) (runCall n (H.st st) (H.call c)) (runCall n st c) :=
  run_rule (P := fun n st c x => H.I st → H.sim (H.val c) (runCall n (H.st st) (H.call c)) x)
    (fun st c _ => by rw [runCall_zero]; exact .err (H.E_none _)) fun n ih α st c hI => by
    rw [runCall_succ]
    have keep {β} {st st1 : State} {c : Call β} {r} (e : runCall n st c = (r, st1)) (hI : H.I st) : H.I st1 := by
      have i := run_inv storeRel_true n st c; rw [e] at i; exact H.keep i.files i.dir hI
    cases c with
    | importSet s =>
      cases s using ImportSet.opInduction with
      | direct name l =>
        simp only [call, H.iset_direct]
        rw [stepCall_direct, stepCall_direct, H.inProgress, ← H.setInProgress]
        split
        · exact .err (H.E_loc _ _)
        · rcases ih { st with inProgress := name :: st.inProgress } (.getLibrary name l) (H.keep (s := st) rfl rfl hI) with
            ⟨e', e, st1, h', h, he⟩ | ⟨a, st1, h', h⟩ <;>
            (simp only [call] at h'; rw [h', h]; simp only [H.inProgress, ← H.setInProgress])
          · exact .err he
          · exact .ok
      | wrap op sub =>
        simp only [call, H.iset_wrap]
        rw [stepCall_wrap, stepCall_wrap]
        exact (ih st (.importSet sub) hI).andThen fun defs st1 _ => by
          simp only [val, binds, mapBinds, ImportOp.apply_map]; exact .ok
    | getLibrary name l =>
      simp only [call, stepCall, H.instances]
      cases libLookup st.instances name with
      | some defs => exact .ok
      | none =>
        refine (H.find st name l hI).andThen fun f st1 e1 => ?_
        have hI1 : H.I st1 := have i := (findFactory_inv storeRel_true e1).1; H.keep i.files i.dir hI
        refine HSim.andThen (g := H.binds) ?_ fun defs st2 _ => by rw [← H.cache]; exact .ok
        rw [H.fac_eq]
        cases f with
        | native defs => exact .ok
        | ast decls => exact ih st1 (.libraryDef decls) hI1
    | import_ sets ρ =>
      exact (ih st (.importSets sets []) hI).andThen fun defs st1 _ => by
        simp only [val, H.store_eq, H.foldl_define, ← H.setStore]; exact .ok (g := id)
    | importSets sets acc =>
      cases sets with
      | nil => exact .ok
      | cons s rest =>
        refine (ih st (.importSet s) hI).andThen fun defs st1 e1 => ?_
        exact HSim.andThen (.ofE (H.merge st1 defs acc)) fun acc' st2 e2 =>
          ih st2 (.importSets rest acc') ((show st1 = st2 from congrArg Prod.snd e2) ▸ keep e1 hI)
    | libraryDef decls =>
      have hsz : (H.store st.store).frames.size = st.store.frames.size := congrArg Prod.fst (H.newFrame st.store)
      simp only [call, stepCall]
      rw [H.store_eq, H.newFrame, hsz, ← H.setStore]
      refine (ih { st with store := (st.store.newFrame none).2 } (.libDecls st.store.frames.size decls [])
        (H.keep (s := st) rfl rfl hI)).andThen
        fun xs st1 _ => ?_
      rw [H.store_eq]
      exact .ofE (H.exports st1.store st.store.frames.size xs [])
    | libDecls ρ decls acc =>
      cases decls with
      | nil => exact .ok
      | cons d ds =>
        simp only [call, List.map_cons, H.decl_eq]
        cases d with
        | importDecl sets =>
          exact (ih st (.import_ sets ρ) hI).andThen fun _ st1 e1 => ih st1 (.libDecls ρ ds acc) (keep e1 hI)
        | «export» specs =>
          simp only [stepCall, ← List.map_append]
          exact ih st (.libDecls ρ ds (acc ++ specs)) hI
        | begin_ body =>
          exact (ih st (.statements ρ body) hI).andThen fun _ st1 e1 => ih st1 (.libDecls ρ ds acc) (keep e1 hI)
    | statements ρ ss =>
      cases ss with
      | nil => exact .ok (g := id)
      | cons s rest =>
        exact (H.exprOrDef n st s ρ hI).andThen fun _ st1 e1 => ih st1 (.statements ρ rest)
          (have i := evalExprOrDef_inv storeRel_true e1; H.keep i.files i.dir hI)

end Hom

/-! ## changes of the state that the mutual block does not observe -/

def mapSt {α} (φ : State → State) (x : Except SErr α × State) : Except SErr α × State := (x.1, φ x.2)

/-- `φ` changes a part of the state (`ψ`: of the store) that the mutual block neither reads nor
writes, as long as `I` holds: the leaves of the block commute with it (`keep`: as in `Hom`) -/
structure Unobserved (φ : State → State) (ψ : Store → Store) (I : State → Prop) : Prop where
  inProgress : ∀ st, (φ st).inProgress = st.inProgress
  instances : ∀ st, (φ st).instances = st.instances
  store : ∀ st, (φ st).store = ψ st.store
  setInProgress : ∀ st ip, φ { st with inProgress := ip } = { φ st with inProgress := ip }
  setInstances : ∀ st x, φ { st with instances := x } = { φ st with instances := x }
  setStore : ∀ st σ, φ { st with store := σ } = { φ st with store := ψ σ }
  factories : ∀ st, (φ st).factories = st.factories
  setFactories : ∀ st x, φ { st with factories := x } = { φ st with factories := x }
  fileAt : ∀ st name, I st → (φ st).files.lookup (fileKey (φ st).dir (libPath name)) =
    st.files.lookup (fileKey st.dir (libPath name))
  expr : ∀ n σ ρ e, Eval.evalExpr n (ψ σ) ρ e = ((Eval.evalExpr n σ ρ e).1, ψ (Eval.evalExpr n σ ρ e).2)
  define : ∀ σ ρ k v, (ψ σ).define ρ k v = ψ (σ.define ρ k v)
  newFrame : ∀ σ, (ψ σ).newFrame none = ((σ.newFrame none).1, ψ (σ.newFrame none).2)
  lookup : ∀ σ ρ k, (ψ σ).lookup ρ k = σ.lookup ρ k
  derivedEq : ∀ σ n a b, Prim.derivedEq (ψ σ) n a b = Prim.derivedEq σ n a b
  keep : ∀ {st st'}, st'.files = st.files → st'.dir = st.dir → I st → I st'

theorem findFactory_comm {φ : State → State} {st : State} {name : LibName} (loc : Loc)
    (hfac : (φ st).factories = st.factories)
    (hfile : (φ st).files.lookup (fileKey (φ st).dir (libPath name)) =
      st.files.lookup (fileKey st.dir (libPath name)))
    (hset : ∀ x, φ { st with factories := x } = { φ st with factories := x }) :
    findFactory (φ st) name loc = mapSt φ (findFactory st name loc) := by
  unfold findFactory
  rw [congrArg (libLookup · name) hfac, hfile]
  cases libLookup st.factories name with
  | some f => rfl
  | none =>
    dsimp only
    cases st.files.lookup (fileKey st.dir (libPath name)) with
    | none => rfl
    | some fe =>
      cases fe with
      | unreadable => rfl
      | text t =>
        dsimp only
        cases factoryOfText name t with
        | error e => rfl
        | ok f => rw [hfac]; exact congrArg (Prod.mk _) (hset _).symm

theorem mapBinds_id (l : List (String × Value)) : mapBinds id l = l := by
  simp [mapBinds]

theorem HSim.eq_mapSt {φ : State → State} {α : Type} {g : α → α} (hg : ∀ a, g a = a)
    {x' x : Except SErr α × State} (h : HSim φ Eq g x' x) : x' = mapSt φ x := by
  rcases h with ⟨e', e, st, rfl, rfl, rfl⟩ | ⟨a, st, rfl, rfl⟩
  · rfl
  · rw [hg]; rfl

theorem HSim.mapSt {φ : State → State} {α : Type} {g : α → α} (hg : ∀ a, g a = a)
    (x : Except SErr α × State) : HSim φ Eq g (mapSt φ x) x := by
  obtain ⟨_ | a, st⟩ := x
  · exact .err rfl
  · exact .inr ⟨a, st, by rw [hg]; rfl, rfl⟩

section comm
variable {φ : State → State} {ψ : Store → Store} {I : State → Prop} (u : Unobserved φ ψ I)
include u

theorem Unobserved.exprOrDef (n : Nat) (st : State) (s : Statement) (ρ : Nat) :
    evalExprOrDef n (φ st) s ρ = mapSt φ (evalExprOrDef n st s ρ) := by
  cases s with
  | expr e =>
    simp only [evalExprOrDef, u.store, u.expr]
    rcases Eval.evalExpr n st.store ρ e with ⟨_ | v, σ⟩ <;> exact congrArg (Prod.mk _) (u.setStore st _).symm
  | definition d =>
    obtain ⟨name, e, l⟩ := d
    simp only [evalExprOrDef, u.store, u.expr]
    rcases Eval.evalExpr n st.store ρ e with ⟨_ | v, σ⟩
    · exact congrArg (Prod.mk _) (u.setStore st _).symm
    · dsimp only; rw [u.define]; exact congrArg (Prod.mk _) (u.setStore st _).symm
  | syntaxDef name rules l =>
    simp only [evalExprOrDef, u.store, u.define]
    exact congrArg (Prod.mk _) (u.setStore st _).symm
  | importDecl sets l => rfl
  | libraryDef nm decls l => rfl

/-- values, code and errors stay as they are -/
def Unobserved.hom : Hom where
  st := φ
  store := ψ
  value := id
  loc := id
  stmt := id
  decl := id
  iset := id
  xspec := id
  fac := id
  E := Eq
  I := I
  E_none _ := rfl
  E_loc _ _ := rfl
  iset_direct _ _ := rfl
  iset_wrap _ _ := rfl
  decl_eq d := by cases d <;> simp
  xspec_eq x := by cases x <;> rfl
  fac_eq f := by cases f <;> simp [mapBinds]
  inProgress := u.inProgress
  setInProgress := u.setInProgress
  instances s name := by rw [u.instances]; cases libLookup s.instances name <;> simp [mapBinds]
  cache s name defs := by rw [mapBinds_id, u.instances, ← u.setInstances]
  store_eq := u.store
  setStore := u.setStore
  keep := u.keep
  find s name l hI := by
    rw [id, findFactory_comm l (u.factories s) (u.fileAt s name hI) (u.setFactories s)]
    exact .mapSt (fun _ => rfl) _
  exprOrDef n s x ρ _ := by
    rw [id, u.exprOrDef]
    exact .mapSt (fun a => by cases a <;> rfl) _
  define := u.define
  newFrame := u.newFrame
  lookup σ ρ k := by rw [u.lookup]; cases σ.lookup ρ k <;> rfl
  derivedEq := u.derivedEq

theorem Unobserved.call_id {α} (c : Call α) : u.hom.call c = c := by
  cases c <;> simp [Hom.call, Unobserved.hom, Hom.binds, mapBinds]

theorem Unobserved.val_id {α} (c : Call α) (a : α) : u.hom.val c a = a := by
  cases c <;> simp [Hom.val, Unobserved.hom, Hom.binds, mapBinds]

theorem comm_run (n : Nat) {α} (st : State) (c : Call α) (hI : I st) : runCall n (φ st) c = mapSt φ (runCall n st c) := by
  have h := u.hom.run n st c hI
  rw [u.call_id] at h
  exact h.eq_mapSt (u.val_id c)

theorem evalImport_comm (n : Nat) (st : State) (sets : List ImportSet) (ρ : Nat) (hI : I st) :
    evalImport n (φ st) sets ρ = mapSt φ (evalImport n st sets ρ) :=
  comm_run u n st (.import_ sets ρ) hI

end comm

end Interp
end Ruschm
