/-
Whole programs: text to outcome, with the positions of every stage.
-/
import RuschmProofs.LocInterp
import RuschmProofs.LocText
import RuschmProofs.FrontLemmas

namespace Ruschm

namespace ProgLoc
open Interp ReadLoc LexLoc InterpLoc Text

/-- the role is kept in the second alternative: users forget it (`mem_unrole`) or use it (`Role.kinds_cases`) -/
theorem evalAst_of_datum {f fuel : Nat} {d : Datum} {env : Xform.SynEnv} {s : Statement} {st st' : State} {r}
    (hx : (Xform.toStatement f d env).1 = .ok s) (h : evalAst fuel st s = (r, st')) :
    unrole st'.rlocs ⊆ unrole st.rlocs ++ d.locs ∧
    ∀ k l, r = .error (k, some l) →
      l ∈ d.locs ∨ (∃ ro : Role, k ∈ ro.kinds ∧ (ro, l) ∈ st.rlocs) ∨ LibReadErr (k, some l) := by
  have hd : ∀ {ro l}, (ro, l) ∈ s.rlocs → l ∈ d.locs := fun h =>
    (XformLoc.toStatement_locs (fuel := f) (d := d) (env := env)).1 s hx (mem_unrole.2 ⟨_, h⟩)
  have i := evalAst_post h
  refine ⟨fun l hl => ?_, fun k l hr => ?_⟩
  · obtain ⟨ro, hro⟩ := mem_unrole.1 (unrole_subset (stIn_iff.1 i.1) hl)
    exact (List.mem_append.1 hro).elim (fun h => List.mem_append_left _ (mem_unrole.2 ⟨ro, h⟩))
      fun h => List.mem_append_right _ (hd h)
  · obtain ⟨loc0, hk, hloc⟩ := i.2 k (some l) hr
    cases loc0 with
    | none =>
      have hsl : s.loc = some l := by cases hsl : s.loc <;> simp [hsl] at hloc; rw [hloc]
      exact .inl (hd (ro := .node) (Statement.loc_rlocs s (by simp [hsl, Loc.as])))
    | some l0 =>
      obtain rfl : l0 = l := by simpa using hloc.symm
      rcases hk.role rfl with ⟨ro, hro, hm⟩ | h
      · exact (List.mem_append.1 hm).elim (fun h => .inr (.inl ⟨ro, hro, h⟩)) fun h => .inl (hd h)
      · exact .inr (.inr h)

theorem evalForm_loc {fuel : Nat} {st st' : State} {d : Datum} {r} (h : FrontSpec.evalForm fuel st d = (r, st')) :
    unrole st'.rlocs ⊆ unrole st.rlocs ++ d.locs ∧
    ∀ k l, r = .error (k, some l) → l ∈ unrole st.rlocs ++ d.locs ∨ LibReadErr (k, some l) := by
  have hx := XformLoc.toStatement_locs (fuel := Xform.xformFuel d) (d := d) (env := st.syn)
  rw [FrontSpec.evalForm] at h
  generalize hg : Xform.toStatement (Xform.xformFuel d) d st.syn = x at h hx
  obtain ⟨e | stmt, syn⟩ := x
  · cases h
    refine ⟨List.subset_append_left _ _, fun k l hr => ?_⟩
    cases hr
    exact .inl (List.mem_append_right _ (hx.2 _ rfl (List.mem_singleton_self l)))
  · have i := evalAst_of_datum (by rw [hg]) h
    refine ⟨i.1, fun k l hr => ?_⟩
    rcases i.2 k l hr with h | ⟨ro, -, h⟩ | h
    · exact .inl (List.mem_append_right _ h)
    · exact .inl (List.mem_append_left _ (mem_unrole.2 ⟨ro, h⟩))
    · exact .inr h

theorem evalText_loc {fuel : Nat} {st st' : State} {text : List Char} {k : Err} {l : Pos}
    (h : evalText fuel st text = (.error (k, some l), st')) :
    l ∈ unrole st.rlocs ∨ Cur text (1, 1) l ∨ LibReadErr (k, some l) := by
  -- every position the reader may still report and every position in the state stays in `T`
  let T := unrole st.rlocs ++ errs (Read.ofText text)
  have hr := (evalText_rule (fuel := fuel) (J := fun s st => errs s ⊆ T ∧ unrole st.rlocs ⊆ T)
    (Q := fun _ => True) (E := fun e => ∀ k l, e = (k, some l) → l ∈ T ∨ LibReadErr (k, some l))
    (fun _ _ _ => trivial) (fun _ _ he => nomatch he)
    (fun s _ e hJ he k l hk => .inl (hJ.1 (nextDatum_err he (by rw [hk]; simp))))
    (fun s st d s' hJ hd => by
      obtain ⟨h1, h2⟩ := nextDatum_errs hd
      have hT : unrole st.rlocs ++ d.locs ⊆ T :=
        List.append_subset.2 ⟨hJ.2, fun _ hl => hJ.1 (h2 hl)⟩
      exact ⟨fun v st' hx => ⟨fun _ hl => hJ.1 (h1 hl), fun _ hl => hT ((evalForm_loc hx).1 hl)⟩,
        fun e st' hx => ⟨trivial, fun k l hk => ((evalForm_loc hx).2 k l (by rw [hk])).imp_left (hT ·)⟩⟩)
    st text ⟨List.subset_append_right _ _, List.subset_append_left _ _⟩).2 _ (by rw [h]) k l rfl
  rcases hr with hr | hr
  · rcases List.mem_append.1 hr with hr | hr
    · exact .inl hr
    · exact .inr (.inl (text_positions text l (by simpa [errs, here, Read.ofText] using hr)))
  · exact .inr (.inr hr)

theorem default_unlocated (withHost : Bool) : (default_ withHost).rlocs = [] := by
  obtain ⟨hfr, hv, hi, -⟩ := FrontSpec.default_store withHost
  have hf : ∀ p ∈ (default_ withHost).factories, p.2.rlocs = [] := fun p hp => by
    rcases FrontSpec.default_factory_cases hp with ⟨defs, hd, hb⟩ | ⟨t, ht⟩
    · rw [hd, Factory.rlocs, List.flatMap_eq_nil_iff]
      exact fun kv hkv => by obtain ⟨b, hb⟩ := hb kv hkv; rw [hb]; rfl
    · exact factoryOfText_clean ht
  simp [State.rlocs, Store.rlocs, Frame.rlocs, hfr, hv, hi, List.flatMap_eq_nil_iff.2 hf]

theorem withStdlib_unlocated (fuel : Nat) (withHost : Bool) : (withStdlib fuel withHost).rlocs = [] :=
  List.eq_nil_of_subset_nil (stIn_iff.1 (evalImport_stIn (T := [])
    (stIn_iff.2 (default_unlocated withHost ▸ List.Subset.refl _))))

end ProgLoc

end Ruschm
