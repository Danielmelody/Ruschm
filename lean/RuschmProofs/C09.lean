/-
Property C09 — exact arithmetic is exact, inexactness is contagious.

"On exact operands (integers and ratios) +, -, *, / and abs return the mathematically exact result
as an exact number, division by exact zero is an error, and floor, ceiling, floor-quotient and
floor-remainder satisfy n = d*q + r with q the greatest integer not above n/d. An operation with
an inexact operand returns the binary32 result of the IEEE operation on the converted operands,
and an exact result that cannot be represented is never replaced by a different exact number."

Only property theorems live here (each is audited with `#print axioms`); every helper lemma is in
`RuschmProofs/NumLemmas.lean`. Vocabulary (`val`, `WF`, `DenPos`, `PosDen`, `Below`, `redNum`,
`redDen`, `toReal`, `IsOk`, `NoPanic`) is defined in `RuschmSpec/Num.lean`.

Hypotheses are the weakest under which the statement was proved:
* the soundness theorems need NO well-formedness hypothesis at all (a zero denominator makes
  `exactRatio` fail, so an `ok` result already implies non-zero denominators);
* "no panic" needs only positive denominators (`PosDen`);
* `floor_spec`/`ceiling_spec` need `DenPos` (positive denominator and `i32` components) so that
  the integer result is representable.

An `example` after a theorem shows that its hypotheses can be met (non-vacuity), or the statement on numbers.
-/
import RuschmProofs.NumLemmas

namespace Ruschm.C09
open Ruschm

/-! ## 1. `exactRatio`, the only constructor of exact results -/

/-- An exact result of `exactRatio n d` has the value `n / d`. (`d ≠ 0` is not needed as a
hypothesis: it follows from the result being `ok`.) -/
theorem exactRatio_sound {n d : Int} {r : Num} (h : Num.exactRatio n d = .ok r)
    (hr : r.isExact = true) : r.val = some ((n : Rat) / (d : Rat)) :=
  Num.exactRatio_sound h hr

example : Num.exactRatio 6 (-4) = .ok (.rat (-3) 2) ∧ (Num.rat (-3) 2).isExact = true :=
  ⟨rfl, rfl⟩

/-- Every result of `exactRatio` satisfies the representation invariant. -/
theorem exactRatio_wf {n d : Int} {r : Num} (h : Num.exactRatio n d = .ok r) : r.WF :=
  Num.exactRatio_wf h

example : Num.exactRatio 6 (-4) = .ok (.rat (-3) 2) := rfl

/-- With a non-zero denominator `exactRatio` returns (it is the Rust division by
`gcd * signum(denominator)` that would panic). -/
theorem exactRatio_no_panic {n d : Int} (hd : d ≠ 0) : ∃ r, Num.exactRatio n d = .ok r :=
  Num.exactRatio_isOk hd

example : (-4 : Int) ≠ 0 := by decide

/-- ... and a zero denominator is the only way to reach the panic. -/
theorem exactRatio_panic_iff {n d : Int} :
    (∃ s, Num.exactRatio n d = .error (.panic s)) ↔ d = 0 := by
  constructor
  · rintro ⟨s, h⟩
    by_contra hd
    obtain ⟨r, hr⟩ := Num.exactRatio_isOk (n := n) hd
    rw [hr] at h; cases h
  · rintro rfl; exact ⟨_, Num.exactRatio_zero n⟩

example : Num.exactRatio 5 0 = .error (.panic "exact_ratio: zero denominator") := rfl

/-- Meaning of `redNum`/`redDen`: the representation of `n / d` in lowest terms with a positive
denominator. -/
theorem red_spec {n d : Int} (hd : d ≠ 0) :
    0 < Num.redDen n d ∧ Int.gcd (Num.redNum n d) (Num.redDen n d) = 1 ∧
      (Num.redNum n d : Rat) / (Num.redDen n d : Rat) = (n : Rat) / (d : Rat) := by
  obtain ⟨e1, e2⟩ := Num.red_eq_rat (n := n) hd
  rw [e1, e2]
  exact ⟨Int.natCast_pos.mpr (Rat.den_pos _), Rat.reduced _, Rat.num_div_den _⟩

example : Num.redNum 6 (-4) = -3 ∧ Num.redDen 6 (-4) = 2 := ⟨rfl, rfl⟩

/-- The result is inexact exactly when the reduced numerator or denominator does not fit `i32`;
otherwise it is the integer (denominator 1) or the ratio in lowest terms. -/
theorem exactRatio_inexact_only_on_overflow {n d : Int} (hd : d ≠ 0) :
    ((∃ f, Num.exactRatio n d = .ok (.real f)) ↔
      ¬ (fitsI32 (Num.redNum n d) = true ∧ fitsI32 (Num.redDen n d) = true)) ∧
    (fitsI32 (Num.redNum n d) = true → fitsI32 (Num.redDen n d) = true →
      Num.exactRatio n d =
        .ok (if Num.redDen n d = 1 then .int (Num.redNum n d)
             else .rat (Num.redNum n d) (Num.redDen n d))) := by
  rw [Num.exactRatio_eq hd]
  split <;> rename_i hf <;> rw [Bool.and_eq_true] at hf
  · refine ⟨⟨fun ⟨f, h⟩ => ?_, fun h => absurd hf h⟩, fun _ _ => rfl⟩
    have := Num.mkExact_isExact (Num.redNum n d) (Num.redDen n d)
    rw [Except.ok.inj h] at this; cases this
  · exact ⟨⟨fun _ => hf, fun _ => ⟨_, rfl⟩⟩, fun h1 h2 => absurd ⟨h1, h2⟩ hf⟩

example : Num.exactRatio 2147483648 1 = .ok (.real (Num.ratToReal 2147483648 1)) := rfl

/-- Equivalent form: whenever the true quotient `n / d` *is* representable (some well-formed exact
`x` has that value), `exactRatio n d` returns exactly `x` — the inexact fallback is taken only
when no exact representation exists. -/
theorem exactRatio_complete {n d : Int} (hd : d ≠ 0) {x : Num} (hx : x.WF)
    (vx : x.val = some ((n : Rat) / (d : Rat))) : Num.exactRatio n d = .ok x :=
  Num.exactRatio_complete hd hx vx

example : (Num.rat (-3) 2).WF ∧ (Num.rat (-3) 2).val = some (((6 : Int) : Rat) / ((-4 : Int) : Rat)) :=
  ⟨by decide +kernel, by decide +kernel⟩

/-- Well-formed exact numbers are canonical: equal value, equal representation. -/
theorem wf_canonical {x y : Num} (hx : x.WF) (hy : y.WF) {v : Rat}
    (vx : x.val = some v) (vy : y.val = some v) : x = y :=
  Num.wf_val_inj hx hy vx vy

example : (Num.rat 1 2).WF ∧ (Num.rat 1 2).val = some (1 / 2) :=
  ⟨by decide +kernel, by decide +kernel⟩

/-! ## 2. soundness: an exact result is the true result ("never a wrong exact number") -/

theorem add_sound {a b r : Num} {x y : Rat} (ha : a.val = some x) (hb : b.val = some y)
    (h : Num.add a b = .ok r) (hr : r.isExact = true) : r.val = some (x + y) :=
  Num.tower_add.sound ha hb h hr

example : (Num.rat 1 2).val = some (1 / 2) ∧ (Num.rat 1 3).val = some (1 / 3) ∧
    Num.add (.rat 1 2) (.rat 1 3) = .ok (.rat 5 6) ∧ (Num.rat 5 6).isExact = true :=
  ⟨by decide +kernel, by decide +kernel, rfl, rfl⟩

theorem sub_sound {a b r : Num} {x y : Rat} (ha : a.val = some x) (hb : b.val = some y)
    (h : Num.sub a b = .ok r) (hr : r.isExact = true) : r.val = some (x - y) :=
  Num.tower_sub.sound ha hb h hr

example : (Num.int 1).val = some 1 ∧ (Num.rat 1 3).val = some (1 / 3) ∧
    Num.sub (.int 1) (.rat 1 3) = .ok (.rat 2 3) ∧ (Num.rat 2 3).isExact = true :=
  ⟨by decide +kernel, by decide +kernel, rfl, rfl⟩

theorem mul_sound {a b r : Num} {x y : Rat} (ha : a.val = some x) (hb : b.val = some y)
    (h : Num.mul a b = .ok r) (hr : r.isExact = true) : r.val = some (x * y) :=
  Num.tower_mul.sound ha hb h hr

example : (Num.rat 2 3).val = some (2 / 3) ∧ (Num.rat 3 2).val = some (3 / 2) ∧
    Num.mul (.rat 2 3) (.rat 3 2) = .ok (.int 1) ∧ (Num.int 1).isExact = true :=
  ⟨by decide +kernel, by decide +kernel, rfl, rfl⟩

theorem div_sound {a b r : Num} {x y : Rat} (ha : a.val = some x) (hb : b.val = some y)
    (h : Num.div a b = .ok r) (hr : r.isExact = true) : r.val = some (x / y) :=
  Num.tower_div.sound ha hb h hr

example : (Num.int 1).val = some 1 ∧ (Num.int (-2)).val = some (-2) ∧
    Num.div (.int 1) (.int (-2)) = .ok (.rat (-1) 2) ∧ (Num.rat (-1) 2).isExact = true :=
  ⟨by decide +kernel, by decide +kernel, rfl, rfl⟩

theorem abs_sound {a r : Num} {x : Rat} (ha : a.val = some x)
    (h : Num.abs a = .ok r) (hr : r.isExact = true) : r.val = some |x| := by
  rw [Num.abs_exact (Num.val_isExact ha)] at h
  rw [Num.exactRatio_sound h hr, Num.abs_val ha]

example : (Num.rat (-1) 2).val = some (-1 / 2) ∧
    Num.abs (.rat (-1) 2) = .ok (.rat 1 2) ∧ (Num.rat 1 2).isExact = true :=
  ⟨by decide +kernel, rfl, rfl⟩

/-- An exact result can only come from exact operands (an inexact operand is contagious). -/
theorem exact_result_exact_operands {a b r : Num} (hr : r.isExact = true) :
    (Num.add a b = .ok r → a.isExact = true ∧ b.isExact = true) ∧
    (Num.sub a b = .ok r → a.isExact = true ∧ b.isExact = true) ∧
    (Num.mul a b = .ok r → a.isExact = true ∧ b.isExact = true) ∧
    (Num.div a b = .ok r → a.isExact = true ∧ b.isExact = true) :=
  ⟨fun h => Num.tower_add.real.exact_inv h hr, fun h => Num.tower_sub.real.exact_inv h hr,
   fun h => Num.tower_mul.real.exact_inv h hr, fun h => Num.tower_div.real.exact_inv h hr⟩

example : (Num.rat 5 6).isExact = true ∧ Num.add (.rat 1 2) (.rat 1 3) = .ok (.rat 5 6) :=
  ⟨rfl, rfl⟩

/-- The representation invariant holds for every result of every operation, whatever the operands
(`floor`/`ceiling` return an integer operand unchanged, so they need it of the operand). Hence
`WF` is an invariant of any sequence of operations. -/
theorem ops_wf {a b r : Num} :
    (Num.add a b = .ok r → r.WF) ∧ (Num.sub a b = .ok r → r.WF) ∧
    (Num.mul a b = .ok r → r.WF) ∧ (Num.div a b = .ok r → r.WF) ∧
    (Num.abs a = .ok r → r.WF) ∧
    (a.WF → Num.floor a = .ok r → r.WF) ∧ (a.WF → Num.ceiling a = .ok r → r.WF) ∧
    (Num.floorQuotient a b = .ok r → r.WF) ∧ (Num.floorRemainder a b = .ok r → r.WF) :=
  ⟨Num.tower_add.wf, Num.tower_sub.wf, Num.tower_mul.wf, Num.tower_div.wf, Num.abs_wf, Num.floor_wf, Num.ceiling_wf,
   Num.floorQuotient_wf, Num.floorRemainder_wf⟩

example : Num.add (.int 2147483647) (.int 1) = .ok (.real (Num.ratToReal 2147483648 1)) ∧
    Num.div (.int 6) (.int 4) = .ok (.rat 3 2) := ⟨rfl, rfl⟩

/-- n-ary `+`: the result is well-formed (no hypothesis on the arguments). -/
theorem addAll_wf {xs : List Num} {r : Num} (h : Num.addAll xs = .ok r) : r.WF :=
  Num.tower_add.foldlM_wf xs (.int 0) r (by decide) h

example : Num.addAll [.rat 1 2, .rat 1 3, .rat 1 6] = .ok (.int 1) := rfl

/-- n-ary `*`. -/
theorem mulAll_wf {xs : List Num} {r : Num} (h : Num.mulAll xs = .ok r) : r.WF :=
  Num.tower_mul.foldlM_wf xs (.int 1) r (by decide) h

example : Num.mulAll [.rat 1 2, .int 4, .rat 1 6] = .ok (.rat 1 3) := rfl

/-- n-ary `-` and `/` (the `/` of `base.rs`, i.e. `divAll` with its check for an exact zero divisor among
exact operands: a result it returns is a result of the plain fold, so it is well-formed). -/
theorem subAll_divAll_wf {xs : List Num} {r : Num} :
    (Num.subAll xs = .ok r → r.WF) ∧ (Num.divAll xs = .ok r → r.WF) :=
  ⟨Num.subAll_wf, Num.divAll_wf⟩

example : Num.subAll [.rat 1 2, .rat 1 3, .rat 1 6] = .ok (.int 0) ∧
    Num.divAll [.int 1, .int 2, .int 3] = .ok (.rat 1 6) ∧
    (∃ f, Num.divAll [.int 2147483647, .rat 1 2, .real 0] = .ok (.real f)) := ⟨rfl, rfl, _, rfl⟩

/-- n-ary `+` and `*` on arguments with positive denominators always return. -/
theorem addAll_mulAll_ok {xs : List Num} (hxs : ∀ x ∈ xs, x.PosDen) :
    (∃ r, Num.addAll xs = .ok r ∧ r.WF) ∧ (∃ r, Num.mulAll xs = .ok r ∧ r.WF) := by
  obtain ⟨r, hr⟩ := Num.tower_add.foldlM_isOk
    xs (.int 0) trivial hxs
  obtain ⟨s, hs⟩ := Num.tower_mul.foldlM_isOk
    xs (.int 1) trivial hxs
  exact ⟨⟨r, hr, addAll_wf hr⟩, ⟨s, hs, mulAll_wf hs⟩⟩

example : ∀ x ∈ [Num.rat 1 2, .int 4, .real 0], x.PosDen := by decide

/-- An exact result of n-ary `+` is the sum of the values of the arguments (which then were all
exact); likewise for `*`. -/
theorem addAll_mulAll_sound {xs : List Num} {r : Num} (hr : r.isExact = true) :
    (Num.addAll xs = .ok r →
      (∀ x ∈ xs, x.isExact = true) ∧
        r.val = some (xs.foldl (fun acc x => acc + x.valD) 0)) ∧
    (Num.mulAll xs = .ok r →
      (∀ x ∈ xs, x.isExact = true) ∧
        r.val = some (xs.foldl (fun acc x => acc * x.valD) 1)) := by
  constructor <;> intro h
  · obtain ⟨_, h1, h2⟩ := Num.tower_add.foldlM_sound xs (.int 0) r h hr
    exact ⟨h1, by rw [h2, Num.valD_int, Int.cast_zero]⟩
  · obtain ⟨_, h1, h2⟩ := Num.tower_mul.foldlM_sound xs (.int 1) r h hr
    exact ⟨h1, by rw [h2, Num.valD_int, Int.cast_one]⟩

example : Num.addAll [.rat 1 2, .rat 1 3, .rat 1 6] = .ok (.int 1) ∧ (Num.int 1).isExact = true :=
  ⟨rfl, rfl⟩

/-- On operands with positive denominators no operation panics: `+ - * abs floor ceiling` return,
`/`, floor-quotient and floor-remainder return or report `divZero`. -/
theorem ops_no_panic {a b : Num} (pa : a.PosDen) (pb : b.PosDen) :
    Num.IsOk (Num.add a b) ∧ Num.IsOk (Num.sub a b) ∧ Num.IsOk (Num.mul a b) ∧
    Num.IsOk (Num.abs a) ∧ Num.IsOk (Num.floor a) ∧ Num.IsOk (Num.ceiling a) ∧
    (Num.IsOk (Num.div a b) ∨ Num.div a b = .error .divZero) ∧
    (Num.IsOk (Num.floorQuotient a b) ∨ Num.floorQuotient a b = .error .divZero) ∧
    (Num.IsOk (Num.floorRemainder a b) ∨ Num.floorRemainder a b = .error .divZero) :=
  ⟨Num.tower_add.isOk pa pb fun _ _ _ => trivial, Num.tower_sub.isOk pa pb fun _ _ _ => trivial,
    Num.tower_mul.isOk pa pb fun _ _ _ => trivial, Num.abs_isOk pa, Num.floor_isOk pa, Num.ceiling_isOk pa,
    (Num.div_cases pa pb).symm.imp (·.2) (·.2.2.2), Num.floorQuotient_cases pa pb, Num.floorRemainder_cases pa pb⟩

example : (Num.rat (-7) 2).PosDen ∧ (Num.int 0).PosDen := ⟨by decide, trivial⟩

/-! ## 3. completeness below 2^15 (no overflow fallback) -/

/-- For exact operands with positive denominators whose components are all below `2^15` in absolute
value, `+ - *` (and `/` for a non-zero divisor) return an EXACT result — by the soundness theorems
the true value. (Products are below `2^30`, sums of two products below `2^31`.) -/
theorem exact_ops_complete {a b : Num} (ea : a.isExact = true) (eb : b.isExact = true)
    (pa : a.PosDen) (pb : b.PosDen) (ba : a.Below 32768) (bb : b.Below 32768) :
    (∃ r, Num.add a b = .ok r ∧ r.isExact = true) ∧
    (∃ r, Num.sub a b = .ok r ∧ r.isExact = true) ∧
    (∃ r, Num.mul a b = .ok r ∧ r.isExact = true) ∧
    (b.num ≠ 0 → ∃ r, Num.div a b = .ok r ∧ r.isExact = true) :=
  ⟨Num.add_complete ea eb pa pb ba bb, Num.sub_complete ea eb pa pb ba bb,
   Num.mul_complete ea eb pa pb (ba.mono (by decide)) (bb.mono (by decide)),
   Num.div_complete ea eb pa pb (ba.mono (by decide)) (bb.mono (by decide))⟩

example : (Num.rat 32767 32766).isExact = true ∧ (Num.rat 32767 32766).PosDen ∧
    (Num.rat 32767 32766).Below 32768 ∧ (Num.rat 32767 32766).num ≠ 0 :=
  ⟨rfl, by decide, by decide, by decide⟩

/-- For `*` and `/` the bound can be raised to `46341` (`46340² ≤ 2^31 - 1 < 46341²`). -/
theorem mul_div_complete_46340 {a b : Num} (ea : a.isExact = true) (eb : b.isExact = true)
    (pa : a.PosDen) (pb : b.PosDen) (ba : a.Below 46341) (bb : b.Below 46341) :
    (∃ r, Num.mul a b = .ok r ∧ r.isExact = true) ∧
    (b.num ≠ 0 → ∃ r, Num.div a b = .ok r ∧ r.isExact = true) :=
  ⟨Num.mul_complete ea eb pa pb ba bb, Num.div_complete ea eb pa pb ba bb⟩

example : (Num.int 46340).Below 46341 ∧ (Num.int 46340).PosDen := ⟨by decide, trivial⟩

/-- Some bound is necessary, and `46341` is sharp for `*`: beyond it the result overflows into an
inexact number (never into a wrong exact one). For `+` on reduced ratios the threshold lies
slightly above `2^15` (`32768² + 32767² < 2^31`), so `2^15` is sufficient but not sharp. -/
theorem complete_bounds_witness :
    (∃ f, Num.mul (.int 46341) (.int 46341) = .ok (.real f)) ∧
    (∃ f, Num.add (.rat 46341 46340) (.rat 46341 46339) = .ok (.real f)) :=
  ⟨⟨_, rfl⟩, ⟨_, rfl⟩⟩

/-- The sharpest form of completeness: whenever the true result IS representable (some well-formed
exact `x` has that value) the operation returns exactly `x`. Together with the soundness theorems:
the result is exact iff the true result is representable, and then it is the canonical
representation of the true result; the inexact fallback is taken only for unrepresentable
results. -/
theorem exact_ops_complete_repr {a b x : Num} {va vb : Rat} (pa : a.PosDen) (pb : b.PosDen)
    (ha : a.val = some va) (hb : b.val = some vb) (hx : x.WF) :
    (x.val = some (va + vb) → Num.add a b = .ok x) ∧
    (x.val = some (va - vb) → Num.sub a b = .ok x) ∧
    (x.val = some (va * vb) → Num.mul a b = .ok x) ∧
    (vb ≠ 0 → x.val = some (va / vb) → Num.div a b = .ok x) ∧
    (x.val = some |va| → Num.abs a = .ok x) :=
  ⟨Num.tower_add.repr ha hb pa pb trivial hx, Num.tower_sub.repr ha hb pa pb trivial hx,
   Num.tower_mul.repr ha hb pa pb trivial hx, fun h => Num.tower_div.repr ha hb pa pb h hx, Num.abs_repr ha pa hx⟩

example : (Num.int 2147483647).PosDen ∧ (Num.rat 1 2147483647).PosDen ∧
    (Num.int 1).WF ∧ Num.mul (.int 2147483647) (.rat 1 2147483647) = .ok (.int 1) :=
  ⟨by decide, by decide, by decide, rfl⟩

/-! ## 4. division by an exact zero -/

/-- Division of an exact number by an exact zero is `divZero` (any representation of zero, integer
or ratio branch), including the one-argument form `(/ x)`. -/
theorem div_exact_zero {a b : Num} (ea : a.isExact = true) (hb : b.val = some 0) :
    Num.div a b = .error .divZero ∧ Num.divAll [b] = .error .divZero := by
  refine ⟨Num.div_exact_zero ea hb, ?_⟩
  rcases Num.divAll_cases [b] with ⟨_, h⟩ | ⟨_, h⟩
  · exact h
  · exact h.trans (Num.div_exact_zero (a := .int 1) rfl hb)

example : (Num.rat 1 2).isExact = true ∧ (Num.int 0).val = some 0 :=
  ⟨rfl, by decide +kernel⟩

/-- The n-ary `/`, an exact zero divisor AT ANY POSITION: if every operand is exact and some divisor (an operand
after the first, or the single operand of `(/ z)`) is an exact zero - an integer or a ratio with numerator 0 -, the
result is `divZero`. There is NO bound on the magnitudes: the running quotient may have left the `i32` range and be
carried on as a real (where the plain fold `divFold` would go on to return an infinity or a NaN). -/
theorem div_exact_zero_any_position {xs : List Num} (hxs : ∀ x ∈ xs, x.isExact = true)
    (hz : (∃ z ∈ xs.tail, z.num = 0) ∨ (∃ z, xs = [z] ∧ z.num = 0)) :
    Num.divAll xs = .error .divZero := by
  refine Num.divAll_of_guard ((Num.guard_iff xs).mpr ?_)
  rcases hz with ⟨z, hz, nz⟩ | ⟨z, rfl, nz⟩
  · match xs, hz with
    | x :: ys, hz =>
      obtain ⟨pre, post, rfl⟩ := List.append_of_mem (show z ∈ ys from hz)
      rw [List.forall_mem_cons, List.forall_mem_append, List.forall_mem_cons] at hxs
      exact .inr ⟨x, pre, z, post, rfl, hxs.1, hxs.2.1, hxs.2.2.1, nz⟩
  · exact .inl ⟨z, rfl, hxs z List.mem_cons_self, nz⟩

example : (∀ x ∈ [Num.int 2147483647, .rat 1 2, .int 0], x.isExact = true) ∧
    (∃ z ∈ [Num.int 2147483647, .rat 1 2, .int 0].tail, z.num = 0) ∧
    Num.divAll [.int 2147483647, .rat 1 2, .int 0] = .error .divZero ∧
    (∃ f, Num.divFold [.int 2147483647, .rat 1 2, .int 0] = .ok (.real f)) :=
  ⟨by decide +kernel, by decide +kernel, rfl, _, rfl⟩

/-- The same with the weakest hypothesis: only the operands BEFORE the zero divisor need be exact; what follows it
is arbitrary (also inexact). -/
theorem div_exact_zero_after_exact_prefix {x z : Num} {pre : List Num} (post : List Num) (ex : x.isExact = true)
    (epre : ∀ y ∈ pre, y.isExact = true) (ez : z.isExact = true) (nz : z.num = 0) :
    Num.divAll (x :: (pre ++ z :: post)) = .error .divZero :=
  Num.divAll_of_guard ((Num.guard_iff _).mpr (Or.inr ⟨x, pre, z, post, rfl, ex, epre, ez, nz⟩))

example : Num.divAll [.int 2147483647, .rat 1 2, .rat 0 7, .real 1.5] = .error .divZero := rfl

/-- Meaning of the check `divAll` makes before folding (`exactDivisors`, `isExactZero`): it fires exactly when the
single operand of `(/ z)` is an exact zero, or an operand after the first is an exact zero and every operand before
it is exact. (An inexact operand ends the check: from there on every quotient is a real by contagion.) -/
theorem exact_zero_divisor_iff (xs : List Num) :
    (Num.exactDivisors xs).any Num.isExactZero = true ↔
      (∃ z, xs = [z] ∧ z.isExact = true ∧ z.num = 0) ∨
      (∃ x pre z post, xs = x :: (pre ++ z :: post) ∧ x.isExact = true ∧ (∀ y ∈ pre, y.isExact = true) ∧
        z.isExact = true ∧ z.num = 0) :=
  Num.guard_iff xs

example : (Num.exactDivisors [.int 1, .real 2, .int 0]).any Num.isExactZero = false ∧
    (Num.exactDivisors [.int 0, .int 2]).any Num.isExactZero = false ∧
    (Num.exactDivisors [.int 1, .int 2, .rat 0 3, .real 2]).any Num.isExactZero = true := ⟨rfl, rfl, rfl⟩

/-- Conversely `divZero` is reported only then: with positive denominators `/` returns unless both
operands are exact and the divisor is zero. -/
theorem div_no_error {a b : Num} (pa : a.PosDen) (pb : b.PosDen) (hb : b.val ≠ some 0) :
    ∃ r, Num.div a b = .ok r := by
  rcases Num.div_cases pa pb with ⟨_, eb, h0, _⟩ | ⟨_, h⟩
  · exact absurd ((Num.val_zero_iff pb eb).mpr h0) hb
  · exact h

example : (Num.int 3).PosDen ∧ (Num.rat (-1) 2).PosDen ∧ (Num.rat (-1) 2).val ≠ some 0 :=
  ⟨trivial, by decide, by decide +kernel⟩

/-! ## 5. floor, ceiling, floor-quotient, floor-remainder -/

/-- `floor` of an exact number (positive denominator, `i32` components) is the integer `q` with
`q ≤ x < q + 1`, i.e. `q = ⌊x⌋`, the greatest integer not above `x`; it is always representable,
so never inexact. -/
theorem floor_spec {x : Num} {v : Rat} (hx : x.DenPos) (hv : x.val = some v) :
    ∃ q : Int, Num.floor x = .ok (.int q) ∧ fitsI32 q = true ∧
      (q : Rat) ≤ v ∧ v < (q : Rat) + 1 ∧ q = ⌊v⌋ ∧ ∀ m : Int, (m : Rat) ≤ v → m ≤ q := by
  obtain ⟨q, h1, h2, h3, h4⟩ := Num.floor_spec hx hv
  exact ⟨q, h1, h2, h3, h4, (Int.floor_eq_iff.mpr ⟨h3, h4⟩).symm,
    fun m hm => Num.int_le_of_lt_add_one hm h4⟩

example : (Num.rat (-1) 2).DenPos ∧ (Num.rat (-1) 2).val = some (-1 / 2) ∧
    Num.floor (.rat (-1) 2) = .ok (.int (-1)) :=
  ⟨by decide, by decide +kernel, rfl⟩

/-- `ceiling`: the integer `q` with `q - 1 < x ≤ q`, i.e. `q = ⌈x⌉`. -/
theorem ceiling_spec {x : Num} {v : Rat} (hx : x.DenPos) (hv : x.val = some v) :
    ∃ q : Int, Num.ceiling x = .ok (.int q) ∧ fitsI32 q = true ∧
      (q : Rat) - 1 < v ∧ v ≤ (q : Rat) ∧ q = ⌈v⌉ := by
  obtain ⟨q, h1, h2, h3, h4⟩ := Num.ceiling_spec hx hv
  exact ⟨q, h1, h2, h3, h4, (Int.ceil_eq_iff.mpr ⟨h3, h4⟩).symm⟩

example : (Num.rat 1 2).DenPos ∧ (Num.rat 1 2).val = some (1 / 2) ∧
    Num.ceiling (.rat 1 2) = .ok (.int 1) :=
  ⟨by decide, by decide +kernel, rfl⟩

/-- Exact floor-quotient `q` and floor-remainder `r` of exact `n`, `d`: `q` is an integer `k`,
`n = d·k + r`, `k = ⌊n / d⌋` is the greatest integer not above `n / d`, and the remainder has the
sign of the divisor and is smaller in magnitude. (No well-formedness hypothesis: `d ≠ 0` follows
from the quotient being `ok`.) -/
theorem floorq_floorr {n d q r : Num} {vn vd : Rat} (hn : n.val = some vn) (hd : d.val = some vd)
    (hq : Num.floorQuotient n d = .ok q) (hr : Num.floorRemainder n d = .ok r)
    (eq : q.isExact = true) (er : r.isExact = true) :
    ∃ (k : Int) (vr : Rat), q = .int k ∧ r.val = some vr ∧ vd ≠ 0 ∧
      vn = vd * (k : Rat) + vr ∧ (k : Rat) ≤ vn / vd ∧ vn / vd < (k : Rat) + 1 ∧
      k = ⌊vn / vd⌋ ∧ (∀ m : Int, (m : Rat) ≤ vn / vd → m ≤ k) ∧
      (0 < vd → 0 ≤ vr ∧ vr < vd) ∧ (vd < 0 → vd < vr ∧ vr ≤ 0) := by
  obtain ⟨k, vr, h1, h2, h3, h4, h5, h6, h7⟩ := Num.floorq_floorr hn hd hq hr eq er
  obtain ⟨r1, r2⟩ := Num.rem_range h4 h5 h6
  exact ⟨k, vr, h1, h2, h3, h4, h5, h6, (Int.floor_eq_iff.mpr ⟨h5, h6⟩).symm, h7, r1, r2⟩

example : (Num.rat (-7) 2).val = some (-7 / 2) ∧ (Num.rat 2 3).val = some (2 / 3) ∧
    Num.floorQuotient (.rat (-7) 2) (.rat 2 3) = .ok (.int (-6)) ∧
    Num.floorRemainder (.rat (-7) 2) (.rat 2 3) = .ok (.rat 1 2) :=
  ⟨by decide +kernel, by decide +kernel, rfl, rfl⟩

/-- The integer case (`floor/`, `floor-quotient`, `floor-remainder`, `modulo`): for `|n|, |d| < 2^30`
and `d ≠ 0` both results ARE exact integers, `⌊n/d⌋` and `n - d·⌊n/d⌋`. (Near the `i32` limits the
intermediate product `q·d` may overflow, e.g. `n = 2^31-1`, `d = -2^31`, and the remainder becomes
inexact — never a wrong exact number, by `floorq_floorr`.) -/
theorem floorq_floorr_int {n d : Int} (hn : n.natAbs < 1073741824) (hd : d.natAbs < 1073741824)
    (d0 : d ≠ 0) :
    Num.floorQuotient (.int n) (.int d) = .ok (.int ⌊(n : Rat) / (d : Rat)⌋) ∧
    Num.floorRemainder (.int n) (.int d) = .ok (.int (n - d * ⌊(n : Rat) / (d : Rat)⌋)) :=
  Num.floorq_floorr_int (by omega) (by omega) d0

example : Num.floorQuotient (.int (-7)) (.int 2) = .ok (.int (-4)) ∧
    Num.floorRemainder (.int (-7)) (.int 2) = .ok (.int 1) ∧
    Num.floorRemainder (.int 7) (.int (-2)) = .ok (.int (-1)) := ⟨rfl, rfl, rfl⟩

/-- Witness for the remark above: at the `i32` limits the remainder overflows into an inexact
number. -/
theorem floorr_overflow_witness :
    ∃ f, Num.floorRemainder (.int 2147483647) (.int (-2147483648)) = .ok (.real f) := ⟨_, rfl⟩

/-! ## 6. inexact contagion -/

/-- If either operand is inexact the result is the binary32 operation on the converted operands
(`Float32.ofInt i`, `ofInt n / ofInt d`, identity) — for whatever the host's IEEE arithmetic is. -/
theorem inexact_contagion {a b : Num} (h : a.isExact = false ∨ b.isExact = false) :
    Num.add a b = .ok (.real (a.toReal + b.toReal)) ∧
    Num.sub a b = .ok (.real (a.toReal - b.toReal)) ∧
    Num.mul a b = .ok (.real (a.toReal * b.toReal)) ∧
    Num.div a b = .ok (.real (a.toReal / b.toReal)) :=
  ⟨Num.tower_add.real _ _ h, Num.tower_sub.real _ _ h, Num.tower_mul.real _ _ h, Num.tower_div.real _ _ h⟩

example : (Num.rat 1 2).isExact = false ∨ (Num.real 0.5).isExact = false := Or.inr rfl

/-- Unary operations on an inexact number are the binary32 operations. -/
theorem inexact_unary (f : Float32) :
    Num.abs (.real f) = .ok (.real f.abs) ∧ Num.floor (.real f) = .ok (.real f.floor) ∧
    Num.ceiling (.real f) = .ok (.real f.ceil) :=
  ⟨rfl, rfl, rfl⟩

/-! ## 7. the n-ary builtins are left folds of the binary operations -/

theorem addAll_eq_fold (xs : List Num) : Num.addAll xs = xs.foldlM Num.add (.int 0) := rfl

theorem mulAll_eq_fold (xs : List Num) : Num.mulAll xs = xs.foldlM Num.mul (.int 1) := rfl

/-- `(- x)` is `0 - x`; `(- x y z ...)` folds from `x`. -/
theorem subAll_eq_fold (x : Num) (ys : List Num) :
    Num.subAll [x] = Num.sub (.int 0) x ∧
    (ys ≠ [] → Num.subAll (x :: ys) = ys.foldlM Num.sub x) :=
  ⟨rfl, Num.subAll_cons_ne x⟩

/-- The plain fold of `/`: `(/ x)` is `1 / x`; `(/ x y z ...)` folds from `x`. -/
theorem divFold_eq_fold (x : Num) (ys : List Num) :
    Num.divFold [x] = Num.div (.int 1) x ∧
    (ys ≠ [] → Num.divFold (x :: ys) = ys.foldlM Num.div x) :=
  ⟨rfl, Num.divFold_cons x⟩

/-- The builtin `/` is that fold unless the check for an exact zero divisor among exact operands fires (see
`exact_zero_divisor_iff` for its meaning), and `divZero` when it fires. Conversely it agrees with the fold exactly
when the check does not fire or the fold is `divZero` itself, and it is `divZero` exactly when the check fires or the
fold is `divZero`. -/
theorem divAll_eq_fold (xs : List Num) :
    ((Num.exactDivisors xs).any Num.isExactZero = false → Num.divAll xs = Num.divFold xs) ∧
    ((Num.exactDivisors xs).any Num.isExactZero = true → Num.divAll xs = .error .divZero) ∧
    (Num.divAll xs = Num.divFold xs ↔
      ((Num.exactDivisors xs).any Num.isExactZero = false ∨ Num.divFold xs = .error .divZero)) ∧
    (Num.divAll xs = .error .divZero ↔
      ((Num.exactDivisors xs).any Num.isExactZero = true ∨ Num.divFold xs = .error .divZero)) := by
  refine ⟨Num.divAll_of_not_guard, Num.divAll_of_guard, ?_, ?_⟩ <;>
    rcases Num.divAll_cases xs with ⟨hg, h⟩ | ⟨hg, h⟩ <;> simp [h, hg, eq_comm]

example : Num.subAll [.int 10, .int 3, .rat 1 2] = .ok (.rat 13 2) ∧
    Num.divAll [.int 2] = .ok (.rat 1 2) ∧ Num.divFold [.int 2] = .ok (.rat 1 2) ∧
    (Num.exactDivisors [.int 2147483647, .rat 1 2, .int 0]).any Num.isExactZero = true ∧
    Num.divAll [.int 2147483647, .rat 1 2, .int 0] = .error .divZero ∧
    (Num.exactDivisors [.real 1, .int 0]).any Num.isExactZero = false ∧
    (∃ f, Num.divAll [.real 1, .int 0] = .ok (.real f)) := ⟨rfl, rfl, rfl, rfl, rfl, rfl, _, rfl⟩

/-- The two differ only after an overflow: when the builtin `/` is not the plain fold, the fold carried a quotient
that had left the exact range on to an exact zero divisor and returned a real, and the builtin reports `divZero`.
(`div` never panics, its only error is `divZero`.) -/
theorem divAll_differs_only_on_overflow {xs : List Num} (h : Num.divAll xs ≠ Num.divFold xs) :
    Num.divAll xs = .error .divZero ∧ ∃ f, Num.divFold xs = .ok (.real f) := by
  rcases Num.divAll_cases xs with ⟨hg, hd⟩ | ⟨_, hd⟩
  · refine ⟨hd, ?_⟩
    rw [hd] at h
    rcases (Num.guard_iff xs).mp hg with ⟨z, rfl, ez, nz⟩ | ⟨x, pre, z, post, rfl, ex, epre, ez, nz⟩
    · exfalso; apply h
      show _ = Num.div (.int 1) z
      rw [Num.div_exact rfl ez, if_pos (.inl nz)]
    · rw [Num.divFold_cons x (by simp)] at h ⊢
      exact (Num.foldlM_div_exact_zero (post := post) ez nz pre x).resolve_left (Ne.symm h)
  · exact absurd hd h

example : Num.divAll [.int 2147483647, .rat 1 2, .int 0] ≠ Num.divFold [.int 2147483647, .rat 1 2, .int 0] := by
  intro h; cases h

end Ruschm.C09
