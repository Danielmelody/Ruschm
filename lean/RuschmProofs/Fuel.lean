/-
The recursive blocks of the model take fuel and return `.error (.fuel, _)` when it runs out, which is not an outcome
of the real code (`NotFuel r`: `r` is one). `Below x y`: a run `y` with more fuel has the outcome of `x` if `x` has
one. Sequencing respects it (`Below.andThen`), so the fuel monotonicity of a block (`FuelMono`, `mono_le`) needs no
case analysis of the control flow. Generic in the state. (`NotFuel` is `Ruschm.Eval.NotFuel`, the rest `Ruschm.*`.)
-/
import RuschmProofs.AndThen
namespace Ruschm
namespace Eval

def isFuel {α} : Except SErr α → Bool
  | .error (.fuel, _) => true
  | _ => false
def NotFuel {α} (r : Except SErr α) : Prop := isFuel r = false
@[simp] theorem NotFuel.ok {α} (v : α) : NotFuel (.ok v : Except SErr α) := rfl
@[simp] theorem notFuel_fuel {α} (l) : ¬ NotFuel (.error (.fuel, l) : Except SErr α) := by simp [NotFuel, isFuel]
theorem NotFuel.of_ne {α} {r : Except SErr α} (h : ∀ l, r = .error (.fuel, l) → False) : NotFuel r := by
  unfold NotFuel isFuel
  split
  · exact absurd rfl (h _)
  · rfl
theorem NotFuel.cast {α β} {e : SErr} (h : NotFuel (.error e : Except SErr α)) : NotFuel (.error e : Except SErr β) :=
  .of_ne fun l hl => by cases hl; exact notFuel_fuel l h
theorem NotFuel.error_of {α} {e : Err} {l : Loc} (h : e ≠ .fuel) : NotFuel (.error (e, l) : Except SErr α) :=
  .of_ne fun _ hl => by cases hl; exact h rfl

theorem NotFuel.elim {S α} {x : Except SErr α × S} {r s l s₀} (hr : NotFuel r) (hx : x = (.error (.fuel, l), s₀))
    (h : x = (r, s)) : False := by
  cases hx.symm.trans h; simp at hr

end Eval
open Eval (NotFuel)

def Below {S α : Type} (x y : Except SErr α × S) : Prop := NotFuel x.1 → y = x

theorem Below.refl {S α : Type} {x : Except SErr α × S} : Below x x := fun _ => rfl

theorem Below.of_fuel {S α : Type} {x y : Except SErr α × S} {l s} (h : x = (.error (.fuel, l), s)) : Below x y :=
  fun hr => by subst h; simp at hr

theorem Below.run {S α : Type} {x y : Except SErr α × S} (hb : Below x y) {r s} (h : x = (r, s)) (hr : NotFuel r) :
    y = (r, s) := by
  subst h; exact hb hr

/-- SEQUENCING -/
theorem Below.andThen {S α β : Type} {x x' : Except SErr α × S} {k k' : α → S → Except SErr β × S}
    (hx : Below x x') (hk : ∀ a st, Below (k a st) (k' a st)) : Below (andThen x k) (andThen x' k') := by
  obtain ⟨_ | a, st⟩ := x
  · exact fun h => by rw [hx (Eval.NotFuel.cast h)]; rfl
  · rw [hx (by simp)]; exact hk a st

theorem Below.map {S α β : Type} {x y : Except SErr α × S} (hx : Below x y) {φ : Except SErr α → Except SErr β}
    (hφ : ∀ r, NotFuel (φ r) → NotFuel r) (g : S → S) : Below (φ x.1, g x.2) (φ y.1, g y.2) :=
  fun h => by rw [hx (hφ _ h)]

def FuelMono {S α : Type} (f : Nat → Except SErr α × S) : Prop := ∀ n, Below (f n) (f (n+1))

theorem mono_le {S α : Type} {f : Nat → Except SErr α × S} (step : FuelMono f) {n m r s} (h : f n = (r, s))
    (hr : NotFuel r) (hnm : n ≤ m) : f m = (r, s) := by
  induction hnm with
  | refl => exact h
  | step _ ih => exact (step _).run ih hr

end Ruschm
