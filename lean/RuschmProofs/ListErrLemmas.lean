/-
The error side of property C11: what the list library does on lists that are too short, on indices outside the
naturals, on improper lists. One body is run here, that of `fold-right` along the path its C11 run does not take
(`papp_fold_right_improper`); everything else follows from the `papp_*` lemmas of `ListLibProcs`.
-/
import RuschmProofs.ListLibLemmas
import RuschmProofs.NumLemmas

namespace Ruschm.ListLib
open Ruschm Ruschm.Eval Ruschm.ListSpec Ruschm.Store

/-! ## "raises": an error outcome, and never a value -/

def Raises (σ : Store) (p : Value) (args : List Value) (env : Nat) (e : SErr) : Prop :=
  (∃ σ', Applies σ p args env (.error e) σ' ∧ σ.Ext σ') ∧ ∀ v σ'', ¬ Applies σ p args env (.ok v) σ''

theorem not_value_of_error {σ p args env e σ'} (h : Applies σ p args env (.error e) σ') :
    ∀ v σ'', ¬ Applies σ p args env (.ok v) σ'' := fun v σ'' hv => by cases (Applies.unique hv h).1

theorem Raises.of_appliesE {σ p args env e} (h : AppliesE σ p args env (.error e)) : Raises σ p args env e :=
  let ⟨σ', h', e'⟩ := h
  ⟨⟨σ', h', e'⟩, not_value_of_error h'⟩

/-! ## `list-tail` with an arbitrary index value -/

section listTail
variable {V : Array VecCell} (b : Nat)

/-- `kv j` is the index after `j` decrements -/
theorem papp_list_tail_never (t : Value) (ht : isPair t = false) (kv : Nat → Value) : ∀ (xs : List Value) (j : Nat),
    (∀ i, i ≤ xs.length → PApp V b (.builtin .numEq) [kv (j + i), .num (.int 0)] (.ok (.bool false)) ∧
      PApp V b (.builtin .sub) [kv (j + i), .num (.int 1)] (.ok (kv (j + i + 1)))) →
    PApp V b (libProc "list-tail" b) [withTail xs t, kv j] (.error typeErr)
  | xs, j, h => (papp_list_tail_body b (z := false) (r := fun _ => .error typeErr) (h 0 (Nat.zero_le _)).1
      (fun _ => (h 0 (Nat.zero_le _)).2) fun _ d hd => by
        cases xs with
        | nil => rw [withTail, cdrS_nonpair ht] at hd; cases hd
        | cons x xs =>
          cases hd
          exact papp_list_tail_never t ht kv xs (j + 1) fun i hi => by
            have := h (i + 1) (Nat.succ_le_succ hi)
            rwa [show j + (i + 1) = j + 1 + i by omega] at this).congr (by cases withTail xs t <;> rfl)

/-- `hb`: the index stays in the `i32` range down to `k - length - 1` -/
theorem papp_list_tail_neg (t : Value) (ht : isPair t = false) (xs : List Value) (k : Int) (hk : k < 0)
    (hb : -2147483648 ≤ k - xs.length - 1) :
    PApp V b (libProc "list-tail" b) [withTail xs t, .num (.int k)] (.error typeErr) := by
  have key := papp_list_tail_never b (V := V) t ht (fun j => .num (.int (k - j))) xs 0 fun i hi => by
    simp only [Nat.zero_add]
    refine ⟨PApp.numEq_int.congr ?_, (PApp.sub_int (fits_of_bounds (by omega) (by omega))).congr ?_⟩
    · have : (k - (i : Int) == 0) = false := by simp; omega
      rw [this]
    · simp only [Nat.cast_add, Nat.cast_one, Int.sub_sub]
  simpa using key

theorem applyPure_numEq_rat (σ : Store) (n d : Int) :
    Prim.applyPure σ .numEq [.num (.rat n d), .num (.int 0)] = (.ok (.bool (n == 0)), σ) := by
  rw [Prim.applyPure_numEq]; simp [Num.eq, Num.upcast]

theorem sub_rat_one {n d : Int} (hd : 0 < d) (hd1 : d ≠ 1) (hg : Int.gcd n d = 1) (hfd : fitsI32 d = true)
    (hf : fitsI32 (n - d) = true) : Num.sub (.rat n d) (.int 1) = .ok (.rat (n - d) d) := by
  simp only [Num.sub, Num.upcast, Int.mul_one]
  refine Num.exactRatio_complete (by omega) (x := .rat (n - d) d) ⟨hf, hfd, hd, hd1, ?_⟩ ?_
  · simpa using hg
  · simp [Num.val]

theorem applyPure_sub_rat (σ : Store) {n d : Int} (hd : 0 < d) (hd1 : d ≠ 1) (hg : Int.gcd n d = 1)
    (hfd : fitsI32 d = true) (hf : fitsI32 (n - d) = true) :
    Prim.applyPure σ .sub [.num (.rat n d), .num (.int 1)] = (.ok (.num (.rat (n - d) d)), σ) := by
  rw [Prim.applyPure_sub, sub_rat_one hd hd1 hg hfd hf]; rfl

theorem papp_list_tail_rat (t : Value) (ht : isPair t = false) (xs : List Value) (n d : Int) (hwf : Num.WF (.rat n d))
    (hb : -2147483648 ≤ n - (xs.length + 1) * d) :
    PApp V b (libProc "list-tail" b) [withTail xs t, .num (.rat n d)] (.error typeErr) := by
  obtain ⟨hn, hfd, hd, hd1, hg⟩ := hwf
  have hn := ((Num.fitsI32_iff n).1 hn).2
  have hgcd : ∀ j : Nat, Int.gcd (n - j * d) d = 1 := fun j => by
    rw [Int.sub_eq_add_neg, ← Int.neg_mul, Int.gcd_add_mul_right_left]; exact hg
  have key := papp_list_tail_never b (V := V) t ht (fun j => .num (.rat (n - j * d) d)) xs 0 fun i hi => by
    simp only [Nat.zero_add]
    have hle : (i : Int) * d ≤ xs.length * d := Int.mul_le_mul_of_nonneg_right (by omega) (by omega)
    have hnn : 0 ≤ (i : Int) * d := Int.mul_nonneg (by omega) (by omega)
    have hexp : (xs.length + 1 : Int) * d = xs.length * d + d := by rw [Int.add_mul, Int.one_mul]
    refine ⟨(PApp.native (by decide) (by rfl) (fun σ _ => applyPure_numEq_rat σ _ d)).congr ?_,
      (PApp.native (by decide) (by rfl) (fun σ _ => applyPure_sub_rat σ hd hd1 (hgcd _) hfd
        (fits_of_bounds (by omega) (by omega)))).congr ?_⟩
    · have : (n - (i : Int) * d == 0) = false := by
        have := hgcd i
        by_cases h : n - (i : Int) * d = 0
        · rw [h, Int.gcd_zero_left] at this; omega
        · simpa using h
      rw [this]
    · simp only [Nat.cast_add, Nat.cast_one, Int.add_mul, Int.one_mul, Int.sub_sub]
  simpa using key

/-- `list-tail` with an inexact index `r`: the walk with the binary32 tests `r = 0`, `r - 1 = 0`, …; for `2.0` it
returns a value after two steps (out of the domain of R7RS) -/
def listTailRealS : Value → Float32 → Except SErr Value
  | .pair a d, r => if r == Float32.ofInt 0 then .ok (.pair a d) else listTailRealS d (r - Float32.ofInt 1)
  | t, r => if r == Float32.ofInt 0 then .ok t else .error typeErr

theorem papp_list_tail_real (x : Value) : ∀ r : Float32,
    PApp V b (libProc "list-tail" b) [x, .num (.real r)] (listTailRealS x r) := by
  have step : ∀ (x : Value) (r : Float32) (R : Value → Except SErr Value),
      (∀ d, cdrS x = .ok d → PApp V b (libProc "list-tail" b) [d, .num (.real (r - Float32.ofInt 1))] (R d)) →
      PApp V b (libProc "list-tail" b) [x, .num (.real r)]
        (if r == Float32.ofInt 0 then .ok x else (cdrS x).bind R) := fun x r R ih =>
    papp_list_tail_body b
      (PApp.native (by decide) (by rfl) (fun σ _ => Prim.applyPure_numEq σ _ _))
      (fun _ => PApp.native (by decide) (by rfl) (fun σ _ => Prim.applyPure_sub σ _ _)) (fun _ => ih)
  induction x with
  | pair a d _ ihd => exact fun r => step (.pair a d) r (listTailRealS · _) fun _ hd => by cases hd; exact ihd _
  | _ => exact fun r => step _ r (fun _ => .error typeErr) fun _ hd => by cases hd

end listTail

/-! ## `fold-right` on an improper list -/

section foldRight
variable {V : Array VecCell} (b : Nat)

/-- `(car t)` fails among the operands of the pending call of `f`: `f` (which need not be a procedure) is never
applied -/
theorem papp_fold_right_improper (f init t : Value) (ht : isPair t = false) (hn : isNil t = false) :
    ∀ xs : List Value, PApp V b (libProc "fold-right" b) [f, init, withTail xs t] (.error typeErr) := by
  have ⟨nd, hnull, hcar, hcdr, _, hself⟩ := fold_names
  -- one run of the body on a `seq` other than `()`, the recursive call left open: an operand of the
  -- pending call of `f` fails. `20` is the place of `fold-right` in `base.sld`, counted from 0 (a `rfl` in
  -- `PApp.lib`, `Opr.lib` compares name and code with `expectedDefs[20]`)
  have body : ∀ (l : Value) (R : Value → Except SErr Value), isNil l = false →
      (∀ d, cdrS l = .ok d → PApp V b (libProc "fold-right" b) [f, init, d] (R d)) →
      consR (carS l) (consR ((cdrS l).bind R) (.ok [])) = .error typeErr →
      PApp V b (libProc "fold-right" b) [f, init, l] (.error typeErr) := fun l R hl ih he =>
    (PApp.lib 20 rfl (by rfl) fun _ => PTail.ite (PEval.null hnull (PEval.arg nd 2))
      (fun _ h ht => show PTail V b _ _ _ (.error typeErr) from by cases h; rw [truthy_bool, hl] at ht; cases ht)
      (fun _ _ _ => PTail.app_err (fv := f) (fun _ h => h.var (paramDefs_lookup_fixed nd 0 rfl rfl))
        (PArgs.cons (PEval.car hcar (PEval.arg nd 2)) (PArgs.cons
          (PEval.app3 (k := fun _ _ d => R d) (Opr.lib 20 hself) (PEval.arg nd 0) (PEval.arg nd 1)
            (PEval.cdr hcdr (PEval.arg nd 2)) fun _ _ d h₁ h₂ hd => by cases h₁; cases h₂; exact ih d hd)
          PArgs.nil)) he)).congr (by simp only [bind_ok, ite_self])
  intro xs
  induction xs with
  | nil =>
    exact body t (fun _ => .error typeErr) hn (fun _ hd => by rw [cdrS_nonpair ht] at hd; cases hd)
      (by rw [carS_nonpair ht]; rfl)
  | cons x xs ih => exact body _ (fun _ => .error typeErr) rfl (fun _ hd => by cases hd; exact ih) rfl

end foldRight

end Ruschm.ListLib
