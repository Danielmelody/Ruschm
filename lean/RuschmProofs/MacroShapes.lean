/-
For the shape theorems of C05: the rules of the bundled derived forms written out (checked against the
GENERATED `Gen.grammarData` by `rfl`), and the declarative matcher computed, pattern by pattern, on a use
that is seen as a list of its elements; `cond` and `case` become tables of seven alternatives
(`cond_table`, `case_table`).
-/
import RuschmProofs.MacroFuel
import RuschmProofs.SimpSets

namespace Ruschm.Macro
open Ruschm

/-! ## Short names for writing rules down -/

abbrev pl : List Pat → Pat := Pat.ofList
abbrev pv : String → Pat := Pat.ident
abbrev pe : Pat := Pat.ellipsis
abbrev tl : List (Tmpl × Bool) → Tmpl := Tmpl.list
abbrev tv : String → Tmpl := Tmpl.ident

/-! ## The bundled rules, explicitly (pretty-printed from `grammarRules`, re-checked by `rfl`) -/

def beginRules : Rules :=
  { literals := [],
    rules := [
      (pl [pv "exp1", pe],
       tl [(tl [(tv "lambda", false), (tl [], false), (tv "exp1", true)], false)])] }

theorem begin_rules : grammarRules "begin" = some beginRules := by rfl

def letRules : Rules :=
  { literals := [],
    rules := [
      (pl [pl [], pv "body", pe],
       tl [(tl [(tv "lambda", false), (tl [], false), (tv "body", true)], false)]),
      (pl [pl [pl [pv "name", pv "val"], pe], pv "body", pe],
       tl [(tl [(tv "lambda", false), (tl [(tv "name", true)], false), (tv "body", true)], false), (tv "val", true)])] }

theorem let_rules : grammarRules "let" = some letRules := by rfl

def letstarRules : Rules :=
  { literals := [],
    rules := [
      (pl [pl [], pv "body", pe],
       tl [(tv "let", false), (tl [], false), (tv "body", true)]),
      (pl [pl [pl [pv "name", pv "val"]], pv "body", pe],
       tl [(tv "let", false), (tl [(tl [(tv "name", false), (tv "val", false)], false)], false), (tv "body", true)]),
      (pl [pl [pl [pv "name1", pv "val1"], pl [pv "name2", pv "val2"], pe], pv "body", pe],
       tl [(tv "let", false), (tl [(tl [(tv "name1", false), (tv "val1", false)], false)], false), (tl [(tv "let*", false), (tl [(tl [(tv "name2", false), (tv "val2", false)], true)], false), (tv "body", true)], false)])] }

theorem letstar_rules : grammarRules "let*" = some letstarRules := by rfl

def condRules : Rules :=
  { literals := ["else", "=>"],
    rules := [
      (pl [pl [pv "else", pv "result", pe]],
       tl [(tv "begin", false), (tv "result", true)]),
      (pl [pl [pv "test", pv "=>", pv "result"]],
       tl [(tv "let", false), (tl [(tl [(tv "temp", false), (tv "test", false)], false)], false), (tl [(tv "if", false), (tv "temp", false), (tl [(tv "result", false), (tv "temp", false)], false)], false)]),
      (pl [pl [pv "test", pv "=>", pv "result"], pv "clause", pe],
       tl [(tv "let", false), (tl [(tl [(tv "temp", false), (tv "test", false)], false)], false), (tl [(tv "if", false), (tv "temp", false), (tl [(tv "result", false), (tv "temp", false)], false), (tl [(tv "cond", false), (tv "clause", true)], false)], false)]),
      (pl [pl [pv "test"]],
       tv "test"),
      (pl [pl [pv "test"], pv "clause", pe],
       tl [(tv "let", false), (tl [(tl [(tv "temp", false), (tv "test", false)], false)], false), (tl [(tv "if", false), (tv "temp", false), (tv "temp", false), (tl [(tv "cond", false), (tv "clause", true)], false)], false)]),
      (pl [pl [pv "test", pv "result", pe]],
       tl [(tv "if", false), (tv "test", false), (tl [(tv "begin", false), (tv "result", true)], false)]),
      (pl [pl [pv "test", pv "result", pe], pv "clause", pe],
       tl [(tv "if", false), (tv "test", false), (tl [(tv "begin", false), (tv "result", true)], false), (tl [(tv "cond", false), (tv "clause", true)], false)])] }

theorem cond_rules : grammarRules "cond" = some condRules := by rfl

def caseRules : Rules :=
  { literals := ["else", "=>"],
    rules := [
      (pl [pl [pv "key", pe], pv "clauses", pe],
       tl [(tv "let", false), (tl [(tl [(tv "atom-key", false), (tl [(tv "key", true)], false)], false)], false), (tl [(tv "case", false), (tv "atom-key", false), (tv "clauses", true)], false)]),
      (pl [pv "key", pl [pv "else", pv "=>", pv "result"]],
       tl [(tv "result", false), (tv "key", false)]),
      (pl [pv "key", pl [pv "else", pv "result", pe]],
       tl [(tv "begin", false), (tv "result", true)]),
      (pl [pv "key", pl [pl [pv "atoms", pe], pv "=>", pv "result"]],
       tl [(tv "if", false), (tl [(tv "not", false), (tl [(tv "null?", false), (tl [(tv "memv", false), (tv "key", false), (tl [(tv "quote", false), (tl [(tv "atoms", true)], false)], false)], false)], false)], false), (tl [(tv "result", false), (tv "key", false)], false)]),
      (pl [pv "key", pl [pl [pv "atoms", pe], pv "result", pe]],
       tl [(tv "if", false), (tl [(tv "memv", false), (tv "key", false), (tl [(tv "quote", false), (tl [(tv "atoms", true)], false)], false)], false), (tl [(tv "begin", false), (tv "result", true)], false)]),
      (pl [pv "key", pl [pl [pv "atoms", pe], pv "=>", pv "result"], pv "clauses", pe],
       tl [(tv "if", false), (tl [(tv "memv", false), (tv "key", false), (tl [(tv "quote", false), (tl [(tv "atoms", true)], false)], false)], false), (tl [(tv "result", false), (tv "key", false)], false), (tl [(tv "case", false), (tv "key", false), (tv "clauses", true)], false)]),
      (pl [pv "key", pl [pl [pv "atoms", pe], pv "result", pe], pv "clauses", pe],
       tl [(tv "if", false), (tl [(tv "memv", false), (tv "key", false), (tl [(tv "quote", false), (tl [(tv "atoms", true)], false)], false)], false), (tl [(tv "begin", false), (tv "result", true)], false), (tl [(tv "case", false), (tv "key", false), (tv "clauses", true)], false)])] }

theorem case_rules : grammarRules "case" = some caseRules := by rfl

def andRules : Rules :=
  { literals := [],
    rules := [
      (pl [],
       (.prim (Ruschm.Prim.bool true))),
      (pl [pv "test"],
       tv "test"),
      (pl [pv "test1", pv "test2", pe],
       tl [(tv "if", false), (tv "test1", false), (tl [(tv "and", false), (tv "test2", true)], false), ((.prim (Ruschm.Prim.bool false)), false)])] }

theorem and_rules : grammarRules "and" = some andRules := by rfl

def orRules : Rules :=
  { literals := [],
    rules := [
      (pl [],
       (.prim (Ruschm.Prim.bool false))),
      (pl [pv "test"],
       tv "test"),
      (pl [pv "test1", pv "test2", pe],
       tl [(tv "let", false), (tl [(tl [(tv "x", false), (tv "test1", false)], false)], false), (tl [(tv "if", false), (tv "x", false), (tv "x", false), (tl [(tv "or", false), (tv "test2", true)], false)], false)])] }

theorem or_rules : grammarRules "or" = some orRules := by rfl

def whenRules : Rules :=
  { literals := [],
    rules := [
      (pl [pv "test", pv "result", pe],
       tl [(tv "if", false), (tv "test", false), (tl [(tv "begin", false), (tv "result", true)], false)])] }

theorem when_rules : grammarRules "when" = some whenRules := by rfl

def unlessRules : Rules :=
  { literals := [],
    rules := [
      (pl [pv "test", pv "result", pe],
       tl [(tv "if", false), (tl [(tv "not", false), (tv "test", false)], false), (tl [(tv "begin", false), (tv "result", true)], false)])] }

theorem unless_rules : grammarRules "unless" = some unlessRules := by rfl



/-! ## The declarative expander, rule by rule -/

/-- the template of the first rule whose pattern matched, filled; `ms` are the results of matching
the patterns of `rules`, in order -/
def fillFirst (loc : Loc) : List (Pat × Tmpl) → List (Option Bindings) → Except SErr Datum
  | (_, t) :: _, some β :: _ => .ok (specInst t β loc)
  | _ :: rules, none :: ms => fillFirst loc rules ms
  | _, _ => .error (.syntax, none)

theorem specTransform_eq_fill (lits : List String) (use : Datum) : ∀ rules : List (Pat × Tmpl),
    specTransform lits rules use = fillFirst use.loc rules (rules.map fun r => specMatch lits r.1 use)
  | [] => rfl
  | (p, t) :: rules => by
    simp only [specTransform, List.map_cons, specTransform_eq_fill lits use rules]
    cases specMatch lits p use <;> rfl

/-! ## Computing the declarative matcher on symbolic data -/

theorem properElems_eq_some_iff {d es} : properElems d = some es ↔ IsList d es := by
  rw [properElems_eq_spine, IsList]
  rcases d.spine with ⟨xs, _ | t⟩ <;> simp

theorem specMatch_ofList_isList {lits ps d es} (hd : IsList d es) :
    specMatch lits (Pat.ofList ps) d = specMatchList lits ps es := by
  rw [specMatch_ofList_elems, properElems_eq_some_iff.2 hd]

set_option linter.unusedVariables false in
/-- `hp` is not used -/
theorem specMatch_ofList_not_list {lits ps d} (hd : properElems d = none)
    (hp : Pat.okList lits ps = true) :
    specMatch lits (Pat.ofList ps) d = none := by
  rw [specMatch_ofList_elems, hd]

theorem specMatchList_nil_eq {lits} (ds : List Datum) :
    specMatchList lits [] ds = if ds = [] then some [] else none := by
  cases ds <;> rfl

theorem specMatchList_ell {lits p} (ds : List Datum) :
    specMatchList lits [p, pe] ds = specRun (specMatch lits p) (some ds) := by
  simp [specMatchList, Pat.isEllOnly]

def optApp : Option Bindings → Option Bindings → Option Bindings
  | some β₁, some β₂ => some (β₁ ++ β₂)
  | _, _ => none

@[simp] theorem optApp_some (a b : Bindings) : optApp (some a) (some b) = some (a ++ b) := rfl
@[simp] theorem optApp_none_left (b : Option Bindings) : optApp none b = none := rfl
@[simp] theorem optApp_none_right (a : Option Bindings) : optApp a none = none := by
  cases a <;> rfl

theorem specMatchList_cons_cons {lits p ps d ds} (h : Pat.isEllOnly ps = false) :
    specMatchList lits (p :: ps) (d :: ds) =
      optApp (specMatch lits p d) (specMatchList lits ps ds) := by
  simp only [specMatchList, h, Bool.false_eq_true, if_false]
  cases specMatch lits p d <;> cases specMatchList lits ps ds <;> rfl

theorem mapOpt_foldl_cons {m : Datum → Option Bindings} {x : Datum} {xs : List Datum} {βx acc : Bindings}
    (hx : m x = some βx) :
    (mapOpt m (x :: xs)).map (fun βs => βs.foldl zipB acc) =
      (mapOpt m xs).map (fun βs => βs.foldl zipB (zipB acc βx)) := by
  simp only [mapOpt, hx]
  cases mapOpt m xs <;> rfl

theorem specRun_var {lits v} (hv : lits.contains v = false) (es : List Datum) :
    specRun (specMatch lits (.ident v)) (some es) = if es = [] then none else some [(v, es)] := by
  have key : ∀ (es acc : List Datum),
      (mapOpt (specMatch lits (.ident v)) es).map (fun βs => βs.foldl zipB [(v, acc)]) =
        some [(v, acc ++ es)] := by
    intro es
    induction es with
    | nil => intro acc; simp [mapOpt]
    | cons x xs ih =>
      intro acc
      rw [mapOpt_foldl_cons (specMatch_var hv)]
      simpa [zipB] using ih (acc ++ [x])
  cases es with
  | nil => rfl
  | cons e es =>
    rw [specRun_cons_some (specMatch_var hv)]
    simpa using key es [e]

theorem specMatchList_cons_more {lits} (p q r : Pat) (rs : List Pat) (d : Datum) (ds : List Datum) :
    specMatchList lits (p :: q :: r :: rs) (d :: ds) =
      optApp (specMatch lits p d) (specMatchList lits (q :: r :: rs) ds) :=
  specMatchList_cons_cons (by cases q <;> rfl)

theorem specMatchList_cons_list {lits} (p : Pat) (qs : List Pat) (d : Datum) (ds : List Datum) :
    specMatchList lits [p, pl qs] (d :: ds) =
      optApp (specMatch lits p d) (specMatchList lits [pl qs] ds) :=
  specMatchList_cons_cons (by cases qs <;> rfl)

theorem specMatchList_rest {lits v} (hv : lits.contains v = false) (ds : List Datum) :
    specMatchList lits [pv v, pe] ds = if ds = [] then none else some [(v, ds)] := by
  rw [specMatchList_ell, specRun_var hv]

theorem specMatchList_one {lits} (p : Pat) (d : Datum) (ds : List Datum) :
    specMatchList lits [p] (d :: ds) = if ds = [] then specMatch lits p d else none := by
  rw [specMatchList_cons_cons rfl, specMatchList_nil_eq]
  cases specMatch lits p d <;> split <;> simp

theorem specMatchList_one_rest {lits v} (hv : lits.contains v = false) (p : Pat) (d : Datum)
    (ds : List Datum) :
    specMatchList lits [p, pv v, pe] (d :: ds) =
      if ds = [] then none else optApp (specMatch lits p d) (some [(v, ds)]) := by
  rw [specMatchList_cons_cons rfl, specMatchList_rest hv]
  split <;> simp

/-- the receiver, if the items after the head of a clause are `=> receiver` -/
def arrowOf : List Datum → Option Datum
  | [a, r] => if isSym "=>" a then some r else none
  | _ => none

theorem arrowOf_nil : arrowOf [] = none := rfl

theorem arrowOf_pair {a r} (ha : isSym "=>" a = true) : arrowOf [a, r] = some r := by
  simp [arrowOf, ha]

theorem arrowOf_none {ds} (h : ∀ a r, ds = [a, r] → isSym "=>" a = false) : arrowOf ds = none := by
  unfold arrowOf; split
  · simp [h _ _ rfl]
  · rfl

theorem specMatchList_arrow {lits r} (ha : lits.contains "=>" = true) (hr : lits.contains r = false)
    (p : Pat) (d : Datum) (ds : List Datum) :
    specMatchList lits [p, pv "=>", pv r] (d :: ds) =
      match arrowOf ds with
      | some y => optApp (specMatch lits p d) (some [(r, [y])])
      | none => none := by
  rw [specMatchList_cons_cons rfl]
  rcases ds with _ | ⟨a, _ | ⟨y, _ | ⟨z, zs⟩⟩⟩
  · rw [specMatchList_cons_nil, optApp_none_right]; rfl
  · rw [specMatchList_cons_cons rfl, specMatchList_cons_nil, optApp_none_right,
      optApp_none_right]; rfl
  · rw [specMatchList_cons_cons rfl, specMatchList_one, specMatch_lit ha, specMatch_var hr]
    simp only [arrowOf, if_true]
    cases isSym "=>" a <;> simp
  · rw [specMatchList_cons_cons rfl, specMatchList_one]
    simp [arrowOf]

theorem specRun_pair2 {lits n v} (hn : lits.contains n = false) (hv : lits.contains v = false)
    (hnv : n ≠ v) {bs : List Datum} {nvs : List (Datum × Datum)}
    (h : IsPairs bs nvs) :
    specRun (specMatch lits (pl [pv n, pv v])) (some bs) =
      if nvs = [] then none else some [(n, nvs.map (·.1)), (v, nvs.map (·.2))] := by
  have hone : ∀ b (nv : Datum × Datum), IsList b [nv.1, nv.2] →
      specMatch lits (pl [pv n, pv v]) b = some [(n, [nv.1]), (v, [nv.2])] := by
    intro b nv hb
    rw [specMatch_ofList_isList hb]
    simp [specMatchList, Pat.isEllOnly, specMatch_var hn, specMatch_var hv]
  have hvn : (v == n) = false := by simp [beq_eq_false_iff_ne, Ne.symm hnv]
  have key : ∀ (bs : List Datum) (nvs : List (Datum × Datum)),
      IsPairs bs nvs → ∀ (a1 a2 : List Datum),
      (mapOpt (specMatch lits (pl [pv n, pv v])) bs).map (fun βs => βs.foldl zipB [(n, a1), (v, a2)]) =
        some [(n, a1 ++ nvs.map (·.1)), (v, a2 ++ nvs.map (·.2))] := by
    intro bs nvs h
    induction h with
    | nil => intro a1 a2; simp [mapOpt]
    | @cons b bs' nv nvs' hb _ ih =>
      intro a1 a2
      rw [mapOpt_foldl_cons (hone b nv hb)]
      simpa [zipB, List.lookup_cons, hvn] using ih (a1 ++ [nv.1]) (a2 ++ [nv.2])
  cases h with
  | nil => rfl
  | @cons b bs' nv nvs' hb htl =>
    rw [specRun_cons_some (hone b nv hb)]
    simpa using key bs' nvs' htl [nv.1] [nv.2]

theorem specMatch_var_ell_nonlist {lits v d} (hv : lits.contains v = false)
    (hk : ∀ ks, IsList d ks → ks = []) : specMatch lits (pl [pv v, pe]) d = none := by
  rw [specMatch_ofList_elems]
  cases hp : properElems d with
  | none => rfl
  | some ks =>
    have := hk ks (properElems_eq_some_iff.1 hp)
    subst this
    simp [specMatchList_ell, specRun_var hv]

theorem isSym_of_isList {s d es} (h : IsList d es) (hne : es ≠ []) : isSym s d = false := by
  cases d <;> simp_all [IsList, Datum.spine, isSym]

theorem IsPairs.nil_iff {bs nvs} (h : IsPairs bs nvs) : bs = [] ↔ nvs = [] := by
  cases h <;> simp

/-! ## The patterns of the bundled rules against a use seen as a list -/

theorem match_one_rest {a b : String} {use x xs} (hu : IsList use (x :: xs)) :
    specMatch [] (pl [pv a, pv b, pe]) use = if xs = [] then none else some [(a, [x]), (b, xs)] := by
  rw [specMatch_ofList_isList hu, specMatchList_one_rest rfl, specMatch_var rfl]; rfl

theorem match_none {use es} (hu : IsList use es) :
    specMatch [] (pl []) use = if es = [] then some [] else none := by
  rw [specMatch_ofList_isList hu, specMatchList_nil_eq]

theorem match_test {use test tests} (hu : IsList use (test :: tests)) :
    specMatch [] (pl [pv "test"]) use = if tests = [] then some [("test", [test])] else none := by
  rw [specMatch_ofList_isList hu, specMatchList_one, specMatch_var rfl]

/-- the first pattern of `let` and `let*` -/
theorem match_nil_bodies {use bs bds bodies} (hu : IsList use (bs :: bodies))
    (hbs : IsList bs bds) :
    specMatch [] (pl [pl [], pv "body", pe]) use =
      if bodies = [] ∨ bds ≠ [] then none else some [("body", bodies)] := by
  rw [specMatch_ofList_isList hu, specMatchList_one_rest rfl, specMatch_ofList_isList hbs,
    specMatchList_nil_eq]
  by_cases h1 : bodies = [] <;> by_cases h2 : bds = [] <;> simp [h1, h2]

theorem match_bindings_bodies {use bs bds nvs bodies} (hu : IsList use (bs :: bodies))
    (hbs : IsList bs bds) (hp : IsPairs bds nvs) :
    specMatch [] (pl [pl [pl [pv "name", pv "val"], pe], pv "body", pe]) use =
      if bodies = [] ∨ nvs = [] then none
      else some [("name", nvs.map (·.1)), ("val", nvs.map (·.2)), ("body", bodies)] := by
  rw [specMatch_ofList_isList hu, specMatchList_one_rest rfl, specMatch_ofList_isList hbs,
    specMatchList_ell, specRun_pair2 rfl rfl (by decide) hp]
  by_cases h1 : bodies = [] <;> by_cases h2 : nvs = [] <;> simp [h1, h2]

/-- the second pattern of `let*` -/
theorem match_binding_bodies {use bs b n v bds bodies} (hu : IsList use (bs :: bodies))
    (hbs : IsList bs (b :: bds)) (hb : IsList b [n, v]) :
    specMatch [] (pl [pl [pl [pv "name", pv "val"]], pv "body", pe]) use =
      if bodies = [] ∨ bds ≠ [] then none
      else some [("name", [n]), ("val", [v]), ("body", bodies)] := by
  rw [specMatch_ofList_isList hu, specMatchList_one_rest rfl, specMatch_ofList_isList hbs,
    specMatchList_one, specMatch_ofList_isList hb, specMatchList_cons_cons rfl, specMatchList_one,
    specMatch_var rfl, specMatch_var rfl]
  by_cases h1 : bodies = [] <;> by_cases h2 : bds = [] <;> simp [h1, h2]

theorem match_binding_bindings_bodies {use bs b n v bds nvs bodies}
    (hu : IsList use (bs :: bodies)) (hbs : IsList bs (b :: bds)) (hb : IsList b [n, v])
    (hp : IsPairs bds nvs) :
    specMatch []
        (pl [pl [pl [pv "name1", pv "val1"], pl [pv "name2", pv "val2"], pe], pv "body", pe]) use =
      if bodies = [] ∨ nvs = [] then none
      else some [("name1", [n]), ("val1", [v]), ("name2", nvs.map (·.1)), ("val2", nvs.map (·.2)),
        ("body", bodies)] := by
  rw [specMatch_ofList_isList hu, specMatchList_one_rest rfl, specMatch_ofList_isList hbs,
    specMatchList_cons_cons rfl, specMatch_ofList_isList hb, specMatchList_cons_cons rfl,
    specMatchList_one, specMatch_var rfl, specMatch_var rfl, specMatchList_ell,
    specRun_pair2 rfl rfl (by decide) hp]
  by_cases h1 : bodies = [] <;> by_cases h2 : nvs = [] <;> simp [h1, h2]

theorem cond_table {use c hd tl clauses} (hu : IsList use (c :: clauses))
    (hc : IsList c (hd :: tl)) :
    specTransform condRules.literals condRules.rules use = fillFirst use.loc condRules.rules
      [if clauses = [] ∧ tl ≠ [] ∧ isSym "else" hd = true then some [("result", tl)] else none,
       if clauses = [] then (arrowOf tl).map fun r => [("test", [hd]), ("result", [r])] else none,
       if clauses = [] then none
         else (arrowOf tl).map fun r => [("test", [hd]), ("result", [r]), ("clause", clauses)],
       if clauses = [] ∧ tl = [] then some [("test", [hd])] else none,
       if clauses ≠ [] ∧ tl = [] then some [("test", [hd]), ("clause", clauses)] else none,
       if clauses = [] ∧ tl ≠ [] then some [("test", [hd]), ("result", tl)] else none,
       if clauses ≠ [] ∧ tl ≠ [] then some [("test", [hd]), ("result", tl), ("clause", clauses)]
         else none] := by
  rw [specTransform_eq_fill]
  refine congrArg _ ?_
  simp only [condRules, List.map_cons, List.map_nil, specMatch_ofList_isList hu, specMatchList_one,
    specMatchList_one_rest (lits := ["else", "=>"]) (v := "clause") rfl,
    specMatch_ofList_isList hc, specMatchList_one_rest (lits := ["else", "=>"]) (v := "result") rfl,
    specMatchList_arrow (lits := ["else", "=>"]) (r := "result") rfl rfl,
    specMatch_lit (lits := ["else", "=>"]) (v := "else") rfl,
    specMatch_var (lits := ["else", "=>"]) (v := "test") rfl]
  -- both sides depend only on whether `clauses` and `tl` are empty, on `else` at the head and on the arrow clause
  rcases clauses with _ | ⟨x, xs⟩ <;> rcases tl with _ | ⟨a, as⟩ <;> cases isSym "else" hd <;>
    cases arrowOf _ <;> rfl

/-- what `(atoms ...)` makes of `hd` is left open -/
theorem case_table {use key c hd tl clauses} (hu : IsList use (key :: c :: clauses))
    (hc : IsList c (hd :: tl)) (hk : ∀ ks, IsList key ks → ks = []) :
    specTransform caseRules.literals caseRules.rules use = fillFirst use.loc caseRules.rules
      [none,
       if clauses = [] ∧ isSym "else" hd = true
         then (arrowOf tl).map fun r => [("key", [key]), ("result", [r])] else none,
       if clauses = [] ∧ tl ≠ [] ∧ isSym "else" hd = true
         then some [("key", [key]), ("result", tl)] else none,
       if clauses = [] then (specMatch ["else", "=>"] (pl [pv "atoms", pe]) hd).bind fun β =>
         (arrowOf tl).map fun r => ("key", [key]) :: β ++ [("result", [r])] else none,
       if clauses = [] ∧ tl ≠ [] then (specMatch ["else", "=>"] (pl [pv "atoms", pe]) hd).map fun β =>
         ("key", [key]) :: β ++ [("result", tl)] else none,
       if clauses = [] then none else (specMatch ["else", "=>"] (pl [pv "atoms", pe]) hd).bind fun β =>
         (arrowOf tl).map fun r => ("key", [key]) :: β ++ [("result", [r])] ++ [("clauses", clauses)],
       if clauses ≠ [] ∧ tl ≠ [] then (specMatch ["else", "=>"] (pl [pv "atoms", pe]) hd).map fun β =>
         ("key", [key]) :: β ++ [("result", tl)] ++ [("clauses", clauses)] else none] := by
  rw [specTransform_eq_fill]
  refine congrArg _ ?_
  simp only [caseRules, List.map_cons, List.map_nil, specMatch_ofList_isList hu,
    specMatchList_cons_list, specMatchList_cons_more, specMatchList_one,
    specMatchList_one_rest (lits := ["else", "=>"]) (v := "clauses") rfl,
    specMatch_var_ell_nonlist (lits := ["else", "=>"]) (v := "key") rfl hk,
    specMatch_ofList_isList hc, specMatchList_one_rest (lits := ["else", "=>"]) (v := "result") rfl,
    specMatchList_arrow (lits := ["else", "=>"]) (r := "result") rfl rfl,
    specMatch_lit (lits := ["else", "=>"]) (v := "else") rfl,
    specMatch_var (lits := ["else", "=>"]) (v := "key") rfl]
  generalize specMatch ["else", "=>"] (pl [pv "atoms", pe]) hd = am
  -- as in `cond_table`, and on what `(atoms ...)` makes of `hd`
  rcases clauses with _ | ⟨x, xs⟩ <;> rcases tl with _ | ⟨a, as⟩ <;> cases isSym "else" hd <;>
    cases arrowOf _ <;> cases am <;> rfl

theorem match_atoms {as atoms} (has : IsList as atoms) (hat : atoms ≠ []) :
    specMatch ["else", "=>"] (pl [pv "atoms", pe]) as = some [("atoms", atoms)] := by
  rw [specMatch_ofList_isList has, specMatchList_rest rfl, if_neg hat]

/-! ## Computing the declarative instantiation -/

@[simp] theorem range_map_getD {α} (l : List α) (d : α) :
    (List.range l.length).map (fun j => l[j]?.getD d) = l := by
  apply List.ext_getElem
  · simp
  · intro i h1 h2
    simp at h1
    simp [h1]

@[simp] theorem range_map_getD_pair {α} (l : List α) (f1 f2 : α → Datum) (d1 d2 : Datum) (loc : Loc) :
    (List.range l.length).map (fun j =>
        Datum.ofList loc [(Option.map f1 l[j]?).getD d1, (Option.map f2 l[j]?).getD d2]) =
      l.map (fun x => Datum.ofList loc [f1 x, f2 x]) := by
  apply List.ext_getElem
  · simp
  · intro i h1 h2
    simp at h1
    simp [h1]

theorem specElemsAt_nil (β : Bindings) (loc : Loc) (i : Nat) : specElemsAt β loc i [] = [] := rfl

theorem specElemsAt_plain (β : Bindings) (loc : Loc) (i : Nat) (t : Tmpl)
    (rest : List (Tmpl × Bool)) :
    specElemsAt β loc i ((t, false) :: rest) = specInstAt β loc i t :: specElemsAt β loc i rest :=
  rfl

theorem specElemsAt_var_ell (β : Bindings) (loc : Loc) (i : Nat) (v : String)
    (rest : List (Tmpl × Bool)) :
    specElemsAt β loc i ((.ident v, true) :: rest) =
      (β.lookup v).getD [] ++ specElemsAt β loc i rest := by
  simp only [specElemsAt, copies, seqLens, Tmpl.vars, List.filterMap_cons, List.filterMap_nil,
    specInstAt]
  cases β.lookup v with
  | none => rfl
  | some ms => simp [minLen]

attribute [spec_inst] fillFirst specTransform arrowOf_nil optApp_some optApp_none_left
  optApp_none_right specInst specInstAt specElemsAt_nil specElemsAt_plain specElemsAt_var_ell
  List.lookup Option.getD_some Option.getD_none Option.map_some Option.map_none Option.bind_some
  Option.bind_none List.getD_cons_zero List.append_nil List.cons_append List.nil_append
  List.cons_ne_nil ne_eq not_true_eq_false not_false_eq_true and_true true_and and_false false_and
  and_self or_true true_or or_false false_or or_self if_true if_false Bool.false_eq_true

end Ruschm.Macro
