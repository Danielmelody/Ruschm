/-
Property C14 — library loading terminates; the outcome depends only on the dependency graph.

"Importing a library terminates for every dependency graph: it fails with a cyclic-import error
exactly when a cycle is reachable from it, fails with the underlying error when a reachable library
is missing, unreadable, malformed or faults while being evaluated, and succeeds otherwise (shared
dependencies reached by several paths are not cycles). The outcome of an import does not depend on
which imports were attempted or failed earlier on the same interpreter, and library files are
located relative to the program's directory, not the process's working directory."

Only property theorems live here (each is audited with `#print axioms`); helper lemmas are in
`RuschmProofs/AbstractLoader.lean` (the traversal) and `RuschmProofs/LibLemmas.lean` (the model); the
abstract loader (`Loader.load`, same control structure as
`Interp.evalImportSet (.direct ..)` / `getLibrary` / `evalLibraryDef`, over a finite dependency
graph) and the graph vocabulary are in `RuschmSpec/Lib.lean`.
-/
import RuschmProofs.LibLemmas
import RuschmProofs.AbstractLoader

namespace Ruschm.C14
open Ruschm Ruschm.Interp Ruschm.Loader

/-! ## the abstract loader -/

/-- the diamond: 0 imports 1 and 2, both import 3 -/
def diamond : Graph := [(0, .healthy [1, 2]), (1, .healthy [3]), (2, .healthy [3]), (3, .healthy [])]

/-- a cycle behind a healthy node, a missing library and a faulting one -/
def tangled : Graph := [(0, .healthy [1]), (1, .healthy [2]), (2, .healthy [1]), (4, .healthy [5]),
  (6, .faulty [3]), (3, .healthy [])]

/-- Loading terminates for every dependency graph: as many units of fuel as there are nodes not
in progress, plus one — so `|g| + 1` in every state — always suffice; the loader never reports
that it ran out of fuel. (A call for a node that is not in progress marks it, so the number of
unmarked nodes of the finite graph strictly decreases along every chain of nested calls.) -/
theorem load_terminates (g : Graph) (st : LState) (x : Name) (fuel : Nat) (hfuel : g.length + 1 ≤ fuel) :
    (load fuel g st x).1 ≠ .fuel := by
  rw [load_eq_dfs']
  exact dfs_ne_fuel g fuel _ _ x (free_lt_of_length g _ hfuel)

example : (load 7 tangled {} 0).1 = .cyclic ∧ (load 7 tangled {} 4).1 = .notFound ∧
    (load 7 tangled {} 6).1 = .fault ∧ (load 7 tangled {} 3).1 = .ok := by decide +kernel

/-- After ANY outcome (success, any error, even exhausted fuel) the in-progress list is the one
before the call. -/
theorem in_progress_restored (g : Graph) (st : LState) (x : Name) (fuel : Nat) :
    (load fuel g st x).2.inProgress = st.inProgress := by
  rw [load_eq_dfs']

example : (load 7 tangled ⟨[], [9]⟩ 0) = (.cyclic, ⟨[], [9]⟩) := by decide +kernel

/-- The cache is sound: a sound cache (`CacheOK`: only libraries that load from scratch, closed
under dependencies, nothing in progress) stays sound after any load, with any outcome and any
fuel; it only grows; a successful load puts the library into it; and a cached library loads `ok`
immediately, without touching the state. The empty cache is sound. -/
theorem cache_sound (g : Graph) (st : LState) (x : Name) (fuel : Nat) (h : CacheOK g st) :
    CacheOK g (load fuel g st x).2 ∧
    (∀ y ∈ st.cache, y ∈ (load fuel g st x).2.cache) ∧
    ((load fuel g st x).1 = .ok → x ∈ (load fuel g st x).2.cache ∧ Loadable g x) ∧
    (x ∈ st.cache → load (fuel + 1) g st x = (.ok, st)) ∧
    CacheOK g {} := by
  have hp := dfs_post g fuel st.cache st.inProgress x (cacheOK_iff.1 h)
  simp only [load_eq_dfs']
  exact ⟨cacheOK_iff.2 hp.1.cok, hp.1.mono, fun hok => ⟨hp.2 hok, hp.1.cok.loadable _ (hp.2 hok)⟩,
    fun hx => by rw [dfs_cached (h.disjoint x hx) hx], .empty _⟩

example : (load 7 diamond {} 0) = (.ok, ⟨[0, 2, 1, 3], []⟩) := by decide +kernel

/-- From an empty in-progress set (and a sound cache, e.g. the empty one) the load succeeds
exactly when every library reachable from `x` is healthy and no dependency cycle is reachable
from `x`. -/
theorem load_ok_iff (g : Graph) (st : LState) (x : Name) (fuel : Nat) (hfuel : g.length + 1 ≤ fuel)
    (hc : CacheOK g st) (hip : st.inProgress = []) :
    (load fuel g st x).1 = .ok ↔
      (∀ y, Reachable g x y → ∃ deps, g.node y = .healthy deps) ∧ ¬ HasCycleFrom g x := by
  constructor
  · intro h
    exact ((cache_sound g st x fuel hc).2.2.1 h).2.healthy_acyclic
  · rintro ⟨hh, hcyc⟩
    rw [load_eq_dfs', hip]
    exact dfs_ok_of_healthy_acyclic hh hcyc hfuel

example : (∀ y, Reachable diamond 0 y → ∃ deps, diamond.node y = .healthy deps) ∧ ¬ HasCycleFrom diamond 0 :=
  (load_ok_iff diamond {} 0 5 (by decide +kernel) (.empty _) rfl).1 (by decide +kernel)

/-- A node that is reached along two different paths is not a cycle: if all reachable libraries
are healthy and there is no cycle, the load succeeds although `d` is a dependency of both `a` and
`b`, themselves both dependencies of `x` (the second visit finds the cached instance). -/
theorem diamond_not_cycle (g : Graph) (x a b d : Name) (fuel : Nat) (hfuel : g.length + 1 ≤ fuel)
    (_hab : a ≠ b) (_ha : a ∈ (g.node x).deps) (_hb : b ∈ (g.node x).deps)
    (_hda : d ∈ (g.node a).deps) (_hdb : d ∈ (g.node b).deps)
    (hh : ∀ y, Reachable g x y → ∃ deps, g.node y = .healthy deps) (hcyc : ¬ HasCycleFrom g x) :
    (load fuel g {} x).1 = .ok :=
  (load_ok_iff g {} x fuel hfuel (.empty _) rfl).2 ⟨hh, hcyc⟩

/-- the concrete diamond: 3 is visited once and found in the cache the second time -/
example : load 5 diamond {} 0 = (.ok, ⟨[0, 2, 1, 3], []⟩) := by decide +kernel

/-- The outcome is exactly that of the depth-first traversal `Dfs` of the dependencies in order
(a relational, fuel-free description: a node in progress is `cyclic`; a cached node is `ok`; the
dependencies of a node are visited in order and the FIRST outcome that is not `ok` is the node's
outcome; a healthy node whose dependencies are all `ok` is `ok` and enters the cache; a faulty
one then faults). In particular the outcome is `cyclic` iff the traversal meets a node in progress
before it meets any other fault, and every error names a fault that is really reachable: `cyclic`
a node in progress or a cycle, `notFound` a missing library, and so on. If every reachable library
is healthy, the outcome is `cyclic` exactly when a cycle is reachable. -/
theorem load_cyclic_iff (g : Graph) (st : LState) (x : Name) (fuel : Nat) (hfuel : g.length + 1 ≤ fuel) :
    (∀ r st', load fuel g st x = (r, st') ↔
      Dfs g st.cache st.inProgress x r st'.cache ∧ st'.inProgress = st.inProgress) ∧
    ((load fuel g st x).1 = .cyclic ↔ ∃ c', Dfs g st.cache st.inProgress x .cyclic c') ∧
    Blame g st.inProgress x (load fuel g st x).1 ∧
    (st.inProgress = [] → CacheOK g st → (∀ y, Reachable g x y → ∃ deps, g.node y = .healthy deps) →
      ((load fuel g st x).1 = .cyclic ↔ HasCycleFrom g x)) := by
  have hiff := fun r c' => dfs_iff_Dfs g fuel st.cache st.inProgress x r c' hfuel
  have hblame : Blame g st.inProgress x (load fuel g st x).1 := by
    rw [load_eq_dfs']; exact dfs_blame g fuel _ _ x
  refine ⟨fun r st' => ?_, ?_, hblame, fun hip hcok hh => ?_⟩
  · rw [load_eq_dfs', ← hiff]
    exact ⟨fun h => by cases h; exact ⟨rfl, rfl⟩, fun ⟨h, hip⟩ => by rw [h, ← hip]⟩
  · rw [load_eq_dfs']
    constructor
    · intro h
      exact ⟨_, (hiff _ _).1 (Prod.ext h rfl)⟩
    · rintro ⟨c', h⟩
      rw [(hiff _ _).2 h]
  · constructor
    · intro h
      rw [h, hip] at hblame
      rcases hblame with ⟨y, hy, _⟩ | hb
      · cases hy
      · exact hb
    · intro hcyc
      have hne := load_terminates g st x fuel hfuel
      have hok := (load_ok_iff g st x fuel hfuel hcok hip).1
      generalize (load fuel g st x).1 = r at hblame hne hok
      rw [hip] at hblame
      cases r with
      | cyclic => rfl
      | fuel => exact absurd rfl hne
      | ok => exact absurd hcyc (hok rfl).2
      | notFound | io | «syntax» =>
        obtain ⟨y, h1, h2⟩ := hblame; obtain ⟨ds, h3⟩ := hh y h1; rw [h2] at h3; cases h3
      | fault => obtain ⟨y, ds', h1, h2⟩ := hblame; obtain ⟨ds, h3⟩ := hh y h1; rw [h2] at h3; cases h3

/-- in `tangled`, loading 0 is cyclic: the traversal derives it, and a cycle is indeed reachable -/
example : (∃ c', Dfs tangled [] [] 0 .cyclic c') ∧ HasCycleFrom tangled 0 := by
  have h := load_cyclic_iff tangled {} 0 7 (by decide)
  refine ⟨h.2.1.1 (by decide), ?_⟩
  have hb := h.2.2.1
  rw [show (load 7 tangled {} 0).1 = .cyclic by decide] at hb
  rcases hb with ⟨y, hy, _⟩ | hb
  · cases hy
  · exact hb

/-- The sentence "cyclic exactly when a cycle is reachable" needs the proviso of `load_cyclic_iff`:
the FIRST fault in depth-first order is reported. Here 0 imports a missing library and then 1,
which imports 0 back: a cycle is reachable from 0, yet the outcome is `notFound`. -/
theorem first_fault_wins_over_cycle :
    ∃ g : Graph, HasCycleFrom g 0 ∧ (load (g.length + 1) g {} 0).1 = .notFound := by
  refine ⟨[(0, .healthy [9, 1]), (1, .healthy [0])], ⟨0, 1, .refl _, by decide, .step (y := 0) (by decide) (.refl _)⟩, by decide⟩

/-- MAIN THEOREM. Whatever was attempted before on the same loader — any list of loads of any
names, each with any amount of fuel, successful or failed — the outcome of loading `x` afterwards
is the outcome of loading `x` on the fresh loader: it is a function of the graph alone. (The
in-progress list is restored by every attempt, and the cache only ever holds libraries that would
load anyway.) -/
theorem history_independent (g : Graph) (hist : List (Nat × Name)) (x : Name) (fuel : Nat)
    (hfuel : g.length + 1 ≤ fuel) :
    (load fuel g (attempts g {} hist) x).1 = (load fuel g {} x).1 := by
  have h0 : CacheOK g {} := (.empty _)
  obtain ⟨hok, hip⟩ := attempts_ok g hist {} h0
  rw [load_eq_dfs', load_eq_dfs', hip]
  exact dfs_indep g fuel _ _ _ x (hip ▸ cacheOK_iff.1 hok) (cacheOK_iff.1 h0)
    (free_lt_of_length g _ hfuel)

example : (load 7 tangled (attempts tangled {} [(7, 0), (1, 6), (7, 3), (7, 4)]) 6).1 = .fault := by
  rw [history_independent tangled _ 6 7 (by decide)]; decide

/-! ## the bridge to the model of the interpreter -/

/-- The in-progress set of the REAL `evalImportSet` is restored after any outcome, for every
state, fuel and import set (the repaired behaviour: the mark is removed on failure too); and an
import of a library that is in progress is the cyclic-import error, with the state unchanged. -/
theorem model_in_progress_restored (fuel : Nat) (st : State) :
    (∀ s, (evalImportSet fuel st s).2.inProgress = st.inProgress) ∧
    (∀ sets ρ, (evalImport fuel st sets ρ).2.inProgress = st.inProgress) ∧
    (∀ name loc, name ∈ st.inProgress →
      evalImportSet (fuel + 1) st (.direct name loc) = (.error (.cyclic, loc), st)) := by
  refine ⟨fun s => ?_, fun sets ρ => ?_, fun name loc h => ?_⟩
  · exact (run_inv storeRel_true fuel st (.importSet s)).inProgress
  · exact (run_inv storeRel_true fuel st (.import_ sets ρ)).inProgress
  · exact direct_cyclic h

/-- a failing import (the library does not exist) leaves the in-progress set as it was -/
example : (evalImportSet 5 { inProgress := [[.ident "x"]] } (.direct [.ident "nope"] none)).2.inProgress
    = [[.ident "x"]] :=
  (model_in_progress_restored 5 _).1 _

/-- `get_library` looks for a library file only at `libPath name` — the name's elements joined by
`/`, with extension `sld`, RELATIVE to the directory the interpreter looks libraries up in at that
moment (`fileKey st.dir`: the directory of the program file, or the working directory while none
is recorded; `files` is keyed by directory-qualified paths) — and what it
finds depends on nothing else: `getLibrary` is the cached instance or else `instantiate` of the
factory `findFactory` finds, and two states (each with its own lookup directory) that agree on the
registered factory for `name` and on the file at `libPath name` in their lookup directory find the
same factory (or fail with the same error). -/
theorem libPath_relative (name : LibName) (loc : Loc) :
    libPath name = "/".intercalate (name.map LibElem.toString) ++ ".sld" ∧
    (∀ fuel st, getLibrary (fuel + 1) st name loc =
      match libLookup st.instances name with
      | some defs => (.ok defs, st)
      | none =>
        match findFactory st name loc with
        | (.error e, st) => (.error e, st)
        | (.ok f, st) => instantiate fuel st f name) ∧
    (∀ st₁ st₂ : State, libLookup st₁.factories name = libLookup st₂.factories name →
      st₁.files.lookup (fileKey st₁.dir (libPath name)) = st₂.files.lookup (fileKey st₂.dir (libPath name)) →
      (findFactory st₁ name loc).1 = (findFactory st₂ name loc).1) := by
  refine ⟨rfl, fun fuel st => getLibrary_succ_eq fuel st name loc, fun st₁ st₂ hf hfile => ?_⟩
  unfold findFactory
  rw [hf, hfile]
  rcases libLookup st₂.factories name with _ | f
  · rcases List.lookup (fileKey st₂.dir (libPath name)) st₂.files with _ | t | _
    · rfl
    · simp only; cases factoryOfText name t <;> rfl
    · rfl
  · rfl

example : libPath [.ident "util", .ident "list", .int 2] = "util/list/2.sld" := by decide +kernel

end Ruschm.C14
