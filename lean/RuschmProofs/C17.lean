/-
Property C17 — "ruschm FILE evaluates the file's forms in order exactly as the same text evaluated
through the library interface, writes to standard output exactly what the program displayed, and
exits with status 0 when every form succeeded. On the first failing form it stops, has written
only the output produced before it, prints one diagnostic FILE:LINE:COL MESSAGE on standard error
and exits with a non-zero status; a missing or unreadable file is a diagnostic and non-zero
status too."

`Front.cli fuel content` is the model of `main` with a file argument (`content = none`: the file
cannot be read as UTF-8 text). The library interface is `Interp.evalText` on
`Interp.default_ false` (`Interpreter::default()`: no standard library imported — a program
starts with its own `(import …)`). Only property theorems live here; helpers are in
`RuschmProofs/FrontLemmas.lean`, spec-side definitions in `RuschmSpec/Front.lean`.
-/
import RuschmProofs.FrontLemmas
import RuschmProofs.UnlocFront
import RuschmProofs.C06

namespace Ruschm.C17
open Ruschm Ruschm.Interp Ruschm.Front Ruschm.FrontSpec

/-- `ruschm FILE` is the library interface applied to the file's text: standard output is the
concatenation, in order, of what the final store's `out` records as displayed; the run exits with
0 and no diagnostic exactly when `evalText` returned a value, and with 255 and ONE diagnostic
carrying the error's location and kind exactly when it returned an error. -/
theorem cli_equals_library_interface (fuel : Nat) (text : String) :
    let r := evalText fuel (default_ false) text.toList
    (cli fuel (some text)).stdout = String.join r.2.store.out.reverse ∧
    (∀ v, r.1 = .ok v →
      (cli fuel (some text)).exitCode = 0 ∧ (cli fuel (some text)).diag = none ∧
      (cli fuel (some text)).errKind = none) ∧
    (∀ e loc, r.1 = .error (e, loc) →
      (cli fuel (some text)).exitCode = 255 ∧ (cli fuel (some text)).diag = some loc ∧
      (cli fuel (some text)).errKind = some e) := by
  intro r
  rw [cli_some]
  have hr : evalText fuel (default_ false) text.toList = r := rfl
  rw [hr]
  obtain ⟨o, st⟩ := r
  cases o with
  | ok v => exact ⟨rfl, ⟨fun _ _ => ⟨rfl, rfl, rfl⟩, fun _ _ h => by cases h⟩⟩
  | error e =>
    obtain ⟨e, l⟩ := e
    exact ⟨rfl, ⟨fun _ h => (by cases h), fun _ _ h => (by cases h; exact ⟨rfl, rfl, rfl⟩)⟩⟩

/-- exit status 0 exactly when the whole text evaluated without error -/
theorem exit_zero_iff_ok (fuel : Nat) (text : String) :
    (cli fuel (some text)).exitCode = 0 ↔
      ∃ v, (evalText fuel (default_ false) text.toList).1 = .ok v :=
  (cli_of_sameRun (SameRun.refl _)).2.1

/-- There is a diagnostic exactly when the exit status is not 0, for a readable and for an
unreadable file alike; it comes with exactly one error kind; and `diag` being an `Option`, there
is at most one. The only non-zero status is 255 (`exit(-1)`). -/
theorem one_diagnostic_on_failure (fuel : Nat) (content : Option String) :
    ((cli fuel content).diag.isSome ↔ (cli fuel content).exitCode ≠ 0) ∧
    ((cli fuel content).errKind.isSome ↔ (cli fuel content).exitCode ≠ 0) ∧
    ((cli fuel content).exitCode = 0 ∨ (cli fuel content).exitCode = 255) := by
  cases content with
  | none => simp [cli]
  | some text =>
    rw [cli_some]
    generalize evalText fuel (default_ false) text.toList = r
    obtain ⟨o, st⟩ := r
    cases o with
    | ok v => simp
    | error e => obtain ⟨e, l⟩ := e; simp

/-- a missing or unreadable file: an io diagnostic without a location, status 255, nothing on
standard output -/
theorem unreadable_file_is_diagnostic (fuel : Nat) :
    (cli fuel none).stdout = "" ∧ (cli fuel none).diag = some none ∧
    (cli fuel none).errKind = some .io ∧ (cli fuel none).exitCode = 255 :=
  ⟨rfl, rfl, rfl, rfl⟩

/-! ## forms in order; nothing after the first failing form -/

/-- THE LIBRARY INTERFACE EVALUATES THE FORMS IN ORDER. `evalText` is the fold `runText`: the
top-level data the reader finds (`formsOf`), each turned into a statement in the current syntax
scope and evaluated by `eval_ast` from the state its predecessor left, stopping at the first
error; the reader's own error, if any, comes after the forms read before it. (The model's
reading fuel is never exhausted: every datum consumes a token.) -/
theorem evalText_eq_fold (fuel : Nat) (st : State) (text : List Char) :
    evalText fuel st text = runText fuel st text :=
  evalText_eq_runText fuel st text

/-- exit status 0 exactly when EVERY form succeeded (and the reader reached the end of the text) -/
theorem exit_zero_iff_all_ok (fuel : Nat) (text : String) :
    (cli fuel (some text)).exitCode = 0 ↔
      (∃ v, (runForms fuel (default_ false) (formsOf text.toList).1 none).1 = .ok v) ∧
        (formsOf text.toList).2 = none := by
  rw [exit_zero_iff_ok, evalText_eq_fold]
  exact ⟨fun ⟨v, h⟩ => ⟨⟨v, (runText_ok_iff.1 h).1⟩, (runText_ok_iff.1 h).2⟩,
    fun ⟨⟨v, h⟩, hr⟩ => ⟨v, runText_ok_iff.2 ⟨h, hr⟩⟩⟩

/-- NOTHING IS EVALUATED AFTER THE FIRST ERROR: when the forms `pre` succeed and the next form `d`
fails, the outcome and the final state are those of `d`'s failure — whatever follows (`post`). -/
theorem stops_at_first_error (fuel : Nat) (st st₁ st₂ : State) (pre post : List Datum) (d : Datum)
    (last v : Option Value) (e : SErr)
    (hpre : runForms fuel st pre last = (.ok v, st₁)) (hfail : evalForm fuel st₁ d = (.error e, st₂)) :
    runForms fuel st (pre ++ d :: post) last = (.error e, st₂) :=
  runForms_stops post hpre hfail

/-- OUTPUT ONLY GROWS: a form — whether it succeeds or fails, whatever it evaluates, imports or
defines — only adds to what has been written (`Store.out` is extended at the front, most recent
first); likewise a run of forms and a whole text. -/
theorem out_monotone (fuel : Nat) (st : State) :
    (∀ d, OutExt st.store (evalForm fuel st d).2.store) ∧
    (∀ ds last, OutExt st.store (runForms fuel st ds last).2.store) ∧
    (∀ text, OutExt st.store (evalText fuel st text).2.store) :=
  ⟨evalForm_out fuel st, fun ds last => runForms_out fuel ds st last,
    fun text => (evalText_inv storeRel_outExt fuel st text).store⟩

/-- STANDARD OUTPUT AT A FAILURE. When the forms before the failing one (`pre`) succeed, leaving
state `st₁`, and the next form fails, leaving `st₂`: `ruschm FILE` has written exactly what the
forms before it wrote, followed by what the failing form itself wrote before it failed (`part`,
its completed effects) — nothing of the later forms; the diagnostic is that form's error. -/
theorem stdout_is_output_before_failure (fuel : Nat) (text : String) (pre post : List Datum) (d : Datum)
    (v : Option Value) (st₁ st₂ : State) (e : Err) (loc : Loc)
    (hforms : (formsOf text.toList).1 = pre ++ d :: post)
    (hpre : runForms fuel (default_ false) pre none = (.ok v, st₁))
    (hfail : evalForm fuel st₁ d = (.error (e, loc), st₂)) :
    ∃ part : List String, st₂.store.out = part ++ st₁.store.out ∧
      (cli fuel (some text)).stdout = String.join st₁.store.out.reverse ++ String.join part.reverse ∧
      (cli fuel (some text)).diag = some loc ∧ (cli fuel (some text)).errKind = some e ∧
      (cli fuel (some text)).exitCode = 255 := by
  obtain ⟨part, hp⟩ := (evalForm_inv storeRel_outExt hfail).store
  refine ⟨part, hp, ?_⟩
  have hrun : evalText fuel (default_ false) text.toList = (.error (e, loc), st₂) := by
    rw [evalText_eq_fold, runText_of_error (hforms ▸ runForms_stops post hpre hfail)]
  rw [cli_some, hrun]
  exact ⟨outText_ext hp, rfl, rfl, rfl⟩

/-- the reader's error (an unbalanced parenthesis, a bad token, …) comes after every form read
before it has been evaluated: standard output is what those forms wrote -/
theorem stdout_at_reader_error (fuel : Nat) (text : String) (v : Option Value) (st₁ : State) (e : Err) (loc : Loc)
    (hrun : runForms fuel (default_ false) (formsOf text.toList).1 none = (.ok v, st₁))
    (herr : (formsOf text.toList).2 = some (e, loc)) :
    (cli fuel (some text)).stdout = String.join st₁.store.out.reverse ∧
      (cli fuel (some text)).diag = some loc ∧ (cli fuel (some text)).errKind = some e ∧
      (cli fuel (some text)).exitCode = 255 := by
  have h : evalText fuel (default_ false) text.toList = (.error (e, loc), st₁) := by
    rw [evalText_eq_fold, runText_of_ok hrun, herr]
  rw [cli_some, h]
  exact ⟨rfl, rfl, rfl, rfl⟩

/-! ## the layout of the file -/

/-- A TEXT IS ITS (LOCATED) TOKENS: the library interface, hence `ruschm FILE`, depends on the
text only through what the lexer makes of it — two texts with the same tokens at the same
locations (and the same lexer error, if any) are evaluated alike, to the same outcome, state,
output and diagnostic. -/
theorem text_is_its_tokens (fuel : Nat) (s₁ s₂ : String) (h : Lex.all s₁.toList = Lex.all s₂.toList) :
    (∀ st, evalText fuel st s₁.toList = evalText fuel st s₂.toList) ∧
    cli fuel (some s₁) = cli fuel (some s₂) := by
  have h1 : ∀ st, evalText fuel st s₁.toList = evalText fuel st s₂.toList :=
    fun st => evalText_lex_congr fuel st _ _ h
  exact ⟨h1, by rw [cli_some, cli_some, h1]⟩

/-- LAYOUT OF A FILE. A program is a sequence of (supported) tokens written with a layout: blanks,
line ends and comments before, between and after the tokens (`Text.interleave`, `ValidLayout`).
Two layouts that move the cursor alike up to the last token (`SameCursor`: separator by
separator the same line and column are reached — what follows the LAST token is unconstrained)
give the same located tokens, hence exactly the same run: same outcome, error location
included, same state, same output, same exit status. -/
theorem file_text_layout (fuel : Nat) (ts : List Token) (l₁ l₂ : List (List Char))
    (hs : ∀ t ∈ ts, Text.SupportedTok t) (h₁ : Text.ValidLayout ts l₁) (h₂ : Text.ValidLayout ts l₂)
    (hc : SameCursor l₁ l₂) :
    Lex.all (Text.interleave ts l₁) = Lex.all (Text.interleave ts l₂) ∧
    (∀ st, evalText fuel st (Text.interleave ts l₁) = evalText fuel st (Text.interleave ts l₂)) ∧
    cli fuel (some (String.ofList (Text.interleave ts l₁))) =
      cli fuel (some (String.ofList (Text.interleave ts l₂))) := by
  have hl : Lex.all (Text.interleave ts l₁) = Lex.all (Text.interleave ts l₂) := by
    rw [Text.all_render_located ts l₁ hs h₁, Text.all_render_located ts l₂ hs h₂,
      locate_sameCursor ts l₁ l₂ (1, 1) h₁ h₂ hc]
  refine ⟨hl, fun st => evalText_lex_congr fuel st _ _ hl, ?_⟩
  exact (text_is_its_tokens fuel _ _ (by simpa using hl)).2

/-- A FINAL NEWLINE (or any other blanks, line ends and comments after the last token) changes
nothing: whatever follows the last token, the run is the same. -/
theorem final_newline_irrelevant (fuel : Nat) (ts : List Token) (l : List (List Char)) (a b : List Char)
    (hs : ∀ t ∈ ts, Text.SupportedTok t)
    (h₁ : Text.ValidLayout ts (l ++ [a])) (h₂ : Text.ValidLayout ts (l ++ [b])) (hlen : l.length = ts.length) :
    cli fuel (some (String.ofList (Text.interleave ts (l ++ [a])))) =
      cli fuel (some (String.ofList (Text.interleave ts (l ++ [b])))) :=
  (file_text_layout fuel ts _ _ hs h₁ h₂ (sameCursor_last l a b)).2.2

/-- LF OR CRLF. Writing every line end between the tokens — in blanks and at the end of
comments, i.e. outside string literals and other tokens — as CR LF instead of LF gives a valid
layout again, with every token at the same line and column, and exactly the same run. -/
theorem crlf_irrelevant (fuel : Nat) (ts : List Token) (l : List (List Char))
    (hs : ∀ t ∈ ts, Text.SupportedTok t) (h : Text.ValidLayout ts l) :
    Text.ValidLayout ts (l.map crlf) ∧
    cli fuel (some (String.ofList (Text.interleave ts (l.map crlf)))) =
      cli fuel (some (String.ofList (Text.interleave ts l))) := by
  have hv := validLayout_crlf ts hs l h
  exact ⟨hv, (file_text_layout fuel ts _ _ hs h hv (sameCursor_crlf ts l h)).2.2.symm⟩

/-- THE RUN DEPENDS ON THE TOKENS ONLY, except for the LINE:COL of the diagnostic. Two texts with the
same token sequence (`toksOf`: the tokens the lexer produces, and whether it ends in an error),
evaluated through the library interface on the same interpreter state, give the same outcome up
to source locations — the same value (identical but for the positions recorded inside the code of
procedures) or the same error KIND — and leave the interpreter in the same state up to such
positions, with the same output. This is location-parametricity of the whole pipeline (reader,
macro expander, transformer, evaluator, library loader: `RuschmProofs/Unloc*.lean`). -/
theorem outcome_depends_on_tokens_only (fuel : Nat) (st : State) (t₁ t₂ : List Char)
    (ht : toksOf t₁ = toksOf t₂) :
    outcomeUnloc (evalText fuel st t₁).1 = outcomeUnloc (evalText fuel st t₂).1 ∧
    (evalText fuel st t₁).2.unloc = (evalText fuel st t₂).2.unloc ∧
    (evalText fuel st t₁).2.store.out = (evalText fuel st t₂).2.store.out :=
  sameRun_of_IU (evalText_sameTokens fuel st st t₁ t₂ ht rfl)

/-- … hence for `ruschm FILE`: same tokens, same standard output, same exit status, same error
kind; a diagnostic in one run iff in the other (its LINE:COL is where the offending token stands
in each text). -/
theorem same_tokens_same_run (fuel : Nat) (s₁ s₂ : String) (ht : toksOf s₁.toList = toksOf s₂.toList) :
    (cli fuel (some s₁)).stdout = (cli fuel (some s₂)).stdout ∧
    (cli fuel (some s₁)).exitCode = (cli fuel (some s₂)).exitCode ∧
    (cli fuel (some s₁)).errKind = (cli fuel (some s₂)).errKind ∧
    (cli fuel (some s₁)).diag.isSome = (cli fuel (some s₂)).diag.isSome :=
  cli_sameTokens fuel s₁ s₂ ht

/-- ANY LAYOUT. A program written as a sequence of (supported) tokens under ANY two valid layouts
— different line breaks, indentation, comments, LF or CRLF, final newline or none — runs alike:
same output, same exit status, same error kind (corollary of `C06.lex_render`: both texts lex to
the tokens written). With `file_text_layout`: if moreover the layouts put the tokens at the same
positions, the diagnostic's LINE:COL is the same too. -/
theorem layout_irrelevant (fuel : Nat) (ts : List Token) (l₁ l₂ : List (List Char))
    (hs : ∀ t ∈ ts, Text.SupportedTok t) (h₁ : Text.ValidLayout ts l₁) (h₂ : Text.ValidLayout ts l₂) :
    (cli fuel (some (String.ofList (Text.interleave ts l₁)))).stdout =
      (cli fuel (some (String.ofList (Text.interleave ts l₂)))).stdout ∧
    (cli fuel (some (String.ofList (Text.interleave ts l₁)))).exitCode =
      (cli fuel (some (String.ofList (Text.interleave ts l₂)))).exitCode ∧
    (cli fuel (some (String.ofList (Text.interleave ts l₁)))).errKind =
      (cli fuel (some (String.ofList (Text.interleave ts l₂)))).errKind := by
  obtain ⟨a, b, c, _⟩ := same_tokens_same_run fuel _ _
    ((toksOf_interleave ts l₁ hs h₁).trans (toksOf_interleave ts l₂ hs h₂).symm)
  exact ⟨a, b, c⟩

/-- THE FORMS DO NOT DEPEND ON THE LAYOUT AT ALL (up to source locations). A sequence of written
data (`Text.Syn`, supported tokens) under ANY two valid layouts — different line breaks,
indentation, comments, LF or CRLF, a final newline or none — is read as the same forms, up to the
locations stored in them, and without a reader error: the data they denote
(`C06.read_render_many`). -/
theorem forms_layout_invariant (xs : List Text.Syn) (hxs : Text.Syn.SupportedL xs) (l₁ l₂ : List (List Char))
    (h₁ : Text.ValidLayout (Text.Syn.toksL xs) l₁) (h₂ : Text.ValidLayout (Text.Syn.toksL xs) l₂) :
    (formsOf (Text.interleave (Text.Syn.toksL xs) l₁)).1.map Datum.strip
      = (formsOf (Text.interleave (Text.Syn.toksL xs) l₂)).1.map Datum.strip ∧
    (formsOf (Text.interleave (Text.Syn.toksL xs) l₁)).2 = none ∧
    (formsOf (Text.interleave (Text.Syn.toksL xs) l₂)).2 = none := by
  obtain ⟨a1, a2⟩ := C06.read_render_many xs hxs l₁ h₁
  obtain ⟨b1, b2⟩ := C06.read_render_many xs hxs l₂ h₂
  exact ⟨a1.trans b1.symm, a2, b2⟩

section Example
private theorem toks_sup : ∀ t ∈ [Token.prim (.int 1), .rparen], Text.SupportedTok t :=
  Text.Samples.supportedTok_of_all _ (by decide +kernel)

private theorem text_lf : Text.interleave [.prim (.int 1), .rparen] [[], " ;c\n".toList, []] = "1 ;c\n)".toList :=
  Text.Samples.eq_toList_of_bytes (by decide +kernel)

private theorem text_crlf : Text.interleave [.prim (.int 1), .rparen] ([[], " ;c\n".toList, ['\n']].map crlf)
    = "1 ;c\r\n)\r\n".toList := Text.Samples.eq_toList_of_bytes (by decide +kernel)

/-- the tokens `1` `)` written `1 ;c⏎)` and `1 ;c␍⏎)⏎`: same located tokens, same run -/
example : Text.interleave [.prim (.int 1), .rparen] [[], " ;c\n".toList, []] = "1 ;c\n)".toList := text_lf
example : Text.interleave [.prim (.int 1), .rparen] ([[], " ;c\n".toList, ['\n']].map crlf)
    = "1 ;c\r\n)\r\n".toList := text_crlf
example (fuel : Nat) : cli fuel (some "1 ;c\r\n)\r\n") = cli fuel (some "1 ;c\n)") := by
  have h1 := (crlf_irrelevant fuel _ [[], " ;c\n".toList, ['\n']] toks_sup (by decide +kernel)).2
  have h2 : cli fuel (some (String.ofList (Text.interleave _ [[], " ;c\n".toList, ['\n']]))) =
      cli fuel (some (String.ofList (Text.interleave _ [[], " ;c\n".toList, []]))) :=
    final_newline_irrelevant fuel _ [[], " ;c\n".toList] ['\n'] [] toks_sup (by decide +kernel) (by decide +kernel) rfl
  rw [text_crlf, String.ofList_toList] at h1
  rw [text_lf, String.ofList_toList] at h2
  exact h1.trans h2

/-- `1 )` on one line or on three, with a comment: same output, status and error kind -/
example (fuel : Nat) : (cli fuel (some "1 )")).exitCode = (cli fuel (some "1\n;c\n  )\n")).exitCode := by
  have h := (layout_irrelevant fuel _ [[], [' '], []] [[], "\n;c\n  ".toList, ['\n']] toks_sup
    (by decide +kernel) (by decide +kernel)).2.1
  have e1 : String.ofList (Text.interleave [.prim (.int 1), .rparen] [[], [' '], []]) = "1 )" :=
    Text.Samples.ofList_eq_of_bytes (by decide +kernel)
  have e2 : String.ofList (Text.interleave [.prim (.int 1), .rparen] [[], "\n;c\n  ".toList, ['\n']])
      = "1\n;c\n  )\n" := Text.Samples.ofList_eq_of_bytes (by decide +kernel)
  rwa [e1, e2] at h

/-- the file `)`: the reader fails at line 1, column 2 — one syntax diagnostic there, status 255,
nothing written -/
example (fuel : Nat) : (cli fuel (some ")")).exitCode = 255 ∧ (cli fuel (some ")")).diag = some (some (1, 2)) ∧
    (cli fuel (some ")")).errKind = some .syntax ∧ (cli fuel (some ")")).stdout = "" := by
  have h : ")".toList = [')'] := by decide
  rw [cli_some, h, evalText_rparen]
  exact ⟨rfl, rfl, rfl, rfl⟩

example (fuel : Nat) : (cli fuel none).exitCode = 255 := (unreadable_file_is_diagnostic fuel).2.2.2
end Example

end Ruschm.C17
