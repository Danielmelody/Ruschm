/-
Fuel monotonicity of the interpreter's mutual block: an outcome that is not the fuel error is the
outcome with any more fuel (`mono_run`, shown of `stepCall` once; `runCall_mono_le` and its forms for the
single functions), up to `eval_ast` (`ProgramText.evalAst_mono_le`). A fact about a run is therefore
proved at the least fuel that does and holds from there on.
-/
import RuschmProofs.LoaderStep
import RuschmProofs.EvalAst
import RuschmProofs.EvalFuel

namespace Ruschm
open Eval (NotFuel)

namespace Interp

theorem evalExprOrDef_mono {n st s ρ r st'} (h : evalExprOrDef n st s ρ = (r, st')) (hr : NotFuel r) :
    evalExprOrDef (n + 1) st s ρ = (r, st') := by
  unfold evalExprOrDef at h ⊢
  split at h
  · split at h <;> rename_i he <;> cases h
    · rw [Eval.evalExpr_mono he (by simp) 1]
    · rw [Eval.evalExpr_mono he hr.cast 1]
  · split at h <;> rename_i he <;> cases h
    · rw [Eval.evalExpr_mono he (by simp) 1]
    · rw [Eval.evalExpr_mono he hr.cast 1]
  · exact h
  · exact h

/-- `runCall_mono` for each of the seven functions by name; nothing builds it -/
structure IMono (n : Nat) : Prop where
  importSet : ∀ {st s r st'}, evalImportSet n st s = (r, st') → NotFuel r → evalImportSet (n+1) st s = (r, st')
  getLibrary : ∀ {st name loc r st'}, getLibrary n st name loc = (r, st') → NotFuel r →
    getLibrary (n+1) st name loc = (r, st')
  import_ : ∀ {st sets ρ r st'}, evalImport n st sets ρ = (r, st') → NotFuel r →
    evalImport (n+1) st sets ρ = (r, st')
  importSets : ∀ {st sets acc r st'}, evalImportSets n st sets acc = (r, st') → NotFuel r →
    evalImportSets (n+1) st sets acc = (r, st')
  libraryDef : ∀ {st decls r st'}, evalLibraryDef n st decls = (r, st') → NotFuel r →
    evalLibraryDef (n+1) st decls = (r, st')
  libDecls : ∀ {st ρ decls acc r st'}, evalLibDecls n st ρ decls acc = (r, st') → NotFuel r →
    evalLibDecls (n+1) st ρ decls acc = (r, st')
  statements : ∀ {st ρ ss r st'}, evalStatements n st ρ ss = (r, st') → NotFuel r →
    evalStatements (n+1) st ρ ss = (r, st')

theorem mono_run : ∀ n {α} (st : State) (c : Call α), Below (runCall n st c) (runCall (n + 1) st c) :=
  run_rule (P := fun n st c x => Below x (runCall (n + 1) st c)) (fun st c h => absurd h (by simp))
    fun n ih α st c => by
    rw [runCall_succ]
    cases c with
    | importSet s =>
      cases s using ImportSet.opInduction with
      | direct name loc =>
        rw [stepCall_direct, stepCall_direct]
        split
        · exact .refl
        · exact fun h => by rw [ih _ (.getLibrary name loc) h]
      | wrap op sub => rw [stepCall_wrap, stepCall_wrap]; exact (ih st _).andThen fun _ _ => .refl
    | getLibrary name loc =>
      simp only [stepCall]
      split
      · exact .refl
      · refine Below.refl.andThen fun f st1 => Below.andThen ?_ fun _ _ => .refl
        cases f with
        | native defs => exact .refl
        | ast decls => exact ih st1 (.libraryDef decls)
    | import_ sets ρ => exact (ih st _).andThen fun _ _ => .refl
    | importSets sets acc =>
      cases sets with
      | nil => exact .refl
      | cons s rest => exact (ih st _).andThen fun _ st1 => Below.refl.andThen fun _ st2 => ih st2 _
    | libraryDef decls => exact (ih _ _).andThen fun _ _ => .refl
    | libDecls ρ decls acc =>
      cases decls with
      | nil => exact .refl
      | cons d ds =>
        cases d with
        | importDecl _ | begin_ _ => exact (ih st _).andThen fun _ st1 => ih st1 _
        | «export» specs => exact ih st (.libDecls ρ ds (acc ++ specs))
    | statements ρ ss =>
      cases ss with
      | nil => exact .refl
      | cons s rest =>
        exact Below.andThen (fun h => evalExprOrDef_mono (Prod.ext rfl rfl) h) fun _ st1 => ih st1 _

theorem runCall_mono {n : Nat} {α} {st : State} (c : Call α) {r st'} (h : runCall n st c = (r, st'))
    (hr : NotFuel r) : runCall (n + 1) st c = (r, st') := (mono_run n st c (h ▸ hr)).trans h

theorem runCall_mono_le {n m : Nat} {α} {st : State} (c : Call α) {r st'} (h : runCall n st c = (r, st'))
    (hr : NotFuel r) (hnm : n ≤ m) : runCall m st c = (r, st') :=
  mono_le (f := (runCall · st c)) (mono_run · st c) h hr hnm

theorem evalLibDecls_mono_le {n m st ρ decls acc r st'} (h : evalLibDecls n st ρ decls acc = (r, st'))
    (hr : NotFuel r) (hnm : n ≤ m) : evalLibDecls m st ρ decls acc = (r, st') :=
  runCall_mono_le (.libDecls ρ decls acc) h hr hnm

theorem getLibrary_mono_le {n m st name loc r st'} (h : Interp.getLibrary n st name loc = (r, st'))
    (hr : NotFuel r) (hnm : n ≤ m) : Interp.getLibrary m st name loc = (r, st') :=
  runCall_mono_le (.getLibrary name loc) h hr hnm

theorem evalImportSet_mono_le {n m st s r st'} (h : evalImportSet n st s = (r, st'))
    (hr : NotFuel r) (hnm : n ≤ m) : evalImportSet m st s = (r, st') :=
  runCall_mono_le (.importSet s) h hr hnm

end Interp

namespace ProgramText
open Interp

theorem astPost_notFuel {s : Statement} {x : Except SErr (Option Value) × State} :
    NotFuel (astPost s x).1 ↔ NotFuel x.1 := by
  obtain ⟨⟨k, l⟩ | _, st⟩ := x
  · by_cases hk : k = .fuel
    · subst hk; exact Iff.rfl
    · exact ⟨fun _ => .error_of hk, fun _ => .error_of hk⟩
  · exact Iff.rfl

theorem astInner_below (n : Nat) (st : State) (s : Statement) : Below (astInner n st s) (astInner (n + 1) st s) := by
  unfold astInner
  split
  · cases s with
    | importDecl sets l => exact (mono_run n st (.import_ sets st.env)).andThen fun _ _ => .refl
    | libraryDef _ _ _ => exact .refl
    | _ => exact fun hr => evalExprOrDef_mono (Prod.ext rfl rfl) hr
  · exact fun hr => evalExprOrDef_mono (Prod.ext rfl rfl) hr

theorem evalAst_below (n : Nat) (st : State) (s : Statement) : Below (evalAst n st s) (evalAst (n + 1) st s) :=
  fun hr => by
    rw [evalAst_eq] at hr
    rw [evalAst_eq, evalAst_eq, astInner_below n st s (astPost_notFuel.1 hr)]

theorem evalAst_mono_le {n m : Nat} {st : State} {s : Statement} {r st'}
    (h : evalAst n st s = (r, st')) (hr : NotFuel r) (hnm : n ≤ m) : evalAst m st s = (r, st') :=
  mono_le (f := fun n => evalAst n st s) (fun n => evalAst_below n st s) h hr hnm

end ProgramText
end Ruschm
