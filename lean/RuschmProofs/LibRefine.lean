/-
The model's import path refines the abstract loader of `RuschmSpec/Lib.lean`, for libraries that consist of
imports only: a simulation (`Sim`, `simAt`) by the induction over the abstract traversal (`dfs_rule`), the
model getting `D + 10` units of fuel for each unit of the abstract loader.
-/
import RuschmProofs.LibModelLemmas
import RuschmProofs.AbstractLoader

namespace Ruschm
namespace Interp
open Loader

/-! ## the libraries that describe a graph -/

/-- the import sets `(import (d₁) (d₂) …)` -/
def depSets (nm : Name → LibName) (deps : List Name) : List ImportSet :=
  deps.map (fun d => .direct (nm d) none)

/-- a healthy node: `(define-library (x) (import (d₁) …) (export))` -/
def healthyDecls (nm : Name → LibName) (deps : List Name) : List LibDecl :=
  [.importDecl (depSets nm deps), .export []]

/-- the body `(1)`: calling a non-procedure -/
def faultyBody : List Statement := [.expr (.call (.prim (.int 1) none) [] none)]

/-- a node with a faulting body: `(define-library (x) (import (d₁) …) (begin (1)))` -/
def faultyDecls (nm : Name → LibName) (deps : List Name) : List LibDecl :=
  [.importDecl (depSets nm deps), .begin_ faultyBody]

/-- The registry and file system of `st` describe the graph `g` (library `nm x` for node `x`). -/
structure Describes (g : Graph) (nm : Name → LibName) (st : State) : Prop where
  inj : ∀ x y, nm x = nm y → x = y
  healthy : ∀ x deps, g.node x = .healthy deps → factoryFor st (nm x) = some (.ast (healthyDecls nm deps))
  faulty : ∀ x deps, g.node x = .faulty deps → factoryFor st (nm x) = some (.ast (faultyDecls nm deps))
  missing : ∀ x, g.node x = .missing →
    libLookup st.factories (nm x) = none ∧ st.files.lookup (fileKey st.dir (libPath (nm x))) = none
  unreadable : ∀ x, g.node x = .unreadable →
    libLookup st.factories (nm x) = none ∧ st.files.lookup (fileKey st.dir (libPath (nm x))) = some .unreadable
  malformed : ∀ x, g.node x = .malformed → libLookup st.factories (nm x) = none ∧
    ∃ t e, st.files.lookup (fileKey st.dir (libPath (nm x))) = some (.text t) ∧ factoryOfText (nm x) t = .error e

/-- loader state and interpreter state correspond -/
structure Corr (g : Graph) (nm : Name → LibName) (ls : LState) (st : State) : Prop where
  desc : Describes g nm st
  cache : ∀ x, x ∈ ls.cache ↔ ∃ d, libLookup st.instances (nm x) = some d
  empty : ∀ x d, libLookup st.instances (nm x) = some d → d = []
  ip : st.inProgress = ls.inProgress.map nm

/-- the error `e` of the model is the one the abstract outcome `o` stands for -/
def MatchErr (g : Graph) (nm : Name → LibName) (files : List (String × FileEntry)) (dir : String) (o : Outcome) (e : SErr) : Prop :=
  match o with
  | .ok => False
  | .fuel => True
  | .cyclic => e.1 = .cyclic
  | .notFound => e.1 = .libNotFound
  | .io => e = (.io, none)
  | .fault => e = (.nonProcedure, none)
  | .syntax => ∃ y t, g.node y = .malformed ∧ files.lookup (fileKey dir (libPath (nm y))) = some (.text t) ∧
      factoryOfText (nm y) t = .error e

/-- the result `r` of the model is what the abstract outcome `o` stands for -/
def Match (g : Graph) (nm : Name → LibName) (files : List (String × FileEntry)) (dir : String) (o : Outcome)
    (r : Except SErr (List (String × Value))) : Prop :=
  match o with
  | .ok => r = .ok []
  | o => ∃ e, r = .error e ∧ MatchErr g nm files dir o e

theorem Describes.step {g nm st st' roots} (h : Describes g nm st) (s : Step st st' roots) :
    Describes g nm st' := by
  have hff := s.factoryFor_eq
  have hfl : ∀ p, st'.files.lookup (fileKey st'.dir p) = st.files.lookup (fileKey st.dir p) := fun p => by
    rw [s.base.files, s.base.dir]
  have keep : ∀ n, factoryFor st n = none → libLookup st'.factories n = none := fun n hn => by
    have := (hff n).trans hn
    unfold factoryFor at this
    split at this
    · cases this
    · assumption
  refine ⟨h.inj, fun x deps hx => by rw [hff]; exact h.healthy x deps hx,
    fun x deps hx => by rw [hff]; exact h.faulty x deps hx, fun x hx => ?_, fun x hx => ?_, fun x hx => ?_⟩
  · obtain ⟨h1, h2⟩ := h.missing x hx
    exact ⟨keep _ (by simp only [factoryFor, h1, h2]), (hfl _).trans h2⟩
  · obtain ⟨h1, h2⟩ := h.unreadable x hx
    exact ⟨keep _ (by simp only [factoryFor, h1, h2]), (hfl _).trans h2⟩
  · obtain ⟨h1, t, e, h2, h3⟩ := h.malformed x hx
    exact ⟨keep _ (by simp only [factoryFor, h1, h2, h3]), t, e, (hfl _).trans h2, h3⟩

/-! ## the layers between two loads -/

theorem libraryDef_import_error {k : Nat} {st s : State} {sets : List ImportSet} {tail : List LibDecl} {e : SErr}
    (h : evalImportSets k { st with store := (st.store.newFrame none).2 } sets [] = (.error e, s)) :
    evalLibraryDef (k + 3) st (.importDecl sets :: tail) = (.error e, s) := by
  rw [evalLibraryDef_succ_eq, evalLibDecls, evalImport, h]

theorem libraryDef_healthy {k : Nat} {st s : State} {sets : List ImportSet}
    (h : evalImportSets (k + 1) { st with store := (st.store.newFrame none).2 } sets [] = (.ok [], s)) :
    evalLibraryDef (k + 4) st [.importDecl sets, .export []] = (.ok [], s) := by
  rw [evalLibraryDef_succ_eq, evalLibDecls, evalImport, h]
  rfl

theorem libraryDef_faulty {k : Nat} {st s : State} {sets : List ImportSet}
    (h : evalImportSets (k + 3) { st with store := (st.store.newFrame none).2 } sets [] = (.ok [], s)) :
    evalLibraryDef (k + 6) st [.importDecl sets, .begin_ faultyBody] = (.error (.nonProcedure, none), s) := by
  rw [evalLibraryDef_succ_eq, evalLibDecls, evalImport, h]
  simp only [List.foldl_nil]
  rw [evalLibDecls]
  simp [faultyBody, evalStatements, evalExprOrDef, Eval.evalExpr, Eval.evalPrim, Eval.evalArgs,
    Eval.procArity, Expr.loc]

theorem getLibrary_of_factoryFor {k : Nat} {st : State} {n : LibName} {loc : Loc} {f : Factory}
    (hi : libLookup st.instances n = none) (hf : factoryFor st n = some f) :
    let st1 := (findFactory st n loc).2
    Step st st1 [n] ∧ st1 = { st with factories := st1.factories } ∧ factoryFor st1 n = some f ∧
      Interp.getLibrary (k + 1) st n loc = cacheInstance n (newLibrary k st1 f) := by
  obtain ⟨st1, hfind, hsame⟩ := findFactory_of_factoryFor loc hf
  obtain ⟨hs, -, hfac, -⟩ := findFactory_step hi hfind
  simp only [hfind]
  refine ⟨hs, hsame, hfac f rfl, ?_⟩
  rw [getLibrary_succ_eq, hi]
  simp only [hfind]
  rfl

/-! ## moving the correspondence along -/

theorem Describes.congr {g nm} {st st' : State} (h : Describes g nm st)
    (hf : st'.factories = st.factories) (hfl : st'.files = st.files)
    (hdr : st'.dir = st.dir := by rfl) : Describes g nm st' := by
  have hff : ∀ m, factoryFor st' m = factoryFor st m := factoryFor_congr hf hfl hdr
  exact ⟨h.inj, fun x d hx => by rw [hff]; exact h.healthy x d hx,
    fun x d hx => by rw [hff]; exact h.faulty x d hx,
    fun x hx => by rw [hf, hfl, hdr]; exact h.missing x hx,
    fun x hx => by rw [hf, hfl, hdr]; exact h.unreadable x hx,
    fun x hx => by rw [hf, hfl, hdr]; exact h.malformed x hx⟩

theorem Corr.push {g nm c path} {st : State} (h : Corr g nm ⟨c, path⟩ st) (x : Name) :
    Corr g nm ⟨c, x :: path⟩ { st with inProgress := nm x :: st.inProgress } :=
  ⟨h.desc.congr rfl rfl, h.cache, h.empty, by simp [h.ip]⟩

theorem Corr.pop {g nm c c' path path'} {st s : State} (h : Corr g nm ⟨c', path'⟩ s)
    (h0 : Corr g nm ⟨c, path⟩ st) : Corr g nm ⟨c', path⟩ { s with inProgress := st.inProgress } :=
  ⟨h.desc.congr rfl rfl, h.cache, h.empty, h0.ip⟩

/-- the library of `x` was instantiated (to the empty export list) -/
theorem Corr.cached {g nm c' path'} {s : State} (h : Corr g nm ⟨c', path'⟩ s) (x : Name) :
    Corr g nm ⟨x :: c', path'⟩ { s with instances := libInsert s.instances (nm x) [] } := by
  refine ⟨h.desc.congr rfl rfl, fun y => ?_, fun y d hy => ?_, h.ip⟩
  · by_cases hy : y = x
    · subst hy; simp [libLookup_libInsert_self]
    · have hne : nm y ≠ nm x := fun e => hy (h.desc.inj _ _ e)
      simp only [List.mem_cons, hy, false_or, libLookup_libInsert_ne _ _ hne]
      exact h.cache y
  · rcases libLookup_libInsert_some hy with ⟨-, rfl⟩ | hy
    · rfl
    · exact h.empty y d hy

theorem Corr.step {g nm ls roots} {st st' : State} (h : Corr g nm ls st) (s : Step st st' roots)
    (hi : st'.instances = st.instances) : Corr g nm ls st' :=
  ⟨h.desc.step s, by rw [hi]; exact h.cache, by rw [hi]; exact h.empty, by rw [s.base.inProgress]; exact h.ip⟩

theorem Corr.store {g nm ls} {st : State} (h : Corr g nm ls st) (σ : Store) :
    Corr g nm ls { st with store := σ } :=
  ⟨h.desc.congr rfl rfl, h.cache, h.empty, h.ip⟩

theorem mem_ip_iff {g nm c path} {st : State} (h : Corr g nm ⟨c, path⟩ st) (x : Name) :
    nm x ∈ st.inProgress ↔ x ∈ path := by
  rw [h.ip]
  simp only [List.mem_map]
  constructor
  · rintro ⟨y, hy, e⟩; rw [← h.desc.inj _ _ e]; exact hy
  · intro hx; exact ⟨x, hx, rfl⟩

theorem Corr.not_cached {g nm c path} {st : State} (h : Corr g nm ⟨c, path⟩ st) {x : Name} (hxc : x ∉ c) :
    libLookup st.instances (nm x) = none :=
  Option.eq_none_iff_forall_ne_some.2 fun d hd => hxc ((h.cache x).2 ⟨d, hd⟩)

/-! ## the simulation -/

/-- model fuel that suffices for abstract fuel `fa` when no node has more than `D` dependencies. `D + 10` for
a node visited, not tight: five calls take a unit each before `evalImportSets` gets at the dependencies, which
takes one for each and one more, and a faulting body must still run with what is left. -/
def modelFuel (D fa : Nat) : Nat := fa * (D + 10)

section sim
variable (g : Graph) (nm : Name → LibName) (files : List (String × FileEntry)) (dir : String)

/-- the abstract visit of `x` with result `res` is simulated by the model with fuel `m0` or more: the
import of `(nm x)` has the outcome `res` stands for, and the states correspond again afterwards -/
def Sim (m0 : Nat) (c path : List Name) (x : Name) (res : Outcome × List Name) : Prop :=
  ∀ m, m0 ≤ m → ∀ (st : State) (loc : Loc), Corr g nm ⟨c, path⟩ st → st.files = files ∧ st.dir = dir →
    res.1 ≠ .fuel →
    ∃ r st', evalImportSet m st (.direct (nm x) loc) = (r, st') ∧ Match g nm files dir res.1 r ∧
      Corr g nm ⟨res.2, path⟩ st' ∧ st'.files = files ∧ st'.dir = dir

/-- the same for the visit of the dependencies `deps`, imported by one declaration -/
def SimList (m0 : Nat) (c path deps : List Name) (res : Outcome × List Name) : Prop :=
  ∀ k, m0 + deps.length + 1 ≤ k → ∀ (st : State), Corr g nm ⟨c, path⟩ st → st.files = files ∧ st.dir = dir →
    res.1 ≠ .fuel →
    ∃ r st', evalImportSets k st (depSets nm deps) [] = (r, st') ∧ Match g nm files dir res.1 r ∧
      Corr g nm ⟨res.2, path⟩ st' ∧ st'.files = files ∧ st'.dir = dir

end sim

theorem match_ok_iff {g nm files dir o r} (h : Match g nm files dir o r) (ho : o = .ok) : r = .ok [] := by
  subst ho; exact h

theorem match_err {g nm files dir o r} (h : Match g nm files dir o r) (ho : o ≠ .ok) :
    ∃ e, r = .error e ∧ MatchErr g nm files dir o e := by
  cases o <;> first | exact absurd rfl ho | exact h

theorem match_of_err {g nm files dir o e} (h : MatchErr g nm files dir o e) (ho : o ≠ .ok) :
    Match g nm files dir o (.error e) := by
  cases o <;> first | exact absurd rfl ho | exact ⟨e, rfl, h⟩

variable {g : Graph} {nm : Name → LibName} {files : List (String × FileEntry)} {dir : String}

theorem simList_nil (m0 : Nat) (c path : List Name) : SimList g nm files dir m0 c path [] (.ok, c) := by
  intro k hk st hc hf _
  obtain ⟨k, rfl⟩ := Nat.exists_eq_add_of_le' (Nat.le_trans (Nat.le_add_left ..) hk)
  exact ⟨.ok [], st, by rw [depSets, List.map_nil, evalImportSets], rfl, hc, hf⟩

theorem simList_cons {m0 : Nat} {c path : List Name} {d : Name} {ds c' : List Name} {res : Outcome × List Name}
    (h1 : Sim g nm files dir m0 c path d (.ok, c')) (h2 : SimList g nm files dir m0 c' path ds res) :
    SimList g nm files dir m0 c path (d :: ds) res := by
  intro k hk st hc hf hne
  obtain ⟨k, rfl⟩ := Nat.exists_eq_add_of_le' (Nat.le_trans (Nat.le_add_left ..) hk)
  replace hk : m0 + ds.length + 1 ≤ k := Nat.le_of_succ_le_succ hk
  obtain ⟨r1, st1, e1, m1, c1, f1⟩ :=
    h1 k (Nat.le_trans (Nat.le_add_right ..) (Nat.le_of_succ_le hk)) st none hc hf nofun
  obtain rfl : r1 = .ok [] := m1
  obtain ⟨r, st', e2, m2⟩ := h2 k hk st1 c1 f1 hne
  refine ⟨r, st', ?_, m2⟩
  rw [depSets, List.map_cons, evalImportSets_cons_eq, e1]
  exact e2

theorem simList_stop {m0 : Nat} {c path : List Name} {d : Name} (ds : List Name) {e : Outcome} {c' : List Name}
    (he : e ≠ .ok) (h1 : Sim g nm files dir m0 c path d (e, c')) :
    SimList g nm files dir m0 c path (d :: ds) (e, c') := by
  intro k hk st hc hf hne
  obtain ⟨k, rfl⟩ := Nat.exists_eq_add_of_le' (Nat.le_trans (Nat.le_add_left ..) hk)
  obtain ⟨r1, st1, e1, m1, c1, f1⟩ :=
    h1 k (Nat.le_trans (Nat.le_add_right ..) (Nat.le_of_succ_le_succ hk)) st none hc hf hne
  obtain ⟨e', rfl, he'⟩ := match_err m1 he
  refine ⟨.error e', st1, ?_, match_of_err he' he, c1, f1⟩
  rw [depSets, List.map_cons, evalImportSets_cons_eq, e1]

theorem finishHealthy_ok {x : Name} {c' : List Name} : finishHealthy x (.ok, c') = (.ok, x :: c') := rfl
theorem finishFaulty_ok {c' : List Name} : finishFaulty (.ok, c') = (.fault, c') := rfl

/-- a node with a source factory: when the visit of its dependencies is simulated, so is its own -/
theorem sim_source {m0 D : Nat} {c path : List Name} {x : Name} {deps : List Name} {decls : List LibDecl}
    {finish : Outcome × List Name → Outcome × List Name} {res : Outcome × List Name}
    (hk : (decls = healthyDecls nm deps ∧ finish = finishHealthy x) ∨
      (decls = faultyDecls nm deps ∧ finish = finishFaulty)) (hx : x ∉ path) (hxc : x ∉ c) (hlen : deps.length ≤ D)
    (hfac : ∀ st, Describes g nm st → factoryFor st (nm x) = some (.ast decls))
    (hdeps : SimList g nm files dir m0 c (x :: path) deps res) :
    Sim g nm files dir (m0 + D + 10) c path x (finish res) := by
  intro m hm st loc hc hf hne
  -- what the two kinds share: an error of the imports is the definition's, and `finish` hands an error on
  have merr : ∀ (k : Nat) (st s : State) (e : SErr),
      evalImportSets (k + 3) { st with store := (st.store.newFrame none).2 } (depSets nm deps) [] = (.error e, s) →
      evalLibraryDef (k + 6) st decls = (.error e, s) := fun k _ _ _ h => by
    rcases hk with ⟨rfl, -⟩ | ⟨rfl, -⟩ <;> exact libraryDef_import_error (k := k + 3) h
  have ferr : ∀ e c', e ≠ .ok → finish (e, c') = (e, c') := fun _ _ he => by
    rcases hk with ⟨-, rfl⟩ | ⟨-, rfl⟩
    · exact finishHealthy_err he
    · exact finishFaulty_err he
  obtain ⟨j, rfl⟩ := Nat.exists_eq_add_of_le' (Nat.le_trans (Nat.le_add_left 8 (m0 + D + 2)) hm)
  have hip : nm x ∉ st.inProgress := fun h => hx ((mem_ip_iff hc x).1 h)
  have hc1 := hc.push x
  have h4 := getLibrary_of_factoryFor (k := j + 6) (loc := loc) (hc1.not_cached hxc)
    (show factoryFor { st with inProgress := nm x :: st.inProgress } (nm x) = some (.ast decls) from hfac st hc.desc)
  dsimp only at h4
  generalize (findFactory { st with inProgress := nm x :: st.inProgress } (nm x) loc).2 = st1 at h4
  obtain ⟨hs1, hsame1, hfac1, hget⟩ := h4
  have hc1' : Corr g nm ⟨c, x :: path⟩ st1 := hc1.step hs1 (by rw [hsame1])
  have hf1 : st1.files = files ∧ st1.dir = dir := ⟨by rw [hs1.base.files]; exact hf.1, by rw [hs1.base.dir]; exact hf.2⟩
  have hc0 := hc1'.store (st1.store.newFrame none).2
  obtain ⟨o, c'⟩ := res
  have hne' : o ≠ .fuel := fun h => hne (by rw [h, ferr .fuel c' nofun])
  obtain ⟨r, s', hev, hmatch, hcs', hfs'⟩ := hdeps (j + 3) (by omega)
    { st1 with store := (st1.store.newFrame none).2 } hc0 hf1 hne'
  rw [evalImportSet_direct_eq hip, hget]
  simp only [newLibrary]
  by_cases ho : o = .ok
  · subst ho
    have hr : r = .ok [] := hmatch
    subst hr
    rcases hk with ⟨rfl, rfl⟩ | ⟨rfl, rfl⟩
    · rw [show evalLibraryDef (j + 6) st1 (healthyDecls nm deps) = _ from libraryDef_healthy (k := j + 2) hev]
      exact ⟨_, _, rfl, rfl, (hcs'.cached x).pop hc, hfs'⟩
    · rw [show evalLibraryDef (j + 6) st1 (faultyDecls nm deps) = _ from libraryDef_faulty (k := j) hev]
      exact ⟨_, _, rfl, ⟨_, rfl, rfl⟩, hcs'.pop hc, hfs'⟩
  · obtain ⟨e, rfl, he⟩ := match_err hmatch ho
    rw [merr j st1 s' e hev, ferr o c' ho]
    exact ⟨_, _, rfl, match_of_err he ho, hcs'.pop hc, hfs'⟩

theorem sim_leaf {m0 : Nat} {c path : List Name} {x : Name} {o : Outcome} (h2 : 2 ≤ m0) (hx : x ∉ path)
    (hxc : x ∉ c) (ho : o ≠ .ok)
    (h : ∀ (k : Nat) (st : State) (loc : Loc), Corr g nm ⟨c, path⟩ st → st.files = files ∧ st.dir = dir →
      libLookup st.instances (nm x) = none → ∃ e, MatchErr g nm files dir o e ∧
        Interp.getLibrary (k + 1) { st with inProgress := nm x :: st.inProgress } (nm x) loc =
          (.error e, { st with inProgress := nm x :: st.inProgress })) :
    Sim g nm files dir m0 c path x (o, c) := by
  intro m hm st loc hc hf _
  obtain ⟨j, rfl⟩ := Nat.exists_eq_add_of_le' (Nat.le_trans h2 hm)
  have hip : nm x ∉ st.inProgress := fun h => hx ((mem_ip_iff hc x).1 h)
  obtain ⟨e, he, hget⟩ := h j st loc hc hf (hc.not_cached hxc)
  exact ⟨.error e, st, direct_error hip hget, match_of_err he ho, hc, hf⟩

theorem simAt {D : Nat} (hD : ∀ x, (g.node x).deps.length ≤ D) (fa : Nat) (c path : List Name) (x : Name) :
    Sim g nm files dir (modelFuel D fa) c path x (dfs fa g c path x) := by
  have succ : ∀ n, modelFuel D (n + 1) = modelFuel D n + D + 10 := fun n =>
    (Nat.succ_mul ..).trans (Nat.add_assoc ..).symm
  have two : ∀ n, 2 ≤ modelFuel D (n + 1) := fun n => succ n ▸ Nat.le_trans (by decide) (Nat.le_add_left 10 _)
  exact dfs_rule g (P := fun n c p x res => Sim g nm files dir (modelFuel D n) c p x res)
    (PL := fun n c p deps res => SimList g nm files dir (modelFuel D n) c p deps res)
    (nil := fun n c p => simList_nil _ c p)
    (cons := fun _ _ _ _ _ _ _ _ h1 h2 => simList_cons h1 h2)
    (stop := fun _ _ _ _ ds _ _ _ he h1 => simList_stop ds he h1)
    (fuel := fun _ _ _ _ _ _ _ _ _ hne => absurd rfl hne)
    (cyclic := fun n c p x hx m hm st loc hc hf _ => by
      obtain ⟨j, rfl⟩ := Nat.exists_eq_add_of_le' (Nat.le_trans (Nat.le_of_succ_le (two n)) hm)
      refine ⟨.error (.cyclic, loc), st, ?_, ⟨_, rfl, rfl⟩, hc, hf⟩
      exact direct_cyclic ((mem_ip_iff hc x).2 hx))
    (cached := fun n c p x hx hxc m hm st loc hc hf _ => by
      obtain ⟨j, rfl⟩ := Nat.exists_eq_add_of_le' (Nat.le_trans (two n) hm)
      obtain ⟨d, hd⟩ := (hc.cache x).1 hxc
      obtain rfl := hc.empty x d hd
      exact ⟨.ok [], st, direct_cached (fun h => hx ((mem_ip_iff hc x).1 h)) hd, rfl, hc, hf⟩)
    (missing := fun n c p x hx hxc hn => sim_leaf (two n) hx hxc nofun fun k st loc hc _ hi0 =>
      have ⟨h1, h2⟩ := hc.desc.missing x hn
      ⟨(.libNotFound, loc), rfl, getLibrary_no_file (st := { st with inProgress := nm x :: st.inProgress }) hi0 h1 h2⟩)
    (unreadable := fun n c p x hx hxc hn => sim_leaf (two n) hx hxc nofun fun k st loc hc _ hi0 =>
      have ⟨h1, h2⟩ := hc.desc.unreadable x hn
      ⟨(.io, none), rfl,
        getLibrary_unreadable_file (st := { st with inProgress := nm x :: st.inProgress }) hi0 h1 h2⟩)
    (malformed := fun n c p x hx hxc hn => sim_leaf (two n) hx hxc nofun fun k st loc hc hf hi0 =>
      have ⟨h1, t, e, h2, h3⟩ := hc.desc.malformed x hn
      ⟨e, ⟨x, t, hn, by rw [← hf.1, ← hf.2]; exact h2, h3⟩,
        getLibrary_bad_file (st := { st with inProgress := nm x :: st.inProgress }) hi0 h1 h2 h3⟩)
    (healthy := fun n c p x deps res hx hxc hn _ ih => by
      rw [succ]
      exact sim_source (.inl ⟨rfl, rfl⟩) hx hxc (by have := hD x; rwa [hn] at this)
        (fun st hd => hd.healthy x deps hn) ih)
    (faulty := fun n c p x deps res hx hxc hn _ ih => by
      rw [succ]
      exact sim_source (.inr ⟨rfl, rfl⟩) hx hxc (by have := hD x; rwa [hn] at this)
        (fun st hd => hd.faulty x deps hn) ih)
    fa c path x

end Interp
end Ruschm
