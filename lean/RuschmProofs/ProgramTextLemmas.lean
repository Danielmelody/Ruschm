/-
A whole program TEXT, read and transformed form by form by `Interp.evalText`, is the run of its STATEMENTS (`runStmts`)
up to locations: `formsText_sameRun`. The hypothesis is on the writer's side — `PrintsAs`: location-free data that the
transformer turns into the statements; what the reader makes of their text satisfies `ReadsAs`, and forms that read as
statements run as them (`runForms_readsAs`).
-/
import RuschmProofs.UnlocFront
import RuschmProofs.C06
import RuschmProofs.C01More
import RuschmProofs.C12More
import RuschmProofs.LibMoreLemmas
import RuschmProofs.ErrLemmas


namespace Ruschm.ProgramText
open Ruschm Ruschm.Interp Ruschm.Front Ruschm.FrontSpec Ruschm.Xform Ruschm.CoreSyntax Ruschm.Text
open Ruschm.Eval (NotFuel)

/-! ## vocabulary -/

/-- the first error ends the run; `last` is the value so far -/
def runStmts (fuel : Nat) : State → List Statement → Option Value → Except SErr (Option Value) × State
  | st, [], last => (.ok last, st)
  | st, s :: ss, _ =>
    match evalAst fuel st s with
    | (.error e, st') => (.error e, st')
    | (.ok v, st') => runStmts fuel st' ss v

def AllOk (fuel : Nat) : State → List Statement → Prop
  | _, [] => True
  | st, s :: ss => ∃ v st', evalAst fuel st s = (.ok v, st') ∧ AllOk fuel st' ss

def printStmt : Statement → Datum
  | .importDecl sets _ => ImportSyntax.renderImport sets
  | .expr e => renderStmt (.expr e)
  | .definition d => renderStmt (.definition d)
  | _ => .nil none

/-- no operator is a variable spelled like the keyword of a special form or a macro (`CoreSyntax.coreStmt`); the import
sets can be written (`ImportSyntax.WF`) -/
def okStmt (isMacro : String → Bool) : Statement → Prop
  | .importDecl sets _ => ∀ t ∈ sets, ImportSyntax.WF t
  | .expr e => coreStmt isMacro (.expr e) = true
  | .definition d => coreStmt isMacro (.definition d) = true
  | _ => False

def formsToks (ps : List Datum) : List Token := Syn.toksL (ps.map Syn.ofDatum)

/-- a layout: the blanks, line ends and comments before, between and after the tokens -/
def formsText (ps : List Datum) (layout : List (List Char)) : List Char :=
  interleave (formsToks ps) layout

def programToks (sts : List Statement) : List Token := formsToks (sts.map printStmt)

def programText (sts : List Statement) (layout : List (List Char)) : List Char :=
  formsText (sts.map printStmt) layout

/-- the data `ps` are a way of WRITING the statements `sts`: they carry no locations, and the transformer turns each
into its statement. The writer's side; what the reader returns satisfies `ReadsAs` (`readsAs_of_printsAs`). -/
def PrintsAs (syn : SynEnv) : List Datum → List Statement → Prop
  | [], [] => True
  | p :: ps, s :: ss =>
    (p.strip = p ∧ toStatement (xformFuel p) p syn = (.ok s.unloc, syn)) ∧ PrintsAs syn ps ss
  | _, _ => False

/-- as `PrintsAs`, but the data may carry locations (they are what the reader returns), and so do the statements made
of them -/
def ReadsAs (syn : SynEnv) : List Datum → List Statement → Prop
  | [], [] => True
  | d :: ds, s :: ss =>
    (∃ s', toStatement (xformFuel d) d syn = (.ok s', syn) ∧ s'.unloc = s.unloc) ∧ ReadsAs syn ds ss
  | _, _ => False

/-! ## the tokens of a program, form by form -/

/-- in namespace `TextExtent` because the statements of `C15More` name it there -/
def _root_.Ruschm.TextExtent.stmtToks (s : Statement) : List Token := (Syn.ofDatum (printStmt s)).toks

theorem toksL_flatten : ∀ (xs : List Syn), Syn.toksL xs = (xs.map Syn.toks).flatten
  | [] => by simp [Syn.toksL]
  | x :: xs => by simp [Syn.toksL, toksL_flatten xs]

theorem programToks_flatten (sts : List Statement) : programToks sts = (sts.map TextExtent.stmtToks).flatten := by
  unfold programToks formsToks
  rw [toksL_flatten]
  simp only [List.map_map, Function.comp_def]
  rfl

theorem programToks_append (a b : List Statement) :
    programToks (a ++ b) = programToks a ++ programToks b := by
  simp only [programToks_flatten, List.map_append, List.flatten_append]

theorem programToks_cons (s : Statement) (ss : List Statement) :
    programToks (s :: ss) = TextExtent.stmtToks s ++ programToks ss := rfl

theorem programToks_nil : programToks [] = [] := rfl

theorem stmtToks_ne_nil (s : Statement) : TextExtent.stmtToks s ≠ [] := toks_ne_nil _

/-! ## a core statement is a program statement -/

theorem okStmt_of_core {M : String → Bool} {s : Statement} (h : coreStmt M s = true) : okStmt M s := by
  cases s <;> first | exact h | simp [coreStmt] at h

theorem printStmt_of_core {M : String → Bool} {s : Statement} (h : coreStmt M s = true) :
    printStmt s = renderStmt s := by
  cases s <;> first | rfl | simp [coreStmt] at h

theorem default_macros (b : Bool) : C01More.macroOf (default_ b).syn = C01More.isStdMacro :=
  funext C01More.std_macros

theorem stdlib_macros (fuel : Nat) (b : Bool) : C01More.macroOf (withStdlib fuel b).syn = C01More.isStdMacro := by
  rw [withStdlib_syn]
  exact funext C01More.std_macros

/-! ## the printed forms carry no location, and are read back -/

theorem strip_renderSet (t : ImportSet) (h : ImportSyntax.WF t) :
    (ImportSyntax.renderSet t).strip = ImportSyntax.renderSet t := by
  have := ImportSyntax.strip_of_accepts_strict (ImportSyntax.accepts_render t h)
  rw [ImportSyntax.renderSet_unloc, ImportSyntax.renderSet_unloc] at this
  exact this

theorem strip_renderImport (sets : List ImportSet) (h : ∀ t ∈ sets, ImportSyntax.WF t) :
    (ImportSyntax.renderImport sets).strip = ImportSyntax.renderImport sets := by
  unfold ImportSyntax.renderImport ImportSyntax.lst
  rw [Datum.strip_ofList]
  congr 1
  simp only [List.map_cons, List.map_map]
  congr 1
  apply List.map_congr_left
  intro t ht
  exact strip_renderSet t (h t ht)

theorem located_of_stripped {d d0 : Datum} {syn : SynEnv} {s0 : Statement} (hd : d.strip = d0)
    (h : toStatement (xformFuel d0) d0 syn = (.ok s0, syn)) :
    ∃ s', toStatement (xformFuel d) d syn = (.ok s', syn) ∧ s'.unloc = s0 := by
  subst hd
  rw [xformFuel_strip] at h
  exact toStatement_of_strip h

theorem printed_prints (syn : SynEnv) (s : Statement) (hok : okStmt (C01More.macroOf syn) s) :
    (printStmt s).strip = printStmt s ∧
      toStatement (xformFuel (printStmt s)) (printStmt s) syn = (.ok s.unloc, syn) := by
  cases s with
  | importDecl sets l => exact ⟨strip_renderImport sets hok, C12More.importDecl_roundtrip_top sets hok syn⟩
  | expr e => exact ⟨C01More.render_location_free (.expr e), C01More.transform_render_fuel _ syn hok⟩
  | definition df => exact ⟨C01More.render_location_free (.definition df), C01More.transform_render_fuel _ syn hok⟩
  | _ => exact hok.elim

theorem printsAs_printStmt (syn : SynEnv) : ∀ (sts : List Statement),
    (∀ s ∈ sts, okStmt (C01More.macroOf syn) s) → PrintsAs syn (sts.map printStmt) sts
  | [], _ => trivial
  | s :: ss, hok =>
    ⟨printed_prints syn s (hok s (by simp)), printsAs_printStmt syn ss (fun s' hs' => hok s' (by simp [hs']))⟩

theorem printsAs_strip (syn : SynEnv) : ∀ (ps : List Datum) (sts : List Statement),
    PrintsAs syn ps sts → ps.map Datum.strip = ps := by
  intro ps sts h
  fun_induction PrintsAs syn ps sts with
  | case1 => rfl
  | case2 p ps s ss ih => simp only [List.map_cons, h.1.1, ih h.2]
  | case3 => exact h.elim

theorem printsAs_length (syn : SynEnv) : ∀ (ps : List Datum) (sts : List Statement),
    PrintsAs syn ps sts → ps.length = sts.length := by
  intro ps sts h
  fun_induction PrintsAs syn ps sts with
  | case1 => rfl
  | case2 p ps s ss ih => simp only [List.length_cons, ih h.2]
  | case3 => exact h.elim

theorem readsAs_of_printsAs (syn : SynEnv) : ∀ (ds ps : List Datum) (sts : List Statement),
    ds.map Datum.strip = ps → PrintsAs syn ps sts → ReadsAs syn ds sts := by
  intro ds ps sts hd h
  fun_induction PrintsAs syn ps sts generalizing ds with
  | case1 => cases List.map_eq_nil_iff.1 hd; trivial
  | case2 p ps s ss ih =>
    obtain ⟨d, ds, rfl, hd1, hd2⟩ := List.map_eq_cons_iff.1 hd
    exact ⟨located_of_stripped hd1 h.1.2, ih ds hd2 h.2⟩
  | case3 => exact h.elim

/-! ## the text of a sequence of location-free data is read as these data -/

theorem supportedL_ofDatums (ds : List Datum) (h : ∀ d ∈ ds, SupportedD d) : Syn.SupportedL (ds.map Syn.ofDatum) :=
  ofDatums_eq_map ds ▸ ofDatums_supported ds (supportedDs_iff.2 h)

theorem forms_of_formsText (ps : List Datum) (layout : List (List Char))
    (hsup : ∀ p ∈ ps, SupportedD p) (hl : ValidLayout (formsToks ps) layout) :
    (formsOf (formsText ps layout)).1.map Datum.strip = ps.map Datum.strip ∧
      (formsOf (formsText ps layout)).2 = none := by
  obtain ⟨h1, h2⟩ := C06.read_render_many _ (supportedL_ofDatums ps hsup) layout hl
  refine ⟨?_, h2⟩
  unfold formsOf formsText formsToks
  rw [h1, List.map_map]
  apply List.map_congr_left
  intro s hs
  simp only [Function.comp]
  rw [ofDatum_denote]

/-! ## forms that read as statements run as these statements -/

theorem unlocList_cons (x : Statement) (xs : List Statement) :
    Statement.unlocList (x :: xs) = x.unloc :: Statement.unlocList xs := by
  simp [Statement.unlocList]

/-- `sts'` are the statements the transformer returns along the loop -/
theorem runForms_readsAs (fuel : Nat) : ∀ (ds : List Datum) (sts : List Statement) (st : State)
    (last : Option Value), ReadsAs st.syn ds sts →
    ∃ sts', Statement.unlocList sts' = Statement.unlocList sts ∧
      runForms fuel st ds last = runStmts fuel st sts' last
  | [], [], st, last, _ => ⟨[], rfl, rfl⟩
  | d :: ds, s :: ss, st, last, h => by
    obtain ⟨⟨s', h1, h2⟩, hrest⟩ := h
    have hf : evalForm fuel st d = evalAst fuel st s' := evalForm_ok h1
    rcases hx : evalAst fuel st s' with ⟨e | v, st'⟩
    · refine ⟨s' :: ss, by rw [unlocList_cons, unlocList_cons, h2], ?_⟩
      rw [runForms, runStmts, hf, hx]
    · have hsyn : st'.syn = st.syn := (evalAst_out hx).2.1
      obtain ⟨sts'', h3, h4⟩ := runForms_readsAs fuel ds ss st' v (hsyn ▸ hrest)
      refine ⟨s' :: sts'', by rw [unlocList_cons, unlocList_cons, h2, h3], ?_⟩
      rw [runForms, runStmts, hf, hx]; exact h4
  | [], _ :: _, _, _, h | _ :: _, [], _, _, h => h.elim

/-! ## statements equal up to locations run alike up to locations -/

theorem evalAst_unloc_congr (fuel : Nat) {st₁ st₂ : State} {a b : Statement}
    (hs : a.unloc = b.unloc) (hst : st₁.unloc = st₂.unloc) :
    IU (Option.map Value.unloc) (evalAst fuel st₁ a) = IU (Option.map Value.unloc) (evalAst fuel st₂ b) := by
  rw [← evalAst_unloc fuel st₁ a, ← evalAst_unloc fuel st₂ b, hs, hst]

theorem evalAst_sameRun (fuel : Nat) {st₁ st₂ : State} {a b : Statement}
    (hs : a.unloc = b.unloc) (hst : st₁.unloc = st₂.unloc) : SameRun (evalAst fuel st₁ a) (evalAst fuel st₂ b) :=
  sameRun_of_IU (evalAst_unloc_congr fuel hs hst)

theorem runStmts_unloc (fuel : Nat) : ∀ (as bs : List Statement) (st₁ st₂ : State) (l₁ l₂ : Option Value),
    Statement.unlocList as = Statement.unlocList bs → st₁.unloc = st₂.unloc →
    l₁.map Value.unloc = l₂.map Value.unloc →
    IU (Option.map Value.unloc) (runStmts fuel st₁ as l₁) = IU (Option.map Value.unloc) (runStmts fuel st₂ bs l₂)
  | [], [], st₁, st₂, l₁, l₂, _, hst, hl => by simp only [runStmts, IU_ok, hst, hl]
  | a :: as, b :: bs, st₁, st₂, l₁, l₂, h, hst, hl => by
    rw [unlocList_cons, unlocList_cons] at h
    simp only [List.cons.injEq] at h
    rcases (evalAst_sameRun fuel h.1 hst).cases with
      ⟨v₁, v₂, s₁, s₂, h1, h2, h3, h4⟩ | ⟨k, l₁, l₂, s₁, s₂, h1, h2, h4⟩
    · simp only [runStmts, h1, h2]
      exact runStmts_unloc fuel as bs s₁ s₂ v₁ v₂ h.2 h4 h3
    · simp only [runStmts, h1, h2, IU_error, h4, SErr.unloc_mk]
  | [], _ :: _, _, _, _, _, h, _, _ | _ :: _, [], _, _, _, _, h, _, _ => by simp [Statement.unlocList] at h

/-! ## facts about `runStmts` -/

theorem runStmts_append (fuel : Nat) (pre rest : List Statement) : ∀ (st : State) (last : Option Value),
    runStmts fuel st (pre ++ rest) last =
      match runStmts fuel st pre last with
      | (.error e, st') => (.error e, st')
      | (.ok v, st') => runStmts fuel st' rest v := by
  intro st last
  fun_induction runStmts fuel st pre last with
  | case1 => rfl
  | case2 st s ss _ e st' hx => simp only [List.cons_append, runStmts, hx]
  | case3 st s ss _ v st' hx ih => simp only [List.cons_append, runStmts, hx, ih]

theorem runStmts_ok_iff_allOk (fuel : Nat) : ∀ (sts : List Statement) (st : State) (last : Option Value),
    (∃ v, (runStmts fuel st sts last).1 = .ok v) ↔ AllOk fuel st sts := by
  intro sts st last
  fun_induction runStmts fuel st sts last with
  | case1 _ last => exact ⟨fun _ => trivial, fun _ => ⟨last, rfl⟩⟩
  | case2 st s ss _ e st' hx =>
    exact ⟨fun ⟨_, h⟩ => (nomatch h), fun ⟨_, _, h, _⟩ => (nomatch hx.symm.trans h)⟩
  | case3 st s ss _ v st' hx ih =>
    rw [ih]
    exact ⟨fun h => ⟨v, st', hx, h⟩, fun ⟨_, _, h, h'⟩ => by cases hx.symm.trans h; exact h'⟩

theorem runStmts_out (fuel : Nat) (sts : List Statement) : ∀ (st : State) (last : Option Value),
    OutExt st.store (runStmts fuel st sts last).2.store := by
  intro st last
  fun_induction runStmts fuel st sts last with
  | case1 => exact .refl _
  | case2 st s ss _ e st' hx => exact (evalAst_out hx).1
  | case3 st s ss _ v st' hx ih => exact (evalAst_out hx).1.trans ih

theorem runStmts_syn (fuel : Nat) (sts : List Statement) (st : State) (last : Option Value) :
    (runStmts fuel st sts last).2.syn = st.syn := by
  fun_induction runStmts fuel st sts last with
  | case1 => rfl
  | case2 st s ss _ e st' hx => exact (evalAst_out hx).2.1
  | case3 st s ss _ v st' hx ih => exact ih.trans (evalAst_out hx).2.1

/-! ## two closed statements, for the `example`s -/

/-- the statement `(1)` fails in every state: the operator is not a procedure -/
theorem lit_call_fails (st : State) : ∃ loc st₂,
    evalAst 2 st (.expr (.call (.prim (.int 1) none) [] none)) = (.error (.nonProcedure, loc), st₂) := by
  rw [evalAst_expr]
  simp [Eval.evalExpr, Eval.evalArgs, Eval.evalPrim, Eval.procArity]

/-- the statement `1` evaluates to `1` in every state -/
theorem lit_one_evals (st : State) :
    evalAst 1 st (.expr (.prim (.int 1) none)) = (.ok (some (.num (.int 1))), { st with importEnd := true }) := by
  rw [evalAst_expr]
  simp [Eval.evalExpr, Eval.evalPrim]

/-! ## fuel -/

theorem runStmts_mono_le {n m : Nat} (hnm : n ≤ m) : ∀ (sts : List Statement) (st : State) (last : Option Value)
    {r : Except SErr (Option Value)} {st' : State},
    runStmts n st sts last = (r, st') → NotFuel r → runStmts m st sts last = (r, st') := by
  intro sts st last
  fun_induction runStmts n st sts last with
  | case1 => exact fun h _ => h
  | case2 st s ss _ e st0 hx =>
    intro r st' h hr
    cases h
    rw [runStmts, evalAst_mono_le hx hr.cast hnm]
  | case3 st s ss _ v st0 hx ih =>
    intro r st' h hr
    rw [runStmts, evalAst_mono_le hx (by simp) hnm]
    exact ih h hr

/-! ## a whole text -/

theorem evalText_readsAs (fuel : Nat) (st : State) (text : List Char) (sts : List Statement)
    (herr : (formsOf text).2 = none) (hr : ReadsAs st.syn (formsOf text).1 sts) :
    ∃ sts', Statement.unlocList sts' = Statement.unlocList sts ∧
      evalText fuel st text = runStmts fuel st sts' none := by
  obtain ⟨sts', h1, h2⟩ := runForms_readsAs fuel _ sts st none hr
  exact ⟨sts', h1, by rw [evalText_of_read herr, h2]⟩

theorem formsText_readsAs (syn : SynEnv) (ps : List Datum) (sts : List Statement) (layout : List (List Char))
    (hp : PrintsAs syn ps sts) (hsup : ∀ p ∈ ps, SupportedD p) (hl : ValidLayout (formsToks ps) layout) :
    (formsOf (formsText ps layout)).2 = none ∧ ReadsAs syn (formsOf (formsText ps layout)).1 sts := by
  obtain ⟨h1, h2⟩ := forms_of_formsText ps layout hsup hl
  rw [printsAs_strip syn ps sts hp] at h1
  exact ⟨h2, readsAs_of_printsAs syn _ ps sts h1 hp⟩

theorem formsText_sameRun (fuel : Nat) {st₁ st₂ : State} (hs : st₁.unloc = st₂.unloc) (ps : List Datum)
    (sts : List Statement) (layout : List (List Char))
    (hp : PrintsAs st₁.syn ps sts) (hsup : ∀ p ∈ ps, SupportedD p) (hl : ValidLayout (formsToks ps) layout) :
    SameRun (evalText fuel st₁ (formsText ps layout)) (runStmts fuel st₂ sts none) := by
  obtain ⟨h1, h2⟩ := formsText_readsAs st₁.syn ps sts layout hp hsup hl
  obtain ⟨sts', e1, e2⟩ := evalText_readsAs fuel st₁ _ sts h1 h2
  rw [e2]
  exact sameRun_of_IU (runStmts_unloc fuel sts' sts st₁ st₂ none none e1 hs rfl)

theorem programText_sameRun (fuel : Nat) {st₁ st₂ : State} (hs : st₁.unloc = st₂.unloc) (sts : List Statement)
    (layout : List (List Char))
    (hok : ∀ s ∈ sts, okStmt (C01More.macroOf st₁.syn) s) (hsup : ∀ s ∈ sts, SupportedD (printStmt s))
    (hl : ValidLayout (programToks sts) layout) :
    SameRun (evalText fuel st₁ (programText sts layout)) (runStmts fuel st₂ sts none) :=
  formsText_sameRun fuel hs _ sts layout (printsAs_printStmt st₁.syn sts hok) (List.forall_mem_map.2 hsup) hl

/-! ## what a run that agrees with the run of the statements shows -/

theorem runStmts_stops {fuel : Nat} {st st₁ st₂ : State} {pre : List Statement} {s : Statement}
    {last v : Option Value} {e : SErr} (post : List Statement)
    (hpre : runStmts fuel st pre last = (.ok v, st₁)) (hfail : evalAst fuel st₁ s = (.error e, st₂)) :
    runStmts fuel st (pre ++ s :: post) last = (.error e, st₂) := by
  rw [runStmts_append, hpre]
  simp only [runStmts, hfail]

theorem stops_of_sameRun {fuel : Nat} {st st₁ st₂ : State} {pre post : List Statement} {s : Statement}
    {v : Option Value} {e : Err} {loc : Loc} {x : IRes (Option Value)}
    (h : SameRun x (runStmts fuel st (pre ++ s :: post) none))
    (hpre : runStmts fuel st pre none = (.ok v, st₁)) (hfail : evalAst fuel st₁ s = (.error (e, loc), st₂)) :
    (∃ loc', x.1 = .error (e, loc')) ∧ x.2.unloc = st₂.unloc ∧
    ∃ part : List String, st₂.store.out = part ++ st₁.store.out ∧ x.2.store.out = part ++ st₁.store.out := by
  rw [runStmts_stops post hpre hfail] at h
  obtain ⟨part, hp⟩ := (evalAst_out hfail).1
  refine ⟨?_, h.2.1, part, hp, h.2.2.trans hp⟩
  rcases h.cases with ⟨_, _, _, _, _, hy, _⟩ | ⟨_, l₁, _, _, _, rfl, hy, _⟩
  · cases hy
  · cases hy; exact ⟨l₁, rfl⟩

theorem cli_of_runStmts {fuel : Nat} {text : List Char} {sts : List Statement}
    (h : SameRun (evalText fuel (default_ false) text) (runStmts fuel (default_ false) sts none)) :
    (cli fuel (some (String.ofList text))).stdout =
      String.join (runStmts fuel (default_ false) sts none).2.store.out.reverse ∧
    ((cli fuel (some (String.ofList text))).exitCode = 0 ↔ AllOk fuel (default_ false) sts) ∧
    (∀ v, (runStmts fuel (default_ false) sts none).1 = .ok v →
      (cli fuel (some (String.ofList text))).exitCode = 0 ∧
      (cli fuel (some (String.ofList text))).diag = none ∧
      (cli fuel (some (String.ofList text))).errKind = none) ∧
    (∀ e loc, (runStmts fuel (default_ false) sts none).1 = .error (e, loc) →
      (cli fuel (some (String.ofList text))).exitCode = 255 ∧
      (cli fuel (some (String.ofList text))).diag.isSome = true ∧
      (cli fuel (some (String.ofList text))).errKind = some e) := by
  obtain ⟨a, b, c, d⟩ := cli_of_sameRun (text := String.ofList text) (by rwa [String.toList_ofList])
  exact ⟨a, b.trans (runStmts_ok_iff_allOk fuel sts _ none), c, d⟩

/-! ## composition with the reference semantics (C01) -/

def CoreShape : Statement → Prop
  | .expr _ => True
  | .definition _ => True
  | _ => False

/-- R7RS 5.1: the forms in order, an error ends the program. Each statement gets the outcome `Ref.evalTop` assigns to
it with SOME fuel; the outcome of the run is the value of the last statement or the KIND of the first error. -/
inductive RefRuns (ρ : Nat) : Store → List Statement → Option Value → Except Err (Option Value) → Store → Prop
  | done (σ : Store) (last : Option Value) : RefRuns ρ σ [] last (.ok last) σ
  | fail {σ σ' : Store} {s : Statement} {ss : List Statement} {last : Option Value} {m : Nat} {k : Err} {loc : Loc} :
      Ref.evalTop m σ ρ s = (.error (k, loc), σ') → RefRuns ρ σ (s :: ss) last (.error k) σ'
  | step {σ σ' σ'' : Store} {s : Statement} {ss : List Statement} {last v : Option Value} {m : Nat}
      {r : Except Err (Option Value)} :
      Ref.evalTop m σ ρ s = (.ok v, σ') → RefRuns ρ σ' ss v r σ'' → RefRuns ρ σ (s :: ss) last r σ''

/-- the same value; the same error kind — or the reference reports a non-procedure operator where the interpreter
reports an operand's error first (R7RS leaves the order of these checks open, `Ref.AgreeErr`) -/
def AgreeKind : Except SErr (Option Value) → Except Err (Option Value) → Prop
  | .ok a, .ok b => a = b
  | .error (k, _), .error k' => k = k' ∨ k' = .nonProcedure
  | _, _ => False

theorem coreShape_of_core {M : String → Bool} {s : Statement} (h : coreStmt M s = true) : CoreShape s := by
  cases s <;> first | trivial | simp [coreStmt] at h

theorem coreShape_unloc {s : Statement} : CoreShape s.unloc ↔ CoreShape s := by
  cases s <;> exact Iff.rfl

theorem coreShape_of_unlocList (as bs : List Statement) (h : Statement.unlocList as = Statement.unlocList bs)
    (hb : ∀ s ∈ bs, CoreShape s) : ∀ s ∈ as, CoreShape s := by
  intro s hs
  have hm : s.unloc ∈ bs.map Statement.unloc := by
    rw [← Statement.unlocList_eq_map, ← h, Statement.unlocList_eq_map]; exact List.mem_map_of_mem hs
  obtain ⟨b, hbm, e⟩ := List.mem_map.1 hm
  exact coreShape_unloc.1 (e ▸ coreShape_unloc.2 (hb b hbm))

/-- `eval_ast` only completes the location of an error -/
theorem evalAst_refines_ref {fuel : Nat} {st st' : State} {s : Statement} {r : Except SErr (Option Value)}
    (hs : CoreShape s) (h : evalAst fuel st s = (r, st')) (hr : NotFuel r) :
    ∃ m r', Ref.evalTop m st.store.erase st.env s = (r', st'.store.erase) ∧
      ((∃ v, r = .ok v ∧ r' = .ok v) ∨
        ∃ k l k' l', r = .error (k, l) ∧ r' = .error (k', l') ∧ (k = k' ∨ k' = .nonProcedure)) := by
  rw [evalAst_eq] at h
  have hr' : NotFuel (astInner fuel st s).1 := by
    rw [← astPost_notFuel (s := s), h]; exact hr
  have hshape : (∃ e, s = .expr e) ∨ (∃ d, s = .definition d) := by
    cases s <;> first | exact hs.elim | exact .inl ⟨_, rfl⟩ | exact .inr ⟨_, rfl⟩
  have hin := astInner_other (fuel := fuel) (st := st) (hshape.elim .inl (.inr ∘ .inl))
  rcases hx : astInner fuel st s with ⟨rx, sx⟩
  rw [hx] at h hr' hin
  obtain ⟨m, r', h1, h2, _⟩ := C01.toplevel_refines_ref hshape hin.symm hr'
  rcases rx with ⟨k, l⟩ | v <;> cases h
  · obtain ⟨⟨k', l'⟩, rfl, hag⟩ := Ref.Agree.error_iff.mp h2
    refine ⟨m, _, h1, .inr ⟨k, _, k', l', rfl, rfl, ?_⟩⟩
    rcases hag with hag | ⟨_, hag⟩ <;> cases hag
    · exact .inl rfl
    · exact .inr rfl
  · exact ⟨m, r', h1, .inl ⟨v, rfl, Ref.Agree.ok_iff.mp h2⟩⟩

theorem runStmts_refines_ref (fuel : Nat) : ∀ (sts : List Statement) (st st' : State) (last : Option Value)
    (r : Except SErr (Option Value)), (∀ s ∈ sts, CoreShape s) → runStmts fuel st sts last = (r, st') → NotFuel r →
    ∃ r', RefRuns st.env st.store.erase sts last r' st'.store.erase ∧ AgreeKind r r' := by
  intro sts st st' last r
  fun_induction runStmts fuel st sts last with
  | case1 st last =>
    intro _ h _
    cases h
    exact ⟨.ok last, .done _ _, rfl⟩
  | case2 st s ss _ e st1 hx =>
    intro hs h hr
    cases h
    obtain ⟨m, r', h1, ⟨_, hv, _⟩ | ⟨k, l, k', l', he, rfl, hk⟩⟩ := evalAst_refines_ref (hs s (by simp)) hx hr
    · cases hv
    · cases he
      exact ⟨.error k', .fail h1, hk⟩
  | case3 st s ss _ v st1 hx ih =>
    intro hs h hr
    obtain ⟨m, r', h1, ⟨_, hv, rfl⟩ | ⟨_, _, _, _, he, _⟩⟩ := evalAst_refines_ref (hs s (by simp)) hx (by simp)
    · cases hv
      obtain ⟨r'', h4, h5⟩ := ih (fun s' hs' => hs s' (by simp [hs'])) h hr
      rw [(evalAst_out hx).2.2] at h4
      exact ⟨r'', .step h1 h4, h5⟩
    · cases he

end Ruschm.ProgramText
