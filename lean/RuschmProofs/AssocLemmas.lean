/-
Association lists: lookups, and replace-or-append insertion. The model has five copies of the insertion
(`Store.defsInsert`, `Interp.assocInsert`, `Interp.libInsert`, `Xform.scopeInsert`, `Macro.Subst.insert`) and two
lookups besides `List.lookup` (`Interp.libLookup`, `Macro.Subst.get?`); the facts are proved once for an insertion
`ins` and a lookup `look` given by their two equations. Imports nothing.
-/

universe u v w

namespace Ruschm.Assoc

/-! ## lookups -/

theorem lookup_cons_ite {β : Type u} (y k : String) (b : β) (as : List (String × β)) :
    List.lookup y ((k, b) :: as) = if y = k then some b else List.lookup y as := by
  rw [List.lookup_cons]
  by_cases h : y = k
  · rw [if_pos h, beq_iff_eq.mpr h]
  · rw [if_neg h, beq_eq_false_iff_ne.mpr h]

theorem lookup_none_of_not_mem {β : Type u} {l : List (String × β)} {k : String} (h : k ∉ l.map (·.1)) : l.lookup k = none :=
  List.lookup_eq_none_iff.mpr fun _ hp => bne_iff_ne.mpr fun e => h (e ▸ List.mem_map_of_mem hp)

theorem lookup_isSome_iff {β : Type u} (l : List (String × β)) (k : String) : (l.lookup k).isSome ↔ k ∈ l.map (·.1) := by
  rw [List.lookup_isSome_iff, List.mem_map]
  exact ⟨fun ⟨p, hp, e⟩ => ⟨p, hp, (beq_iff_eq.mp e).symm⟩, fun ⟨p, hp, e⟩ => ⟨p, hp, beq_iff_eq.mpr e.symm⟩⟩

theorem mem_of_lookup {β : Type u} {l : List (String × β)} {k : String} {b : β} (h : l.lookup k = some b) :
    (k, b) ∈ l := by
  obtain ⟨l₁, l₂, rfl, -⟩ := List.lookup_eq_some_iff.1 h
  exact List.mem_append_right _ (List.mem_cons_self ..)

theorem lookup_of_mem_keys {β : Type u} {l : List (String × β)} {k : String} (h : k ∈ l.map (·.1)) :
    ∃ b, l.lookup k = some b ∧ (k, b) ∈ l :=
  have ⟨b, hb⟩ := Option.isSome_iff_exists.1 ((lookup_isSome_iff l k).2 h)
  ⟨b, hb, mem_of_lookup hb⟩

theorem lookup_append_left {β : Type u} {l₁ l₂ : List (String × β)} {k : String} (h : k ∈ l₁.map (·.1)) :
    (l₁ ++ l₂).lookup k = l₁.lookup k := by
  obtain ⟨b, hb, -⟩ := lookup_of_mem_keys h
  rw [List.lookup_append, hb]; rfl

theorem lookup_append_right {β : Type u} {l₁ l₂ : List (String × β)} {k : String} (h : k ∉ l₁.map (·.1)) :
    (l₁ ++ l₂).lookup k = l₂.lookup k := by
  rw [List.lookup_append, lookup_none_of_not_mem h]; rfl

theorem lookup_append_ite {β : Type u} (y : String) (l₁ l₂ : List (String × β)) :
    (l₁ ++ l₂).lookup y = match l₁.lookup y with | some a => some a | none => l₂.lookup y := by
  rw [List.lookup_append]; cases l₁.lookup y <;> rfl

theorem lookup_of_mem_nodup {β : Type u} : ∀ {l : List (String × β)} {n : String} {e : β},
    (l.map (·.1)).Nodup → (n, e) ∈ l → l.lookup n = some e
  | (k, v) :: t, n, e, hnd, hm => by
    rw [List.map_cons, List.nodup_cons] at hnd
    rcases List.mem_cons.mp hm with h | h
    · cases h; exact List.lookup_cons_self
    · have hne : (n == k) = false := beq_false_of_ne fun hh =>
        hnd.1 (hh ▸ (List.mem_map_of_mem h : n ∈ t.map (·.1)))
      rw [List.lookup_cons, hne]; exact lookup_of_mem_nodup hnd.2 h

/-! ## an insertion given by its equations -/

section ins
variable {κ : Type u} {β : Type v} [DecidableEq κ] {ins : List (κ × β) → κ → β → List (κ × β)}
  (h0 : ∀ k v, ins [] k v = [(k, v)])
  (h1 : ∀ k' v' rest k v, ins ((k', v') :: rest) k v = if k' = k then (k, v) :: rest else (k', v') :: ins rest k v)
include h0 h1

/-- the condition of `look` is `k' = y`, as the model writes it -/
theorem look_insert_of {look : List (κ × β) → κ → Option β} (l0 : ∀ y, look [] y = none)
    (l1 : ∀ k' v' rest y, look ((k', v') :: rest) y = if k' = y then some v' else look rest y)
    (k : κ) (v : β) (y : κ) : ∀ l, look (ins l k v) y = if k = y then some v else look l y
  | [] => by rw [h0, l1, l0]
  | (k', v') :: rest => by
    rw [h1]
    split
    · next hk => subst hk; rw [l1, l1]; split <;> rfl
    · next hk =>
      rw [l1, l1, look_insert_of l0 l1 k v y rest]
      split
      · next hy => subst hy; rw [if_neg (Ne.symm hk)]
      · rfl

theorem mem_insert_of {k : κ} {v : β} {x : κ × β} : ∀ {l}, x ∈ ins l k v → x = (k, v) ∨ x ∈ l
  | [], h => by rw [h0] at h; exact .inl (List.mem_singleton.1 h)
  | (k', v') :: rest, h => by
    rw [h1] at h
    split at h
    · exact (List.mem_cons.1 h).imp_right (List.mem_cons_of_mem _)
    · rcases List.mem_cons.1 h with h | h
      · exact .inr (h ▸ List.mem_cons_self ..)
      · exact (mem_insert_of h).imp_right (List.mem_cons_of_mem _)

theorem names_insert_of (k : κ) (v : β) :
    ∀ l, (ins l k v).map (·.1) = if k ∈ l.map (·.1) then l.map (·.1) else l.map (·.1) ++ [k]
  | [] => by rw [h0]; rfl
  | (k', v') :: rest => by
    rw [h1]
    by_cases hk : k' = k
    · subst hk; simp
    · simp only [hk, if_false, List.map_cons, names_insert_of k v rest, List.mem_cons, Ne.symm hk, false_or]
      split <;> simp

theorem insert_fresh_of (k : κ) (v : β) : ∀ l, k ∉ l.map (·.1) → ins l k v = l ++ [(k, v)]
  | [], _ => h0 k v
  | (k', v') :: rest, h => by
    simp only [List.map_cons, List.mem_cons, not_or] at h
    rw [h1, if_neg (Ne.symm h.1), insert_fresh_of k v rest h.2]; rfl

theorem foldlM_insert_fresh_of {ε : Type w} {F : List (κ × β) → κ × β → Except ε (List (κ × β))}
    (hF : ∀ a p, p.1 ∉ a.map (·.1) → F a p = .ok (ins a p.1 p.2)) :
    ∀ (l acc : List (κ × β)), ((acc ++ l).map (·.1)).Nodup → l.foldlM F acc = .ok (acc ++ l)
  | [], acc, _ => by rw [List.append_nil]; rfl
  | p :: l, acc, h => by
    have hp : p.1 ∉ acc.map (·.1) := fun hm =>
      (List.nodup_append.mp (by simpa using h)).2.2 _ hm _ List.mem_cons_self rfl
    have e : acc ++ [(p.1, p.2)] ++ l = acc ++ p :: l := by simp
    rw [List.foldlM_cons, hF acc p hp, insert_fresh_of h0 h1 p.1 p.2 acc hp]
    show l.foldlM F (acc ++ [(p.1, p.2)]) = _
    rw [foldlM_insert_fresh_of hF l _ (e ▸ h), e]

end ins

private theorem ite_eq_comm {κ : Type u} {α : Type v} [DecidableEq κ] (a b : κ) (x y : α) :
    (if a = b then x else y) = if b = a then x else y := by
  by_cases h : a = b
  · rw [if_pos h, if_pos h.symm]
  · rw [if_neg h, if_neg (Ne.symm h)]

/-- for `List.lookup`: the condition in the orientation of `lookup_cons_ite` -/
theorem lookup_insert_of {β : Type u} {ins : List (String × β) → String → β → List (String × β)}
    (h0 : ∀ k v, ins [] k v = [(k, v)])
    (h1 : ∀ k' v' rest k v, ins ((k', v') :: rest) k v =
      if k' = k then (k, v) :: rest else (k', v') :: ins rest k v) (k : String) (v : β) (y : String)
    (l : List (String × β)) : (ins l k v).lookup y = if y = k then some v else l.lookup y := by
  rw [look_insert_of h0 h1 (look := fun l y => l.lookup y) (fun _ => rfl)
    (fun k' v' rest y => (lookup_cons_ite y k' v' rest).trans (ite_eq_comm ..)) k v y l]
  exact ite_eq_comm ..

theorem lookup_map_val {β : Type u} {γ : Type v} (f : String → β → γ) (k : String) :
    ∀ l : List (String × β), (l.map fun e => (e.1, f e.1 e.2)).lookup k = (l.lookup k).map (f k)
  | [] => rfl
  | (k', b) :: l => by
    rw [List.map_cons, lookup_cons_ite, lookup_cons_ite, lookup_map_val f k l]
    split
    · next h => rw [h]; rfl
    · rfl

/-! ## a lookup and an insertion given by their equations commute with a map on the values -/

section map
variable {κ : Type u} {α : Type v} {β : Type w} [DecidableEq κ] (f : α → β)

theorem lookup_map_of {look : List (κ × α) → κ → Option α} {look' : List (κ × β) → κ → Option β}
    (h0 : ∀ k, look [] k = none) (h0' : ∀ k, look' [] k = none)
    (h1 : ∀ k' v rest k, look ((k', v) :: rest) k = if k' = k then some v else look rest k)
    (h1' : ∀ k' v rest k, look' ((k', v) :: rest) k = if k' = k then some v else look' rest k) (k : κ) :
    ∀ l, look' (l.map fun p => (p.1, f p.2)) k = (look l k).map f
  | [] => by rw [List.map_nil, h0, h0']; rfl
  | (k', v) :: rest => by
    rw [List.map_cons, h1, h1', lookup_map_of h0 h0' h1 h1' k rest]
    split <;> rfl

theorem insert_map_of {ins : List (κ × α) → κ → α → List (κ × α)} {ins' : List (κ × β) → κ → β → List (κ × β)}
    (h0 : ∀ k v, ins [] k v = [(k, v)]) (h0' : ∀ k v, ins' [] k v = [(k, v)])
    (h1 : ∀ k' v' rest k v, ins ((k', v') :: rest) k v = if k' = k then (k, v) :: rest else (k', v') :: ins rest k v)
    (h1' : ∀ k' v' rest k v, ins' ((k', v') :: rest) k v = if k' = k then (k, v) :: rest else (k', v') :: ins' rest k v)
    (k : κ) (v : α) : ∀ l, (ins l k v).map (fun p => (p.1, f p.2)) = ins' (l.map fun p => (p.1, f p.2)) k (f v)
  | [] => by rw [h0, List.map_nil, h0']; rfl
  | (k', v') :: rest => by
    rw [List.map_cons, h1, h1']
    split
    · rfl
    · rw [List.map_cons, insert_map_of h0 h0' h1 h1' k v rest]

end map

end Ruschm.Assoc
