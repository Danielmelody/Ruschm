/-
Erasing locations commutes with the transformer. `XComm f m' m`: run on data without locations, `m'`
gives what `m` gives on the data — the value by `f`, an error without its location — and the same
syntax environment (which holds no locations). There is one combinator per way `RuschmModel/Xform.lean`
builds a computation, so the step lemmas `x_*` read like the transformer's text. What users take:
`toStatement_strip`, `toStatement_of_strip`.
-/
import RuschmProofs.UnlocText
import RuschmProofs.UnlocMacro
import RuschmProofs.XformEquations
namespace Ruschm
open Xform Macro

def XComm {α β} (f : α → β) (m' : XM β) (m : XM α) : Prop := ∀ s, m' s = (mapE f (m s).1, (m s).2)

theorem XComm.pure {α β} (f : α → β) (a : α) : XComm f (Pure.pure (f a) : XM β) (Pure.pure a) := fun _ => rfl
theorem XComm.pure' {α β} (f : α → β) (a : α) (b : β) (h : b = f a) : XComm f (Pure.pure b : XM β) (Pure.pure a) :=
  h ▸ fun _ => rfl
theorem XComm.fail {α β} (f : α → β) (e : SErr) : XComm f (Xform.fail e.unloc : XM β) (Xform.fail e) := fun _ => rfl
theorem XComm.fail' {α β} (f : α → β) (k : Err) (l : Loc) : XComm f (Xform.fail (k, none) : XM β) (Xform.fail (k, l)) :=
  XComm.fail f (k, l)
theorem XComm.lift {α β} (f : α → β) {x' : Except SErr β} {x : Except SErr α} (h : x' = mapE f x) :
    XComm f (Xform.lift x') (Xform.lift x) := fun _ => by simp [Xform.lift, h]
theorem XComm.need {α β} (f : α → β) (x : Option α) : XComm f (Xform.need (x.map f)) (Xform.need x) := by
  cases x
  · exact XComm.fail' f _ _
  · exact XComm.pure f _

theorem XComm.bind {α β γ δ} {f : α → β} {h : γ → δ} {m' : XM β} {m : XM α} {g' : β → XM δ} {g : α → XM γ}
    (hm : XComm f m' m) (hg : ∀ a, XComm h (g' (f a)) (g a)) : XComm h (m' >>= g') (m >>= g) := by
  intro s
  simp only [XM.bind_def, hm s]
  rcases m s with ⟨_ | a, s1⟩
  · rfl
  · exact hg a s1

theorem XComm.getEnv_bind {γ δ} {h : γ → δ} {g' : SynEnv → XM δ} {g : SynEnv → XM γ}
    (hg : ∀ env, XComm h (g' env) (g env)) : XComm h (getEnv >>= g') (getEnv >>= g) := by
  intro s
  simp only [XM.bind_def, getEnv]
  exact hg s s

theorem XComm.defineSyntax {β} (k : String) (r : Rules) (u : Unit → β) :
    XComm u (do Xform.defineSyntax k r; Pure.pure (u ())) (Xform.defineSyntax k r) := fun _ => rfl

theorem XComm.inChild {α β} {f : α → β} {m' : XM β} {m : XM α} (hm : XComm f m' m) :
    XComm f (Xform.inChild m') (Xform.inChild m) := by
  intro s
  simp only [Xform.inChild, hm ([] :: s)]
  rcases m ([] :: s) with ⟨r, _ | ⟨c, s1⟩⟩ <;> rfl

theorem XComm.cons {α β} {f : α → β} {m' : XM β} {m : XM α} {ms' : XM (List β)} {ms : XM (List α)}
    (hm : XComm f m' m) (hms : XComm (List.map f) ms' ms) :
    XComm (List.map f) (do let b ← m'; let bs ← ms'; Pure.pure (b :: bs)) (do let a ← m; let as ← ms; Pure.pure (a :: as)) :=
  XComm.bind hm fun _ => XComm.bind hms fun _ => XComm.pure' _ _ _ rfl

theorem XComm.mapM {α β γ δ} {f : α → β} {h : γ → δ} {g' : β → XM δ} {g : α → XM γ}
    (hg : ∀ a, XComm h (g' (f a)) (g a)) : ∀ l : List α, XComm (List.map h) ((l.map f).mapM g') (l.mapM g)
  | [] => XComm.pure (List.map h) []
  | a :: l => by
    rw [List.map_cons, List.mapM_cons, List.mapM_cons]
    exact XComm.cons (hg a) (XComm.mapM hg l)

theorem XComm.kwCase {α β} {f : α → β} (kw : String) {F' : Kw → XM β} {o' : XM β} {F : Kw → XM α} {o : XM α}
    (hF : ∀ k, XComm f (F' k) (F k)) (ho : XComm f o' o) : XComm f (kwCase kw F' o') (kwCase kw F o) := by
  rw [kwCase_eq, kwCase_eq]
  cases kwOf kw
  · exact ho
  · exact hF _

theorem XComm.ite {α β} {f : α → β} (c : Prop) [Decidable c] {a' b' : XM β} {a b : XM α}
    (ha : XComm f a' a) (hb : XComm f b' b) : XComm f (if c then a' else b') (if c then a else b) := by
  split <;> assumption

theorem XComm.congr {α β} {f f' : α → β} {m' : XM β} {m : XM α} (h : XComm f m' m) (hf : f = f') : XComm f' m' m :=
  hf ▸ h

theorem xc_identOf (d : Datum) : XComm id (Xform.identOf d.strip) (Xform.identOf d) :=
  XComm.lift id (identOf_strip d)
theorem xc_expectList (d : Datum) : XComm Datum.strip (Xform.expectList d.strip) (Xform.expectList d) :=
  XComm.lift _ (expectList_strip d)

theorem find?_strip (p : Datum → Bool) (hp : ∀ x, p x.strip = p x) (l : List Datum) :
    (l.map Datum.strip).find? p = (l.find? p).map Datum.strip := by
  rw [List.find?_map, show p ∘ Datum.strip = p from funext hp]

theorem xc_toFormals (d : Datum) : XComm id (toFormals d.strip) (toFormals d) := by
  cases hl : d.isListy
  · cases d with
    | sym s l => exact XComm.pure id _
    | prim p l | vec xs l => exact XComm.fail' id _ _
    | _ => cases hl
  · have hbad : ∀ x : Datum, (match x.strip with | .sym _ _ => false | _ => true) =
        (match x with | .sym _ _ => false | _ => true) := fun x => by cases x <;> rfl
    have happ : d.spine.1.map Datum.strip ++ (d.spine.2.map Datum.strip).toList =
        (d.spine.1 ++ d.spine.2.toList).map Datum.strip := by
      cases d.spine.2 <;> simp
    rw [toFormals_listy hl, toFormals_listy ((Datum.strip_isListy d).trans hl), Datum.strip_spine, happ,
      find?_strip _ hbad]
    cases (d.spine.1 ++ d.spine.2.toList).find? _ with
    | some b => simp only [Option.map_some, Datum.strip_loc]; exact XComm.fail' id _ _
    | none =>
      simp only [Option.map_none, List.map_map, Option.map_map]
      refine XComm.pure' id _ _ ?_
      congr 2 <;> funext x <;> cases x <;> rfl

theorem xc_toLibName (ds : List Datum) : XComm id (toLibName (ds.map Datum.strip)) (toLibName ds) := by
  unfold toLibName
  refine XComm.congr (XComm.mapM (h := id) (fun d => ?_) ds) (by funext l; simp)
  cases d with
  | sym s l => exact XComm.pure id _
  | prim p l =>
    cases p <;> simp only [Datum.strip] <;> try exact XComm.fail' id _ _
    split
    · exact XComm.pure id _
    · exact XComm.fail' id _ _
  | _ => exact XComm.fail' id _ _

theorem isRenameKw_strip (d : Datum) : isRenameKw d.strip = isRenameKw d := by
  cases d <;> first | rfl | simp only [Datum.strip, isRenameKw_sym]

theorem xc_exportRename (es : List Datum) (l : Loc) :
    XComm ExportSpec.unloc (exportRename (es.map Datum.strip) none) (exportRename es l) := by
  unfold exportRename
  simp only [List.head?_map, ← List.map_drop]
  refine XComm.bind (XComm.need Datum.strip _) fun h => ?_
  rw [isRenameKw_strip]
  exact XComm.ite _ (XComm.bind (XComm.need Datum.strip _) fun a => XComm.bind (xc_identOf a) fun _ =>
    XComm.bind (XComm.need Datum.strip _) fun b => XComm.bind (xc_identOf b) fun _ => XComm.pure' _ _ _ rfl)
    (XComm.fail' _ _ _)

theorem xc_toExportSpec (d : Datum) : XComm ExportSpec.unloc (toExportSpec d.strip) (toExportSpec d) := by
  have he := Datum.strip_elems d
  rw [toExportSpec_eq, toExportSpec_eq]
  cases d with
  | sym s l => exact XComm.pure' _ _ _ rfl
  | pair a b l | nil l => rw [Datum.strip] at he ⊢; dsimp only; rw [he]; exact xc_exportRename _ _
  | _ => exact XComm.fail' _ _ _

theorem xc_mapM_identOf (l : List Datum) : XComm id ((l.map Datum.strip).mapM Xform.identOf) (l.mapM Xform.identOf) :=
  XComm.congr (XComm.mapM (h := id) (fun d => xc_identOf d) l) (by funext l; simp)

theorem xc_toImportSet : ∀ (n : Nat) (d : Datum), XComm ImportSet.unloc (toImportSet n d.strip) (toImportSet n d)
  | 0, d => by rw [toImportSet, toImportSet]; exact XComm.fail' _ _ _
  | n + 1, d => by
    rw [toImportSet, toImportSet]
    refine XComm.bind (xc_expectList d) fun d1 => ?_
    simp only [Datum.strip_elems, List.head?_map, ← List.map_drop]
    refine XComm.bind (XComm.need Datum.strip _) fun first => XComm.bind (xc_identOf first) fun spec => ?_
    -- the four modifiers start alike: the set modified is the second element
    have sub : ∀ {k' k : ImportSet → XM ImportSet}, (∀ s, XComm ImportSet.unloc (k' s.unloc) (k s)) →
        XComm ImportSet.unloc
          (do let s ← Xform.need ((d1.elems.drop 1).head?.map Datum.strip); let s ← toImportSet n s; k' s)
          (do let s ← Xform.need (d1.elems.drop 1).head?; let s ← toImportSet n s; k s) :=
      fun hk => XComm.bind (XComm.need Datum.strip _) fun s0 => XComm.bind (xc_toImportSet n s0) hk
    refine XComm.ite _ (sub fun s => XComm.bind (xc_mapM_identOf _) fun ids => XComm.pure' _ _ _ rfl) ?_
    refine XComm.ite _ (sub fun s => XComm.bind (xc_mapM_identOf _) fun ids => XComm.pure' _ _ _ rfl) ?_
    refine XComm.ite _ (sub fun s => XComm.bind (XComm.need Datum.strip _) fun p =>
      XComm.bind (xc_identOf p) fun p' => XComm.pure' _ _ _ rfl) ?_
    refine XComm.ite _ (sub fun s => ?_) ?_
    · refine XComm.bind (f := id) (XComm.congr (XComm.mapM (h := id) (fun pd => ?_) _) (by funext l; simp))
        fun ps => XComm.pure' _ _ _ rfl
      refine XComm.bind (xc_expectList pd) fun pd1 => ?_
      simp only [Datum.strip_elems, List.head?_map, ← List.map_drop]
      exact XComm.bind (XComm.need Datum.strip _) fun a => XComm.bind (xc_identOf a) fun a' =>
        XComm.bind (XComm.need Datum.strip _) fun b => XComm.bind (xc_identOf b) fun b' => XComm.pure' _ _ _ rfl
    · exact XComm.bind (xc_toLibName _) fun name => XComm.pure' _ _ _ (by rw [Datum.strip_loc]; rfl)

@[simp] theorem matchFuel_strip (d : Datum) : matchFuel d.strip = matchFuel d := by
  simp [matchFuel, Datum.strip_size]
@[simp] theorem xformFuel_strip (d : Datum) : xformFuel d.strip = xformFuel d := by
  simp [xformFuel, Datum.strip_size]

structure XAll (n : Nat) : Prop where
  stmt : ∀ d, XComm Statement.unloc (toStatement n d.strip) (toStatement n d)
  expr : ∀ d, XComm Expr.unloc (toExpr n d.strip) (toExpr n d)
  call : ∀ first args loc, XComm Expr.unloc (toCall n first.strip (args.map Datum.strip) none) (toCall n first args loc)
  exprs : ∀ ds, XComm (List.map Expr.unloc) (toExprs n (ds.map Datum.strip)) (toExprs n ds)
  defn : ∀ args, XComm (fun p : String × Expr => (p.1, p.2.unloc)) (toDefinition n (args.map Datum.strip)) (toDefinition n args)
  lam : ∀ args, XComm Lambda.unloc (toLambda n (args.map Datum.strip)) (toLambda n args)
  body : ∀ ds defs exprs, XComm (fun p : List Def × List Expr => (p.1.map Def.unloc, p.2.map Expr.unloc))
    (toBody n (ds.map Datum.strip) (defs.map Def.unloc) (exprs.map Expr.unloc)) (toBody n ds defs exprs)
  lib : ∀ args loc, XComm Statement.unloc (toLibrary n (args.map Datum.strip) none) (toLibrary n args loc)
  decls : ∀ ds, XComm (List.map LibDecl.unloc) (toLibDecls n (ds.map Datum.strip)) (toLibDecls n ds)
  decl : ∀ d, XComm LibDecl.unloc (toLibDecl n d.strip) (toLibDecl n d)
  stmts : ∀ ds, XComm (List.map Statement.unloc) (toStatements n (ds.map Datum.strip)) (toStatements n ds)

theorem xAll_zero : XAll 0 := by
  constructor <;> intros <;>
    simp only [toStatement, toExpr, toCall, toExprs, toDefinition, toLambda, toBody, toLibrary, toLibDecls,
      toLibDecl, toStatements] <;> exact XComm.fail' _ _ _

section succ
variable {n : Nat} (ih : XAll n)
include ih

theorem x_expr (d : Datum) : XComm Expr.unloc (toExpr (n + 1) d.strip) (toExpr (n + 1) d) := by
  rw [toExpr, toExpr]
  refine XComm.bind (ih.stmt d) (fun s => ?_)
  cases s <;> first | exact XComm.fail' _ _ _ | exact XComm.pure' _ _ _ rfl

theorem x_call (first args loc) :
    XComm Expr.unloc (toCall (n + 1) first.strip (args.map Datum.strip) none) (toCall (n + 1) first args loc) := by
  rw [toCall, toCall]
  refine XComm.bind (ih.expr first) (fun f => ?_)
  refine XComm.bind (ih.exprs args) (fun as => ?_)
  exact XComm.pure' _ _ _ (by simp [Expr.unloc, Expr.unlocList_eq_map])

theorem x_exprs (ds) : XComm (List.map Expr.unloc) (toExprs (n + 1) (ds.map Datum.strip)) (toExprs (n + 1) ds) := by
  cases ds with
  | nil => simp only [List.map_nil, toExprs]; exact XComm.pure' _ _ _ rfl
  | cons d ds => simp only [List.map_cons, toExprs]; exact XComm.cons (ih.expr d) (ih.exprs ds)

theorem x_stmts (ds) : XComm (List.map Statement.unloc) (toStatements (n + 1) (ds.map Datum.strip)) (toStatements (n + 1) ds) := by
  cases ds with
  | nil => simp only [List.map_nil, toStatements]; exact XComm.pure' _ _ _ rfl
  | cons d ds => simp only [List.map_cons, toStatements]; exact XComm.cons (ih.stmt d) (ih.stmts ds)

theorem x_decls (ds) : XComm (List.map LibDecl.unloc) (toLibDecls (n + 1) (ds.map Datum.strip)) (toLibDecls (n + 1) ds) := by
  cases ds with
  | nil => simp only [List.map_nil, toLibDecls]; exact XComm.pure' _ _ _ rfl
  | cons d ds => simp only [List.map_cons, toLibDecls]; exact XComm.cons (ih.decl d) (ih.decls ds)

theorem x_lam (args) : XComm Lambda.unloc (toLambda (n + 1) (args.map Datum.strip)) (toLambda (n + 1) args) := by
  rw [toLambda, toLambda]
  simp only [List.head?_map, ← List.map_drop]
  refine XComm.bind (XComm.need Datum.strip _) (fun f => ?_)
  refine XComm.bind (xc_toFormals f) (fun formals => ?_)
  refine XComm.bind (XComm.inChild (ih.body _ [] [])) (fun p => ?_)
  obtain ⟨defs, body⟩ := p
  exact XComm.pure' _ _ _ (by simp [Lambda.unloc, Expr.unlocList_eq_map, Def.unlocList_eq_map])

theorem x_body (ds defs exprs) : XComm (fun p : List Def × List Expr => (p.1.map Def.unloc, p.2.map Expr.unloc))
    (toBody (n + 1) (ds.map Datum.strip) (defs.map Def.unloc) (exprs.map Expr.unloc)) (toBody (n + 1) ds defs exprs) := by
  cases ds with
  | nil =>
    simp only [List.map_nil, toBody, List.isEmpty_map]
    split
    · exact XComm.fail' _ _ _
    · exact XComm.pure' _ _ _ (by simp)
  | cons d ds =>
    simp only [List.map_cons, toBody, List.isEmpty_map]
    refine XComm.bind (ih.stmt d) (fun s => ?_)
    cases s with
    | definition df =>
      simp only [Statement.unloc]
      split
      · exact ih.body ds (df :: defs) exprs
      · cases df; exact XComm.fail' _ _ _
    | expr e => exact ih.body ds defs (e :: exprs)
    | _ => simp only [Statement.unloc, Datum.strip_loc]; exact XComm.fail' _ _ _

theorem x_defn (args) : XComm (fun p : String × Expr => (p.1, p.2.unloc))
    (toDefinition (n + 1) (args.map Datum.strip)) (toDefinition (n + 1) args) := by
  rw [toDefinition, toDefinition]
  simp only [List.head?_map, ← List.map_drop]
  refine XComm.bind (XComm.need Datum.strip _) (fun first => ?_)
  cases first with
  | sym s l =>
    simp only [Datum.strip]
    refine XComm.bind (XComm.need Datum.strip _) (fun b => ?_)
    refine XComm.bind (ih.expr b) (fun b' => ?_)
    exact XComm.pure' _ _ _ rfl
  | pair nameD formalsD l =>
    simp only [Datum.strip, Datum.strip_loc]
    refine XComm.bind (xc_identOf nameD) (fun name => ?_)
    refine XComm.bind (xc_toFormals formalsD) (fun formals => ?_)
    refine XComm.bind (ih.body _ [] []) (fun p => ?_)
    obtain ⟨defs, body⟩ := p
    exact XComm.pure' _ _ _ (by simp [Expr.unloc, Lambda.unloc, Expr.unlocList_eq_map, Def.unlocList_eq_map])
  | _ => exact XComm.fail' _ _ _

theorem x_lib (args loc) : XComm Statement.unloc (toLibrary (n + 1) (args.map Datum.strip) none) (toLibrary (n + 1) args loc) := by
  rw [toLibrary, toLibrary]
  simp only [List.head?_map, ← List.map_drop]
  refine XComm.bind (XComm.need Datum.strip _) (fun nd => ?_)
  refine XComm.bind (xc_expectList nd) (fun nd1 => ?_)
  rw [Datum.strip_elems]
  refine XComm.bind (xc_toLibName _) (fun name => ?_)
  refine XComm.bind (ih.decls _) (fun decls => ?_)
  exact XComm.pure' _ _ _ (by simp [Statement.unloc, LibDecl.unlocList_eq_map])

theorem x_decl (d) : XComm LibDecl.unloc (toLibDecl (n + 1) d.strip) (toLibDecl (n + 1) d) := by
  rw [toLibDecl, toLibDecl]
  refine XComm.bind (xc_expectList d) (fun d1 => ?_)
  simp only [Datum.strip_elems, List.head?_map, ← List.map_drop]
  refine XComm.bind (XComm.need Datum.strip _) (fun first => ?_)
  have himp : XComm LibDecl.unloc
      (do let sets ← ((d1.elems.drop 1).map Datum.strip).mapM (toImportSet n); Pure.pure (LibDecl.importDecl sets))
      (do let sets ← (d1.elems.drop 1).mapM (toImportSet n); Pure.pure (LibDecl.importDecl sets)) :=
    XComm.bind (XComm.mapM (fun x => xc_toImportSet n x) _) fun sets => XComm.pure' _ _ _ rfl
  cases first with
  | sym s l =>
    simp only [Datum.strip]
    split
    · rename_i h; cases h; simp only
      exact XComm.bind (XComm.mapM (fun x => xc_toExportSpec x) _) fun specs => XComm.pure' _ _ _ rfl
    · rename_i h; cases h; simp only
      exact XComm.bind (ih.stmts _) fun body => XComm.pure' _ _ _ (by simp [LibDecl.unloc, Statement.unlocList_eq_map])
    · rename_i h1 h2
      split
      · rename_i h; cases h; exact absurd rfl (h1 _)
      · rename_i h; cases h; exact absurd rfl (h2 _)
      · exact himp
  | _ => exact himp

theorem x_callOf (a : Datum) (args : List Datum) (l : Loc) :
    XComm Statement.unloc (callOf n a.strip (args.map Datum.strip) none) (callOf n a args l) :=
  XComm.bind (ih.call a args l) fun _ => XComm.pure' _ _ _ rfl

theorem x_form (k : Kw) (args : List Datum) (l : Loc) :
    XComm Statement.unloc (formOf n k (args.map Datum.strip) none) (formOf n k args l) := by
  cases k <;> simp only [formOf, List.head?_map, ← List.map_drop]
  · exact XComm.bind (ih.defn _) fun p => XComm.pure' _ _ _ rfl
  · exact ih.lib _ _
  · exact XComm.bind (ih.lam _) fun lam => XComm.pure' _ _ _ rfl
  · refine XComm.bind (XComm.need Datum.strip _) fun t => XComm.bind (ih.expr t) fun t' =>
      XComm.bind (XComm.need Datum.strip _) fun c => XComm.bind (ih.expr c) fun c' => ?_
    cases (args.drop 2).head? with
    | none => exact XComm.pure' _ _ _ rfl
    | some ad => exact XComm.bind (ih.expr ad) fun a' => XComm.pure' _ _ _ rfl
  · exact XComm.bind (XComm.mapM (fun x => xc_toImportSet n x) _) fun sets => XComm.pure' _ _ _ rfl
  · exact XComm.bind (XComm.need Datum.strip _) fun q => XComm.pure' _ _ _ rfl
  · refine XComm.bind (XComm.need Datum.strip _) fun target => ?_
    cases target with
    | sym name ln =>
      exact XComm.bind (XComm.need Datum.strip _) fun v => XComm.bind (ih.expr v) fun v' => XComm.pure' _ _ _ rfl
    | _ => exact XComm.fail' _ _ _
  · exact XComm.bind (XComm.need Datum.strip _) fun k => XComm.bind (xc_identOf k) fun k' =>
      XComm.bind (XComm.need Datum.strip _) fun spec => XComm.bind (XComm.lift id (toRules_strip _ spec)) fun rules =>
      XComm.bind (XComm.defineSyntax _ _ id) fun u => XComm.pure' _ _ _ rfl

theorem x_stmt (d : Datum) : XComm Statement.unloc (toStatement (n + 1) d.strip) (toStatement (n + 1) d) := by
  cases d with
  | prim p l => rw [Datum.strip, toStatement_prim, toStatement_prim]; exact XComm.pure' _ _ _ rfl
  | sym s l => rw [Datum.strip, toStatement_sym, toStatement_sym]; exact XComm.pure' _ _ _ rfl
  | vec xs l =>
    rw [Datum.strip, toStatement_vec, toStatement_vec]
    exact XComm.pure' _ _ _ (by simp [Statement.unloc, Expr.unloc, Datum.strip])
  | nil l => rw [Datum.strip, toStatement_nil, toStatement_nil]; exact XComm.fail' _ _ _
  | pair a b l =>
    have hs : (Datum.pair a b l).strip = .pair a.strip b.strip none := by rw [Datum.strip]
    have hl := Datum.strip_isListy b
    rw [hs]
    cases hb : b.isListy with
    | false => rw [toStatement_dotted n hb, toStatement_dotted n (hl.trans hb)]; exact XComm.fail' _ _ _
    | true =>
      rw [toStatement_pair n hb, toStatement_pair n (hl.trans hb), Datum.strip_elems]
      cases a with
      | sym kw lk =>
        have hs' : (Datum.pair (.sym kw lk) b l).strip = .pair (.sym kw none) b.strip none := by
          simp only [Datum.strip]
        show XComm _ (kwCase kw _ (useOf n kw none b.strip none)) _
        unfold useOf
        rw [Datum.strip_elems]
        refine XComm.kwCase kw (x_form ih · _ l) (XComm.getEnv_bind fun env => ?_)
        cases env.get? kw with
        | none => exact x_callOf ih (.sym kw lk) b.elems l
        | some rules =>
          refine XComm.bind (XComm.lift Datum.strip ?_) (fun expanded => ih.stmt expanded)
          rw [← hs', matchFuel_strip, ← transform_strip, Text.strip_withLoc, Datum.strip_withLoc_none]
      | _ => exact x_callOf ih _ _ l

end succ

theorem xAll : ∀ n, XAll n
  | 0 => xAll_zero
  | n + 1 =>
    have ih := xAll n
    ⟨x_stmt ih, x_expr ih, x_call ih, x_exprs ih, x_defn ih, x_lam ih, x_body ih, x_lib ih, x_decls ih,
      x_decl ih, x_stmts ih⟩

theorem toStatement_strip (n : Nat) (d : Datum) (env : SynEnv) :
    toStatement n d.strip env = (mapE Statement.unloc (toStatement n d env).1, (toStatement n d env).2) :=
  (xAll n).stmt d env

theorem toStatement_of_strip {n : Nat} {d : Datum} {env env' : SynEnv} {s0 : Statement}
    (h : toStatement n d.strip env = (.ok s0, env')) :
    ∃ s', toStatement n d env = (.ok s', env') ∧ s'.unloc = s0 := by
  rw [toStatement_strip] at h
  generalize toStatement n d env = x at h
  obtain ⟨e | s', env''⟩ := x
  · cases h
  · cases h; exact ⟨s', rfl, rfl⟩

end Ruschm
