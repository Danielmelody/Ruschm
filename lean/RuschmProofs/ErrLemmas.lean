/-
Vocabulary of property C08 (run-time errors). `BuiltinFault` says once that a native call is stopped with an error
and the store unchanged, in each way a native procedure can be invoked; an error of `applyPure` suffices for it
(`BuiltinFault.intro`). `Num.Exact` and `Num.ExactZero` are the operands on which `/` answers `divZero`
(`divArgs_exact_zero`).
-/
import RuschmProofs.EvalRules
import RuschmProofs.ArgLists
namespace Ruschm

namespace Eval
open Prim

/-! ## `apply` -/

def IsListHead : Value → Prop
  | .pair _ _ | .nil => True
  | _ => False

theorem spreadApply_nonproc {f : Value} {rest : List Value} (h : procArity f = none) :
    spreadApply (f :: rest) = .error .nonProcedure := by
  simp [spreadApply, h]

theorem spreadApply_type {f : Value} {rest : List Value} {last : Value} (hf : (procArity f).isSome)
    (hl : rest.getLast? = some last) (hx : ¬ IsListHead last) :
    spreadApply (f :: rest) = .error .type := by
  obtain ⟨a, ha⟩ := Option.isSome_iff_exists.mp hf
  simp only [spreadApply, ha, hl]
  cases last <;> simp_all [IsListHead]

/-! ## literals: every cell a literal allocates is immutable -/

/-- `LitStep` (`StoreLemmas`) with the new cells as a list; C08 speaks of `LitStep` and does not use it -/
def LitExt (σ σ' : Store) : Prop :=
  ∃ cells : List VecCell, σ' = { σ with vecs := σ.vecs ++ cells.toArray } ∧ ∀ c ∈ cells, c.mutable = false

theorem litExt_iff {σ σ' : Store} : LitExt σ σ' ↔ LitStep σ σ' :=
  ⟨fun ⟨cells, h, hc⟩ => ⟨cells.toArray, h, by simpa using hc⟩,
   fun ⟨cells, h, hc⟩ => ⟨cells.toList, by simpa using h, by simpa using hc⟩⟩

theorem readLiterals_litExt : ∀ (ds : List Datum) (σ : Store), LitExt σ (readLiterals σ ds).2 := fun ds σ =>
  litExt_iff.2 (readLiterals_rel LitStep.refl LitStep.trans LitStep.allocVec ds σ)

end Eval

/-! ## division by an exact zero

`Num.Exact` and `Num.ExactZero` are the model's tests `Num.notReal` and `Num.isExactZero` as propositions
(`Exact.notReal`, `ExactZero.isExactZero`); the specification's `Num.isExact` is `notReal`
(`Num.notReal_eq_isExact`, NumLemmas). -/

namespace Num

def Exact : Num → Prop
  | .real _ => False
  | _ => True

def ExactZero : Num → Prop
  | .int i => i = 0
  | .rat n _ => n = 0
  | .real _ => False

theorem Exact.notReal {x : Num} (h : x.Exact) : x.notReal = true := by
  cases x <;> first | rfl | exact absurd h id

theorem ExactZero.exact {b : Num} (h : b.ExactZero) : b.Exact := by
  cases b <;> first | trivial | exact absurd h id

theorem ExactZero.isExactZero {b : Num} (h : b.ExactZero) : b.isExactZero = true := by
  cases b with
  | int i => cases (show i = 0 from h); rfl
  | rat n d => cases (show n = 0 from h); rfl
  | real r => exact absurd h id

theorem div_exactZero {a b : Num} (ha : a.Exact) (hb : b.ExactZero) : div a b = .error .divZero := by
  cases a <;> cases b <;> simp_all [Exact, ExactZero, div, upcast]

theorem floorQuotient_exactZero {a b : Num} (ha : a.Exact) (hb : b.ExactZero) :
    floorQuotient a b = .error .divZero := by
  unfold floorQuotient; rw [div_exactZero ha hb]; rfl

theorem floorRemainder_exactZero {a b : Num} (ha : a.Exact) (hb : b.ExactZero) :
    floorRemainder a b = .error .divZero := by
  unfold floorRemainder; rw [floorQuotient_exactZero ha hb]; rfl

end Num

namespace Prim

/-- not used: in `/` the check of `divArgs` stops the call before the fold starts (`divArgs_exact_zero`) -/
theorem foldNum_div_zero {init acc b : Num} {pre post : List Value}
    (hpre : foldNum Num.div init pre = .ok acc) (ha : acc.Exact) (hb : b.ExactZero) :
    foldNum Num.div init (pre ++ .num b :: post) = .error .divZero := by
  unfold foldNum at *
  rw [List.foldlM_append, hpre]
  simp only [List.foldlM_cons, expectNumber]
  show (Num.div acc b >>= _) = _
  rw [Num.div_exactZero ha hb]; rfl

/-! ### `divArgs`: the check for an exact zero divisor among exact operands -/

/-- `hj`: the zero is a divisor, that is, not the first operand, or the only one (the one-argument form) -/
theorem divArgs_exact_zero {pre : List Num} {b : Num} {post : List Value} (hpre : ∀ x ∈ pre, x.Exact)
    (hb : b.ExactZero) (hj : pre ≠ [] ∨ post = []) :
    divArgs (pre.map Value.num ++ .num b :: post) = .error .divZero := by
  have hp : exactPrefix (pre.map Value.num ++ .num b :: post) = pre ++ b :: exactPrefix post := by
    rw [exactPrefix_map_append (fun x hx => (hpre x hx).notReal), exactPrefix, if_pos hb.exact.notReal]
  have hz := hb.isExactZero
  unfold divArgs
  rw [hp, if_pos]
  match pre, hj with
  | [], hj =>
    obtain rfl : post = [] := hj.resolve_left fun h => h rfl
    simp [hz]
  | [_], _ => simp [hz]
  | _ :: _ :: _, _ => simp [hz]

end Prim

namespace Eval
open Prim

/-! ## a failing native procedure, in every way it can be invoked -/

/-- the store is unchanged; `leave (enter σ)` is `σ` with the activation counted in `maxDepth` -/
structure BuiltinFault (σ : Store) (b : Builtin) (args : List Value) (k : Err) : Prop where
  pure : applyPure σ b args = (.error (k, none), σ)
  loop : ∀ env, Applies σ (.builtin b) args env (.error (k, none)) σ
  proc : ∀ env, AppliesProc σ (.builtin b) args env (.error (k, none)) (leave (enter σ))

@[simp] theorem vecs_enter (σ : Store) : (enter σ).vecs = σ.vecs := enter_vecs σ
@[simp] theorem frames_enter (σ : Store) : (enter σ).frames = σ.frames := enter_frames σ

theorem BuiltinFault.intro {σ b args k} (hb : b ≠ .apply) (ha : arityOk b.arity.1 b.arity.2 args.length = true)
    (h : applyPure σ b args = (.error (k, none), σ)) : BuiltinFault σ b args k :=
  ⟨h, fun _ => Applies.builtin_run hb ha h,
    fun _ => AppliesProc.of_loop (Applies.builtin_run hb ha (applyPure_error_congr (σ := σ) (τ := enter σ) rfl h))⟩

end Eval

end Ruschm
