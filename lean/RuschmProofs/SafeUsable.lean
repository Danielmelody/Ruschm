/-
The probe `((lambda (x) x) 42)` evaluates to 42 in EVERY interpreter state, whatever the store, the
syntax environment, the libraries: the reader and `toStatement` on the text are closed computations,
and the evaluator on the resulting expression reads only the frame it makes.
-/
import RuschmProofs.StoreLemmas
import RuschmProofs.EvalAst

namespace Ruschm.Usable
open Ruschm

def txt : List Char :=
  ['(', '(', 'l', 'a', 'm', 'b', 'd', 'a', ' ', '(', 'x', ')', ' ', 'x', ')', ' ', '4', '2', ')']

theorem txt_eq : "((lambda (x) x) 42)".toList = txt := by decide
def toks : List LToken := [⟨.lparen, some (1, 2)⟩, ⟨.lparen, some (1, 3)⟩, ⟨.ident "lambda", some (1, 9)⟩,
  ⟨.lparen, some (1, 11)⟩, ⟨.ident "x", some (1, 12)⟩, ⟨.rparen, some (1, 13)⟩, ⟨.ident "x", some (1, 15)⟩,
  ⟨.rparen, some (1, 16)⟩, ⟨.prim (.int 42), some (1, 19)⟩, ⟨.rparen, some (1, 20)⟩]

set_option maxRecDepth 10000 in
theorem lex_txt : Lex.all txt = (toks, none) := by
  simp [txt, toks, Lex.all, Lex.allAux, Lex.next, Lex.skipAtmosphere, Lex.token, Lex.adv, Lex.isWs,
    Lex.normalIdentifier, Lex.takeRun, Lex.isSubsequent, Lex.isInitial, Lex.isLetter, Lex.isDigit,
    Lex.number, Lex.integerToken, Lex.parseI32?, Lex.digitsVal, fitsI32, Lex.testDelimiter, Lex.isDelimiter,
    Except.map, bind, Except.bind, pure, Except.pure]

def d0 : Datum :=
  .pair (.pair (.sym "lambda" (some (1, 9)))
      (.pair (.pair (.sym "x" (some (1, 12))) (.nil none) (some (1, 11)))
        (.pair (.sym "x" (some (1, 15))) (.nil none) none) none) (some (1, 3)))
    (.pair (.prim (.int 42) (some (1, 19))) (.nil none) none) (some (1, 2))

def s0 : Read.PState := { toks := toks, lexErr := none }
def s1 : Read.PState := { toks := [], lexErr := none, cur := some ⟨.rparen, some (1, 20)⟩, loc := some (1, 20) }

theorem ofText_txt : Read.ofText txt = s0 := by
  simp [Read.ofText, lex_txt, s0]

set_option maxRecDepth 10000 in
theorem next0 : Read.nextDatum s0 = .ok (some d0, s1) := by
  simp [Read.nextDatum, s0, s1, d0, toks, Read.advance, Read.fuelFor, Read.currentDatum, Read.listOrPair, Read.listLoop,
    Read.advanceUnwrap, Read.snoc, Datum.withLoc, bind, Except.bind, pure, Except.pure]

theorem next1 : Read.nextDatum s1 = .ok (none, { s1 with cur := none, loc := none }) := by
  simp [Read.nextDatum, s1, Read.advance, Read.fuelFor, Read.currentDatum, bind, Except.bind]

def lam0 : Lambda := .mk ⟨["x"], none⟩ [] [.sym "x" (some (1, 15))]
def e0 : Expr := .call (.lambda lam0 (some (1, 3))) [.prim (.int 42) (some (1, 19))] (some (1, 2))
def stmt0 : Statement := .expr e0

theorem fuel_d0 : Xform.xformFuel d0 = 4104 := by decide

theorem xform0 (env : Xform.SynEnv) : Xform.toStatement 4104 d0 env = (.ok stmt0, env) := by
  rfl

/-- 7: `evalExpr`, `applyProcedure`, `applyLoop`, `applyScheme`, `evalBody`, `evalTail` and `evalExpr` for the
variable take one unit of fuel each -/
theorem eval_e0 (n : Nat) (σ : Store) (ρ : Nat) :
    (Eval.evalExpr (n + 7) σ ρ e0).1 = .ok (.num (.int 42)) := by
  have hl := Store.lookup_define_same (Eval.enter σ |>.newFrame (some ρ)).2 "x" (.num (.int 42))
    (ρ := σ.frames.size) (by simp [Store.newFrame, Eval.enter])
  simp only [e0, lam0, Eval.evalExpr, Eval.evalArgs, Eval.evalPrim, Eval.procArity, Lambda.formals,
    Eval.applyProcedure, Eval.applyLoop, Eval.arityOk, Eval.applyScheme, Eval.bindFixed, Eval.evalDefs,
    Eval.evalBody, Eval.evalTail, Lambda.defs, Lambda.body]
  simp [Store.newFrame, Eval.enter] at hl ⊢
  rw [hl]

open Interp in
theorem evalAst_stmt0 (n : Nat) (st : State) :
    (evalAst (n + 7) st stmt0).1 = .ok (some (.num (.int 42))) := by
  rw [stmt0, evalAst_expr, eval_e0]

open Interp in
theorem evalText_probe (n : Nat) (st : State) :
    (evalText (n + 7) st "((lambda (x) x) 42)".toList).1 = .ok (some (.num (.int 42))) := by
  rw [txt_eq]
  unfold evalText
  simp only [ofText_txt]
  have hlen : s0.toks.length + 1 = 11 := by decide
  rw [hlen, evalText.go, next0]
  simp only [fuel_d0, xform0]
  have h := evalAst_stmt0 n { st with syn := st.syn }
  generalize evalAst (n + 7) { st with syn := st.syn } stmt0 = x at h
  obtain ⟨r, st'⟩ := x
  simp only at h; subst h
  simp only
  rw [evalText.go, next1]

end Ruschm.Usable
