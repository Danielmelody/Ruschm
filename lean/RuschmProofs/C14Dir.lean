/-
Property C14 (and C19), the lookup DIRECTORY — "library files are located relative to the program's
directory, not the process's working directory", for histories in which that directory changes.

In the Rust code the directory is part of the interpreter's state (`program_directory:
Option<PathBuf>`): `eval_file` records the directory of the program file it runs, and while none is
recorded `file_library_factory` looks relative to the process's working directory. The model has
`State.dir` (the directory library files are looked up in NOW; "" = the base directory the keys
of `State.files` are relative to) and `State.files`, a map from directory-qualified paths
(`fileKey dir path`); `Interp.evalFile` is `eval_file`.

Only property theorems live here; helper lemmas (non-interference, as an instance of
`Interp.comm_run`) are in `RuschmProofs/DirLemmas.lean`.
-/
import RuschmProofs.DirLemmas
import RuschmProofs.C14Model

namespace Ruschm.C14Dir
open Ruschm Ruschm.Interp

/-! ## a concrete file system for the examples -/

def libOne : LibName := [.ident "one"]

/-- two program directories `p1` and `p2`; the library file `one.sld` exists only under `p1`
(and, as a decoy, in the working directory `cwd`) -/
def demoFiles : List (String × FileEntry) :=
  [("p1/one.sld", .text "(define-library (one))"), ("p1/prog.scm", .text ""),
   ("p2/prog.scm", .text ""), ("cwd/one.sld", .text "(define-library (one))")]

def demo : State := { store := Store.root, files := demoFiles }

example : libPath libOne = "one.sld" ∧ dirOf "p1/prog.scm" = "p1" ∧ dirOf "sub/p3/prog.scm" = "sub/p3" ∧
    dirOf "prog.scm" = "" ∧ fileKey "p1" "one.sld" = "p1/one.sld" ∧ fileKey "" "one.sld" = "one.sld" := by decide +kernel

/-- a file map holds the text `s` at a key: by a test that can be evaluated (`FileEntry` has no
decidable equality) -/
private theorem text_of {o : Option FileEntry} {s : String}
    (h : (match o with | some (.text t) => t == s | _ => false) = true) : o = some (.text s) := by
  split at h
  · rw [eq_of_beq h]
  · cases h

/-! ## (a) one lookup, at the current directory -/

/-- `get_library` consults the file map ONLY at `fileKey st.dir (libPath name)`: the library path
of the name, in the directory the interpreter looks libraries up in at that moment (`fileKey "" p =
p`, `fileKey d p = d/p`). (1) `getLibrary` is the cached instance, else `instantiate` of what
`findFactory` finds. (2) Without a registered factory, what `findFactory` does is decided by the
entry at that one key: no entry — `libNotFound` at the import's location, state unchanged; an
unreadable entry — an io error, state unchanged; a text — the factory `factoryOfText` makes of it
(registered under `name`), or its error. (3) `findFactory` is blind to every other key: with any
other file map `fs` that has the same entry at that key, it gives the same outcome and the same
state (but for the file map). (4) The same for the WHOLE of `getLibrary`, the libraries imported
transitively included, and the library paths of the current directory: if `fs` agrees with the
state's file map at `fileKey st.dir (libPath n)` for every name `n`, `getLibrary` on the state with
`fs` has the same outcome and reaches the same state (but for the file map): no key outside the
current directory is ever read. -/
theorem lookup_uses_current_directory (name : LibName) (loc : Loc) (st : State) :
    (∀ p d, fileKey "" p = p ∧ (d ≠ "" → fileKey d p = d ++ "/" ++ p)) ∧
    (∀ fuel, getLibrary (fuel + 1) st name loc =
      match libLookup st.instances name with
      | some defs => (.ok defs, st)
      | none =>
        match findFactory st name loc with
        | (.error e, st) => (.error e, st)
        | (.ok f, st) => instantiate fuel st f name) ∧
    (libLookup st.factories name = none →
      (st.files.lookup (fileKey st.dir (libPath name)) = none →
        findFactory st name loc = (.error (.libNotFound, loc), st)) ∧
      (st.files.lookup (fileKey st.dir (libPath name)) = some .unreadable →
        findFactory st name loc = (.error (.io, none), st)) ∧
      (∀ t, st.files.lookup (fileKey st.dir (libPath name)) = some (.text t) →
        findFactory st name loc = match factoryOfText name t with
          | .ok f => (.ok f, { st with factories := libInsert st.factories name f })
          | .error e => (.error e, st))) ∧
    (∀ fs : List (String × FileEntry),
      fs.lookup (fileKey st.dir (libPath name)) = st.files.lookup (fileKey st.dir (libPath name)) →
      findFactory { st with files := fs } name loc =
        ((findFactory st name loc).1, { (findFactory st name loc).2 with files := fs })) ∧
    (∀ (fs : List (String × FileEntry)) (fuel : Nat),
      (∀ n : LibName, fs.lookup (fileKey st.dir (libPath n)) = st.files.lookup (fileKey st.dir (libPath n))) →
      getLibrary fuel { st with files := fs } name loc =
        ((getLibrary fuel st name loc).1, { (getLibrary fuel st name loc).2 with files := fs })) := by
  refine ⟨fun p d => ⟨fileKey_empty p, fun h => fileKey_ne h p⟩,
    fun fuel => getLibrary_succ_eq fuel st name loc, fun hf => ⟨?_, ?_, ?_⟩, fun fs hk => ?_, fun fs fuel hv => ?_⟩
  · intro h; simp [findFactory, hf, h]
  · intro h; simp [findFactory, hf, h]
  · intro t h; simp only [findFactory, hf, h]; cases factoryOfText name t <;> rfl
  · exact findFactory_comm (φ := withFiles fs) loc rfl hk fun _ => rfl
  · exact comm_run (unobservedTop_withFiles fs).base fuel st (.getLibrary name loc) hv

/-- with the working directory as the lookup directory (no program directory recorded) the
library `(one)` is found in `cwd`; with the base directory it is not (there is no `one.sld`
there), whatever else the file map holds -/
example : ({ demo with dir := "cwd" } : State).files.lookup (fileKey "cwd" (libPath libOne)) =
      some (.text "(define-library (one))") ∧
    findFactory demo libOne (some (1, 9)) = (.error (.libNotFound, some (1, 9)), demo) := by
  exact ⟨text_of (by decide +kernel),
    ((lookup_uses_current_directory libOne (some (1, 9)) demo).2.2.1 rfl).1 (by decide +kernel)⟩

/-! ## (b) `eval_file` -/

/-- `eval_file path`: (1) afterwards the lookup directory is the directory part of `path`,
whatever the program did and whether or not the file could be read, and the file map is as
before. (2) The program text is evaluated in the state whose lookup directory is already that
directory; a file that is missing or not text is an io error (without location). (3) The
directory recorded before plays no role. (4) Every library lookup made while the program ran used
that directory: the run reads the file map only at `path` itself and at the library paths
`fileKey (dirOf path) (libPath n)`; with any other file map `fs` that agrees at those keys the
outcome is the same and so is the state reached (but for the file map). -/
theorem evalFile_sets_directory (fuel : Nat) (st : State) (path : String) :
    (evalFile fuel st path).2.dir = dirOf path ∧ (evalFile fuel st path).2.files = st.files ∧
    (evalFile fuel st path =
      match st.files.lookup path with
      | some (.text t) => evalText fuel { st with dir := dirOf path } t.toList
      | _ => (.error (.io, none), { st with dir := dirOf path })) ∧
    (∀ d, evalFile fuel { st with dir := d } path = evalFile fuel st path) ∧
    (∀ fs : List (String × FileEntry), fs.lookup path = st.files.lookup path →
      (∀ n : LibName, fs.lookup (fileKey (dirOf path) (libPath n)) =
        st.files.lookup (fileKey (dirOf path) (libPath n))) →
      evalFile fuel { st with files := fs } path =
        ((evalFile fuel st path).1, { (evalFile fuel st path).2 with files := fs })) := by
  refine ⟨(evalFile_frame fuel st path).2.2.2, (evalFile_frame fuel st path).2.1, rfl, fun d => rfl,
    fun fs hp hv => ?_⟩
  unfold evalFile
  simp only [hp]
  rcases st.files.lookup path with _ | t | _
  · rfl
  · exact evalText_irr (fs := fs) (st := { st with dir := dirOf path }) (r := _) (st' := _) rfl hv
  · rfl

/-- running `p1/prog.scm` (an empty program) from the working directory sets the lookup
directory to `p1`; a missing program file is an io error and the directory is set all the same -/
example : (evalFile 5 { demo with dir := "cwd" } "p1/prog.scm").2.dir = "p1" ∧
    evalFile 5 demo "p3/none.scm" = (.error (.io, none), { demo with dir := "p3" }) := by
  refine ⟨(evalFile_sets_directory 5 _ _).1.trans (by decide +kernel), ?_⟩
  rw [(evalFile_sets_directory 5 demo "p3/none.scm").2.2.1,
    show demo.files.lookup "p3/none.scm" = none by decide +kernel,
    show dirOf "p3/none.scm" = "p3" by decide +kernel]

/-- a file map that differs from `demoFiles` only under `p2` agrees with it at the program file
`p1/prog.scm` and at every library path under `p1` -/
example : let fs := ("p2/one.sld", FileEntry.unreadable) :: demoFiles
    fs.lookup "p1/prog.scm" = demo.files.lookup "p1/prog.scm" ∧
    ∀ n : LibName, fs.lookup (fileKey (dirOf "p1/prog.scm") (libPath n)) =
      demo.files.lookup (fileKey (dirOf "p1/prog.scm") (libPath n)) := by
  intro fs
  have hd : dirOf "p1/prog.scm" = "p1" := by decide +kernel
  refine ⟨by rfl, fun n => ?_⟩
  rw [hd]
  have hne : (fileKey "p1" (libPath n) == "p2/one.sld") = false := by
    rw [beq_eq_false_iff_ne]
    intro h
    have := congrArg String.toList h
    simp [fileKey] at this
  simp only [fs, demo, List.lookup, hne]

/-! ## (c) a failed lookup leaves no trace -/

/-- An import of a library that is not found — no instance, no registered factory, no file at its
path in the CURRENT lookup directory — fails with `libNotFound` at the import's location and
leaves the interpreter state EXACTLY as it was: through `get_library`, through the import set,
through an import declaration into any frame, and as a top-level form (`eval_ast`, where an error
without location gets the statement's). Hence whatever is done later — recording another
directory, `eval_file` of any program — behaves as on the state before the failed import: the
outcome of a later import depends only on the files and the directory at THAT moment. -/
theorem earlier_lookups_do_not_matter (fuel : Nat) (st : State) (name : LibName) (loc l : Loc)
    (hi : libLookup st.instances name = none) (hf : libLookup st.factories name = none)
    (hfile : st.files.lookup (fileKey st.dir (libPath name)) = none) :
    getLibrary (fuel + 1) st name loc = (.error (.libNotFound, loc), st) ∧
    (name ∉ st.inProgress →
      evalImportSet (fuel + 2) st (.direct name loc) = (.error (.libNotFound, loc), st) ∧
      (∀ ρ, evalImport (fuel + 4) st [.direct name loc] ρ = (.error (.libNotFound, loc), st)) ∧
      (st.importEnd = false →
        evalAst (fuel + 4) st (.importDecl [.direct name loc] l) =
          (.error (.libNotFound, loc.orElse (fun _ => l)), st) ∧
        ∀ fuel' d path,
          evalFile fuel' (evalAst (fuel + 4) st (.importDecl [.direct name loc] l)).2 path =
            evalFile fuel' st path ∧
          ({ (evalAst (fuel + 4) st (.importDecl [.direct name loc] l)).2 with dir := d } : State) =
            { st with dir := d })) := by
  have h1 : ∀ k, getLibrary (k + 1) st name loc = (.error (.libNotFound, loc), st) :=
    fun k => getLibrary_no_file hi hf hfile
  refine ⟨h1 fuel, fun hip => ?_⟩
  have h2 : ∀ k, evalImportSet (k + 2) st (.direct name loc) = (.error (.libNotFound, loc), st) := by
    intro k
    exact direct_error hip
      (getLibrary_no_file (st := { st with inProgress := name :: st.inProgress }) hi hf hfile)
  have h3 : ∀ ρ, evalImport (fuel + 4) st [.direct name loc] ρ = (.error (.libNotFound, loc), st) := by
    intro ρ
    rw [evalImport, evalImportSets, h2]
  refine ⟨h2 fuel, h3, fun hie => ?_⟩
  have h4 : evalAst (fuel + 4) st (.importDecl [.direct name loc] l) =
      (.error (.libNotFound, loc.orElse (fun _ => l)), st) := by
    rw [evalAst_importDecl hie, h3]
  refine ⟨h4, fun fuel' d path => ?_⟩
  rw [h4]
  exact ⟨rfl, rfl⟩

/-- no program directory recorded yet and `(one)` not in the working directory … -/
example : let st : State := { demo with dir := "p2" }
    libLookup st.instances libOne = none ∧ libLookup st.factories libOne = none ∧
    st.files.lookup (fileKey st.dir (libPath libOne)) = none ∧ libOne ∉ st.inProgress ∧
    st.importEnd = false := by
  intro st
  exact ⟨rfl, rfl, by decide +kernel, List.not_mem_nil, rfl⟩

/-! ## (d) two programs, two directories -/

/-- Running the program file `path₁` and then `path₂` on ONE interpreter: after the first run the
lookup directory is `dirOf path₁`; the second program's text is evaluated with the lookup
directory `dirOf path₂`, and there a library `name` that has not been instantiated or registered
by then and has no file under `dirOf path₂` is NOT FOUND — `libNotFound` at the import's
location, state unchanged — whether or not a file for it exists under `dirOf path₁` (or anywhere
else): through `get_library`, an import set, and a top-level import declaration. -/
theorem two_programs_two_directories (fuel₁ fuel₂ k : Nat) (st : State) (path₁ path₂ : String) (t₂ : String)
    (name : LibName) (loc l : Loc)
    (hprog : st.files.lookup path₂ = some (.text t₂))
    (hi : libLookup (evalFile fuel₁ st path₁).2.instances name = none)
    (hf : libLookup (evalFile fuel₁ st path₁).2.factories name = none)
    (hfile : st.files.lookup (fileKey (dirOf path₂) (libPath name)) = none)
    (hip : name ∉ st.inProgress) :
    let st₁ := (evalFile fuel₁ st path₁).2
    let st₂ : State := { st₁ with dir := dirOf path₂ }
    st₁.dir = dirOf path₁ ∧
    evalFile fuel₂ st₁ path₂ = evalText fuel₂ st₂ t₂.toList ∧
    getLibrary (k + 1) st₂ name loc = (.error (.libNotFound, loc), st₂) ∧
    evalImportSet (k + 2) st₂ (.direct name loc) = (.error (.libNotFound, loc), st₂) ∧
    (st₁.importEnd = false →
      evalAst (k + 4) st₂ (.importDecl [.direct name loc] l) =
        (.error (.libNotFound, loc.orElse (fun _ => l)), st₂)) := by
  intro st₁ st₂
  have hfl : st₁.files = st.files := (evalFile_sets_directory fuel₁ st path₁).2.1
  have hip₁ : st₁.inProgress = st.inProgress := (evalFile_frame fuel₁ st path₁).1
  have hfile₂ : st₂.files.lookup (fileKey st₂.dir (libPath name)) = none := by
    show st₁.files.lookup (fileKey (dirOf path₂) (libPath name)) = none
    rw [hfl]; exact hfile
  have hip₂ : name ∉ st₂.inProgress := by
    show name ∉ st₁.inProgress
    rw [hip₁]; exact hip
  have h := earlier_lookups_do_not_matter k st₂ name loc l hi hf hfile₂
  refine ⟨(evalFile_sets_directory fuel₁ st path₁).1, ?_, h.1, (h.2 hip₂).1, fun hie => ((h.2 hip₂).2.2 hie).1⟩
  have hp₁ : st₁.files.lookup path₂ = some (.text t₂) := by rw [hfl]; exact hprog
  rw [(evalFile_sets_directory fuel₂ st₁ path₂).2.2.1, hp₁]

/-- `p1/prog.scm` then `p2/prog.scm`: `one.sld` exists under `p1` only, the first program did not
import it: the hypotheses hold, so `(one)` is not found while the second program runs -/
example : demo.files.lookup "p2/prog.scm" = some (.text "") ∧
    libLookup (evalFile 5 demo "p1/prog.scm").2.instances libOne = none ∧
    libLookup (evalFile 5 demo "p1/prog.scm").2.factories libOne = none ∧
    demo.files.lookup (fileKey (dirOf "p2/prog.scm") (libPath libOne)) = none ∧
    demo.files.lookup (fileKey (dirOf "p1/prog.scm") (libPath libOne)) = some (.text "(define-library (one))") ∧
    libOne ∉ demo.inProgress := by
  have hrun : evalFile 5 demo "p1/prog.scm" = (.ok none, { demo with dir := "p1" }) := by
    rw [(evalFile_sets_directory 5 demo "p1/prog.scm").2.2.1,
      show demo.files.lookup "p1/prog.scm" = some (.text "") from text_of (by decide +kernel),
      show dirOf "p1/prog.scm" = "p1" by decide +kernel]
    exact evalText_empty 5 _
  rw [hrun]
  exact ⟨text_of (by decide +kernel), rfl, rfl, by decide +kernel, text_of (by decide +kernel), List.not_mem_nil⟩

end Ruschm.C14Dir
