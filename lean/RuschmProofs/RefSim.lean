/-
The model against the reference evaluator `Ref.eval` (`RuschmSpec/Ref.lean`). `refines_all`: every outcome of the model
that is not the fuel error is, after `Store.erase`, an outcome of the reference up to `Ref.Agree`; the walk goes over
the two sequence forms with `Sim.andThen`, and a pending tail call of the model is a promise about what the reference
makes of that call (`TailOK`). `conv_all`: conversely a value of the reference is the value the model's judgements
settle on (invariant `TailConv`).
-/
import RuschmProofs.EvalRules
import RuschmProofs.RefStore
import RuschmProofs.RefSeq
namespace Ruschm.Ref
open Prim Eval

/-! ## Fuel monotonicity of the reference evaluator -/

structure Mono (n : Nat) : Prop where
  eval : ∀ σ ρ e, Below (eval n σ ρ e) (eval (n+1) σ ρ e)
  list : ∀ σ ρ es, Below (evalList n σ ρ es) (evalList (n+1) σ ρ es)
  apply : ∀ σ p as, Below (apply n σ p as) (apply (n+1) σ p as)
  defs : ∀ σ ρ ds, Below (evalDefs n σ ρ ds) (evalDefs (n+1) σ ρ ds)
  seq : ∀ σ ρ es, Below (evalSeq n σ ρ es) (evalSeq (n+1) σ ρ es)

namespace Mono
variable {n : Nat} (ih : Mono n)
include ih

theorem eval_succ (σ ρ e) : Below (Ref.eval (n+1) σ ρ e) (Ref.eval (n+2) σ ρ e) := by
  cases e with
  | assign x e l => simp only [eval_assign]; exact (ih.eval _ _ _).andThen fun _ _ => .refl
  | cond t c a l =>
    simp only [eval_cond]
    refine (ih.eval _ _ _).andThen fun tv σ₁ => ?_
    split
    · exact ih.eval _ _ _
    · cases a
      · exact .refl
      · exact ih.eval _ _ _
  | call f args l =>
    simp only [eval_call]
    refine (ih.eval _ _ _).andThen fun fv σ₁ => ?_
    split
    · exact (ih.list _ _ _).andThen fun _ _ => ih.apply _ _ _
    · exact (ih.list _ _ _).map (fun r => (nonProcAfter_notFuel f.loc r).1) id
  | _ => rw [Ref.eval, Ref.eval]; exact .refl

theorem list_succ (σ ρ es) : Below (evalList (n+1) σ ρ es) (evalList (n+2) σ ρ es) := by
  cases es with
  | nil => simp only [evalList_nil]; exact .refl
  | cons a as =>
    simp only [evalList_cons]; exact (ih.eval _ _ _).andThen fun _ _ => (ih.list _ _ _).andThen fun _ _ => .refl

theorem apply_succ (σ p as) : Below (Ref.apply (n+1) σ p as) (Ref.apply (n+2) σ p as) := by
  rcases applied_cases p as with hp | ⟨f, v, hp, ha⟩ | ⟨lam, cenv, rfl, ha⟩ | ⟨rfl, ha⟩ | ⟨b, rfl, hb, ha⟩
  · rw [apply_not_proc _ _ _ hp, apply_not_proc _ _ _ hp]; exact .refl
  · rw [apply_arity _ _ hp ha, apply_arity _ _ hp ha]; exact .refl
  · simp only [apply_closure _ _ _ ha]
    split
    · exact .refl
    · exact (ih.defs _ _ _).andThen fun _ _ => ih.seq _ _ _
  · simp only [apply_apply _ _ ha]
    split
    · exact .refl
    · exact ih.apply _ _ _
  · rw [apply_builtin _ _ hb ha, apply_builtin _ _ hb ha]; exact .refl

theorem defs_succ (σ ρ ds) : Below (evalDefs (n+1) σ ρ ds) (evalDefs (n+2) σ ρ ds) := by
  cases ds with
  | nil => simp only [evalDefs_nil]; exact .refl
  | cons d ds =>
    obtain ⟨x, e, l⟩ := d; simp only [evalDefs_cons]; exact (ih.eval _ _ _).andThen fun _ _ => ih.defs _ _ _

theorem seq_succ (σ ρ es) : Below (evalSeq (n+1) σ ρ es) (evalSeq (n+2) σ ρ es) := by
  match es with
  | [] => simp only [evalSeq_nil]; exact .refl
  | [e] => simp only [evalSeq_last]; exact ih.eval _ _ _
  | e :: e' :: es => simp only [evalSeq_cons]; exact (ih.eval _ _ _).andThen fun _ _ => ih.seq _ _ _

end Mono

theorem mono_all : ∀ n, Mono n
  | 0 =>
    ⟨fun _ _ _ => .of_fuel (eval_zero ..), fun _ _ _ => .of_fuel (evalList_zero ..),
      fun _ _ _ => .of_fuel (apply_zero ..), fun _ _ _ => .of_fuel (evalDefs_zero ..),
      fun _ _ _ => .of_fuel (evalSeq_zero ..)⟩
  | n+1 => have ih := mono_all n; ⟨ih.eval_succ, ih.list_succ, ih.apply_succ, ih.defs_succ, ih.seq_succ⟩

theorem fuelMono_eval (τ ρ e) : FuelMono (eval · τ ρ e) := fun n => (mono_all n).eval τ ρ e
theorem fuelMono_list (τ ρ es) : FuelMono (evalList · τ ρ es) := fun n => (mono_all n).list τ ρ es
theorem fuelMono_apply (τ p as) : FuelMono (apply · τ p as) := fun n => (mono_all n).apply τ p as
theorem fuelMono_defs (τ ρ ds) : FuelMono (evalDefs · τ ρ ds) := fun n => (mono_all n).defs τ ρ ds
theorem fuelMono_seq (τ ρ es) : FuelMono (evalSeq · τ ρ es) := fun n => (mono_all n).seq τ ρ es

theorem eval_mono_le {n m σ ρ e r σ'} (h : eval n σ ρ e = (r, σ')) (hr : NotFuel r) (hnm : n ≤ m) :
    eval m σ ρ e = (r, σ') := mono_le (fuelMono_eval σ ρ e) h hr hnm

/-! ### the rules for the two forms the model also meets in tail position -/

theorem stable_cond_iff {τ ρ t c a l r τ'} :
    Stable (eval · τ ρ (.cond t c a l)) r τ' ↔
      (∃ er, Stable (eval · τ ρ t) (.error er) τ' ∧ r = .error er) ∨
      ∃ tv τ₁, Stable (eval · τ ρ t) (.ok tv) τ₁ ∧
        if tv.truthy then Stable (eval · τ₁ ρ c) r τ'
        else match a with
          | some alt => Stable (eval · τ₁ ρ alt) r τ'
          | none => r = .ok .void ∧ τ' = τ₁ :=
  (Stable.seq_iff (eval_cond · τ ρ t c a l) (fuelMono_eval τ ρ t)).trans
    (or_congr_right (exists_congr fun _ => exists_congr fun _ => and_congr_right fun _ => Stable.arm_iff))

theorem stable_call_iff {τ ρ f args l r τ'} :
    Stable (eval · τ ρ (.call f args l)) r τ' ↔
      (∃ er, Stable (eval · τ ρ f) (.error er) τ' ∧ r = .error er) ∨
      ∃ fv τ₁, Stable (eval · τ ρ f) (.ok fv) τ₁ ∧ ∃ ra τ₂, Stable (evalList · τ₁ ρ args) ra τ₂ ∧
        ((procArity fv = none ∧ r = .error (.nonProcedure, f.loc) ∧ τ' = τ₂) ∨
         ((procArity fv).isSome ∧ ∃ er, ra = .error er ∧ r = .error er ∧ τ' = τ₂) ∨
         ((procArity fv).isSome ∧ ∃ vs, ra = .ok vs ∧ Stable (apply · τ₂ fv vs) r τ')) :=
  (Stable.seq_iff (eval_call · τ ρ f args l) (fuelMono_eval τ ρ f)).trans
    (or_congr_right (exists_congr fun _ => exists_congr fun τ₁ => and_congr_right fun _ =>
      Stable.call_iff (fuelMono_list τ₁ ρ args)))

/-! ## The model refines the reference -/

theorem eval_call_loc (m σ ρ f args l l') : eval m σ ρ (.call f args l) = eval m σ ρ (.call f args l') := by
  cases m <;> rw [eval, eval]

theorem eval_atom (m n : Nat) (σ : Store) (ρ : Nat) (e : Expr)
    (he : match e with | .assign .. | .cond .. | .call .. => False | _ => True) :
    eval (m+1) σ.erase ρ e = (evalExpr (n+1) σ ρ e).eraseStore := by
  cases e with
  | prim p _ => rw [eval, evalExpr_prim]; cases evalPrim p <;> rfl
  | datum d _ => rw [eval, evalExpr_datum, readLiteral_erase]
  | quote d _ => rw [eval, evalExpr_quote, readLiteral_erase]
  | lambda _ _ => rw [eval, evalExpr_lambda]; rfl
  | sym s _ => rw [eval, evalExpr_sym, Store.erase_lookup]; cases σ.lookup ρ s <;> rfl
  | assign _ _ _ | cond _ _ _ _ | call _ _ _ => exact he.elim

/-! ### a run of the reference that agrees with an outcome of the model -/

/-- `Refines` says the same of ONE run, `∃ m r', run m = (r', τ) ∧ Agree r r'` (`Sim.of`, `Sim.refines` convert); sequencing
needs the settled form: two parts that settle do so from a common amount of fuel on -/
def Sim {α} (run : Nat → Res α) (r : Except SErr α) (τ : Store) : Prop := ∃ r', Stable run r' τ ∧ Agree r r'

theorem Sim.of {α} {run : Nat → Res α} (step : FuelMono run) {r τ}
    (h : ∃ m r', run m = (r', τ) ∧ Agree r r') (hr : NotFuel r) : Sim run r τ :=
  let ⟨_, r', hm, ha⟩ := h; ⟨r', .intro step hm (ha.notFuel hr), ha⟩
theorem Sim.refines {α} {run : Nat → Res α} {r τ} (h : Sim run r τ) : ∃ m r', run m = (r', τ) ∧ Agree r r' :=
  let ⟨r', S, ha⟩ := h; let ⟨m, hm⟩ := S.run; ⟨m, r', hm, ha⟩
theorem Sim.ok {α} {run : Nat → Res α} {a τ} (h : Sim run (.ok a) τ) : Stable run (.ok a) τ := by
  obtain ⟨r', S, ha⟩ := h; rwa [Agree.ok_iff.mp ha] at S
theorem Sim.error {α} {run : Nat → Res α} {e τ} (h : Sim run (.error e) τ) :
    ∃ e', Stable run (.error e') τ ∧ AgreeErr e e' := by
  obtain ⟨r', S, ha⟩ := h; obtain ⟨e', rfl, he⟩ := Agree.error_iff.mp ha; exact ⟨e', S, he⟩
theorem _root_.Ruschm.Eval.Stable.sim {α} {run : Nat → Res α} {r τ} (S : Stable run r τ) : Sim run r τ := ⟨r, S, .refl r⟩
theorem Sim.unfold {α} {f g : Nat → Res α} (h : ∀ m, f (m+1) = g m) {r τ} (S : Sim g r τ) : Sim f r τ :=
  let ⟨r', S, ha⟩ := S; ⟨r', (Stable.unfold h).2 S, ha⟩
theorem Sim.pass {α β} {f : Nat → Res α} {g : Nat → Res β} {k : Nat → α → Store → Res β} {e τ}
    (h : Sim f (.error e) τ) (hg : ∀ m, g (m+1) = andThen (f m) (k m)) : Sim g (.error e) τ :=
  let ⟨e', S, ha⟩ := h.error; ⟨.error e', Stable.seq_intro hg (.inl ⟨e', S, rfl⟩), ha⟩
/-- SEQUENCING -/
theorem Sim.andThen {α β} {x : Res α} {k : α → Store → Res β} {r σ'} (h : andThen x k = (r, σ')) (hr : NotFuel r)
    {g : Nat → Res α} {k' : Nat → α → Store → Res β}
    (hx : ∀ {a σ₁}, x = (a, σ₁) → NotFuel a → Sim g a σ₁.erase)
    (hk : ∀ a σ₁, k a σ₁ = (r, σ') → Sim (k' · a σ₁.erase) r σ'.erase) :
    Sim (fun m => andThen (g m) (k' m)) r σ'.erase := by
  rcases andThen_eq h with ⟨e, hx', rfl⟩ | ⟨a, σ₁, hx', h⟩
  · obtain ⟨e', S, ha⟩ := (hx hx' hr.cast).error
    exact ⟨.error e', Stable.andThen_intro (.inl ⟨e', S, rfl⟩), ha⟩
  · obtain ⟨r', S, ha⟩ := hk a σ₁ h
    exact ⟨r', Stable.andThen_intro (.inr ⟨a, _, (hx hx' (.ok a)).ok, S⟩), ha⟩

/-- the operands of a call whose operator is no procedure: whatever they settle on, the operator is reported -/
theorem Sim.nonProc {ga : Nat → Res (List Value)} (hga : FuelMono ga) (loc : Loc) {ra τ} (h : Sim ga ra τ) :
    Stable (fun m => (nonProcAfter loc (ga m).1, (ga m).2)) (.error (.nonProcedure, loc)) τ :=
  let ⟨ra', S, _⟩ := h
  (Stable.map_iff (h := id) hga (nonProcAfter_notFuel loc)).2 ⟨ra', _, S, (nonProcAfter_of loc S.1).symm, rfl⟩

/-- What the outcome of a procedure body in the model (a value, an error, or a PENDING TAIL CALL)
means for a direct-style run `run` of the same body: a value or an error is `run`'s outcome; a
pending call `(f, args, env)` in store `σ₁` promises that whatever the reference makes of the call
`(f args…)` in `env`, from `σ₁`, is `run`'s outcome. -/
def TailOK (run : Nat → Res Value) (rt : Except SErr TailRes) (σ₁ : Store) : Prop :=
  match rt with
  | .error er => ∃ m er', run m = (.error er', σ₁.erase) ∧ AgreeErr er er'
  | .ok (.value v) => ∃ m, run m = (.ok v, σ₁.erase)
  | .ok (.tailCall f targs tenv) =>
    ∀ m r σ₂, eval m σ₁.erase tenv (.call f targs none) = (r, σ₂) → NotFuel r → ∃ m', run m' = (r, σ₂)

theorem Sim.tailOK {run : Nat → Res Value} {er σ₁} (h : Sim run (.error er) σ₁.erase) : TailOK run (.error er) σ₁ :=
  let ⟨e', S, ha⟩ := h.error; let ⟨m, hm⟩ := S.run; ⟨m, e', hm, ha⟩

theorem TailOK.resume {run : Nat → Res Value} {f targs tenv σ₁ r τ} (ht : TailOK run (.ok (.tailCall f targs tenv)) σ₁)
    (h : Sim (eval · σ₁.erase tenv (.call f targs none)) r τ) : ∃ m r', run m = (r', τ) ∧ Agree r r' :=
  let ⟨r', S, ha⟩ := h; let ⟨m, hm⟩ := S.run; let ⟨m', hm'⟩ := ht m r' τ hm S.1; ⟨m', r', hm', ha⟩

/-- `inner` is what is left of `outer` after its first part -/
theorem TailOK.lift {inner outer : Nat → Res Value} {rt σ₁}
    (step : FuelMono inner) (hnf : NotFuel rt)
    (h : ∀ {r s}, Stable inner r s → Stable outer r s) (ht : TailOK inner rt σ₁) : TailOK outer rt σ₁ := by
  have h' : ∀ m r s, inner m = (r, s) → NotFuel r → ∃ m', outer m' = (r, s) :=
    fun m r s hm hr => (h (.intro step hm hr)).run
  cases rt with
  | error er =>
    obtain ⟨m, er', hm, ha⟩ := ht
    obtain ⟨m', hm'⟩ := h' m _ _ hm (ha.notFuel (α := TailRes) hnf)
    exact ⟨m', er', hm', ha⟩
  | ok t =>
    cases t with
    | value v =>
      obtain ⟨m, hm⟩ := ht
      exact h' m _ _ hm (by simp)
    | tailCall f targs tenv =>
      intro m r σ₂ hm hr
      obtain ⟨m₁, hm₁⟩ := ht m r σ₂ hm hr
      exact h' m₁ _ _ hm₁ hr

/-- SEQUENCING into a body outcome `rt` of the model; `g` is the reference's run, `f` and `k'` its parts. `hk` asks for
`FuelMono` because `TailOK.lift` turns single runs of the continuation into settled ones -/
theorem TailOK.andThen {α} {x : Res α} {k : α → Store → Res TailRes} {rt σ₁} (h : andThen x k = (rt, σ₁))
    (hr : NotFuel rt) {f : Nat → Res α} {k' : Nat → α → Store → Res Value} {g : Nat → Res Value}
    (hg : ∀ m, g (m+1) = andThen (f m) (k' m)) (hx : ∀ {a σ}, x = (a, σ) → NotFuel a → Sim f a σ.erase)
    (hk : ∀ a σ, k a σ = (rt, σ₁) → FuelMono (k' · a σ.erase) ∧ TailOK (k' · a σ.erase) rt σ₁) :
    TailOK g rt σ₁ := by
  rcases andThen_eq h with ⟨er, hx', rfl⟩ | ⟨a, σ, hx', h⟩
  · exact ((hx hx' hr.cast).pass hg).tailOK
  · have S₁ := (hx hx' (.ok a)).ok
    exact (hk a σ h).2.lift (hk a σ h).1 hr fun S => Stable.seq_intro hg (.inr ⟨a, _, S₁, S⟩)

structure Refines (n : Nat) : Prop where
  expr : ∀ {σ ρ e r σ'}, evalExpr n σ ρ e = (r, σ') → NotFuel r →
    ∃ m r', eval m σ.erase ρ e = (r', σ'.erase) ∧ Agree r r'
  args : ∀ {σ ρ es r σ'}, evalArgs n σ ρ es = (r, σ') → NotFuel r →
    ∃ m r', evalList m σ.erase ρ es = (r', σ'.erase) ∧ Agree r r'
  proc : ∀ {σ p as env r σ'}, applyProcedure n σ p as env = (r, σ') → NotFuel r →
    ∃ m r', apply m σ.erase p as = (r', σ'.erase) ∧ Agree r r'
  loop : ∀ {σ p as env r σ'}, applyLoop n σ p as env = (r, σ') → NotFuel r →
    ∃ m r', apply m σ.erase p as = (r', σ'.erase) ∧ Agree r r'
  scheme : ∀ {σ lam cenv as rt σ₁}, applyScheme n σ lam cenv as = (rt, σ₁) → NotFuel rt →
    arityOk lam.formals.fixed.length lam.formals.rest.isSome as.length = true →
    TailOK (fun m => apply m σ.erase (.closure lam cenv) as) rt σ₁
  defs : ∀ {σ ρ ds r σ'}, Eval.evalDefs n σ ρ ds = (r, σ') → NotFuel r →
    ∃ m r', evalDefs m σ.erase ρ ds = (r', σ'.erase) ∧ Agree r r'
  body : ∀ {σ ρ es rt σ₁}, evalBody n σ ρ es = (rt, σ₁) → NotFuel rt →
    TailOK (fun m => evalSeq m σ.erase ρ es) rt σ₁
  tail : ∀ {σ ρ e rt σ₁}, evalTail n σ ρ e = (rt, σ₁) → NotFuel rt →
    TailOK (fun m => eval m σ.erase ρ e) rt σ₁

theorem apply_closure_erase (m : Nat) {σ : Store} {lam : Lambda} {cenv : Nat} {as : List Value}
    (ha : arityOk lam.formals.fixed.length lam.formals.rest.isSome as.length = true) {rb σ₁}
    (hb : bindFixed (σ.newFrame (some cenv)).2 (σ.newFrame (some cenv)).1 lam.formals.fixed as = (rb, σ₁)) :
    apply (m+1) σ.erase (.closure lam cenv) as =
      match (generalizing := false) rb with
      | .error er => (.error (er, none), σ₁.erase)
      | .ok restArgs =>
        andThen (evalDefs m (bindRest σ₁ (σ.newFrame (some cenv)).1 lam.formals.rest restArgs).erase
            (σ.newFrame (some cenv)).1 lam.defs) fun _ σ₂ => evalSeq m σ₂ (σ.newFrame (some cenv)).1 lam.body := by
  have e : bindFixed (σ.erase.newFrame (some cenv)).2 (σ.erase.newFrame (some cenv)).1 lam.formals.fixed as =
      (rb, σ₁.erase) := by
    have := bindFixed_erase (σ.newFrame (some cenv)).2 (σ.newFrame (some cenv)).1 lam.formals.fixed as
    rwa [hb] at this
  rw [apply_closure m _ cenv ha, e]
  cases rb with
  | error er => rfl
  | ok restArgs => simp only [bindRest_erase]; rfl

section
variable {n : Nat} (ih : Refines n)
include ih

theorem Refines.sExpr {σ ρ e r σ'} (h : evalExpr n σ ρ e = (r, σ')) (hr : NotFuel r) :
    Sim (eval · σ.erase ρ e) r σ'.erase := .of (fuelMono_eval _ _ _) (ih.expr h hr) hr
theorem Refines.sArgs {σ ρ es r σ'} (h : evalArgs n σ ρ es = (r, σ')) (hr : NotFuel r) :
    Sim (evalList · σ.erase ρ es) r σ'.erase := .of (fuelMono_list _ _ _) (ih.args h hr) hr
theorem Refines.sDefs {σ ρ ds r σ'} (h : Eval.evalDefs n σ ρ ds = (r, σ')) (hr : NotFuel r) :
    Sim (evalDefs · σ.erase ρ ds) r σ'.erase := .of (fuelMono_defs _ _ _) (ih.defs h hr) hr

theorem refines_expr {σ ρ e r σ'} (h : evalExpr (n+1) σ ρ e = (r, σ')) (hr : NotFuel r) :
    ∃ m r', eval m σ.erase ρ e = (r', σ'.erase) ∧ Agree r r' := by
  cases e with
  | prim _ _ | datum _ _ | quote _ _ | lambda _ _ | sym _ _ =>
    exact ⟨1, r, by rw [eval_atom 0 n _ _ _ trivial, h]; rfl, .refl r⟩
  | assign name ve l =>
    rw [evalExpr_assign] at h
    refine Sim.refines (Sim.unfold (eval_assign · σ.erase ρ name ve l) (Sim.andThen h hr ih.sExpr fun v σ1 h => ?_))
    simp only [Store.erase_set]
    revert h
    rcases σ1.set ρ name v with ⟨_ | _, σ2⟩ <;> intro h <;> cases h <;> exact Stable.sim (Stable.pure_iff.2 ⟨rfl, hr⟩)
  | cond t c a l =>
    rw [evalExpr_cond] at h
    refine Sim.refines (Sim.unfold (eval_cond · σ.erase ρ t c a l) (Sim.andThen h hr ih.sExpr fun tv σ1 h => ?_))
    split at h
    next htv => simp only [if_pos htv]; exact ih.sExpr h hr
    next htv =>
      simp only [if_neg htv]
      cases a
      · cases h; exact Stable.sim (Stable.ok_iff.2 ⟨rfl, rfl⟩)
      · exact ih.sExpr h hr
  | call f args l =>
    rw [evalExpr_call] at h
    refine Sim.refines (Sim.unfold (eval_call · σ.erase ρ f args l) (Sim.andThen h hr ih.sExpr fun fv σ1 h => ?_))
    split at h
    next hp =>
      simp only [if_pos hp]
      exact Sim.andThen h hr ih.sArgs fun vs σ2 h => Sim.of (fuelMono_apply _ _ _) (ih.proc h hr) hr
    next hp =>
      simp only [if_neg hp]
      cases h
      have hra := (nonProcAfter_notFuel _ _).1 hr
      rw [nonProcAfter_of _ hra]
      exact Stable.sim ((ih.sArgs rfl hra).nonProc (fuelMono_list _ _ _) f.loc)

theorem refines_args {σ ρ es r σ'} (h : evalArgs (n+1) σ ρ es = (r, σ')) (hr : NotFuel r) :
    ∃ m r', evalList m σ.erase ρ es = (r', σ'.erase) ∧ Agree r r' := by
  cases es with
  | nil => rw [evalArgs_nil] at h; cases h; exact ⟨1, _, evalList_nil 0 _ ρ, Agree.refl _⟩
  | cons a as =>
    rw [evalArgs_cons] at h
    refine Sim.refines (Sim.unfold (evalList_cons · σ.erase ρ a as) (Sim.andThen h hr ih.sExpr fun v σ1 h =>
      Sim.andThen h hr ih.sArgs fun vs σ2 h => ?_))
    cases h; exact Stable.sim (Stable.ok_iff.2 ⟨rfl, rfl⟩)

theorem refines_proc {σ p as env r σ'} (h : applyProcedure (n+1) σ p as env = (r, σ')) (hr : NotFuel r) :
    ∃ m r', apply m σ.erase p as = (r', σ'.erase) ∧ Agree r r' := by
  rw [applyProcedure_succ] at h
  cases h
  exact ih.loop (σ := enter σ) (σ' := (applyLoop n (enter σ) p as env).2) rfl hr

theorem refines_defs {σ ρ ds r σ'} (h : Eval.evalDefs (n+1) σ ρ ds = (r, σ')) (hr : NotFuel r) :
    ∃ m r', evalDefs m σ.erase ρ ds = (r', σ'.erase) ∧ Agree r r' := by
  cases ds with
  | nil => rw [Eval.evalDefs_nil] at h; cases h; exact ⟨1, _, evalDefs_nil 0 _ ρ, Agree.refl _⟩
  | cons d ds =>
    obtain ⟨x, e, l⟩ := d
    rw [Eval.evalDefs_cons] at h
    refine Sim.refines (Sim.unfold (evalDefs_cons · σ.erase ρ x e l ds) (Sim.andThen h hr ih.sExpr fun v σ1 h => ?_))
    rw [← Store.erase_define]; exact ih.sDefs h hr

theorem refines_tail {σ ρ e rt σ₁} (h : evalTail (n+1) σ ρ e = (rt, σ₁)) (hr : NotFuel rt) :
    TailOK (fun m => eval m σ.erase ρ e) rt σ₁ := by
  rcases e.tail_cases with ⟨f, args, l, rfl⟩ | ⟨t, c, a, l, rfl⟩ | ⟨h₁, h₂⟩
  · rw [evalTail_call] at h; cases h
    intro m r σ₂ hm _
    exact ⟨m, (eval_call_loc m _ _ f args l none).trans hm⟩
  · rw [evalTail_cond] at h
    refine TailOK.andThen h hr (eval_cond · _ ρ t c a l) ih.sExpr fun tv σ1 h => ?_
    split at h
    next htv => simp only [if_pos htv]; exact ⟨fuelMono_eval _ _ _, ih.tail h hr⟩
    next htv =>
      simp only [if_neg htv]
      cases a with
      | some alt => exact ⟨fuelMono_eval _ _ _, ih.tail h hr⟩
      | none => cases h; exact ⟨fun _ => .refl, 0, rfl⟩
  · rw [evalTail_other h₁ h₂] at h
    rcases andThen_eq h with ⟨er, heq, rfl⟩ | ⟨v, σ1, heq, h⟩
    · exact (ih.sExpr heq hr.cast).tailOK
    · cases h; exact (ih.sExpr heq (by simp)).ok.run

theorem refines_body {σ ρ es rt σ₁} (h : evalBody (n+1) σ ρ es = (rt, σ₁)) (hr : NotFuel rt) :
    TailOK (fun m => evalSeq m σ.erase ρ es) rt σ₁ := by
  match es with
  | [] => rw [evalBody_nil] at h; cases h; exact ⟨1, _, evalSeq_nil 0 _ ρ, AgreeErr.refl _⟩
  | [last] =>
    rw [evalBody_last] at h
    exact (ih.tail h hr).lift (fuelMono_eval _ _ _) hr fun S => (Stable.unfold (evalSeq_last · _ ρ last)).2 S
  | e :: e2 :: es =>
    rw [evalBody_cons] at h
    exact TailOK.andThen h hr (evalSeq_cons · _ ρ e e2 es) ih.sExpr fun _ _ h => ⟨fuelMono_seq _ _ _, ih.body h hr⟩

theorem refines_scheme {σ lam cenv as rt σ₁} (h : applyScheme (n+1) σ lam cenv as = (rt, σ₁)) (hr : NotFuel rt)
    (ha : arityOk lam.formals.fixed.length lam.formals.rest.isSome as.length = true) :
    TailOK (fun m => apply m σ.erase (.closure lam cenv) as) rt σ₁ := by
  rw [applyScheme_seq] at h
  split at h
  next er σ1 hb =>
    cases h
    exact ⟨1, _, apply_closure_erase 0 ha hb, AgreeErr.refl _⟩
  next restArgs σ1 hb =>
    exact TailOK.andThen h hr (fun m => apply_closure_erase m ha hb) ih.sDefs fun _ _ h =>
      ⟨fuelMono_seq _ _ _, ih.body h hr⟩

theorem refines_loop {σ p as env r σ'} (h : applyLoop (n+1) σ p as env = (r, σ')) (hr : NotFuel r) :
    ∃ m r', apply m σ.erase p as = (r', σ'.erase) ∧ Agree r r' := by
  rcases applied_cases p as with hp | ⟨f, v, hp, ha⟩ | ⟨lam, cenv, rfl, ha⟩ | ⟨rfl, ha⟩ | ⟨b, rfl, hb, ha⟩
  · rw [applyLoop_not_proc _ _ _ _ hp] at h; cases h
    exact ⟨1, _, apply_not_proc 0 _ _ hp, .inr ⟨none, rfl⟩⟩
  · rw [applyLoop_arity_gate _ _ _ hp ha] at h; cases h
    exact ⟨1, _, apply_arity 0 _ hp ha, Agree.refl _⟩
  · rw [applyLoop_closure _ _ _ _ ha] at h
    rcases andThen_eq h with ⟨er, hs, rfl⟩ | ⟨t, σ1, hs, h⟩
    · obtain ⟨m, er', hm, hag⟩ := ih.scheme hs hr.cast ha
      exact ⟨m, .error er', hm, hag⟩
    · cases t with
      | value v =>
        cases h
        obtain ⟨m, hm⟩ := ih.scheme hs (by simp) ha
        exact ⟨m, _, hm, Agree.refl _⟩
      | tailCall f targs tenv =>
        -- the trampoline does what the reference does with the call it was handed back, but for
        -- the order of the two errors
        refine (ih.scheme hs (by simp) ha).resume (Sim.unfold (eval_call · _ tenv f targs none) ?_)
        refine Sim.andThen h hr ih.sExpr fun fv σ2 h => ?_
        split
        next hpf =>
          refine Sim.andThen h hr ih.sArgs fun vs σ3 h => ?_
          rw [if_pos hpf] at h
          exact Sim.of (fuelMono_apply _ _ _) (ih.loop h hr) hr
        next hpf =>
          rcases andThen_eq h with ⟨er, hargs, rfl⟩ | ⟨vs, σ3, hargs, h⟩
          · exact ⟨_, (ih.sArgs hargs hr.cast).nonProc (fuelMono_list _ _ _) f.loc, .inr ⟨_, rfl⟩⟩
          · rw [if_neg hpf] at h; cases h
            exact Stable.sim ((ih.sArgs hargs (by simp)).nonProc (fuelMono_list _ _ _) f.loc)
  · rw [applyLoop_apply _ _ _ ha] at h
    split at h
    next er hsp => cases h; exact ⟨1, _, by rw [apply_apply 0 _ ha, hsp], Agree.refl _⟩
    next f args' hsp =>
      obtain ⟨m, r', hm, hag⟩ := ih.loop h hr
      exact ⟨m+1, r', by rw [apply_apply m _ ha, hsp]; exact hm, hag⟩
  · rw [applyLoop_builtin_step _ _ _ hb ha] at h
    exact ⟨1, r, by rw [apply_builtin 0 _ hb ha, applyPure_erase, h]; rfl, Agree.refl _⟩
end

theorem refines_all : ∀ n, Refines n
  | 0 =>
    ⟨fun h hr => (hr.elim (evalExpr_zero ..) h).elim, fun h hr => (hr.elim (evalArgs_zero ..) h).elim,
      fun h hr => (hr.elim (applyProcedure_zero ..) h).elim, fun h hr => (hr.elim (applyLoop_zero ..) h).elim,
      fun h hr _ => (hr.elim (applyScheme_zero ..) h).elim, fun h hr => (hr.elim (Eval.evalDefs_zero ..) h).elim,
      fun h hr => (hr.elim (evalBody_zero ..) h).elim, fun h hr => (hr.elim (evalTail_zero ..) h).elim⟩
  | n+1 =>
    have ih := refines_all n
    ⟨refines_expr ih, refines_args ih, refines_proc ih, refines_loop ih, refines_scheme ih, refines_defs ih,
      refines_body ih, refines_tail ih⟩


/-! ## Conversely: a value of the reference is the value of the model -/

def TailConv (m : Nat) (rt : TailRes) (σ₁ : Store) (v : Value) (τ : Store) : Prop :=
  match rt with
  | .value v' => v' = v ∧ σ₁.erase = τ
  | .tailCall f targs tenv => eval m σ₁.erase tenv (.call f targs none) = (.ok v, τ)

theorem TailConv.mono {m m' rt σ₁ v τ} (h : TailConv m rt σ₁ v τ) (hm : m ≤ m') : TailConv m' rt σ₁ v τ := by
  cases rt with
  | value v' => exact h
  | tailCall f targs tenv => exact eval_mono_le (show eval m _ _ _ = _ from h) (by simp) hm

structure Conv (m : Nat) : Prop where
  eval : ∀ {σ ρ e v τ}, eval m σ.erase ρ e = (.ok v, τ) → ∃ σ', Evals σ ρ e (.ok v) σ' ∧ σ'.erase = τ
  list : ∀ {σ ρ es vs τ}, evalList m σ.erase ρ es = (.ok vs, τ) → ∃ σ', EvalsArgs σ ρ es (.ok vs) σ' ∧ σ'.erase = τ
  apply : ∀ {σ p as v τ}, apply m σ.erase p as = (.ok v, τ) → ∀ env, ∃ σ', Applies σ p as env (.ok v) σ' ∧ σ'.erase = τ
  defs : ∀ {σ ρ ds τ}, evalDefs m σ.erase ρ ds = (.ok (), τ) → ∃ σ', EvalsDefs σ ρ ds (.ok ()) σ' ∧ σ'.erase = τ
  seq : ∀ {σ ρ es v τ}, evalSeq m σ.erase ρ es = (.ok v, τ) →
    ∃ rt σ₁, EvalsBody σ ρ es (.ok rt) σ₁ ∧ TailConv m rt σ₁ v τ
  tail : ∀ {σ ρ e v τ}, Ref.eval m σ.erase ρ e = (.ok v, τ) →
    ∃ rt σ₁, EvalsTail σ ρ e (.ok rt) σ₁ ∧ TailConv m rt σ₁ v τ

/-- the arm of an `if` in and out of tail position: `g` is `evalExpr` or `evalTail` on the arm's expression, `C` the claim
on the model's outcome and store, `harm` the induction hypothesis; the conclusion is the arm of
`evalExpr_cond`/`evalTail_cond` -/
theorem conv_arm {α} {g : Expr → Nat → Res α} {C : α → Store → Prop} {void : α} {b : Bool} {c : Expr}
    {a : Option Expr} {m ρ} {σ₁ : Store} {v τ}
    (harm : ∀ e, eval m σ₁.erase ρ e = (.ok v, τ) → ∃ x σ₂, Stable (g e) (.ok x) σ₂ ∧ C x σ₂)
    (hvoid : v = .void → σ₁.erase = τ → C void σ₁)
    (h : (if b then eval m σ₁.erase ρ c else match a with
      | some alt => eval m σ₁.erase ρ alt
      | none => (.ok .void, σ₁.erase)) = (.ok v, τ)) :
    ∃ x σ₂, Stable (fun n => if b then g c n else match a with | some alt => g alt n | none => (.ok void, σ₁))
      (.ok x) σ₂ ∧ C x σ₂ := by
  cases b with
  | true => exact harm c h
  | false =>
    cases a with
    | some alt => exact harm alt h
    | none => cases h; exact ⟨void, σ₁, Stable.ok_iff.2 ⟨rfl, rfl⟩, hvoid rfl rfl⟩

section
variable {m : Nat} (ih : Conv m)
include ih

/-- `k` is `m + 1` for a call met as an expression (`conv_eval`), `m` for a call that a body of the model handed back
(`conv_apply`: its `TailConv` comes from the induction hypothesis) -/
theorem conv_call {k σ ρ f args l v τ} (hk : k ≤ m + 1) (h : Ref.eval k σ.erase ρ (.call f args l) = (.ok v, τ)) :
    ∃ fv σ₁ vs σ₂, Evals σ ρ f (.ok fv) σ₁ ∧ EvalsArgs σ₁ ρ args (.ok vs) σ₂ ∧ (procArity fv).isSome ∧
      Ref.apply m σ₂.erase fv vs = (.ok v, τ) := by
  cases k with
  | zero => rw [Ref.eval] at h; cases h
  | succ k =>
    have hk : k ≤ m := Nat.le_of_succ_le_succ hk
    rw [eval_call] at h
    obtain ⟨fv, τ₁, heq, h⟩ := andThen_value h
    obtain ⟨σ₁, h₁, rfl⟩ := ih.eval (eval_mono_le heq (by simp) hk)
    split at h
    next hp =>
      obtain ⟨vs, τ₂, hargs, h⟩ := andThen_value h
      obtain ⟨σ₂, h₂, rfl⟩ := ih.list (mono_le (fuelMono_list _ _ _) hargs (by simp) hk)
      exact ⟨fv, σ₁, vs, σ₂, h₁, h₂, hp, mono_le (fuelMono_apply _ _ _) h (by simp) hk⟩
    · unfold nonProcAfter at h; split at h <;> cases h

theorem conv_eval {σ ρ e v τ} (h : Ref.eval (m+1) σ.erase ρ e = (.ok v, τ)) :
    ∃ σ', Evals σ ρ e (.ok v) σ' ∧ σ'.erase = τ := by
  cases e with
  | prim _ _ | datum _ _ | quote _ _ | lambda _ _ | sym _ _ =>
    rw [eval_atom m 0 _ _ _ trivial] at h
    generalize hx : evalExpr (0+1) σ ρ _ = x at h
    obtain ⟨r, σ'⟩ := x
    cases h
    exact ⟨σ', .intro hx (by simp), rfl⟩
  | assign name ve l =>
    rw [eval_assign] at h
    obtain ⟨x, τ₁, heq, h⟩ := andThen_value h
    · obtain ⟨σ₁, h₁, rfl⟩ := ih.eval heq
      rw [Store.erase_set] at h
      cases hs : σ₁.set ρ name x with
      | mk b σ₂ =>
        rw [hs] at h
        cases b <;> simp only at h <;> cases h
        exact ⟨σ₂, .assign h₁ hs, rfl⟩
  | cond t c a l =>
    rw [eval_cond] at h
    obtain ⟨tv, τ₁, heq, h⟩ := andThen_value h
    obtain ⟨σ₁, h₁, rfl⟩ := ih.eval heq
    obtain ⟨_, σ₂, S, rfl, rfl⟩ := conv_arm (g := fun e n => evalExpr n σ₁ ρ e)
      (C := fun x σ₂ => x = v ∧ σ₂.erase = τ) (fun e he => let ⟨σ₂, h₂, e₂⟩ := ih.eval he; ⟨v, σ₂, h₂, rfl, e₂⟩)
      (fun hv hτ => ⟨hv.symm, hτ⟩) h
    exact ⟨σ₂, Stable.seq_intro (evalExpr_cond · σ ρ t c a l) (.inr ⟨tv, σ₁, h₁, S⟩), rfl⟩
  | call f args l =>
    obtain ⟨fv, σ₁, vs, σ₂, h₁, h₂, hp, ha⟩ := conv_call ih (Nat.le_refl _) h
    obtain ⟨σ₃, h₃, rfl⟩ := ih.apply (σ := enter σ₂) ha ρ
    exact ⟨leave σ₃, .call h₁ h₂ hp (.of_loop h₃), rfl⟩

theorem conv_list {σ ρ es vs τ} (h : evalList (m+1) σ.erase ρ es = (.ok vs, τ)) :
    ∃ σ', EvalsArgs σ ρ es (.ok vs) σ' ∧ σ'.erase = τ := by
  cases es with
  | nil => rw [evalList] at h; cases h; exact ⟨σ, .nil, rfl⟩
  | cons a as =>
    rw [evalList_cons] at h
    obtain ⟨x, τ₁, heq, h⟩ := andThen_value h
    obtain ⟨σ₁, h₁, rfl⟩ := ih.eval heq
    obtain ⟨xs, τ₂, heq2, h⟩ := andThen_value h
    cases h
    obtain ⟨σ₂, h₂, rfl⟩ := ih.list heq2
    exact ⟨σ₂, .cons h₁ h₂, rfl⟩

theorem conv_defs {σ ρ ds τ} (h : evalDefs (m+1) σ.erase ρ ds = (.ok (), τ)) :
    ∃ σ', EvalsDefs σ ρ ds (.ok ()) σ' ∧ σ'.erase = τ := by
  cases ds with
  | nil => rw [evalDefs] at h; cases h; exact ⟨σ, .nil, rfl⟩
  | cons d ds =>
    obtain ⟨x, e, l⟩ := d
    rw [evalDefs_cons] at h
    obtain ⟨xv, τ₁, heq, h⟩ := andThen_value h
    obtain ⟨σ₁, h₁, rfl⟩ := ih.eval heq
    rw [← Store.erase_define] at h
    obtain ⟨σ₂, h₂, rfl⟩ := ih.defs h
    exact ⟨σ₂, .cons h₁ h₂, rfl⟩

theorem conv_tail {σ ρ e v τ} (h : Ref.eval (m+1) σ.erase ρ e = (.ok v, τ)) :
    ∃ rt σ₁, EvalsTail σ ρ e (.ok rt) σ₁ ∧ TailConv (m+1) rt σ₁ v τ := by
  rcases e.tail_cases with ⟨f, as, l, rfl⟩ | ⟨t, c, a, l, rfl⟩ | ⟨hcall, hcond⟩
  · exact ⟨_, σ, .call, (eval_call_loc _ _ _ f as none l).trans h⟩
  · rw [eval_cond] at h
    obtain ⟨tv, τ₁, heq, h⟩ := andThen_value h
    obtain ⟨σ₁, h₁, rfl⟩ := ih.eval heq
    obtain ⟨rt, σ₂, S, hc⟩ := conv_arm (g := fun e n => evalTail n σ₁ ρ e) (void := .value .void)
      (C := fun rt σ₂ => TailConv (m+1) rt σ₂ v τ)
      (fun e he => let ⟨rt, σ₂, h₂, hc⟩ := ih.tail he; ⟨rt, σ₂, h₂, hc.mono (Nat.le_succ m)⟩)
      (fun hv hτ => ⟨hv.symm, hτ⟩) h
    exact ⟨rt, σ₂, Stable.seq_intro (evalTail_cond · σ ρ t c a l) (.inr ⟨tv, σ₁, h₁, S⟩), hc⟩
  · obtain ⟨σ', h₁, rfl⟩ := conv_eval ih h
    exact ⟨.value v, σ', .other hcall hcond h₁, rfl, rfl⟩

theorem conv_seq {σ ρ es v τ} (h : evalSeq (m+1) σ.erase ρ es = (.ok v, τ)) :
    ∃ rt σ₁, EvalsBody σ ρ es (.ok rt) σ₁ ∧ TailConv (m+1) rt σ₁ v τ := by
  match es with
  | [] => rw [evalSeq] at h; cases h
  | [last] =>
    rw [evalSeq] at h
    obtain ⟨rt, σ₁, h₁, hc⟩ := ih.tail h
    exact ⟨rt, σ₁, .last h₁, hc.mono (Nat.le_succ m)⟩
  | e :: e2 :: es =>
    rw [evalSeq_cons] at h
    obtain ⟨x, τ₁, heq, h⟩ := andThen_value h
    obtain ⟨σ₁, h₁, rfl⟩ := ih.eval heq
    obtain ⟨rt, σ₂, h₂, hc⟩ := ih.seq h
    exact ⟨rt, σ₂, .cons h₁ h₂, hc.mono (Nat.le_succ m)⟩

theorem conv_apply {σ p as v τ} (h : Ref.apply (m+1) σ.erase p as = (.ok v, τ)) (env : Nat) :
    ∃ σ', Applies σ p as env (.ok v) σ' ∧ σ'.erase = τ := by
  rcases applied_cases p as with hp | ⟨f, v, hp, ha⟩ | ⟨lam, cenv, rfl, ha⟩ | ⟨rfl, ha⟩ | ⟨b, rfl, hb, ha⟩
  · rw [apply_not_proc _ _ _ hp] at h; cases h
  · rw [apply_arity _ _ hp ha] at h; cases h
  · cases hb : bindFixed (σ.newFrame (some cenv)).2 (σ.newFrame (some cenv)).1 lam.formals.fixed as with
    | mk rb σ₁ =>
      rw [apply_closure_erase m ha hb] at h
      cases rb with
      | error e => cases h
      | ok restArgs =>
        obtain ⟨⟨⟩, τ₂, hd, h⟩ := andThen_value h
        obtain ⟨σ₂, h₂, rfl⟩ := ih.defs hd
        obtain ⟨rt, σ₃, h₃, hc⟩ := ih.seq h
        have hs := AppliesScheme.intro_ok hb h₂ h₃
        cases rt with
        | value v' =>
          obtain ⟨rfl, rfl⟩ := hc
          exact ⟨σ₃, .closure_value ha hs, rfl⟩
        | tailCall f targs tenv =>
          obtain ⟨fv, σ₄, vs, σ₅, h₄, h₅, hp, ha'⟩ := conv_call ih (Nat.le_succ m) hc
          obtain ⟨σ₆, h₆, rfl⟩ := ih.apply ha' env
          exact ⟨σ₆, .closure_tail ha hs h₄ h₅ hp h₆, rfl⟩
  · rw [apply_apply _ _ ha] at h
    split at h
    · cases h
    next f args' hsp =>
      obtain ⟨σ', h₁, rfl⟩ := ih.apply h env
      exact ⟨σ', .apply ha hsp h₁, rfl⟩
  · rw [apply_builtin _ _ hb ha, applyPure_erase] at h
    cases hp : applyPure σ b as with
    | mk r σ' => rw [hp] at h; cases h; exact ⟨σ', .builtin_run hb ha hp, rfl⟩
end

theorem conv_all : ∀ m, Conv m
  | 0 =>
    ⟨fun h => ((NotFuel.ok _).elim (eval_zero ..) h).elim, fun h => ((NotFuel.ok _).elim (evalList_zero ..) h).elim,
      fun h _ => ((NotFuel.ok _).elim (apply_zero ..) h).elim, fun h => ((NotFuel.ok _).elim (evalDefs_zero ..) h).elim,
      fun h => ((NotFuel.ok _).elim (evalSeq_zero ..) h).elim, fun h => ((NotFuel.ok _).elim (eval_zero ..) h).elim⟩
  | m+1 =>
    have ih := conv_all m
    ⟨conv_eval ih, conv_list ih, conv_apply ih, conv_defs ih, conv_seq ih, conv_tail ih⟩

end Ruschm.Ref
