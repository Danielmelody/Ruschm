/-
`Interp.grammarScope` runs the transformer over the generated `grammar.sld`. `grammarScope_eq` is its value written
out, so that facts about the interpreter's own syntax environment rewrite with it and do not evaluate the transformer.
-/
import RuschmProofs.MacroShapes
import RuschmModel.Interp

namespace Ruschm.Macro
open Ruschm

theorem grammarScope_eq : Interp.grammarScope =
    [("begin", beginRules), ("let", letRules), ("let*", letstarRules), ("cond", condRules),
     ("case", caseRules), ("and", andRules), ("or", orRules), ("when", whenRules),
     ("unless", unlessRules)] := by
  rfl

end Ruschm.Macro
