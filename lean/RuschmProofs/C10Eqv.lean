/-
Property C10, last clause — "eqv? on two numbers is true exactly when they have the same exactness
and are numerically equal": the complete case table of the model's numeric `eqv?`
(`Num.exactEqv`, `values.rs` `exact_eqv`), what the builtins `eqv?`/`eq?` add to it (nothing), and
that `memv` (hence `case`) compares numbers with that same function.

Complements `RuschmProofs/C10.lean` (`eqv_iff`, `eqv_exact_iff`, `eqv_mixed_false`, `eqv_needs_wf`).
`Float32` is opaque to the kernel: what `a == b` answers on two reals is the host's IEEE binary32
equality, so the IEEE consequences (0.0 eqv -0.0; NaN eqv to nothing) carry that test as hypothesis.
-/
import RuschmProofs.C10
import RuschmProofs.C11

namespace Ruschm.C10Eqv
open Ruschm Ruschm.Eval Ruschm.ListSpec Ruschm.ListLib

/-! ## 1. real × real: the binary32 equality test and nothing else -/

/-- On two inexact numbers `eqv?` is exactly Float32's `==` (IEEE `f32::eq`): the interpreter tests
neither the sign bit nor the bit pattern. -/
theorem eqv_real_real (a b : Float32) : Num.exactEqv (.real a) (.real b) = (a == b) := rfl

/-- Consequence: any two reals that are binary32-equal are `eqv?` — by IEEE that includes `0.0` and
`-0.0` (R7RS says `(eqv? 0.0 -0.0)` is `#f`; this interpreter says `#t`). -/
theorem eqv_real_of_beq {a b : Float32} (h : (a == b) = true) :
    Num.exactEqv (.real a) (.real b) = true := h

/-- Consequence: a real that is not binary32-equal to `b` is not `eqv?` to it — by IEEE a NaN is
`eqv?` to nothing, itself included (R7RS would answer `#t` for `(eqv? +nan.0 +nan.0)` bitwise). -/
theorem eqv_real_of_not_beq {a b : Float32} (h : (a == b) = false) :
    Num.exactEqv (.real a) (.real b) = false := h

-- The hypotheses `(0.0 == -0.0) = true`, `(nan == nan) = false` are IEEE facts about the host's
-- binary32; `Float32` is opaque, so the kernel cannot discharge them (`#eval` confirms both). Use:
example (σ : Store) {a b : Float32} (h : (a == b) = true) :
    Prim.applyPure σ .eqv [.num (.real a), .num (.real b)] = (.ok (.bool true), σ) := by
  show (Except.ok (Value.bool (Num.exactEqv (.real a) (.real b))), σ) = _
  rw [eqv_real_of_beq h]

/-! ## 2. exact × real, in both orders: never -/

/-- An exact number (integer or ratio) is never `eqv?` to a real, whatever their values:
`(eqv? 2 2.0)` is `#f`. -/
theorem eqv_exact_real (r : Float32) (i n d : Int) :
    Num.exactEqv (.int i) (.real r) = false ∧ Num.exactEqv (.rat n d) (.real r) = false :=
  ⟨C10.eqv_mixed_false nofun, C10.eqv_mixed_false nofun⟩

/-- …and a real is never `eqv?` to an exact number. -/
theorem eqv_real_exact (r : Float32) (i n d : Int) :
    Num.exactEqv (.real r) (.int i) = false ∧ Num.exactEqv (.real r) (.rat n d) = false :=
  ⟨C10.eqv_mixed_false nofun, C10.eqv_mixed_false nofun⟩

/-- The exact rows of the table, for completeness: integers by equality, ratios by
cross-multiplication, an integer and a ratio never (a well-formed ratio has denominator ≠ 1). -/
theorem eqv_exact_table (i j n d n' d' : Int) :
    Num.exactEqv (.int i) (.int j) = (i == j) ∧
    Num.exactEqv (.rat n d) (.rat n' d') = (n * d' == d * n') ∧
    Num.exactEqv (.int i) (.rat n d) = false ∧ Num.exactEqv (.rat n d) (.int i) = false :=
  ⟨rfl, rfl, rfl, rfl⟩

/-! ## 3. the builtins add nothing -/

/-- `(eqv? a b)` and `(eq? a b)` on two numbers (extra arguments ignored) return the boolean
`Num.exactEqv a b` and leave the store as it was. -/
theorem eqv_builtin_table (σ : Store) (a b : Num) (rest : List Value) :
    Prim.applyPure σ .eqv (.num a :: .num b :: rest) = (.ok (.bool (Num.exactEqv a b)), σ) ∧
    Prim.applyPure σ .eq (.num a :: .num b :: rest) = (.ok (.bool (Num.exactEqv a b)), σ) :=
  ⟨rfl, rfl⟩

/-- With fewer than two arguments the builtin does not answer: it is the `unwrap` panic of
`base.rs`, not a boolean. -/
theorem eqv_builtin_missing (σ : Store) (a : Value) :
    Prim.applyPure σ .eqv [a] = Prim.missing .eqv σ ∧ Prim.applyPure σ .eqv [] = Prim.missing .eqv σ :=
  ⟨rfl, rfl⟩

-- (eqv? 2 2) ⇒ #t, (eqv? 2 2.0) ⇒ #f, (eqv? 1/2 1/2) ⇒ #t, (eqv? 1/2 2) ⇒ #f
example (σ : Store) : Prim.applyPure σ .eqv [.num (.int 2), .num (.int 2)] = (.ok (.bool true), σ) := rfl
example (σ : Store) : Prim.applyPure σ .eqv [.num (.int 2), .num (.real 2.0)] = (.ok (.bool false), σ) := rfl
example (σ : Store) : Prim.applyPure σ .eq [.num (.rat 1 2), .num (.rat 1 2)] = (.ok (.bool true), σ) := rfl
example (σ : Store) : Prim.applyPure σ .eqv [.num (.rat 1 2), .num (.int 2)] = (.ok (.bool false), σ) := rfl

/-! ## 4. memv on a list of numbers compares with that same function -/

/-- the tail `memv` returns: the first sublist whose head is `exactEqv` to `a`, or `#f` -/
def memvNums (a : Num) (ns : List Num) : Value :=
  match ns.dropWhile (fun n => !Num.exactEqv a n) with
  | [] => .bool false
  | l => Value.ofList (l.map Value.num)

private theorem memS_nums (a : Num) (ns : List Num) :
    memS (.num a) (Value.ofList (ns.map Value.num)) = .ok (memvNums a ns) := by
  rw [ListSpec.memS_ofList, List.dropWhile_map, memvNums]
  show Except.ok (match (ns.dropWhile fun n => !Num.exactEqv a n).map Value.num with
    | [] => Value.bool false | l => Value.ofList l) = _
  cases ns.dropWhile fun n => !Num.exactEqv a n <;> rfl

/-- `(memv a '(n₁ … nₖ))` in any instance of `(scheme base)`, on a list of numbers: the answer is
the sublist from the first `nᵢ` with `Num.exactEqv a nᵢ`, else `#f` — the library's membership test
(and so `case`) uses numeric `eqv?`, not `=`: the key `2.0` does not match the datum `2`. -/
theorem memv_uses_eqv_on_numbers {σ : Store} {b : Nat} (h : LibFrame σ b) (a : Num)
    (ns : List Num) (env : Nat) :
    ∃ σ', Applies σ (libProc "memv" b) [.num a, Value.ofList (ns.map Value.num)] env
      (.ok (memvNums a ns)) σ' ∧ σ.Ext σ' := by
  have := C11.memv_spec h (.num a) (Value.ofList (ns.map Value.num)) env
  rwa [memS_nums] at this

example : memvNums (.real 2.0) [.int 1, .int 2, .int 3] = .bool false := rfl
example : memvNums (.int 2) [.int 1, .int 2, .int 3] = Value.ofList [.num (.int 2), .num (.int 3)] := rfl
example : ∃ σ', Applies libStore (libProc "memv" 0)
    [.num (.real 2.0), Value.ofList ([Num.int 1, .int 2].map Value.num)] 0
    (.ok (memvNums (.real 2.0) [.int 1, .int 2])) σ' ∧ libStore.Ext σ' :=
  memv_uses_eqv_on_numbers libFrame_libStore _ _ 0

end Ruschm.C10Eqv
