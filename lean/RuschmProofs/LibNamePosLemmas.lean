/-
The state never holds a position in the role of a library name (`NoLib st.rlocs`): code to run has none
(`Expr.noLib`), and the positions at which an import declaration or a library definition names libraries are
only ever copied into the error `get_library` / `eval_import_set` report (`InterpLoc.evalAst_stIn_of_refused`).
So a cyclic import or a missing library is reported inside the declaration that failed.

The last section is a relation that nothing in the development uses: "the same state, and the same outcome up
to the position of the error".
-/
import RuschmProofs.LocHead
import RuschmSpec.Unloc


namespace Ruschm.LibNamePos
open Ruschm Ruschm.Interp

/-! ## no position in the role of a library name -/

def NoLib (L : List RPos) : Prop := ∀ x ∈ L, x.1 ≠ Role.libname

theorem noLib_nil : NoLib [] := by simp [NoLib]

theorem noLib_append {a b : List RPos} : NoLib (a ++ b) ↔ NoLib a ∧ NoLib b := List.forall_mem_append

theorem noLib_map {r : Role} (hr : r ≠ .libname) (ps : List Pos) : NoLib (ps.map (fun p => (r, p))) :=
  List.forall_mem_map.2 fun _ _ => hr

theorem noLib_as {r : Role} (hr : r ≠ .libname) (l : Loc) : NoLib (l.as r) := noLib_map hr _

theorem NoLib.subset {a b : List RPos} (hb : NoLib b) (h : a ⊆ b) : NoLib a := fun x hx => hb x (h hx)

mutual
theorem Expr.noLib : ∀ e : Expr, NoLib e.rlocs
  | .sym _ l => by
    rw [Expr.rlocs]; exact noLib_append.2 ⟨noLib_as (by simp) l, noLib_as (by simp) l⟩
  | .prim _ l => by rw [Expr.rlocs]; exact noLib_as (by simp) l
  | .assign _ e l => by
    rw [Expr.rlocs]
    exact noLib_append.2 ⟨noLib_as (by simp) l, noLib_append.2 ⟨noLib_as (by simp) l, Expr.noLib e⟩⟩
  | .lambda lam l => by rw [Expr.rlocs]; exact noLib_append.2 ⟨noLib_as (by simp) l, Lambda.noLib lam⟩
  | .call f args l => by
    rw [Expr.rlocs]
    exact noLib_append.2 ⟨noLib_as (by simp) l, noLib_append.2 ⟨noLib_as (by simp) _,
      noLib_append.2 ⟨Expr.noLib f, Expr.noLibList args⟩⟩⟩
  | .cond t c a l => by
    rw [Expr.rlocs]
    exact noLib_append.2 ⟨noLib_as (by simp) l, noLib_append.2 ⟨Expr.noLib t,
      noLib_append.2 ⟨Expr.noLib c, Expr.noLibOpt a⟩⟩⟩
  | .quote _ l | .datum _ l => by rw [Expr.rlocs]; exact noLib_append.2 ⟨noLib_as (by simp) l, noLib_map (by simp) _⟩
theorem Expr.noLibOpt : ∀ e : Option Expr, NoLib (Expr.rlocsOpt e)
  | none => by rw [Expr.rlocsOpt]; exact noLib_nil
  | some e => by rw [Expr.rlocsOpt]; exact Expr.noLib e
theorem Expr.noLibList : ∀ es : List Expr, NoLib (Expr.rlocsList es)
  | [] => by rw [Expr.rlocsList]; exact noLib_nil
  | e :: es => by rw [Expr.rlocsList]; exact noLib_append.2 ⟨Expr.noLib e, Expr.noLibList es⟩
theorem Lambda.noLib : ∀ lam : Lambda, NoLib lam.rlocs
  | .mk _ defs body => by
    rw [Lambda.rlocs]; exact noLib_append.2 ⟨Def.noLibList defs, Expr.noLibList body⟩
theorem Def.noLib : ∀ d : Def, NoLib d.rlocs
  | .mk _ e l => by rw [Def.rlocs]; exact noLib_append.2 ⟨noLib_as (by simp) l, Expr.noLib e⟩
theorem Def.noLibList : ∀ ds : List Def, NoLib (Def.rlocsList ds)
  | [] => by rw [Def.rlocsList]; exact noLib_nil
  | d :: ds => by rw [Def.rlocsList]; exact noLib_append.2 ⟨Def.noLib d, Def.noLibList ds⟩
end

theorem evalAst_noLib {fuel : Nat} {st st' : State} {s : Statement} {r : Except SErr (Option Value)}
    (h : evalAst fuel st s = (r, st')) (hst : NoLib st.rlocs) : NoLib st'.rlocs := by
  -- the general step: a statement without library-name positions
  have step : NoLib s.rlocs → NoLib st'.rlocs := fun hs =>
    (noLib_append.2 ⟨hst, hs⟩).subset (InterpLoc.stIn_iff.1 (InterpLoc.evalAst_post h).1)
  have refused : (∀ st ρ, evalExprOrDef fuel st s ρ = (.error (.syntax, none), st)) → NoLib st'.rlocs := fun hs =>
    have i := InterpLoc.evalAst_stIn_of_refused (T := st.rlocs) (fuel := fuel)
      (InterpLoc.stIn_iff.2 (List.Subset.refl _)) hs
    hst.subset (InterpLoc.stIn_iff.1 (by rw [h] at i; exact i))
  cases s with
  | expr e => exact step (by rw [Statement.rlocs]; exact Expr.noLib e)
  | definition d => exact step (by rw [Statement.rlocs]; exact Def.noLib d)
  | syntaxDef n rules l => exact step (by rw [Statement.rlocs]; exact noLib_as (by simp) l)
  | importDecl _ _ | libraryDef _ _ _ => exact refused fun _ _ => rfl

/-- the transformer leaves the code of the state alone -/
theorem evalForm_noLib {fuel : Nat} {st : State} {d : Datum} (hst : NoLib st.rlocs) :
    NoLib (FrontSpec.evalForm fuel st d).2.rlocs := by
  rw [FrontSpec.evalForm]
  rcases Xform.toStatement (Xform.xformFuel d) d st.syn with ⟨_ | s, syn⟩
  · exact hst
  · exact evalAst_noLib (st := { st with syn := syn }) rfl hst

theorem noLib_of_locs_nil {st : State} (h : locs st = []) : NoLib st.rlocs := by
  rw [unrole_eq_nil (L := st.rlocs) (h ▸ List.Subset.refl _)]; exact noLib_nil

/-! ## outcomes equal up to the position of the error -/

def SameUpToLoc {α} (r r' : Except SErr α) : Prop :=
  match r, r' with
  | .ok a, .ok b => a = b
  | .error e, .error e' => e.1 = e'.1
  | _, _ => False

def Rel {α} (x y : Except SErr α × State) : Prop := x.2 = y.2 ∧ SameUpToLoc x.1 y.1

theorem Rel.refl {α} (x : Except SErr α × State) : Rel x x := by
  obtain ⟨r, s⟩ := x
  cases r <;> simp [Rel, SameUpToLoc]

theorem rel_of_eq {α} {x y : Except SErr α × State} (h : x = y) : Rel x y := h ▸ Rel.refl x

/-- closes `Rel (match x with …) (match y with …)` from `h : Rel x y`, where both sides post-process a
successful outcome in the same way -/
local macro "rel_post " h:ident : tactic => `(tactic| (
  generalize evalImportSet _ _ (ImportSet.unloc _) = x at $h:ident
  generalize evalImportSet _ _ _ = y at $h:ident
  obtain ⟨rx, sx⟩ := x
  obtain ⟨ry, sy⟩ := y
  obtain ⟨h1, h2⟩ := $h:ident
  simp only at h1
  subst h1
  cases rx <;> cases ry <;> simp_all [Rel, SameUpToLoc]))

end Ruschm.LibNamePos
