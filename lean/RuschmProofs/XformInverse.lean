/-
`XE env d e`: the transformer turns the datum `d` into the expression `e` and leaves `env` as it is, with some
fuel. The inversion lemmas read the shape of `e` off the shape of `d`.
-/
import RuschmProofs.XformKeep
import RuschmProofs.MacroMatch
import RuschmProofs.ExpandStep
import RuschmProofs.XformScope

/-! ## bodies -/

namespace Ruschm.Xform
open Keep Macro

/-- nothing uses it -/
theorem XM.pure_run {α} (a : α) (s : SynEnv) : (pure a : XM α) s = (.ok a, s) := XM.pure_def a s

theorem isSym_inv {s : String} {d : Datum} (h : isSym s d = true) : ∃ l, d = .sym s l := by
  cases d <;> simp [isSym] at h
  exact ⟨_, by rw [h]⟩

theorem toBody_nil_inv {m defs exprs env r env'} (h : toBody m [] defs exprs env = (.ok r, env')) :
    exprs ≠ [] ∧ r = (defs.reverse, exprs.reverse) ∧ env' = env := by
  cases m with
  | zero => rw [toBody] at h; cases h
  | succ m =>
    cases exprs with
    | nil => rw [toBody_nil_err] at h; cases h
    | cons e es => rw [toBody_nil m defs _ env (List.cons_ne_nil e es)] at h; cases h; exact ⟨List.cons_ne_nil e es, rfl, rfl⟩

theorem toBody_cons_inv {m d ds defs exprs env r env'} (h : toBody (m+1) (d :: ds) defs exprs env = (.ok r, env')) :
    (∃ e, toStatement m d env = (.ok (.expr e), env) ∧ toBody m ds defs (e :: exprs) env = (.ok r, env')) ∨
    (∃ df, exprs = [] ∧ toStatement m d env = (.ok (.definition df), env) ∧
      toBody m ds (df :: defs) [] env = (.ok r, env')) := by
  rcases hx : toStatement m d env with ⟨_ | st, env₁⟩
  · rw [toBody, bind_of_error hx] at h; cases h
  · cases st with
    | expr e =>
      obtain rfl := toStatement_keep hx trivial
      exact .inl ⟨e, rfl, by rwa [toBody_expr hx] at h⟩
    | definition df =>
      obtain rfl := toStatement_keep hx trivial
      cases exprs with
      | nil => exact .inr ⟨df, rfl, rfl, by rwa [toBody_def hx] at h⟩
      | cons e es => obtain ⟨_, _, _⟩ := df; rw [toBody, bind_of_ok hx] at h; cases h
    | _ => rw [toBody, bind_of_ok hx] at h; cases h

theorem toBody_last_inv {last : Datum} {env : SynEnv} : ∀ (pre : List Datum) {m defs0 exprs0 D E env'},
    toBody m (pre ++ [last]) defs0 exprs0 env = (.ok (D, E), env') →
    ∃ elast Epre m', m' < m ∧ E = Epre ++ [elast] ∧ toStatement m' last env = (.ok (.expr elast), env)
  | _, 0, _, _, _, _, _, h => by rw [toBody] at h; cases h
  | [], m+1, defs0, exprs0, D, E, env', h => by
    rcases toBody_cons_inv h with ⟨e, he, h⟩ | ⟨df, rfl, _, h⟩
    · obtain ⟨_, hr, _⟩ := toBody_nil_inv h
      cases hr
      exact ⟨e, exprs0.reverse, m, m.lt_succ_self, List.reverse_cons, he⟩
    · exact absurd rfl (toBody_nil_inv h).1
  | d :: pre, m+1, defs0, exprs0, D, E, env', h => by
    rcases toBody_cons_inv h with ⟨e, _, h⟩ | ⟨df, rfl, _, h⟩ <;>
    · obtain ⟨elast, Epre, m', hm', hE, hl⟩ := toBody_last_inv pre h
      exact ⟨elast, Epre, m', by omega, hE, hl⟩

end Ruschm.Xform

namespace Ruschm.Meaning
open Ruschm Ruschm.Xform Ruschm.Xform.Keep Ruschm.Macro

/-! ## what the transformer makes of a datum -/

inductive All2 {α β} (R : α → β → Prop) : List α → List β → Prop
  | nil : All2 R [] []
  | cons {a b as bs} (h : R a b) (t : All2 R as bs) : All2 R (a :: as) (b :: bs)

theorem All2.length {α β} {R : α → β → Prop} {as bs} (h : All2 R as bs) : as.length = bs.length := by
  induction h with
  | nil => rfl
  | cons _ _ ih => simp [ih]

def XE (env : SynEnv) (d : Datum) (e : Expr) : Prop := ∃ n, toStatement n d env = (.ok (.expr e), env)

theorem XE.of_run {n d env e env'} (h : toStatement n d env = (.ok (.expr e), env')) : XE env d e := by
  obtain rfl := toStatement_keep h trivial
  exact ⟨n, h⟩

theorem XE.of_toExpr {n d env e env'} (h : toExpr n d env = (.ok e, env')) : XE env d e := by
  obtain ⟨m, _, hm⟩ := toExpr_ok_inv h
  exact .of_run hm

theorem toExprs_inv : ∀ {n : Nat} {ds : List Datum} {env es env'}, toExprs n ds env = (.ok es, env') →
    env' = env ∧ All2 (XE env) ds es
  | 0, _, _, _, _, h => by rw [toExprs] at h; cases h
  | n+1, [], env, es, env', h => by rw [toExprs_nil] at h; cases h; exact ⟨rfl, .nil⟩
  | n+1, d :: ds, env, es, env', h => by
    rw [toExprs_cons] at h
    obtain ⟨e, env₁, h₁, h₂⟩ := XM.bind_eq_ok h
    obtain rfl := toExpr_keep h₁
    obtain ⟨es', env₂, h₃, h₄⟩ := XM.bind_eq_ok h₂
    cases h₄
    obtain ⟨rfl, hf⟩ := toExprs_inv h₃
    exact ⟨rfl, .cons (.of_toExpr h₁) hf⟩

theorem toCall_inv {n f args loc env e env'} (h : toCall n f args loc env = (.ok e, env')) :
    ∃ fe aes, XE env f fe ∧ All2 (XE env) args aes ∧ e = .call fe aes loc := by
  cases n with
  | zero => rw [toCall] at h; cases h
  | succ m =>
    rw [toCall] at h
    obtain ⟨fe, env₁, h₁, h₂⟩ := XM.bind_eq_ok h
    obtain rfl := toExpr_keep h₁
    obtain ⟨as, env₂, h₃, h₄⟩ := XM.bind_eq_ok h₂
    cases h₄
    exact ⟨fe, as, .of_toExpr h₁, (toExprs_inv h₃).2, rfl⟩

def Ordinary (env : SynEnv) (h : Datum) : Prop :=
  ∀ s l, h = .sym s l → s ∉ coreKeywords ∧ env.get? s = none

theorem Ordinary.head {env h} (ho : Ordinary env h) :
    ∀ kw lk, h = .sym kw lk → kw ∉ CoreSyntax.keywords ∧ env.get? kw = none := ho

theorem ordinary_of_list {env h x xs} (hl : IsList h (x :: xs)) : Ordinary env h := by
  intro s l hs; subst hs; cases hl

theorem XE.call_inv {env d h args e} (hx : XE env d e) (hd : IsList d (h :: args)) (ho : Ordinary env h) :
    ∃ fe aes l, XE env h fe ∧ All2 (XE env) args aes ∧ e = .call fe aes l := by
  obtain ⟨n, hx⟩ := hx
  obtain ⟨dd, l, rfl, hdd⟩ := isList_cons_iff.mp hd
  obtain ⟨n, rfl⟩ := toStatement_ok_succ hx
  rw [toStatement_call n hdd.isListy ho.head, hdd.elems] at hx
  obtain ⟨c, hc, he⟩ := callOf_ok_inv hx
  cases he
  obtain ⟨fe, aes, h₁, h₂, rfl⟩ := toCall_inv hc
  exact ⟨fe, aes, l, h₁, h₂, rfl⟩

theorem XE.form_inv {env d i args e kw k} (hx : XE env d e) (hd : IsList d (i :: args)) (hi : isSym kw i = true)
    (hk : kwOf kw = some k) : ∃ n l, formOf n k args l env = (.ok (.expr e), env) := by
  obtain ⟨n, h⟩ := hx
  obtain ⟨dd, l, rfl, hdd⟩ := isList_cons_iff.mp hd
  obtain ⟨li, rfl⟩ := isSym_inv hi
  obtain ⟨m, rfl⟩ := toStatement_ok_succ h
  exact ⟨m, l, by rwa [toStatement_form m hdd.isListy hk, hdd.elems] at h⟩

theorem XE.if_inv {env d i t c rest e} (hx : XE env d e) (hd : IsList d (i :: t :: c :: rest)) (hi : isSym "if" i = true) :
    ∃ te ce l, XE env t te ∧ XE env c ce ∧
      ((rest = [] ∧ e = .cond te ce none l) ∨ (∃ a rest' ae, rest = a :: rest' ∧ XE env a ae ∧ e = .cond te ce (some ae) l)) := by
  obtain ⟨m, l, h⟩ := hx.form_inv hd hi kwOf_if
  rw [formOf_if] at h
  obtain ⟨te, s₁, ht, h₁⟩ := XM.bind_eq_ok h
  obtain rfl := toExpr_keep ht
  obtain ⟨ce, s₂, hc, h₂⟩ := XM.bind_eq_ok h₁
  obtain rfl := toExpr_keep hc
  refine ⟨te, ce, l, .of_toExpr ht, .of_toExpr hc, ?_⟩
  cases rest with
  | nil => cases h₂; exact .inl ⟨rfl, rfl⟩
  | cons a rest' =>
    obtain ⟨ae, s₃, ha, h₃⟩ := XM.bind_eq_ok h₂
    cases h₃
    exact .inr ⟨a, rest', ae, rfl, .of_toExpr ha, rfl⟩

theorem XE.if2_inv {env d i t c e} (hx : XE env d e) (hd : IsList d [i, t, c]) (hi : isSym "if" i = true) :
    ∃ te ce l, XE env t te ∧ XE env c ce ∧ e = .cond te ce none l := by
  obtain ⟨te, ce, l, ht, hc, ⟨_, he⟩ | ⟨_, _, _, hr, _⟩⟩ := hx.if_inv hd hi
  · exact ⟨te, ce, l, ht, hc, he⟩
  · cases hr

theorem XE.if3_inv {env d i t c a e} (hx : XE env d e) (hd : IsList d [i, t, c, a]) (hi : isSym "if" i = true) :
    ∃ te ce ae l, XE env t te ∧ XE env c ce ∧ XE env a ae ∧ e = .cond te ce (some ae) l := by
  obtain ⟨te, ce, l, ht, hc, ⟨hr, _⟩ | ⟨_, _, ae, hr, ha, he⟩⟩ := hx.if_inv hd hi
  · cases hr
  · cases hr
    exact ⟨te, ce, ae, l, ht, hc, ha, he⟩

theorem XE.sym_inv {env s l e} (hx : XE env (.sym s l) e) : e = .sym s l := by
  obtain ⟨n, hx⟩ := hx
  obtain ⟨n, rfl⟩ := toStatement_ok_succ hx
  rw [toStatement_sym] at hx; cases hx; rfl

theorem XE.sym (env : SynEnv) (s : String) (l : Loc) : XE env (.sym s l) (.sym s l) := ⟨1, by rw [toStatement_sym]; rfl⟩

theorem XE.prim_inv {env p l e} (hx : XE env (.prim p l) e) : e = .prim p l := by
  obtain ⟨n, hx⟩ := hx
  obtain ⟨n, rfl⟩ := toStatement_ok_succ hx
  rw [toStatement_prim] at hx; cases hx; rfl

theorem XE.quote_inv {env d q x e} (hx : XE env d e) (hd : IsList d [q, x]) (hq : isSym "quote" q = true) :
    ∃ l, e = .quote x l := by
  obtain ⟨n, l, hx⟩ := hx.form_inv hd hq kwOf_quote
  cases hx
  exact ⟨l, rfl⟩

def symName : Datum → String
  | .sym s _ => s
  | _ => ""

theorem toFormals_list {d : Datum} {ds : List Datum} {env F env'} (h : toFormals d env = (.ok F, env'))
    (hd : IsList d ds) : F = ⟨ds.map symName, none⟩ := by
  rw [toFormals_listy hd.isListy, show d.spine = (ds, none) from hd] at h
  split at h <;> cases h
  rfl

def NoDefs (env : SynEnv) (bs : List Datum) : Prop :=
  ∀ b ∈ bs, ∀ m df env', toStatement m b env ≠ (.ok (.definition df), env')

theorem toBody_nodefs {env : SynEnv} : ∀ (bs : List Datum) {m exprs0 D E env'},
    toBody m bs [] exprs0 env = (.ok (D, E), env') → NoDefs env bs →
    D = [] ∧ ∃ bes, E = exprs0.reverse ++ bes ∧ All2 (XE env) bs bes
  | [], m, exprs0, D, E, env', h, _ => by
    obtain ⟨_, hr, _⟩ := toBody_nil_inv h
    cases hr
    exact ⟨rfl, [], (List.append_nil _).symm, .nil⟩
  | b :: bs, 0, _, _, _, _, h, _ => by rw [toBody] at h; cases h
  | b :: bs, m+1, exprs0, D, E, env', h, hnd => by
    rcases toBody_cons_inv h with ⟨e, he, h⟩ | ⟨df, _, hd, _⟩
    · obtain ⟨hD, bes, hE, hall⟩ := toBody_nodefs bs h (fun b' hb' => hnd b' (List.mem_cons_of_mem _ hb'))
      exact ⟨hD, e :: bes, by simp [hE], .cons ⟨m, he⟩ hall⟩
    · exact absurd hd (hnd b (List.mem_cons_self ..) m df env)

theorem toStatement_child_run {n d env r env'} (h : toStatement n d ([] :: env) = (r, env')) :
    ∃ env'', toStatement n d env = (r, env'') :=
  ⟨_, Prod.ext (by rw [← toStatement_child, h]) rfl⟩

theorem toStatement_run_child {n d env r env'} (h : toStatement n d env = (r, env')) :
    ∃ env'', toStatement n d ([] :: env) = (r, env'') :=
  ⟨_, Prod.ext (by rw [toStatement_child, h]) rfl⟩

theorem xe_child_iff {env d e} : XE ([] :: env) d e ↔ XE env d e :=
  ⟨fun ⟨_, h⟩ => (toStatement_child_run h).elim fun _ => .of_run,
   fun ⟨_, h⟩ => (toStatement_run_child h).elim fun _ => .of_run⟩

theorem noDefs_child_iff {env bs} : NoDefs ([] :: env) bs ↔ NoDefs env bs :=
  ⟨fun h b hb m df _ hx => (toStatement_run_child hx).elim fun env' => h b hb m df env',
   fun h b hb m df _ hx => (toStatement_child_run hx).elim fun env' => h b hb m df env'⟩

theorem All2.imp {α β} {R S : α → β → Prop} (h : ∀ a b, R a b → S a b) {as bs} (hl : All2 R as bs) : All2 S as bs := by
  induction hl with
  | nil => exact .nil
  | cons hab _ ih => exact .cons (h _ _ hab) ih

theorem XE.lambda_body_inv {env lam k formals body e} (hx : XE env lam e) (hl : IsList lam (k :: formals :: body))
    (hk : isSym "lambda" k = true) :
    ∃ m F D E loc sb, toFormals formals env = (.ok F, env) ∧
      toBody m body [] [] ([] :: env) = (.ok (D, E), sb) ∧ e = .lambda (.mk F D E) loc := by
  obtain ⟨n, l, h⟩ := hx.form_inv hl hk kwOf_lambda
  rw [formOf] at h
  obtain ⟨lamv, s₁, hlam, h₁⟩ := XM.bind_eq_ok h
  cases h₁
  cases n with
  | zero => rw [toLambda] at hlam; cases hlam
  | succ m =>
    rw [toLambda_cons] at hlam
    obtain ⟨F, s₂, hF, h₂⟩ := XM.bind_eq_ok hlam
    obtain ⟨⟨D, E⟩, s₃, hb, h₃⟩ := XM.bind_eq_ok h₂
    cases h₃
    obtain rfl := toFormals_keep hF
    obtain ⟨sb, hb⟩ := inChild_ok hb
    exact ⟨m, F, D, E, l, sb, hF, hb, rfl⟩

theorem XE.lambda_last_inv {env lam k formals pre last e} (hx : XE env lam e)
    (hl : IsList lam (k :: formals :: (pre ++ [last]))) (hk : isSym "lambda" k = true) :
    ∃ F D Epre elast loc, e = .lambda (.mk F D (Epre ++ [elast])) loc ∧ XE env last elast := by
  obtain ⟨m, F, D, E, loc, sb, _, hb, rfl⟩ := hx.lambda_body_inv hl hk
  obtain ⟨elast, Epre, m', _, rfl, hlast⟩ := toBody_last_inv pre hb
  exact ⟨F, D, Epre, elast, loc, rfl, xe_child_iff.mp ⟨m', hlast⟩⟩

theorem XE.lambda_inv {env lam k formals body e} (hx : XE env lam e) (hl : IsList lam (k :: formals :: body))
    (hk : isSym "lambda" k = true) (hnd : NoDefs env body) :
    ∃ F bes loc, toFormals formals env = (.ok F, env) ∧ All2 (XE env) body bes ∧
      e = .lambda (.mk F [] bes) loc := by
  obtain ⟨m, F, D, E, loc, sb, hF, hb, rfl⟩ := hx.lambda_body_inv hl hk
  obtain ⟨rfl, bes, hE, hall⟩ := toBody_nodefs body hb (noDefs_child_iff.mpr hnd)
  exact ⟨F, E, loc, hF, ((List.nil_append bes ▸ hE) ▸ hall).imp (fun _ _ => xe_child_iff.mp), rfl⟩

theorem toBody_single {env : SynEnv} {b : Datum} {m D E env'} (h : toBody m [b] [] [] env = (.ok (D, E), env')) :
    D = [] ∧ ∃ be, E = [be] ∧ XE env b be := by
  cases m with
  | zero => rw [toBody] at h; cases h
  | succ m =>
    rcases toBody_cons_inv h with ⟨e, he, h⟩ | ⟨df, _, _, h⟩
    · obtain ⟨_, hr, _⟩ := toBody_nil_inv h
      cases hr
      exact ⟨rfl, e, rfl, ⟨m, he⟩⟩
    · exact absurd rfl (toBody_nil_inv h).1

theorem XE.lambda_inv1 {env lam k formals b e} (hx : XE env lam e) (hl : IsList lam [k, formals, b])
    (hk : isSym "lambda" k = true) :
    ∃ F be loc, toFormals formals env = (.ok F, env) ∧ XE env b be ∧ e = .lambda (.mk F [] [be]) loc := by
  obtain ⟨m, F, D, E, loc, sb, hF, hb, rfl⟩ := hx.lambda_body_inv hl hk
  obtain ⟨rfl, be, rfl, hbe⟩ := toBody_single hb
  exact ⟨F, be, loc, hF, xe_child_iff.mp hbe, rfl⟩

theorem XE.lambda_call_inv1 {env d lam args k formals b e} (hx : XE env d e) (hd : IsList d (lam :: args))
    (hl : IsList lam [k, formals, b]) (hk : isSym "lambda" k = true) :
    ∃ F be aes l₁ l₂, toFormals formals env = (.ok F, env) ∧ XE env b be ∧
      All2 (XE env) args aes ∧ e = .call (.lambda (.mk F [] [be]) l₁) aes l₂ := by
  obtain ⟨fe, aes, l₂, hfe, haes, rfl⟩ := hx.call_inv hd (ordinary_of_list hl)
  obtain ⟨F, be, l₁, hF, hbe, rfl⟩ := hfe.lambda_inv1 hl hk
  exact ⟨F, be, aes, l₁, l₂, hF, hbe, haes, rfl⟩

theorem XE.lambda_call_inv {env d lam args k formals body e} (hx : XE env d e) (hd : IsList d (lam :: args))
    (hl : IsList lam (k :: formals :: body)) (hk : isSym "lambda" k = true) (hnd : NoDefs env body) :
    ∃ F bes aes l₁ l₂, toFormals formals env = (.ok F, env) ∧ All2 (XE env) body bes ∧
      All2 (XE env) args aes ∧ e = .call (.lambda (.mk F [] bes) l₁) aes l₂ := by
  obtain ⟨fe, aes, l₂, hfe, haes, rfl⟩ := hx.call_inv hd (ordinary_of_list hl)
  obtain ⟨F, bes, l₁, hF, hbes, rfl⟩ := hfe.lambda_inv hl hk hnd
  exact ⟨F, bes, aes, l₁, l₂, hF, hbes, haes, rfl⟩

theorem not_def_call {env d h args} (hd : IsList d (h :: args)) (ho : Ordinary env h) (m : Nat) (df : Def) (env' : SynEnv) :
    toStatement m d env ≠ (.ok (.definition df), env') := by
  intro hx
  obtain ⟨dd, l, rfl, hdd⟩ := isList_cons_iff.mp hd
  obtain ⟨n, rfl⟩ := toStatement_ok_succ hx
  rw [toStatement_call n hdd.isListy ho.head] at hx
  obtain ⟨c, _, hc⟩ := callOf_ok_inv hx
  cases hc

theorem not_def_prim {env p l} (m : Nat) (df : Def) (env' : SynEnv) :
    toStatement m (.prim p l) env ≠ (.ok (.definition df), env') := by
  intro hx
  obtain ⟨n, rfl⟩ := toStatement_ok_succ hx
  rw [toStatement_prim] at hx; cases hx

theorem not_def_sym {env s l} (m : Nat) (df : Def) (env' : SynEnv) :
    toStatement m (.sym s l) env ≠ (.ok (.definition df), env') := by
  intro hx
  obtain ⟨n, rfl⟩ := toStatement_ok_succ hx
  rw [toStatement_sym] at hx; cases hx

end Ruschm.Meaning
