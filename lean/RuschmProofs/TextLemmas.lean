/-
The text of every supported token is read back as that token. Most cases are computed on the
specification (`token_of_spec`); a token whose text is a word of one character class goes through
`token_word`. Token sequences under a valid layout are read back unchanged, and the validity of a layout is
the gap condition, separator by separator (`validLayout_iff_gaps`).
-/
import RuschmProofs.LexToken
namespace Ruschm.Text
open Ruschm Ruschm.Lex Ruschm.LexSpecLemmas

theorem notWs_of_ns {c : Char} (h : c ∉ specials) : isWs c = false ∧ c ≠ ';' := by
  simp only [specials, List.mem_cons, List.not_mem_nil, or_false, not_or] at h
  simp [isWs, h]

/-- `hP`, that the class meets no delimiter and no punctuation character, is decided by evaluation over
the two finite lists -/
theorem token_word {P : Char → Bool} (hP : (specials ++ punct).all (fun c => !P c) = true)
    {c : Char} {w' rest : List Char} {t : Token} (p : Pos) (hw : (c :: w').all P = true)
    (hd : startsDelim rest = true) (h : LexSpec.classify (c :: w') = some t) :
    token (c :: w' ++ rest) p = .ok (some (t, rest, advs (c :: w') p)) := by
  have hns : ∀ x ∈ c :: w', x ∉ specials ∧ x ∉ punct := fun x hx =>
    not_or.1 fun hm => not_mem_of_class hP (List.all_eq_true.mp hw x hx) (List.mem_append.2 hm)
  have hc := hns c List.mem_cons_self
  obtain ⟨ht, he⟩ := word_spec c w' rest p
    (fun x hx => isDelimiter_of_not_mem (hns x (List.mem_cons_of_mem _ hx)).1) hd hc.2
  exact ht.eq_of_forget (w := c :: w') ((he (isDelimiter_of_not_mem hc.1)).trans (by rw [h]; rfl))

/-! ## booleans and characters -/

theorem token_bool (b : Bool) (rest : List Char) (p : Pos)
    (h : startsDelim rest = true ∨ startsSharp rest = true) :
    token ('#' :: (if b then 't' else 'f') :: rest) p
      = .ok (some (.prim (.bool b), rest, adv (if b then 't' else 'f') (adv '#' p))) := by
  cases b <;> simp [token, (endOfSharpToken_ok (u := ())).mpr h, bind, Except.bind, pure, Except.pure]

theorem token_charWord (first : Char) {run rest : List Char} {t : Token} (p : Pos)
    (hrun : ∀ x ∈ run, isAsciiAlnum x = true)
    (h : startsDelim rest = true ∨ startsSharp rest = true)
    (hc : LexSpec.classifyChar first run = some t) :
    token ('#' :: '\\' :: first :: (run ++ rest)) p
      = .ok (some (t, rest, advs ('#' :: '\\' :: first :: run) p)) := by
  have hn : ∀ x ∈ run, LexSpec.nonDelimSharp x = true := fun x hx => alnum_sub_nds x (hrun x hx)
  have he := (sharp_end rest).mp h
  refine token_of_spec (w := '#' :: '\\' :: first :: run) p rfl ?_
  simp [LexSpec.token, LexSpec.sharpToken, LexSpec.sharpChunk, LexSpec.classify, LexSpec.classifySharp,
    List.isPrefixOf, List.takeWhile_append_of_pos hn, List.dropWhile_append_of_pos hn, he,
    dropWhile_of_takeWhile_nil _ _ he, hc, LexSpec.ofClass]

theorem token_char (c : Char) (rest : List Char) (p : Pos)
    (h : startsDelim rest = true ∨ startsSharp rest = true) :
    token ('#' :: '\\' :: c :: rest) p
      = .ok (some (.prim (.chr c), rest, adv c (adv '\\' (adv '#' p)))) :=
  token_charWord c (run := []) p (fun _ h => nomatch h) h rfl

theorem token_char_run (first : Char) (run rest : List Char) (p : Pos) (c : Char)
    (hrun : ∀ x ∈ run, isAsciiAlnum x = true) (hne : run ≠ [])
    (hc : charName? (first :: run) = some c ∨
      (charName? (first :: run) = none ∧ first = 'x' ∧ hexScalar? run = some c))
    (h : startsDelim rest = true ∨ startsSharp rest = true) :
    token ('#' :: '\\' :: first :: (run ++ rest)) p
      = .ok (some (.prim (.chr c), rest, advs ('#' :: '\\' :: first :: run) p)) := by
  refine token_charWord first p hrun h ?_
  have hplus := alnum_head_ne_plus (List.all_eq_true.2 hrun)
  have hemp : run.isEmpty = false := by cases run <;> simp_all
  rw [LexSpec.classifyChar, hemp, isAlphanum_fun, List.all_eq_true.2 hrun, ← charName_eq,
    ← hexScalar_noplus run hplus]
  rcases hc with hc | ⟨h1, rfl, h3⟩
  · simp [hc]
  · simp [h1, h3]

theorem charNames_ok : ∀ nc ∈ charNames, ∃ first run, nc.1 = first :: run ∧ run ≠ [] ∧
    (∀ x ∈ run, isAsciiAlnum x = true) ∧ charName? (first :: run) = some nc.2 := by
  have h : ∀ nc ∈ charNames, nc.1.tail ≠ [] ∧ nc.1.tail.all isAsciiAlnum = true ∧
      charName? nc.1 = some nc.2 := by decide +kernel
  intro nc hn
  obtain ⟨h1, h2, h3⟩ := h nc hn
  match nc.1, h1, h2, h3 with
  | first :: run, h1, h2, h3 => exact ⟨first, run, rfl, h1, by simpa using h2, h3⟩

/-! ## `|quoted|` identifiers -/

theorem token_quoted (body rest : List Char) (p : Pos) (h : '|' ∉ body) :
    token ('|' :: (body ++ '|' :: rest)) p
      = .ok (some (.ident (String.ofList body), rest, advs ('|' :: (body ++ ['|'])) p)) := by
  have hb : ∀ c ∈ body, (c != '|') = true := fun c hc => by
    simp only [bne_iff_ne, ne_eq]; rintro rfl; exact h hc
  have := token_of_spec (w := '|' :: (body ++ ['|'])) (rest := rest)
    (t := .ident (String.ofList body)) p rfl
    (by simp [LexSpec.token, List.dropWhile_append_of_pos hb, List.takeWhile_append_of_pos hb,
      List.takeWhile, List.dropWhile])
  simpa using this

/-! ## strings -/

theorem mnemonic_cases {c : Char} (h : (mnemonic? c).isSome = true) :
    c = '\x07' ∨ c = '\x08' ∨ c = '\t' ∨ c = '\n' ∨ c = '\r' ∨ c = '"' ∨ c = '\\' ∨ c = '|' := by
  apply Decidable.byContradiction
  intro hc
  simp only [not_or] at hc
  simp [mnemonic?, hc] at h

theorem escapes_mnemonic {c m : Char} (h : mnemonic? c = some m) :
    LexSpec.escapes.lookup m = some c := by
  rcases mnemonic_cases (c := c) (by rw [h]; rfl) with rfl | rfl | rfl | rfl | rfl | rfl | rfl | rfl <;>
    (cases h; rfl)

theorem scanStr_pieces (ps : List StrPiece) (rest acc : List Char) (h : ∀ x ∈ ps, x.valid = true) :
    LexSpec.scanStr .normal (ps.flatMap StrPiece.text ++ '"' :: rest) acc
      = some (acc.reverse ++ ps.map StrPiece.char, rest) := by
  induction ps generalizing acc with
  | nil => simp [LexSpec.scanStr]
  | cons x ps ih =>
    have hx := h x (List.mem_cons_self ..)
    have ih := fun acc => ih acc (fun y hy => h y (List.mem_cons_of_mem _ hy))
    cases x with
    | lit c =>
      simp only [StrPiece.valid, Bool.and_eq_true, Bool.not_eq_true', decide_eq_false_iff_not] at hx
      simp [LexSpec.scanStr, StrPiece.text, StrPiece.char, hx.1, hx.2, ih]
    | esc c =>
      obtain ⟨m, hm⟩ := Option.isSome_iff_exists.mp hx
      simp [LexSpec.scanStr, StrPiece.text, StrPiece.char, hm, escapes_mnemonic hm, ih]

theorem canonPiece_valid (c : Char) : (canonPiece c).valid = true := by
  unfold canonPiece
  split
  · rename_i h; simpa [StrPiece.valid] using h
  · rename_i h
    simp only [StrPiece.valid, Bool.and_eq_true, Bool.not_eq_true', decide_eq_false_iff_not]
    constructor <;> (rintro rfl; exact h (by decide))

theorem canonPiece_char (s : List Char) : (s.map canonPiece).map StrPiece.char = s := by
  rw [List.map_map]
  exact (List.map_congr_left fun c _ => by unfold Function.comp canonPiece; split <;> rfl).trans
    (List.map_id s)

theorem token_string (ps : List StrPiece) (rest : List Char) (p : Pos)
    (h : ∀ x ∈ ps, x.valid = true) :
    token (showPieces ps ++ rest) p
      = .ok (some (.prim (.str (String.ofList (ps.map StrPiece.char))), rest,
          advs (showPieces ps) p)) :=
  token_of_spec p rfl (by simp [showPieces, LexSpec.token, scanStr_pieces ps rest [] h])

/-! ## identifiers -/

theorem isInitial_not_starter {c : Char} (h : isInitial c = true) : c ∉ tokenStarters :=
  not_mem_of_class (P := isInitial) (by decide +kernel) h

/-- the three forms of a plain identifier, in the terms of `classify_sign` and `classifyIdent_dotOK` -/
theorem plainIdent_cases {c : Char} {cs : List Char} (h : isPlainIdent (c :: cs) = true) :
    cs.all isSubsequent = true ∧ (isInitial c = true ∨
      ((c = '+' ∨ c = '-') ∧ numFollows cs = false ∧ dotOK cs = true) ∨
      (c = '.' ∧ cs ≠ [] ∧ dotOK cs = true)) := by
  rw [isPlainIdent.eq_def] at h; dsimp only at h
  by_cases hi : isInitial c = true
  · rw [if_pos hi] at h; exact ⟨h, .inl hi⟩
  rw [if_neg hi] at h
  by_cases hs : (c = '+' || c = '-') = true
  · rw [if_pos hs] at h
    have hs' : c = '+' ∨ c = '-' := by simpa using hs
    cases cs with
    | nil => exact ⟨rfl, .inr (.inl ⟨hs', rfl, rfl⟩)⟩
    | cons d more =>
      rw [Bool.and_eq_true] at h
      obtain ⟨hd1, hd2⟩ := signSubsequent_cases h.1
      refine ⟨h.2, .inr (.inl ⟨hs', by simp [numFollows, hd1, hd2], ?_⟩)⟩
      rw [dotOK, show isDotSubsequent d = ((d = '+' || d = '-' || d = '@' || isInitial d) || d = '.') by
        rw [isDotSubsequent]; ac_rfl, h.1, h.2]
      rfl
  rw [if_neg hs] at h
  by_cases hd : c = '.'
  · rw [if_pos hd] at h
    cases cs with
    | nil => cases h
    | cons d more =>
      rw [Bool.and_eq_true] at h
      exact ⟨h.2, .inr (.inr ⟨hd, List.cons_ne_nil _ _, by rw [dotOK, isDotSubsequent, h.1, h.2]; rfl⟩)⟩
  · rw [if_neg hd] at h; cases h

theorem plainIdent_all {c : Char} {cs : List Char} (h : isPlainIdent (c :: cs) = true) :
    (c :: cs).all isSubsequent = true := by
  obtain ⟨hall, hi | ⟨hs, -⟩ | ⟨rfl, -⟩⟩ := plainIdent_cases h <;> rw [List.all_cons, hall, Bool.and_true]
  · simp [isSubsequent, hi]
  · rcases hs with rfl | rfl <;> decide
  · decide

theorem classify_plainIdent {s : List Char} (h : isPlainIdent s = true) :
    LexSpec.classify s = some (.ident (String.ofList s)) := by
  cases s with
  | nil => cases h
  | cons c cs =>
    obtain ⟨hall, hi | ⟨hs, hnf, hdo⟩ | ⟨rfl, hne, hdo⟩⟩ := plainIdent_cases h
    · have hd := isInitial_not_digit hi
      have hst := isInitial_not_starter hi
      rw [classify_start _ hd hst, classifyIdent_start c cs hd
        (isDelimiter_of_not_mem (isSubsequent_ns (by simp [isSubsequent, hi]))) hst, hall]
      rfl
    · rw [classify_sign hs, hnf, classifyIdent_dotOK c cs (hs.imp_right .inl)
        (fun _ => numFollows_head hnf) (fun e => by rcases hs with rfl | rfl <;> cases e), hdo]
      rfl
    · obtain ⟨d, more, rfl⟩ := List.exists_cons_of_ne_nil hne
      rw [classify_dot, classifyIdent_dotOK '.' (d :: more) (by simp) (by simp) (by simp), hdo]
      rfl

theorem token_plainIdent (s rest : List Char) (p : Pos) (h : isPlainIdent s = true)
    (hd : startsDelim rest = true) :
    token (s ++ rest) p = .ok (some (.ident (String.ofList s), rest, advs s p)) := by
  cases s with
  | nil => cases h
  | cons c cs =>
    exact token_word (P := isSubsequent) (by decide +kernel) p (plainIdent_all h) hd
      (classify_plainIdent h)

/-! ## numbers -/

theorem showNat_digits (n : Nat) : ∀ c ∈ showNat n, isDigit c = true := by
  intro c hc
  rw [← Char_isDigit_eq]
  exact Nat.isDigit_of_mem_toDigits (by decide) (by decide) hc

theorem showNat_ne_nil (n : Nat) : showNat n ≠ [] := Nat.toDigits_ne_nil

theorem digitsVal_snoc (l : List Char) (d : Char) :
    digitsVal (l ++ [d]) = digitsVal l * 10 + (d.toNat - 48) := by
  simp [digitsVal, List.foldl_append]

theorem digitsVal_showNat (n : Nat) : digitsVal (showNat n) = n := by
  induction n using Nat.strongRecOn with
  | _ n ih =>
    unfold showNat
    rw [Nat.toDigits_eq_if (by decide)]
    split
    · rename_i h
      simp [digitsVal, Nat.toNat_digitChar_sub_48_of_lt_ten h]
    · rename_i h
      have := ih (n / 10) (by omega)
      unfold showNat at this
      rw [digitsVal_snoc, this, Nat.toNat_digitChar_sub_48_of_lt_ten (Nat.mod_lt _ (by decide))]
      omega

/-- the round trip `str::parse::<i32>` ∘ `to_string` -/
theorem parseI32_showInt (i : Int) (h : fitsI32 i = true) : parseI32? (showInt i) = some i := by
  have key : LexSpec.unsigned (showInt i) = showNat i.natAbs ∧
      LexSpec.signedVal ((showInt i).head? = some '-') (showNat i.natAbs) = i := by
    unfold showInt
    split
    · exact ⟨rfl, by simp [LexSpec.signedVal, natVal_eq, digitsVal_showNat]; omega⟩
    · cases hh : showNat i.natAbs with
      | nil => exact absurd hh (showNat_ne_nil _)
      | cons d ds =>
        have hd := digit_not_sign (showNat_digits i.natAbs d (by simp [hh]))
        refine ⟨by simp [LexSpec.unsigned, hd.1, hd.2], ?_⟩
        have hv := digitsVal_showNat i.natAbs
        rw [hh] at hv
        simp [LexSpec.signedVal, hd.2, natVal_eq, hv]; omega
  have h1 : (showNat i.natAbs).isEmpty = false := by simp [showNat_ne_nil]
  rw [parseI32_unsigned, key.1, key.2, h1, List.all_eq_true.2 (showNat_digits _), h]
  rfl

theorem parseU32_showNat (n : Nat) (h : n ≤ 4294967295) : parseU32? (showNat n) = some n := by
  unfold parseU32?
  simp [showNat_ne_nil, List.all_eq_true.2 (showNat_digits _), digitsVal_showNat, h]

theorem showInt_shape (i : Int) : ∃ first ds, showInt i = first :: ds ∧
    (∀ c ∈ ds, isDigit c = true) ∧ (isDigit first = true ∨ first = '+' ∨ first = '-') := by
  unfold showInt
  split
  · exact ⟨'-', _, rfl, showNat_digits i.natAbs, .inr (.inr rfl)⟩
  · cases hh : showNat i.natAbs with
    | nil => exact absurd hh (showNat_ne_nil _)
    | cons d ds =>
      have hall := showNat_digits i.natAbs
      rw [hh] at hall
      exact ⟨d, ds, rfl, fun c hc => hall c (by simp [hc]), Or.inl (hall d (by simp))⟩

/-- none of them is a delimiter or starts a punctuation token: a word of them is one chunk (`token_word`) -/
def isNumChar (c : Char) : Bool :=
  isDigit c || c = '.' || c = 'e' || c = '+' || c = '-' || c = '/'

theorem numChar_digits {ds : List Char} (h : ∀ c ∈ ds, isDigit c = true) :
    ds.all isNumChar = true :=
  List.all_eq_true.mpr fun c hc => by simp [isNumChar, h c hc]

theorem token_number {first : Char} {w rest : List Char} {t : Token} (p : Pos)
    (hf : isDigit first = true ∨ first = '+' ∨ first = '-') (hw : w.all isNumChar = true)
    (hd : startsDelim rest = true) (hm : numModel first w = some t) :
    token (first :: w ++ rest) p = .ok (some (t, rest, advs (first :: w) p)) := by
  obtain ⟨hn, hdot, h5⟩ : isNumChar first = true ∧ first ≠ '.' ∧ first ≠ '#' := by
    rcases hf with h | rfl | rfl
    · exact ⟨by simp [isNumChar, h], by rintro rfl; revert h; decide, by rintro rfl; revert h; decide⟩
    all_goals decide
  refine token_word (P := isNumChar) (by decide +kernel) p (by rw [List.all_cons, hn, hw]; rfl) hd ?_
  rw [classify_word first w h5 (fun e => hdot e.1), ← numModel_eq first w hf, hm]
  rfl

theorem numModel_int {first : Char} {ds : List Char} (h : ∀ c ∈ ds, isDigit c = true) :
    numModel first ds = (parseI32? (first :: ds)).map fun i => .prim (.int i) := by
  unfold numModel
  rw [(dropWhile_nil_iff isDigit ds).mpr (List.all_eq_true.2 h)]

theorem token_int (i : Int) (rest : List Char) (p : Pos) (h : fitsI32 i = true)
    (hd : startsDelim rest = true) :
    token (showInt i ++ rest) p = .ok (some (.prim (.int i), rest, advs (showInt i) p)) := by
  obtain ⟨first, ds, h1, h2, h3⟩ := showInt_shape i
  have hp := parseI32_showInt i h
  rw [h1] at hp ⊢
  exact token_number p h3 (numChar_digits h2) hd (by rw [numModel_int h2, hp]; rfl)

theorem span_digits {ds : List Char} (h : ∀ c ∈ ds, isDigit c = true) (tl : List Char)
    (hx : tl.takeWhile isDigit = []) :
    (ds ++ tl).takeWhile isDigit = ds ∧ (ds ++ tl).dropWhile isDigit = tl := by
  rw [List.takeWhile_append_of_pos h, List.dropWhile_append_of_pos h, hx, List.append_nil,
    dropWhile_of_takeWhile_nil _ _ hx]
  exact ⟨rfl, rfl⟩

theorem numModel_rat {first : Char} {ds : List Char} (h : ∀ c ∈ ds, isDigit c = true)
    (den : List Char) :
    numModel first (ds ++ '/' :: den) = ratOf (parseI32? (first :: ds)) (parseU32? den) := by
  unfold numModel
  rw [(span_digits h ('/' :: den) rfl).1, (span_digits h ('/' :: den) rfl).2]
  simp only [show ('/' : Char) ≠ 'e' by decide, show ('/' : Char) ≠ '.' by decide, if_false,
    if_true]

theorem token_rat (n : Int) (d : Nat) (rest : List Char) (p : Pos) (h : fitsI32 n = true)
    (hd0 : 0 < d) (hd1 : d ≤ 4294967295) (hd : startsDelim rest = true) :
    token (showInt n ++ '/' :: showNat d ++ rest) p
      = .ok (some (.prim (.rat n d), rest, advs (showInt n ++ '/' :: showNat d) p)) := by
  obtain ⟨first, ds, h1, h2, h3⟩ := showInt_shape n
  have hp := parseI32_showInt n h
  rw [h1] at hp ⊢
  have := token_number (w := ds ++ '/' :: showNat d) (rest := rest) (t := .prim (.rat n d)) p h3
    (by rw [List.all_append, numChar_digits h2, List.all_cons, numChar_digits (showNat_digits d)]; rfl)
    hd (by rw [numModel_rat h2 (showNat d), hp, parseU32_showNat d hd1]; simp [ratOf, hd0])
  simpa only [List.cons_append, List.append_assoc] using this

/-! ## reals -/

/-- on the exponent field of a `RealLit`; `LexSpecLemmas.expOK` is the test on its text (`expOK_expText`) -/
def ExpOK : Option (List Char × List Char) → Prop
  | none => True
  | some (s, d) => isSign s = true ∧ d ≠ [] ∧ ∀ c ∈ d, isDigit c = true

/-- `RealLit.expText` and `RealLit.fracText` on the field alone (`RealLit.wf_inv`) -/
def expTextOf : Option (List Char × List Char) → List Char
  | none => []
  | some (s, d) => 'e' :: (s ++ d)

def fracTextOf : Option (List Char) → List Char
  | none => []
  | some f => '.' :: f

def FracOK : Option (List Char) → Prop
  | none => True
  | some f => ∀ c ∈ f, isDigit c = true

theorem isSign_cases {s : List Char} (h : isSign s = true) : s = [] ∨ s = ['+'] ∨ s = ['-'] := by
  simpa [isSign, or_assoc] using h

theorem unsigned_sign {s : List Char} (hs : isSign s = true) {x : Char} (tl : List Char)
    (hx : isDigit x = true) : LexSpec.unsigned (s ++ x :: tl) = x :: tl := by
  rcases isSign_cases hs with rfl | rfl | rfl
  · simp [LexSpec.unsigned, (digit_not_sign hx).1, (digit_not_sign hx).2]
  · rfl
  · rfl

theorem expOK_expText {e : Option (List Char × List Char)} (he : ExpOK e) :
    expOK (expTextOf e) = true := by
  match e, he with
  | none, _ => rfl
  | some (s, x :: d), ⟨hs, _, hd⟩ =>
    simp only [expTextOf, expOK, isExponent_cons, unsigned_sign hs d (hd x (by simp)),
      List.all_eq_true.2 hd]
    rfl

theorem span_frac {f : List Char} (hf : ∀ c ∈ f, isDigit c = true)
    (e : Option (List Char × List Char)) :
    (f ++ expTextOf e).takeWhile isDigit = f ∧ (f ++ expTextOf e).dropWhile isDigit = expTextOf e :=
  span_digits hf _ (by cases e <;> rfl)

theorem validReal_lit {sign : List Char} {x : Char} {ip : List Char} {fr : Option (List Char)}
    {e : Option (List Char × List Char)} (hs : isSign sign = true)
    (hip : ∀ c ∈ x :: ip, isDigit c = true) (hfr : FracOK fr) (he : ExpOK e) :
    validReal (sign ++ (x :: ip ++ (fracTextOf fr ++ expTextOf e))) = true := by
  have hsp := span_digits hip (fracTextOf fr ++ expTextOf e) (by cases fr <;> cases e <;> rfl)
  rw [validReal_unsigned, List.cons_append, unsigned_sign hs _ (hip x (by simp)), ← List.cons_append,
    hsp.1, hsp.2]
  match fr, hfr with
  | some f, hfr =>
    simp only [fracTextOf, List.cons_append, vb2, if_true, (span_frac hfr e).2, expOK_expText he]
    rfl
  | none, _ =>
    match e, expOK_expText he with
    | none, _ => rfl
    | some (s, d), this => simpa [fracTextOf, expTextOf, vb2, expOK] using this

theorem numModel_real {first : Char} {ds : List Char} {fr : Option (List Char)}
    {e : Option (List Char × List Char)} (hds : ∀ c ∈ ds, isDigit c = true) (hfr : FracOK fr)
    (he : ExpOK e) (hsome : fr.isSome = true ∨ e.isSome = true)
    (hv : validReal (first :: (ds ++ (fracTextOf fr ++ expTextOf e))) = true) :
    numModel first (ds ++ (fracTextOf fr ++ expTextOf e))
      = some (.prim (.real (String.ofList (first :: (ds ++ (fracTextOf fr ++ expTextOf e)))))) := by
  unfold numModel
  generalize first :: (ds ++ (fracTextOf fr ++ expTextOf e)) = text at hv ⊢
  match fr, e, hfr, he, hsome with
  | some f, e, hfr, he, _ =>
    rw [fracTextOf, List.cons_append, (span_digits hds ('.' :: _) rfl).2]
    simp only [show ('.' : Char) ≠ 'e' by decide, if_false, if_true, hv,
      realTailOK_of (r := f ++ expTextOf e) (by rw [(span_frac hfr e).2]; exact expOK_expText he)]
    rfl
  | none, some (s, x :: d), _, ⟨hs, _, hd⟩, _ =>
    rw [fracTextOf, List.nil_append, expTextOf, (span_digits hds ('e' :: _) rfl).2]
    simp only [if_true, unsigned_sign hs d (hd x (by simp)), List.all_eq_true.2 hd, hv]
    rfl

theorem RealLit.wf_inv {r : RealLit} (h : r.wf = true) :
    isSign r.sign = true ∧ r.ip ≠ [] ∧ (∀ c ∈ r.ip, isDigit c = true) ∧ FracOK r.frac ∧
      ExpOK r.exp ∧ (r.frac.isSome = true ∨ r.exp.isSome = true) ∧
      r.fracText = fracTextOf r.frac ∧ r.expText = expTextOf r.exp := by
  simp only [RealLit.wf, Bool.and_eq_true, Bool.not_eq_true', Bool.or_eq_true] at h
  obtain ⟨⟨⟨⟨⟨h1, h2⟩, h3⟩, h4⟩, h5⟩, h6⟩ := h
  refine ⟨h1, by intro e; simp [e] at h2, by simpa using h3, ?_, ?_, h6, ?_, ?_⟩
  · cases hf : r.frac with
    | none => trivial
    | some f => rw [hf] at h4; simpa [FracOK] using h4
  · cases he : r.exp with
    | none => trivial
    | some sd =>
      obtain ⟨s, d⟩ := sd
      rw [he] at h5
      simp only [Bool.and_eq_true, Bool.not_eq_true'] at h5
      exact ⟨h5.1.1, by intro e; simp [e] at h5, by simpa using h5.2⟩
  · unfold RealLit.fracText; cases r.frac <;> rfl
  · unfold RealLit.expText; cases r.exp with
    | none => rfl
    | some sd => rfl

theorem numChar_lit {ds : List Char} {fr : Option (List Char)}
    {e : Option (List Char × List Char)} (hds : ∀ c ∈ ds, isDigit c = true) (hfr : FracOK fr)
    (he : ExpOK e) : (ds ++ (fracTextOf fr ++ expTextOf e)).all isNumChar = true := by
  have h1 : (fracTextOf fr).all isNumChar = true := by
    cases fr with
    | none => rfl
    | some f => rw [fracTextOf, List.all_cons, numChar_digits hfr]; rfl
  have h2 : (expTextOf e).all isNumChar = true := by
    match e, he with
    | none, _ => rfl
    | some (s, d), ⟨hs, _, hd⟩ =>
      rw [expTextOf, List.all_cons, List.all_append, numChar_digits hd]
      rcases isSign_cases hs with rfl | rfl | rfl <;> rfl
  rw [List.all_append, List.all_append, numChar_digits hds, h1, h2]; rfl

theorem token_real (r : RealLit) (rest : List Char) (p : Pos) (h : r.wf = true)
    (hd : startsDelim rest = true) :
    token (r.text ++ rest) p
      = .ok (some (.prim (.real (String.ofList r.text)), rest, advs r.text p)) := by
  obtain ⟨h1, h2, h3, h4, h5, h6, h7, h8⟩ := RealLit.wf_inv h
  unfold RealLit.text
  rw [h7, h8]
  cases hip : r.ip with
  | nil => exact absurd hip h2
  | cons x ip =>
    rw [hip] at h3
    have hx : isDigit x = true := h3 x (by simp)
    have hip' : ∀ c ∈ ip, isDigit c = true := fun c hc => h3 c (by simp [hc])
    have hv := validReal_lit (sign := r.sign) h1 h3 h4 h5
    rcases isSign_cases h1 with hs | hs | hs <;> rw [hs] at hv ⊢
    · exact token_number p (Or.inl hx) (numChar_lit hip' h4 h5) hd (numModel_real hip' h4 h5 h6 hv)
    · exact token_number p (.inr (.inl rfl)) (numChar_lit h3 h4 h5) hd (numModel_real h3 h4 h5 h6 hv)
    · exact token_number p (.inr (.inr rfl)) (numChar_lit h3 h4 h5) hd (numModel_real h3 h4 h5 h6 hv)

/-! ## every supported token -/

theorem follow_cases {t : Token} {rest : List Char} (hf : followOK t rest = true)
    (ht : t ≠ .unquote) (hsd : selfDelimiting t = false) :
    startsDelim rest = true ∨ (sharpTok t = true ∧ startsSharp rest = true) := by
  unfold followOK at hf
  split at hf
  · exact absurd rfl ht
  · simpa [hsd] using hf

theorem token_render (t : Token) (rest : List Char) (p : Pos) (hs : SupportedTok t)
    (hf : followOK t rest = true) :
    token (renderTok t ++ rest) p = .ok (some (t, rest, advs (renderTok t) p)) := by
  have word : ∀ {t : Token}, followOK t rest = true → t ≠ .unquote → selfDelimiting t = false →
      sharpTok t = false → startsDelim rest = true := fun hf ht hsd hsh =>
    (follow_cases hf ht hsd).elim id (fun h => by rw [hsh] at h; cases h.1)
  have sharp : ∀ {t : Token}, followOK t rest = true → t ≠ .unquote → selfDelimiting t = false →
      startsDelim rest = true ∨ startsSharp rest = true := fun hf ht hsd =>
    (follow_cases hf ht hsd).imp id And.right
  cases t with
  | lparen => exact token_lparen _ _
  | rparen => exact token_rparen _ _
  | vecIntro => exact token_vecIntro _ _
  | byteVecIntro => exact token_byteVecIntro _ _
  | quote => exact token_quote _ _
  | quasiquote => exact token_quasiquote _ _
  | unquoteSplicing => exact token_unquoteSplicing _ _
  | unquote =>
    cases rest with
    | nil => cases hf
    | cons c r => exact token_unquote c r p (fun e => by subst e; cases hf)
  | period => exact token_period _ _ (word hf nofun rfl rfl)
  | ident s =>
    by_cases hp : isPlainIdent s.toList = true
    · have := token_plainIdent s.toList rest p hp
        (word hf nofun (by rw [selfDelimiting, hp]; rfl) rfl)
      rwa [String.ofList_toList, ← if_pos (t := s.toList) (e := '|' :: s.toList ++ ['|']) hp] at this
    · have := token_quoted s.toList rest p (hs.resolve_left hp)
      rw [String.ofList_toList] at this
      rw [renderTok, if_neg hp]
      simpa only [List.cons_append, List.append_assoc, List.nil_append] using this
  | prim pr =>
    cases pr with
    | str s =>
      have := token_string (s.toList.map canonPiece) rest p
        (by intro x hx; obtain ⟨c, -, rfl⟩ := List.mem_map.mp hx; exact canonPiece_valid c)
      rwa [canonPiece_char, String.ofList_toList] at this
    | chr c => exact token_char c rest p (sharp hf nofun rfl)
    | bool b => exact token_bool b rest p (sharp hf nofun rfl)
    | int i => exact token_int i rest p hs (word hf nofun rfl rfl)
    | rat n d =>
      exact token_rat n d rest p hs.1 hs.2.1 hs.2.2 (word hf nofun rfl rfl)
    | real tx =>
      obtain ⟨r, hr, rfl⟩ := hs
      have := token_real r rest p hr (word hf nofun rfl rfl)
      rw [renderTok, String.toList_ofList]; exact this

/-! ## token sequences -/

theorem numStart_ns {first : Char} (h : isDigit first = true ∨ first = '+' ∨ first = '-') :
    first ∉ specials := by
  rcases h with h | rfl | rfl
  · exact isDigit_ns h
  · decide
  · decide

theorem head_of {l : List Char} (h : (startsTok l && !l.isEmpty) = true) :
    ∃ c r, l = c :: r ∧ isWs c = false ∧ c ≠ ';' := by
  cases l with
  | nil => cases h
  | cons c r => exact ⟨c, r, rfl, by simpa [startsTok] using h⟩

theorem renderTok_head (t : Token) (hs : SupportedTok t) :
    ∃ c r, renderTok t = c :: r ∧ isWs c = false ∧ c ≠ ';' := by
  have ns : ∀ {c : Char} (r : List Char), c ∉ specials →
      ∃ c' r', c :: r = c' :: r' ∧ isWs c' = false ∧ c' ≠ ';' :=
    fun r h => ⟨_, r, rfl, notWs_of_ns h⟩
  cases t with
  | ident s =>
    by_cases hp : isPlainIdent s.toList = true
    · rw [renderTok, if_pos hp]
      cases hl : s.toList with
      | nil => rw [hl] at hp; cases hp
      | cons c cs =>
        rw [hl] at hp
        exact ns cs (isSubsequent_ns (Bool.and_eq_true _ _ ▸ List.all_cons ▸ plainIdent_all hp).1)
    · rw [renderTok, if_neg hp]; exact head_of rfl
  | prim pr =>
    cases pr with
    | int i =>
      obtain ⟨first, ds, h1, -, h3⟩ := showInt_shape i
      rw [renderTok, h1]; exact ns ds (numStart_ns h3)
    | rat n d =>
      obtain ⟨first, ds, h1, -, h3⟩ := showInt_shape n
      rw [renderTok, h1]; exact ns _ (numStart_ns h3)
    | real tx =>
      obtain ⟨r, hr, rfl⟩ := hs
      obtain ⟨h1, h2, h3, -⟩ := RealLit.wf_inv hr
      rw [renderTok, String.toList_ofList, RealLit.text]
      cases hip : r.ip with
      | nil => exact absurd hip h2
      | cons x ip =>
        rcases isSign_cases h1 with hs | hs | hs <;> rw [hs]
        · exact ns _ (isDigit_ns (h3 x (by rw [hip]; exact List.mem_cons_self ..)))
        all_goals exact head_of rfl
    | _ => exact head_of rfl
  | _ => exact head_of rfl
theorem renderTok_startsTok (t : Token) (hs : SupportedTok t) (rest : List Char) :
    startsTok (renderTok t ++ rest) = true := by
  obtain ⟨c, r, h1, h2, h3⟩ := renderTok_head t hs
  simp [h1, startsTok, h2, h3]

theorem renderTok_length_pos (t : Token) (hs : SupportedTok t) : 0 < (renderTok t).length := by
  obtain ⟨c, r, h1, -⟩ := renderTok_head t hs
  simp [h1]

theorem next_render {t : Token} {a rest : List Char} (p : Pos) (hs : SupportedTok t)
    (ha : isAtmos false a = true) (hf : followOK t rest = true) :
    next (a ++ (renderTok t ++ rest)) p = .ok (some (t, rest, advs (renderTok t) (advs a p))) := by
  unfold next
  rw [skipAtmosphere_atmos false a _ p ha (renderTok_startsTok t hs _)]
  exact token_render t _ _ hs hf

theorem locate_toks : ∀ (ts : List Token) (l : List (List Char)) (p : Pos),
    (FrontSpec.locate ts l p).map (·.tok) = ts
  | [], _, _ => rfl
  | t :: ts, l, p => by simp [FrontSpec.locate, locate_toks ts]

theorem stream_render_located (ts : List Token) (layout : List (List Char))
    (hs : ∀ t ∈ ts, SupportedTok t) (hl : ValidLayout ts layout) (p : Pos) :
    Stream (interleave ts layout) p (FrontSpec.locate ts layout p) none := by
  induction ts generalizing layout p with
  | nil =>
    match layout, hl with
    | [a], hl =>
      obtain ⟨p', hp⟩ := skipAtmosphere_trail false a p hl
      exact .eof (by simp [interleave, next, hp, token])
  | cons t ts ih =>
    match layout, hl with
    | a :: l, ⟨ha, hfo, hl'⟩ =>
      exact .tok (next_render p (hs t (by simp)) ha hfo) (ih l (fun t ht => hs t (by simp [ht])) hl' _)

theorem all_render_located (ts : List Token) (layout : List (List Char))
    (hs : ∀ t ∈ ts, SupportedTok t) (hl : ValidLayout ts layout) :
    Lex.all (interleave ts layout) = (FrontSpec.locate ts layout (1, 1), none) := by
  rw [Lex.all, (stream_render_located ts layout hs hl (1, 1)).allAux _ [] (Nat.lt_succ_self _)]
  rfl

theorem all_render (ts : List Token) (layout : List (List Char))
    (hs : ∀ t ∈ ts, SupportedTok t) (hl : ValidLayout ts layout) :
    (Lex.all (interleave ts layout)).1.map (·.tok) = ts ∧
      (Lex.all (interleave ts layout)).2 = none := by
  rw [all_render_located ts layout hs hl]
  exact ⟨locate_toks .., rfl⟩

/-! ## what may follow a token; layouts and gaps -/

theorem followOK_head (t : Token) {x y : List Char} (h : x.head? = y.head?) : followOK t x = followOK t y := by
  cases x <;> cases y <;> cases h
  · rfl
  · unfold followOK
    rw [startsSharp_cons, startsSharp_cons]
    split <;> simp [startsDelim]

theorem followOK_of_sep (t : Token) (sep x : List Char) (h : isTrail false sep = true)
    (hne : sep ≠ []) : followOK t (sep ++ x) = true := by
  cases sep with
  | nil => exact absurd rfl hne
  | cons c r =>
    have hd : isDelimiter c = true := by
      rw [isTrail_cons, atmosStep] at h
      by_cases hw : isWs c = true
      · simp [isDelimiter, hw]
      · rw [if_neg hw] at h
        by_cases hc : c = ';'
        · subst hc; rfl
        · rw [if_neg hc] at h; cases h
    have hat : c ≠ '@' := by rintro rfl; revert hd; decide
    unfold followOK
    split
    · simp [hat]
    · simp [startsDelim, hd]

theorem followOK_rparen (t : Token) (rest : List Char) : followOK t (')' :: rest) = true := by
  cases t <;> simp [followOK, startsDelim, isDelimiter]

theorem followOK_selfDelimiting (t : Token) (h : selfDelimiting t = true) (rest : List Char) :
    followOK t rest = true := by
  cases t <;> simp_all [followOK, selfDelimiting]

theorem ValidGaps.head_trail : ∀ {ts : List Token} {l : List (List Char)}, ValidGaps ts l →
    isTrail false (l.headD []) = true
  | [], [_], h => h
  | _ :: _, _ :: _, h => isTrail_of_isAtmos _ _ h.1
  | [], [], h | [], _ :: _ :: _, h | _ :: _, [], h => h.elim

theorem followOK_interleave (t : Token) (ts : List Token) (l : List (List Char))
    (hs : ∀ t ∈ ts, SupportedTok t) (hsep : isTrail false (l.headD []) = true) :
    followOK t (interleave ts l) = gapOK t (l.headD []) ts.head? := by
  cases ts with
  | nil =>
    rw [interleave, List.head?_nil]
    generalize l.headD [] = sep at hsep ⊢
    cases sep with
    | nil => cases t <;> simp [gapOK, followOK, startsDelim]
    | cons c r => rw [← List.append_nil (c :: r), followOK_of_sep t (c :: r) [] hsep (by simp)]; rfl
  | cons t2 ts' =>
    rw [interleave, List.head?_cons]
    generalize l.headD [] = sep at hsep ⊢
    cases sep with
    | nil =>
      obtain ⟨c, r, h1, -⟩ := renderTok_head t2 (hs t2 (by simp))
      simp only [List.nil_append, gapOK, List.isEmpty_nil, Bool.not_true, Bool.false_or]
      exact followOK_head t (by rw [h1]; rfl)
    | cons c r => rw [followOK_of_sep t (c :: r) _ hsep (by simp)]; rfl

theorem validLayout_iff_gaps (ts : List Token) (hs : ∀ t ∈ ts, SupportedTok t) :
    ∀ layout : List (List Char), ValidLayout ts layout ↔ ValidGaps ts layout := by
  induction ts with
  | nil => intro layout; match layout with | [] | [_] | _ :: _ :: _ => exact Iff.rfl
  | cons t ts ih =>
    intro layout
    match layout with
    | [] => exact Iff.rfl
    | a :: l =>
      have hs' : ∀ t ∈ ts, SupportedTok t := fun t ht => hs t (List.mem_cons_of_mem _ ht)
      rw [ValidLayout, ValidGaps, ih hs' l]
      exact and_congr_right fun _ => and_congr_left fun hv => by
        rw [followOK_interleave t ts l hs' hv.head_trail]

theorem validLayout_of_gaps (ts : List Token) (layout : List (List Char))
    (hs : ∀ t ∈ ts, SupportedTok t) (h : ValidGaps ts layout) : ValidLayout ts layout :=
  (validLayout_iff_gaps ts hs layout).2 h

instance decValidLayout : (ts : List Token) → (l : List (List Char)) → Decidable (ValidLayout ts l)
  | [], [] => isFalse (by simp [ValidLayout])
  | [], [a] => inferInstanceAs (Decidable (isTrail false a = true))
  | [], _ :: _ :: _ => isFalse (by simp [ValidLayout])
  | _ :: _, [] => isFalse (by simp [ValidLayout])
  | t :: ts, a :: l =>
    have := decValidLayout ts l
    inferInstanceAs (Decidable (isAtmos false a = true ∧ followOK t (interleave ts l) = true ∧
      ValidLayout ts l))

instance decValidGaps : (ts : List Token) → (l : List (List Char)) → Decidable (ValidGaps ts l)
  | [], [] => isFalse (by simp [ValidGaps])
  | [], [a] => inferInstanceAs (Decidable (isTrail false a = true))
  | [], _ :: _ :: _ => isFalse (by simp [ValidGaps])
  | _ :: _, [] => isFalse (by simp [ValidGaps])
  | t :: ts, a :: l =>
    have := decValidGaps ts l
    inferInstanceAs (Decidable (isAtmos false a = true ∧ gapOK t (l.headD []) ts.head? = true ∧
      ValidGaps ts l))

end Ruschm.Text
