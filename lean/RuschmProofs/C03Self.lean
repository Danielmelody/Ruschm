/-
Property C03 (addition) — a vector stored INTO ITSELF is the same object.

`(vector-set! v i v)` does not copy `v`: the element is the reference `.vec id` itself, so reading it
back gives an alias of `v` (`eqv?` true), a write through `(vector-ref v i)` is a write to `v`, and no
cell is allocated. The same for a cycle of length two (an inner vector that contains the outer one).
Composes `C03.vector_set_outcome`, `vector_set_one_cell`, `vector_ref_reads_cell`, `vec_alias`,
`eqv_vector_identity`; motivated by a seeded change (deep copy on store) that the differential
checks had missed at first.
-/
import RuschmProofs.C03

namespace Ruschm.C03Self
open Ruschm Ruschm.Eval Ruschm.C03


/-- `(vector-set! v i v)` for a mutable vector `v = .vec id` of length `> i`: it succeeds; the new
store differs from the old one only in item `i` of cell `id` (every other cell, every frame, the
output … unchanged), and NO CELL IS ALLOCATED (`vecs.size` unchanged); the new item is the
reference `.vec id` itself: `(vector-ref v i)` returns `.vec id`, which is `eqv?`/`eq?` to `v`; the
other items read as before. -/
theorem self_store {σ : Store} {id : Nat} {cell : VecCell} (hc : σ.vecs[id]? = some cell)
    (hm : cell.mutable = true) {i : Nat} (hi : i < cell.items.length) :
    ∃ σ', Prim.applyPure σ .vectorSet [.vec id, .num (.int i), .vec id] = (.ok .void, σ') ∧
      Store.SameExceptCell σ σ' id ∧ σ'.vecs.size = σ.vecs.size ∧
      σ'.vecs[id]? = some { cell with items := cell.items.set i (.vec id) } ∧
      Prim.applyPure σ' .vectorRef [.vec id, .num (.int i)] = (.ok (.vec id), σ') ∧
      (∀ x, (Prim.applyPure σ' .vectorRef [.vec id, .num (.int i)]).1 = .ok x →
        Prim.applyPure σ' .eqv [x, .vec id] = (.ok (.bool true), σ') ∧
        Prim.applyPure σ' .eq [x, .vec id] = (.ok (.bool true), σ')) ∧
      (∀ m : Int, m ≠ i → (Prim.applyPure σ' .vectorRef [.vec id, .num (.int m)]).1 =
        (Prim.applyPure σ .vectorRef [.vec id, .num (.int m)]).1) := by
  obtain ⟨σ', hset, hsame, hnew⟩ :=
    Prim.vectorSet_ok_nat hc hm hi (.vec id)
  have hal := vec_alias hset
  refine ⟨σ', hset, hsame, hsame.vecs_size, by simpa using hnew, hal.1, fun x hx => ?_, hal.2.1⟩
  rw [hal.1] at hx
  cases hx
  have := eqv_vector_identity.2.2.2.2 σ' id id
  simpa using this

/-- … and a later `(vector-set! (vector-ref v i) j obj)` — a write through the ELEMENT — is a write
to cell `id`, seen through `v`: whatever value `elt` the `vector-ref` returned, the write through
it succeeds for every `j` in range, changes only cell `id` (of the store after the first write),
allocates nothing, and `(vector-ref v j)` then returns `obj`. -/
theorem self_store_write_through {σ σ' : Store} {id : Nat} {cell : VecCell} (hc : σ.vecs[id]? = some cell)
    (hm : cell.mutable = true) {i : Nat} (hi : i < cell.items.length)
    (hset : Prim.applyPure σ .vectorSet [.vec id, .num (.int i), .vec id] = (.ok .void, σ'))
    {elt : Value} (helt : (Prim.applyPure σ' .vectorRef [.vec id, .num (.int i)]).1 = .ok elt)
    {j : Nat} (hj : j < cell.items.length) (obj : Value) :
    ∃ σ'', Prim.applyPure σ' .vectorSet [elt, .num (.int j), obj] = (.ok .void, σ'') ∧
      Store.SameExceptCell σ' σ'' id ∧ σ''.vecs.size = σ.vecs.size ∧
      σ''.vecs[id]? = some { cell with items := (cell.items.set i (.vec id)).set j obj } ∧
      Prim.applyPure σ'' .vectorRef [.vec id, .num (.int j)] = (.ok obj, σ'') := by
  obtain ⟨σ₁, hset₁, hsame, hsz, hnew, href, -, -⟩ := self_store hc hm hi
  rw [hset] at hset₁
  cases hset₁
  rw [href] at helt
  cases helt
  obtain ⟨σ'', hset₂, hsame₂, hnew₂⟩ :=
    Prim.vectorSet_ok_nat hnew hm (by simpa using hj) obj
  exact ⟨σ'', hset₂, hsame₂, by rw [hsame₂.vecs_size, hsz], by simpa using hnew₂, (vec_alias hset₂).1⟩

/-- TWO LEVELS. The inner vector `.vec b` holds the outer one `.vec a` at index `j`; storing the
inner one into the outer one at index `i` (`(vector-set! outer i inner)`) closes a cycle of
length two without copying anything: no cell is allocated, only cell `a` changes, `(vector-ref
outer i)` is the inner vector (`eqv?`), `(vector-ref (vector-ref outer i) j)` is still THE outer
vector (`eqv?` to it), and a write through that path is seen through `outer`. -/
theorem two_level_store {σ : Store} {a b : Nat} {ca cb : VecCell} (hab : a ≠ b)
    (ha : σ.vecs[a]? = some ca) (hb : σ.vecs[b]? = some cb) (hm : ca.mutable = true)
    {i j : Nat} (hi : i < ca.items.length) (hj : cb.items[j]? = some (.vec a)) :
    ∃ σ', Prim.applyPure σ .vectorSet [.vec a, .num (.int i), .vec b] = (.ok .void, σ') ∧
      Store.SameExceptCell σ σ' a ∧ σ'.vecs.size = σ.vecs.size ∧ σ'.vecs[b]? = some cb ∧
      Prim.applyPure σ' .vectorRef [.vec a, .num (.int i)] = (.ok (.vec b), σ') ∧
      Prim.applyPure σ' .vectorRef [.vec b, .num (.int j)] = (.ok (.vec a), σ') ∧
      Prim.applyPure σ' .eqv [.vec a, .vec a] = (.ok (.bool true), σ') ∧
      Prim.applyPure σ' .eqv [.vec a, .vec b] = (.ok (.bool false), σ') ∧
      (∀ (k : Nat) (obj : Value), k < ca.items.length →
        ∃ σ'', Prim.applyPure σ' .vectorSet [.vec a, .num (.int k), obj] = (.ok .void, σ'') ∧
          σ''.vecs.size = σ.vecs.size ∧
          Prim.applyPure σ'' .vectorRef [.vec a, .num (.int k)] = (.ok obj, σ'')) := by
  obtain ⟨σ', hset, hsame, hnew⟩ :=
    Prim.vectorSet_ok_nat ha hm hi (.vec b)
  have hb' : σ'.vecs[b]? = some cb := by rw [hsame.other_cells b (Ne.symm hab), hb]
  refine ⟨σ', hset, hsame, hsame.vecs_size, hb', (vec_alias hset).1, ?_, ?_, ?_, fun k obj hk => ?_⟩
  · rw [vector_ref_reads_cell hb' (j : Int)]
    have : ¬ ((j : Int) < 0) := by omega
    simp [this, hj]
  · simpa using (eqv_vector_identity.2.2.2.2 σ' a a).1
  · have hne : (a == b) = false := by simpa using hab
    rw [(eqv_vector_identity.2.2.2.2 σ' a b).1, hne]
  · obtain ⟨σ'', hset₂, hsame₂, -⟩ :=
      Prim.vectorSet_ok_nat hnew hm (by simpa using hk) obj
    exact ⟨σ'', hset₂, by rw [hsame₂.vecs_size, hsame.vecs_size], (vec_alias hset₂).1⟩

/-! ## closed examples: the three-element vector `#(1 2 3)`, cell 0 -/

/-- a store with the mutable vector `#(1 2 3)` (cell 0) and the mutable vector `#(#0 5)` (cell 1,
whose item 0 is the first vector) -/
def σ3 : Store :=
  { vecs := #[{ mutable := true, items := [.num (.int 1), .num (.int 2), .num (.int 3)] },
              { mutable := true, items := [.vec 0, .num (.int 5)] }] }

/-- the hypotheses of `self_store` hold of cell 0 of `σ3` at index 1 -/
example : ∃ σ', Prim.applyPure σ3 .vectorSet [.vec 0, .num (.int (1 : Nat)), .vec 0] = (.ok .void, σ') ∧
    σ'.vecs.size = σ3.vecs.size :=
  let ⟨σ', h, _, hs, _⟩ := self_store (σ := σ3) (id := 0) (i := 1) rfl rfl (by decide)
  ⟨σ', h, hs⟩

/-- … computed: `(vector-set! v 1 v)`, then `(vector-ref v 1)` is `v`, `(eqv? (vector-ref v 1) v)`
is `#t`, `(vector-set! (vector-ref v 1) 2 'new)` is seen by `(vector-ref v 2)`, two cells throughout -/
example :
    let σ' := (Prim.applyPure σ3 .vectorSet [.vec 0, .num (.int 1), .vec 0]).2
    let σ'' := (Prim.applyPure σ' .vectorSet [.vec 0, .num (.int 2), .sym "new"]).2
    (Prim.applyPure σ3 .vectorSet [.vec 0, .num (.int 1), .vec 0]).1 = .ok .void ∧
    (Prim.applyPure σ' .vectorRef [.vec 0, .num (.int 1)]).1 = .ok (.vec 0) ∧
    (Prim.applyPure σ' .eqv [.vec 0, .vec 0]).1 = .ok (.bool true) ∧
    (Prim.applyPure σ'' .vectorRef [.vec 0, .num (.int 2)]).1 = .ok (.sym "new") ∧
    (Prim.applyPure σ'' .vectorRef [.vec 0, .num (.int 0)]).1 = .ok (.num (.int 1)) ∧
    σ'.vecs.size = 2 ∧ σ''.vecs.size = 2 :=
  ⟨rfl, rfl, rfl, rfl, rfl, rfl, rfl⟩

/-- the hypotheses of `self_store_write_through` hold there -/
example : ∃ σ'', Prim.applyPure (Prim.applyPure σ3 .vectorSet [.vec 0, .num (.int (1 : Nat)), .vec 0]).2
      .vectorSet [.vec 0, .num (.int (2 : Nat)), .sym "new"] = (.ok .void, σ'') ∧ σ''.vecs.size = σ3.vecs.size :=
  let ⟨σ'', h, _, hs, _⟩ := self_store_write_through (σ := σ3) (id := 0) (i := 1) (j := 2) (elt := .vec 0)
    rfl rfl (by decide) rfl rfl (by decide) (.sym "new")
  ⟨σ'', h, hs⟩

/-- two levels: cell 1 holds cell 0 at index 0; `(vector-set! v0 2 v1)` closes the cycle -/
example : ∃ σ', Prim.applyPure σ3 .vectorSet [.vec 0, .num (.int (2 : Nat)), .vec 1] = (.ok .void, σ') ∧
    Prim.applyPure σ' .vectorRef [.vec 0, .num (.int (2 : Nat))] = (.ok (.vec 1), σ') ∧
    Prim.applyPure σ' .vectorRef [.vec 1, .num (.int (0 : Nat))] = (.ok (.vec 0), σ') ∧
    σ'.vecs.size = 2 :=
  let ⟨σ', h, _, hs, _, h₁, h₂, _⟩ :=
    two_level_store (σ := σ3) (a := 0) (b := 1) (i := 2) (j := 0) (by decide) rfl rfl rfl (by decide) rfl
  ⟨σ', h, h₁, h₂, hs⟩

end Ruschm.C03Self
