/-
Property C06 — the text of a program determines its data.

"Source text is split into tokens only at delimiters, and a token sequence denotes the same data
whatever amount and kind of whitespace, line breaks and comments separate the tokens. Every
supported token (identifiers including the peculiar ones and |quoted| ones, booleans, characters,
strings with escapes, signed integers, decimals with exponent, ratios) yields the datum R7RS
assigns to it, and parentheses, dotted tails, vector syntax and the quote abbreviation build
exactly the nested list/vector structure they denote."

Only property theorems live here (each is audited with `#print axioms`); helper lemmas are in
`RuschmProofs/{LexLemmas,LexSpecLemmas,LexToken,TextLemmas,ReadBasic,ReadSpecLemmas,ReadLemmas}.lean`.
The vocabulary (`renderTok`, `isAtmos`, `interleave`, `ValidLayout`, `SupportedTok`, `followOK`, `Syn`, …) is
defined in `RuschmSpec/Text.lean`; the model of the Rust lexer and reader is `RuschmModel/{Lex,Read}.lean`.
-/
import RuschmProofs.ReadLemmas
import RuschmProofs.TextSamples

namespace Ruschm.C06
open Ruschm Ruschm.Lex Ruschm.Text Ruschm.Text.Samples

/-! ## 1. Atmosphere is skipped -/

/-- Blanks, line breaks and (terminated) comments before a token are skipped, whatever their
amount and kind; the cursor advances over them. -/
theorem atmosphere_skipped (a rest : List Char) (p : Pos) (ha : isAtmos false a = true)
    (hr : startsTok rest = true) :
    Lex.skipAtmosphere false (a ++ rest) p = (rest, advs a p) ∧
      Lex.next (a ++ rest) p = Lex.token rest (advs a p) := by
  have h := skipAtmosphere_atmos false a rest p ha hr
  exact ⟨h, by simp [Lex.next, h]⟩

example : Lex.skipAtmosphere false " ; (hi\n\t(x".toList (1, 1) = ("(x".toList, (2, 2)) := by
  simp only [String.reduceToList]
  exact (atmosphere_skipped [' ', ';', ' ', '(', 'h', 'i', '\n', '\t'] _ (1, 1) (by decide +kernel) (by decide +kernel)).1

/-- After the last token the atmosphere may end in an unterminated comment: nothing is left. -/
theorem trailing_atmosphere_skipped (a : List Char) (p : Pos) (ha : isTrail false a = true) :
    ∃ p', Lex.skipAtmosphere false a p = ([], p') ∧ Lex.next a p = .ok none := by
  obtain ⟨p', h⟩ := skipAtmosphere_trail false a p ha
  exact ⟨p', h, by simp [Lex.next, h, Lex.token]⟩

example : Lex.next "  ; no newline".toList (1, 1) = .ok none := by
  obtain ⟨_, _, h⟩ := trailing_atmosphere_skipped "  ; no newline".toList (1, 1) (by decide +kernel)
  exact h

/-! ## 2. Every supported token is read back from its text -/

/-- `(` and `)` — followed by anything. -/
theorem lex_one_paren (rest : List Char) (p : Pos) :
    Lex.token ('(' :: rest) p = .ok (some (.lparen, rest, adv '(' p)) ∧
      Lex.token (')' :: rest) p = .ok (some (.rparen, rest, adv ')' p)) :=
  ⟨token_lparen rest p, token_rparen rest p⟩

example : Lex.token "(a".toList (1, 1) = .ok (some (.lparen, ['a'], (1, 2))) := eq_of_same (by decide +kernel)

/-- `#(` and `#u8(` — followed by anything. -/
theorem lex_one_vector_intro (rest : List Char) (p : Pos) :
    Lex.token ('#' :: '(' :: rest) p = .ok (some (.vecIntro, rest, advs ['#', '('] p)) ∧
      Lex.token ('#' :: 'u' :: '8' :: '(' :: rest) p
        = .ok (some (.byteVecIntro, rest, advs ['#', 'u', '8', '('] p)) :=
  ⟨token_vecIntro rest p, token_byteVecIntro rest p⟩

example : Lex.token "#(1)".toList (1, 1) = .ok (some (.vecIntro, "1)".toList, (1, 3))) := eq_of_same (by decide +kernel)

/-- `'`, `` ` `` and `,@` — followed by anything; `,` — followed by anything but `@` and the end
of the text. -/
theorem lex_one_quote (rest : List Char) (p : Pos) :
    Lex.token ('\'' :: rest) p = .ok (some (.quote, rest, adv '\'' p)) ∧
      Lex.token ('`' :: rest) p = .ok (some (.quasiquote, rest, adv '`' p)) ∧
      Lex.token (',' :: '@' :: rest) p = .ok (some (.unquoteSplicing, rest, advs [',', '@'] p)) ∧
      (∀ c, c ≠ '@' → Lex.token (',' :: c :: rest) p = .ok (some (.unquote, c :: rest, adv ',' p))) :=
  ⟨token_quote rest p, token_quasiquote rest p, token_unquoteSplicing rest p,
    fun c hc => token_unquote c rest p hc⟩

example : Lex.token "'x".toList (1, 1) = .ok (some (.quote, ['x'], (1, 2))) := eq_of_same (by decide +kernel)

/-- `.` followed by a delimiter (or the end of the text) is the dot of a dotted pair. -/
theorem lex_one_period (rest : List Char) (p : Pos) (h : startsDelim rest = true) :
    Lex.token ('.' :: rest) p = .ok (some (.period, rest, adv '.' p)) :=
  token_period rest p h

example : Lex.token ". b)".toList (1, 1) = .ok (some (.period, " b)".toList, (1, 2))) := eq_of_same (by decide +kernel)

/-- `#t` / `#f`, followed by a delimiter, the end of the text, or `#`. -/
theorem lex_one_bool (b : Bool) (rest : List Char) (p : Pos)
    (h : startsDelim rest = true ∨ startsSharp rest = true) :
    Lex.token (renderTok (.prim (.bool b)) ++ rest) p
      = .ok (some (.prim (.bool b), rest, advs (renderTok (.prim (.bool b))) p)) :=
  token_bool b rest p h

example : Lex.token "#t)".toList (1, 1) = .ok (some (.prim (.bool true), [')'], (1, 3))) := eq_of_same (by decide +kernel)

/-- `#\c` denotes the character `c` — for *every* character `c`, provided a delimiter, the end
of the text or `#` follows. (When an ASCII letter or digit follows, the lexer reads a character
name such as `#\space` or `#\x41` instead.) -/
theorem lex_one_char (c : Char) (rest : List Char) (p : Pos)
    (h : startsDelim rest = true ∨ startsSharp rest = true) :
    Lex.token ('#' :: '\\' :: c :: rest) p
      = .ok (some (.prim (.chr c), rest, advs ['#', '\\', c] p)) :=
  token_char c rest p h

example : Lex.token "#\\( x".toList (1, 1)
    = .ok (some (.prim (.chr '('), " x".toList, (1, 4))) := eq_of_same (by decide +kernel)

/-- The R7RS character names: `#\\alarm`, `#\\backspace`, `#\\delete`, `#\\escape`, `#\\newline`,
`#\\null`, `#\\return`, `#\\space`, `#\\tab` denote the characters R7RS assigns to them. -/
theorem lex_one_char_name (name : List Char) (c : Char) (hn : (name, c) ∈ charNames)
    (rest : List Char) (p : Pos) (h : startsDelim rest = true ∨ startsSharp rest = true) :
    Lex.token ('#' :: '\\' :: (name ++ rest)) p
      = .ok (some (.prim (.chr c), rest, advs ('#' :: '\\' :: name) p)) := by
  obtain ⟨first, run, h1, h2, h3, h4⟩ := charNames_ok (name, c) hn
  simp only at h1 h4
  subst h1
  exact token_char_run first run rest p c h3 h2 (Or.inl h4) h

example : Lex.token "#\\space)".toList (1, 1) = .ok (some (.prim (.chr ' '), [')'], (1, 8))) := eq_of_same (by decide +kernel)

/-- `#\\x<hex>` denotes the character with that scalar value (the hypotheses are decidable for any
concrete digits). -/
theorem lex_one_char_hex (digits : List Char) (c : Char) (rest : List Char) (p : Pos)
    (hd : ∀ x ∈ digits, isAsciiAlnum x = true) (hne : digits ≠ [])
    (hname : Lex.charName? ('x' :: digits) = none) (hv : Lex.hexScalar? digits = some c)
    (h : startsDelim rest = true ∨ startsSharp rest = true) :
    Lex.token ('#' :: '\\' :: 'x' :: (digits ++ rest)) p
      = .ok (some (.prim (.chr c), rest, advs ('#' :: '\\' :: 'x' :: digits) p)) :=
  token_char_run 'x' digits rest p c hd hne (Or.inr ⟨hname, rfl, hv⟩) h

example : Lex.token "#\\x41 ".toList (1, 1) = .ok (some (.prim (.chr 'A'), [' '], (1, 6))) := eq_of_same (by decide +kernel)

/-- A string literal written with any mix of literal characters (anything but `"` and `\`) and
mnemonic escapes `\a \b \t \n \r \" \\ \|` denotes the string of the characters its pieces
denote — followed by anything. -/
theorem lex_one_string (ps : List StrPiece) (rest : List Char) (p : Pos)
    (h : ∀ x ∈ ps, x.valid = true) :
    Lex.token (showPieces ps ++ rest) p
      = .ok (some (.prim (.str (String.ofList (ps.map StrPiece.char))), rest,
          advs (showPieces ps) p)) :=
  token_string ps rest p h

example : Lex.token "\"a\\n\\\"b\nc\"x".toList (1, 1)
    = .ok (some (.prim (.str "a\n\"b\nc"), ['x'], (2, 3))) := by
  simp only [String.reduceToList]
  exact lex_one_string [.lit 'a', .esc '\n', .esc '"', .lit 'b', .lit '\n', .lit 'c'] ['x']
    (1, 1) (by decide +kernel)

/-- Every string `s` is read back from its canonical literal `showStr s`. -/
theorem lex_one_string_canonical (s : String) (rest : List Char) (p : Pos) :
    Lex.token (renderTok (.prim (.str s)) ++ rest) p
      = .ok (some (.prim (.str s), rest, advs (renderTok (.prim (.str s))) p)) :=
  token_render (.prim (.str s)) rest p trivial rfl

example : renderTok (.prim (.str "a\"\\|\t")) = "\"a\\\"\\\\\\|\\t\"".toList := by decide +kernel

/-- The round trip of `to_string` and `str::parse::<i32>`. -/
theorem parseI32_roundtrip (i : Int) (h : fitsI32 i = true) :
    Lex.parseI32? (showInt i) = some i :=
  parseI32_showInt i h

example : Lex.parseI32? "-2147483648".toList = some (-2147483648) := by decide +kernel

/-- Every `i32` is read back from its decimal text (with `-` for negatives). -/
theorem lex_one_int (i : Int) (rest : List Char) (p : Pos) (h : fitsI32 i = true)
    (hd : startsDelim rest = true) :
    Lex.token (renderTok (.prim (.int i)) ++ rest) p
      = .ok (some (.prim (.int i), rest, advs (renderTok (.prim (.int i))) p)) :=
  token_int i rest p h hd

example : Lex.token "-12)".toList (1, 1) = .ok (some (.prim (.int (-12)), [')'], (1, 4))) := eq_of_same (by decide +kernel)

/-- `n/d` with `n` an `i32` and `0 < d ≤ u32::MAX` is the ratio literal `(n, d)`. -/
theorem lex_one_ratio (n : Int) (d : Nat) (rest : List Char) (p : Pos) (h : fitsI32 n = true)
    (hd0 : 0 < d) (hd1 : d ≤ 4294967295) (hd : startsDelim rest = true) :
    Lex.token (renderTok (.prim (.rat n d)) ++ rest) p
      = .ok (some (.prim (.rat n d), rest, advs (renderTok (.prim (.rat n d))) p)) :=
  token_render (.prim (.rat n d)) rest p ⟨h, hd0, hd1⟩ (by simp [followOK, selfDelimiting, hd])

example : Lex.token "-3/4 ".toList (1, 1) = .ok (some (.prim (.rat (-3) 4), [' '], (1, 5))) := eq_of_same (by decide +kernel)

/-- A decimal `sign? digits+ ('.' digits*)? ('e' sign? digits+)?` with a fraction or an exponent
is a real literal carrying exactly its text. -/
theorem lex_one_real (r : RealLit) (rest : List Char) (p : Pos) (h : r.wf = true)
    (hd : startsDelim rest = true) :
    Lex.token (r.text ++ rest) p
      = .ok (some (.prim (.real (String.ofList r.text)), rest, advs r.text p)) :=
  token_real r rest p h hd

example : Lex.token "-12.50e+3)".toList (1, 1)
    = .ok (some (.prim (.real "-12.50e+3"), [')'], (1, 10))) := eq_of_same (by decide +kernel)

/-- `<initial> <subsequent>*` is an identifier. -/
theorem lex_one_ident_normal (c : Char) (cs rest : List Char) (p : Pos)
    (hc : isInitial c = true) (hcs : ∀ x ∈ cs, isSubsequent x = true)
    (hd : startsDelim rest = true) :
    Lex.token (c :: cs ++ rest) p
      = .ok (some (.ident (String.ofList (c :: cs)), rest, advs (c :: cs) p)) :=
  token_plainIdent (c :: cs) rest p (by simpa [isPlainIdent, hc] using hcs) hd

example : Lex.token "list->vector x".toList (1, 1)
    = .ok (some (.ident "list->vector", " x".toList, (1, 13))) := eq_of_same (by decide +kernel)

/-- Every identifier of the class `isPlainIdent` — the normal ones and the peculiar ones `+`,
`-`, `+a`, `-x`, `->b`, `...`, `.a` — is read back from its text. -/
theorem lex_one_ident_plain (s rest : List Char) (p : Pos) (h : isPlainIdent s = true)
    (hd : startsDelim rest = true) :
    Lex.token (s ++ rest) p = .ok (some (.ident (String.ofList s), rest, advs s p)) :=
  token_plainIdent s rest p h hd

example : Lex.token "... )".toList (1, 1) = .ok (some (.ident "...", " )".toList, (1, 4))) := eq_of_same (by decide +kernel)

example : Lex.token "+".toList (1, 1) = .ok (some (.ident "+", [], (1, 2))) := eq_of_same (by decide +kernel)

example : Lex.token "-x+1)".toList (1, 1) = .ok (some (.ident "-x+1", [')'], (1, 5))) := eq_of_same (by decide +kernel)

/-- `|…|` with any content free of `|` is the identifier with exactly that content — followed by
anything. -/
theorem lex_one_ident_quoted (body rest : List Char) (p : Pos) (h : '|' ∉ body) :
    Lex.token ('|' :: (body ++ '|' :: rest)) p
      = .ok (some (.ident (String.ofList body), rest, advs ('|' :: (body ++ ['|'])) p)) :=
  token_quoted body rest p h

example : Lex.token "|a (b|c".toList (1, 1) = .ok (some (.ident "a (b", ['c'], (1, 7))) :=
  eq_of_same (by decide +kernel)

/-- All classes at once: the text `renderTok t` of a supported token, followed by something that
ends it (`followOK`), is read back as `t`, and the cursor advances over exactly that text. -/
theorem lex_one (t : Token) (rest : List Char) (p : Pos) (hs : SupportedTok t)
    (hf : followOK t rest = true) :
    Lex.token (renderTok t ++ rest) p = .ok (some (t, rest, advs (renderTok t) p)) :=
  token_render t rest p hs hf

example : Lex.token "|hello world|(".toList (1, 1)
    = .ok (some (.ident "hello world", ['('], (1, 14))) := eq_of_same (by decide +kernel)

/-! ## 3. Layout invariance -/

/-- LAYOUT INVARIANCE. A sequence of supported tokens, written down with *any* valid layout —
arbitrary blanks, line breaks and comments before, between and after the tokens; nothing at all
between two tokens where the first ends by itself or the second starts with a delimiter — is read
back as exactly that sequence, without error. -/
theorem lex_render (ts : List Token) (layout : List (List Char))
    (hs : ∀ t ∈ ts, SupportedTok t) (hl : ValidLayout ts layout) :
    (Lex.all (interleave ts layout)).1.map (·.tok) = ts ∧
      (Lex.all (interleave ts layout)).2 = none :=
  all_render ts layout hs hl

/-- The same with the gap condition spelled out separator by separator (`ValidGaps`): a separator
may be empty only after a self-delimiting token, before a token that starts with a delimiter, or
at the very end (but not after a final `,`). -/
theorem lex_render_gaps (ts : List Token) (layout : List (List Char))
    (hs : ∀ t ∈ ts, SupportedTok t) (hl : ValidGaps ts layout) :
    (Lex.all (interleave ts layout)).1.map (·.tok) = ts ∧
      (Lex.all (interleave ts layout)).2 = none :=
  all_render ts layout hs (validLayout_of_gaps ts layout hs hl)

/-- Two valid layouts of the same token sequence are indistinguishable for the lexer. -/
theorem layout_invariance (ts : List Token) (l₁ l₂ : List (List Char))
    (hs : ∀ t ∈ ts, SupportedTok t) (h₁ : ValidLayout ts l₁) (h₂ : ValidLayout ts l₂) :
    (Lex.all (interleave ts l₁)).1.map (·.tok) = (Lex.all (interleave ts l₂)).1.map (·.tok) := by
  rw [(lex_render ts l₁ hs h₁).1, (lex_render ts l₂ hs h₂).1]

section Example
/- `toksA` = `( a . "x)" ) ' -5` with two quite different layouts (`TextSamples.lean`) -/
example : interleave toksA layoutA = " (a ;c\n. \"x)\")\t'-5; end".toList := toksA_textA
example : interleave toksA layoutB = "(\na . \"x)\")'-5".toList := toksA_textB

example : (Lex.all " (a ;c\n. \"x)\")\t'-5; end".toList).1.map (·.tok) = toksA := by
  rw [← toksA_textA]
  exact (lex_render toksA layoutA toksA_supported toksA_layoutA).1

example : (Lex.all "(\na . \"x)\")'-5".toList).1.map (·.tok) = toksA := by
  rw [← toksA_textB]
  exact (lex_render_gaps toksA layoutB toksA_supported toksA_gapsB).1
end Example

/-! ## 4. Tokens end only at delimiters -/

/-- Apart from punctuation and string literals (which end with their own last character) and
`|quoted|` identifiers (which end at the closing bar), a token ends only where the text ends or a
delimiter follows. Known residue, pinned by the Rust test-suite (`#t#f`): a boolean or character
may also be followed directly by `#`. -/
theorem boundaries_at_delimiters {cs : List Char} {p : Pos} {t : Token} {rest : List Char}
    {p' : Pos} (h : Lex.token cs p = .ok (some (t, rest, p'))) :
    closedTok t = true ∨ cs.head? = some '|' ∨ startsDelim rest = true ∨
      (sharpTok t = true ∧ startsSharp rest = true) := by
  obtain ⟨used, g1, g2⟩ := token_tracks h
  cases g2 with
  | word _ _ _ _ _ hd => exact Or.inr (Or.inr (Or.inl hd))
  | bool b x _ hd => exact Or.inr (Or.inr (hd.imp_right fun h => ⟨rfl, h⟩))
  | char _ _ _ hs _ hd => exact Or.inr (Or.inr (hd.imp_right fun h => ⟨hs, h⟩))
  | bar body _ => right; left; simp [g1.split]
  | _ => exact Or.inl rfl

private theorem token_tf : Lex.token "#t#f".toList (1, 1)
    = .ok (some (.prim (.bool true), "#f".toList, (1, 3))) := eq_of_same (by decide +kernel)

/-- the residue is real: `#t#f` is two tokens -/
example : Lex.token "#t#f".toList (1, 1)
    = .ok (some (.prim (.bool true), "#f".toList, (1, 3))) := token_tf

/-- … and there is no token boundary inside `ab#` -/
example : ∀ t rest p', Lex.token "ab#".toList (1, 1) ≠ .ok (some (t, rest, p')) := by
  intro t rest p' h
  have e : Lex.token "ab#".toList (1, 1) = .error (1, 3) := eq_of_same (by decide +kernel)
  rw [e] at h
  cases h

/-- The scanners one by one: each stops at the end of the text or before a delimiter
(`character`: or before `#`). -/
theorem boundary_normalIdentifier {first cs p t rest p'}
    (h : Lex.normalIdentifier first cs p = .ok (t, rest, p')) : startsDelim rest = true := by
  obtain ⟨w, rest0, rfl, hw, hr⟩ := LexSpecLemmas.chunk_split cs
  have he := LexSpecLemmas.normalIdentifier_chunk first w rest0 p hw hr
  rw [h] at he; rw [(LexSpecLemmas.ofClass_tok he).2]; exact hr

theorem boundary_dotSubsequent {acc cs p s rest p'}
    (h : Lex.dotSubsequent acc cs p = .ok (s, rest, p')) : startsDelim rest = true := by
  obtain ⟨w, rest0, rfl, hw, hr⟩ := LexSpecLemmas.chunk_split cs
  have he := LexSpecLemmas.dotSubsequent_chunk acc w rest0 p hw hr
  rw [h] at he; rw [LexSpecLemmas.ite_some_rest he]; exact hr

theorem boundary_peculiarIdentifier {first cs p t rest p'}
    (h : Lex.peculiarIdentifier first cs p = .ok (t, rest, p')) : startsDelim rest = true := by
  rw [peculiarIdentifier_eq] at h
  obtain ⟨⟨s, cs2, p2⟩, h1, h2⟩ := bind_eq_ok h
  cases h2
  split at h1 <;> exact boundary_dotSubsequent h1

theorem boundary_number {first cs p t rest p'}
    (h : Lex.number first cs p = .ok (t, rest, p')) : startsDelim rest = true := by
  obtain ⟨w, rest0, rfl, hw, hr⟩ := LexSpecLemmas.chunk_split cs
  have he := LexSpecLemmas.number_chunk first w rest0 p hw hr
  rw [h] at he; rw [(LexSpecLemmas.ofClass_tok he).2]; exact hr

theorem boundary_real {lit cs p lit' rest p'}
    (h : Lex.real lit ('.' :: cs) p = .ok (lit', rest, p')) : startsDelim rest = true := by
  obtain ⟨w, rest0, rfl, hw, hr⟩ := LexSpecLemmas.chunk_split cs
  have he := LexSpecLemmas.real_chunk lit w rest0 p hw hr
  rw [h] at he; rw [LexSpecLemmas.ite_some_rest he]; exact hr

theorem boundary_character {first cs p t rest p'}
    (h : Lex.character first cs p = .ok (t, rest, p')) :
    startsDelim rest = true ∨ startsSharp rest = true := by
  have he := LexSpecLemmas.character_forget first cs p
  rw [h] at he; rw [(LexSpecLemmas.ofClass_tok he).2]; exact LexSpecLemmas.sharp_rest cs

/-! ## 5. Parentheses, dotted tails, vectors and quotes build the structure they denote -/

/-- READ_TOKENS. One step of the reader (`advance`, then `current_datum` with the fuel the model
supplies) on a token stream that starts with the tokens of a supported written datum `x` — atoms,
`( … )`, `( … . tail)`, `#( … )`, `'x`, nested to any depth — returns the datum `x` denotes (up to
source locations) and leaves exactly the tokens after it; a pending lexer error stays pending. -/
theorem read_tokens (x : Syn) (hx : x.Supported) (s : Read.PState) (lts lrest : List LToken)
    (hl : lts.map (·.tok) = x.toks) (hs : s.toks = lts ++ lrest) :
    ∃ d s', Read.nextDatum s = .ok (some d, s') ∧ d.strip = x.denote ∧ s'.toks = lrest ∧
      s'.lexErr = s.lexErr :=
  nextDatum_spec x hx s lts lrest hl hs

/-- READ_RENDER. The text of a supported written datum, under any valid layout, is read as
exactly one datum: the one it denotes. -/
theorem read_render (x : Syn) (hx : x.Supported) (layout : List (List Char))
    (hl : ValidLayout x.toks layout) :
    (Read.all (x.render layout)).1.map Datum.strip = [x.denote] ∧
      (Read.all (x.render layout)).2 = none := by
  have h := readAll_render [x] ⟨hx, trivial⟩ layout (by simpa [Syn.toksL] using hl)
  simpa [Syn.toksL, Syn.render] using h

/-- The same for a whole text: a sequence of written data is read as the sequence of data they
denote, whatever the layout. -/
theorem read_render_many (xs : List Syn) (hxs : Syn.SupportedL xs) (layout : List (List Char))
    (hl : ValidLayout (Syn.toksL xs) layout) :
    (Read.all (interleave (Syn.toksL xs) layout)).1.map Datum.strip = xs.map Syn.denote ∧
      (Read.all (interleave (Syn.toksL xs) layout)).2 = none :=
  readAll_render xs hxs layout hl

section Example
/- `synA` = `(a (b . "s") #(1 'c) . d)` (`TextSamples.lean`) -/
example : synA.render synLayout
    = "(a (b ;the cdr\n. \"s\") #(1 'c) . d)\n".toList := synA_text

example : synA.denote
    = .pair (.sym "a" none)
        (.pair (.pair (.sym "b" none) (.prim (.str "s") none) none)
          (.pair (.vec [.prim (.int 1) none,
              .pair (.sym "quote" none) (.pair (.sym "c" none) (.nil none) none) none] none)
            (.sym "d" none) none) none) none := rfl

example : (Read.all "(a (b ;the cdr\n. \"s\") #(1 'c) . d)\n".toList).1.map Datum.strip
    = [synA.denote] := by
  rw [← synA_text]
  exact (read_render synA synA_supported synLayout synA_layout).1
end Example

/-- READ_RENDER on data. Every datum whose atoms are supported tokens — built from atoms, pairs
(proper lists, dotted tails to any depth: a tail that is itself a list prints as a longer list),
`()` and vectors — is read back, up to source locations, from its written form `renderDatum d`
under any valid layout. (`Syn.ofDatum` writes `(quote x)` in full; the abbreviation `'x` is
covered by `read_render`.) -/
theorem read_render_datum (d : Datum) (hd : SupportedD d) (layout : List (List Char))
    (hl : ValidLayout (Syn.ofDatum d).toks layout) :
    (Read.all (renderDatum d layout)).1.map Datum.strip = [d.strip] ∧
      (Read.all (renderDatum d layout)).2 = none := by
  have h := read_render (Syn.ofDatum d) (ofDatum_supported d hd) layout hl
  rw [ofDatum_denote] at h
  exact h

section Example
/-- `(1 (2 . "x") #(a))`, the tail `(2 . "x")` sitting in a cdr: it prints as `(1 2 . "x")` -/
private def sampleDatum : Datum :=
  .pair (.prim (.int 1) (some (1, 2)))
    (.pair (.prim (.int 2) none) (.prim (.str "x") none) (some (7, 7))) none

private theorem sampleDatum_text : renderDatum sampleDatum [[], [], [' '], ['\n'], [' '], [], []]
    = "(1 2\n. \"x\")".toList := by decide +kernel

example : renderDatum sampleDatum [[], [], [' '], ['\n'], [' '], [], []]
    = "(1 2\n. \"x\")".toList := sampleDatum_text

example : (Read.all "(1 2\n. \"x\")".toList).1.map Datum.strip = [sampleDatum.strip] := by
  rw [← sampleDatum_text]
  exact (read_render_datum sampleDatum
    ⟨(by decide : fitsI32 1 = true), (by decide : fitsI32 2 = true), trivial⟩
    [[], [], [' '], ['\n'], [' '], [], []] (by decide +kernel)).1
end Example

/-! ## 6. The lexer never runs out of fuel -/

/-- Every token consumes at least one character … -/
theorem next_consumes {cs : List Char} {p : Pos} {t : Token} {rest : List Char} {p' : Pos}
    (h : Lex.next cs p = .ok (some (t, rest, p'))) : rest.length < cs.length :=
  next_progress h

/-- … so the fuel `length + 1` of `Lex.all` always suffices: more fuel changes nothing. -/
theorem lex_total (cs : List Char) (k : Nat) :
    Lex.allAux (cs.length + 1 + k) cs (1, 1) [] = Lex.allAux (cs.length + 1) cs (1, 1) [] :=
  allAux_fuel k (cs.length + 1) cs (1, 1) [] (Nat.lt_succ_self _)

/-! ## Where the full statements fail

Three statements one would like to have are false of the model (and of the Rust code it was
validated against). Each is kept as a `def …_full : Prop` and refuted by a closed witness; what
is proved above are the corresponding partial versions, with the weakest side condition found. -/

/-- FULL layout invariance, treating `,` like the other punctuation tokens (it ends by itself,
whatever follows). -/
def lex_render_full : Prop :=
  ∀ (ts : List Token) (layout : List (List Char)), (∀ t ∈ ts, SupportedTok t) →
    ValidGapsNaive ts layout →
    (Lex.all (interleave ts layout)).1.map (·.tok) = ts ∧ (Lex.all (interleave ts layout)).2 = none

/-- It fails: a `,` that is the very last character of the text is dropped silently by
`Lexer::try_next` (the `None => None` arm after `,`). (A second witness: `,` directly followed by
the identifier `@x` is read as `,@` `x`.) Hence `followOK .unquote` in `ValidLayout`. -/
theorem lex_render_full_fails : ¬ lex_render_full := by
  intro h
  have h1 := (h [.unquote] [[], []] (List.forall_mem_singleton.2 trivial)
    ⟨rfl, rfl, rfl⟩).1
  have h2 : Lex.all (interleave [.unquote] [[], []]) = ([], none) := by
    simp [interleave, renderTok, Lex.all, Lex.allAux, Lex.next, Lex.skipAtmosphere, Lex.token,
      Lex.isWs]
  rw [h2] at h1
  cases h1

/-- the partial version: `lex_render_gaps` (the only extra condition is the one on `,`) -/
theorem lex_render_partial (ts : List Token) (layout : List (List Char))
    (hs : ∀ t ∈ ts, SupportedTok t) (hl : ValidGaps ts layout) :
    (Lex.all (interleave ts layout)).1.map (·.tok) = ts ∧
      (Lex.all (interleave ts layout)).2 = none :=
  lex_render_gaps ts layout hs hl

/-- FULL identifier coverage: every R7RS identifier written without bars. -/
def lex_one_ident_full : Prop :=
  ∀ (s rest : List Char) (p : Pos), isR7rsIdent s = true → startsDelim rest = true →
    Lex.token (s ++ rest) p = .ok (some (.ident (String.ofList s), rest, advs s p))

/-- It fails: after a sign, `.` always starts a number (`Lexer::try_next` tests
`is_ascii_digit() || '.'`), so `+.a` is a syntax error instead of an identifier; the branch
`Some('.')` of `percular_identifier` is unreachable for signs. -/
theorem lex_one_ident_full_fails : ¬ lex_one_ident_full := by
  intro h
  have h1 := h "+.a".toList [] (1, 1) (by decide +kernel) rfl
  have h2 : Lex.token ("+.a".toList ++ []) (1, 1) = .error (1, 3) := eq_of_same (by decide +kernel)
  rw [h2] at h1
  cases h1

/-- the partial version: `lex_one_ident_plain` -/
theorem lex_one_ident_partial (s rest : List Char) (p : Pos) (h : isPlainIdent s = true)
    (hd : startsDelim rest = true) :
    Lex.token (s ++ rest) p = .ok (some (.ident (String.ofList s), rest, advs s p)) :=
  lex_one_ident_plain s rest p h hd

/-- FULL "tokens end only at delimiters", without the `#` residue. -/
def boundaries_at_delimiters_full : Prop :=
  ∀ (cs : List Char) (p : Pos) (t : Token) (rest : List Char) (p' : Pos),
    Lex.token cs p = .ok (some (t, rest, p')) →
    closedTok t = true ∨ cs.head? = some '|' ∨ startsDelim rest = true

/-- It fails: `#t#f` is split into `#t` and `#f` without any delimiter (`end_of_sharp_token`;
pinned by the Rust test-suite). -/
theorem boundaries_at_delimiters_full_fails : ¬ boundaries_at_delimiters_full := by
  intro h
  have h1 := h _ _ _ _ _ token_tf
  revert h1
  decide

/-- Not a weakening of anything claimed above, but worth recording: a decimal that starts with
the dot (R7RS `.5`) is not read at all. -/
theorem leading_dot_decimal_rejected : Lex.token ".5".toList (1, 1) = .error (1, 2) :=
  eq_of_same (by decide +kernel)

end Ruschm.C06
