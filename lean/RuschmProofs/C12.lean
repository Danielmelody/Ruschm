/-
Property C12 — import sets bind exactly the names the algebra yields.

"After an import declaration the importing environment gains exactly the bindings obtained by
applying only, except, prefix and rename - nested in any order and depth - to the export set of the
named library, each bound to the value the library exports under the original name; several import
sets in one declaration contribute the union. The outcome is the same on every run."

Only property theorems live here (each is audited with `#print axioms`); helper lemmas are in
`RuschmProofs/LibLemmas.lean` and `RuschmProofs/BindingLists.lean`, vocabulary (`S.denote`, `S.asMap`, `S.Admissible`,
`Interp.exportsOf`) in `RuschmSpec/Lib.lean`.
-/
import RuschmProofs.LibLemmas
import RuschmProofs.Same

namespace Ruschm.C12
open Ruschm Ruschm.Interp

/-- a two-export native library used by the non-vacuity examples -/
def demoLib : LibName := [.ident "m"]
def demoState : State :=
  { factories := [(demoLib, .native [("a", .num (.int 1)), ("b", .num (.int 2))])] }

/-! ## 1. the evaluator computes the denotation -/

/-- For every import-set term, of any nesting, whose library is instantiated already or has a
native factory (so that no library body has to be evaluated): with `fuelNeeded s` fuel or more,
`evalImportSet` returns exactly the bindings `S.denote` assigns to the term over the export lists
`exportsOf st`, and changes nothing in the state but, possibly, the instance cache (not even that
when the library was cached). The export lists themselves are the same afterwards. -/
theorem importSet_eq_spec (s : ImportSet) (fuel : Nat) (st : State) (bs : S.Bindings)
    (hfuel : S.fuelNeeded s ≤ fuel) (hip : S.leaf s ∉ st.inProgress)
    (hd : S.denote s (exportsOf st) = some bs) :
    ∃ st', evalImportSet fuel st s = (.ok bs, st') ∧ SameButInstances st st' ∧
      (∀ n, exportsOf st' n = exportsOf st n) ∧
      (∀ n d, libLookup st.instances n = some d → libLookup st'.instances n = some d) ∧
      ((libLookup st.instances (S.leaf s)).isSome → st' = st) := by
  obtain ⟨st', h⟩ := importSet_spec s fuel st bs hfuel hip hd
  exact ⟨st', h.eval, h.same, h.exports, h.grow, h.cached⟩

example : ∃ st', evalImportSet 4 demoState (.prefix (.only (.direct demoLib none) ["b"]) "p:") =
    (.ok [("p:b", .num (.int 2))], st') := by
  obtain ⟨st', h, -⟩ := importSet_eq_spec (.prefix (.only (.direct demoLib none) ["b"]) "p:") 4 demoState
    [("p:b", .num (.int 2))] (by decide) List.not_mem_nil rfl
  exact ⟨st', h⟩

/-- The same for EVERY library and every state (the library may have to be read from a file and
its body evaluated, or fail to load): the evaluator's result for an import-set term is the result
of importing its library directly, with the term's operators `S.transform s` applied to the export
list — values untouched, so each name is bound to the value the library exports under the original
name — and errors and the final state passed through unchanged. `S.denote` is `S.transform`
applied to the library's export list. -/
theorem importSet_factors (s : ImportSet) (k : Nat) (st : State) (ex : LibName → Option S.Bindings) :
    (evalImportSet (k + S.depth s) st s =
      match evalImportSet k st (.direct (S.leaf s) (S.leafLoc s)) with
      | (.ok defs, st') => (.ok (S.transform s defs), st')
      | (.error e, st') => (.error e, st')) ∧
    S.denote s ex = (ex (S.leaf s)).map (S.transform s) :=
  ⟨Interp.importSet_factors s k st, S.denote_eq_transform s ex⟩

example : S.transform (.prefix (.except (.direct demoLib none) ["a"]) "x-")
    [("a", .num (.int 1)), ("b", .num (.int 2))] = [("x-b", .num (.int 2))] := by
  rfl

/-! ## 2. rename is simultaneous; only sees the new names -/

/-- `(rename S (a b) (b a))` SWAPS the two names: every binding of `S` keeps its value, the one
named `a` is now named `b` and the one named `b` is now named `a` (a sequential reading would
send both to the same name). Stated for the spec and for the evaluator. -/
theorem rename_simultaneous (s : ImportSet) (a b : String) (fuel : Nat) (st : State) (bs : S.Bindings)
    (hfuel : S.fuelNeeded s + 1 ≤ fuel) (hip : S.leaf s ∉ st.inProgress)
    (hd : S.denote s (exportsOf st) = some bs) :
    S.denote (.rename s [(a, b), (b, a)]) (exportsOf st) =
        some (bs.map fun p => (S.swapName a b p.1, p.2)) ∧
    ∃ st', evalImportSet fuel st (.rename s [(a, b), (b, a)]) =
        (.ok (bs.map fun p => (S.swapName a b p.1, p.2)), st') := by
  have hd' : S.denote (.rename s [(a, b), (b, a)]) (exportsOf st) =
      some (bs.map fun p => (S.swapName a b p.1, p.2)) := by
    rw [S.denote_rename _ hd]; simp only [S.renameTarget_swap]
  refine ⟨hd', ?_⟩
  obtain ⟨st', h, -⟩ := importSet_eq_spec (.rename s [(a, b), (b, a)]) fuel st _
    (by simpa [S.fuelNeeded] using hfuel) hip hd'
  exact ⟨st', h⟩

example : ∃ st', evalImportSet 3 demoState (.rename (.direct demoLib none) [("a", "b"), ("b", "a")]) =
    (.ok [("b", .num (.int 1)), ("a", .num (.int 2))], st') := by
  obtain ⟨-, st', h⟩ := rename_simultaneous (.direct demoLib none) "a" "b" 3 demoState
    [("a", .num (.int 1)), ("b", .num (.int 2))] (by decide) List.not_mem_nil rfl
  exact ⟨st', by simpa [S.swapName] using h⟩

/-- `(only (rename S pairs) ids)` selects by the NEW names: a binding is in the result exactly
when it is a binding `(n₀, v)` of `S` whose renamed name `renameTarget pairs n₀` is listed in
`ids` — and it is bound under that new name. In particular the old name of a renamed binding
does not select it. -/
theorem only_after_rename_uses_new_names (s : ImportSet) (pairs : List (String × String))
    (ids : List String) (ex : LibName → Option S.Bindings) (bs : S.Bindings)
    (hd : S.denote s ex = some bs) :
    ∃ res, S.denote (.only (.rename s pairs) ids) ex = some res ∧
      (∀ n v, (n, v) ∈ res ↔ ∃ n₀, (n₀, v) ∈ bs ∧ S.renameTarget pairs n₀ = n ∧ n ∈ ids) ∧
      (∀ a b, pairs = [(a, b)] → a ≠ b →
        (∀ v, (a, v) ∉ res) ∧ (∀ v, (a, v) ∈ bs → b ∈ ids → (b, v) ∈ res)) := by
  refine ⟨_, S.denote_only ids (S.denote_rename pairs hd), ?_, ?_⟩
  · intro n v
    simp only [List.mem_filter, List.mem_map, List.contains_iff_mem, Prod.mk.injEq, Prod.exists]
    constructor
    · rintro ⟨⟨n₀, v₀, hm, rfl, rfl⟩, hn⟩; exact ⟨n₀, hm, rfl, hn⟩
    · rintro ⟨n₀, hm, rfl, hn⟩; exact ⟨⟨n₀, v, hm, rfl, rfl⟩, hn⟩
  · rintro a b rfl hab
    simp only [List.mem_filter, List.mem_map, List.contains_iff_mem, Prod.mk.injEq, Prod.exists,
      S.renameTarget_single]
    constructor
    · rintro v ⟨⟨n₀, v₀, hm, he, rfl⟩, -⟩
      by_cases h : n₀ = a
      · simp only [h, if_true] at he; exact hab he.symm
      · simp only [h, if_false] at he
    · intro v hav hb
      exact ⟨⟨a, v, hav, by simp, rfl⟩, hb⟩

example : S.denote (.only (.rename (.direct demoLib none) [("a", "c")]) ["a", "c"]) (exportsOf demoState) =
    some [("c", .num (.int 1))] := by
  rfl

/-! ## 3. several sets: the union; independence of the order of the export lists -/

/-- Admissible unions never clash, and neither do unions in which any two bindings of one name
are equal (`importEq`): the hypothesis `¬ S.Clash` of `import_union` in its two usual forms. -/
theorem no_clash_of_compatible (eq : Value → Value → Bool) (bs : S.Bindings) :
    (S.Admissible bs → S.Compatible eq bs) ∧ (S.Compatible eq bs → ¬ S.Clash eq bs) :=
  ⟨Lib.compatible_of_admissible, Lib.not_clash_of_compatible⟩

example : S.Compatible (fun _ _ => false) [("a", .num (.int 1)), ("b", .num (.int 1))] :=
  (no_clash_of_compatible _ _).1 (by simp [S.Admissible])

/-- An import declaration with several sets (each over an instantiated or native library) whose
concatenated denotations do not clash — no binding differs (`importEq`: the derived `PartialEq` of
values) from the binding of the same name before it; in particular when the union is `Admissible`,
or when bindings of one name are equal — defines, in the target frame `ρ`, exactly the bindings of
the union map of the sets' denotations (for a name bound several times, the last binding) and
leaves every other name of that frame, every other frame, all parent links, the vectors and the
output untouched; of the rest of the state only the instance cache may grow. -/
theorem import_union (sets : List ImportSet) (fuel : Nat) (st : State) (ρ : Nat) (bs : S.Bindings)
    (hfuel : fuelNeededAll sets + 1 ≤ fuel) (hip : ∀ s ∈ sets, S.leaf s ∉ st.inProgress)
    (hd : S.denoteAll sets (exportsOf st) = some bs) (hok : ¬ S.Clash (importEq st) bs)
    (hρ : ρ < st.store.frames.size) :
    ∃ st', evalImport fuel st sets ρ = (.ok (), st') ∧
      (∀ x, st'.store.binding ρ x = S.override (S.asMap bs) (st.store.binding ρ) x) ∧
      (∀ i, i ≠ ρ → st'.store.frames[i]? = st.store.frames[i]?) ∧
      (∀ i : Nat, st'.store.frames[i]?.map Frame.parent = st.store.frames[i]?.map Frame.parent) ∧
      st'.store.frames.size = st.store.frames.size ∧ st'.store.vecs = st.store.vecs ∧
      st'.store.out = st.store.out ∧
      st' = { st with store := st'.store, instances := st'.instances } ∧
      (∀ n, exportsOf st' n = exportsOf st n) := by
  obtain ⟨st', he, hst, hex, d⟩ := evalImport_defined ρ hfuel hip hd hok
  exact ⟨st', he, d.bindings hρ, d.other_frames, d.parent, d.size, d.vecs, d.out, hst, hex⟩

/-- `a` is imported twice with the same value (no clash), `d` is `a` renamed -/
example : ∃ st', evalImport 7 { demoState with store := Store.root }
    [.direct demoLib none, .rename (.only (.direct demoLib none) ["a"]) [("a", "d")],
     .only (.direct demoLib none) ["a"]] 0 = (.ok (), st') ∧
    st'.store.binding 0 "d" = some (.num (.int 1)) := by
  obtain ⟨st', h, hb, -⟩ := import_union
    [.direct demoLib none, .rename (.only (.direct demoLib none) ["a"]) [("a", "d")],
     .only (.direct demoLib none) ["a"]] 7 { demoState with store := Store.root } 0
    [("a", .num (.int 1)), ("b", .num (.int 2)), ("d", .num (.int 1)), ("a", .num (.int 1))]
    (by decide +kernel) (fun _ _ => List.not_mem_nil) (eq_of_same (by decide +kernel))
    (by rw [Lib.clash_iff]; decide +kernel) (by decide)
  exact ⟨st', h, (hb "d").trans rfl⟩

/-- One name imported with two different bindings is an error: if, in the concatenated denotations
of the sets, some binding differs (`importEq`) from the binding of the same name before it, then
`evalImport` fails with `.other` (`LogicError::Extension`), defines nothing, and changes nothing
but possibly the instance cache. -/
theorem import_conflict_is_error (sets : List ImportSet) (fuel : Nat) (st : State) (ρ : Nat)
    (bs : S.Bindings) (hfuel : fuelNeededAll sets + 1 ≤ fuel)
    (hip : ∀ s ∈ sets, S.leaf s ∉ st.inProgress)
    (hd : S.denoteAll sets (exportsOf st) = some bs) (hclash : S.Clash (importEq st) bs) :
    ∃ st', evalImport fuel st sets ρ = (.error (.other, none), st') ∧
      st' = { st with instances := st'.instances } ∧ (∀ n, exportsOf st' n = exportsOf st n) := by
  obtain ⟨st1, sp, hfail, -⟩ := evalImport_spec ρ hfuel hip hd
  exact ⟨st1, hfail hclash, sp.same, sp.exports⟩

/-- `b` is 2 in the library and 1 as the renamed `a` -/
example : ∃ st', evalImport 7 { demoState with store := Store.root }
    [.direct demoLib none, .rename (.only (.direct demoLib none) ["a"]) [("a", "b")]] 0 =
      (.error (.other, none), st') := by
  obtain ⟨st', h, -⟩ := import_conflict_is_error
    [.direct demoLib none, .rename (.only (.direct demoLib none) ["a"]) [("a", "b")]] 7
    { demoState with store := Store.root } 0
    [("a", .num (.int 1)), ("b", .num (.int 2)), ("b", .num (.int 1))]
    (by decide +kernel) (fun _ _ => List.not_mem_nil) (eq_of_same (by decide +kernel))
    ((Lib.clash_iff _ _).2 (by decide +kernel))
  exact ⟨st', h⟩

/-- "The same on every run": the iteration order of the `HashMap`s that hold a library's exports
enters only as the ORDER of its export list. Let two states have the same store and give every
library the same exports up to a permutation. If every set of the declaration is admissible (no
single set binds a name twice), the import has the SAME OUTCOME in both — success in both, or the
conflicting-bindings error `.other` in both — and afterwards every frame binds the same names to
the same values and every lookup from every frame agrees. -/
theorem import_deterministic (sets : List ImportSet) (fuel : Nat) (st₁ st₂ : State) (ρ : Nat)
    (bs : S.Bindings) (hfuel : fuelNeededAll sets + 1 ≤ fuel)
    (hip₁ : ∀ s ∈ sets, S.leaf s ∉ st₁.inProgress) (hip₂ : ∀ s ∈ sets, S.leaf s ∉ st₂.inProgress)
    (hstore : st₂.store = st₁.store) (hperm : S.PermExports (exportsOf st₁) (exportsOf st₂))
    (hd : S.denoteAll sets (exportsOf st₁) = some bs)
    (hadm : S.AdmissibleAll sets (exportsOf st₁)) (hρ : ρ < st₁.store.frames.size) :
    ∃ r st₁' st₂', evalImport fuel st₁ sets ρ = (r, st₁') ∧ evalImport fuel st₂ sets ρ = (r, st₂') ∧
      (r = .ok () ∨ r = .error (.other, none)) ∧
      (∀ i x, st₂'.store.binding i x = st₁'.store.binding i x) ∧
      (∀ ρ' x, st₂'.store.lookup ρ' x = st₁'.store.lookup ρ' x) := by
  have hp := S.denoteAll_perm_clash hperm (importEq st₁) sets hadm
  rw [hd] at hp
  have heq : importEq st₂ = importEq st₁ := importEq_congr (congrArg _ hstore)
  cases hd₂ : S.denoteAll sets (exportsOf st₂) with
  | none => simp [hd₂] at hp
  | some bs₂ =>
    simp only [hd₂] at hp
    obtain ⟨hov, hcl⟩ := hp
    have hcc : S.Clash (importEq st₁) bs ↔ S.Clash (importEq st₂) bs₂ := by
      rw [heq, Lib.clash_iff, Lib.clash_iff, hcl]
    by_cases c₁ : S.Clash (importEq st₁) bs
    · have c₂ := hcc.1 c₁
      obtain ⟨st₁', e₁, s₁, -⟩ := import_conflict_is_error sets fuel st₁ ρ bs hfuel hip₁ hd c₁
      obtain ⟨st₂', e₂, s₂, -⟩ := import_conflict_is_error sets fuel st₂ ρ bs₂ hfuel hip₂ hd₂ c₂
      have hs : st₂'.store = st₁'.store := by rw [s₁, s₂]; exact hstore
      exact ⟨_, st₁', st₂', e₁, e₂, .inr rfl, fun i x => by rw [hs], fun ρ' x => by rw [hs]⟩
    · have c₂ := fun h => c₁ (hcc.2 h)
      obtain ⟨st₁', e₁, b₁, o₁, p₁, -⟩ := import_union sets fuel st₁ ρ bs hfuel hip₁ hd c₁ hρ
      obtain ⟨st₂', e₂, b₂, o₂, p₂, -⟩ := import_union sets fuel st₂ ρ bs₂ hfuel hip₂ hd₂ c₂
        (by rw [hstore]; exact hρ)
      have hbind : ∀ i x, st₂'.store.binding i x = st₁'.store.binding i x := by
        intro i x
        by_cases hi : i = ρ
        · subst hi
          rw [b₁ x, b₂ x, hstore, hov]
        · simp only [Store.binding, o₁ i hi, o₂ i hi, hstore]
      refine ⟨_, st₁', st₂', e₁, e₂, .inl rfl, hbind, fun ρ' x => ?_⟩
      apply Store.lookup_congr
      · apply Store.chain_congr
        intro i
        rw [p₂ i, p₁ i, hstore]
      · intro i _; exact hbind i x

/-- the same library with its exports listed in the other order -/
def demoState' : State :=
  { factories := [(demoLib, .native [("b", .num (.int 2)), ("a", .num (.int 1))])] }

example : ∃ r st₁' st₂',
    evalImport 5 { demoState with store := Store.root } [.prefix (.direct demoLib none) "m."] 0 = (r, st₁') ∧
    evalImport 5 { demoState' with store := Store.root } [.prefix (.direct demoLib none) "m."] 0 = (r, st₂') ∧
    ∀ ρ' x, st₂'.store.lookup ρ' x = st₁'.store.lookup ρ' x := by
  have demo_perm : S.PermExports (exportsOf { demoState with store := Store.root })
      (exportsOf { demoState' with store := Store.root }) := by
    intro n
    by_cases h : demoLib = n
    · subst h
      exact List.Perm.swap _ _ _
    · simp [exportsOf, demoState, demoState', libLookup, h, S.PermOpt]
  obtain ⟨r, a, b, h1, h2, -, -, h3⟩ := import_deterministic [.prefix (.direct demoLib none) "m."] 5
    { demoState with store := Store.root } { demoState' with store := Store.root } 0
    [("m.a", .num (.int 1)), ("m.b", .num (.int 2))]
    (by decide +kernel) (fun _ _ => List.not_mem_nil) (fun _ _ => List.not_mem_nil) rfl demo_perm (by rfl)
    (by
      intro s hs bs hbs
      cases List.mem_singleton.1 hs
      cases hbs
      simp [S.Admissible])
    (by decide)
  exact ⟨r, a, b, h1, h2, h3⟩

/-- Without admissibility of the single sets, the order of the export lists still cannot turn an
error into a success or the other way round, PROVIDED the comparison `importEq` is symmetric and
transitive on the values that are imported (it is not in general: see
`order_still_matters_for_equal_values`): then both runs fail with `.other`, or both succeed and
bind every name of frame `ρ` to the same value or to two values that `importEq` identifies. -/
theorem import_order_independent (sets : List ImportSet) (fuel : Nat) (st₁ st₂ : State) (ρ : Nat)
    (bs : S.Bindings) (hfuel : fuelNeededAll sets + 1 ≤ fuel)
    (hip₁ : ∀ s ∈ sets, S.leaf s ∉ st₁.inProgress) (hip₂ : ∀ s ∈ sets, S.leaf s ∉ st₂.inProgress)
    (hstore : st₂.store = st₁.store) (hperm : S.PermExports (exportsOf st₁) (exportsOf st₂))
    (hd : S.denoteAll sets (exportsOf st₁) = some bs) (hρ : ρ < st₁.store.frames.size)
    (hsymm : ∀ p ∈ bs, ∀ q ∈ bs, importEq st₁ p.2 q.2 = true → importEq st₁ q.2 p.2 = true)
    (htrans : ∀ p ∈ bs, ∀ q ∈ bs, ∀ r ∈ bs, importEq st₁ p.2 q.2 = true → importEq st₁ q.2 r.2 = true →
      importEq st₁ p.2 r.2 = true) :
    ∃ st₁' st₂',
      (evalImport fuel st₁ sets ρ = (.error (.other, none), st₁') ∧
        evalImport fuel st₂ sets ρ = (.error (.other, none), st₂')) ∨
      (evalImport fuel st₁ sets ρ = (.ok (), st₁') ∧ evalImport fuel st₂ sets ρ = (.ok (), st₂') ∧
        ∀ x, st₁'.store.binding ρ x = st₂'.store.binding ρ x ∨
          ∃ v w, st₁'.store.binding ρ x = some v ∧ st₂'.store.binding ρ x = some w ∧
            importEq st₁ v w = true) := by
  have heq : importEq st₂ = importEq st₁ := importEq_congr (congrArg _ hstore)
  have hflat := S.denoteAll_permFlat hperm sets
  rw [hd] at hflat
  cases hd₂ : S.denoteAll sets (exportsOf st₂) with
  | none => simp [hd₂, S.PermOpt] at hflat
  | some bs₂ =>
    simp only [hd₂, S.PermOpt] at hflat
    -- transitivity, for both lists, in the form the lemma wants
    let P : Value → Prop := fun v => ∃ p ∈ bs, p.2 = v
    have hT : ∀ u v w, P u → P v → P w → importEq st₁ u v = true → importEq st₁ v w = true →
        importEq st₁ u w = true := by
      rintro u v w ⟨p, hp, rfl⟩ ⟨q, hq, rfl⟩ ⟨r, hr, rfl⟩
      exact htrans p hp q hq r hr
    have hcompat : ∀ l : S.Bindings, l.Perm bs → ¬ S.Clash (importEq st₁) l → S.Compatible (importEq st₁) l :=
      fun l hl hnc => Lib.compatible_of_not_clash hT (fun p hp => ⟨p, hl.mem_iff.1 hp, rfl⟩) hnc
    have hsymm₂ : ∀ p ∈ bs₂, ∀ q ∈ bs₂, importEq st₁ p.2 q.2 = true → importEq st₁ q.2 p.2 = true :=
      fun p hp q hq => hsymm p (hflat.mem_iff.2 hp) q (hflat.mem_iff.2 hq)
    by_cases c₁ : S.Clash (importEq st₁) bs
    · have c₂ : S.Clash (importEq st₂) bs₂ := by
        rw [heq]
        refine Classical.byContradiction fun hn => ?_
        have := Lib.compatible_perm hflat.symm hsymm₂ (hcompat bs₂ hflat.symm hn)
        exact Lib.not_clash_of_compatible this c₁
      obtain ⟨st₁', e₁, -⟩ := import_conflict_is_error sets fuel st₁ ρ bs hfuel hip₁ hd c₁
      obtain ⟨st₂', e₂, -⟩ := import_conflict_is_error sets fuel st₂ ρ bs₂ hfuel hip₂ hd₂ c₂
      exact ⟨st₁', st₂', .inl ⟨e₁, e₂⟩⟩
    · have hc₁ := hcompat bs (List.Perm.refl _) c₁
      have hc₂ := Lib.compatible_perm hflat hsymm hc₁
      have c₂ : ¬ S.Clash (importEq st₂) bs₂ := by rw [heq]; exact Lib.not_clash_of_compatible hc₂
      obtain ⟨st₁', e₁, b₁, -⟩ := import_union sets fuel st₁ ρ bs hfuel hip₁ hd c₁ hρ
      obtain ⟨st₂', e₂, b₂, -⟩ := import_union sets fuel st₂ ρ bs₂ hfuel hip₂ hd₂ c₂
        (by rw [hstore]; exact hρ)
      refine ⟨st₁', st₂', .inr ⟨e₁, e₂, fun x => ?_⟩⟩
      rw [b₁ x, b₂ x, hstore]
      simp only [S.override]
      rcases Lib.asMap_perm_compatible hflat hsymm hc₁ x with h | ⟨v, w, hv, hw, he⟩
      · left; rw [h]
      · right; exact ⟨v, w, by rw [hv], by rw [hw], he⟩

/-- The witness of the former finding is now rejected whatever the order of the export list:
`(rename (m) (a c) (b c))` over a library exporting `a = 1`, `b = 2` is the error `.other` for the
export order `a, b` and for the order `b, a`. -/
theorem conflict_rejected_whatever_the_order :
    (∃ st', evalImport 5 { demoState with store := Store.root }
      [.rename (.direct demoLib none) [("a", "c"), ("b", "c")]] 0 = (.error (.other, none), st')) ∧
    (∃ st', evalImport 5 { demoState' with store := Store.root }
      [.rename (.direct demoLib none) [("a", "c"), ("b", "c")]] 0 = (.error (.other, none), st')) := by
  constructor
  · obtain ⟨st', h, -⟩ := import_conflict_is_error
      [.rename (.direct demoLib none) [("a", "c"), ("b", "c")]] 5
      { demoState with store := Store.root } 0 [("c", .num (.int 1)), ("c", .num (.int 2))]
      (by decide +kernel) (fun _ _ => List.not_mem_nil) (eq_of_same (by decide +kernel))
      ((Lib.clash_iff _ _).2 (by decide +kernel))
    exact ⟨st', h⟩
  · obtain ⟨st', h, -⟩ := import_conflict_is_error
      [.rename (.direct demoLib none) [("a", "c"), ("b", "c")]] 5
      { demoState' with store := Store.root } 0 [("c", .num (.int 2)), ("c", .num (.int 1))]
      (by decide +kernel) (fun _ _ => List.not_mem_nil) (eq_of_same (by decide +kernel))
      ((Lib.clash_iff _ _).2 (by decide +kernel))
    exact ⟨st', h⟩

/-- a procedure `(lambda () 1)` -/
def demoLam : Lambda := .mk ⟨[], none⟩ [] [.prim (.int 1) none]

/-- RESIDUAL FINDING. The comparison is the derived `PartialEq` of values, which is not identity:
it ignores the environment of a procedure (and the exactness of a number). Two closures with the
same text over DIFFERENT frames are therefore "the same binding": `(rename (m) (a c) (b c))` over
a library exporting two such closures is accepted, and which of the two `c` is bound to still
depends on the order of the export list (in the Rust code, on `HashMap` iteration order). -/
theorem order_still_matters_for_equal_values (st : State) :
    ∃ (s : ImportSet) (ex ex' : LibName → Option S.Bindings) (a b : S.Bindings),
      S.PermExports ex ex' ∧ S.denote s ex = some a ∧ S.denote s ex' = some b ∧
      ¬ S.Clash (importEq st) a ∧ ¬ S.Clash (importEq st) b ∧ S.asMap a "c" ≠ S.asMap b "c" := by
  refine ⟨.rename (.direct demoLib none) [("a", "c"), ("b", "c")],
    fun _ => some [("a", .closure demoLam 1), ("b", .closure demoLam 2)],
    fun _ => some [("b", .closure demoLam 2), ("a", .closure demoLam 1)],
    [("c", .closure demoLam 1), ("c", .closure demoLam 2)],
    [("c", .closure demoLam 2), ("c", .closure demoLam 1)],
    fun _ => List.Perm.swap _ _ _, by rfl, by rfl, ?_, ?_, ?_⟩
  · rw [Lib.clash_iff]; exact ne_true_of_eq_false (by with_unfolding_all rfl)
  · rw [Lib.clash_iff]; exact ne_true_of_eq_false (by with_unfolding_all rfl)
  · simp [S.asMap]

end Ruschm.C12
