/-
`TrS c d e`: in every syntax environment that resolves names as the interpreter's own one does (`Std`), with any fuel
`n ≥ c`, the transformer turns the datum `d` into the expression `e` and leaves the environment as it is. One rule per
derived form — ONE expansion step (a shape theorem of `C05Shapes`) in front of the core rules of `CoreSyntaxLemmas` —
and `trS_print` composes the rules over the surface grammar of `RuschmSpec/Desugar.lean`.
-/
import RuschmSpec.Desugar
import RuschmProofs.C05Shapes
import RuschmProofs.C01More
import RuschmProofs.StdEnv
import RuschmProofs.SimpSets


namespace Ruschm.Desugar
open Ruschm Ruschm.Xform Ruschm.CoreSyntax Ruschm.Macro Ruschm.C05

/-! ## the syntax environments -/

/-- every name resolves as in the interpreter's own `[[], Interp.grammarScope]` (`C05Nesting.stdEnv`); the strongest
of the three conditions: `Std ⇒ Meaning.StdSyn ⇒ Xform.StdEnv` (`Std.stdSyn`, `Std.stdEnv`) -/
def Std (env : SynEnv) : Prop := ∀ k, env.get? k = SynEnv.get? [[], Interp.grammarScope] k

/-- the nine keywords are listed three times, for three side conditions; it is one list -/
theorem nine_keywords : derivedKeywords = C05.keywords ∧ C01More.stdMacros = C05.keywords := ⟨rfl, rfl⟩

theorem Std.default : Std [[], Interp.grammarScope] := fun _ => rfl

theorem Std.child {env} (h : Std env) : Std ([] :: env) := fun k => by rw [← h k]; rfl

theorem Std.stdEnv {env} (h : Std env) : StdEnv env := fun kw hkw => by
  rw [h kw]; exact stdEnv_default kw hkw

theorem Std.noMacro {env} (h : Std env) {k : String} (hk : C01More.isStdMacro k = false) : env.get? k = none := by
  have := C01More.std_macros k
  rw [hk, C01More.macroOf] at this
  rw [h k]
  cases hg : SynEnv.get? [[], Interp.grammarScope] k with
  | none => rfl
  | some r => rw [hg] at this; cases this

theorem Std.stdSyn {env} (h : Std env) : Meaning.StdSyn env :=
  ⟨h.stdEnv, (h _).trans Meaning.stdSyn_default.not_, (h _).trans Meaning.stdSyn_default.memv,
    (h _).trans Meaning.stdSyn_default.null⟩

def HeadOkD (F : Datum) : Prop :=
  ∀ kw kl, F = .sym kw kl → (CoreSyntax.keywords.contains kw = false ∧ derivedKeywords.contains kw = false)

theorem headOkD_lst (xs : List Datum) : HeadOkD (lst xs) := by
  intro kw kl h; cases xs <;> cases h

theorem headOkD_ident {x : String} (h1 : CoreSyntax.keywords.contains x = false) (h2 : derivedKeywords.contains x = false) :
    HeadOkD (ident x) := by
  intro kw kl h; cases h; exact ⟨h1, h2⟩

theorem Std.head {env} (h : Std env) {F : Datum} (hF : HeadOkD F) :
    ∀ kw kl, F = .sym kw kl → kw ∉ CoreSyntax.keywords ∧ env.get? kw = none := by
  intro kw kl e
  obtain ⟨h1, h2⟩ := hF kw kl e
  exact ⟨by simpa using h1, h.noMacro h2⟩

/-! ## data without locations -/

theorem loc_lst (xs : List Datum) : (lst xs).loc = none := by cases xs <;> rfl
theorem withLoc_lst (xs : List Datum) : (lst xs).withLoc none = lst xs := by cases xs <;> rfl
theorem isList_lst (xs : List Datum) : IsList (lst xs) xs := isList_ofList none xs

theorem step_macro {env : SynEnv} {kw : String} {args : List Datum} {d' : Datum} (k : Nat) (hstd : Std env)
    (hkw : kw ∈ C05.keywords)
    (hxp : ∀ fuel, matchFuel (lst args) ≤ fuel → expand1 fuel kw (lst args) = .ok d') :
    toStatement (k+1) (lst (ident kw :: args)) env = toStatement k d' env :=
  toStatement_expand k hstd.stdEnv hkw (Datum.isListy_ofList ..)
    (by rwa [show Datum.withLoc none (Datum.ofList none args) = lst args from withLoc_lst args])

/-! ## the judgements

The fuel bounds add up: every rule asks for the sum of what its premises ask for and a constant,
which is how `Desugar.cost` is written. -/

/-- `Tr env c d (.expr e)` of `CoreSyntaxLemmas` for every `Std env`, spelled out -/
def TrS (c : Nat) (d : Datum) (e : Expr) : Prop :=
  ∀ env, Std env → ∀ n, c ≤ n → toStatement n d env = (.ok (.expr e), env)

def TrL (c : Nat) (ds : List Datum) (es : List Expr) : Prop :=
  ∀ env, Std env → TrArgs env (c + 1) ds es

def TrB (c : Nat) (ds : List Datum) (es : List Expr) : Prop :=
  ds ≠ [] ∧ ∀ env, Std env → TrBody env (c + 1) ds [] [] (.ok ([], es))

theorem TrS.mono {c c' d e} (h : TrS c d e) (hc : c ≤ c') : TrS c' d e :=
  fun env hs => Tr.mono (h env hs) hc

theorem TrS.expand {kw args d' e c} (hkw : kw ∈ C05.keywords)
    (hxp : ∀ fuel, matchFuel (lst args) ≤ fuel → expand1 fuel kw (lst args) = .ok d')
    (h : TrS c d' e) : TrS (c + 1) (lst (ident kw :: args)) e := fun env hs n hn => by
  obtain ⟨k, rfl, hk⟩ := exists_add hn
  rw [step_macro k hs hkw hxp]
  exact h env hs k hk

inductive TrAll : Nat → List Datum → List Expr → Prop
  | nil : TrAll 0 [] []
  | cons {c d e C ds es} : TrS c d e → TrAll C ds es → TrAll (c + C + 15) (d :: ds) (e :: es)

theorem TrAll.exprs {C ds es} (h : TrAll C ds es) : TrL C ds es := fun env hs => by
  induction h with
  | nil => exact TrArgs.nil
  | cons hd _ ih => exact fun n hn => TrArgs.cons (hd env hs) ih n (by omega)

theorem TrAll.bodyAcc {C ds es} (h : TrAll C ds es) (env) (hs : Std env) : ∀ accD accE, (accE ≠ [] ∨ ds ≠ []) →
    TrBody env (C + 1) ds accD accE (.ok (accD.reverse, accE.reverse ++ es)) := by
  induction h with
  | nil =>
    intro accD accE hne
    rw [List.append_nil]
    exact .nil (hne.resolve_right (absurd rfl))
  | @cons c d e C ds es hd _ ih =>
    intro accD accE _ n hn
    have := ih accD (e :: accE) (.inl (List.cons_ne_nil _ _))
    rw [List.reverse_cons, List.append_assoc] at this
    exact TrBody.expr (hd env hs) this n (by omega)

theorem TrAll.body {C ds es} (h : TrAll C ds es) (hne : ds ≠ []) : TrB C ds es :=
  ⟨hne, fun env hs => h.bodyAcc env hs [] [] (.inr hne)⟩

theorem TrS.body1 {c d e} (h : TrS c d e) : TrB (c + 1) [d] [e] :=
  ⟨List.cons_ne_nil _ _, fun env hs n hn => TrBody.expr (h env hs) (.nil (List.cons_ne_nil e [])) n (by omega)⟩

theorem TrS.exprs1 {c d e} (h : TrS c d e) : TrL (c + 1) [d] [e] :=
  fun env hs n hn => TrArgs.cons (h env hs) .nil n (by omega)

theorem TrL.nil : TrL 0 [] [] := fun _ _ => TrArgs.nil

theorem TrL.two {c₁ c₂ d₁ d₂ e₁ e₂} (h₁ : TrS c₁ d₁ e₁) (h₂ : TrS c₂ d₂ e₂) :
    TrL (c₁ + c₂ + 2) [d₁, d₂] [e₁, e₂] :=
  fun env hs n hn => TrArgs.cons (h₁ env hs) (.cons (h₂ env hs) .nil) n (by omega)

/-! ## the core forms -/

theorem trS_var (x : String) : TrS 1 (ident x) (varE x) := fun _ _ => Tr.sym x none

theorem trS_prim (p : Prim) : TrS 1 (.prim p none) (.prim p none) := fun _ _ => Tr.prim p none

theorem trS_vec (xs : List Datum) : TrS 1 (.vec xs none) (.datum (.vec xs none) none) := fun _ _ => Tr.vec xs none

theorem trS_quote (d : Datum) : TrS 1 (lst [ident "quote", d]) (.quote d none) :=
  fun _ _ => Tr.quote none none none d []

theorem trS_if2 {c₁ c₂ T C t c'} (hT : TrS c₁ T t) (hC : TrS c₂ C c') :
    TrS (c₁ + c₂ + 2) (lst [ident "if", T, C]) (if2E t c') :=
  fun env hs => Tr.if2 none none none (hT env hs) (hC env hs)

theorem trS_if3 {c₁ c₂ c₃ T C A t c' a} (hT : TrS c₁ T t) (hC : TrS c₂ C c') (hA : TrS c₃ A a) :
    TrS (c₁ + c₂ + c₃ + 2) (lst [ident "if", T, C, A]) (if3E t c' a) :=
  fun env hs => Tr.if3 none none none [] (hT env hs) (hC env hs) (hA env hs)

theorem trS_set {c₁ V v} (x : String) (hV : TrS c₁ V v) :
    TrS (c₁ + 2) (lst [ident "set!", ident x, V]) (.assign x v none) :=
  fun env hs => Tr.set none none none none x [] (hV env hs)

theorem trS_call {cf Ca F f args as} (hh : HeadOkD F) (hF : TrS cf F f) (hA : TrL Ca args as) :
    TrS (cf + Ca + 3) (lst (F :: args)) (callE f as) :=
  fun env hs n hn => Tr.call none none (hs.head hh) (hF env hs) (hA env hs) n (by omega)

theorem trS_lambda {Cb body es} (fixed : List String) (rest : Option String) (hB : TrB Cb body es) :
    TrS (Cb + 3) (lst (ident "lambda" :: formalsD fixed rest :: body))
      (.lambda (.mk ⟨fixed, rest⟩ [] es) none) :=
  fun _ hs => Tr.lambda none none none fixed rest (hB.2 _ hs.child)

theorem trS_lamcall {Cb Ca body bes args aes} (names : List String) (hB : TrB Cb body bes)
    (hA : TrL Ca args aes) :
    TrS (Cb + Ca + 6) (lst (lst (ident "lambda" :: formalsD names none :: body) :: args))
      (letE names aes bes) :=
  (trS_call (headOkD_lst _) (trS_lambda names none hB) hA).mono (by omega)

theorem formalsD_none (xs : List String) : formalsD xs none = lst (xs.map ident) := by
  induction xs with
  | nil => rfl
  | cons x xs ih => simp only [formalsD, ih, List.map_cons, lst_cons]; rfl

/-! ## begin, when, unless -/

theorem trS_begin {Cb body bes} (hB : TrB Cb body bes) :
    TrS (Cb + 7) (lst (ident "begin" :: body)) (beginE bes) := by
  obtain ⟨b, bs, rfl⟩ := List.exists_cons_of_ne_nil hB.1
  exact .expand (by decide) (fun fuel hf => begin_shape (isList_lst _) hB.1 hf)
    (trS_lamcall [] hB TrL.nil)

theorem trS_when {ct Cb T t body bes} (hT : TrS ct T t) (hB : TrB Cb body bes) :
    TrS (ct + Cb + 10) (lst (ident "when" :: T :: body)) (if2E t (beginE bes)) :=
  (TrS.expand (by decide) (fun fuel hf => when_shape (isList_lst _) hB.1 hf)
    (trS_if2 hT (trS_begin hB))).mono (by omega)

theorem headOkD_not : HeadOkD (ident "not") := headOkD_ident (by decide) (by decide)
theorem headOkD_memv : HeadOkD (ident "memv") := headOkD_ident (by decide) (by decide)
theorem headOkD_null : HeadOkD (ident "null?") := headOkD_ident (by decide) (by decide)

theorem trS_unless {ct Cb T t body bes} (hT : TrS ct T t) (hB : TrB Cb body bes) :
    TrS (ct + Cb + 16) (lst (ident "unless" :: T :: body))
      (if2E (callE (varE "not") [t]) (beginE bes)) :=
  (TrS.expand (by decide) (fun fuel hf => unless_shape (isList_lst _) hB.1 hf)
    (trS_if2 (trS_call headOkD_not (trS_var "not") hT.exprs1) (trS_begin hB))).mono (by omega)

/-! ## and, or -/

theorem trS_and {C ds es} (h : TrAll C ds es) : TrS (C + 2) (lst (ident "and" :: ds)) (andE es) := by
  induction h with
  | nil => exact .expand (by decide) (fun fuel hf => and_empty_shape (isList_lst _) hf) (trS_prim _)
  | @cons c d e C ds es hd htl ih =>
    cases htl with
    | nil =>
      exact (TrS.expand (by decide) (fun fuel hf => and_one_shape (isList_lst _) hf) hd).mono (by omega)
    | @cons c' d' e' C' ds' es' hd' htl' =>
      exact (TrS.expand (by decide)
        (fun fuel hf => and_more_shape (isList_lst _) (List.cons_ne_nil _ _) hf)
        (trS_if3 hd ih (trS_prim _))).mono (by omega)

theorem trS_let1 {cv cb V v B b} (x : String) (hV : TrS cv V v) (hB : TrS cb B b) :
    TrS (cv + cb + 9) (lst [ident "let", lst [lst [ident x, V]], B]) (letE [x] [v] [b]) :=
  (TrS.expand (by decide)
    (fun fuel hf => let_shape (nvs := [(ident x, V)]) (isList_lst _) (isList_lst _)
      (.cons (isList_lst _) .nil) (List.cons_ne_nil _ _) (List.cons_ne_nil _ _) hf)
    (trS_lamcall [x] hB.body1 hV.exprs1)).mono (by omega)

theorem trS_or {C ds es} (h : TrAll C ds es) : TrS (C + 2) (lst (ident "or" :: ds)) (orE es) := by
  induction h with
  | nil => exact .expand (by decide) (fun fuel hf => or_empty_shape (isList_lst _) hf) (trS_prim _)
  | @cons c d e C ds es hd htl ih =>
    cases htl with
    | nil =>
      exact (TrS.expand (by decide) (fun fuel hf => or_one_shape (isList_lst _) hf) hd).mono (by omega)
    | @cons c' d' e' C' ds' es' hd' htl' =>
      exact (TrS.expand (by decide)
        (fun fuel hf => or_more_shape (isList_lst _) (List.cons_ne_nil _ _) hf)
        (trS_let1 "x" hd (trS_if3 (trS_var "x") (trS_var "x") ih))).mono (by omega)

/-! ## let, let* -/

theorem trS_let {Cb Ca body bes bds nvs vals} (names : List String) (hp : IsPairs bds nvs)
    (hn1 : nvs.map (·.1) = names.map ident) (hB : TrB Cb body bes) (hA : TrL Ca (nvs.map (·.2)) vals) :
    TrS (Ca + Cb + 7) (lst (ident "let" :: lst bds :: body)) (letE names vals bes) := by
  refine (TrS.expand (c := Cb + Ca + 6) (by decide)
    (fun fuel hf => let_any_shape (isList_lst _) (isList_lst _) hp hB.1 hf) ?_).mono (by omega)
  have := trS_lamcall names hB hA
  rw [formalsD_none] at this
  rw [loc_lst, hn1]
  exact this

inductive TrBinds : Nat → List Datum → List (String × Expr) → Prop
  | nil : TrBinds 0 [] []
  | cons {c x v e C ds bes} : TrS c v e → TrBinds C ds bes →
      TrBinds (c + C + 15) (lst [ident x, v] :: ds) ((x, e) :: bes)

theorem TrBinds.pairs {C ds bes} (h : TrBinds C ds bes) :
    ∃ nvs, IsPairs ds nvs ∧ nvs.map (·.1) = (bes.map (·.1)).map ident ∧
      TrAll C (nvs.map (·.2)) (bes.map (·.2)) ∧ nvs.map (fun nv => lst [nv.1, nv.2]) = ds := by
  induction h with
  | nil => exact ⟨[], .nil, rfl, .nil, rfl⟩
  | @cons c x v e C ds bes hv _ ih =>
    obtain ⟨nvs, h1, h2, h3, h4⟩ := ih
    exact ⟨(ident x, v) :: nvs, .cons (isList_lst _) h1, by simp [h2], .cons hv h3, by simp [h4]⟩

theorem trS_let_binds {Cv bds bes Cb body bodyE} (h : TrBinds Cv bds bes) (hB : TrB Cb body bodyE) :
    TrS (Cv + Cb + 7) (lst (ident "let" :: lst bds :: body))
      (letE (bes.map (·.1)) (bes.map (·.2)) bodyE) := by
  obtain ⟨nvs, h1, h2, h3, _⟩ := h.pairs
  exact trS_let _ h1 h2 hB h3.exprs

theorem trS_letstar {Cv bds bes Cb body bodyE} (h : TrBinds Cv bds bes) (hB : TrB Cb body bodyE) :
    TrS (Cv + Cb + 9) (lst (ident "let*" :: lst bds :: body)) (letStarE bes bodyE) := by
  induction h with
  | nil =>
    exact (TrS.expand (by decide)
      (fun fuel hf => letstar_empty_shape (isList_lst _) (isList_lst []) hB.1 hf)
      (trS_let [] .nil rfl hB TrL.nil)).mono (by omega)
  | @cons c x v e C ds bes hv htl ih =>
    cases htl with
    | nil =>
      exact (TrS.expand (by decide)
        (fun fuel hf => letstar_one_shape (isList_lst _) (isList_lst [_]) (isList_lst _) hB.1 hf)
        (trS_let (nvs := [(ident x, v)]) [x] (.cons (isList_lst _) .nil) rfl hB hv.exprs1)).mono
        (by omega)
    | @cons c' x' v' e' C' ds' bes' hv' htl' =>
      obtain ⟨nvs, h1, h2, h3, h4⟩ := (TrBinds.cons (x := x') hv' htl').pairs
      have hnv : nvs ≠ [] := by intro h0; subst h0; simp at h4
      have h4' : List.map (fun nv : Datum × Datum => L none [nv.1, nv.2]) nvs = lst [ident x', v'] :: ds' := h4
      refine (TrS.expand (c := c + (c' + C' + 15 + Cb + 9) + 9) (by decide)
        (fun fuel hf => letstar_more_shape (isList_lst _) (isList_lst (_ :: _)) (isList_lst _) h1 hnv hB.1 hf)
        ?_).mono (by omega)
      rw [loc_lst, h4']
      exact trS_let1 x hv ih

/-! ## cond

`cl` are the remaining clauses (printed), `hrest` what `(cond cl…)` is transformed into. -/

theorem trS_cond_else {Cb body bes} (hB : TrB Cb body bes) :
    TrS (Cb + 8) (lst [ident "cond", lst (ident "else" :: body)]) (beginE bes) :=
  .expand (by decide)
    (fun fuel hf => cond_else_shape (e := ident "else") (isList_lst _) (isList_lst _) rfl hB.1 hf)
    (trS_begin hB)

theorem trS_receiver {cr R r} (x : String) (hh : HeadOkD R) (hR : TrS cr R r) :
    TrS (cr + 5) (lst [R, ident x]) (callE r [varE x]) :=
  trS_call hh hR (trS_var x).exprs1

theorem trS_cond_arrow_last {ct cr T t R r} (hT : TrS ct T t) (hte : isSym "else" T = false)
    (hh : HeadOkD R) (hR : TrS cr R r) :
    TrS (ct + cr + 20) (lst [ident "cond", lst [T, ident "=>", R]])
      (letE ["temp"] [t] [if2E (varE "temp") (callE r [varE "temp"])]) :=
  (TrS.expand (by decide)
    (fun fuel hf => cond_arrow_shape (isList_lst _) (isList_lst [T, ident "=>", R]) rfl hte hf)
    (trS_let1 "temp" hT (trS_if2 (trS_var "temp") (trS_receiver "temp" hh hR)))).mono (by omega)

theorem trS_cond_arrow_more {ct cr cR T t R r cl r'} (hT : TrS ct T t) (hh : HeadOkD R)
    (hR : TrS cr R r) (hcl : cl ≠ []) (hrest : TrS cR (lst (ident "cond" :: cl)) r') :
    TrS (ct + cr + cR + 20) (lst (ident "cond" :: lst [T, ident "=>", R] :: cl))
      (letE ["temp"] [t] [if3E (varE "temp") (callE r [varE "temp"]) r']) :=
  (TrS.expand (by decide)
    (fun fuel hf => cond_arrow_more_shape (isList_lst _) (isList_lst [T, ident "=>", R]) rfl hcl hf)
    (trS_let1 "temp" hT (trS_if3 (trS_var "temp") (trS_receiver "temp" hh hR) hrest))).mono (by omega)

theorem trS_cond_test_last {ct T t} (hT : TrS ct T t) :
    TrS (ct + 15) (lst [ident "cond", lst [T]]) t :=
  (TrS.expand (by decide) (fun fuel hf => cond_test_shape (isList_lst _) (isList_lst [T]) hf) hT).mono
    (by omega)

theorem trS_cond_test_more {ct cR T t cl r'} (hT : TrS ct T t) (hcl : cl ≠ [])
    (hrest : TrS cR (lst (ident "cond" :: cl)) r') :
    TrS (ct + cR + 15) (lst (ident "cond" :: lst [T] :: cl))
      (letE ["temp"] [t] [if3E (varE "temp") (varE "temp") r']) :=
  (TrS.expand (by decide)
    (fun fuel hf => cond_test_more_shape (isList_lst _) (isList_lst [T]) hcl hf)
    (trS_let1 "temp" hT (trS_if3 (trS_var "temp") (trS_var "temp") hrest))).mono (by omega)

theorem trS_cond_normal_last {ct Cb T t body bes} (hT : TrS ct T t) (hte : isSym "else" T = false)
    (hB : TrB Cb body bes) (hna : ∀ a r, body = [a, r] → isSym "=>" a = false) :
    TrS (ct + Cb + 10) (lst [ident "cond", lst (T :: body)]) (if2E t (beginE bes)) :=
  (TrS.expand (by decide)
    (fun fuel hf => cond_normal_shape (isList_lst _) (isList_lst (T :: body)) hB.1 hte hna hf)
    (trS_if2 hT (trS_begin hB))).mono (by omega)

theorem trS_cond_normal_more {ct Cb cR T t body bes cl r'} (hT : TrS ct T t)
    (hB : TrB Cb body bes) (hna : ∀ a r, body = [a, r] → isSym "=>" a = false) (hcl : cl ≠ [])
    (hrest : TrS cR (lst (ident "cond" :: cl)) r') :
    TrS (ct + Cb + cR + 10) (lst (ident "cond" :: lst (T :: body) :: cl)) (if3E t (beginE bes) r') :=
  (TrS.expand (by decide)
    (fun fuel hf => cond_normal_more_shape (isList_lst _) (isList_lst (T :: body)) hB.1 hcl hna hf)
    (trS_if3 hT (trS_begin hB) hrest)).mono (by omega)

/-! ## case

`K` is the key as the rules 2–7 see it: not a non-empty list (`NotList K`). -/

/-- not a proper list, or the empty one -/
def NotList (K : Datum) : Prop := ∀ ks, IsList K ks → ks = []


theorem trS_memv {ck K k'} (atoms : List Datum) (hK : TrS ck K k') :
    TrS (ck + 7) (lst [ident "memv", K, lst [ident "quote", lst atoms]]) (memvE k' atoms) :=
  (trS_call headOkD_memv (trS_var "memv") (TrL.two hK (trS_quote _))).mono (by omega)

theorem trS_case_listkey {cK cR x xs ke cl r'} (hK : TrS cK (lst (x :: xs)) ke) (hcl : cl ≠ [])
    (hrest : TrS cR (lst (ident "case" :: ident "atom-key" :: cl)) r') :
    TrS (cK + cR + 10) (lst (ident "case" :: lst (x :: xs) :: cl)) (letE ["atom-key"] [ke] [r']) :=
  .expand (by decide)
    (fun fuel hf => case_list_key_shape (isList_lst _) (isList_lst (x :: xs)) (List.cons_ne_nil _ _) hcl hf)
    (trS_let1 "atom-key" hK hrest)

theorem trS_receiverK {cr ck R r K k'} (hh : HeadOkD R) (hR : TrS cr R r) (hK : TrS ck K k') :
    TrS (cr + ck + 4) (lst [R, K]) (callE r [k']) :=
  (trS_call hh hR hK.exprs1).mono (by omega)

theorem trS_case_else_arrow {cr ck R r K k'} (hk : NotList K) (hh : HeadOkD R) (hR : TrS cr R r)
    (hK : TrS ck K k') :
    TrS (cr + ck + 5) (lst [ident "case", K, lst [ident "else", ident "=>", R]]) (callE r [k']) :=
  .expand (by decide)
    (fun fuel hf => case_else_arrow_shape (isList_lst _) (isList_lst [ident "else", ident "=>", R]) rfl rfl hk hf)
    (trS_receiverK hh hR hK)

theorem trS_case_else {Cb K body bes} (hk : NotList K) (hB : TrB Cb body bes)
    (hna : ∀ a r, body = [a, r] → isSym "=>" a = false) :
    TrS (Cb + 8) (lst [ident "case", K, lst (ident "else" :: body)]) (beginE bes) :=
  .expand (by decide)
    (fun fuel hf => case_else_shape (isList_lst _) (isList_lst (ident "else" :: body)) rfl hB.1 hna hk hf)
    (trS_begin hB)

theorem trS_case_arrow_last {cr ck R r K k' atoms} (hk : NotList K) (hat : atoms ≠ []) (hh : HeadOkD R)
    (hR : TrS cr R r) (hK : TrS ck K k') :
    TrS (cr + 2 * ck + 24) (lst [ident "case", K, lst [lst atoms, ident "=>", R]])
      (if2E (callE (varE "not") [callE (varE "null?") [memvE k' atoms]]) (callE r [k'])) :=
  (TrS.expand (by decide)
    (fun fuel hf => case_arrow_shape (isList_lst _) (isList_lst [lst atoms, ident "=>", R]) (isList_lst _)
      hat rfl hk hf)
    (trS_if2
      (trS_call headOkD_not (trS_var "not")
        (trS_call headOkD_null (trS_var "null?") (trS_memv atoms hK).exprs1).exprs1)
      (trS_receiverK hh hR hK))).mono (by omega)

theorem trS_case_normal_last {Cb ck K k' atoms body bes} (hk : NotList K) (hat : atoms ≠ [])
    (hK : TrS ck K k') (hB : TrB Cb body bes) (hna : ∀ a r, body = [a, r] → isSym "=>" a = false) :
    TrS (Cb + ck + 17) (lst [ident "case", K, lst (lst atoms :: body)])
      (if2E (memvE k' atoms) (beginE bes)) :=
  (TrS.expand (by decide)
    (fun fuel hf => case_normal_shape (isList_lst _) (isList_lst (lst atoms :: body)) (isList_lst _) hat
      hB.1 hna hk hf)
    (trS_if2 (trS_memv atoms hK) (trS_begin hB))).mono (by omega)

theorem trS_case_arrow_more {cr ck cR R r K k' atoms cl r'} (hk : NotList K) (hat : atoms ≠ [])
    (hh : HeadOkD R) (hR : TrS cr R r) (hK : TrS ck K k') (hcl : cl ≠ [])
    (hrest : TrS cR (lst (ident "case" :: K :: cl)) r') :
    TrS (cr + cR + 2 * ck + 14) (lst (ident "case" :: K :: lst [lst atoms, ident "=>", R] :: cl))
      (if3E (memvE k' atoms) (callE r [k']) r') :=
  (TrS.expand (by decide)
    (fun fuel hf => case_arrow_more_shape (isList_lst _) (isList_lst [lst atoms, ident "=>", R])
      (isList_lst _) hat rfl hcl hk hf)
    (trS_if3 (trS_memv atoms hK) (trS_receiverK hh hR hK) hrest)).mono (by omega)

theorem trS_case_normal_more {Cb ck cR K k' atoms body bes cl r'} (hk : NotList K) (hat : atoms ≠ [])
    (hK : TrS ck K k') (hB : TrB Cb body bes) (hna : ∀ a r, body = [a, r] → isSym "=>" a = false)
    (hcl : cl ≠ []) (hrest : TrS cR (lst (ident "case" :: K :: cl)) r') :
    TrS (Cb + cR + ck + 17) (lst (ident "case" :: K :: lst (lst atoms :: body) :: cl))
      (if3E (memvE k' atoms) (beginE bes) r') :=
  (TrS.expand (by decide)
    (fun fuel hf => case_normal_more_shape (isList_lst _) (isList_lst (lst atoms :: body)) (isList_lst _)
      hat hB.1 hcl hna hk hf)
    (trS_if3 (trS_memv atoms hK) (trS_begin hB) hrest)).mono (by omega)


/-! ## the printed surface forms -/

theorem isSym_print (s : String) (a : Surf) : isSym s (print a) = isVar s a := by
  cases a <;> simp [print, isSym, isVar, ident, lst, Datum.ofList]

theorem hna_of_arrowFree {body : List Surf} (h : arrowFree body = true) :
    ∀ a r, printList body = [a, r] → isSym "=>" a = false := by
  intro a r e
  match body, h, e with
  | [x, y], h, e =>
    simp only [printList, List.cons.injEq, and_true] at e
    obtain ⟨rfl, _⟩ := e
    rw [isSym_print]
    simpa [arrowFree] using h
  | [], _, e | [_], _, e | _ :: _ :: _ :: _, _, e => simp [printList] at e

theorem headOkD_print {s : Surf} (h : headOk s = true) : HeadOkD (print s) := by
  intro kw kl e
  cases s <;> simp [print, ident, lst, Datum.ofList] at e
  obtain ⟨rfl, _⟩ := e
  simpa [headOk] using h

theorem printList_ne_nil {ss : List Surf} (h : ss.isEmpty = false) : printList ss ≠ [] := by
  cases ss <;> simp_all [printList]

theorem printCondClauses_ne_nil {cs : List CondClause} (h : cs ≠ []) : printCondClauses cs ≠ [] := by
  cases cs <;> simp_all [printCondClauses]

theorem printCaseClauses_ne_nil {cs : List CaseClause} (h : cs ≠ []) : printCaseClauses cs ≠ [] := by
  cases cs <;> simp_all [printCaseClauses]

theorem print_not_atomic {s : Surf} (h : atomic s = false) : ∃ x xs, print s = lst (x :: xs) := by
  cases s <;> simp [atomic] at h <;> exact ⟨_, _, rfl⟩

theorem atomic_key {s : Surf} (h : atomic s = true) : NotList (print s) ∧ TrS 1 (print s) (desugar s) := by
  cases s <;> simp [atomic] at h
  · exact ⟨notList_atom rfl, trS_var _⟩
  · exact ⟨notList_atom rfl, trS_prim _⟩
  · exact ⟨notList_atom rfl, trS_vec _⟩

/-! ## the desugaring of a `cond` / `case` clause that is not the last -/

theorem desugarCond_test_more {t tl} (h : tl ≠ []) : desugarCond (.test t :: tl) =
    letE ["temp"] [desugar t] [if3E (varE "temp") (varE "temp") (desugarCond tl)] := by
  cases tl with
  | nil => exact absurd rfl h
  | cons c tl => simp only [desugarCond]

theorem desugarCond_arrow_more {t r tl} (h : tl ≠ []) : desugarCond (.arrow t r :: tl) =
    letE ["temp"] [desugar t] [if3E (varE "temp") (callE (desugar r) [varE "temp"]) (desugarCond tl)] := by
  cases tl with
  | nil => exact absurd rfl h
  | cons c tl => simp only [desugarCond]

theorem desugarCond_normal_more {t body tl} (h : tl ≠ []) : desugarCond (.normal t body :: tl) =
    if3E (desugar t) (beginE (desugarList body)) (desugarCond tl) := by
  cases tl with
  | nil => exact absurd rfl h
  | cons c tl => simp only [desugarCond]

theorem desugarCase_arrow_more {key atoms r tl} (h : tl ≠ []) : desugarCase key (.arrow atoms r :: tl) =
    if3E (memvE key atoms) (callE (desugar r) [key]) (desugarCase key tl) := by
  cases tl with
  | nil => exact absurd rfl h
  | cons c tl => simp only [desugarCase]

theorem desugarCase_normal_more {key atoms body tl} (h : tl ≠ []) : desugarCase key (.normal atoms body :: tl) =
    if3E (memvE key atoms) (beginE (desugarList body)) (desugarCase key tl) := by
  cases tl with
  | nil => exact absurd rfl h
  | cons c tl => simp only [desugarCase]


/-! ## the fuel bound is linear in the size of the printed form

`cost s + 7 ≤ 8 * size`: 8 is the factor of `xformFuel d = 8 * d.size + 4000`; the 7 to spare makes the bound
inductive (the spare of the parts pays the constant `Desugar.cost` adds for the form). -/

theorem length_printList (ss : List Surf) : (printList ss).length = ss.length := by
  induction ss with
  | nil => rfl
  | cons s ss ih => simp [printList, ih]
theorem length_printBinds (ss : List Bind) : (printBinds ss).length = ss.length := by
  induction ss with
  | nil => rfl
  | cons s ss ih => simp [printBinds, ih]
theorem length_printCondClauses (ss : List CondClause) : (printCondClauses ss).length = ss.length := by
  induction ss with
  | nil => rfl
  | cons s ss ih => simp [printCondClauses, ih]
theorem length_printCaseClauses (ss : List CaseClause) : (printCaseClauses ss).length = ss.length := by
  induction ss with
  | nil => rfl
  | cons s ss ih => simp [printCaseClauses, ih]

attribute [print_size] print printBind printCondClause printCaseClause printList printBinds
  printCondClauses printCaseClauses cost costList costBinds costCond costCase size_lst Datum.sizeList
  Datum.size List.length_cons List.length_nil length_printList length_printBinds
  length_printCondClauses length_printCaseClauses ident

mutual
theorem cost_expr : ∀ s : Surf, cost s + 7 ≤ 8 * (print s).size
  | .var _ | .lit _ | .vec _ | .quote _ => by simp only [print_size]; omega
  | .if2 t c => by have := cost_expr t; have := cost_expr c; simp only [print_size]; omega
  | .if3 t c a => by have := cost_expr t; have := cost_expr c; have := cost_expr a; simp only [print_size]; omega
  | .lambda _ _ es | .begin_ es | .and_ es | .or_ es => by have := cost_list es; simp only [print_size]; omega
  | .set x e => by have := cost_expr e; simp only [print_size]; omega
  | .call s ss | .when_ s ss | .unless_ s ss => by
    have := cost_expr s; have := cost_list ss; simp only [print_size]; omega
  | .let_ bs body | .letstar bs body => by have := cost_binds bs; have := cost_list body; simp only [print_size]; omega
  | .cond_ cs => by have := cost_cond cs; simp only [print_size]; omega
  | .case_ k cs => by have := cost_expr k; have := cost_case cs; simp only [print_size]; omega
theorem cost_list : ∀ ss : List Surf, costList ss ≤ 8 * (Datum.sizeList (printList ss) + ss.length)
  | [] => by simp only [print_size]; omega
  | s :: ss => by have := cost_expr s; have := cost_list ss; simp only [print_size]; omega
theorem cost_binds : ∀ bs : List Bind, costBinds bs ≤ 8 * (Datum.sizeList (printBinds bs) + bs.length)
  | [] => by simp only [print_size]; omega
  | .mk x v :: bs => by have := cost_expr v; have := cost_binds bs; simp only [print_size]; omega
theorem cost_cond : ∀ cs : List CondClause, costCond cs ≤ 8 * (Datum.sizeList (printCondClauses cs) + cs.length)
  | [] => by simp only [print_size]; omega
  | .test t :: cs => by have := cost_expr t; have := cost_cond cs; simp only [print_size]; omega
  | .arrow t r :: cs => by have := cost_expr t; have := cost_expr r; have := cost_cond cs; simp only [print_size]; omega
  | .normal t body :: cs => by have := cost_expr t; have := cost_list body; have := cost_cond cs; simp only [print_size]; omega
  | .else_ body :: cs => by have := cost_list body; have := cost_cond cs; simp only [print_size]; omega
theorem cost_case : ∀ cs : List CaseClause, costCase cs ≤ 8 * (Datum.sizeList (printCaseClauses cs) + cs.length)
  | [] => by simp only [print_size]; omega
  | .normal _ body :: cs | .else_ body :: cs => by have := cost_list body; have := cost_case cs; simp only [print_size]; omega
  | .arrow _ r :: cs | .elseArrow r :: cs => by have := cost_expr r; have := cost_case cs; simp only [print_size]; omega
end

/-! ## every printed surface form: the transformer builds its desugaring -/

theorem TrAll.body_print {C es} {ss : List Surf} (h : TrAll C (printList ss) es) (hne : ss.isEmpty = false) :
    TrB C (printList ss) es := h.body (printList_ne_nil hne)

mutual
theorem trS_print : ∀ (s : Surf), ok s = true → TrS (cost s) (print s) (desugar s)
  | .var x, _ => trS_var x
  | .lit p, _ => trS_prim p
  | .vec xs, _ => trS_vec xs
  | .quote d, _ => trS_quote d
  | .if2 t c, h => by
    simp only [ok, Bool.and_eq_true] at h
    exact trS_if2 (trS_print t h.1) (trS_print c h.2)
  | .if3 t c a, h => by
    simp only [ok, Bool.and_eq_true] at h
    exact trS_if3 (trS_print t h.1.1) (trS_print c h.1.2) (trS_print a h.2)
  | .lambda fixed rest body, h => by
    simp only [ok, Bool.and_eq_true, Bool.not_eq_true'] at h
    exact trS_lambda fixed rest ((trAll_printList body h.1).body_print h.2)
  | .set x e, h => by
    simp only [ok] at h
    exact trS_set x (trS_print e h)
  | .call f args, h => by
    simp only [ok, Bool.and_eq_true] at h
    exact trS_call (headOkD_print h.1.1) (trS_print f h.1.2) (trAll_printList args h.2).exprs
  | .begin_ body, h => by
    simp only [ok, Bool.and_eq_true, Bool.not_eq_true'] at h
    exact trS_begin ((trAll_printList body h.1).body_print h.2)
  | .let_ bs body, h => by
    simp only [ok, Bool.and_eq_true, Bool.not_eq_true'] at h
    exact trS_let_binds (trBinds_printBinds bs h.1.1) ((trAll_printList body h.1.2).body_print h.2)
  | .letstar bs body, h => by
    simp only [ok, Bool.and_eq_true, Bool.not_eq_true'] at h
    exact trS_letstar (trBinds_printBinds bs h.1.1) ((trAll_printList body h.1.2).body_print h.2)
  | .and_ es, h => by
    simp only [ok] at h
    exact trS_and (trAll_printList es h)
  | .or_ es, h => by
    simp only [ok] at h
    exact trS_or (trAll_printList es h)
  | .when_ t body, h => by
    simp only [ok, Bool.and_eq_true, Bool.not_eq_true'] at h
    exact trS_when (trS_print t h.1.1) ((trAll_printList body h.1.2).body_print h.2)
  | .unless_ t body, h => by
    simp only [ok, Bool.and_eq_true, Bool.not_eq_true'] at h
    exact trS_unless (trS_print t h.1.1) ((trAll_printList body h.1.2).body_print h.2)
  | .cond_ cs, h => by
    simp only [ok, Bool.and_eq_true, Bool.not_eq_true', List.isEmpty_eq_false_iff] at h
    exact (trS_printCond cs h.1 h.2).mono (Nat.le_succ _)
  | .case_ k cs, h => by
    simp only [ok, Bool.and_eq_true, Bool.not_eq_true', List.isEmpty_eq_false_iff] at h
    have hk := trS_print k h.1.1
    simp only [print, desugar]
    by_cases ha : atomic k = true
    · obtain ⟨h1, h2⟩ := atomic_key ha
      simp only [ha, if_true]
      exact (trS_printCase cs h.1.2 h.2 (print k) (desugar k) h1 h2).mono (by simp only [cost]; omega)
    · have ha' : atomic k = false := by simpa using ha
      obtain ⟨x, xs, e⟩ := print_not_atomic ha'
      simp only [ha', Bool.false_eq_true, if_false]
      rw [e] at hk ⊢
      exact (trS_case_listkey hk (printCaseClauses_ne_nil h.2)
        (trS_printCase cs h.1.2 h.2 (ident "atom-key") (varE "atom-key") (notList_atom rfl) (trS_var _))).mono
        (by simp only [cost]; omega)
theorem trAll_printList : ∀ (ss : List Surf), okList ss = true → TrAll (costList ss) (printList ss) (desugarList ss)
  | [], _ => .nil
  | s :: ss, h => by
    simp only [okList, Bool.and_eq_true] at h
    exact .cons (trS_print s h.1) (trAll_printList ss h.2)
theorem trBinds_printBinds : ∀ (bs : List Bind), okBinds bs = true → TrBinds (costBinds bs) (printBinds bs) (desugarBinds bs)
  | [], _ => .nil
  | .mk x v :: bs, h => by
    simp only [okBinds, Bool.and_eq_true] at h
    exact .cons (trS_print v h.1) (trBinds_printBinds bs h.2)
theorem trS_printCond : ∀ (cs : List CondClause), okCond cs = true → cs ≠ [] →
    TrS (costCond cs) (lst (ident "cond" :: printCondClauses cs)) (desugarCond cs)
  | [], _, hne => absurd rfl hne
  | .test t :: tl, h, _ => by
    simp only [okCond, okCondClause, Bool.and_eq_true] at h
    have ih := trS_printCond tl h.2
    by_cases htl : tl = []
    · subst htl
      exact trS_cond_test_last (trS_print t h.1.1)
    · rw [desugarCond_test_more htl]
      exact trS_cond_test_more (trS_print t h.1.1) (printCondClauses_ne_nil htl) (ih htl)
  | .arrow t r :: tl, h, _ => by
    simp only [okCond, okCondClause, Bool.and_eq_true, Bool.not_eq_true'] at h
    have ih := trS_printCond tl h.2
    obtain ⟨⟨⟨⟨h1, h2⟩, h3⟩, h4⟩, _⟩ := h.1
    by_cases htl : tl = []
    · subst htl
      -- `.mono (Nat.le_refl _)`, here and in the next case: the rule is elaborated before its cost meets `costCond [_]`;
      -- against the expected cost the unifier splits the sum the wrong way
      exact (trS_cond_arrow_last (trS_print t h1) (by rw [isSym_print]; exact h2) (headOkD_print h3)
        (trS_print r h4)).mono (Nat.le_refl _)
    · rw [desugarCond_arrow_more htl]
      exact trS_cond_arrow_more (trS_print t h1) (headOkD_print h3) (trS_print r h4) (printCondClauses_ne_nil htl)
        (ih htl)
  | .normal t body :: tl, h, _ => by
    simp only [okCond, okCondClause, Bool.and_eq_true, Bool.not_eq_true'] at h
    have ih := trS_printCond tl h.2
    obtain ⟨⟨⟨⟨⟨h1, h2⟩, h3⟩, h4⟩, h5⟩, _⟩ := h.1
    have hB := (trAll_printList body h3).body_print h4
    by_cases htl : tl = []
    · subst htl
      exact (trS_cond_normal_last (trS_print t h1) (by rw [isSym_print]; exact h2) hB
        (hna_of_arrowFree h5)).mono (Nat.le_refl _)
    · rw [desugarCond_normal_more htl]
      exact trS_cond_normal_more (trS_print t h1) hB (hna_of_arrowFree h5) (printCondClauses_ne_nil htl) (ih htl)
  | .else_ body :: tl, h, _ => by
    simp only [okCond, okCondClause, isElseCond, Bool.and_eq_true, Bool.not_eq_true', Bool.not_true,
      Bool.false_or, List.isEmpty_iff] at h
    obtain ⟨⟨⟨h1, h2⟩, h3⟩, _⟩ := h
    subst h3
    exact trS_cond_else ((trAll_printList body h1).body_print h2)
theorem trS_printCase : ∀ (cs : List CaseClause), okCase cs = true → cs ≠ [] → ∀ (K : Datum) (k' : Expr),
    NotList K → TrS 1 K k' → TrS (costCase cs) (lst (ident "case" :: K :: printCaseClauses cs)) (desugarCase k' cs)
  | [], _, hne, _, _, _, _ => absurd rfl hne
  | .elseArrow r :: tl, h, _, K, k', hk, hK => by
    simp only [okCase, okCaseClause, isElseCase, Bool.and_eq_true, Bool.not_true,
      Bool.false_or, List.isEmpty_iff] at h
    obtain ⟨⟨⟨h1, h2⟩, h3⟩, _⟩ := h
    subst h3
    exact (trS_case_else_arrow hk (headOkD_print h1) (trS_print r h2) hK).mono (by simp only [costCase]; omega)
  | .else_ body :: tl, h, _, K, k', hk, hK => by
    simp only [okCase, okCaseClause, isElseCase, Bool.and_eq_true, Bool.not_eq_true', Bool.not_true,
      Bool.false_or, List.isEmpty_iff] at h
    obtain ⟨⟨⟨⟨h1, h2⟩, h4⟩, h3⟩, _⟩ := h
    subst h3
    exact trS_case_else hk ((trAll_printList body h1).body_print h2) (hna_of_arrowFree h4)
  | .arrow atoms r :: tl, h, _, K, k', hk, hK => by
    simp only [okCase, okCaseClause, Bool.and_eq_true, Bool.not_eq_true', List.isEmpty_eq_false_iff] at h
    have ih := trS_printCase tl h.2
    obtain ⟨⟨⟨h1, h2⟩, h3⟩, _⟩ := h.1
    by_cases htl : tl = []
    · subst htl
      exact (trS_case_arrow_last hk h1 (headOkD_print h2) (trS_print r h3) hK).mono
        (by simp only [costCase]; omega)
    · rw [desugarCase_arrow_more htl]
      exact (trS_case_arrow_more hk h1 (headOkD_print h2) (trS_print r h3) hK (printCaseClauses_ne_nil htl)
        (ih htl K k' hk hK)).mono (by simp only [costCase]; omega)
  | .normal atoms body :: tl, h, _, K, k', hk, hK => by
    simp only [okCase, okCaseClause, Bool.and_eq_true, Bool.not_eq_true', List.isEmpty_eq_false_iff] at h
    have ih := trS_printCase tl h.2
    obtain ⟨⟨⟨⟨h1, h2⟩, h3⟩, h4⟩, _⟩ := h.1
    have hB := (trAll_printList body h2).body_print (List.isEmpty_eq_false_iff.2 h3)
    by_cases htl : tl = []
    · subst htl
      exact (trS_case_normal_last hk h1 hK hB (hna_of_arrowFree h4)).mono (by simp only [costCase]; omega)
    · rw [desugarCase_normal_more htl]
      exact (trS_case_normal_more hk h1 hK hB (hna_of_arrowFree h4) (printCaseClauses_ne_nil htl)
        (ih htl K k' hk hK)).mono (by simp only [costCase]; omega)
end

end Ruschm.Desugar
