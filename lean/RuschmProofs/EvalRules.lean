/-
The big-step rules of the evaluator, for the fuel-free judgements of `EvalFuel.lean`, in the order of the model. For
each compound form there is ONE equivalence (`Evals.cond_iff`, `Evals.call_iff`, `Applies.closure_iff`, …): the form
settles on an outcome exactly when its parts, in order, settle on theirs — the sequence-form equation of `EvalSeq`
read through `Stable.seq_iff`. The named rules (`Evals.cond_true`, `Evals.call`, …) are its right-to-left direction,
an inversion its left-to-right. `Stable.arm_iff` and `Stable.call_iff` are shared with the reference evaluator.
-/
import RuschmProofs.EvalFuel
import RuschmProofs.StoreLemmas
import RuschmProofs.BindFixed
namespace Ruschm.Eval
open Prim

/-! ## what is never the fuel error -/

theorem evalPrim_ne_fuel {p e} (h : evalPrim p = .error e) : e ≠ .fuel := by
  cases p <;> simp [evalPrim] at h
  rename_i n d
  cases hq : Num.exactRatio n d <;> rw [hq] at h <;> cases h
  cases Num.exactRatio_errs n d e hq <;> simp

/-- for `readLiteral_all` (`StoreLemmas.lean`): nothing claimed of values and data; the only errors are `evalPrim`'s -/
theorem litInv_ne_fuel : LitInv (fun _ _ => True) (fun e => e.1 ≠ .fuel) (fun _ => True) :=
  ⟨fun _ _ => trivial, fun _ _ => trivial, fun _ _ => trivial, fun _ => trivial, fun _ _ => trivial,
   fun _ => ⟨fun _ _ _ => trivial, fun _ h => evalPrim_ne_fuel h⟩, fun _ => ⟨trivial, trivial⟩, fun _ _ _ => trivial⟩

theorem readLiteral_ne_fuel : ∀ (d : Datum) (σ : Store), NotFuel (readLiteral σ d).1 := fun d σ =>
  have all : σ.All fun _ => True := ⟨fun _ _ _ _ _ => trivial, fun _ _ _ _ _ => trivial⟩
  -- of the three claims of `readLiteral_all` (store, value, error) the last
  .of_ne fun _ h => (readLiteral_all litInv_ne_fuel d σ rfl trivial all).2.2 _ h rfl
theorem readLiterals_ne_fuel : ∀ (ds : List Datum) (σ : Store), NotFuel (readLiterals σ ds).1 := fun ds σ =>
  have all : σ.All fun _ => True := ⟨fun _ _ _ _ _ => trivial, fun _ _ _ _ _ => trivial⟩
  .of_ne fun _ h => (readLiterals_all litInv_ne_fuel ds σ rfl (fun _ _ => trivial) all).2.2 _ h rfl

theorem spreadApply_ne_fuel {args : List Value} {e} (h : spreadApply args = .error e) : e ≠ .fuel := by
  rcases spreadApply_error h with ⟨_, rfl⟩ | rfl | rfl <;> nofun

theorem bindFixed_error_ne_fuel {σ ρ fs as e σ₁} (h : bindFixed σ ρ fs as = (.error e, σ₁)) : e ≠ .fuel := by
  rw [bindFixed_eq] at h
  split at h <;> cases h
  simp

theorem _root_.Ruschm.Prim.notFuel_applyPure {σ : Store} {b : Builtin} {args : List Value} {r σ'}
    (h : applyPure σ b args = (r, σ')) : NotFuel r :=
  .of_ne fun l e => Prim.applyPure_ne_fuel h l e

/-! ## expressions -/

theorem Evals.prim {σ ρ p l v} (h : evalPrim p = .ok v) : Evals σ ρ (.prim p l) (.ok v) σ :=
  .const (by simp) fun n => by rw [evalExpr_prim, h]
theorem Evals.prim_err {σ ρ p l e} (h : evalPrim p = .error e) : Evals σ ρ (.prim p l) (.error (e, none)) σ :=
  .const (.error_of (evalPrim_ne_fuel h)) fun n => by rw [evalExpr_prim, h]
theorem Evals.sym {σ ρ s l v} (h : σ.lookup ρ s = some v) : Evals σ ρ (.sym s l) (.ok v) σ :=
  .const (by simp) fun n => by rw [evalExpr_sym, h]
theorem Evals.sym_unbound {σ ρ s l} (h : σ.lookup ρ s = none) : Evals σ ρ (.sym s l) (.error (.unbound, l)) σ :=
  .const (.error_of (by simp)) fun n => by rw [evalExpr_sym, h]

theorem Evals.lambda_iff {σ ρ lam l r σ'} : Evals σ ρ (.lambda lam l) r σ' ↔ r = .ok (.closure lam ρ) ∧ σ' = σ :=
  (Stable.unfold (evalExpr_lambda · σ ρ lam l)).trans Stable.ok_iff
theorem Evals.lambda {σ ρ lam l} : Evals σ ρ (.lambda lam l) (.ok (.closure lam ρ)) σ :=
  Evals.lambda_iff.2 ⟨rfl, rfl⟩

theorem Evals.quote {σ ρ d l r σ'} (h : readLiteral σ d = (r, σ')) : Evals σ ρ (.quote d l) r σ' :=
  .const (by have := readLiteral_ne_fuel d σ; rwa [h] at this) fun n => by rw [evalExpr_quote, h]
theorem Evals.datum {σ ρ d l r σ'} (h : readLiteral σ d = (r, σ')) : Evals σ ρ (.datum d l) r σ' :=
  .const (by have := readLiteral_ne_fuel d σ; rwa [h] at this) fun n => by rw [evalExpr_datum, h]

/-- an arm of an `if`, once the test has given `tv`: the same for `evalExpr` and for `evalTail` -/
theorem Stable.arm_iff {α} {b : Bool} {a : Option Expr} {f : Nat → Res α} {g : Expr → Nat → Res α} {v : α}
    {σ₁ : Store} {r σ'} :
    Stable (fun n => if b then f n else match a with | some alt => g alt n | none => (.ok v, σ₁)) r σ' ↔
      if b then Stable f r σ'
      else match a with
        | some alt => Stable (g alt) r σ'
        | none => r = .ok v ∧ σ' = σ₁ := by
  refine Stable.ite.trans ?_
  split
  · rfl
  · cases a
    · exact Stable.ok_iff
    · rfl

theorem Evals.cond_iff {σ ρ t c a l r σ'} :
    Evals σ ρ (.cond t c a l) r σ' ↔
      (∃ er, Evals σ ρ t (.error er) σ' ∧ r = .error er) ∨
      ∃ tv σ₁, Evals σ ρ t (.ok tv) σ₁ ∧
        if tv.truthy then Evals σ₁ ρ c r σ'
        else match a with
          | some alt => Evals σ₁ ρ alt r σ'
          | none => r = .ok .void ∧ σ' = σ₁ :=
  (Stable.seq_iff (evalExpr_cond · σ ρ t c a l) (fuelMono_expr σ ρ t)).trans
    (or_congr_right (exists_congr fun _ => exists_congr fun _ => and_congr_right fun _ => Stable.arm_iff))

theorem Evals.cond_err {σ ρ t c a l er σ₁} (ht : Evals σ ρ t (.error er) σ₁) :
    Evals σ ρ (.cond t c a l) (.error er) σ₁ :=
  Evals.cond_iff.2 (.inl ⟨er, ht, rfl⟩)
theorem Evals.cond_true {σ ρ t c a l tv σ₁ r σ'} (ht : Evals σ ρ t (.ok tv) σ₁) (htv : tv.truthy = true)
    (hc : Evals σ₁ ρ c r σ') : Evals σ ρ (.cond t c a l) r σ' :=
  Evals.cond_iff.2 (.inr ⟨tv, σ₁, ht, by rwa [if_pos htv]⟩)
theorem Evals.cond_false {σ ρ t c alt l tv σ₁ r σ'} (ht : Evals σ ρ t (.ok tv) σ₁) (htv : tv.truthy = false)
    (hc : Evals σ₁ ρ alt r σ') : Evals σ ρ (.cond t c (some alt) l) r σ' :=
  Evals.cond_iff.2 (.inr ⟨tv, σ₁, ht, by rwa [if_neg (Bool.eq_false_iff.1 htv)]⟩)
theorem Evals.cond_void {σ ρ t c l tv σ₁} (ht : Evals σ ρ t (.ok tv) σ₁) (htv : tv.truthy = false) :
    Evals σ ρ (.cond t c none l) (.ok .void) σ₁ :=
  Evals.cond_iff.2 (.inr ⟨tv, σ₁, ht, by rw [if_neg (Bool.eq_false_iff.1 htv)]; exact ⟨rfl, rfl⟩⟩)

theorem Evals.assign_iff {σ ρ x e l r σ'} :
    Evals σ ρ (.assign x e l) r σ' ↔
      (∃ er, Evals σ ρ e (.error er) σ' ∧ r = .error er) ∨
      ∃ v σ₁, Evals σ ρ e (.ok v) σ₁ ∧
        ((σ₁.set ρ x v = (true, σ') ∧ r = .ok .void) ∨ (σ₁.set ρ x v = (false, σ') ∧ r = .error (.unbound, l))) := by
  refine (Stable.seq_iff (evalExpr_assign · σ ρ x e l) (fuelMono_expr σ ρ e)).trans
    (or_congr_right (exists_congr fun v => exists_congr fun σ₁ => and_congr_right fun _ => ?_))
  rcases σ₁.set ρ x v with ⟨_ | _, σ₂⟩
  · exact (Stable.error_iff (by simp)).trans ⟨fun ⟨h₁, h₂⟩ => .inr ⟨by rw [h₂], h₁⟩, by rintro (⟨h, _⟩ | ⟨h, h₁⟩) <;> cases h; exact ⟨h₁, rfl⟩⟩
  · exact Stable.ok_iff.trans ⟨fun ⟨h₁, h₂⟩ => .inl ⟨by rw [h₂], h₁⟩, by rintro (⟨h, h₁⟩ | ⟨h, _⟩) <;> cases h; exact ⟨h₁, rfl⟩⟩

theorem Evals.assign {σ ρ x e l v σ₁ σ'} (he : Evals σ ρ e (.ok v) σ₁) (hs : σ₁.set ρ x v = (true, σ')) :
    Evals σ ρ (.assign x e l) (.ok .void) σ' :=
  Evals.assign_iff.2 (.inr ⟨v, σ₁, he, .inl ⟨hs, rfl⟩⟩)

/-- a call once its operator has given `fv`, for the evaluator's and the reference's operands `ga` and application `ap`:
ALL the operands; then a non-procedure operator is reported, whatever they gave; else their error; else the application -/
theorem Stable.call_iff {fv : Value} {loc : Loc} {ga : Nat → Res (List Value)} (hga : FuelMono ga)
    {ap : Nat → List Value → Store → Res Value} {r σ'} :
    Stable (fun n => if (procArity fv).isSome then andThen (ga n) (ap n)
      else (nonProcAfter loc (ga n).1, (ga n).2)) r σ' ↔
    ∃ ra σ₂, Stable ga ra σ₂ ∧
      ((procArity fv = none ∧ r = .error (.nonProcedure, loc) ∧ σ' = σ₂) ∨
       ((procArity fv).isSome ∧ ∃ er, ra = .error er ∧ r = .error er ∧ σ' = σ₂) ∨
       ((procArity fv).isSome ∧ ∃ vs, ra = .ok vs ∧ Stable (ap · vs σ₂) r σ')) := by
  refine Stable.ite.trans ?_
  cases hp : procArity fv with
  | none =>
    refine (Stable.map_iff (h := id) hga (nonProcAfter_notFuel loc)).trans ⟨?_, ?_⟩
    · rintro ⟨ra, σ₂, S, rfl, rfl⟩; exact ⟨ra, _, S, .inl ⟨rfl, nonProcAfter_of loc S.1, rfl⟩⟩
    · rintro ⟨ra, σ₂, S, ⟨_, rfl, rfl⟩ | ⟨h, _⟩ | ⟨h, _⟩⟩
      · exact ⟨ra, _, S, (nonProcAfter_of loc S.1).symm, rfl⟩
      · cases h
      · cases h
  | some ar =>
    refine (Stable.andThen_iff hga).trans ⟨?_, ?_⟩
    · rintro (⟨er, S, rfl⟩ | ⟨vs, σ₂, S, h⟩)
      · exact ⟨_, _, S, .inr (.inl ⟨rfl, er, rfl, rfl, rfl⟩)⟩
      · exact ⟨_, σ₂, S, .inr (.inr ⟨rfl, vs, rfl, h⟩)⟩
    · rintro ⟨ra, σ₂, S, ⟨h, _⟩ | ⟨_, er, rfl, rfl, rfl⟩ | ⟨_, vs, rfl, h⟩⟩
      · cases h
      · exact .inl ⟨er, S, rfl⟩
      · exact .inr ⟨vs, σ₂, S, h⟩

theorem Evals.call_iff {σ ρ f args l r σ'} :
    Evals σ ρ (.call f args l) r σ' ↔
      (∃ er, Evals σ ρ f (.error er) σ' ∧ r = .error er) ∨
      (∃ fv σ₁ ra σ₂, Evals σ ρ f (.ok fv) σ₁ ∧ EvalsArgs σ₁ ρ args ra σ₂ ∧
        ((procArity fv = none ∧ r = .error (.nonProcedure, f.loc) ∧ σ' = σ₂) ∨
         ((procArity fv).isSome ∧ ∃ er, ra = .error er ∧ r = .error er ∧ σ' = σ₂) ∨
         ((procArity fv).isSome ∧ ∃ vs, ra = .ok vs ∧ AppliesProc σ₂ fv vs ρ r σ'))) := by
  refine (Stable.seq_iff (evalExpr_call · σ ρ f args l) (fuelMono_expr σ ρ f)).trans
    (or_congr_right (exists_congr fun fv => exists_congr fun σ₁ => ?_))
  rw [Stable.call_iff (fuelMono_args σ₁ ρ args)]
  exact ⟨fun ⟨hf, ra, σ₂, h⟩ => ⟨ra, σ₂, hf, h⟩, fun ⟨ra, σ₂, hf, h⟩ => ⟨hf, ra, σ₂, h⟩⟩

theorem Evals.call {σ ρ f args l fv σ₁ vs σ₂ r σ'} (hf : Evals σ ρ f (.ok fv) σ₁)
    (ha : EvalsArgs σ₁ ρ args (.ok vs) σ₂) (hp : (procArity fv).isSome)
    (hap : AppliesProc σ₂ fv vs ρ r σ') : Evals σ ρ (.call f args l) r σ' :=
  Evals.call_iff.2 (.inr ⟨fv, σ₁, _, σ₂, hf, ha, .inr (.inr ⟨hp, vs, rfl, hap⟩)⟩)
theorem Evals.call_arg_err {σ ρ f args l fv σ₁ er σ₂} (hf : Evals σ ρ f (.ok fv) σ₁)
    (ha : EvalsArgs σ₁ ρ args (.error er) σ₂) (hp : (procArity fv).isSome) :
    Evals σ ρ (.call f args l) (.error er) σ₂ :=
  Evals.call_iff.2 (.inr ⟨fv, σ₁, _, σ₂, hf, ha, .inr (.inl ⟨hp, er, rfl, rfl, rfl⟩)⟩)

/-! ## operands -/

theorem EvalsArgs.nil_iff {σ ρ r σ'} : EvalsArgs σ ρ [] r σ' ↔ r = .ok [] ∧ σ' = σ :=
  (Stable.unfold (evalArgs_nil · σ ρ)).trans Stable.ok_iff

theorem EvalsArgs.cons_iff {σ ρ a as r σ'} :
    EvalsArgs σ ρ (a :: as) r σ' ↔
      (∃ er, Evals σ ρ a (.error er) σ' ∧ r = .error er) ∨
      (∃ v σ₁, Evals σ ρ a (.ok v) σ₁ ∧
        ((∃ er, EvalsArgs σ₁ ρ as (.error er) σ' ∧ r = .error er) ∨
         (∃ vs, EvalsArgs σ₁ ρ as (.ok vs) σ' ∧ r = .ok (v :: vs)))) := by
  refine (Stable.seq_iff (evalArgs_cons · σ ρ a as) (fuelMono_expr σ ρ a)).trans
    (or_congr_right (exists_congr fun v => exists_congr fun σ₁ => and_congr_right fun _ => ?_))
  refine (Stable.andThen_iff (fuelMono_args σ₁ ρ as)).trans (or_congr_right ⟨?_, ?_⟩)
  · rintro ⟨vs, σ₂, S, h⟩; obtain ⟨rfl, rfl⟩ := Stable.ok_iff.1 h; exact ⟨vs, S, rfl⟩
  · rintro ⟨vs, S, rfl⟩; exact ⟨vs, σ', S, Stable.ok_iff.2 ⟨rfl, rfl⟩⟩

theorem EvalsArgs.nil {σ ρ} : EvalsArgs σ ρ [] (.ok []) σ := EvalsArgs.nil_iff.2 ⟨rfl, rfl⟩
theorem EvalsArgs.cons {σ ρ a as v σ₁ vs σ'} (h : Evals σ ρ a (.ok v) σ₁) (ht : EvalsArgs σ₁ ρ as (.ok vs) σ') :
    EvalsArgs σ ρ (a :: as) (.ok (v :: vs)) σ' :=
  EvalsArgs.cons_iff.2 (.inr ⟨v, σ₁, h, .inr ⟨vs, ht, rfl⟩⟩)
theorem EvalsArgs.cons_err {σ ρ a as er σ₁} (h : Evals σ ρ a (.error er) σ₁) :
    EvalsArgs σ ρ (a :: as) (.error er) σ₁ :=
  EvalsArgs.cons_iff.2 (.inl ⟨er, h, rfl⟩)
theorem EvalsArgs.cons_tail_err {σ ρ a as v σ₁ er σ'} (h : Evals σ ρ a (.ok v) σ₁)
    (ht : EvalsArgs σ₁ ρ as (.error er) σ') : EvalsArgs σ ρ (a :: as) (.error er) σ' :=
  EvalsArgs.cons_iff.2 (.inr ⟨v, σ₁, h, .inl ⟨er, ht, rfl⟩⟩)

theorem EvalsArgs.append_err {ρ post a er} : ∀ {pre σ vs σ₁ σ₂}, EvalsArgs σ ρ pre (.ok vs) σ₁ →
    Evals σ₁ ρ a (.error er) σ₂ → EvalsArgs σ ρ (pre ++ a :: post) (.error er) σ₂
  | [], σ, vs, σ₁, σ₂, hp, ha => by
    obtain ⟨_, rfl⟩ := EvalsArgs.nil_iff.1 hp
    exact EvalsArgs.cons_err ha
  | p :: pre, σ, vs, σ₁, σ₂, hp, ha => by
    rcases EvalsArgs.cons_iff.1 hp with ⟨er', _, h⟩ | ⟨v, σ', hv, ⟨er', _, h⟩ | ⟨vs', hvs, _⟩⟩
    · cases h
    · cases h
    · exact EvalsArgs.cons_tail_err hv (EvalsArgs.append_err hvs ha)

theorem evalsArgs_iff_mapEvals {σ ρ es r σ'} : EvalsArgs σ ρ es r σ' ↔ Ref.MapEvals (fun σ e r σ' => Evals σ ρ e r σ') σ es r σ' := by
  induction es generalizing σ r σ' with
  | nil => exact EvalsArgs.nil_iff
  | cons a as ih => simp only [Ref.MapEvals, ← ih]; exact EvalsArgs.cons_iff

theorem evalArgs_eq_mapEval {n σ ρ es r σ'} (h : evalArgs n σ ρ es = (r, σ')) (hr : NotFuel r) :
    Ref.mapEval (fun σ e => evalExpr n σ ρ e) σ es = (r, σ') := by
  cases n with
  | zero => rw [evalArgs] at h; cases h; simp at hr
  | succ n =>
    induction es generalizing σ r σ' with
    | nil => rw [evalArgs_nil] at h; exact h
    | cons a as ih =>
      rw [evalArgs_cons] at h
      simp only [Ref.mapEval]
      rcases andThen_eq h with ⟨er, heq, rfl⟩ | ⟨v, σ₁, heq, h⟩
      · rw [(mono_all n).expr heq hr.cast]
      · rw [(mono_all n).expr heq (by simp)]; simp only
        rcases andThen_eq h with ⟨er, heq2, rfl⟩ | ⟨vs, σ₂, heq2, h⟩
        · rw [ih hr ((mono_all n).args heq2 hr)]
        · cases h; rw [ih (.ok vs) ((mono_all n).args heq2 (.ok vs))]

/-! ## applications -/

theorem AppliesProc.iff_loop {σ p args env r σ'} :
    AppliesProc σ p args env r σ' ↔ ∃ σ₁, Applies (enter σ) p args env r σ₁ ∧ σ' = leave σ₁ :=
  (Stable.unfold (applyProcedure_succ · σ p args env)).trans
    ((Stable.map_iff (φ := id) (fuelMono_loop _ p args env) fun _ => Iff.rfl).trans
      ⟨fun ⟨_, σ₁, S, h, h'⟩ => ⟨σ₁, h ▸ S, h'⟩, fun ⟨σ₁, S, h'⟩ => ⟨r, σ₁, S, rfl, h'⟩⟩)

theorem AppliesProc.of_loop {σ p args env r σ₁} (h : Applies (enter σ) p args env r σ₁) :
    AppliesProc σ p args env r (leave σ₁) :=
  AppliesProc.iff_loop.2 ⟨σ₁, h, rfl⟩

theorem Applies.not_proc {σ p args env} (hp : procArity p = none) :
    Applies σ p args env (.error (.panic "apply_procedure: not a procedure", none)) σ :=
  .const (.error_of (by simp)) fun n => applyLoop_not_proc n σ args env hp
theorem Applies.arity_err {σ p args env fixed variadic} (hp : procArity p = some (fixed, variadic))
    (ha : arityOk fixed variadic args.length = false) : Applies σ p args env (.error (.arity, none)) σ :=
  .const (.error_of (by simp)) fun n => applyLoop_arity_gate n σ env hp ha
theorem Applies.arity_iff {σ p args env r σ' fixed variadic} (hp : procArity p = some (fixed, variadic))
    (ha : arityOk fixed variadic args.length = false) :
    Applies σ p args env r σ' ↔ (r, σ') = (.error (.arity, none), σ) :=
  (Stable.unfold fun n => applyLoop_arity_gate n σ env hp ha).trans
    (Stable.pure_iff.trans ⟨fun h => h.1.symm, fun h => ⟨h.symm, by cases h; exact .error_of (by simp)⟩⟩)
theorem Applies.builtin_iff {σ b args env r σ'} (hb : b ≠ .apply)
    (ha : arityOk b.arity.1 b.arity.2 args.length = true) :
    Applies σ (.builtin b) args env r σ' ↔ applyPure σ b args = (r, σ') :=
  (Stable.unfold fun n => applyLoop_builtin_step n σ env hb ha).trans
    (Stable.pure_iff.trans (and_iff_left_of_imp Prim.notFuel_applyPure))
theorem Applies.builtin_run {σ b args env r σ'} (hb : b ≠ .apply)
    (ha : arityOk b.arity.1 b.arity.2 args.length = true) (h : applyPure σ b args = (r, σ')) :
    Applies σ (.builtin b) args env r σ' :=
  (Applies.builtin_iff hb ha).2 h
/-- `builtin_run` with a hypothesis that `Prim.notFuel_applyPure` makes superfluous -/
theorem Applies.builtin {σ b args env r σ'} (hb : b ≠ .apply)
    (ha : arityOk b.arity.1 b.arity.2 args.length = true) (h : applyPure σ b args = (r, σ')) (hr : NotFuel r) :
    Applies σ (.builtin b) args env r σ' :=
  (fun _ => Applies.builtin_run hb ha h) hr
theorem Applies.builtin_outcome {σ b args env r σ'} (hb : b ≠ .apply) :
    Applies σ (.builtin b) args env r σ' ↔
      (r, σ') = (if arityOk b.arity.1 b.arity.2 args.length then applyPure σ b args else (.error (.arity, none), σ)) := by
  cases ha : arityOk b.arity.1 b.arity.2 args.length with
  | true => exact (Applies.builtin_iff hb ha).trans eq_comm
  | false => exact Applies.arity_iff rfl ha

/-- `ha`: the arity of `apply` is `(1, true)` -/
theorem Applies.apply_iff {σ : Store} {args : List Value} {env : Nat} {f args'} (ha : 1 ≤ args.length)
    (hs : spreadApply args = .ok (f, args')) (r σ') :
    Applies σ (.builtin .apply) args env r σ' ↔ Applies σ f args' env r σ' :=
  Stable.unfold fun n => by rw [applyLoop_apply n σ env ha, hs]

theorem Applies.apply {σ args env f args' r σ'} (ha : 1 ≤ args.length) (hs : spreadApply args = .ok (f, args'))
    (h : Applies σ f args' env r σ') : Applies σ (.builtin .apply) args env r σ' :=
  (Applies.apply_iff ha hs r σ').2 h
theorem Applies.apply_err {σ args env er} (ha : 1 ≤ args.length) (hs : spreadApply args = .error er) :
    Applies σ (.builtin .apply) args env (.error (er, none)) σ :=
  .const (.error_of (spreadApply_ne_fuel hs)) fun n => applyLoop_apply_err n σ env ha hs

/-- what the trampoline does with a pending call `(f targs…)` of frame `tenv`: operator, operands,
the procedure test, and THE LOOP CONTINUES with the callee (`Applies`, not `AppliesProc`) -/
def PendingRuns (env : Nat) (σ₁ : Store) (tenv : Nat) (f : Expr) (targs : List Expr)
    (r : Except SErr Value) (σ' : Store) : Prop :=
  (∃ er, Evals σ₁ tenv f (.error er) σ' ∧ r = .error er) ∨
  (∃ fv σ₂, Evals σ₁ tenv f (.ok fv) σ₂ ∧
    ((∃ er, EvalsArgs σ₂ tenv targs (.error er) σ' ∧ r = .error er) ∨
     (∃ vs σ₃, EvalsArgs σ₂ tenv targs (.ok vs) σ₃ ∧
       ((procArity fv = none ∧ r = .error (.nonProcedure, f.loc) ∧ σ' = σ₃) ∨
        ((procArity fv).isSome ∧ Applies σ₃ fv vs env r σ')))))

namespace PendingRuns
variable {env : Nat} {σ₁ : Store} {tenv : Nat} {f : Expr} {targs : List Expr}

theorem op_err {er σ₂} (hf : Evals σ₁ tenv f (.error er) σ₂) : PendingRuns env σ₁ tenv f targs (.error er) σ₂ :=
  .inl ⟨er, hf, rfl⟩
/-- unlike `Evals.call_iff`: an operand error is reported whatever the operator evaluated to -/
theorem arg_err {fv σ₂ er σ₃} (hf : Evals σ₁ tenv f (.ok fv) σ₂) (hargs : EvalsArgs σ₂ tenv targs (.error er) σ₃) :
    PendingRuns env σ₁ tenv f targs (.error er) σ₃ :=
  .inr ⟨fv, σ₂, hf, .inl ⟨er, hargs, rfl⟩⟩
theorem nonproc {fv σ₂ vs σ₃} (hf : Evals σ₁ tenv f (.ok fv) σ₂) (hargs : EvalsArgs σ₂ tenv targs (.ok vs) σ₃)
    (hp : procArity fv = none) : PendingRuns env σ₁ tenv f targs (.error (.nonProcedure, f.loc)) σ₃ :=
  .inr ⟨fv, σ₂, hf, .inr ⟨vs, σ₃, hargs, .inl ⟨hp, rfl, rfl⟩⟩⟩
theorem ok {fv σ₂ vs σ₃ r σ'} (hf : Evals σ₁ tenv f (.ok fv) σ₂) (hargs : EvalsArgs σ₂ tenv targs (.ok vs) σ₃)
    (hp : (procArity fv).isSome) (hl : Applies σ₃ fv vs env r σ') : PendingRuns env σ₁ tenv f targs r σ' :=
  .inr ⟨fv, σ₂, hf, .inr ⟨vs, σ₃, hargs, .inr ⟨hp, hl⟩⟩⟩
end PendingRuns

theorem pendingRuns_iff {env σ₁ tenv f targs r σ'} :
    Stable (pendingCall · σ₁ tenv f targs env) r σ' ↔ PendingRuns env σ₁ tenv f targs r σ' := by
  refine (Stable.andThen_iff (fuelMono_expr σ₁ tenv f)).trans
    (or_congr_right (exists_congr fun fv => exists_congr fun σ₂ => and_congr_right fun _ => ?_))
  refine (Stable.andThen_iff (fuelMono_args σ₂ tenv targs)).trans
    (or_congr_right (exists_congr fun vs => exists_congr fun σ₃ => and_congr_right fun _ => Stable.ite.trans ?_))
  cases procArity fv with
  | none => exact (Stable.error_iff (by simp)).trans ⟨fun h => .inl ⟨rfl, h⟩, by rintro (⟨_, h⟩ | ⟨h, _⟩); exact h; cases h⟩
  | some ar => exact ⟨fun h => .inr ⟨rfl, h⟩, by rintro (⟨h, _⟩ | ⟨_, h⟩); cases h; exact h⟩

section closure
variable {σ : Store} {lam : Lambda} {cenv : Nat} {args : List Value} {env : Nat}

theorem Applies.closure_iff {r σ'}
    (ha : arityOk lam.formals.fixed.length lam.formals.rest.isSome args.length = true) :
    Applies σ (.closure lam cenv) args env r σ' ↔
      (∃ er, AppliesScheme σ lam cenv args (.error er) σ' ∧ r = .error er) ∨
      ∃ t σ₁, AppliesScheme σ lam cenv args (.ok t) σ₁ ∧
        match t with
        | .value v => r = .ok v ∧ σ' = σ₁
        | .tailCall f targs tenv => PendingRuns env σ₁ tenv f targs r σ' := by
  refine (Stable.seq_iff (applyLoop_closure · σ cenv env ha) (fuelMono_scheme σ lam cenv args)).trans
    (or_congr_right (exists_congr fun t => exists_congr fun σ₁ => and_congr_right fun _ => ?_))
  cases t
  · exact Stable.ok_iff
  · exact pendingRuns_iff

theorem Applies.closure_err {er σ₁}
    (ha : arityOk lam.formals.fixed.length lam.formals.rest.isSome args.length = true)
    (hs : AppliesScheme σ lam cenv args (.error er) σ₁) : Applies σ (.closure lam cenv) args env (.error er) σ₁ :=
  (Applies.closure_iff ha).2 (.inl ⟨er, hs, rfl⟩)
theorem Applies.closure_value {v σ₁}
    (ha : arityOk lam.formals.fixed.length lam.formals.rest.isSome args.length = true)
    (hs : AppliesScheme σ lam cenv args (.ok (.value v)) σ₁) : Applies σ (.closure lam cenv) args env (.ok v) σ₁ :=
  (Applies.closure_iff ha).2 (.inr ⟨_, σ₁, hs, rfl, rfl⟩)
theorem Applies.closure_tail_iff {f targs tenv σ₁ fv σ₂ vs σ₃}
    (ha : arityOk lam.formals.fixed.length lam.formals.rest.isSome args.length = true)
    (hs : AppliesScheme σ lam cenv args (.ok (.tailCall f targs tenv)) σ₁)
    (hf : Evals σ₁ tenv f (.ok fv) σ₂) (hargs : EvalsArgs σ₂ tenv targs (.ok vs) σ₃)
    (hp : (procArity fv).isSome) (r σ') :
    Applies σ (.closure lam cenv) args env r σ' ↔ Applies σ₃ fv vs env r σ' := by
  refine (Applies.closure_iff ha).trans (hs.seq_of_ok.trans (hf.seq_of_ok.trans (hargs.seq_of_ok.trans ?_)))
  exact ⟨by rintro (⟨h, _⟩ | ⟨_, h⟩); rw [h] at hp; cases hp; exact h, fun h => .inr ⟨hp, h⟩⟩
end closure

theorem PendingRuns.applies {env σ lam cenv args f targs tenv σ₁ r σ'}
    (ha : arityOk lam.formals.fixed.length lam.formals.rest.isSome args.length = true)
    (hs : AppliesScheme σ lam cenv args (.ok (.tailCall f targs tenv)) σ₁)
    (h : PendingRuns env σ₁ tenv f targs r σ') : Applies σ (.closure lam cenv) args env r σ' :=
  (Applies.closure_iff ha).2 (.inr ⟨_, σ₁, hs, h⟩)
theorem Applies.closure_tail {σ lam cenv args env f targs tenv σ₁ fv σ₂ vs σ₃ r σ'}
    (ha : arityOk lam.formals.fixed.length lam.formals.rest.isSome args.length = true)
    (hs : AppliesScheme σ lam cenv args (.ok (.tailCall f targs tenv)) σ₁)
    (hf : Evals σ₁ tenv f (.ok fv) σ₂) (hargs : EvalsArgs σ₂ tenv targs (.ok vs) σ₃)
    (hp : (procArity fv).isSome) (hl : Applies σ₃ fv vs env r σ') :
    Applies σ (.closure lam cenv) args env r σ' :=
  (PendingRuns.ok hf hargs hp hl).applies ha hs

/-! ## procedure bodies -/

/-- `apply_scheme_procedure`; `ρ` is the new frame, the next frame number -/
theorem AppliesScheme.iff {σ lam cenv args rt σ'} {ρ : Nat} (hρ : ρ = σ.frames.size) :
    AppliesScheme σ lam cenv args rt σ' ↔
    (∃ e σ₁, bindFixed (σ.newFrame (some cenv)).2 ρ lam.formals.fixed args = (.error e, σ₁) ∧
      rt = .error (e, none) ∧ σ' = σ₁) ∨
    (∃ restArgs σ₁, bindFixed (σ.newFrame (some cenv)).2 ρ lam.formals.fixed args = (.ok restArgs, σ₁) ∧
      ((∃ er, EvalsDefs (Ref.bindRest σ₁ ρ lam.formals.rest restArgs) ρ lam.defs (.error er) σ' ∧ rt = .error er) ∨
       (∃ σ₂, EvalsDefs (Ref.bindRest σ₁ ρ lam.formals.rest restArgs) ρ lam.defs (.ok ()) σ₂ ∧
          EvalsBody σ₂ ρ lam.body rt σ'))) := by
  subst hρ
  refine (Stable.unfold (applyScheme_seq · σ lam cenv args)).trans ?_
  rcases hb : bindFixed (σ.newFrame (some cenv)).2 (σ.newFrame (some cenv)).1 lam.formals.fixed args with ⟨e | restArgs, σ₁⟩
  · refine (Stable.error_iff (bindFixed_error_ne_fuel hb)).trans ⟨fun h => .inl ⟨e, σ₁, hb, h⟩, ?_⟩
    rintro (⟨_, _, h, h'⟩ | ⟨_, _, h, _⟩) <;> cases hb.symm.trans h
    exact h'
  · refine (Stable.andThen_iff (fuelMono_defs _ _ lam.defs)).trans ⟨fun h => .inr ⟨restArgs, σ₁, hb, ?_⟩, ?_⟩
    · exact h.imp_right fun ⟨_, σ₂, hd, hbody⟩ => ⟨σ₂, hd, hbody⟩
    · rintro (⟨_, _, h, _⟩ | ⟨_, _, h, h'⟩) <;> cases hb.symm.trans h
      exact h'.imp_right fun ⟨σ₂, hd, hbody⟩ => ⟨(), σ₂, hd, hbody⟩

theorem AppliesScheme.intro_ok {σ lam cenv args restArgs σ₁ σ₂ r σ'}
    (hb : bindFixed (σ.newFrame (some cenv)).2 (σ.newFrame (some cenv)).1 lam.formals.fixed args = (.ok restArgs, σ₁))
    (hd : EvalsDefs (Ref.bindRest σ₁ (σ.newFrame (some cenv)).1 lam.formals.rest restArgs)
            (σ.newFrame (some cenv)).1 lam.defs (.ok ()) σ₂)
    (hbody : EvalsBody σ₂ (σ.newFrame (some cenv)).1 lam.body r σ') : AppliesScheme σ lam cenv args r σ' :=
  (AppliesScheme.iff rfl).2 (.inr ⟨restArgs, σ₁, hb, .inr ⟨σ₂, hd, hbody⟩⟩)

theorem EvalsDefs.nil_iff {σ ρ r σ'} : EvalsDefs σ ρ [] r σ' ↔ r = .ok () ∧ σ' = σ :=
  (Stable.unfold (evalDefs_nil · σ ρ)).trans Stable.ok_iff

theorem EvalsDefs.cons_iff {σ ρ x e l ds r σ'} :
    EvalsDefs σ ρ (.mk x e l :: ds) r σ' ↔
      (∃ er, Evals σ ρ e (.error er) σ' ∧ r = .error er) ∨
      (∃ v σ₁, Evals σ ρ e (.ok v) σ₁ ∧ EvalsDefs (σ₁.define ρ x v) ρ ds r σ') :=
  Stable.seq_iff (evalDefs_cons · σ ρ x e l ds) (fuelMono_expr σ ρ e)

theorem EvalsDefs.nil {σ ρ} : EvalsDefs σ ρ [] (.ok ()) σ := EvalsDefs.nil_iff.2 ⟨rfl, rfl⟩
theorem EvalsDefs.cons {σ ρ x e l ds v σ₁ r σ'} (h : Evals σ ρ e (.ok v) σ₁)
    (ht : EvalsDefs (σ₁.define ρ x v) ρ ds r σ') : EvalsDefs σ ρ (.mk x e l :: ds) r σ' :=
  EvalsDefs.cons_iff.2 (.inr ⟨v, σ₁, h, ht⟩)
theorem EvalsDefs.cons_err {σ ρ x e l ds er σ₁} (h : Evals σ ρ e (.error er) σ₁) :
    EvalsDefs σ ρ (.mk x e l :: ds) (.error er) σ₁ :=
  EvalsDefs.cons_iff.2 (.inl ⟨er, h, rfl⟩)

theorem evalsDefs_iff_defsSeq {σ ρ ds r σ'} :
    EvalsDefs σ ρ ds r σ' ↔ Ref.DefsSeq (fun σ e r σ' => Evals σ ρ e r σ') ρ σ ds r σ' := by
  induction ds generalizing σ with
  | nil => exact EvalsDefs.nil_iff
  | cons d ds ih => obtain ⟨x, e, l⟩ := d; simp only [Ref.DefsSeq, ← ih]; exact EvalsDefs.cons_iff

theorem EvalsBody.last_iff {σ ρ e r σ'} : EvalsBody σ ρ [e] r σ' ↔ EvalsTail σ ρ e r σ' :=
  Stable.unfold (evalBody_last · σ ρ e)

theorem EvalsBody.cons_iff {σ ρ e e' es r σ'} :
    EvalsBody σ ρ (e :: e' :: es) r σ' ↔
      (∃ er, Evals σ ρ e (.error er) σ' ∧ r = .error er) ∨
      (∃ v σ₁, Evals σ ρ e (.ok v) σ₁ ∧ EvalsBody σ₁ ρ (e' :: es) r σ') :=
  Stable.seq_iff (evalBody_cons · σ ρ e e' es) (fuelMono_expr σ ρ e)

theorem EvalsBody.last {σ ρ e r σ'} (h : EvalsTail σ ρ e r σ') : EvalsBody σ ρ [e] r σ' := EvalsBody.last_iff.2 h
theorem EvalsBody.cons {σ ρ e e' es v σ₁ r σ'} (h : Evals σ ρ e (.ok v) σ₁) (ht : EvalsBody σ₁ ρ (e' :: es) r σ') :
    EvalsBody σ ρ (e :: e' :: es) r σ' :=
  EvalsBody.cons_iff.2 (.inr ⟨v, σ₁, h, ht⟩)
theorem EvalsBody.cons_err {σ ρ e e' es er σ₁} (h : Evals σ ρ e (.error er) σ₁) :
    EvalsBody σ ρ (e :: e' :: es) (.error er) σ₁ :=
  EvalsBody.cons_iff.2 (.inl ⟨er, h, rfl⟩)

/-! ## tail expressions -/

theorem EvalsTail.call {σ ρ f args l} : EvalsTail σ ρ (.call f args l) (.ok (.tailCall f args ρ)) σ :=
  .const (by simp) fun n => evalTail_call n σ ρ f args l

theorem EvalsTail.cond_iff {σ ρ t c a l r σ'} :
    EvalsTail σ ρ (.cond t c a l) r σ' ↔
      (∃ er, Evals σ ρ t (.error er) σ' ∧ r = .error er) ∨
      ∃ tv σ₁, Evals σ ρ t (.ok tv) σ₁ ∧
        if tv.truthy then EvalsTail σ₁ ρ c r σ'
        else match a with
          | some alt => EvalsTail σ₁ ρ alt r σ'
          | none => r = .ok (.value .void) ∧ σ' = σ₁ :=
  (Stable.seq_iff (evalTail_cond · σ ρ t c a l) (fuelMono_expr σ ρ t)).trans
    (or_congr_right (exists_congr fun _ => exists_congr fun _ => and_congr_right fun _ => Stable.arm_iff))

theorem EvalsTail.cond_iff_of {σ ρ t c a l tv σ₁} (ht : Evals σ ρ t (.ok tv) σ₁) (r σ') :
    EvalsTail σ ρ (.cond t c a l) r σ' ↔
      if tv.truthy then EvalsTail σ₁ ρ c r σ'
      else match a with
        | some alt => EvalsTail σ₁ ρ alt r σ'
        | none => r = .ok (.value .void) ∧ σ' = σ₁ :=
  EvalsTail.cond_iff.trans ht.seq_of_ok

theorem EvalsTail.cond_err {σ ρ t c a l er σ₁} (ht : Evals σ ρ t (.error er) σ₁) :
    EvalsTail σ ρ (.cond t c a l) (.error er) σ₁ :=
  EvalsTail.cond_iff.2 (.inl ⟨er, ht, rfl⟩)
theorem EvalsTail.cond_true {σ ρ t c a l tv σ₁ r σ'} (ht : Evals σ ρ t (.ok tv) σ₁) (htv : tv.truthy = true)
    (hc : EvalsTail σ₁ ρ c r σ') : EvalsTail σ ρ (.cond t c a l) r σ' :=
  (EvalsTail.cond_iff_of ht r σ').2 (by rwa [if_pos htv])
theorem EvalsTail.cond_false {σ ρ t c alt l tv σ₁ r σ'} (ht : Evals σ ρ t (.ok tv) σ₁) (htv : tv.truthy = false)
    (hc : EvalsTail σ₁ ρ alt r σ') : EvalsTail σ ρ (.cond t c (some alt) l) r σ' :=
  (EvalsTail.cond_iff_of ht r σ').2 (by rwa [if_neg (Bool.eq_false_iff.1 htv)])
theorem EvalsTail.cond_void {σ ρ t c l tv σ₁} (ht : Evals σ ρ t (.ok tv) σ₁) (htv : tv.truthy = false) :
    EvalsTail σ ρ (.cond t c none l) (.ok (.value .void)) σ₁ :=
  (EvalsTail.cond_iff_of ht _ _).2 (by rw [if_neg (Bool.eq_false_iff.1 htv)]; exact ⟨rfl, rfl⟩)

theorem EvalsTail.other_iff {σ ρ e r σ'} (hcall : ∀ f as l, e ≠ .call f as l) (hcond : ∀ t c a l, e ≠ .cond t c a l) :
    EvalsTail σ ρ e r σ' ↔
      (∃ er, Evals σ ρ e (.error er) σ' ∧ r = .error er) ∨ ∃ v, Evals σ ρ e (.ok v) σ' ∧ r = .ok (.value v) := by
  refine (Stable.seq_iff (fun n => evalTail_other hcall hcond) (fuelMono_expr σ ρ e)).trans (or_congr_right ⟨?_, ?_⟩)
  · rintro ⟨v, σ₁, S, h⟩; obtain ⟨rfl, rfl⟩ := Stable.ok_iff.1 h; exact ⟨v, S, rfl⟩
  · rintro ⟨v, S, rfl⟩; exact ⟨v, σ', S, Stable.ok_iff.2 ⟨rfl, rfl⟩⟩
theorem EvalsTail.other {σ ρ e v σ'} (hcall : ∀ f as l, e ≠ .call f as l) (hcond : ∀ t c a l, e ≠ .cond t c a l)
    (h : Evals σ ρ e (.ok v) σ') : EvalsTail σ ρ e (.ok (.value v)) σ' :=
  (EvalsTail.other_iff hcall hcond).2 (.inr ⟨v, h, rfl⟩)
theorem EvalsTail.other_err {σ ρ e er σ'} (hcall : ∀ f as l, e ≠ .call f as l) (hcond : ∀ t c a l, e ≠ .cond t c a l)
    (h : Evals σ ρ e (.error er) σ') : EvalsTail σ ρ e (.error er) σ' :=
  (EvalsTail.other_iff hcall hcond).2 (.inl ⟨er, h, rfl⟩)

theorem evalsBody_iff {σ ρ es last r σ'} :
    EvalsBody σ ρ (es ++ [last]) r σ' ↔
      (∃ er, Ref.MapEvals (fun σ e r σ' => Evals σ ρ e r σ') σ es (.error er) σ' ∧ r = .error er) ∨
      (∃ vs σ₁, Ref.MapEvals (fun σ e r σ' => Evals σ ρ e r σ') σ es (.ok vs) σ₁ ∧ EvalsTail σ₁ ρ last r σ') := by
  induction es generalizing σ with
  | nil =>
    simp only [List.nil_append, Ref.MapEvals]
    refine EvalsBody.last_iff.trans ⟨fun h => .inr ⟨[], σ, ⟨rfl, rfl⟩, h⟩, ?_⟩
    rintro (⟨_, ⟨⟨⟩, _⟩, _⟩ | ⟨_, _, ⟨_, rfl⟩, h⟩)
    exact h
  | cons e es ih =>
    obtain ⟨e', es', hes⟩ : ∃ e' es', es ++ [last] = e' :: es' := by cases es <;> exact ⟨_, _, rfl⟩
    simp only [List.cons_append, Ref.MapEvals]
    rw [hes] at ih ⊢
    refine EvalsBody.cons_iff.trans ⟨?_, ?_⟩
    · rintro (⟨er, h₁, rfl⟩ | ⟨v, σ₁, h₁, h₂⟩)
      · exact .inl ⟨er, .inl ⟨er, h₁, rfl⟩, rfl⟩
      · rcases ih.mp h₂ with ⟨er, h₃, rfl⟩ | ⟨vs, σ₂, h₃, h₄⟩
        · exact .inl ⟨er, .inr ⟨v, σ₁, h₁, .inl ⟨er, h₃, rfl⟩⟩, rfl⟩
        · exact .inr ⟨v :: vs, σ₂, .inr ⟨v, σ₁, h₁, .inr ⟨vs, h₃, rfl⟩⟩, h₄⟩
    · rintro (⟨er, (⟨_, h₁, ⟨⟩⟩ | ⟨v, σ₁, h₁, (⟨_, h₃, ⟨⟩⟩ | ⟨_, _, ⟨⟩⟩)⟩), rfl⟩ |
              ⟨_, σ₂, (⟨_, _, ⟨⟩⟩ | ⟨v, σ₁, h₁, (⟨_, _, ⟨⟩⟩ | ⟨vs, h₃, ⟨⟩⟩)⟩), h₄⟩)
      · exact .inl ⟨_, h₁, rfl⟩
      · exact .inr ⟨v, σ₁, h₁, ih.mpr (.inl ⟨_, h₃, rfl⟩)⟩
      · exact .inr ⟨v, σ₁, h₁, ih.mpr (.inr ⟨_, _, h₃, h₄⟩)⟩

/-! ## lists whose members all evaluate

`EvalsSeq ρ σ es σ'` says `∃ vs, EvalsArgs σ ρ es (.ok vs) σ'`, `EvalsDefSeq ρ σ ds σ'` says
`EvalsDefs σ ρ ds (.ok ()) σ'`: the shape in which C02 and C08 say that everything before a point of a body has
been evaluated. -/

inductive EvalsSeq (ρ : Nat) : Store → List Expr → Store → Prop
  | nil {σ} : EvalsSeq ρ σ [] σ
  | cons {σ e v σ₁ es σ'} (h : Evals σ ρ e (.ok v) σ₁) (ht : EvalsSeq ρ σ₁ es σ') : EvalsSeq ρ σ (e :: es) σ'

theorem EvalsArgs.of_seq {ρ σ es σ'} (h : EvalsSeq ρ σ es σ') : ∃ vs, EvalsArgs σ ρ es (.ok vs) σ' := by
  induction h with
  | nil => exact ⟨[], EvalsArgs.nil⟩
  | cons h _ ih => obtain ⟨vs, hvs⟩ := ih; exact ⟨_, EvalsArgs.cons h hvs⟩

theorem EvalsBody.seq_last {ρ σ es σ₁ last r σ'} (hs : EvalsSeq ρ σ es σ₁) (ht : EvalsTail σ₁ ρ last r σ') :
    EvalsBody σ ρ (es ++ [last]) r σ' :=
  let ⟨vs, h⟩ := EvalsArgs.of_seq hs
  evalsBody_iff.2 (.inr ⟨vs, σ₁, evalsArgs_iff_mapEvals.1 h, ht⟩)

theorem EvalsBody.seq_err {ρ σ es σ₁ e er σ₂ e' post} (hs : EvalsSeq ρ σ es σ₁)
    (he : Evals σ₁ ρ e (.error er) σ₂) : EvalsBody σ ρ (es ++ e :: e' :: post) (.error er) σ₂ := by
  induction hs with
  | nil => exact EvalsBody.cons_err he
  | @cons σ x v σ₁ es σ₃ h _ ih =>
    have := ih he
    cases es <;> exact EvalsBody.cons h this

inductive EvalsDefSeq (ρ : Nat) : Store → List Def → Store → Prop
  | nil {σ} : EvalsDefSeq ρ σ [] σ
  | cons {σ x e l v σ₁ ds σ'} (h : Evals σ ρ e (.ok v) σ₁) (ht : EvalsDefSeq ρ (σ₁.define ρ x v) ds σ') :
      EvalsDefSeq ρ σ (.mk x e l :: ds) σ'

theorem EvalsDefs.seq_then {ρ σ ds σ₁ rest r σ'} (hs : EvalsDefSeq ρ σ ds σ₁) (ht : EvalsDefs σ₁ ρ rest r σ') :
    EvalsDefs σ ρ (ds ++ rest) r σ' := by
  induction hs with
  | nil => exact ht
  | cons h _ ih => exact EvalsDefs.cons h (ih ht)

theorem EvalsDefs.of_seq {ρ σ ds σ'} (h : EvalsDefSeq ρ σ ds σ') : EvalsDefs σ ρ ds (.ok ()) σ' := by
  have := EvalsDefs.seq_then h (EvalsDefs.nil (ρ := ρ))
  simpa using this

theorem EvalsDefs.seq_err {ρ σ ds σ₁ x e l er σ₂ post} (hs : EvalsDefSeq ρ σ ds σ₁)
    (he : Evals σ₁ ρ e (.error er) σ₂) : EvalsDefs σ ρ (ds ++ .mk x e l :: post) (.error er) σ₂ :=
  EvalsDefs.seq_then hs (EvalsDefs.cons_err he)

/-! ## the applications performed by one run of the trampoline -/

/-- `Reaches env σ p args σq q qargs`: the loop started in `σ` with `p` and `args` arrives, in store `σq`, at the head of
an iteration with `q` and `qargs` — through `apply` and through pending tail calls. Every procedure the loop applies
is reached this way. -/
inductive Reaches (env : Nat) : Store → Value → List Value → Store → Value → List Value → Prop
  | refl {σ p args} : Reaches env σ p args σ p args
  | apply {σ args f args' σq q qargs} (ha : 1 ≤ args.length) (hs : spreadApply args = .ok (f, args'))
      (h : Reaches env σ f args' σq q qargs) : Reaches env σ (.builtin .apply) args σq q qargs
  | tail {σ lam cenv args f targs tenv σ₁ fv σ₂ vs σ₃ σq q qargs}
      (ha : arityOk lam.formals.fixed.length lam.formals.rest.isSome args.length = true)
      (hs : AppliesScheme σ lam cenv args (.ok (.tailCall f targs tenv)) σ₁)
      (hf : Evals σ₁ tenv f (.ok fv) σ₂) (hargs : EvalsArgs σ₂ tenv targs (.ok vs) σ₃)
      (hp : (procArity fv).isSome) (h : Reaches env σ₃ fv vs σq q qargs) :
      Reaches env σ (.closure lam cenv) args σq q qargs

theorem Reaches.applies {env σ p args σq q qargs r σ'} (h : Reaches env σ p args σq q qargs)
    (hq : Applies σq q qargs env r σ') : Applies σ p args env r σ' := by
  induction h with
  | refl => exact hq
  | apply ha hs _ ih => exact Applies.apply ha hs (ih hq)
  | tail ha hs hf hargs hp _ ih => exact Applies.closure_tail ha hs hf hargs hp (ih hq)

theorem Reaches.trans {env σ p args σ₁ p₁ args₁ σ₂ p₂ args₂} (h : Reaches env σ p args σ₁ p₁ args₁)
    (h₂ : Reaches env σ₁ p₁ args₁ σ₂ p₂ args₂) : Reaches env σ p args σ₂ p₂ args₂ := by
  induction h with
  | refl => exact h₂
  | apply ha hs _ ih => exact .apply ha hs (ih h₂)
  | tail ha hs hf hargs hp _ ih => exact .tail ha hs hf hargs hp (ih h₂)

/-! ## the frame of the caller -/

theorem Applies.env_irrel {σ p args env r σ'} (h : Applies σ p args env r σ') (env' : Nat) :
    Applies σ p args env' r σ' :=
  (congrArg (Stable · r σ') (funext fun n => applyLoop_env n σ p args env' env)).mpr h

end Ruschm.Eval
