/-
Over the characters of one token the REPL's bracket counter `Bracket.step` returns to `.normal` and
changes the count by the token's weight; atmosphere leaves the count unchanged. So over a text that
tokenises without error the count is the nesting depth of its tokens.
-/
import RuschmProofs.LexToken
namespace Ruschm.Text
open Ruschm Ruschm.Lex Ruschm.Bracket

/-! ## the bracket counter over the characters of a token -/

theorem step_plain (n : Int) (c : Char) (h : c ∉ specials) : step (.normal, n) c = (.normal, n) := by
  simp only [specials, List.mem_cons, List.not_mem_nil, or_false, not_or] at h
  simp [step, normalStep, h]

theorem fold_noSpecial (n : Int) (u : List Char) (h : NoSpecial u) :
    u.foldl step (.normal, n) = (.normal, n) := by
  induction u with
  | nil => rfl
  | cons c u ih =>
    obtain ⟨hc, hu⟩ := List.forall_mem_cons.1 h
    rw [List.foldl_cons, step_plain n c hc]
    exact ih hu

theorem fold_strBody (n : Int) (u : List Char) (h : StrBody u) :
    u.foldl step (.str, n) = (.normal, n) := by
  induction h with
  | close => rfl
  | esc c r _ ih => simpa [step] using ih
  | lit c r h1 h2 _ ih => simpa [step, h1, h2] using ih

theorem fold_bar (n : Int) (body : List Char) (h : '|' ∉ body) :
    (body ++ ['|']).foldl step (.bar, n) = (.normal, n) := by
  induction body with
  | nil => rfl
  | cons c body ih =>
    simp only [List.mem_cons, not_or] at h
    have hc : c ≠ '|' := fun e => h.1 e.symm
    simpa [step, hc] using ih h.2

theorem weight_atom {t : Token} (h : t = .period ∨ Syn.isAtomTok t = true) : weight t = 0 := by
  rcases h with rfl | h
  · rfl
  · cases t <;> first | rfl | cases h

theorem weight_sharp {t : Token} (h : sharpTok t = true) : weight t = 0 := by
  cases t <;> first | rfl | cases h

theorem fold_tokShape {rest : List Char} {t : Token} {used : List Char} (n : Int)
    (h : TokShape True rest t used) :
    used.foldl step (.normal, n) = (.normal, n + weight t) := by
  cases h with
  | word t used _ ht hn _ => rw [fold_noSpecial n used (hn trivial).1, weight_atom ht, Int.add_zero]
  | bool b x hx _ =>
    rw [show weight (.prim (.bool b)) = 0 from rfl, Int.add_zero]
    -- `#` puts the counter in mode `sharp`, where `t` and `f` are handled as in mode `normal`
    rcases hx with rfl | rfl <;> rfl
  | char t first run hs hn _ =>
    rw [weight_sharp hs, Int.add_zero]
    -- by computation: `sharp` after `#`, `charLit` after the backslash, `normal` after `first` whatever it is
    exact fold_noSpecial n run hn
  | str s body hb => rw [show weight (.prim (.str s)) = 0 from rfl, Int.add_zero]; exact fold_strBody n body hb
  | bar body hb => rw [show weight (.ident (String.ofList body)) = 0 from rfl, Int.add_zero]; exact fold_bar n body hb
  | lparen | rparen | vecIntro | byteVecIntro => rfl
  | quote | quasiquote | unquote | unquoteSplicing =>
    exact congrArg (Prod.mk Mode.normal) (Int.add_zero n).symm

/-! ## atmosphere -/

def modeOf (b : Bool) : Mode := if b then .comment else .normal

theorem step_atmos {b b' : Bool} {c : Char} (h : atmosStep b c = some b') (n : Int) :
    step (modeOf b, n) c = (modeOf b', n) := by
  cases b
  · rw [atmosStep] at h
    by_cases hw : isWs c = true
    · rw [if_pos hw] at h; cases h
      simp only [isWs, Bool.or_eq_true, decide_eq_true_eq] at hw
      rcases hw with ((rfl | rfl) | rfl) | rfl <;> rfl
    · rw [if_neg hw] at h
      by_cases hc : c = ';'
      · rw [if_pos hc] at h; cases h; subst hc; rfl
      · rw [if_neg hc] at h; cases h
  · cases h
    by_cases hn : (c = '\n' || c = '\r') = true <;> simp [step, modeOf, hn]

/-- back in normal mode unless a last comment runs to the end of the text -/
theorem fold_trail (b : Bool) (a : List Char) (n : Int) (h : isTrail b a = true) :
    ∃ b', a.foldl step (modeOf b, n) = (modeOf b', n) ∧ (isAtmos b a = true → b' = false) := by
  induction b, a, h using atmosStep_induction isTrail_cons with
  | nil b => exact ⟨b, rfl, fun h => by cases b <;> first | rfl | cases h⟩
  | cons hs _ _ ih => rw [isAtmos_cons, List.foldl_cons, hs, step_atmos hs]; exact ih

theorem fold_atmos (b : Bool) (a : List Char) (n : Int) (h : isAtmos b a = true) :
    a.foldl step (modeOf b, n) = (.normal, n) := by
  obtain ⟨b', h1, h2⟩ := fold_trail b a n (isTrail_of_isAtmos b a h)
  rw [h1, h2 h]; rfl

/-! ## a whole text -/

def wsum (ts : List LToken) : Int := (ts.map (fun t => weight t.tok)).sum

theorem next_none_fold {cs : List Char} {p : Pos} (h : next cs p = .ok none) (n : Int) :
    (cs.foldl step (.normal, n)).2 = n := by
  obtain ⟨a, h1, -, -, h4, h5⟩ := skipAtmosphere_inv false cs p
  rcases token_tracks (cs := (skipAtmosphere false cs p).1) h with e | e <;> rw [e] at h1 h5 <;>
    rw [h1]
  · obtain ⟨b', h, -⟩ := fold_trail false a n h4
    rw [List.append_nil]; exact congrArg Prod.snd h
  · rw [List.foldl_append, show a.foldl step (.normal, n) = (.normal, n) from
      fold_atmos false a n (h5 (by simp))]
    simp [step, normalStep]

theorem stream_bracket {cs : List Char} {p : Pos} {ts : List LToken} {e : Option LexErr}
    (h : Stream cs p ts e) (he : e = none) (n : Int) :
    (cs.foldl step (.normal, n)).2 = n + wsum ts := by
  induction h generalizing n with
  | eof hn => simp [wsum, next_none_fold hn n]
  | err => cases he
  | tok hn _ ih =>
    obtain ⟨a, used, h1, -, h3, h4⟩ := next_inv hn
    rw [h1, List.foldl_append, List.foldl_append,
      show a.foldl step (.normal, n) = (.normal, n) from fold_atmos false a n h3,
      fold_tokShape n h4, ih he]
    simp [wsum]; omega

theorem depth_eq_sum (ts : List Token) : depth ts = (ts.map weight).sum := by
  induction ts with
  | nil => rfl
  | cons t ts ih =>
    rw [List.map_cons, List.sum_cons, ← ih]
    have hw : weight t = ((if t == .lparen then 1 else 0) + (if t == .vecIntro then 1 else 0)
        + (if t == .byteVecIntro then 1 else 0) : Nat) - ((if t == .rparen then 1 else 0 : Nat) : Int) := by
      cases t <;> rfl
    simp only [depth, List.count_cons, hw]
    omega

theorem bracket_run_eq (cs : List Char) (ts : List LToken) (h : Lex.all cs = (ts, none)) :
    (Bracket.run cs).2 = depth (ts.map (·.tok)) := by
  have hs := all_stream cs
  rw [h] at hs
  simp only [Bracket.run, stream_bracket hs rfl 0, depth_eq_sum, wsum, List.map_map]
  simp [Function.comp_def]

theorem bracket_closed_eq (cs : List Char) (ts : List LToken) (h : Lex.all cs = (ts, none)) :
    Bracket.closed cs = decide (depth (ts.map (·.tok)) ≤ 0) := by
  simp only [Bracket.closed, bracket_run_eq cs ts h]

end Ruschm.Text
