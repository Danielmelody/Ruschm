/-
Property C07 — no panic, and the interpreter stays usable — for the file entry points of the model:
the lookup directory (`State.dir`, `fileKey`, `dirOf`), the file table changing between steps, and
the program-file entry point `Interp.evalFile` (`Interpreter::eval_file`).

`RuschmProofs/C07.lean` proves the property for sessions of TEXTS. Here:

1. `safe_ignores_dir` — the invariant `Interp.Safe` does not read `dir` or `files`: a file system
   is arbitrary data;
2. `evalFile_no_panic`, `evalFile_outcomes` — `evalFile` of ANY path (missing, unreadable, any text)
   never panics, keeps the state safe; the two io-error branches are stated as such;
3. `steps_no_panic`, `session_no_panic`, `session_generalises_run` — sessions whose steps are texts,
   program files, changes of the lookup directory and changes of the file system;
4. `library_files_with_any_content_no_panic`, `bad_library_file_is_reported` — a library file with
   arbitrary content under an arbitrary directory.

Helper lemmas: `RuschmProofs/SafeFilesLemmas.lean`. Vocabulary: `RuschmSpec/Safe.lean`.
-/
import RuschmProofs.SafeFilesLemmas
import RuschmProofs.C07

namespace Ruschm.C07Files
open Ruschm Interp

/-! ## Vocabulary: sessions of steps -/

/-- one step of a session with the interpreter and the file system around it -/
inductive Step where
  /-- `Interpreter::eval` on a text, with the model's fuel -/
  | text (fuel : Nat) (t : List Char)
  /-- `Interpreter::eval_file` on a path, with the model's fuel -/
  | file (fuel : Nat) (path : String)
  /-- a program directory is recorded (what `eval_file` does first; the harness field `D`) -/
  | setDir (d : String)
  /-- the file system changes: `key` now holds `entry` (a text, or something unreadable); an
  earlier entry under the same key is shadowed -/
  | addFile (key : String) (entry : FileEntry)
  /-- the file system changes: nothing is at `key` any more -/
  | removeFile (key : String)
  /-- the file system is replaced altogether -/
  | setFiles (files : List (String × FileEntry))

/-- one step: the outcome, if the step evaluates something, and the next state -/
def step (st : State) : Step → Option (Except SErr (Option Value)) × State
  | .text fuel t => (some (evalText fuel st t).1, (evalText fuel st t).2)
  | .file fuel path => (some (evalFile fuel st path).1, (evalFile fuel st path).2)
  | .setDir d => (none, { st with dir := d })
  | .addFile key entry => (none, { st with files := (key, entry) :: st.files })
  | .removeFile key => (none, { st with files := st.files.filter (fun p => p.1 ≠ key) })
  | .setFiles files => (none, { st with files := files })

/-- a session: the outcomes of the evaluating steps in order, and the final state -/
def runSteps (st : State) : List Step → List (Except SErr (Option Value)) × State
  | [] => ([], st)
  | s :: rest => ((step st s).1.toList ++ (runSteps (step st s).2 rest).1, (runSteps (step st s).2 rest).2)

/-- the sanity form -/
def probe : List Char := "((lambda (x) x) 42)".toList

/-- `addFile` does what it says: the entry is what a lookup under that key now finds -/
example (st : State) (k : String) (e : FileEntry) :
    (step st (.addFile k e)).2.files.lookup k = some e := by
  simp [step]

/-! ## 1. The invariant does not read the directory or the files -/

/-- `Interp.Safe` does not depend on the lookup directory or on the file system: a state is safe
exactly when the same state with ANY other directory and ANY other file table is; in particular
safety is kept by recording any directory, by adding any entry — a text or something unreadable —
under any key (shadowing or not), and by removing entries. -/
theorem safe_ignores_dir (st : State) :
    (∀ d, Interp.Safe { st with dir := d } ↔ Interp.Safe st) ∧
    (∀ fs d, Interp.Safe { st with files := fs, dir := d } ↔ Interp.Safe st) ∧
    (∀ key entry, Interp.Safe { st with files := (key, entry) :: st.files } ↔ Interp.Safe st) ∧
    (∀ key entry, Interp.Safe { st with files := assocInsert st.files key entry } ↔ Interp.Safe st) ∧
    (∀ key, Interp.Safe { st with files := st.files.filter (fun p => p.1 ≠ key) } ↔ Interp.Safe st) :=
  ⟨fun _ => ⟨fun h => h.congr, fun h => h.congr⟩,
   fun _ _ => ⟨fun h => h.congr, fun h => h.congr⟩,
   fun _ _ => ⟨fun h => h.congr, fun h => h.congr⟩,
   fun _ _ => ⟨fun h => h.congr, fun h => h.congr⟩,
   fun _ => ⟨fun h => h.congr, fun h => h.congr⟩⟩

/-- a safe state with a directory and an unreadable file put next to it -/
example : Interp.Safe { Interp.default_ false with files := [("proj/a.sld", .unreadable)], dir := "proj" } :=
  ((safe_ignores_dir (Interp.default_ false)).2.1 _ _).2 (C07.initial_safe false 0 []).1

/-! ## 2. The program-file entry point -/

/-- From a safe interpreter state, `eval_file` on ANY path — no such file, a file that cannot be
read as text, a file with any text whatever — with ANY fuel does not panic, and the state it
leaves is safe again, whatever the outcome. -/
theorem evalFile_no_panic (fuel : Nat) (st : State) (path : String) (h : Interp.Safe st) :
    NoPanic (Interp.evalFile fuel st path).1 ∧ Interp.Safe (Interp.evalFile fuel st path).2 :=
  have i := Interp.evalFile_post fuel st path h
  ⟨noPanic_iff.2 i.err, i.inv⟩

example : Interp.Safe (Interp.withStdlib 1000 true) := (C07.initial_safe true 1000 []).2.1

/-- The three branches of `eval_file`, for EVERY state (safe or not). The directory of the path
becomes the lookup directory first, whatever happens next. No file at the path, or a file that is
not text: the outcome is the io error (not a panic, not a value), and nothing else of the state
changes. A text: the outcome and the state are those of evaluating that text with the new
directory. In all three: the in-progress set, the files and the root frame are as before and the
lookup directory is the directory of the path. -/
theorem evalFile_outcomes (fuel : Nat) (st : State) (path : String) :
    (st.files.lookup path = none →
      Interp.evalFile fuel st path = (.error (.io, none), { st with dir := dirOf path })) ∧
    (st.files.lookup path = some .unreadable →
      Interp.evalFile fuel st path = (.error (.io, none), { st with dir := dirOf path })) ∧
    (∀ t, st.files.lookup path = some (.text t) →
      Interp.evalFile fuel st path = Interp.evalText fuel { st with dir := dirOf path } t.toList) ∧
    ((Interp.evalFile fuel st path).2.inProgress = st.inProgress ∧
      (Interp.evalFile fuel st path).2.files = st.files ∧
      (Interp.evalFile fuel st path).2.env = st.env ∧
      (Interp.evalFile fuel st path).2.dir = dirOf path) :=
  ⟨Interp.evalFile_missing, Interp.evalFile_unreadable, fun _ h => Interp.evalFile_text h,
    Interp.evalFile_frame fuel st path⟩

/-- the three hypotheses are satisfiable; the directory of `proj/main.scm` is `proj` -/
example : ([] : List (String × FileEntry)).lookup "proj/main.scm" = none ∧
    [("proj/main.scm", FileEntry.unreadable)].lookup "proj/main.scm" = some .unreadable ∧
    [("proj/main.scm", FileEntry.text "1")].lookup "proj/main.scm" = some (.text "1") ∧
    dirOf "proj/main.scm" = "proj" := by
  exact ⟨rfl, by rfl, by rfl, by decide +kernel⟩

/-- After `eval_file` — whatever the path, whatever the outcome, from EVERY state — the
interpreter still evaluates: the probe `((lambda (x) x) 42)` given as a text evaluates to 42, and
so does a program file that holds the probe, wherever it lies. -/
theorem usable_after_file (fuel : Nat) (st : State) (path : String) (fuel' : Nat) (hf : 7 ≤ fuel') :
    (Interp.evalText fuel' (Interp.evalFile fuel st path).2 probe).1 = .ok (some (.num (.int 42))) ∧
    ∀ path' fs, fs.lookup path' = some (.text "((lambda (x) x) 42)") →
      (Interp.evalFile fuel' { (Interp.evalFile fuel st path).2 with files := fs } path').1 =
        .ok (some (.num (.int 42))) := by
  refine ⟨C07.usable_after_error _ fuel' hf, fun path' fs h => ?_⟩
  rw [Interp.evalFile_text h]
  exact C07.usable_after_error _ fuel' hf

example : (7 : Nat) ≤ 7 ∧
    [("q/p.scm", FileEntry.text "((lambda (x) x) 42)")].lookup "q/p.scm" = some (.text "((lambda (x) x) 42)") :=
  ⟨Nat.le_refl _, by rfl⟩

/-! ## 3. Sessions of texts, program files, directory changes and file-system changes -/

private theorem step_safe (st : State) (s : Step) (h : Interp.Safe st) :
    (∀ r, (step st s).1 = some r → NoPanic r) ∧ Interp.Safe (step st s).2 := by
  cases s with
  | text fuel t =>
    have i := C07.interp_no_panic fuel st t h
    exact ⟨fun r hr => (by cases hr; exact i.1), i.2⟩
  | file fuel path =>
    have i := evalFile_no_panic fuel st path h
    exact ⟨fun r hr => (by cases hr; exact i.1), i.2⟩
  | setDir | addFile | removeFile | setFiles => exact ⟨fun r hr => (by cases hr), h.congr⟩

/-- A session of steps from ANY safe state: no outcome is a panic and the final state is safe.
The steps are texts and program files evaluated with any fuel, and — between them — any change of
the lookup directory and any change of the file system. -/
theorem steps_no_panic (steps : List Step) :
    ∀ (st : State), Interp.Safe st →
      (∀ r ∈ (runSteps st steps).1, NoPanic r) ∧ Interp.Safe (runSteps st steps).2 := by
  induction steps with
  | nil => intro st h; exact ⟨by simp [runSteps], h⟩
  | cons s rest ih =>
    intro st h
    have h1 := step_safe st s h
    have h2 := ih _ h1.2
    simp only [runSteps]
    exact ⟨fun r hr => (List.mem_append.1 hr).elim (fun hr => h1.1 r (Option.mem_toList.1 hr)) (h2.1 r), h2.2⟩

example : Interp.Safe (Interp.default_ true) := (C07.initial_safe true 0 []).1

/-- **C07 for program files and a changing file system.** For every finite sequence of steps —
each a text given to `eval`, a path given to `eval_file`, a program directory being recorded, or
the file system changing (an entry added under any key, removed, or the whole table replaced) —
run on an interpreter created by `new_with_stdlib()` (any fuel for the import of the standard
library) or by `default()`, with any initial files and any initial lookup directory: no step ends
in a panic (every outcome is a value, a reported error, or the model's fuel outcome), the final
state is safe, and the sanity form `((lambda (x) x) 42)` then evaluates to 42 (fuel 7 or more). -/
theorem session_no_panic (b : Bool) (fuel₀ : Nat) (files : List (String × FileEntry)) (d : String)
    (steps : List Step) :
    ((∀ r ∈ (runSteps { Interp.withStdlib fuel₀ b with files := files, dir := d } steps).1, NoPanic r) ∧
      Interp.Safe (runSteps { Interp.withStdlib fuel₀ b with files := files, dir := d } steps).2 ∧
      ∀ fuel, 7 ≤ fuel →
        (Interp.evalText fuel (runSteps { Interp.withStdlib fuel₀ b with files := files, dir := d } steps).2
          probe).1 = .ok (some (.num (.int 42)))) ∧
    ((∀ r ∈ (runSteps { Interp.default_ b with files := files, dir := d } steps).1, NoPanic r) ∧
      Interp.Safe (runSteps { Interp.default_ b with files := files, dir := d } steps).2 ∧
      ∀ fuel, 7 ≤ fuel →
        (Interp.evalText fuel (runSteps { Interp.default_ b with files := files, dir := d } steps).2
          probe).1 = .ok (some (.num (.int 42)))) :=
  have i := C07.initial_safe b fuel₀ []
  have h1 := steps_no_panic steps _ (((safe_ignores_dir (Interp.withStdlib fuel₀ b)).2.1 files d).2 i.2.1)
  have h2 := steps_no_panic steps _ (((safe_ignores_dir (Interp.default_ b)).2.1 files d).2 i.1)
  ⟨⟨h1.1, h1.2, fun fuel hf => C07.usable_after_error _ fuel hf⟩,
   ⟨h2.1, h2.2, fun fuel hf => C07.usable_after_error _ fuel hf⟩⟩

/-- The sessions of steps generalise the sessions of texts of `C07.run_no_panic`: a session whose
steps are all texts is `Interp.run`, and every evaluating step contributes exactly one outcome
(no step is dropped from the list the theorems above quantify over). -/
theorem session_generalises_run (st : State) :
    (∀ inputs : List (Nat × List Char),
      runSteps st (inputs.map (fun p => Step.text p.1 p.2)) = Interp.run st inputs) ∧
    (∀ steps : List Step, (runSteps st steps).1.length =
      (steps.filter (fun s => match s with | .text _ _ => true | .file _ _ => true | _ => false)).length) := by
  constructor
  · intro inputs
    induction inputs generalizing st with
    | nil => rfl
    | cons p rest ih =>
      obtain ⟨fuel, text⟩ := p
      simp only [List.map_cons, runSteps, step, Interp.run, ih, Option.toList, List.cons_append,
        List.nil_append]
  · intro steps
    induction steps generalizing st with
    | nil => rfl
    | cons s rest ih =>
      cases s <;> simp only [runSteps, step, ih, List.filter, Option.toList, List.length_cons,
        List.cons_append, List.nil_append]

/-- the session function does evaluate. A program is put at `proj/main.scm` and run: 42. A path
where nothing is: the io error. An unreadable entry: the io error. -/
example : (runSteps {} [.addFile "proj/main.scm" (.text "((lambda (x) x) 42)"), .file 7 "proj/main.scm",
      .file 7 "nowhere.scm", .addFile "dir" .unreadable, .file 7 "dir"]).1 =
    [.ok (some (.num (.int 42))), .error (.io, none), .error (.io, none)] := by
  have h := (usable_after_file 0 {} "" 7 (Nat.le_refl _)).2 "proj/main.scm"
    [("proj/main.scm", .text "((lambda (x) x) 42)")] (by simp [List.lookup])
  have hd : (Interp.evalFile 0 ({} : State) "").2 = {} := by
    rw [Interp.evalFile_missing rfl]; rfl
  rw [hd] at h
  have hf := (evalFile_outcomes 7 { ({} : State) with files := [("proj/main.scm", .text "((lambda (x) x) 42)")] }
    "proj/main.scm").2.2.2
  simp only [runSteps, step, Option.toList, List.cons_append, List.nil_append, List.cons.injEq, and_true]
  refine ⟨h, ?_, ?_⟩
  · rw [Interp.evalFile_missing]
    rw [hf.2.1]; simp [List.lookup]
  · rw [Interp.evalFile_unreadable]
    simp only [List.lookup]
    rw [Interp.evalFile_missing]
    · simp
    · rw [hf.2.1]; simp [List.lookup]

/-! ## 4. Library files with arbitrary content, under an arbitrary directory -/

/-- Importing a library whose FILE holds arbitrary text, from any directory. Take any safe state,
any directory `d`, any library name, any string `content` (random characters, unbalanced
brackets, macro definitions, huge numbers — no hypothesis on it), and any rest of the file system;
put `content` where the library is looked up from `d` (`fileKey d (libPath name)`) and make `d`
the lookup directory. Then loading that library (`get_library`), any import declaration, and the
evaluation of any text (for instance `(import (name))`) with any fuel end in a value or a reported
error, never in a panic, and leave a safe state. `C07.library_file_no_panic` (the factory made of
the text) generalised over `dir` and carried through the import. -/
theorem library_files_with_any_content_no_panic (fuel : Nat) (st : State) (h : Interp.Safe st)
    (d : String) (name : LibName) (content : String) (others : List (String × FileEntry)) :
    let st' : State := { st with dir := d, files := (fileKey d (libPath name), .text content) :: others }
    st'.files.lookup (fileKey st'.dir (libPath name)) = some (.text content) ∧
    (∀ loc, NoPanic (Interp.getLibrary fuel st' name loc).1 ∧ Interp.Safe (Interp.getLibrary fuel st' name loc).2) ∧
    (∀ sets ρ, NoPanic (Interp.evalImport fuel st' sets ρ).1 ∧ Interp.Safe (Interp.evalImport fuel st' sets ρ).2) ∧
    (∀ text, NoPanic (Interp.evalText fuel st' text).1 ∧ Interp.Safe (Interp.evalText fuel st' text).2) ∧
    (∀ path, NoPanic (Interp.evalFile fuel st' path).1 ∧ Interp.Safe (Interp.evalFile fuel st' path).2) := by
  intro st'
  have hs : Interp.Safe st' := h.congr
  refine ⟨by simp [st', List.lookup], fun loc => ?_, fun sets ρ => C07.import_no_panic fuel st' sets ρ hs,
    fun text => C07.interp_no_panic fuel st' text hs, fun path => evalFile_no_panic fuel st' path hs⟩
  have i := Interp.getLibrary_post fuel name loc hs
  exact ⟨noPanic_iff.2 i.err, i.inv⟩

example : Interp.Safe (Interp.default_ false) := (C07.initial_safe false 0 []).1

/-- The error branches of that lookup are errors, not values and not panics — for EVERY state.
For a library that has no instance and no registered factory, looked up in the current directory:
a file whose text `factoryOfText` rejects (with the non-panic error `e`:
`C07.library_file_no_panic`) makes `get_library` report exactly `e`; an unreadable file is the io
error; no file is "library not found" at the location of the import; in all three the state is
unchanged (nothing half-registered is left behind). -/
theorem bad_library_file_is_reported (fuel : Nat) (st : State) (name : LibName) (loc : Loc)
    (hi : libLookup st.instances name = none) (hf : libLookup st.factories name = none) :
    (∀ t e, st.files.lookup (fileKey st.dir (libPath name)) = some (.text t) →
      Interp.factoryOfText name t = .error e →
      Interp.getLibrary (fuel + 1) st name loc = (.error e, st) ∧ SErr.NP e) ∧
    (st.files.lookup (fileKey st.dir (libPath name)) = some .unreadable →
      Interp.getLibrary (fuel + 1) st name loc = (.error (.io, none), st)) ∧
    (st.files.lookup (fileKey st.dir (libPath name)) = none →
      Interp.getLibrary (fuel + 1) st name loc = (.error (.libNotFound, loc), st)) :=
  ⟨fun t e hfile he => ⟨Interp.getLibrary_bad_file hi hf hfile he,
      (Interp.factoryOfText_post name t).1 e he⟩,
   Interp.getLibrary_unreadable_file hi hf, Interp.getLibrary_no_file hi hf⟩

/-- the hypotheses are satisfiable: from the directory `proj`, the library `(m)` is looked up at
`proj/m.sld`; an empty file there defines no library -/
example : libLookup ({} : State).instances [.ident "m"] = none ∧
    libLookup ({} : State).factories [.ident "m"] = none ∧
    fileKey "proj" (libPath [.ident "m"]) = "proj/m.sld" ∧
    ({ dir := "proj", files := [("proj/m.sld", .text "")] } : State).files.lookup
      (fileKey "proj" (libPath [.ident "m"])) = some (.text "") ∧
    Interp.factoryOfText [.ident "m"] "" = .error (.libNotFound, none) := by
  exact ⟨rfl, rfl, by decide +kernel, by rfl, Interp.factoryOfText_empty' _⟩

/-- a concrete run of the error branch: the program directory is `proj`, the file `proj/m.sld`
holds one closing bracket; loading `(m)` reports the reader's syntax error and changes nothing -/
example : Interp.getLibrary 1 ({ dir := "proj", files := [("proj/m.sld", .text ")")] } : State)
      [.ident "m"] (some (1, 9)) =
    (.error (.syntax, none), { dir := "proj", files := [("proj/m.sld", .text ")")] }) := by
  exact ((bad_library_file_is_reported 0 _ [.ident "m"] (some (1, 9)) rfl rfl).1 ")" _ (by rfl)
    (Interp.factoryOfText_rparen _)).1

end Ruschm.C07Files
