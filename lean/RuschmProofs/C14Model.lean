/-
Property C14, model level — what `Interp.getLibrary`, `Interp.evalImportSet(s)`, `Interp.evalImport`
of the MODEL of the interpreter do to the factory table, the instance cache and the file lookup.

`RuschmProofs/C14.lean` proves the loader properties on an abstract dependency graph; the theorems
here are about the model of the Rust code itself, and pin the facts that seeded faults showed
users rely on:

* a failed load never evicts or changes a registered factory (`factories_monotone`);
* a library FILE only ever registers a factory under the name that was asked for, made from the
  file of THAT name, and that file really contains a `define-library` of that name
  (`new_factories_only_requested_names`, `wrong_name_file_not_found`);
* the instance cache only receives the results of successful instantiations
  (`instances_only_from_successful_loads`);
* for libraries that consist of imports only, the model's `getLibrary` has the outcome the
  abstract loader computes on the described graph (`refines_abstract_loader_partial`).

Vocabulary (in `RuschmProofs/LibModelLemmas.lean`): `factoryFor st m` — the factory `get_library`
would use for `m` (registered, else from the file `libPath m`); `declImports decls` — the
libraries named by the import declarations of a definition; `Requested st r n` — `n` is `r` or a
transitive import of `r` through those definitions; (in `RuschmProofs/LoaderStep.lean`:) `Scanned t s env` /
`DefinesLibrary t n decls` — the text `t` has a top-level `define-library` form named `n` with declarations
`decls`.
-/
import RuschmProofs.LibRefine
import RuschmProofs.InterpTop

namespace Ruschm.C14Model
open Ruschm Ruschm.Interp

/-! ## a concrete interpreter state for the examples -/

def libA : LibName := [.ident "a"]
def libB : LibName := [.ident "b"]
def libC : LibName := [.ident "c"]
def libD : LibName := [.ident "d"]
def libE : LibName := [.ident "e"]

/-- `(a)` is registered source importing `(b)` (native), then `(c)` whose file is unreadable;
`d.sld` is an empty file; `(e)` has neither factory nor file -/
def demo : State :=
  { store := Store.root
    factories := [(libA, .ast [.importDecl [.direct libB none, .direct libC none], .export []]),
                  (libB, .native [("x", .num (.int 1))])]
    files := [("c.sld", .unreadable), ("d.sld", .text "")] }

/-- the outcome is the error `e`: by a test that can be evaluated (the results have no decidable
equality) -/
private theorem error_of {α : Type} {x : Except SErr α} {e : SErr}
    (h : (match x with | .error e' => decide (e' = e) | .ok _ => false) = true) : x = .error e := by
  split at h
  · rw [of_decide_eq_true h]
  · cases h

/-! ## 1. no eviction -/

/-- Whatever the outcome (ok or any error, any fuel) of `getLibrary`, of an import set, of an import
declaration or of a top-level form: every factory present before is present after, with the same
content; the files are the same; and the in-progress list is restored. -/
theorem factories_monotone (fuel : Nat) (st : State) :
    (∀ name loc, let st' := (getLibrary fuel st name loc).2
      (∀ n f, libLookup st.factories n = some f → libLookup st'.factories n = some f) ∧
      st'.files = st.files ∧ st'.inProgress = st.inProgress) ∧
    (∀ s, let st' := (evalImportSet fuel st s).2
      (∀ n f, libLookup st.factories n = some f → libLookup st'.factories n = some f) ∧
      st'.files = st.files ∧ st'.inProgress = st.inProgress) ∧
    (∀ sets ρ, let st' := (evalImport fuel st sets ρ).2
      (∀ n f, libLookup st.factories n = some f → libLookup st'.factories n = some f) ∧
      st'.files = st.files ∧ st'.inProgress = st.inProgress) ∧
    (∀ stmt, let st' := (evalAst fuel st stmt).2
      (∀ n f, libLookup st.factories n = some f → libLookup st'.factories n = some f) ∧
      st'.files = st.files ∧ st'.inProgress = st.inProgress) := by
  have I {α} (c : Call α) := run_inv storeRel_true fuel st c
  have pack {a b : State} (i : Inv (fun _ _ => True) a b) := And.intro i.factories (And.intro i.files i.inProgress)
  exact ⟨fun name loc => pack (I (.getLibrary name loc)), fun s => pack (I (.importSet s)),
    fun sets ρ => pack (I (.import_ sets ρ)),
    fun stmt => (pack (evalAst_inv storeRel_true (fuel := fuel) (st := st) (s := stmt) (Prod.eta _).symm) :)⟩

/-- loading `(a)` fails with an io error inside `(c)`; the registered source of `(a)` is still there -/
example : (getLibrary 9 demo libA none).1 = .error (.io, none) ∧
    libLookup (getLibrary 9 demo libA none).2.factories libA =
      some (.ast [.importDecl [.direct libB none, .direct libC none], .export []]) := by
  exact ⟨error_of (by decide +kernel), ((factories_monotone 9 demo).1 libA none).1 libA _ rfl⟩

/-! ## 2. which factories a load may add -/

/-- A factory that is present after `getLibrary` (any outcome, any fuel) but was not present
before is keyed by a name `n` that was REQUESTED — the root `name` or a transitive import of it —
whose file `libPath n` exists as a text `t`; its content is `factoryOfText n t`, i.e. the AST of a
`define-library` form of `t` whose own name IS the key `n`. The same for an import declaration,
with the libraries its sets name as roots. (So a file can never plant a definition under another
name, and nothing is registered for a name nobody asked for.) -/
theorem new_factories_only_requested_names (fuel : Nat) (st : State) :
    (∀ name loc n f, libLookup (getLibrary fuel st name loc).2.factories n = some f →
      libLookup st.factories n = none →
      Requested st name n ∧ ∃ t decls, st.files.lookup (fileKey st.dir (libPath n)) = some (.text t) ∧
        factoryOfText n t = .ok f ∧ f = .ast decls ∧ DefinesLibrary t n decls) ∧
    (∀ sets ρ n f, libLookup (evalImport fuel st sets ρ).2.factories n = some f →
      libLookup st.factories n = none →
      (∃ s ∈ sets, Requested st (S.leaf s) n) ∧ ∃ t decls, st.files.lookup (fileKey st.dir (libPath n)) = some (.text t) ∧
        factoryOfText n t = .ok f ∧ f = .ast decls ∧ DefinesLibrary t n decls) := by
  have I {α} (c : Call α) := step_run fuel st c
  constructor
  · intro name loc n f h1 h2
    have s := I (.getLibrary name loc)
    obtain ⟨⟨r, hr, hq⟩, t, ht, hf⟩ := s.newFac n f h1 h2
    obtain ⟨decls, hd, hdef⟩ := factoryOfText_ok hf
    simp only [Call.roots, List.mem_singleton] at hr
    subst hr
    exact ⟨hq, t, decls, ht, hf, hd, hdef⟩
  · intro sets ρ n f h1 h2
    have s := I (.import_ sets ρ)
    obtain ⟨⟨r, hr, hq⟩, t, ht, hf⟩ := s.newFac n f h1 h2
    obtain ⟨decls, hd, hdef⟩ := factoryOfText_ok hf
    obtain ⟨s', hs', rfl⟩ := List.mem_map.1 hr
    exact ⟨⟨s', hs', hq⟩, t, decls, ht, hf, hd, hdef⟩

/-- a file `d.sld` whose text gives the factory `(define-library (d))`: loading `(d)` registers
exactly that factory, under `(d)` -/
example (t : String) (ht : factoryOfText libD t = .ok (.ast [])) :
    let st : State := { demo with files := [("d.sld", .text t)] }
    libLookup (getLibrary 3 st libD none).2.factories libD = some (.ast []) ∧
    Requested st libD libD ∧ ∃ t' decls, st.files.lookup (fileKey st.dir (libPath libD)) = some (.text t') ∧
      DefinesLibrary t' libD decls := by
  intro st
  have ht' : factoryOfText [LibElem.ident "d"] t = .ok (.ast []) := ht
  have hnew : libLookup (getLibrary 3 st libD none).2.factories libD = some (.ast []) := by
    rw [getLibrary_succ_eq]
    simp [st, demo, libLookup, libA, libB, libD, findFactory, instantiate, newLibrary, cacheInstance,
      evalLibraryDef, evalLibDecls, Store.newFrame, libInsert, libPath, fileKey, LibElem.toString, List.lookup, ht', pure, Except.pure]
  obtain ⟨hq, t', decls, h1, -, -, h2⟩ := (new_factories_only_requested_names 3 st).1 libD none libD _ hnew
    rfl
  exact ⟨hnew, hq, t', decls, h1, h2⟩

/-- If the file found for `n` does not contain a `define-library` named `n` (it defines a library
of another name, or none), `getLibrary` and the import fail and the STATE IS UNCHANGED: no factory
appears, for `n` or for the other name, and no instance. The error is the one `factoryOfText`
reports — `libNotFound` when the text was read to its end, as `from_char_stream` does. -/
theorem wrong_name_file_not_found (fuel : Nat) (st : State) (n : LibName) (loc : Loc) (t : String)
    (hi : libLookup st.instances n = none) (hf : libLookup st.factories n = none)
    (hfile : st.files.lookup (fileKey st.dir (libPath n)) = some (.text t))
    (hwrong : ¬ ∃ decls, DefinesLibrary t n decls) :
    (∃ e, factoryOfText n t = .error e ∧ getLibrary (fuel + 1) st n loc = (.error e, st) ∧
      (n ∉ st.inProgress → evalImportSet (fuel + 2) st (.direct n loc) = (.error e, st))) ∧
    (factoryOfText n t = .error (.libNotFound, none) →
      getLibrary (fuel + 1) st n loc = (.error (.libNotFound, none), st)) := by
  have herr : ∃ e, factoryOfText n t = .error e := by
    cases h : factoryOfText n t with
    | error e => exact ⟨e, rfl⟩
    | ok f =>
      obtain ⟨decls, -, hd⟩ := factoryOfText_ok h
      exact absurd ⟨decls, hd⟩ hwrong
  obtain ⟨e, he⟩ := herr
  refine ⟨⟨e, he, getLibrary_bad_file hi hf hfile he, fun hip => ?_⟩,
    fun h => getLibrary_bad_file hi hf hfile h⟩
  exact direct_error hip
    (getLibrary_bad_file (st := { st with inProgress := n :: st.inProgress }) hi hf hfile he)

/-- `d.sld` is an empty file: it defines no library `(d)`; importing `(d)` is `libNotFound` and
nothing is registered -/
example : getLibrary 5 demo libD none = (.error (.libNotFound, none), demo) := by
  exact (wrong_name_file_not_found 4 demo libD none "" rfl rfl rfl
    (not_definesLibrary_empty libD)).2 (factoryOfText_empty libD)

/-! ## 3. which instances a load may add -/

/-- An instance that is present after `getLibrary` (any outcome, any fuel) but was not present
before belongs to a requested name `n` whose instantiation SUCCEEDED during the call: it is the
export list `d` returned by `newLibrary` (native: the factory's list; source: `evalLibraryDef`)
applied to the factory `get_library` uses for `n`. The same for an import declaration. -/
theorem instances_only_from_successful_loads (fuel : Nat) (st : State) :
    (∀ name loc n d, libLookup (getLibrary fuel st name loc).2.instances n = some d →
      libLookup st.instances n = none →
      Requested st name n ∧ ∃ k sa sb f, factoryFor st n = some f ∧ newLibrary k sa f = (.ok d, sb)) ∧
    (∀ sets ρ n d, libLookup (evalImport fuel st sets ρ).2.instances n = some d →
      libLookup st.instances n = none →
      (∃ s ∈ sets, Requested st (S.leaf s) n) ∧
        ∃ k sa sb f, factoryFor st n = some f ∧ newLibrary k sa f = (.ok d, sb)) := by
  have I {α} (c : Call α) := step_run fuel st c
  constructor
  · intro name loc n d h1 h2
    have s := I (.getLibrary name loc)
    obtain ⟨⟨r, hr, hq⟩, x⟩ := s.newInst n d h1 h2
    simp only [Call.roots, List.mem_singleton] at hr
    subst hr
    exact ⟨hq, x⟩
  · intro sets ρ n d h1 h2
    have s := I (.import_ sets ρ)
    obtain ⟨⟨r, hr, hq⟩, x⟩ := s.newInst n d h1 h2
    obtain ⟨s', hs', rfl⟩ := List.mem_map.1 hr
    exact ⟨⟨s', hs', hq⟩, x⟩

/-- loading `(a)` fails (io error in `(c)`), but `(b)`, imported first, was instantiated: it is
requested by `(a)` and its instance is what its native factory returns; `(a)` itself and `(c)`
have no instance -/
example : libLookup (getLibrary 9 demo libA none).2.instances libB = some [("x", .num (.int 1))] ∧
    libLookup (getLibrary 9 demo libA none).2.instances libA = none ∧
    libLookup (getLibrary 9 demo libA none).2.instances libC = none ∧
    Requested demo libA libB := by
  have hs : (libLookup (getLibrary 9 demo libA none).2.instances libB).isSome = true := by decide +kernel
  obtain ⟨d, hd⟩ := Option.isSome_iff_exists.1 hs
  obtain ⟨hq, k, sa, sb, f, hf, hn⟩ := (instances_only_from_successful_loads 9 demo).1 libA none libB d hd rfl
  cases hf
  cases hn
  exact ⟨hd, by decide +kernel, by decide +kernel, hq⟩

/-! ## 4. the model refines the abstract loader (partial) -/

/-
The full statement one would like:

  for every registry / file system describing a dependency graph `g` — each node a healthy
  library, a library whose body faults, a missing one, a file defining another name, a broken
  text, an unreadable file — `getLibrary` on the model returns the kind of outcome `Loader.load`
  returns on `g`.

What is proved below (`refines_abstract_loader_partial`) is this statement for the import path
`evalImportSet (.direct ..)` (= `Loader.load`: in-progress test, then `get_library`) and for
graphs described by libraries of a FIXED SHAPE (`Interp.Describes`):

  * healthy node `x` with dependencies `d₁ … dₙ`:  `(define-library (x) (import (d₁) … (dₙ)) (export))`
  * faulting node:  `(define-library (x) (import (d₁) … (dₙ)) (begin (1)))`  — the body calls a
    non-procedure, after all imports;
  * missing: neither factory nor file;  unreadable: no factory, an unreadable file;
  * malformed / wrong name: no factory, a file whose text `factoryOfText` rejects (broken text, or
    no `define-library` of that name: the outcome then is `factoryOfText`'s error, `libNotFound`
    for a wrong name).

Source libraries may be registered or come from files (`factoryFor`). What is missing for the
full statement: (a) healthy libraries with arbitrary bodies and non-empty export lists — their
success depends on evaluating the body, and two dependencies exporting one name with different
values now make the import fail with `.other`, an outcome the abstract loader does not have;
(b) bodies that fault BETWEEN two import declarations (the abstract `faulty` node faults after all
its dependencies); (c) `getLibrary` called directly rather than through an import: it does not
mark its own name in progress, so a cycle through the root is not reported as `cyclic` at the
root but one level further down.
-/

/-- For a registry and file system that describe the graph `g` (`Corr`: node kinds as above, the
instantiated libraries are the cached nodes, the in-progress lists agree), the model's import of
the library of node `x`, with fuel `fa * (D + 10)` or more (`D` bounds the number of dependencies
of a node), has the outcome the abstract loader has with fuel `fa` — `ok` ↦ `.ok []`, `cyclic` ↦
`.cyclic`, `notFound` ↦ `.libNotFound`, `io` ↦ `.io`, `fault` ↦ `.nonProcedure`, `syntax` ↦ the
error of the malformed file — and the resulting states correspond again (so the theorem applies
to the next import: histories). With `fa = |g| + 1` the abstract loader never runs out of fuel. -/
theorem refines_abstract_loader_partial (g : Loader.Graph) (nm : Loader.Name → LibName) (D : Nat)
    (hD : ∀ x, (g.node x).deps.length ≤ D) (ls : Loader.LState) (st : State) (hc : Corr g nm ls st)
    (x : Loader.Name) (loc : Loc) :
    (∀ fa m, fa * (D + 10) ≤ m → (Loader.load fa g ls x).1 ≠ .fuel →
      ∃ r st', evalImportSet m st (.direct (nm x) loc) = (r, st') ∧
        Match g nm st.files st.dir (Loader.load fa g ls x).1 r ∧ Corr g nm (Loader.load fa g ls x).2 st' ∧
        st'.files = st.files ∧ st'.dir = st.dir) ∧
    (∀ m, (g.length + 1) * (D + 10) ≤ m →
      ∃ r st', evalImportSet m st (.direct (nm x) loc) = (r, st') ∧
        Match g nm st.files st.dir (Loader.load (g.length + 1) g ls x).1 r ∧
        Corr g nm (Loader.load (g.length + 1) g ls x).2 st') := by
  have main := fun fa m hm => simAt hD fa ls.cache ls.inProgress x m hm st loc hc ⟨rfl, rfl⟩
  simp only [Loader.load_eq_dfs']
  refine ⟨main, fun m hm => ?_⟩
  obtain ⟨r, st', h1, h2, h3, -⟩ := main (g.length + 1) m hm
    (Loader.dfs_ne_fuel g _ _ _ x (Loader.free_lt_of_length g _ (Nat.le_refl _)))
  exact ⟨r, st', h1, h2, h3⟩

/-- the graph: 0 imports 1 and 2, 1 imports 2, the body of 2 faults; everything else is missing -/
def demoGraph : Loader.Graph := [(0, .healthy [1, 2]), (1, .healthy [2]), (2, .faulty [])]
def demoNm (x : Loader.Name) : LibName := [.int x]

/-- its registry: three registered sources of the fixed shape -/
def demoRegistry : State :=
  { store := Store.root
    factories := [(demoNm 0, .ast (healthyDecls demoNm [1, 2])), (demoNm 1, .ast (healthyDecls demoNm [2])),
                  (demoNm 2, .ast (faultyDecls demoNm []))] }

private theorem demo_describes : Describes demoGraph demoNm demoRegistry := by
  have key : ∀ x,
      (∀ deps, demoGraph.node x = .healthy deps →
        factoryFor demoRegistry (demoNm x) = some (.ast (healthyDecls demoNm deps))) ∧
      (∀ deps, demoGraph.node x = .faulty deps →
        factoryFor demoRegistry (demoNm x) = some (.ast (faultyDecls demoNm deps))) ∧
      (demoGraph.node x = .missing → libLookup demoRegistry.factories (demoNm x) = none) ∧
      demoGraph.node x ≠ .unreadable ∧ demoGraph.node x ≠ .malformed := fun
    | 0 | 1 => ⟨fun _ h => (by cases h; rfl), fun _ h => (by cases h), fun h => (by cases h),
        fun h => (by cases h), fun h => (by cases h)⟩
    | 2 => ⟨fun _ h => (by cases h), fun _ h => (by cases h; rfl), fun h => (by cases h),
        fun h => (by cases h), fun h => (by cases h)⟩
    | n + 3 => ⟨fun _ h => (by cases h), fun _ h => (by cases h),
        fun _ => (by simp [demoRegistry, libLookup, demoNm]), fun h => (by cases h), fun h => (by cases h)⟩
  exact ⟨fun x y h => by cases h; rfl, fun x => (key x).1, fun x => (key x).2.1,
    fun x h => ⟨(key x).2.2.1 h, rfl⟩, fun x h => absurd h (key x).2.2.2.1, fun x h => absurd h (key x).2.2.2.2⟩

example : ∃ st', evalImportSet 60 demoRegistry (.direct (demoNm 0) none) = (.error (.nonProcedure, none), st') := by
  have hcorr : Corr demoGraph demoNm {} demoRegistry :=
    ⟨demo_describes, fun x => ⟨nofun, fun ⟨_, h⟩ => nomatch h⟩, fun x d h => (nomatch h), rfl⟩
  have hD : ∀ x, (demoGraph.node x).deps.length ≤ 2 := fun
    | 0 | 1 | 2 => by decide
    | _ + 3 => Nat.zero_le 2
  obtain ⟨r, st', h1, h2, -⟩ := (refines_abstract_loader_partial demoGraph demoNm 2 hD {} demoRegistry hcorr 0
    none).2 60 (by decide)
  have ho : (Loader.load (demoGraph.length + 1) demoGraph {} 0).1 = .fault := by decide +kernel
  rw [ho] at h2
  obtain ⟨e, rfl, he⟩ := h2
  cases he
  exact ⟨st', h1⟩

end Ruschm.C14Model
