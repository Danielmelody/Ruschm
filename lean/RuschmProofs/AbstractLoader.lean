/-
The abstract loader of `RuschmSpec/Lib.lean` (`Loader.load`) as a depth-first traversal with an explicit
path (`dfs`, `load_eq_dfs'`), one induction over the traversal with a case for each way a visit ends
(`dfs_rule`), and what follows from it: `|g| + 1` fuel suffices, the cache invariant, the outcome does
not depend on the cache, every error points at a reachable fault, the traversal is the fuel-free
relation `Dfs`.
-/
import RuschmSpec.Lib

namespace Ruschm
namespace Loader

/-- `loadDeps` over caches only -/
def dfsDeps (f : List Name → Name → Outcome × List Name) (c : List Name) : List Name → Outcome × List Name
  | [] => (.ok, c)
  | d :: ds =>
    match f c d with
    | (.ok, c') => dfsDeps f c' ds
    | (e, c') => (e, c')

def finishHealthy (x : Name) : Outcome × List Name → Outcome × List Name
  | (.ok, c') => (.ok, x :: c')
  | (e, c') => (e, c')

def finishFaulty : Outcome × List Name → Outcome × List Name
  | (.ok, c') => (.fault, c')
  | (e, c') => (e, c')

/-- `load` with the in-progress list as a parameter that is passed down (and so restored by
construction); `load_eq_dfs'` shows that this is what `load` computes -/
def dfs : Nat → Graph → List Name → List Name → Name → Outcome × List Name
  | 0, _, c, _, _ => (.fuel, c)
  | fuel + 1, g, c, path, x =>
    if path.contains x then (.cyclic, c) else
    if c.contains x then (.ok, c) else
    match g.node x with
    | .missing => (.notFound, c)
    | .unreadable => (.io, c)
    | .malformed => (.syntax, c)
    | .healthy deps =>
      finishHealthy x (dfsDeps (fun c d => dfs fuel g c (x :: path) d) c deps)
    | .faulty deps =>
      finishFaulty (dfsDeps (fun c d => dfs fuel g c (x :: path) d) c deps)

theorem loadDeps_eq_dfsDeps (ld : LState → Name → Outcome × LState) (f : List Name → Name → Outcome × List Name)
    (ip : List Name) (deps : List Name)
    (h : ∀ c d, d ∈ deps → ld ⟨c, ip⟩ d = ((f c d).1, ⟨(f c d).2, ip⟩)) (c : List Name) :
    loadDeps ld ⟨c, ip⟩ deps = ((dfsDeps f c deps).1, ⟨(dfsDeps f c deps).2, ip⟩) := by
  induction deps generalizing c with
  | nil => rfl
  | cons d ds ih =>
    rw [loadDeps, dfsDeps, h c d List.mem_cons_self]
    rcases f c d with ⟨r, c'⟩
    cases r with
    | ok => exact ih (fun c d hd => h c d (List.mem_cons_of_mem _ hd)) c'
    | _ => rfl

theorem load_eq_dfs' (g : Graph) : ∀ (fuel : Nat) (st : LState) (x : Name),
    load fuel g st x = ((dfs fuel g st.cache st.inProgress x).1,
      ⟨(dfs fuel g st.cache st.inProgress x).2, st.inProgress⟩) := by
  intro fuel
  induction fuel with
  | zero => intros; rfl
  | succ fuel ih =>
    intro ⟨c, ip⟩ x
    rw [load, dfs]
    by_cases hx : x ∈ ip
    · rw [if_pos (by simpa using hx), if_pos (by simpa using hx)]
    · rw [if_neg (by simpa using hx), if_neg (by simpa using hx)]
      by_cases hc : x ∈ c
      · simp [hc]
      · have hd := fun deps => loadDeps_eq_dfsDeps (load fuel g) (fun c d => dfs fuel g c (x :: ip) d)
          (x :: ip) deps (fun c d _ => ih ⟨c, x :: ip⟩ d) c
        simp only [List.contains_iff_mem, hc, if_false]
        cases hn : g.node x with
        | missing | unreadable | malformed => simp
        | healthy deps | faulty deps =>
          simp only [hd deps]
          rcases dfsDeps (fun c d => dfs fuel g c (x :: ip) d) c deps with ⟨r, c'⟩
          cases r <;> simp [finishHealthy, finishFaulty]


theorem dfs_cyclic {fuel g c path x} (h : x ∈ path) : dfs (fuel + 1) g c path x = (.cyclic, c) := by
  rw [dfs, if_pos (by simpa using h)]

theorem dfs_cached {fuel g c path x} (h : x ∉ path) (hc : x ∈ c) : dfs (fuel + 1) g c path x = (.ok, c) := by
  rw [dfs, if_neg (by simpa using h), if_pos (by simpa using hc)]

theorem dfs_node {fuel g c path x} (h : x ∉ path) (hc : x ∉ c) : dfs (fuel + 1) g c path x =
    match g.node x with
    | .missing => (.notFound, c)
    | .unreadable => (.io, c)
    | .malformed => (.syntax, c)
    | .healthy deps => finishHealthy x (dfsDeps (fun c d => dfs fuel g c (x :: path) d) c deps)
    | .faulty deps => finishFaulty (dfsDeps (fun c d => dfs fuel g c (x :: path) d) c deps) := by
  rw [dfs, if_neg (by simpa using h), if_neg (by simpa using hc)]

/-! ## induction over the traversal -/

theorem dfsDeps_cons_ok (f : List Name → Name → Outcome × List Name) {c c' : List Name} {d : Name}
    (ds : List Name) (h : f c d = (.ok, c')) : dfsDeps f c (d :: ds) = dfsDeps f c' ds := by
  rw [dfsDeps, h]

theorem dfsDeps_cons_err (f : List Name → Name → Outcome × List Name) {c c' : List Name} {d : Name} {e : Outcome}
    (ds : List Name) (h : f c d = (e, c')) (he : e ≠ .ok) : dfsDeps f c (d :: ds) = (e, c') := by
  rw [dfsDeps, h]; cases e <;> first | rfl | exact absurd rfl he

theorem finishHealthy_err {x : Name} {e : Outcome} {c : List Name} (h : e ≠ .ok) :
    finishHealthy x (e, c) = (e, c) := by cases e <;> first | rfl | exact absurd rfl h

theorem finishFaulty_err {e : Outcome} {c : List Name} (h : e ≠ .ok) :
    finishFaulty (e, c) = (e, c) := by cases e <;> first | rfl | exact absurd rfl h

/-- Induction over the traversal: on the fuel and, inside a node, along its dependencies. `P n c p x res`
speaks of the visit of `x` and `PL n c p deps res` of the visit of the dependencies `deps`, with fuel `n`,
cache `c` and path `p`, when the result is `res`; one hypothesis for each way a visit ends. -/
theorem dfs_rule (g : Graph) {P : Nat → List Name → List Name → Name → Outcome × List Name → Prop}
    {PL : Nat → List Name → List Name → List Name → Outcome × List Name → Prop}
    (nil : ∀ n c p, PL n c p [] (.ok, c))
    (cons : ∀ n c p d ds c' res, dfs n g c p d = (.ok, c') → P n c p d (.ok, c') → PL n c' p ds res →
      PL n c p (d :: ds) res)
    (stop : ∀ n c p d ds e c', dfs n g c p d = (e, c') → e ≠ .ok → P n c p d (e, c') → PL n c p (d :: ds) (e, c'))
    (fuel : ∀ c p x, P 0 c p x (.fuel, c))
    (cyclic : ∀ n c p x, x ∈ p → P (n + 1) c p x (.cyclic, c))
    (cached : ∀ n c p x, x ∉ p → x ∈ c → P (n + 1) c p x (.ok, c))
    (missing : ∀ n c p x, x ∉ p → x ∉ c → g.node x = .missing → P (n + 1) c p x (.notFound, c))
    (unreadable : ∀ n c p x, x ∉ p → x ∉ c → g.node x = .unreadable → P (n + 1) c p x (.io, c))
    (malformed : ∀ n c p x, x ∉ p → x ∉ c → g.node x = .malformed → P (n + 1) c p x (.syntax, c))
    (healthy : ∀ n c p x deps res, x ∉ p → x ∉ c → g.node x = .healthy deps →
      dfsDeps (fun c d => dfs n g c (x :: p) d) c deps = res → PL n c (x :: p) deps res →
      P (n + 1) c p x (finishHealthy x res))
    (faulty : ∀ n c p x deps res, x ∉ p → x ∉ c → g.node x = .faulty deps →
      dfsDeps (fun c d => dfs n g c (x :: p) d) c deps = res → PL n c (x :: p) deps res →
      P (n + 1) c p x (finishFaulty res)) :
    ∀ n c p x, P n c p x (dfs n g c p x)
  | 0, c, p, x => fuel c p x
  | n + 1, c, p, x => by
    have ih := dfs_rule g nil cons stop fuel cyclic cached missing unreadable malformed healthy faulty n
    have list : ∀ p deps c, PL n c p deps (dfsDeps (fun c d => dfs n g c p d) c deps) := by
      intro p deps
      induction deps with
      | nil => exact fun c => nil n c p
      | cons d ds ihd =>
        intro c
        have hd := ih c p d
        rcases he : dfs n g c p d with ⟨e, c'⟩
        rw [he] at hd
        by_cases hok : e = .ok
        · subst hok; rw [dfsDeps_cons_ok (fun c d => dfs n g c p d) ds he]; exact cons n c p d ds c' _ he hd (ihd c')
        · rw [dfsDeps_cons_err (fun c d => dfs n g c p d) ds he hok]; exact stop n c p d ds e c' he hok hd
    by_cases hx : x ∈ p
    · rw [dfs_cyclic hx]; exact cyclic n c p x hx
    · by_cases hc : x ∈ c
      · rw [dfs_cached hx hc]; exact cached n c p x hx hc
      · rw [dfs_node hx hc]
        cases hn : g.node x with
        | missing => exact missing n c p x hx hc hn
        | unreadable => exact unreadable n c p x hx hc hn
        | malformed => exact malformed n c p x hx hc hn
        | healthy deps => exact healthy n c p x deps _ hx hc hn rfl (list _ deps c)
        | faulty deps => exact faulty n c p x deps _ hx hc hn rfl (list _ deps c)

/-! ## termination: `|g| + 1` fuel always suffices -/

/-- the nodes of the graph that are not in progress: the measure that decreases along the path -/
def free (g : Graph) (path : List Name) : Nat := ((g.map Prod.fst).filter (fun y => !path.contains y)).length

theorem free_le (g : Graph) (path : List Name) : free g path ≤ g.length := by
  unfold free
  exact Nat.le_trans (List.length_filter_le _ _) (by simp)

theorem free_lt_of_length (g : Graph) (path : List Name) {fuel : Nat} (h : g.length + 1 ≤ fuel) :
    free g path < fuel :=
  Nat.lt_of_lt_of_le (Nat.lt_succ_of_le (free_le g path)) h

theorem free_lt {g : Graph} {path : List Name} {x : Name} (hx : x ∈ g.map Prod.fst) (hp : x ∉ path) :
    free g (x :: path) < free g path := by
  have e : (g.map Prod.fst).filter (fun y => !(x :: path).contains y) =
      ((g.map Prod.fst).filter (fun y => !path.contains y)).filter (fun y => y != x) := by
    rw [List.filter_filter]; congr; funext y; rw [List.contains_cons, Bool.not_or]; rfl
  unfold free; rw [e]
  exact List.length_filter_lt_length_iff_exists.2 ⟨x, List.mem_filter.2 ⟨hx, by simpa using hp⟩, by simp⟩

theorem mem_keys_of_node {g : Graph} {x : Name} (h : g.node x ≠ .missing) : x ∈ g.map Prod.fst := by
  unfold Graph.node at h
  cases hl : g.lookup x with
  | none => simp [hl] at h
  | some n =>
    obtain ⟨p, hp, e⟩ := List.lookup_isSome_iff.1 (hl ▸ rfl : (g.lookup x).isSome)
    exact List.mem_map.2 ⟨p, hp, (beq_iff_eq.1 e).symm⟩


theorem free_push_lt {g : Graph} {n : Nat} {p : List Name} {x : Name} (hn : g.node x ≠ .missing) (hx : x ∉ p)
    (hlt : free g p < n + 1) : free g (x :: p) < n :=
  Nat.lt_of_lt_of_le (free_lt (mem_keys_of_node hn) hx) (Nat.le_of_lt_succ hlt)

theorem finishHealthy_fst (x : Name) (r : Outcome × List Name) : (finishHealthy x r).1 = r.1 := by
  obtain ⟨o, c⟩ := r; cases o <;> rfl

theorem finishFaulty_fst_ne_fuel {r} (h : r.1 ≠ .fuel) : (finishFaulty r).1 ≠ .fuel := by
  obtain ⟨o, c⟩ := r; cases o <;> first | exact h | nofun

theorem dfs_ne_fuel (g : Graph) (fuel : Nat) (c path : List Name) (x : Name) (h : free g path < fuel) :
    (dfs fuel g c path x).1 ≠ .fuel := by
  exact dfs_rule g (P := fun n _ p _ res => free g p < n → res.1 ≠ .fuel)
    (PL := fun n _ p _ res => free g p < n → res.1 ≠ .fuel)
    (nil := fun _ _ _ _ => nofun) (cons := fun _ _ _ _ _ _ _ _ _ h2 => h2) (stop := fun _ _ _ _ _ _ _ _ _ h1 => h1)
    (fuel := fun _ _ _ h => absurd h (Nat.not_lt_zero _))
    (cyclic := fun _ _ _ _ _ _ => nofun) (cached := fun _ _ _ _ _ _ _ => nofun)
    (missing := fun _ _ _ _ _ _ _ _ => nofun) (unreadable := fun _ _ _ _ _ _ _ _ => nofun)
    (malformed := fun _ _ _ _ _ _ _ _ => nofun)
    (healthy := fun _ _ _ _ _ _ hx _ hn _ ih hlt =>
      (finishHealthy_fst ..).symm ▸ ih (free_push_lt (by rw [hn]; nofun) hx hlt))
    (faulty := fun _ _ _ _ _ _ hx _ hn _ ih hlt =>
      finishFaulty_fst_ne_fuel (ih (free_push_lt (by rw [hn]; nofun) hx hlt)))
    fuel c path x h

/-! ## the cache invariant -/

/-- `CacheOK` over a cache and a path -/
structure COK (g : Graph) (c path : List Name) : Prop where
  loadable : ∀ y ∈ c, Loadable g y
  closed : ∀ y ∈ c, ∀ d ∈ (g.node y).deps, d ∈ c
  disjoint : ∀ y ∈ c, y ∉ path

/-- what a visit that started with the cache `c` leaves -/
structure Post (g : Graph) (c path : List Name) (res : Outcome × List Name) : Prop where
  cok : COK g res.2 path
  mono : ∀ y ∈ c, y ∈ res.2

theorem Post.same {g : Graph} {c path : List Name} (h : COK g c path) (r : Outcome) : Post g c path (r, c) :=
  ⟨h, fun _ h => h⟩

theorem COK.push {g c path x} (h : COK g c path) (hx : x ∉ c) : COK g c (x :: path) :=
  ⟨h.loadable, h.closed, fun y hy => by
    intro hm
    rcases List.mem_cons.1 hm with rfl | hm
    · exact hx hy
    · exact h.disjoint y hy hm⟩

theorem dfs_post (g : Graph) (fuel : Nat) (c path : List Name) (x : Name) (hcok : COK g c path) :
    Post g c path (dfs fuel g c path x) ∧ ((dfs fuel g c path x).1 = .ok → x ∈ (dfs fuel g c path x).2) := by
  -- after the dependencies: the cache is sound for the longer path, hence for the path
  have pop : ∀ {c' p x}, COK g c' (x :: p) → COK g c' p := fun k =>
    ⟨k.loadable, k.closed, fun y hy hm => k.disjoint y hy (List.mem_cons_of_mem _ hm)⟩
  exact dfs_rule g (P := fun _ c p x res => COK g c p → Post g c p res ∧ (res.1 = .ok → x ∈ res.2))
    (PL := fun _ c p deps res => COK g c p → Post g c p res ∧ (res.1 = .ok → ∀ d ∈ deps, d ∈ res.2))
    (nil := fun _ _ _ h => ⟨.same h _, fun _ _ hd => nomatch hd⟩)
    (cons := fun _ _ _ d _ _ _ _ h1 h2 h =>
      have ⟨⟨k1, m1⟩, o1⟩ := h1 h
      have ⟨⟨k2, m2⟩, o2⟩ := h2 k1
      ⟨⟨k2, fun y hy => m2 y (m1 y hy)⟩, fun hr e he =>
        (List.mem_cons.1 he).elim (fun h => h ▸ m2 d (o1 rfl)) (o2 hr e)⟩)
    (stop := fun _ _ _ _ _ _ _ _ he h1 h => ⟨(h1 h).1, fun hr => absurd hr he⟩)
    (fuel := fun _ _ _ h => ⟨.same h _, nofun⟩) (cyclic := fun _ _ _ _ _ h => ⟨.same h _, nofun⟩)
    (cached := fun _ _ _ _ _ hc h => ⟨.same h _, fun _ => hc⟩)
    (missing := fun _ _ _ _ _ _ _ h => ⟨.same h _, nofun⟩) (unreadable := fun _ _ _ _ _ _ _ h => ⟨.same h _, nofun⟩)
    (malformed := fun _ _ _ _ _ _ _ h => ⟨.same h _, nofun⟩)
    (healthy := fun _ c p x deps res hx hc hn _ ih h => by
      obtain ⟨r, c'⟩ := res
      obtain ⟨⟨kc, km⟩, kd⟩ := ih (h.push hc)
      by_cases hr : r = .ok
      · subst hr
        have hdeps := kd rfl
        exact ⟨⟨⟨List.forall_mem_cons.2 ⟨.mk hn fun d hd => kc.loadable d (hdeps d hd), kc.loadable⟩,
          List.forall_mem_cons.2 ⟨fun d hd => List.mem_cons_of_mem _ (hdeps d (by rwa [hn] at hd)),
            fun y hy d hd => List.mem_cons_of_mem _ (kc.closed y hy d hd)⟩,
          List.forall_mem_cons.2 ⟨hx, (pop kc).disjoint⟩⟩,
          fun y hy => List.mem_cons_of_mem _ (km y hy)⟩, fun _ => List.mem_cons_self ..⟩
      · rw [finishHealthy_err hr]; exact ⟨⟨pop kc, km⟩, fun h => absurd h hr⟩)
    (faulty := fun _ c p x deps res _ hc _ _ ih h => by
      obtain ⟨r, c'⟩ := res
      obtain ⟨⟨kc, km⟩, -⟩ := ih (h.push hc)
      by_cases hr : r = .ok
      · subst hr; exact ⟨⟨pop kc, km⟩, nofun⟩
      · rw [finishFaulty_err hr]; exact ⟨⟨pop kc, km⟩, fun h => absurd h hr⟩)
    fuel c path x hcok

/-! ## the graph -/

theorem Reachable.trans {g : Graph} {x y z : Name} (h1 : Reachable g x y) (h2 : Reachable g y z) :
    Reachable g x z := by
  induction h1 with
  | refl => exact h2
  | step hd _ ih => exact .step hd (ih h2)

theorem Reachable.single {g : Graph} {x y : Name} (h : y ∈ (g.node x).deps) : Reachable g x y :=
  .step h (.refl _)

theorem Loadable.no_back {g : Graph} {x : Name} (h : Loadable g x) :
    ∀ d ∈ (g.node x).deps, ¬ Reachable g d x := by
  induction h with
  | @mk x deps hn _ ih =>
    intro d hd hr
    rw [hn] at hd
    cases hr with
    | refl => exact ih x hd x (by rw [hn]; exact hd) (.refl _)
    | @step _ d' _ hd' hr' =>
      exact ih d hd d' hd' (hr'.trans (.single (by rw [hn]; exact hd)))

theorem Loadable.of_reachable {g : Graph} {x y : Name} (h : Loadable g x) (hr : Reachable g x y) :
    Loadable g y := by
  induction hr with
  | refl => exact h
  | step hd _ ih =>
    apply ih
    cases h with
    | mk hn hall => rw [hn] at hd; exact hall _ hd

theorem dfs_loadable {g : Graph} {x : Name} (h : Loadable g x) (fuel : Nat) (c path : List Name)
    (hp : ∀ y, Reachable g x y → y ∉ path) :
    (dfs fuel g c path x).1 = .ok ∨ (dfs fuel g c path x).1 = .fuel := by
  have notHealthy : ∀ {x}, Loadable g x → (∀ deps, g.node x ≠ .healthy deps) → False :=
    fun hl hn => by cases hl with | mk hn' _ => exact hn _ hn'
  exact dfs_rule g
    (P := fun _ _ p x res => Loadable g x → (∀ y, Reachable g x y → y ∉ p) → res.1 = .ok ∨ res.1 = .fuel)
    (PL := fun _ _ p deps res => (∀ d ∈ deps, Loadable g d ∧ ∀ y, Reachable g d y → y ∉ p) →
      res.1 = .ok ∨ res.1 = .fuel)
    (nil := fun _ _ _ _ => .inl rfl)
    (cons := fun _ _ _ _ _ _ _ _ _ h2 h => h2 fun d hd => h d (List.mem_cons_of_mem _ hd))
    (stop := fun _ _ _ d _ _ _ _ _ h1 h => h1 (h d (List.mem_cons_self ..)).1 (h d (List.mem_cons_self ..)).2)
    (fuel := fun _ _ _ _ _ => .inr rfl) (cyclic := fun _ _ _ x hx _ hp => absurd hx (hp x (.refl _)))
    (cached := fun _ _ _ _ _ _ _ _ => .inl rfl)
    (missing := fun _ _ _ _ _ _ hn hl _ => (notHealthy hl (by rw [hn]; nofun)).elim)
    (unreadable := fun _ _ _ _ _ _ hn hl _ => (notHealthy hl (by rw [hn]; nofun)).elim)
    (malformed := fun _ _ _ _ _ _ hn hl _ => (notHealthy hl (by rw [hn]; nofun)).elim)
    (healthy := fun _ _ p x deps res _ _ hn _ ih hl hp => by
      have hback := hl.no_back
      cases hl with
      | mk hn' hall =>
        obtain rfl : deps = _ := Node.healthy.inj (hn.symm.trans hn')
        have := ih fun d hd => ⟨hall d hd, fun y hy hm => by
          rcases List.mem_cons.1 hm with rfl | hm
          · exact hback d (by rw [hn]; exact hd) hy
          · exact hp y (.step (by rw [hn]; exact hd) hy) hm⟩
        rwa [finishHealthy_fst])
    (faulty := fun _ _ _ _ _ _ _ _ hn _ _ hl _ => (notHealthy hl (by rw [hn]; nofun)).elim)
    fuel c path x h hp

/-! ## the outcome does not depend on the cache -/

theorem COK.reach_mem {g : Graph} {c path : List Name} {x y : Name} (h : COK g c path) (hx : x ∈ c)
    (hr : Reachable g x y) : y ∈ c := by
  induction hr with
  | refl => exact hx
  | step hd _ ih => exact ih (h.closed _ hx _ hd)

theorem dfs_of_cached {g : Graph} {c c' path : List Name} {x : Name} {fuel : Nat} (h : COK g c path)
    (hx : x ∈ c) (hfuel : free g path < fuel) : (dfs fuel g c' path x).1 = .ok :=
  (dfs_loadable (h.loadable x hx) fuel c' path (fun y hy => h.disjoint y (h.reach_mem hx hy))).resolve_right
    (dfs_ne_fuel g fuel c' path x hfuel)

theorem finishFaulty_fst_congr {r1 r2 : Outcome × List Name} (h : r1.1 = r2.1) :
    (finishFaulty r1).1 = (finishFaulty r2).1 := by
  obtain ⟨a, _⟩ := r1; obtain ⟨b, _⟩ := r2; simp only at h; subst h; cases a <;> rfl

theorem dfs_indep (g : Graph) (fuel : Nat) (c₁ c₂ path : List Name) (x : Name)
    (h1 : COK g c₁ path) (h2 : COK g c₂ path) (hfuel : free g path < fuel) :
    (dfs fuel g c₁ path x).1 = (dfs fuel g c₂ path x).1 := by
  -- a node the other cache holds loads from this one; otherwise the other visit looks at the node, too
  have viaNode : ∀ {n c p x res}, x ∉ p → dfs (n + 1) g c p x = res → ∀ c₂, COK g c₂ p → free g p < n + 1 →
      (x ∉ c₂ → res.1 = (dfs (n + 1) g c₂ p x).1) → res.1 = (dfs (n + 1) g c₂ p x).1 :=
    fun {n c p x res} hx heq c₂ k2 hlt h => by
      by_cases hc2 : x ∈ c₂
      · rw [dfs_cached hx hc2, ← heq]; exact dfs_of_cached k2 hc2 hlt
      · exact h hc2
  exact dfs_rule g
    (P := fun n c p x res => dfs n g c p x = res → ∀ c₂, COK g c p → COK g c₂ p → free g p < n →
      res.1 = (dfs n g c₂ p x).1)
    (PL := fun n c p deps res => ∀ c₂, COK g c p → COK g c₂ p → free g p < n →
      res.1 = (dfsDeps (fun c d => dfs n g c p d) c₂ deps).1)
    (nil := fun _ _ _ _ _ _ _ => rfl)
    (cons := fun n c p d ds c' res he h1 h2 c₂ k1 k2 hlt => by
      have e := h1 he c₂ k1 k2 hlt
      rcases he2 : dfs n g c₂ p d with ⟨r₂, c₂'⟩
      rw [he2] at e
      obtain rfl : r₂ = .ok := e.symm
      rw [dfsDeps_cons_ok (fun c d => dfs n g c p d) ds he2]
      have p1 := (dfs_post g n c p d k1).1.cok
      have p2 := (dfs_post g n c₂ p d k2).1.cok
      rw [he] at p1; rw [he2] at p2
      exact h2 c₂' p1 p2 hlt)
    (stop := fun n c p d ds e c' he hne h1 c₂ k1 k2 hlt => by
      have e' := h1 he c₂ k1 k2 hlt
      rcases he2 : dfs n g c₂ p d with ⟨r₂, c₂'⟩
      rw [he2] at e'
      obtain rfl : e = r₂ := e'
      rw [dfsDeps_cons_err (fun c d => dfs n g c p d) ds he2 hne])
    (fuel := fun _ _ _ _ _ _ _ h => absurd h (Nat.not_lt_zero _))
    (cyclic := fun _ _ _ _ hx _ _ _ _ _ => by rw [dfs_cyclic hx])
    (cached := fun _ _ _ _ hx hc _ c₂ k1 _ hlt => (dfs_of_cached k1 hc hlt).symm)
    (missing := fun _ _ _ _ hx _ hn heq c₂ _ k2 hlt =>
      viaNode hx heq c₂ k2 hlt fun hc2 => by rw [dfs_node hx hc2, hn])
    (unreadable := fun _ _ _ _ hx _ hn heq c₂ _ k2 hlt =>
      viaNode hx heq c₂ k2 hlt fun hc2 => by rw [dfs_node hx hc2, hn])
    (malformed := fun _ _ _ _ hx _ hn heq c₂ _ k2 hlt =>
      viaNode hx heq c₂ k2 hlt fun hc2 => by rw [dfs_node hx hc2, hn])
    (healthy := fun _ _ _ _ _ _ hx hc hn _ ih heq c₂ k1 k2 hlt => viaNode hx heq c₂ k2 hlt fun hc2 => by
      rw [dfs_node hx hc2, hn, finishHealthy_fst, finishHealthy_fst]
      exact ih c₂ (k1.push hc) (k2.push hc2) (free_push_lt (by rw [hn]; nofun) hx hlt))
    (faulty := fun _ _ _ _ _ _ hx hc hn _ ih heq c₂ k1 k2 hlt => viaNode hx heq c₂ k2 hlt fun hc2 => by
      rw [dfs_node hx hc2, hn]
      exact finishFaulty_fst_congr (ih c₂ (k1.push hc) (k2.push hc2) (free_push_lt (by rw [hn]; nofun) hx hlt)))
    fuel c₁ path x rfl c₂ h1 h2 hfuel

/-! ## every error points at a reachable fault -/

/-- what the outcome `r` of visiting `x` with `path` in progress says about the graph -/
def Blame (g : Graph) (path : List Name) (x : Name) : Outcome → Prop
  | .ok => True
  | .fuel => True
  | .cyclic => (∃ y ∈ path, Reachable g x y) ∨ HasCycleFrom g x
  | .notFound => ∃ y, Reachable g x y ∧ g.node y = .missing
  | .io => ∃ y, Reachable g x y ∧ g.node y = .unreadable
  | .syntax => ∃ y, Reachable g x y ∧ g.node y = .malformed
  | .fault => ∃ y deps, Reachable g x y ∧ g.node y = .faulty deps

theorem HasCycleFrom.lift {g : Graph} {x d : Name} (hd : d ∈ (g.node x).deps) (h : HasCycleFrom g d) :
    HasCycleFrom g x := by
  obtain ⟨y, z, h1, h2, h3⟩ := h
  exact ⟨y, z, .step hd h1, h2, h3⟩

theorem Blame.lift {g : Graph} {path : List Name} {x d : Name} {r : Outcome}
    (hd : d ∈ (g.node x).deps) (h : Blame g (x :: path) d r) (hr : r ≠ .ok) : Blame g path x r := by
  cases r with
  | ok => exact absurd rfl hr
  | fuel => trivial
  | cyclic =>
    rcases h with ⟨y, hy, hreach⟩ | h
    · rcases List.mem_cons.1 hy with rfl | hy
      · exact .inr ⟨y, d, .refl _, hd, hreach⟩
      · exact .inl ⟨y, hy, .step hd hreach⟩
    · exact .inr (h.lift hd)
  | notFound | io | «syntax» => obtain ⟨y, h1, h2⟩ := h; exact ⟨y, .step hd h1, h2⟩
  | fault => obtain ⟨y, ds, h1, h2⟩ := h; exact ⟨y, ds, .step hd h1, h2⟩

theorem dfs_blame (g : Graph) (fuel : Nat) (c path : List Name) (x : Name) :
    Blame g path x (dfs fuel g c path x).1 :=
  dfs_rule g (P := fun _ _ p x res => Blame g p x res.1)
    (PL := fun _ _ p deps res => res.1 = .ok ∨ ∃ d ∈ deps, Blame g p d res.1)
    (nil := fun _ _ _ => .inl rfl)
    (cons := fun _ _ _ _ _ _ _ _ _ h2 => h2.imp_right fun ⟨e, he, hb⟩ => ⟨e, List.mem_cons_of_mem _ he, hb⟩)
    (stop := fun _ _ _ d _ _ _ _ _ h1 => .inr ⟨d, List.mem_cons_self .., h1⟩)
    (fuel := fun _ _ _ => trivial) (cyclic := fun _ _ _ x hx => .inl ⟨x, hx, .refl _⟩)
    (cached := fun _ _ _ _ _ _ => trivial)
    (missing := fun _ _ _ x _ _ hn => ⟨x, .refl _, hn⟩) (unreadable := fun _ _ _ x _ _ hn => ⟨x, .refl _, hn⟩)
    (malformed := fun _ _ _ x _ _ hn => ⟨x, .refl _, hn⟩)
    (healthy := fun _ _ _ x deps res _ _ hn _ ih => by
      rw [finishHealthy_fst]
      by_cases hr : res.1 = .ok
      · rw [hr]; trivial
      · obtain ⟨d, hd, hb⟩ := ih.resolve_left hr
        exact hb.lift (by rw [hn]; exact hd) hr)
    (faulty := fun _ _ _ x deps res _ _ hn _ ih => by
      obtain ⟨r, c'⟩ := res
      by_cases hr : r = .ok
      · subst hr; exact ⟨x, deps, .refl _, hn⟩
      · rw [finishFaulty_err hr]
        obtain ⟨d, hd, hb⟩ := ih.resolve_left hr
        exact hb.lift (by rw [hn]; exact hd) hr)
    fuel c path x

theorem Loadable.healthy_acyclic {g : Graph} {x : Name} (h : Loadable g x) :
    (∀ y, Reachable g x y → ∃ deps, g.node y = .healthy deps) ∧ ¬ HasCycleFrom g x := by
  constructor
  · intro y hy
    cases h.of_reachable hy with
    | mk hn _ => exact ⟨_, hn⟩
  · rintro ⟨y, z, h1, h2, h3⟩
    exact (h.of_reachable h1).no_back z h2 h3

theorem dfs_ok_of_healthy_acyclic {g : Graph} {x : Name} {fuel : Nat} {c : List Name}
    (hh : ∀ y, Reachable g x y → ∃ deps, g.node y = .healthy deps) (hc : ¬ HasCycleFrom g x)
    (hfuel : g.length + 1 ≤ fuel) : (dfs fuel g c [] x).1 = .ok := by
  have hb := dfs_blame g fuel c [] x
  have hne := dfs_ne_fuel g fuel c [] x (free_lt_of_length g [] hfuel)
  generalize (dfs fuel g c [] x).1 = r at hb hne
  cases r with
  | ok => rfl
  | fuel => exact absurd rfl hne
  | cyclic =>
    rcases hb with ⟨y, hy, _⟩ | hb
    · cases hy
    · exact absurd hb hc
  | notFound | io | «syntax» => obtain ⟨y, h1, h2⟩ := hb; obtain ⟨ds, h3⟩ := hh y h1; rw [h2] at h3; cases h3
  | fault => obtain ⟨y, ds', h1, h2⟩ := hb; obtain ⟨ds, h3⟩ := hh y h1; rw [h2] at h3; cases h3


/-! ## the loader is the depth-first traversal `Dfs` -/

theorem dfs_sound (g : Graph) (fuel : Nat) (c path : List Name) (x : Name) (r : Outcome) (c' : List Name)
    (h : dfs fuel g c path x = (r, c')) (hr : r ≠ .fuel) : Dfs g c path x r c' := by
  have := dfs_rule g (P := fun _ c p x res => res.1 ≠ .fuel → Dfs g c p x res.1 res.2)
    (PL := fun _ c p deps res => res.1 ≠ .fuel → DfsList g c p deps res.1 res.2)
    (nil := fun _ _ _ _ => .nil) (cons := fun _ _ _ _ _ _ _ _ h1 h2 hr => .cons (h1 nofun) (h2 hr))
    (stop := fun _ _ _ _ _ _ _ _ he h1 hr => .stop (h1 hr) he)
    (fuel := fun _ _ _ hr => absurd rfl hr) (cyclic := fun _ _ _ _ hx _ => .cyclic hx)
    (cached := fun _ _ _ _ hx hc _ => .cached hx hc)
    (missing := fun _ _ _ _ hx hc hn _ => .missing hx hc hn)
    (unreadable := fun _ _ _ _ hx hc hn _ => .unreadable hx hc hn)
    (malformed := fun _ _ _ _ hx hc hn _ => .malformed hx hc hn)
    (healthy := fun _ _ _ _ _ res hx hc hn _ ih => by
      obtain ⟨r, c'⟩ := res
      by_cases hr : r = .ok
      · subst hr; exact fun _ => .healthy hx hc hn (ih nofun)
      · rw [finishHealthy_err hr]; exact fun hf => .healthyErr hx hc hn (ih hf) hr)
    (faulty := fun _ _ _ _ _ res hx hc hn _ ih => by
      obtain ⟨r, c'⟩ := res
      by_cases hr : r = .ok
      · subst hr; exact fun _ => .faulty hx hc hn (ih nofun)
      · rw [finishFaulty_err hr]; exact fun hf => .faultyErr hx hc hn (ih hf) hr)
    fuel c path x
  rw [h] at this
  exact this hr

theorem from_succ {Q : Nat → Prop} (n : Nat) (h : ∀ k, n ≤ k → Q (k + 1)) : ∃ m, ∀ fuel, m ≤ fuel → Q fuel :=
  ⟨n + 1, fun
    | 0, hf => absurd hf (Nat.not_succ_le_zero _)
    | k + 1, hf => h k (Nat.le_of_succ_le_succ hf)⟩

theorem complete_cons {g : Graph} {c p d ds c' r c''}
    (h1 : ∃ n, ∀ fuel, n ≤ fuel → dfs fuel g c p d = (.ok, c'))
    (h2 : ∃ n, ∀ fuel, n ≤ fuel → dfsDeps (fun c d => dfs fuel g c p d) c' ds = (r, c'')) :
    ∃ n, ∀ fuel, n ≤ fuel → dfsDeps (fun c d => dfs fuel g c p d) c (d :: ds) = (r, c'') :=
  have ⟨n1, h1'⟩ := h1
  have ⟨n2, h2'⟩ := h2
  ⟨max n1 n2, fun fuel hf => by
    rw [dfsDeps_cons_ok (fun c d => dfs fuel g c p d) ds (h1' fuel (Nat.le_trans (Nat.le_max_left ..) hf))]
    exact h2' fuel (Nat.le_trans (Nat.le_max_right ..) hf)⟩

theorem complete_stop {g : Graph} {c p d e c'} (ds : List Name)
    (h : ∃ n, ∀ fuel, n ≤ fuel → dfs fuel g c p d = (e, c')) (he : e ≠ .ok) :
    ∃ n, ∀ fuel, n ≤ fuel → dfsDeps (fun c d => dfs fuel g c p d) c (d :: ds) = (e, c') :=
  have ⟨n, h'⟩ := h
  ⟨n, fun fuel hf => dfsDeps_cons_err (fun c d => dfs fuel g c p d) ds (h' fuel hf) he⟩

theorem Dfs.complete {g : Graph} : ∀ {c p x r c'}, Dfs g c p x r c' →
    ∃ n, ∀ fuel, n ≤ fuel → dfs fuel g c p x = (r, c') := by
  intro c p x r c' h
  induction h using Dfs.rec (motive_2 := fun c p ds r c' _ =>
    ∃ n, ∀ fuel, n ≤ fuel → dfsDeps (fun c d => dfs fuel g c p d) c ds = (r, c')) with
  | cyclic h => exact from_succ 0 fun _ _ => dfs_cyclic h
  | cached h hc => exact from_succ 0 fun _ _ => dfs_cached h hc
  | missing h hc hn | unreadable h hc hn | malformed h hc hn =>
    exact from_succ 0 fun _ _ => by rw [dfs_node h hc, hn]
  | healthy h hc hn _ ih | faulty h hc hn _ ih =>
    obtain ⟨n, hn'⟩ := ih
    exact from_succ n fun k hk => by rw [dfs_node h hc, hn]; dsimp only; rw [hn' k hk]; rfl
  | healthyErr h hc hn _ he ih =>
    obtain ⟨n, hn'⟩ := ih
    exact from_succ n fun k hk => by rw [dfs_node h hc, hn]; dsimp only; rw [hn' k hk, finishHealthy_err he]
  | faultyErr h hc hn _ he ih =>
    obtain ⟨n, hn'⟩ := ih
    exact from_succ n fun k hk => by rw [dfs_node h hc, hn]; dsimp only; rw [hn' k hk, finishFaulty_err he]
  | nil => exact ⟨0, fun _ _ => rfl⟩
  | cons _ _ ih1 ih2 => exact complete_cons ih1 ih2
  | stop _ he ih => exact complete_stop _ ih he

theorem DfsList.complete {g : Graph} : ∀ {c p ds r c'}, DfsList g c p ds r c' →
    ∃ n, ∀ fuel, n ≤ fuel → dfsDeps (fun c d => dfs fuel g c p d) c ds = (r, c') := by
  intro c p ds r c' h
  induction h using DfsList.rec (motive_1 := fun _ _ _ _ _ _ => True) with
  | nil => exact ⟨0, fun _ _ => rfl⟩
  | cons h1 _ _ ih2 => exact complete_cons h1.complete ih2
  | stop h he _ => exact complete_stop _ h.complete he
  | _ => trivial

theorem dfs_iff_Dfs (g : Graph) (fuel : Nat) (c path : List Name) (x : Name) (r : Outcome) (c' : List Name)
    (hfuel : g.length + 1 ≤ fuel) : dfs fuel g c path x = (r, c') ↔ Dfs g c path x r c' := by
  have hne := dfs_ne_fuel g fuel c path x (free_lt_of_length g path hfuel)
  constructor
  · intro h; exact dfs_sound g fuel c path x r c' h (by rw [h] at hne; exact hne)
  · intro h
    -- `Dfs` determines its result: both derivations are what `dfs` returns with enough fuel (`complete`)
    obtain ⟨n, hn⟩ := h.complete
    obtain ⟨n0, hn0⟩ := (dfs_sound g fuel c path x _ _ rfl hne).complete
    have e1 := hn (max n n0) (Nat.le_max_left ..)
    have e2 := hn0 (max n n0) (Nat.le_max_right ..)
    rw [e1] at e2
    exact e2.symm

/-! ## back to `load` -/

/-- nothing cached: the state every interpreter starts in -/
theorem CacheOK.empty (g : Graph) : CacheOK g {} := ⟨nofun, nofun, nofun⟩

theorem cacheOK_iff {g : Graph} {st : LState} : CacheOK g st ↔ COK g st.cache st.inProgress :=
  ⟨fun h => ⟨h.loadable, h.closed, h.disjoint⟩, fun h => ⟨h.loadable, h.closed, h.disjoint⟩⟩

theorem attempts_ok (g : Graph) (hist : List (Nat × Name)) (st : LState) (h : CacheOK g st) :
    CacheOK g (attempts g st hist) ∧ (attempts g st hist).inProgress = st.inProgress := by
  induction hist generalizing st with
  | nil => exact ⟨h, rfl⟩
  | cons p rest ih =>
    obtain ⟨fuel, x⟩ := p
    rw [attempts]
    have hp := (dfs_post g fuel st.cache st.inProgress x (cacheOK_iff.1 h)).1.cok
    have := ih (load fuel g st x).2 (by rw [load_eq_dfs']; exact cacheOK_iff.2 hp)
    refine ⟨this.1, this.2.trans ?_⟩
    rw [load_eq_dfs']

end Loader
end Ruschm
