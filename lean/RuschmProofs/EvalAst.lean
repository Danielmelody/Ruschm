/-
`eval_expression_or_definition`, the one leaf of the loader's mutual block that runs the evaluator, by the ways
it ends (`ExprOrDef`); and `eval_ast`, above the block, split into the part that takes fuel
(`ProgramText.astInner`) and the completion of an error's location (`ProgramText.astPost`), so that facts
about fuel and state concern the first alone. Then one equation for each form of statement.
-/
import RuschmModel.Interp
import RuschmProofs.AndThen

namespace Ruschm

namespace Interp

/-! ## `eval_expression_or_definition` -/

inductive ExprOrDef (fuel : Nat) (st : State) (ρ : Nat) : Statement → Except SErr (Option Value) × State → Prop where
  | error {s e er σ} : (s = .expr e ∨ ∃ x l, s = .definition (.mk x e l)) →
      Eval.evalExpr fuel st.store ρ e = (.error er, σ) → ExprOrDef fuel st ρ s (.error er, { st with store := σ })
  | value {e v σ} : Eval.evalExpr fuel st.store ρ e = (.ok v, σ) →
      ExprOrDef fuel st ρ (.expr e) (.ok (some v), { st with store := σ })
  | define {x e l v σ} : Eval.evalExpr fuel st.store ρ e = (.ok v, σ) →
      ExprOrDef fuel st ρ (.definition (.mk x e l)) (.ok none, { st with store := σ.define ρ x v })
  | syntaxDef {x rules l} :
      ExprOrDef fuel st ρ (.syntaxDef x rules l) (.ok none, { st with store := st.store.define ρ x (.transformer rules) })
  | other {s} : ExprOrDef fuel st ρ s (.error (.syntax, none), st)

theorem evalExprOrDef_cases (fuel : Nat) (st : State) (s : Statement) (ρ : Nat) :
    ExprOrDef fuel st ρ s (evalExprOrDef fuel st s ρ) := by
  cases s with
  | expr e =>
    rw [evalExprOrDef]
    rcases he : Eval.evalExpr fuel st.store ρ e with ⟨er | v, σ⟩
    · exact .error (.inl rfl) he
    · exact .value he
  | definition d =>
    obtain ⟨x, e, l⟩ := d
    rw [evalExprOrDef]
    rcases he : Eval.evalExpr fuel st.store ρ e with ⟨er | v, σ⟩
    · exact .error (.inr ⟨x, l, rfl⟩) he
    · exact .define he
  | syntaxDef x rules l => exact .syntaxDef
  | importDecl sets l => exact .other
  | libraryDef n decls l => exact .other

theorem evalExprOrDef_frame {fuel st s ρ r st'} (h : evalExprOrDef fuel st s ρ = (r, st')) :
    st' = { st with store := st'.store } := by
  have c := evalExprOrDef_cases fuel st s ρ
  rw [h] at c
  cases c <;> rfl

end Interp

namespace ProgramText
open Interp

/-- the part of `eval_ast` that takes fuel -/
def astInner (fuel : Nat) (st : State) (s : Statement) : Except SErr (Option Value) × State :=
  if !st.importEnd then
    match s with
    | .importDecl sets _ => andThen (evalImport fuel st sets st.env) fun _ st => (.ok none, st)
    | .libraryDef _ _ loc => (.error (.syntax, loc), st)
    | other => evalExprOrDef fuel { st with importEnd := true } other st.env
  else evalExprOrDef fuel st s st.env

/-- `eval_ast` gives an error without location the location of the statement -/
def astPost (s : Statement) (x : Except SErr (Option Value) × State) : Except SErr (Option Value) × State :=
  match x.1 with
  | .ok v => (.ok v, x.2)
  | .error (e, loc) => (.error (e, loc.orElse (fun _ => s.loc)), x.2)

theorem evalAst_eq (fuel : Nat) (st : State) (s : Statement) :
    evalAst fuel st s = astPost s (astInner fuel st s) := by
  unfold evalAst astPost astInner
  cases s with
  | importDecl sets l =>
    dsimp only
    generalize evalImport fuel st sets st.env = x
    obtain ⟨_ | ⟨⟩, _⟩ := x <;> cases st.importEnd <;> rfl
  | _ => rfl

theorem astPost_snd (s : Statement) (x : Except SErr (Option Value) × State) : (astPost s x).2 = x.2 := by
  unfold astPost; split <;> rfl

theorem astInner_cases (fuel : Nat) (st : State) (s : Statement) :
    (∃ b, astInner fuel st s = evalExprOrDef fuel { st with importEnd := b } s st.env) ∨
    (∃ sets l, s = .importDecl sets l ∧
      astInner fuel st s = andThen (evalImport fuel st sets st.env) fun _ st => (.ok none, st)) ∨
    (∃ n d loc, s = .libraryDef n d loc ∧ astInner fuel st s = (.error (.syntax, loc), st)) := by
  by_cases hb : st.importEnd = true
  · exact .inl ⟨st.importEnd, by unfold astInner; rw [if_neg (by simpa using hb)]⟩
  · have hb' : (!st.importEnd) = true := by simpa using hb
    cases s with
    | importDecl sets l => exact .inr (.inl ⟨sets, l, rfl, by unfold astInner; rw [if_pos hb']⟩)
    | libraryDef n d l => exact .inr (.inr ⟨n, d, l, rfl, by unfold astInner; rw [if_pos hb']⟩)
    | _ => exact .inl ⟨true, by unfold astInner; rw [if_pos hb']⟩

theorem astInner_other {fuel : Nat} {st : State} {s : Statement}
    (hs : (∃ e, s = .expr e) ∨ (∃ d, s = .definition d) ∨ ∃ m r l, s = .syntaxDef m r l) :
    astInner fuel st s = evalExprOrDef fuel { st with importEnd := true } s st.env := by
  unfold astInner
  cases hi : st.importEnd
  · rcases hs with ⟨e, rfl⟩ | ⟨d, rfl⟩ | ⟨m, r, l, rfl⟩ <;> rfl
  · have e : ({ st with importEnd := true } : State) = st := by cases st; simp_all
    rw [e]; rfl

end ProgramText

namespace Interp
open Eval

/-! ## `eval_ast`, form by form -/

theorem evalAst_expr (fuel : Nat) (st : State) (e : Expr) :
    evalAst fuel st (.expr e) =
      ((match (evalExpr fuel st.store st.env e).1 with
        | .ok v => .ok (some v)
        | .error (k, loc) => .error (k, loc.orElse (fun _ => e.loc))),
       { st with store := (evalExpr fuel st.store st.env e).2, importEnd := true }) := by
  rw [ProgramText.evalAst_eq, ProgramText.astInner_other (.inl ⟨e, rfl⟩)]
  simp only [evalExprOrDef, ProgramText.astPost]
  rcases evalExpr fuel st.store st.env e with ⟨⟨k, l⟩ | v, σ⟩ <;> rfl

theorem evalAst_definition (fuel : Nat) (st : State) (x : String) (e : Expr) (l : Loc) :
    evalAst fuel st (.definition (.mk x e l)) =
      (match evalExpr fuel st.store st.env e with
       | (.ok v, σ) => (.ok none, { st with store := σ.define st.env x v, importEnd := true })
       | (.error (k, loc), σ) =>
         (.error (k, loc.orElse (fun _ => l)), { st with store := σ, importEnd := true })) := by
  rw [ProgramText.evalAst_eq, ProgramText.astInner_other (.inr (.inl ⟨_, rfl⟩))]
  simp only [evalExprOrDef, ProgramText.astPost]
  rcases evalExpr fuel st.store st.env e with ⟨⟨k, l⟩ | v, σ⟩ <;> rfl

/-- the keyword is bound in the root frame to the transformer as a value (`Value::Transformer`); nothing is
evaluated, so the fuel plays no part -/
theorem evalAst_syntaxDef (fuel : Nat) (st : State) (m : String) (r : Macro.Rules) (l : Loc) :
    evalAst fuel st (.syntaxDef m r l) =
      (.ok none, { st with importEnd := true, store := st.store.define st.env m (.transformer r) }) := by
  rw [ProgramText.evalAst_eq, ProgramText.astInner_other (.inr (.inr ⟨_, _, _, rfl⟩))]
  rfl

theorem evalAst_importDecl {st : State} (hie : st.importEnd = false) (fuel : Nat) (sets : List ImportSet) (l : Loc) :
    evalAst fuel st (.importDecl sets l) =
      match evalImport fuel st sets st.env with
      | (.ok (), st') => (.ok none, st')
      | (.error (k, loc), st') => (.error (k, loc.orElse (fun _ => l)), st') := by
  unfold evalAst
  simp only [hie, Bool.not_false, if_true, Statement.loc]
  rcases evalImport fuel st sets st.env with ⟨⟨k, loc⟩ | ⟨⟩, st'⟩ <;> rfl

/-! ### `evalFile`, branch by branch -/

theorem evalFile_text {fuel : Nat} {st : State} {path t : String}
    (h : st.files.lookup path = some (.text t)) :
    evalFile fuel st path = evalText fuel { st with dir := dirOf path } t.toList := by
  unfold evalFile
  simp only [h]

theorem evalFile_unreadable {fuel : Nat} {st : State} {path : String}
    (h : st.files.lookup path = some .unreadable) :
    evalFile fuel st path = (.error (.io, none), { st with dir := dirOf path }) := by
  unfold evalFile
  simp only [h]

theorem evalFile_missing {fuel : Nat} {st : State} {path : String}
    (h : st.files.lookup path = none) :
    evalFile fuel st path = (.error (.io, none), { st with dir := dirOf path }) := by
  unfold evalFile
  simp only [h]

end Interp

theorem Read.ofText_nil : Read.ofText [] = { toks := [], lexErr := none } := by
  have hs : Lex.skipAtmosphere false [] (1, 1) = ([], (1, 1)) := by rw [Lex.skipAtmosphere]
  simp [Read.ofText, Lex.all, Lex.allAux, Lex.next, hs, Lex.token]

end Ruschm
