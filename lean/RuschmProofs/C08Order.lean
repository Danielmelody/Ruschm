/-
Property C08, "the effects completed before an error are kept" — the ORDER of operand evaluation
and the procedure test when the operator of a call is NOT a procedure.

Both call paths of the Rust evaluator evaluate the operator, then the operands left to right, and
only then look at what the operator evaluated to:

* `eval_expression` (a call anywhere but in tail position; model `evalExpr`): ALL operands are
  evaluated up to the first failing one; then a non-procedure operator is reported — even when an
  operand failed (`nonProcedure` wins over the operand's error). The store of the error is the one
  the operands left.
* `eval_procedure_call` (the pending call a user procedure's body handed back to the trampoline;
  model: the `tailCall` arm of `applyLoop`): the operands are evaluated; a failing operand IS the
  outcome (`?` on the collected result); only when all of them gave values is the operator tested.
  Again the store of the `nonProcedure` error is the one the operands left — not the store after
  the operator.

(A seeded change that tested the operator of a tail call BEFORE its operands — the operands'
effects missing from the error store — was at first not noticed by the differential check; these
theorems pin the order down in the model.)

The theorems are stated on the fuel-free judgements of `EvalFuel.lean` (`Applies` = a run of the
trampoline loop `applyLoop`, `Evals`, `EvalsArgs`, `AppliesScheme`) AND on the fuel-indexed
functions themselves: every run that does not stop for lack of fuel returns exactly this outcome.
They build on `C08.fault_nonprocedure_tail`, `C08.fault_nonprocedure_direct`, `C08.two_faults_order`,
`C08.error_propagates_direct_call`.
-/
import RuschmProofs.C08
import RuschmProofs.StoreLemmas

namespace Ruschm.C08Order
open Ruschm Ruschm.Eval Ruschm.Prim

/-! ## data of the closed examples -/

/-- a root frame in which `e` is `0` -/
private def σe : Store := { frames := #[{ parent := none, defs := [("e", .num (.int 0))] }] }

/-- `(5 (set! e 1))`, the operator located at line 1, column 2 -/
private def badCall : Expr :=
  .call (.prim (.int 5) (some (1, 2))) [.assign "e" (.prim (.int 1) none) none] none

/-- `(lambda () (5 (set! e 1)))`: the bad call stands in TAIL position of the body -/
private def badLam : Lambda := .mk ⟨[], none⟩ [] [badCall]

/-! ## 1. the tail path (`eval_procedure_call` in the trampoline) -/

/-- TAIL POSITION. A user procedure (accepting its arguments) whose body ended in the pending call
`(f targs…)` (`hs`; `σ₀` is the store the body left). The operator evaluates to `fv`, leaving `σ₁`
(`hf`); the operands, evaluated from `σ₁` — the store AFTER THE OPERATOR —, all yield values and
leave `σ₂` (`hargs`); `fv` is not a procedure. Then the trampoline run is stopped with
`nonProcedure`, located at the operator, and the store of the error is `σ₂`: everything the operands
did is there. And this is the outcome of EVERY run of `applyLoop` that has enough fuel (`n`
arbitrary, outcome not the fuel error). -/
theorem tail_nonprocedure_after_operands {σ lam cenv args env f targs tenv σ₀ fv σ₁ vs σ₂}
    (ha : arityOk lam.formals.fixed.length lam.formals.rest.isSome args.length = true)
    (hs : AppliesScheme σ lam cenv args (.ok (.tailCall f targs tenv)) σ₀)
    (hf : Evals σ₀ tenv f (.ok fv) σ₁) (hargs : EvalsArgs σ₁ tenv targs (.ok vs) σ₂)
    (hp : procArity fv = none) :
    Applies σ (.closure lam cenv) args env (.error (.nonProcedure, f.loc)) σ₂ ∧
    ∀ n r σ', applyLoop n σ (.closure lam cenv) args env = (r, σ') → NotFuel r →
      r = .error (.nonProcedure, f.loc) ∧ σ' = σ₂ := by
  have h := C08.fault_nonprocedure_tail (env := env) ha hs hf hargs hp
  exact ⟨h, fun n r σ' hrun hr => Stable.unique (Applies.intro hrun hr) h⟩

/-- `(lambda () (5 (set! e 1)))` applied: the hypotheses hold, with `σ₂` the store in which the
assignment has been made -/
example : ∃ σ₀ σ₂, AppliesScheme σe badLam 0 [] (.ok (.tailCall (.prim (.int 5) (some (1, 2)))
      [.assign "e" (.prim (.int 1) none) none] 1)) σ₀ ∧
    Evals σ₀ 1 (.prim (.int 5) (some (1, 2))) (.ok (.num (.int 5))) σ₀ ∧
    EvalsArgs σ₀ 1 [.assign "e" (.prim (.int 1) none) none] (.ok [.void]) σ₂ ∧
    procArity (.num (.int 5)) = none :=
  ⟨_, _, AppliesScheme.intro_ok rfl EvalsDefs.nil (EvalsBody.last EvalsTail.call), Evals.prim rfl,
    EvalsArgs.cons (Evals.assign (Evals.prim rfl) rfl) EvalsArgs.nil, rfl⟩

/-- TAIL POSITION, the whole picture for a non-procedure operator: whatever the operands give — a
list of values or the first operand error `er` — the trampoline run is stopped in the store `σ₂`
the operands left; with `nonProcedure` after values, with the OPERAND'S error `er` after a failing
operand (the operand error comes first on this path). -/
theorem tail_nonprocedure_order {σ lam cenv args env f targs tenv σ₀ fv σ₁ ra σ₂}
    (ha : arityOk lam.formals.fixed.length lam.formals.rest.isSome args.length = true)
    (hs : AppliesScheme σ lam cenv args (.ok (.tailCall f targs tenv)) σ₀)
    (hf : Evals σ₀ tenv f (.ok fv) σ₁) (hargs : EvalsArgs σ₁ tenv targs ra σ₂)
    (hp : procArity fv = none) :
    Applies σ (.closure lam cenv) args env
      (match ra with
       | .ok _ => .error (.nonProcedure, f.loc)
       | .error er => .error er) σ₂ := by
  cases ra with
  | ok vs => exact C08.fault_nonprocedure_tail ha hs hf hargs hp
  | error er => exact (C08.two_faults_order (l := none) hf hargs hp).2 σ lam cenv args env ha hs

/-- `(lambda () (5 zz))`: the operand `zz` is unbound; in tail position that is the outcome -/
example : Applies {} (.closure (.mk ⟨[], none⟩ [] [.call (.prim (.int 5) none) [.sym "zz" (some (1, 4))] none]) 0) [] 0
    (.error (.unbound, some (1, 4))) (({} : Store).newFrame (some 0)).2 :=
  tail_nonprocedure_order (ra := .error (.unbound, some (1, 4))) rfl
    (AppliesScheme.intro_ok rfl EvalsDefs.nil (EvalsBody.last EvalsTail.call))
    (Evals.prim rfl) (EvalsArgs.cons_err (Evals.sym_unbound rfl)) rfl

/-! ## 2. the non-tail path (`eval_expression` on a call) -/

/-- NOT IN TAIL POSITION. The operator of the call expression evaluates to `fv`, leaving `σ₁`; the
operands are evaluated from `σ₁` left to right up to the first failing one, with result `ra` — the
values, or that operand's error — and store `σ₂`; `fv` is not a procedure. Then the call is
`nonProcedure`, located at the operator, IN BOTH CASES (here the procedure test comes before the
look at the operands' result), and the store of the error is `σ₂`: the operands have been
evaluated, their effects are kept. This is the outcome of every run of `evalExpr` with enough
fuel. -/
theorem direct_nonprocedure_after_operands {σ ρ f args l fv σ₁ ra σ₂}
    (hf : Evals σ ρ f (.ok fv) σ₁) (hargs : EvalsArgs σ₁ ρ args ra σ₂) (hp : procArity fv = none) :
    Evals σ ρ (.call f args l) (.error (.nonProcedure, f.loc)) σ₂ ∧
    ∀ n r σ', evalExpr n σ ρ (.call f args l) = (r, σ') → NotFuel r →
      r = .error (.nonProcedure, f.loc) ∧ σ' = σ₂ := by
  have h := C08.fault_nonprocedure_direct (l := l) hf hargs hp
  exact ⟨h, fun n r σ' hrun hr => h.run_eq hrun hr⟩

/-- `(5 (set! e 1))` at top level: operator, then the operand -/
example : ∃ σ₂, Evals σe 0 (.prim (.int 5) (some (1, 2))) (.ok (.num (.int 5))) σe ∧
    EvalsArgs σe 0 [.assign "e" (.prim (.int 1) none) none] (.ok [.void]) σ₂ ∧
    procArity (.num (.int 5)) = none :=
  ⟨_, Evals.prim rfl, EvalsArgs.cons (Evals.assign (Evals.prim rfl) rfl) EvalsArgs.nil, rfl⟩

/-- … and `(5 (set! e 1) zz)`: the first operand is evaluated, the second fails; the call is still
`nonProcedure` and the assignment is in the error store -/
example : ∃ σ₂, Evals σe 0 (.call (.prim (.int 5) (some (1, 2)))
      [.assign "e" (.prim (.int 1) none) none, .sym "zz" none] none) (.error (.nonProcedure, some (1, 2))) σ₂ ∧
    σ₂.lookup 0 "e" = some (.num (.int 1)) :=
  ⟨_, (direct_nonprocedure_after_operands (Evals.prim rfl)
    (EvalsArgs.cons_tail_err (Evals.assign (Evals.prim rfl) rfl) (EvalsArgs.cons_err (Evals.sym_unbound rfl))) rfl).1,
    rfl⟩

/-! ## 3. a call expression whose callee ends in such a tail call -/

/-- THE CALL EXPRESSION AROUND IT. `(g gargs…)` where `g` evaluates to a user procedure accepting
the arguments, whose body (run one activation deeper, from `enter σb`) hands back the pending call
`(f targs…)` with a non-procedure operator and operands that all evaluate (to `σ₂`): the call
expression is `nonProcedure` at `f`'s location and its store is `σ₂` with the activation closed
(`leave` only restores the depth counter): the operands' effects reach the caller. -/
theorem call_of_tail_nonprocedure {σ ρ g gargs l lam cenv σa gvs σb f targs tenv σ₀ fv σ₁ vs σ₂}
    (hg : Evals σ ρ g (.ok (.closure lam cenv)) σa) (hgargs : EvalsArgs σa ρ gargs (.ok gvs) σb)
    (ha : arityOk lam.formals.fixed.length lam.formals.rest.isSome gvs.length = true)
    (hs : AppliesScheme (enter σb) lam cenv gvs (.ok (.tailCall f targs tenv)) σ₀)
    (hf : Evals σ₀ tenv f (.ok fv) σ₁) (hargs : EvalsArgs σ₁ tenv targs (.ok vs) σ₂)
    (hp : procArity fv = none) :
    Evals σ ρ (.call g gargs l) (.error (.nonProcedure, f.loc)) (leave σ₂) ∧
    (leave σ₂).frames = σ₂.frames ∧ (leave σ₂).vecs = σ₂.vecs ∧ (leave σ₂).out = σ₂.out :=
  ⟨(C08.error_propagates_direct_call hg hgargs rfl
      (tail_nonprocedure_after_operands (env := ρ) ha hs hf hargs hp).1).2, rfl, rfl, rfl⟩

/-! ## 4. a concrete effect: an assignment among the operands is visible in the error store -/

/-- the operand `(set! x e)` of a call whose operator is not a procedure — `e` evaluates to `v`
(`he`), `x` is bound (`hset`: the assignment succeeds, leaving `σ₂`) —: on BOTH paths the error is
`nonProcedure` in the store `σ₂`, and in `σ₂` the variable `x`, looked up from the frame of the
call, has the NEW value `v`. -/
theorem assignment_operand_visible {ρ f x e lx fv v} {σ₀ σ₁ σe' σ₂ : Store}
    (hf : Evals σ₀ ρ f (.ok fv) σ₁) (hp : procArity fv = none)
    (he : Evals σ₁ ρ e (.ok v) σe') (hset : σe'.set ρ x v = (true, σ₂)) :
    σ₂.lookup ρ x = some v ∧
    (∀ l, Evals σ₀ ρ (.call f [.assign x e lx] l) (.error (.nonProcedure, f.loc)) σ₂) ∧
    (∀ σ lam cenv args env,
      arityOk lam.formals.fixed.length lam.formals.rest.isSome args.length = true →
      AppliesScheme σ lam cenv args (.ok (.tailCall f [.assign x e lx] ρ)) σ₀ →
      Applies σ (.closure lam cenv) args env (.error (.nonProcedure, f.loc)) σ₂) := by
  have hargs : EvalsArgs σ₁ ρ [.assign x e lx] (.ok [.void]) σ₂ :=
    EvalsArgs.cons (Evals.assign he hset) EvalsArgs.nil
  exact ⟨((Store.lookup_after_set hset ρ x).2.1 ⟨rfl, rfl⟩),
    fun l => (direct_nonprocedure_after_operands (l := l) hf hargs hp).1,
    fun σ lam cenv args env ha hs => (tail_nonprocedure_after_operands (env := env) ha hs hf hargs hp).1⟩

example : ∃ σ₂, Evals σe 0 (.prim (.int 1) none) (.ok (.num (.int 1))) σe ∧
    σe.set 0 "e" (.num (.int 1)) = (true, σ₂) := ⟨_, Evals.prim rfl, rfl⟩

/-- CLOSED EXAMPLE, tail position: `e` is `0`; `((lambda () (5 (set! e 1))))`'s trampoline run
stops with `nonProcedure` at the `5`, and in the store of the error `e` is `1` (seen from the root
frame), while before the run it was `0`. -/
example : ∃ σ', Applies σe (.closure badLam 0) [] 0 (.error (.nonProcedure, some (1, 2))) σ' ∧
    σ'.lookup 0 "e" = some (.num (.int 1)) ∧ σe.lookup 0 "e" = some (.num (.int 0)) :=
  ⟨_, (tail_nonprocedure_after_operands rfl
      (AppliesScheme.intro_ok rfl EvalsDefs.nil (EvalsBody.last EvalsTail.call))
      (Evals.prim rfl) (EvalsArgs.cons (Evals.assign (Evals.prim rfl) rfl) EvalsArgs.nil) rfl).1,
    rfl, rfl⟩

/-- CLOSED EXAMPLE, the same as a call expression evaluated at top level: `((lambda () (5 (set! e 1))))` -/
example : ∃ σ', Evals σe 0 (.call (.lambda badLam none) [] none) (.error (.nonProcedure, some (1, 2))) σ' ∧
    σ'.lookup 0 "e" = some (.num (.int 1)) :=
  ⟨_, (call_of_tail_nonprocedure Evals.lambda EvalsArgs.nil rfl
      (AppliesScheme.intro_ok rfl EvalsDefs.nil (EvalsBody.last EvalsTail.call))
      (Evals.prim rfl) (EvalsArgs.cons (Evals.assign (Evals.prim rfl) rfl) EvalsArgs.nil) rfl).1,
    rfl⟩

/-- CLOSED EXAMPLE, not in tail position: `(5 (set! e 1))` -/
example : ∃ σ', Evals σe 0 badCall (.error (.nonProcedure, some (1, 2))) σ' ∧
    σ'.lookup 0 "e" = some (.num (.int 1)) :=
  ⟨_, (direct_nonprocedure_after_operands (Evals.prim rfl)
      (EvalsArgs.cons (Evals.assign (Evals.prim rfl) rfl) EvalsArgs.nil) rfl).1, rfl⟩

end Ruschm.C08Order
