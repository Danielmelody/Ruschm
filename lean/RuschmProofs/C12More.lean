/-
Properties C12/C13, the SYNTAX in front of the existing theorems: the part of the parser that
turns the datum of an `(import …)` declaration or a `(define-library …)` form into the terms
(`ImportSet`, `LibName`, `ExportSpec`, `LibDecl`) that `C12.lean`, `C13.lean`, `C13More.lean` start
from. Model: `Xform.toImportSet` (`transform_import_set`), `toLibName`, `toExportSpec`,
`toLibDecl`, `toLibrary`, the `import` / `define-library` branches of `toStatement`
(`RuschmModel/Xform.lean`; Rust `src/parser/parser.rs` 741-830 and 985-1062).
Vocabulary (`renderSet`, `renderImport`, `renderName`, `renderExport`, `renderDecl`,
`renderLibrary`, `WF`, `Accepts`, `expectDecl(s)`): `RuschmSpec/ImportSyntax.lean`;
helper lemmas: `RuschmProofs/ImportSyntaxLemmas.lean`.

1. round trip: `importSet_roundtrip`, `importSet_roundtrip_iff` (the hypothesis `WF` is
   necessary), `importDecl_roundtrip`, `importDecl_roundtrip_top` (with the fuel the front end
   really uses), `libName_roundtrip`;
2. exactness and rejection: `toImportSet_ok_iff` (the accepted data are EXACTLY `Accepts false`),
   `toImportSet_total`, `toImportSet_rejects`, `strict_shape_is_rendering`,
   `toImportSet_converse_partial` (the literal converse "accepted ⇒ rendered shape" is FALSE:
   `parser_ignores_trailing_elements`, `parser_reads_dotted_tail_as_element`), the named
   rejections `reject_not_a_list`, `reject_empty`, `reject_head_not_identifier`,
   `reject_operator_without_set`, `reject_non_identifier`, `reject_short_rename_pair`,
   `reject_prefix_without_identifier`;
3. define-library: `exportSpec_roundtrip`, `exportSpec_ok_shape`, `libDecl_roundtrip`,
   `library_roundtrip`, `library_entries_in_order`, `library_import_same_parser`,
   `begin_bodies_in_order`;
4. end to end: `rendered_import_evaluates_to_denotation`.
-/
import RuschmProofs.ImportSyntaxLemmas
import RuschmProofs.C12

namespace Ruschm.C12More
open Ruschm Ruschm.Xform Ruschm.ImportSyntax

/-- the term used in the examples: `(rename (prefix (only (m 1) a b) p:) (p:a x))` -/
def demoTerm : ImportSet :=
  .rename (.prefix (.only (.direct [.ident "m", .int 1] (some (3, 4))) ["a", "b"]) "p:") [("p:a", "x")]

private theorem demoTerm_wf : WF demoTerm := ⟨"m", [.int 1], rfl, by decide⟩

/-! ## 1. round trip -/

/-- Every import-set term — any nesting of `only`/`except`/`prefix`/`rename`, any identifier list
(the empty one included), any renaming list — whose library name can be written as an import set
(`WF`: it starts with an identifier other than the four operator names), rendered as a datum and
handed to `transform_import_set` with a recursion bound above its nesting depth, is parsed back as
the same term (its location erased: the rendering has none), whatever the syntax environment,
which is left as it was. -/
theorem importSet_roundtrip (t : ImportSet) (hwf : WF t) (fuel : Nat) (hf : S.depth t < fuel) (s : SynEnv) :
    toImportSet fuel (renderSet t) s = (.ok t.unloc, s) := by
  rw [toImportSet_eq, parseP_render hwf hf]

example : toImportSet 4 (renderSet demoTerm) [] = (.ok demoTerm.unloc, []) :=
  importSet_roundtrip demoTerm demoTerm_wf 4 (by decide) []

/-- The hypothesis `WF` of the round trip is necessary: a term is parsed back from its rendering
IF AND ONLY IF its library name starts with an identifier that is not `only`, `except`, `prefix`
or `rename`. (A library called `(only x)`, `(1 2)` or `()` can be defined — `libName_roundtrip` —
but not imported.) -/
theorem importSet_roundtrip_iff (t : ImportSet) (fuel : Nat) (hf : S.depth t < fuel) (s : SynEnv) :
    toImportSet fuel (renderSet t) s = (.ok t.unloc, s) ↔ WF t := by
  constructor
  · exact fun h => (wf_unloc t).1 (accepts_of_parseP _ _ _ (toImportSet_run_iff.1 h).1).wf
  · exact fun hwf => importSet_roundtrip t hwf fuel hf s

/-- the library `(only x)` cannot be imported: its name is read as the operator `only` applied to
the non-list `x` -/
example : toImportSet 5 (renderSet (.direct [.ident "only", .ident "x"] none)) [] = (.error (.syntax, none), []) := by
  rw [toImportSet_eq]; rfl

/-- An import declaration with several import sets is parsed into the declaration with the same
sets in the same order (the order in which `eval_import` forms the union). -/
theorem importDecl_roundtrip (sets : List ImportSet) (fuel : Nat)
    (h : ∀ t ∈ sets, WF t ∧ S.depth t < fuel) (s : SynEnv) :
    toStatement (fuel + 1) (renderImport sets) s =
      (.ok (.importDecl (sets.map ImportSet.unloc) none), s) := by
  have e : renderImport sets = .pair (.sym "import" none) (Datum.ofList none (sets.map renderSet)) none := rfl
  rw [e, toStatement_import_eq fuel none none (Datum.ofList none (sets.map renderSet)) (isList_lst _) s, Datum.elems_ofList, mapM_parseP_render fuel sets h]
  rfl

example : toStatement 5 (renderImport [demoTerm, .direct [.ident "scheme", .ident "base"] none]) [] =
    (.ok (.importDecl [demoTerm.unloc, .direct [.ident "scheme", .ident "base"] none] none), []) :=
  importDecl_roundtrip _ 4 (by
    intro t ht
    simp only [List.mem_cons, List.not_mem_nil, or_false] at ht
    rcases ht with rfl | rfl
    · exact ⟨demoTerm_wf, by decide +kernel⟩
    · exact ⟨⟨"scheme", _, rfl, by decide +kernel⟩, by decide +kernel⟩) []

/-- The same with the recursion bound the front ends really pass (`xformFuel`, computed from the
size of the datum): for import sets that can be written it always suffices. -/
theorem importDecl_roundtrip_top (sets : List ImportSet) (h : ∀ t ∈ sets, WF t) (s : SynEnv) :
    toStatement (xformFuel (renderImport sets)) (renderImport sets) s =
      (.ok (.importDecl (sets.map ImportSet.unloc) none), s) := by
  have e : xformFuel (renderImport sets) = (8 * (renderImport sets).size + 3999) + 1 := rfl
  rw [e]
  refine importDecl_roundtrip sets _ (fun t ht => ⟨h t ht, ?_⟩) s
  have h1 := depth_lt_size (accepts_render t (h t ht))
  rw [depth_unloc] at h1
  have h2 : renderSet t ∈ (renderImport sets).elems := by
    rw [renderImport, elems_lst]; exact List.mem_cons_of_mem _ (List.mem_map_of_mem ht)
  have h3 := Datum.size_le_of_mem_elems h2
  omega

example : toStatement (xformFuel (renderImport [demoTerm])) (renderImport [demoTerm]) [] =
    (.ok (.importDecl [demoTerm.unloc] none), []) :=
  importDecl_roundtrip_top _ (by intro t ht; simp at ht; subst ht; exact demoTerm_wf) []

/-- Every library name — identifiers and unsigned integers in any order, the empty name included —
is parsed back from its rendering by `transform_library_name`. -/
theorem libName_roundtrip (n : LibName) (s : SynEnv) : toLibName (renderName n).elems s = (.ok n, s) := by
  rw [renderName, elems_lst, toLibName_render]

/-- A part that is neither an identifier nor an unsigned integer — a negative integer, a string,
a list … — makes the library name a syntax error, located at that part. -/
theorem libName_rejects (pre : LibName) (bad : Datum) (post : List Datum) (s : SynEnv)
    (hbad : ∀ e, ¬ PartOf bad e) :
    toLibName (pre.map renderElem ++ bad :: post) s = (.error (.syntax, bad.loc), s) := by
  have hb : partP bad = .error (.syntax, bad.loc) := by
    cases hp : partP bad with
    | ok e => exact ((hbad e) ((partP_ok_iff _ _).1 hp)).elim
    | error e => rw [partP_error hp]
  have hm : libNameP (pre.map renderElem ++ bad :: post) = .error (.syntax, bad.loc) :=
    mapM_first_error (mapM_map_ok pre fun e _ => (partP_ok_iff _ _).2 (parts_render [e]).1) hb
  rw [toLibName_eq, hm]

example : toLibName ([LibElem.ident "m"].map renderElem ++ [.prim (.int (-1)) (some (1, 4))]) [] =
    (.error (.syntax, some (1, 4)), []) :=
  libName_rejects [.ident "m"] _ [] [] (by
    intro e h
    rcases h with ⟨_, _, h, _⟩ | ⟨n, _, h, _⟩
    · cases h
    · simp only [Datum.prim.injEq, Prim.int.injEq, Int.ofNat_eq_natCast] at h; omega)

/-! ## 2. exactness: what is accepted, what is rejected -/

/-- The import-set parser accepts EXACTLY the data described by `Accepts false` and returns the
term described; it never changes the syntax environment. (Recursion bound at least the size of the
datum, as the front ends' bound is.) No datum outside that description yields a term. -/
theorem toImportSet_ok_iff (fuel : Nat) (d : Datum) (t : ImportSet) (s s' : SynEnv) (hf : d.size ≤ fuel) :
    toImportSet fuel d s = (.ok t, s') ↔ Accepts false d t ∧ s' = s := by
  rw [toImportSet_run_iff]
  exact ⟨fun ⟨h, e⟩ => ⟨accepts_of_parseP _ _ _ h, e⟩,
    fun ⟨h, e⟩ => ⟨parseP_of_accepts h fuel (Nat.lt_of_lt_of_le (depth_lt_size h) hf), e⟩⟩

example : toImportSet 100 (renderSet demoTerm) [] = (.ok demoTerm.unloc, []) ↔
    Accepts false (renderSet demoTerm) demoTerm.unloc ∧ ([] : SynEnv) = [] :=
  toImportSet_ok_iff 100 _ _ [] [] (by decide +kernel)

/-- The same without any assumption on the recursion bound, one direction: whatever the parser
returns as a term has the shape described. -/
theorem toImportSet_ok_shape (fuel : Nat) (d : Datum) (t : ImportSet) (s s' : SynEnv)
    (h : toImportSet fuel d s = (.ok t, s')) : Accepts false d t ∧ WF t ∧ s' = s := by
  obtain ⟨h, e⟩ := toImportSet_run_iff.1 h
  have ha := accepts_of_parseP _ _ _ h
  exact ⟨ha, ha.wf, e⟩

/-- Totality: on every datum, with every recursion bound and syntax environment, the parser
returns — without touching the environment — either a term of the shape described, or a SYNTAX
error, or the recursion-bound error, the last only if the bound is below the size of the datum
(which the front ends' bound never is). -/
theorem toImportSet_total (fuel : Nat) (d : Datum) (s : SynEnv) :
    (∃ t, toImportSet fuel d s = (.ok t, s) ∧ Accepts false d t) ∨
    (∃ l, toImportSet fuel d s = (.error (.syntax, l), s)) ∨
    (∃ l, toImportSet fuel d s = (.error (.fuel, l), s) ∧ fuel < d.size) := by
  rw [toImportSet_eq]
  cases h : parseP fuel d with
  | ok t => exact .inl ⟨t, rfl, accepts_of_parseP _ _ _ h⟩
  | error e =>
    obtain ⟨k, l⟩ := e
    rcases parseP_error fuel d _ h with (rfl : k = _) | ⟨(rfl : k = _), h2⟩
    · exact .inr (.inl ⟨l, rfl⟩)
    · exact .inr (.inr ⟨l, rfl, h2⟩)

/-- Rejection: a datum that does not have the shape `Accepts false` of any term is a syntax error
(never a term, never silently something else). -/
theorem toImportSet_rejects (fuel : Nat) (d : Datum) (s : SynEnv) (hf : d.size ≤ fuel)
    (h : ¬ ∃ t, Accepts false d t) : ∃ l, toImportSet fuel d s = (.error (.syntax, l), s) := by
  rcases toImportSet_total fuel d s with ⟨t, _, ht⟩ | h1 | ⟨_, _, h2⟩
  · exact (h ⟨t, ht⟩).elim
  · exact h1
  · omega

/-- `Accepts true` is the rendered shape: the rendering of every writable term has it, and a datum
that has it is, up to locations, the rendering of the term (which then is writable). -/
theorem strict_shape_is_rendering :
    (∀ t, WF t → Accepts true (renderSet t) t.unloc) ∧
    (∀ d t, Accepts true d t → d.strip = renderSet t.unloc ∧ WF t ∧ Accepts false d t) :=
  ⟨accepts_render, fun _ _ h => ⟨strip_of_accepts_strict h, h.wf, h.mono⟩⟩

/-- Converse of the round trip, as far as it is true. The literal converse — "if `d` is parsed as
`t` then `d` is the rendering of `t` up to locations" — is FALSE for the parser as it is
(`parser_ignores_trailing_elements`, `parser_reads_dotted_tail_as_element`). What holds: a datum
parsed as `t` has the shape `Accepts false d t`, which differs from the rendered shape only in
that a list may be dotted (its tail read as a last element) and that elements after the prefix
identifier / after the two names of a renaming are ignored; and if the datum has the strict shape
(of any term), it IS the rendering of `t` up to locations. -/
theorem toImportSet_converse_partial (fuel : Nat) (d : Datum) (t : ImportSet) (s s' : SynEnv)
    (h : toImportSet fuel d s = (.ok t, s')) :
    Accepts false d t ∧ ((∃ t', Accepts true d t') → d.strip = renderSet t.unloc) := by
  obtain ⟨ha, _, _⟩ := toImportSet_ok_shape fuel d t s s' h
  refine ⟨ha, fun ⟨t', ht'⟩ => ?_⟩
  have h1 := parseP_of_accepts ha (S.depth t + S.depth t' + 1) (by omega)
  have h2 := parseP_of_accepts ht'.mono (S.depth t + S.depth t' + 1) (by omega)
  rw [h1] at h2
  cases h2
  exact strip_of_accepts_strict ht'

example : (lst [sym "only", lst [sym "m"], sym "a"]).strip = renderSet (ImportSet.only (.direct [.ident "m"] none) ["a"]).unloc :=
  (toImportSet_converse_partial 3 _ _ [] [] (importSet_roundtrip (.only (.direct [.ident "m"] none) ["a"])
    ⟨"m", [], rfl, by decide +kernel⟩ 3 (by decide +kernel) [])).2
    ⟨_, accepts_render (.only (.direct [.ident "m"] none) ["a"]) ⟨"m", [], rfl, by decide +kernel⟩⟩

/-- The parser accepts more than R7RS import sets: `(prefix (m) p q r)` is read as
`(prefix (m) p)` and `(rename (m) (a b c))` as `(rename (m) (a b))`; what follows the elements
needed is ignored (Rust: the iterator is simply dropped). -/
theorem parser_ignores_trailing_elements (s : SynEnv) :
    toImportSet 2 (lst [sym "prefix", lst [sym "m"], sym "p", sym "q", sym "r"]) s =
      (.ok (.prefix (.direct [.ident "m"] none) "p"), s) ∧
    toImportSet 2 (lst [sym "rename", lst [sym "m"], lst [sym "a", sym "b", sym "c"]]) s =
      (.ok (.rename (.direct [.ident "m"] none) [("a", "b")]), s) := by
  constructor <;> (rw [toImportSet_eq]; rfl)

/-- The parser accepts dotted lists: `(only (m) . a)` is read as `(only (m) a)`, and `(m . n)` as
the library name `(m n)` (Rust: `into_iter()` of a pair delivers the improper tail as a last
element). -/
theorem parser_reads_dotted_tail_as_element (s : SynEnv) :
    toImportSet 2 (.pair (sym "only") (.pair (lst [sym "m"]) (sym "a") none) none) s =
      (.ok (.only (.direct [.ident "m"] none) ["a"]), s) ∧
    toImportSet 2 (.pair (sym "m") (sym "n") none) s = (.ok (.direct [.ident "m", .ident "n"] none), s) := by
  constructor <;> (rw [toImportSet_eq]; rfl)

/-- Not a list (an identifier, a number, a string, a vector): syntax error. -/
theorem reject_not_a_list (fuel : Nat) (d : Datum) (s : SynEnv) (h : ¬ IsList d) :
    toImportSet (fuel + 1) d s = (.error (.syntax, none), s) := by
  rw [toImportSet_eq, parseP_succ, stepP_not_isList h]

example : toImportSet 1 (.sym "m" (some (1, 1))) [] = (.error (.syntax, none), []) :=
  reject_not_a_list 0 _ [] (fun h => h)

/-- The empty list: syntax error (`UnexpectedEnd`, without location). -/
theorem reject_empty (fuel : Nat) (l : Loc) (s : SynEnv) :
    toImportSet (fuel + 1) (.nil l) s = (.error (.syntax, none), s) := by
  rw [toImportSet_eq]; rfl

/-- A list that does not start with an identifier — `((m))`, `(1 2)`, `("m")` — : syntax error
located at that first element. -/
theorem reject_head_not_identifier (fuel : Nat) (d first : Datum) (r : List Datum) (s : SynEnv)
    (hl : IsList d) (he : d.elems = first :: r) (h : ∀ x l, first ≠ .sym x l) :
    toImportSet (fuel + 1) d s = (.error (.syntax, first.loc), s) := by
  rw [toImportSet_eq, parseP_succ, stepP_of_isList hl, he]
  cases first with
  | sym x l => exact (h x l rfl).elim
  | _ => rfl

example : toImportSet 1 (lst [lst [sym "m"]]) [] = (.error (.syntax, none), []) :=
  reject_head_not_identifier 0 (lst [lst [sym "m"]]) (lst [sym "m"]) [] [] trivial rfl (by intro x l h; cases h)

/-- An operator without a set — `(only)`, `(except)`, `(prefix)`, `(rename)` —: syntax error. -/
theorem reject_operator_without_set (fuel : Nat) (d : Datum) (op : String) (l : Loc) (s : SynEnv)
    (hl : IsList d) (he : d.elems = [.sym op l]) (hop : op ∈ keywords) :
    toImportSet (fuel + 1) d s = (.error (.syntax, none), s) := by
  rw [toImportSet_eq, parseP_succ, stepP_of_isList hl, he]
  simp only [keywords, List.mem_cons, List.not_mem_nil, or_false] at hop
  rcases hop with rfl | rfl | rfl | rfl <;> rfl

example : toImportSet 1 (lst [sym "only"]) [] = (.error (.syntax, none), []) :=
  reject_operator_without_set 0 (lst [sym "only"]) "only" none [] trivial rfl (by decide +kernel)

/-- A non-identifier where `only` / `except` want an identifier: when the inner set is fine, the
first element after it that is not an identifier makes the form a syntax error located at that
element. -/
theorem reject_non_identifier (fuel : Nat) (d sd bad : Datum) (op : String) (l : Loc) (ids : List String)
    (post : List Datum) (t : ImportSet) (s : SynEnv)
    (hop : op = "only" ∨ op = "except") (hl : IsList d)
    (he : d.elems = .sym op l :: sd :: (ids.map sym ++ bad :: post))
    (hsd : toImportSet fuel sd s = (.ok t, s)) (hbad : ∀ x l, bad ≠ .sym x l) :
    toImportSet (fuel + 1) d s = (.error (.syntax, bad.loc), s) := by
  have hsd' : parseP fuel sd = .ok t := (toImportSet_run_iff.1 hsd).1
  have hb : Macro.identOf bad = .error (.syntax, bad.loc) := by
    cases bad with
    | sym x l => exact (hbad x l rfl).elim
    | _ => rfl
  have hm : (ids.map sym ++ bad :: post).mapM Macro.identOf = .error (.syntax, bad.loc) :=
    mapM_first_error (mapM_map_ok ids fun _ _ => rfl) hb
  rw [toImportSet_eq, parseP_succ, stepP_of_isList hl, he]
  rcases hop with rfl | rfl
  · simp only [elemsP, if_true, subP, hsd', idsK, hm]
  · simp (config := {decide := true}) only [elemsP, if_true, if_false, subP, hsd', idsK, hm]

example : toImportSet 2 (lst [sym "only", lst [sym "m"], sym "a", .prim (.int 1) (some (1, 15))]) [] =
    (.error (.syntax, some (1, 15)), []) :=
  reject_non_identifier 1 (lst [sym "only", lst [sym "m"], sym "a", .prim (.int 1) (some (1, 15))])
    (lst [sym "m"]) (.prim (.int 1) (some (1, 15))) "only" none ["a"] [] (.direct [.ident "m"] none) []
    (.inl rfl) trivial rfl (by rw [toImportSet_eq]; rfl) (by intro x l h; cases h)

/-- A renaming that is not a list of at least two elements — `(rename (m) a)`, `(rename (m) ())`,
`(rename (m) (a))` —: syntax error (the entries before it being fine). -/
theorem reject_short_rename_pair (fuel : Nat) (d sd bad : Datum) (l : Loc) (ps : List (String × String))
    (post : List Datum) (t : ImportSet) (s : SynEnv) (hl : IsList d)
    (he : d.elems = .sym "rename" l :: sd :: (ps.map renderPair ++ bad :: post))
    (hsd : toImportSet fuel sd s = (.ok t, s)) (hbad : ¬ IsList bad ∨ bad.elems.length < 2) :
    ∃ loc, toImportSet (fuel + 1) d s = (.error (.syntax, loc), s) := by
  have hsd' : parseP fuel sd = .ok t := (toImportSet_run_iff.1 hsd).1
  have hb : ∃ loc, pairP bad = .error (.syntax, loc) := by
    cases hp : pairP bad with
    | error e =>
      obtain ⟨k, loc⟩ := e
      obtain rfl : k = _ := pairP_error_kind _ _ hp
      exact ⟨loc, rfl⟩
    | ok p =>
      obtain ⟨h1, la, lb, junk, h2, _⟩ := (pairP_ok_iff _ _).1 hp
      rcases hbad with h | h
      · exact (h h1).elim
      · rw [h2] at h; simp only [List.length_cons] at h; omega
  obtain ⟨loc, hb⟩ := hb
  have hm : (ps.map renderPair ++ bad :: post).mapM pairP = .error (.syntax, loc) :=
    mapM_first_error (mapM_map_ok ps fun _ _ => rfl) hb
  refine ⟨loc, ?_⟩
  rw [toImportSet_eq, parseP_succ, stepP_of_isList hl, he]
  simp (config := {decide := true}) only [elemsP, if_true, if_false, subP, hsd', renameK, hm]

example : ∃ loc, toImportSet 2 (lst [sym "rename", lst [sym "m"], lst [sym "a", sym "b"], lst [sym "c"]]) [] =
    (.error (.syntax, loc), []) :=
  reject_short_rename_pair 1 (lst [sym "rename", lst [sym "m"], lst [sym "a", sym "b"], lst [sym "c"]])
    (lst [sym "m"]) (lst [sym "c"]) none [("a", "b")] [] (.direct [.ident "m"] none) []
    trivial rfl (by rw [toImportSet_eq]; rfl) (.inr (by decide))

/-- `prefix` without its identifier, or with a non-identifier there: syntax error. -/
theorem reject_prefix_without_identifier (fuel : Nat) (d sd : Datum) (l : Loc) (rest : List Datum)
    (t : ImportSet) (s : SynEnv) (hl : IsList d)
    (he : d.elems = .sym "prefix" l :: sd :: rest)
    (hsd : toImportSet fuel sd s = (.ok t, s)) (hrest : ∀ p lp junk, rest ≠ .sym p lp :: junk) :
    ∃ loc, toImportSet (fuel + 1) d s = (.error (.syntax, loc), s) := by
  have hsd' : parseP fuel sd = .ok t := (toImportSet_run_iff.1 hsd).1
  rw [toImportSet_eq, parseP_succ, stepP_of_isList hl, he]
  simp (config := {decide := true}) only [elemsP, if_true, if_false, subP, hsd', prefixK]
  cases rest with
  | nil => exact ⟨none, rfl⟩
  | cons p junk =>
    cases p with
    | sym x lx => exact (hrest x lx junk rfl).elim
    | _ => exact ⟨_, rfl⟩

example : ∃ loc, toImportSet 2 (lst [sym "prefix", lst [sym "m"]]) [] = (.error (.syntax, loc), []) :=
  reject_prefix_without_identifier 1 (lst [sym "prefix", lst [sym "m"]]) (lst [sym "m"]) none [] (.direct [.ident "m"] none) []
    trivial rfl (by rw [toImportSet_eq]; rfl) (by intro p lp junk h; cases h)

/-! ## 3. define-library -/

/-- An export spec `a` or `(rename a b)` is parsed back as the export entry it renders. -/
theorem exportSpec_roundtrip (e : ExportSpec) (s : SynEnv) : toExportSpec (renderExport e) s = (.ok e.unloc, s) :=
  toExportSpec_render e s

/-- What `transform_export_spec` accepts: an identifier, or a list (possibly dotted, possibly with
more elements, which are ignored) that starts with `rename` and two identifiers; nothing else
(a number, a string, a vector, `()`, `(a b)`, `(rename a)`, `(rename a 1)` are errors). -/
theorem exportSpec_ok_shape (d : Datum) (e : ExportSpec) (s s' : SynEnv) (h : toExportSpec d s = (.ok e, s')) :
    s' = s ∧ ((∃ n l, d = .sym n l ∧ e = .direct n l) ∨
      (IsList d ∧ ∃ l a la b lb junk, d.elems = .sym "rename" l :: .sym a la :: .sym b lb :: junk ∧
        e = .rename a b d.loc)) := by
  have hs : s' = s := (congrArg Prod.snd h).symm.trans (congrArg Prod.snd (toExportSpec_stateFree d s))
  rw [toExportSpec_eq] at h
  refine ⟨hs, ?_⟩
  cases d with
  | sym n l => cases h; exact .inl ⟨n, l, rfl, rfl⟩
  | pair a b l | nil l => exact .inr ⟨trivial, (exportRename_sat _ _ s trivial).ok e (congrArg Prod.fst h)⟩
  | prim p l => cases h
  | vec xs l => cases h

example : toExportSpec (renderExport (.rename "a" "b" (some (1, 2)))) [] = (.ok (.rename "a" "b" none), []) := rfl

/-- Every written library declaration — `(import set …)`, `(export spec …)` with specs `a` and
`(rename a b)`, `(begin datum …)` — is parsed into the expected declaration (`expectDecl`): the
import sets written, in order; the export entries written, in order; the body data handed in order
to the statement parser. -/
theorem libDecl_roundtrip (fuel : Nat) (x : DeclSyn) (h : DeclOk fuel x) (s : SynEnv) :
    toLibDecl (fuel + 1) (renderDecl x) s = expectDecl (fuel + 1) x s :=
  toLibDecl_render (fuel + 1) x h s

example : toLibDecl 2 (renderDecl (.export [.direct "a" none, .rename "b" "c" none])) [] =
    (.ok (.export [.direct "a" none, .rename "b" "c" none]), []) :=
  libDecl_roundtrip 1 (.export [.direct "a" none, .rename "b" "c" none]) trivial []

/-- A whole `define-library` form — any name, any number of declarations — is parsed into the
library definition with that name and the expected declarations in textual order. (`k` bounds the
nesting depth of the import sets written; the recursion bound exceeds it by the number of
declarations.) -/
theorem library_roundtrip (k fuel : Nat) (name : LibName) (decls : List DeclSyn) (s : SynEnv)
    (h : ∀ x ∈ decls, DeclOk k x) (hf : k + decls.length + 1 ≤ fuel) :
    toStatement (fuel + 2) (renderLibrary name decls) s =
      (do let ds ← expectDecls fuel decls; pure (Statement.libraryDef name ds none)) s := by
  rw [toStatement_library_eq]
  simp only [bind_def, toLibDecls_render k fuel decls h hf]

/-- the library used in the examples: `(define-library (lib 1) (export a) (import (m)) (export (rename b c)))` -/
def demoDecls : List DeclSyn :=
  [.export [.direct "a" none], .importDecl [.direct [.ident "m"] none], .export [.rename "b" "c" none]]

private theorem demoDecls_ok : ∀ x ∈ demoDecls, DeclOk 1 x := by
  intro x hx
  simp only [demoDecls, List.mem_cons, List.not_mem_nil, or_false] at hx
  rcases hx with rfl | rfl | rfl
  · trivial
  · intro t ht
    simp only [List.mem_cons, List.not_mem_nil, or_false] at ht
    subst ht
    exact ⟨⟨"m", [], rfl, by decide⟩, by decide⟩
  · trivial

example : toStatement 7 (renderLibrary [.ident "lib", .int 1] demoDecls) [] =
    (.ok (.libraryDef [.ident "lib", .int 1]
      [.export [.direct "a" none], .importDecl [.direct [.ident "m"] none], .export [.rename "b" "c" none]] none), []) := by
  rw [library_roundtrip 1 5 _ _ [] demoDecls_ok (by decide)]; rfl

/-- When a written library is parsed, the export entries of the definition — over one or several
`export` declarations, wherever they stand — are the export specs written, in textual order
(`S.exportSpecs` is what `C13.exports_exact` and `C13More` start from); the import sets of its
import declarations are the import sets written, in order; and there are as many declarations as
were written. -/
theorem library_entries_in_order (k fuel : Nat) (name : LibName) (decls : List DeclSyn) (s s' : SynEnv)
    (stmt : Statement) (h : ∀ x ∈ decls, DeclOk k x) (hf : k + decls.length + 1 ≤ fuel)
    (hp : toStatement (fuel + 2) (renderLibrary name decls) s = (.ok stmt, s')) :
    ∃ ds, stmt = .libraryDef name ds none ∧
      S.exportSpecs ds = (writtenExports decls).map ExportSpec.unloc ∧
      parsedImports ds = (writtenImports decls).map ImportSet.unloc ∧
      ds.length = decls.length := by
  rw [library_roundtrip k fuel name decls s h hf] at hp
  obtain ⟨ds, s1, hx, hp⟩ := XM.bind_eq_ok hp
  cases hp
  exact ⟨ds, rfl, expectDecls_flat fuel decls s _ ds hx⟩

example : ∃ ds, S.exportSpecs ds = [.direct "a" none, .rename "b" "c" none] ∧
    toStatement 7 (renderLibrary [.ident "lib", .int 1] demoDecls) [] =
      (.ok (.libraryDef [.ident "lib", .int 1] ds none), []) :=
  ⟨_, rfl, by rw [library_roundtrip 1 5 _ _ [] demoDecls_ok (by decide)]; rfl⟩

/-- Import declarations inside a library are parsed by the same function as at top level: on
every datum `(import . rest)` with `rest` a list, the library-declaration parser and the statement
parser return the same list of import sets — `transform_import_set` mapped over the elements of
`rest` — or the same error. -/
theorem library_import_same_parser (fuel : Nat) (li l : Loc) (rest : Datum) (h : IsList rest) (s : SynEnv) :
    ∃ r : Except SErr (List ImportSet), (rest.elems.mapM (toImportSet fuel)) s = (r, s) ∧
      toStatement (fuel + 1) (.pair (.sym "import" li) rest l) s = (r.map (fun sets => .importDecl sets l), s) ∧
      toLibDecl (fuel + 1) (.pair (.sym "import" li) rest l) s = (r.map LibDecl.importDecl, s) :=
  ⟨rest.elems.mapM (parseP fuel), mapM_lift rest.elems (fun d _ => toImportSet_eq fuel d s),
    toStatement_import_eq fuel li l rest h s,
    toLibDecl_import_eq fuel (.pair (.sym "import" li) rest l) (.sym "import" li) rest.elems trivial (Datum.elems_pair _ _ _)
      (fun l h => by simp at h) (fun l h => by simp at h) s⟩

/-- The data of a `begin` body are parsed in order, each in the syntax environment the previous
one left: the body of `(begin d₁ d₂ …)` is the parse of `d₁` followed by the parse of the rest;
the first error stops it. -/
theorem begin_bodies_in_order (fuel : Nat) (d : Datum) (ds : List Datum) (s : SynEnv) :
    toLibDecl (fuel + 2) (lst (sym "begin" :: d :: ds)) s =
      (match toStatement fuel d s with
       | (.error e, s1) => (.error e, s1)
       | (.ok x, s1) =>
         match toLibDecl (fuel + 1) (lst (sym "begin" :: ds)) s1 with
         | (.ok (.begin_ xs), s2) => (.ok (.begin_ (x :: xs)), s2)
         | other => other) := by
  rw [toLibDecl_begin, toStatements]
  simp only [bind_def]
  cases toStatement fuel d s with
  | mk r s1 =>
    cases r with
    | error e => rfl
    | ok x =>
      simp only
      cases fuel with
      | zero => rw [toLibDecl_begin, toStatements]; rfl
      | succ f =>
        rw [toLibDecl_begin]
        simp only [bind_def]
        cases toStatements (f + 1) ds s1 with
        | mk r2 s2 => cases r2 <;> rfl

/-! ## 4. end to end -/

/-- From the written import set to the bindings: a writable term, rendered, parsed by
`transform_import_set`, and the parsed form evaluated by `eval_import_set` (its library cached or
native, `C12.importSet_eq_spec`), yields exactly the denotation `S.denote` of the TERM over the
export lists, in an interpreter state that differs at most in the instance cache. -/
theorem rendered_import_evaluates_to_denotation (t : ImportSet) (hwf : WF t) (pfuel fuel : Nat)
    (st : Interp.State) (bs : S.Bindings) (hp : S.depth t < pfuel)
    (hfuel : S.fuelNeeded t ≤ fuel) (hip : S.leaf t ∉ st.inProgress)
    (hd : S.denote t (Interp.exportsOf st) = some bs) :
    ∃ t', toImportSet pfuel (renderSet t) st.syn = (.ok t', st.syn) ∧
      ∃ st', Interp.evalImportSet fuel st t' = (.ok bs, st') ∧ Interp.SameButInstances st st' ∧
        (∀ n, Interp.exportsOf st' n = Interp.exportsOf st n) := by
  refine ⟨t.unloc, importSet_roundtrip t hwf pfuel hp st.syn, ?_⟩
  obtain ⟨st', h1, h2, h3, _⟩ := C12.importSet_eq_spec t.unloc fuel st bs (by rw [fuelNeeded_unloc]; exact hfuel)
    (by rw [leaf_unloc]; exact hip) (by rw [denote_unloc]; exact hd)
  exact ⟨st', h1, h2, h3⟩

example : ∃ t', toImportSet 3 (renderSet (.prefix (.only (.direct C12.demoLib (some (1, 1))) ["b"]) "p:")) C12.demoState.syn =
      (.ok t', C12.demoState.syn) ∧
    ∃ st', Interp.evalImportSet 4 C12.demoState t' = (.ok [("p:b", .num (.int 2))], st') ∧
      Interp.SameButInstances C12.demoState st' ∧
      (∀ n, Interp.exportsOf st' n = Interp.exportsOf C12.demoState n) :=
  rendered_import_evaluates_to_denotation (.prefix (.only (.direct C12.demoLib (some (1, 1))) ["b"]) "p:")
    (show NameOk C12.demoLib from ⟨"m", [], rfl, by decide +kernel⟩) 3 4 C12.demoState _ (by decide +kernel) (by decide +kernel)
    (by simp [S.leaf, C12.demoState]) rfl

end Ruschm.C12More
