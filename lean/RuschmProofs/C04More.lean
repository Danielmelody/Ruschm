/-
Property C04, continued — two gaps between `C04.lean` and the property's quantifier, closed:

(1) ellipsis sub-templates over SEVERAL ellipsis variables of the pattern (`((a b) ...)` for the
    pattern `((a ...) (b ...))`): the wider class `SupportedRule'`, the R7RS instantiation
    `specInstR7`, the refinement for runs of equal length, and exactly what the expander does
    when the lengths differ (it stops at the SHORTEST run, silently);
(2) the `define-syntax` front: how the written form becomes `Macro.Rules` (`toRules`, `toRule`,
    `toPat`, `toTmpl`), so that "first rule in textual order" is textual order of the source.

Only property theorems live here; vocabulary in `RuschmSpec/MacroMore.lean`, helper lemmas in
`RuschmProofs/MacroMoreLemmas.lean`.
-/
import RuschmProofs.MacroMoreLemmas
import RuschmProofs.C04
import RuschmProofs.Same

namespace Ruschm.C04More
open Ruschm Ruschm.Macro Ruschm.Macro.Ex

/-! ## 1. Sub-templates over several ellipsis variables -/

/-- the rule `((a ...) (b ...)) ⇒ ((a b) ...)` -/
def zipRule : Pat × Tmpl :=
  (plist [plist [.ident "a", .ellipsis], plist [.ident "b", .ellipsis]],
   .list [(.list [(.ident "a", false), (.ident "b", false)], true)])

/-- the wider class contains the class of `C04.lean` -/
theorem supportedRule_imp' {lits r} (h : SupportedRule lits r = true) :
    SupportedRule' lits r = true := by
  simp only [SupportedRule, SupportedRule', SupportedTmpl, SupportedTmpl', Bool.and_eq_true] at h ⊢
  exact ⟨h.1, (Tmpl.ok_ok' _ _).1 _ h.2⟩

example : SupportedRule' [] zipRule = true ∧ SupportedRule [] zipRule = false := ⟨eq_of_same (by decide +kernel), eq_of_same (by decide +kernel)⟩

/-- **R7RS meaning of an ellipsis sub-template**: when all the runs it mentions have the same
length `n`, `(u ...)` yields `n` copies of `u`, the `j`-th with every variable replaced by its
`j`-th item, in order. -/
theorem equal_runs_repeat {β : Bindings} {u : Tmpl} {n : Nat} (loc : Loc) (i : Nat)
    (rest : List (Tmpl × Bool)) (hne : seqLens β u ≠ []) (h : ∀ l ∈ seqLens β u, l = n) :
    specElemsR7At β loc i ((u, true) :: rest) =
      (List.range n).map (fun j => specInstR7At β loc j u) ++ specElemsR7At β loc i rest := by
  have : copiesR7 β u = n := by
    unfold copiesR7
    cases hs : seqLens β u with
    | nil => exact absurd hs hne
    | cons x xs => exact h x (by simp [hs])
  simp [specElemsR7At, this]

example : specInstR7 zipRule.2 [("a", [num 1, num 2]), ("b", [num 3, num 4])] none =
    lst [lst [num 1, num 3], lst [num 2, num 4]] := rfl

/-- For a rule of the wider class and the bindings of a successful match, when every ellipsis
sub-template mentions runs of one common length (`EqualRuns`, what R7RS requires), `subst` is the
R7RS instantiation. -/
theorem subst_eq_spec' {lits p t d β fuel loc} (hr : SupportedRule' lits (p, t) = true)
    (hm : specMatch lits p d = some β) (heq : EqualRuns β t = true) (hfu : d.size ≤ fuel) :
    subst fuel t β.toSubst loc = some (specInstR7 t β loc) := by
  rw [subst_of_match_wf (SupportedRule'.wf hr).2 hm hfu, specInst_eq_r7 heq]

example : specMatch [] zipRule.1 (lst [lst [num 1, num 2], lst [num 3, num 4]]) =
      some [("a", [num 1, num 2]), ("b", [num 3, num 4])] ∧
    EqualRuns [("a", [num 1, num 2]), ("b", [num 3, num 4])] zipRule.2 = true ∧
    subst 20 zipRule.2 [("a", num 1, [num 2]), ("b", num 3, [num 4])] none =
      some (lst [lst [num 1, num 3], lst [num 2, num 4]]) := ⟨rfl, rfl, rfl⟩

/-- **What the expander does when the runs have DIFFERENT lengths**: no error — it silently stops
at the SHORTEST run. For every rule of the wider class (no condition on the lengths) `subst` is
`specInst`, whose number of copies `copies β u` of a sub-template `u` is the least of the lengths
of the runs `u` mentions: it is one of them and none is shorter. (Not the first variable's
length; not an error.) -/
theorem subst_unequal_runs {lits p t d β fuel loc} (hr : SupportedRule' lits (p, t) = true)
    (hm : specMatch lits p d = some β) (hfu : d.size ≤ fuel) :
    subst fuel t β.toSubst loc = some (specInst t β loc) ∧
    ∀ u : Tmpl, seqLens β u ≠ [] →
      copies β u ∈ seqLens β u ∧ ∀ l ∈ seqLens β u, copies β u ≤ l :=
  ⟨subst_of_match_wf (SupportedRule'.wf hr).2 hm hfu,
    fun _ hne => ⟨minLen_mem hne, fun _ hl => minLen_le_of_mem hl⟩⟩

/-- the first run longer: `(z (1 2 3) (4 5))` gives two items -/
example : transform 100 ⟨[], [zipRule]⟩ (lst [lst [num 1, num 2, num 3], lst [num 4, num 5]]) =
    .ok (lst [lst [num 1, num 4], lst [num 2, num 5]]) := rfl
/-- the first run shorter: `(z (1 2) (3 4 5))` gives two items as well (the SHORTEST, not the
first) -/
example : transform 100 ⟨[], [zipRule]⟩ (lst [lst [num 1, num 2], lst [num 3, num 4, num 5]]) =
    .ok (lst [lst [num 1, num 3], lst [num 2, num 4]]) := rfl
/-- a run of one item: one copy -/
example : transform 100 ⟨[], [zipRule]⟩ (lst [lst [num 1], lst [num 3, num 4, num 5]]) =
    .ok (lst [lst [num 1, num 3]]) := rfl
example : copies [("a", [num 1, num 2, num 3]), ("b", [num 4, num 5])]
      (.list [(.ident "a", false), (.ident "b", false)]) = 2 ∧
    EqualRuns [("a", [num 1, num 2, num 3]), ("b", [num 4, num 5])] zipRule.2 = false := ⟨rfl, rfl⟩

/-- In the class of `C04.lean` (all variables of a sub-template under ONE ellipsis of the pattern)
the runs always have equal length: there the R7RS instantiation is what `C04.subst_eq_spec`
states. -/
theorem equalRuns_of_supportedRule {lits p t d β} (hr : SupportedRule lits (p, t) = true)
    (hm : specMatch lits p d = some β) : EqualRuns β t = true := by
  simp only [SupportedRule, SupportedTmpl, Bool.and_eq_true] at hr
  exact (EqualRuns_of_ok hr.1 hm).1 t hr.2

example : SupportedRule [] (plist [plist [plist [.ident "n", .ident "v"], .ellipsis]],
    .list [(.list [(.ident "v", false), (.ident "n", false)], true)]) = true := eq_of_same (by decide +kernel)

/-- the wider class: the expander is the declarative expander `specTransform` (shortest-run
semantics), with the fuel it is actually run with -/
theorem transform_unequal_runs {fuel r use} (hs : SupportedRules' r = true)
    (hf : matchFuel use ≤ fuel) :
    transform fuel r use = specTransform r.literals r.rules use :=
  transformRules_eq_spec_wf hf _ fun rule hrule => SupportedRule'.wf (List.all_eq_true.1 hs rule hrule)

example : SupportedRules' ⟨[], [zipRule]⟩ = true ∧
    specTransform [] [zipRule] (lst [lst [num 1, num 2, num 3], lst [num 4, num 5]]) =
      .ok (lst [lst [num 1, num 4], lst [num 2, num 5]]) := ⟨rfl, rfl⟩

/-- **the wider class, runs of equal length: the expander is the R7RS expander** — the first rule
in textual order whose pattern matches, its template instantiated the R7RS way -/
theorem transform_eq_spec' {fuel r use} (hs : SupportedRules' r = true)
    (heq : ∀ rule ∈ r.rules, ∀ β, specMatch r.literals rule.1 use = some β →
      EqualRuns β rule.2 = true)
    (hf : matchFuel use ≤ fuel) :
    transform fuel r use = specTransformR7 r.literals r.rules use := by
  rw [transform_unequal_runs hs hf, specTransform_eq_r7 _ heq]

example : transform 100 ⟨[], [zipRule]⟩ (lst [lst [num 1, num 2], lst [num 3, num 4]]) =
      .ok (lst [lst [num 1, num 3], lst [num 2, num 4]]) ∧
    specTransformR7 [] [zipRule] (lst [lst [num 1, num 2], lst [num 3, num 4]]) =
      .ok (lst [lst [num 1, num 3], lst [num 2, num 4]]) := ⟨rfl, rfl⟩

/-! ## 2. From the written `syntax-rules` form to `Macro.Rules` -/

/-- the form `(syntax-rules (k) ((m k x) x) ((m x ...) '(x ...)))` used in the examples -/
def exSpec : Datum :=
  lst [sy "syntax-rules", lst [sy "k"],
    lst [lst [sy "m", sy "k", sy "x"], sy "x"],
    lst [lst [sy "m", sy "x", sy "..."], lst [sy "quote", lst [sy "x", sy "..."]]]]

/-! ### patterns -/

/-- `_` becomes the wildcard, `...` the ellipsis marker, any other identifier an identifier
pattern, a literal datum a literal-datum pattern, `()` the empty list pattern -/
theorem toPat_atoms (s : String) (q : Prim) (l : Loc) :
    toPat (.sym "_" l) = .underscore ∧ toPat (.sym "..." l) = .ellipsis ∧
    (s ≠ "_" → s ≠ "..." → toPat (.sym s l) = .ident s) ∧
    toPat (.prim q l) = .prim q ∧ toPat (.nil l) = .nil := by
  refine ⟨by simp [toPat_sym], by simp [toPat_sym], fun h1 h2 => by simp [toPat_sym, h1, h2],
    by rw [toPat], by rw [toPat]⟩

example : toPat (sy "_") = .underscore ∧ toPat (sy "...") = .ellipsis ∧ toPat (sy "x") = .ident "x" ∧
    toPat (num 5) = .prim (.int 5) := ⟨rfl, rfl, rfl, rfl⟩

/-- an identifier listed in the literals is a literal identifier of the pattern (it matches only
itself, `C04.literal_ident_matches_only_itself`), any other one is a pattern variable -/
theorem toPat_literal (lits : List String) (s : String) (l : Loc) (h1 : s ≠ "_") (h2 : s ≠ "...") :
    (toPat (.sym s l)).isLit lits = lits.contains s ∧
    (toPat (.sym s l)).vars lits = if lits.contains s then [] else [s] := by
  simp [toPat_sym, h1, h2, Pat.isLit, Pat.vars]

example : (toPat (sy "else")).isLit ["else", "=>"] = true ∧ (toPat (sy "x")).isLit ["else", "=>"] = false ∧
    (toPat (sy "x")).vars ["else", "=>"] = ["x"] := ⟨eq_of_same (by decide +kernel), eq_of_same (by decide +kernel), eq_of_same (by decide +kernel)⟩

/-- nested lists and vectors map element-wise (a pair maps car and cdr, so a dotted pattern stays
dotted) -/
theorem toPat_lists (a d : Datum) (es xs : List Datum) (u : Datum) (l : Loc) (hu : IsList u es) :
    toPat (.pair a d l) = .pair (toPat a) (toPat d) ∧
    toPat u = Pat.ofList (es.map toPat) ∧
    toPat (.vec xs l) = .vec (xs.map toPat) := by
  refine ⟨by rw [toPat], toPat_isList hu, by rw [toPat, toPats_eq_map]⟩

example : toPat (lst [sy "a", lst [sy "b", sy "..."], .vec [sy "_", num 1] none]) =
    plist [.ident "a", plist [.ident "b", .ellipsis], .vec [.underscore, .prim (.int 1)]] := rfl

/-! ### templates -/

/-- an identifier becomes an identifier template (whether it is a pattern variable is decided at
instantiation), a datum a literal datum, `()` the empty list template -/
theorem toTmpl_atoms (s : String) (q : Prim) (l : Loc) :
    toTmpl (.sym s l) = .ok (.ident s) ∧ toTmpl (.prim q l) = .ok (.prim q) ∧
    toTmpl (.nil l) = .ok (.list []) := by
  refine ⟨by rw [toTmpl], by rw [toTmpl], by rw [toTmpl]⟩

example : toTmpl (sy "x") = .ok (.ident "x") ∧ toTmpl (num 5) = .ok (.prim (.int 5)) := ⟨rfl, rfl⟩

/-- `collect_template_elements` reads the elements left to right: an element followed by `...` is
flagged and the `...` consumed; a `...` that follows nothing is a syntax error located at it
(`tmplElems` is this reading, without the accumulator of the Rust code) -/
theorem collectElems_eq_tmplElems (xs : List Datum) : collectElems xs none = tmplElems xs :=
  (collectElems_spec xs).1

example : tmplElems [sy "a", sy "...", sy "b"] = .ok [(.ident "a", true), (.ident "b", false)] ∧
    tmplElems [sy "a", sy "...", sy "..."] = .error (.syntax, none) ∧
    tmplElems [sy "..."] = .error (.syntax, none) := ⟨rfl, rfl, rfl⟩

/-- a list template is the reading of its elements (a dotted tail is flattened into the list,
the documented limit), a vector template likewise -/
theorem toTmpl_lists (a d : Datum) (xs : List Datum) (l : Loc) :
    toTmpl (.pair a d l) = (tmplElems (Datum.pair a d l).elems).map Tmpl.list ∧
    toTmpl (.vec xs l) = (tmplElems xs).map Tmpl.vec :=
  ⟨toTmpl_pair a d l, toTmpl_vec xs l⟩

example : toTmpl (lst [sy "if", sy "t", lst [sy "begin", sy "r", sy "..."]]) =
      .ok (.list [(.ident "if", false), (.ident "t", false),
        (.list [(.ident "begin", false), (.ident "r", true)], false)]) ∧
    toTmpl (.pair (sy "a") (sy "b") none) = .ok (.list [(.ident "a", false), (.ident "b", false)]) :=
  ⟨rfl, rfl⟩

/-! ### rules -/

/-- **a rule** is accepted exactly when it is written `((kw . pattern) template more…)` — the
pattern's FIRST element the identifier `kw` itself, the rest of the pattern a list — and the
template is well formed; the result is the `toPat` image of the pattern without its keyword and
the `toTmpl` image of the template (`ruleOf` is the declarative reading of the written rule) -/
theorem toRule_spec {kw : String} {d : Datum} {pt : Pat × Tmpl} :
    toRule kw d = .ok pt ↔
      ∃ patRest td t, ruleOf kw d = some (patRest, td) ∧ toTmpl td = .ok t ∧
        pt = (toPat patRest, t) :=
  toRule_ok_iff

example : ruleOf "m" (lst [lst [sy "m", sy "k", sy "x"], sy "x"]) = some (lst [sy "k", sy "x"], sy "x") ∧
    toRule "m" (lst [lst [sy "m", sy "k", sy "x"], sy "x"]) = .ok (plist [.ident "k", .ident "x"], .ident "x") :=
  ⟨rfl, rfl⟩

/-- **keyword mismatch**: a pattern whose first element is another identifier — `(_ x)`, or another
keyword — is rejected with a syntax error located at that identifier (the Rust code's
`MacroKeywordMissMatch`; the model's error kind is `.syntax`) -/
theorem toRule_keyword_mismatch {kw k : String} {lk la l : Loc} {patRest d' : Datum}
    (hp : patRest.isListy = true) (hk : k ≠ kw) :
    toRule kw (.pair (.pair (.sym k lk) patRest la) d' l) = .error (.syntax, lk) := by
  rw [toRule_pair hp, if_pos hk]

example : toRule "m" (lst [lst [.sym "_" (some (1, 2)), sy "x"], sy "x"]) = .error (.syntax, some (1, 2)) ∧
    toRule "m" (lst [lst [.sym "other" (some (3, 4)), sy "x"], sy "x"]) = .error (.syntax, some (3, 4)) :=
  ⟨rfl, rfl⟩

/-- **`toRules`** (`transform_transformer`) succeeds exactly when the form has the shape
`(syntax-rules (literal…) rule…)` (or `(syntax-rules ellipsis (literal…) rule…)`; `synRulesParts`
is this reading), every literal is an identifier and every rule is accepted with keyword `kw`; the
literals and rules of the result are the images of the written ones, position by position
(`MapOk`) -/
theorem toRules_spec (kw : String) (d : Datum) (r : Rules) :
    toRules kw d = .ok r ↔
      ∃ litDs ruleDs, synRulesParts d = some (litDs, ruleDs) ∧
        MapOk identOf litDs r.literals ∧ MapOk (toRule kw) ruleDs r.rules :=
  toRules_ok_iff kw d r

example : synRulesParts exSpec = some ([sy "k"],
      [lst [lst [sy "m", sy "k", sy "x"], sy "x"],
       lst [lst [sy "m", sy "x", sy "..."], lst [sy "quote", lst [sy "x", sy "..."]]]]) ∧
    toRules "m" exSpec = .ok ⟨["k"], [(plist [.ident "k", .ident "x"], .ident "x"),
      (plist [.ident "x", .ellipsis],
        .list [(.ident "quote", false), (.list [(.ident "x", true)], false)])]⟩ := ⟨rfl, rfl⟩

/-- **textual order**: the `i`-th rule of the result comes from the `i`-th written rule (and the
`i`-th literal is the `i`-th written literal), so that "the first rule, in textual order" of
`C04.transform_first_match` is the first rule of the source -/
theorem toRules_textual_order {kw : String} {d : Datum} {r : Rules} (h : toRules kw d = .ok r) :
    ∃ litDs ruleDs, synRulesParts d = some (litDs, ruleDs) ∧
      r.literals.length = litDs.length ∧ r.rules.length = ruleDs.length ∧
      (∀ (i : Nat) (h1 : i < litDs.length) (h2 : i < r.literals.length),
        ∃ l, litDs[i] = .sym r.literals[i] l) ∧
      (∀ (i : Nat) (h1 : i < ruleDs.length) (h2 : i < r.rules.length),
        ∃ patRest td t, ruleOf kw ruleDs[i] = some (patRest, td) ∧ toTmpl td = .ok t ∧
          r.rules[i] = (toPat patRest, t)) := by
  obtain ⟨litDs, ruleDs, hp, hl, hr⟩ := (toRules_spec kw d r).1 h
  refine ⟨litDs, ruleDs, hp, hl.length, hr.length, fun i h1 h2 => ?_, fun i h1 h2 => ?_⟩
  · exact (identOf_ok_iff _ _).1 (hl.get i h1 h2)
  · exact toRule_spec.1 (hr.get i h1 h2)

example : ∃ r, toRules "m" exSpec = .ok r ∧ r.rules.length = 2 ∧ r.literals = ["k"] := ⟨_, rfl, rfl, rfl⟩

/-- the first written rule that is not accepted decides the error: in particular a later rule with
the wrong keyword makes the whole `define-syntax` a syntax error located at that keyword -/
theorem toRules_keyword_mismatch {kw k : String} {d : Datum} {litDs pre post : List Datum}
    {lits : List String} {rs : List (Pat × Tmpl)} {lk la l : Loc} {patRest d' : Datum}
    (hparts : synRulesParts d = some (litDs, pre ++ .pair (.pair (.sym k lk) patRest la) d' l :: post))
    (hl : MapOk identOf litDs lits) (hpre : MapOk (toRule kw) pre rs)
    (hp : patRest.isListy = true) (hk : k ≠ kw) :
    toRules kw d = .error (.syntax, lk) := by
  rw [toRules_eq, (partsE_ok_iff d _).2 hparts]
  simp only [Except.bind, (mapM_ok_iff_mapOk _ _ _).2 hl,
    mapM_first_error ((mapM_ok_iff_mapOk _ _ _).2 hpre) (toRule_keyword_mismatch (d' := d') (la := la) (l := l) hp hk)]

example : toRules "m" (lst [sy "syntax-rules", lst [],
      lst [lst [sy "m", sy "x"], sy "x"],
      lst [lst [.sym "_" (some (7, 8)), sy "x", sy "y"], sy "y"]]) = .error (.syntax, some (7, 8)) := rfl

/-- every way in which the front rejects a definition is a SYNTAX error: a malformed
`syntax-rules` form, a literal that is not an identifier, a malformed rule, a keyword mismatch, a
stray `...` in a template — never a panic, never another error kind -/
theorem front_errors_are_syntax {kw : String} {d : Datum} {e : SErr} :
    (toRules kw d = .error e → e.1 = .syntax) ∧ (toRule kw d = .error e → e.1 = .syntax) ∧
    (toTmpl d = .error e → e.1 = .syntax) :=
  ⟨toRules_error_syntax, toRule_error_syntax, toTmpl_error_syntax⟩

example : toRules "m" (lst [sy "syntax-rules", lst [num 1]]) = .error (.syntax, none) ∧
    toRules "m" (sy "syntax-rules") = .error (.syntax, none) ∧
    toRules "m" (lst [sy "syntax-rules", lst [], lst [lst [sy "m"], lst [sy "..."]]]) =
      .error (.syntax, none) := ⟨rfl, rfl, rfl⟩

end Ruschm.C04More
