/-
What `get_library` and the import functions of the MODEL do to the factory table and to the instance cache, for
C14Model: `Step`, a relation between the state before and the state after a call with given root names, and
`step_run`, which shows it of every call of the block.
-/
import RuschmProofs.LibLemmas

namespace Ruschm
namespace Interp

/-! ## vocabulary -/

/-- the libraries the import declarations of a library definition name -/
def declImports : List LibDecl → List LibName
  | [] => []
  | .importDecl sets :: ds => sets.map S.leaf ++ declImports ds
  | _ :: ds => declImports ds

/-- the factory `get_library` would use for `m`: the registered one, else the one made from the
text of the file `libPath m` -/
def factoryFor (st : State) (m : LibName) : Option Factory :=
  match libLookup st.factories m with
  | some f => some f
  | none =>
    match st.files.lookup (fileKey st.dir (libPath m)) with
    | some (.text t) =>
      match factoryOfText m t with
      | .ok f => some f
      | .error _ => none
    | _ => none

/-- `n` is the root `r` or a transitive import of it: reachable through the import declarations
of the definitions `get_library` would find -/
inductive Requested (st : State) : LibName → LibName → Prop where
  | root (n : LibName) : Requested st n n
  | step {m k n : LibName} {decls : List LibDecl} : factoryFor st m = some (.ast decls) →
      k ∈ declImports decls → Requested st k n → Requested st m n

/-- what a call with the root names `roots` does to factories and instances -/
structure Step (st st' : State) (roots : List LibName) : Prop where
  base : Inv (fun _ _ => True) st st'
  newFac : ∀ n f, libLookup st'.factories n = some f → libLookup st.factories n = none →
    (∃ r ∈ roots, Requested st r n) ∧
      ∃ t, st.files.lookup (fileKey st.dir (libPath n)) = some (.text t) ∧ factoryOfText n t = .ok f
  newInst : ∀ n d, libLookup st'.instances n = some d → libLookup st.instances n = none →
    (∃ r ∈ roots, Requested st r n) ∧
      ∃ k sa sb f, factoryFor st n = some f ∧ newLibrary k sa f = (.ok d, sb)

theorem Step.factoryFor_eq {st st' : State} {roots} (h : Step st st' roots) (m : LibName) :
    factoryFor st' m = factoryFor st m := by
  unfold factoryFor
  rw [h.base.files, h.base.dir]
  cases h1 : libLookup st.factories m with
  | some f => rw [h.base.factories m f h1]
  | none =>
    cases h2 : libLookup st'.factories m with
    | none => rfl
    | some f =>
      obtain ⟨-, t, ht, hf⟩ := h.newFac m f h2 h1
      simp only [ht, hf]

theorem Requested.congr {st st' : State} (h : ∀ m, factoryFor st' m = factoryFor st m) {r n : LibName}
    (hr : Requested st' r n) : Requested st r n := by
  induction hr with
  | root n => exact .root n
  | step hf hk _ ih => exact .step (by rw [← h]; exact hf) hk ih

theorem Requested.trans {st : State} {a b c : LibName} (h1 : Requested st a b) (h2 : Requested st b c) :
    Requested st a c := by
  induction h1 with
  | root => exact h2
  | step hf hk _ ih => exact .step hf hk (ih h2)

theorem Step.of_inv_same {st st' : State} (roots : List LibName) (h : Inv (fun _ _ => True) st st')
    (hf : st'.factories = st.factories) (hi : st'.instances = st.instances) : Step st st' roots :=
  ⟨h, fun n f h1 h2 => (by rw [hf, h2] at h1; cases h1),
   fun n d h1 h2 => (by rw [hi, h2] at h1; cases h1)⟩

theorem Step.refl (st : State) (roots : List LibName) : Step st st roots :=
  .of_inv_same roots (Inv.refl storeRel_true st) rfl rfl

theorem Step.map_roots {st st' : State} {roots roots' : List LibName} (h : Step st st' roots)
    (hr : ∀ r ∈ roots, ∃ r' ∈ roots', Requested st r' r) : Step st st' roots' :=
  have sub {n} : (∃ r ∈ roots, Requested st r n) → ∃ r' ∈ roots', Requested st r' n :=
    fun ⟨r, hm, hq⟩ => let ⟨r', hm', hq'⟩ := hr r hm; ⟨r', hm', hq'.trans hq⟩
  ⟨h.base, fun n f h1 h2 => (h.newFac n f h1 h2).imp sub id, fun n d h1 h2 => (h.newInst n d h1 h2).imp sub id⟩

theorem Step.trans {a b c : State} {roots : List LibName} (h1 : Step a b roots) (h2 : Step b c roots) :
    Step a c roots := by
  have hff := h1.factoryFor_eq
  refine ⟨Inv.trans storeRel_true h1.base h2.base, ?_, ?_⟩
  · intro n f hc ha
    cases hb : libLookup b.factories n with
    | some f' =>
      have := h2.base.factories n f' hb
      rw [this] at hc; cases hc
      exact h1.newFac n f hb ha
    | none =>
      obtain ⟨⟨r, hr, hq⟩, t, ht, hf⟩ := h2.newFac n f hc hb
      exact ⟨⟨r, hr, hq.congr hff⟩, t, by rw [← h1.base.files, ← h1.base.dir]; exact ht, hf⟩
  · intro n d hc ha
    cases hb : libLookup b.instances n with
    | some d' =>
      have := h2.base.instances n d' hb
      rw [this] at hc; cases hc
      exact h1.newInst n d hb ha
    | none =>
      obtain ⟨⟨r, hr, hq⟩, k, sa, sb, f, hf, hn⟩ := h2.newInst n d hc hb
      exact ⟨⟨r, hr, hq.congr hff⟩, k, sa, sb, f, by rw [← hff]; exact hf, hn⟩

theorem factoryFor_congr {a a' : State} (fa : a'.factories = a.factories) (fl : a'.files = a.files)
    (dr : a'.dir = a.dir) (m : LibName) : factoryFor a' m = factoryFor a m := by
  unfold factoryFor; rw [fa, fl, dr]

theorem Step.transport {a b a' b' : State} {roots : List LibName} (h : Step a b roots)
    (hi : Inv (fun _ _ => True) a' b') (fa : a'.factories = a.factories)
    (ia : a'.instances = a.instances) (fla : a'.files = a.files) (fb : b'.factories = b.factories)
    (ib : b'.instances = b.instances) (dra : a'.dir = a.dir := by rfl) : Step a' b' roots := by
  have hff := factoryFor_congr fa fla dra
  refine ⟨hi, ?_, ?_⟩
  · intro n f h1 h2
    rw [fb] at h1; rw [fa] at h2
    obtain ⟨⟨r, hr, hq⟩, t, ht, hf⟩ := h.newFac n f h1 h2
    exact ⟨⟨r, hr, Requested.congr (st := a') (st' := a) (fun m => (hff m).symm) hq⟩, t, by rw [fla, dra]; exact ht, hf⟩
  · intro n d h1 h2
    rw [ib] at h1; rw [ia] at h2
    obtain ⟨⟨r, hr, hq⟩, k, sa, sb, f, hf, hn⟩ := h.newInst n d h1 h2
    exact ⟨⟨r, hr, Requested.congr (st := a') (st' := a) (fun m => (hff m).symm) hq⟩, k, sa, sb, f,
      by rw [hff]; exact hf, hn⟩

/-- `step_run` for each of the seven functions by name; nothing builds it -/
structure StepAt (fuel : Nat) : Prop where
  importSet : ∀ {st s r st'}, evalImportSet fuel st s = (r, st') → Step st st' [S.leaf s]
  getLibrary : ∀ {st name loc r st'}, getLibrary fuel st name loc = (r, st') → Step st st' [name]
  import_ : ∀ {st sets ρ r st'}, evalImport fuel st sets ρ = (r, st') → Step st st' (sets.map S.leaf)
  importSets : ∀ {st sets acc r st'}, evalImportSets fuel st sets acc = (r, st') →
    Step st st' (sets.map S.leaf)
  libraryDef : ∀ {st decls r st'}, evalLibraryDef fuel st decls = (r, st') → Step st st' (declImports decls)
  libDecls : ∀ {st ρ decls acc r st'}, evalLibDecls fuel st ρ decls acc = (r, st') →
    Step st st' (declImports decls)
  statements : ∀ {st ρ ss r st'}, evalStatements fuel st ρ ss = (r, st') → Step st st' []

theorem findFactory_step {st name loc r st'} (hnone : libLookup st.instances name = none)
    (h : findFactory st name loc = (r, st')) :
    Step st st' [name] ∧ libLookup st'.instances name = none ∧
      (∀ f, r = .ok f → factoryFor st' name = some f) ∧
      (∀ e, r = .error e → st' = st) := by
  have hinv := (findFactory_inv storeRel_true h).1
  have hf := findFactory_found st name loc
  rw [h] at hf
  cases hf with
  | registered hf =>
    exact ⟨Step.refl _ _, hnone, fun f' e => (by cases e; simp [factoryFor, hf]), fun e h => (by cases h)⟩
  | @fromFile t f hf ht hft =>
    refine ⟨⟨hinv, ?_, ?_⟩, hnone, ?_, fun e h => (by cases h)⟩
    · intro n f' h1 h2
      rcases libLookup_libInsert_some h1 with ⟨rfl, rfl⟩ | h1
      · exact ⟨⟨n, List.mem_singleton_self _, .root n⟩, t, ht, hft⟩
      · rw [h2] at h1; cases h1
    · intro n d h1 h2
      simp only at h1
      rw [h2] at h1; cases h1
    · intro f' e
      cases e
      simp [factoryFor, libLookup_libInsert_self]
  | error _ _ => exact ⟨Step.refl _ _, hnone, fun f' e => (by cases e), fun _ _ => rfl⟩

theorem findFactory_of_factoryFor {st : State} {n : LibName} {f : Factory} (loc : Loc)
    (hf : factoryFor st n = some f) :
    ∃ st1, findFactory st n loc = (.ok f, st1) ∧ st1 = { st with factories := st1.factories } := by
  refine ⟨_, Prod.ext ?_ rfl, findFactory_frame st n loc⟩
  have h := findFactory_found st n loc
  generalize findFactory st n loc = x at h
  unfold factoryFor at hf
  cases h with
  | registered h1 => rw [h1] at hf; cases hf; rfl
  | fromFile h1 h2 h3 => rw [h1] at hf; simp only [h2, h3] at hf; cases hf; rfl
  | error h1 h2 =>
    rw [h1] at hf
    rcases h2 with ⟨-, h2⟩ | ⟨-, h2⟩ | ⟨t, h2, h3⟩ <;> simp only [h2] at hf
    · cases hf
    · cases hf
    · simp only [h3] at hf; cases hf

theorem cacheInstance_step {fuel : Nat} {st : State} {f : Factory} {name : LibName} {r st'}
    (hnone : libLookup st.instances name = none) (hf : factoryFor st name = some f)
    (hs : Step st (newLibrary fuel st f).2 [name])
    (h : cacheInstance name (newLibrary fuel st f) = (r, st')) : Step st st' [name] := by
  unfold cacheInstance at h
  split at h
  · rename_i defs hok
    cases h
    refine ⟨hs.base.cache defs hnone, hs.newFac, ?_⟩
    intro n d h1 h2
    rcases libLookup_libInsert_some h1 with ⟨rfl, rfl⟩ | h1
    · exact ⟨⟨n, List.mem_singleton_self _, .root n⟩, fuel, st, (newLibrary fuel st f).2, f, hf, Prod.ext hok rfl⟩
    · exact hs.newInst n d h1 h2
  · cases h; exact hs

theorem evalExprOrDef_step {fuel st s ρ r st'} (h : evalExprOrDef fuel st s ρ = (r, st')) :
    Step st st' [] := by
  have hs := evalExprOrDef_frame h
  exact Step.of_inv_same _ (evalExprOrDef_inv storeRel_true h) (by rw [hs]) (by rw [hs])

/-- the libraries a call names -/
def Call.roots : {α : Type} → Call α → List LibName
  | _, .importSet s => [S.leaf s]
  | _, .getLibrary name _ => [name]
  | _, .import_ sets _ | _, .importSets sets _ => sets.map S.leaf
  | _, .libraryDef decls | _, .libDecls _ decls _ => declImports decls
  | _, .statements _ _ => []

theorem Step.andThen {α β} {roots} {st : State} {x : Except SErr α × State} {k : α → State → Except SErr β × State}
    (hx : Step st x.2 roots) (hk : ∀ a st1, x = (.ok a, st1) → Step st1 (k a st1).2 roots) :
    Step st (Ruschm.andThen x k).2 roots :=
  andThen_rel (R := (Step · · roots)) Step.trans hx hk

theorem step_run : ∀ n {α} (st : State) (c : Call α), Step st (runCall n st c).2 c.roots :=
  run_rule (P := fun _ st c x => Step st x.2 c.roots) (fun _ _ => Step.refl _ _) fun n ih α st c => by
    have hinv : Inv (fun _ _ => True) st (stepCall n (runCall n) st c).2 :=
      runCall_succ n st c ▸ run_inv storeRel_true (n + 1) st c
    have sub {β} {a b : State} {c' : Call β} (h : Step a b c'.roots) (hs : ∀ r ∈ c'.roots, r ∈ c.roots) :
        Step a b c.roots := h.map_roots fun r hr => ⟨r, hs r hr, .root r⟩
    cases c with
    | importSet s =>
      cases s using ImportSet.opInduction with
      | direct name loc =>
        rw [stepCall_direct] at hinv ⊢
        split
        · exact Step.refl _ _
        · rename_i hc; rw [if_neg hc] at hinv
          exact (ih { st with inProgress := name :: st.inProgress } (.getLibrary name loc)).transport hinv
            rfl rfl rfl rfl rfl
      | wrap op sub' =>
        rw [stepCall_wrap]
        exact Step.andThen (sub (ih st (.importSet sub')) (by simp [Call.roots])) fun _ _ _ => Step.refl _ _
    | getLibrary name loc =>
      simp only [stepCall]
      split
      · exact Step.refl _ _
      · rename_i hnone
        refine Step.andThen (findFactory_step hnone rfl).1 fun f st1 e1 => ?_
        obtain ⟨-, hn1, hfac, -⟩ := findFactory_step hnone e1
        have hf := hfac f rfl
        have hs : Step st1 (newLibrary n st1 f).2 [name] := by
          cases f with
          | native defs => exact Step.refl _ _
          | ast decls => exact (ih st1 (.libraryDef decls)).map_roots fun r hr =>
            ⟨name, List.mem_singleton_self _, .step hf hr (.root r)⟩
        rw [newLibraryWith_run, ← cacheInstance_eq_andThen]
        exact cacheInstance_step hn1 hf hs (Prod.ext rfl rfl)
    | import_ sets ρ =>
      exact Step.andThen (ih st (.importSets sets [])) fun _ st1 _ =>
        Step.of_inv_same _ (Inv.store_step _ trivial) rfl rfl
    | importSets sets acc =>
      cases sets with
      | nil => exact Step.refl _ _
      | cons s rest =>
        exact Step.andThen (sub (ih st (.importSet s)) (by simp [Call.roots])) fun _ st1 _ =>
          Step.andThen (Step.refl _ _) fun acc' st2 _ =>
            sub (ih st2 (.importSets rest acc')) (fun r hr => List.mem_cons_of_mem _ hr)
    | libraryDef decls =>
      have h0 : Step st { st with store := (st.store.newFrame none).2 } (declImports decls) :=
        Step.of_inv_same _ (Inv.store_step _ trivial) rfl rfl
      exact h0.trans (Step.andThen (ih _ (.libDecls st.store.frames.size decls [])) fun _ _ _ => Step.refl _ _)
    | libDecls ρ decls acc =>
      cases decls with
      | nil => exact Step.refl _ _
      | cons d ds =>
        cases d with
        | importDecl sets =>
          exact Step.andThen (sub (ih st (.import_ sets ρ)) (fun r hr => List.mem_append.2 (.inl hr))) fun _ st1 _ =>
            sub (ih st1 (.libDecls ρ ds acc)) (fun r hr => List.mem_append.2 (.inr hr))
        | «export» specs => exact ih st (.libDecls ρ ds (acc ++ specs))
        | begin_ body =>
          exact Step.andThen (sub (ih st (.statements ρ body)) (fun _ h => nomatch h)) fun _ st1 _ =>
            ih st1 (.libDecls ρ ds acc)
    | statements ρ ss =>
      cases ss with
      | nil => exact Step.refl _ _
      | cons s rest =>
        exact Step.andThen (evalExprOrDef_step (Prod.ext rfl rfl)) fun _ st1 _ => ih st1 (.statements ρ rest)

/-! ## what a factory made from a text is -/

/-- an empty file defines no library: `from_char_stream` reports `LibraryNotFound` -/
theorem factoryOfText_empty (n : LibName) : factoryOfText n "" = .error (.libNotFound, none) := by
  have h1 : "".toList = [] := rfl
  unfold factoryOfText
  simp only [h1, Read.ofText_nil, List.map_nil, List.length_nil]
  rw [factoryOfText.go]
  simp [Read.nextDatum, Read.advance, bind, Except.bind, Read.currentDatum, Read.fuelFor]

theorem scanStart_empty_next {d s'} : Read.nextDatum (scanStart "") ≠ .ok (some d, s') := by
  have h1 : "".toList = [] := rfl
  simp [scanStart, h1, Read.ofText_nil, Read.nextDatum, Read.advance, bind, Except.bind,
    Read.currentDatum, Read.fuelFor]

theorem not_definesLibrary_empty (n : LibName) : ¬ ∃ decls, DefinesLibrary "" n decls := by
  have key : ∀ s env, Scanned "" s env → s = scanStart "" := by
    intro s env h
    induction h with
    | start => rfl
    | next _ hnd _ ih => exact absurd (ih ▸ hnd) scanStart_empty_next
  rintro ⟨decls, s, env, d, s', loc, env', hs, hnd, -⟩
  exact scanStart_empty_next (key s env hs ▸ hnd)

end Interp
end Ruschm
