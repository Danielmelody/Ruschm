/-
Reading the tokens of a written datum (`Syn.toks`) yields the datum it denotes and leaves the rest of the
stream. Over a sequence of written forms the run of the reader is kept as a relation (`Reads`), so that
what holds of a datum because of its own tokens can be read off form by form. The last section is a
second statement of completeness, with the fuel counted on the syntax tree, that nothing else uses.
-/
import RuschmProofs.TextLemmas
import RuschmProofs.ReadSpecLemmas
namespace Ruschm.Text
open Ruschm Ruschm.Read

/-! ## the tokens of a written datum -/

theorem toks_ne_nil (x : Syn) : x.toks ≠ [] := by
  cases x <;> simp [Syn.toks]

mutual
theorem toks_supported : (x : Syn) → Syn.Supported x → ∀ t ∈ x.toks, SupportedTok t
  | .atom t, h => by rw [Syn.toks]; exact List.forall_mem_singleton.2 h.2
  | .list xs, h | .vec xs, h => by
    rw [Syn.Supported] at h
    simp only [Syn.toks, List.forall_mem_cons, List.forall_mem_append]
    exact ⟨trivial, toksL_supported xs h, trivial, fun _ h => nomatch h⟩
  | .dotted xs tl, h => by
    rw [Syn.Supported] at h
    simp only [Syn.toks, List.forall_mem_cons, List.forall_mem_append]
    exact ⟨trivial, toksL_supported xs h.2.1, trivial, toks_supported tl h.2.2, trivial, fun _ h => nomatch h⟩
  | .quote x, h => by
    rw [Syn.Supported] at h
    rw [Syn.toks, List.forall_mem_cons]
    exact ⟨trivial, toks_supported x h⟩
theorem toksL_supported : (xs : List Syn) → Syn.SupportedL xs → ∀ t ∈ Syn.toksL xs, SupportedTok t
  | [], _ => fun _ h => nomatch h
  | x :: xs, h => by
    rw [Syn.SupportedL] at h
    rw [Syn.toksL, List.forall_mem_append]
    exact ⟨toks_supported x h.1, toksL_supported xs h.2⟩
end

theorem denoteV_eq_map (xs : List Syn) : Syn.denoteV xs = xs.map Syn.denote := by
  induction xs with
  | nil => rfl
  | cons d ds ih => simp [Syn.denoteV, ih]

/-! ## the reader on the tokens of written data -/

theorem nextDatum_spec (x : Syn) (hx : Syn.Supported x) (s : PState) (lts lrest : List LToken)
    (hl : lts.map (·.tok) = x.toks) (hs : s.toks = lts ++ lrest) :
    ∃ d s', nextDatum s = .ok (some d, s') ∧ d.strip = x.denote ∧ s'.toks = lrest ∧
      s'.lexErr = s.lexErr :=
  ReadSpec.nextDatum_complete (ReadSpec.parses_of_syn x (ReadSpec.wf_of_supported x hx) [])
    s lts lrest hl hs

/-- one `nextDatum` for each written form, with the tokens `seg` it is read from -/
inductive Reads : List Syn → PState → List Datum → Prop
  | done {s : PState} : s.toks = [] → Reads [] s []
  | form {x : Syn} {xs : List Syn} {s s' : PState} {seg : List LToken} {d : Datum} {ds : List Datum} :
      seg.map (·.tok) = x.toks → s.toks = seg ++ s'.toks → nextDatum s = .ok (some d, s') →
      d.strip = x.denote → Reads xs s' ds → Reads (x :: xs) s (d :: ds)

theorem allAux_reads (xs : List Syn) (hxs : Syn.SupportedL xs) :
    ∀ (fuel : Nat) (s : PState) (acc : List Datum), xs.length < fuel →
      s.toks.map (·.tok) = Syn.toksL xs → s.lexErr = none →
      ∃ ds, Read.allAux fuel s acc = (acc.reverse ++ ds, none) ∧ Reads xs s ds := by
  induction xs with
  | nil =>
    intro fuel s acc hf hs he
    obtain ⟨f, rfl⟩ := Nat.exists_eq_add_one.2 (Nat.zero_lt_of_lt hf)
    simp only [Syn.toksL, List.map_eq_nil_iff] at hs
    exact ⟨[], by simp [Read.allAux, ReadSpec.nextDatum_nil hs, he], .done hs⟩
  | cons x xs ih =>
    intro fuel s acc hf hs he
    obtain ⟨f, rfl⟩ := Nat.exists_eq_add_one.2 (Nat.zero_lt_of_lt hf)
    simp only [Syn.SupportedL] at hxs
    simp only [Syn.toksL] at hs
    obtain ⟨lx, lr, hsplit, hlx, hlr⟩ := map_tok_append hs
    obtain ⟨d, s', g1, g2, g3, g4⟩ := nextDatum_spec x hxs.1 s lx lr hlx hsplit
    obtain ⟨ds, k1, k2⟩ := ih hxs.2 f s' (d :: acc) (Nat.lt_of_succ_lt_succ hf) (by rw [g3]; exact hlr)
      (by rw [g4, he])
    refine ⟨d :: ds, ?_, .form hlx (g3 ▸ hsplit) g1 g2 k2⟩
    simp [Read.allAux, g1, k1]

theorem Reads.strip {xs : List Syn} {s : PState} {ds : List Datum} (h : Reads xs s ds) :
    ds.map Datum.strip = xs.map Syn.denote := by
  induction h with
  | done => rfl
  | form _ _ _ hd _ ih => rw [List.map_cons, List.map_cons, hd, ih]

theorem length_le_toksL (xs : List Syn) : xs.length ≤ (Syn.toksL xs).length := by
  induction xs with
  | nil => simp
  | cons x xs ih =>
    have := List.length_pos_iff.2 (toks_ne_nil x)
    simp only [Syn.toksL, List.length_cons, List.length_append]; omega

theorem all_reads (xs : List Syn) (hxs : Syn.SupportedL xs) {cs : List Char} {lts : List LToken}
    (hlex : Lex.all cs = (lts, none)) (h : lts.map (·.tok) = Syn.toksL xs) :
    ∃ ds, Read.all cs = (ds, none) ∧ Reads xs { toks := lts, lexErr := none } ds := by
  have hlen := length_le_toksL xs
  rw [← h, List.length_map] at hlen
  obtain ⟨ds, k1, k2⟩ := allAux_reads xs hxs (lts.length + 1) { toks := lts, lexErr := none } []
    (by omega) h rfl
  exact ⟨ds, by simp only [Read.all, ofText, hlex]; exact k1, k2⟩

theorem readAll_render (xs : List Syn) (hxs : Syn.SupportedL xs) (layout : List (List Char))
    (hl : ValidLayout (Syn.toksL xs) layout) :
    (Read.all (interleave (Syn.toksL xs) layout)).1.map Datum.strip = xs.map Syn.denote ∧
      (Read.all (interleave (Syn.toksL xs) layout)).2 = none := by
  obtain ⟨h1, h2⟩ := all_render (Syn.toksL xs) layout (toksL_supported xs hxs) hl
  obtain ⟨ds, k1, k2⟩ := all_reads xs hxs (Prod.ext rfl h2) h1
  rw [k1]
  exact ⟨k2.strip, rfl⟩

/-! ## data and their canonical written form -/

def tailToks : Option Syn → List Token
  | none => [.rparen]
  | some t => .period :: (t.toks ++ [.rparen])

def tailDen : Option Syn → Datum
  | none => .nil none
  | some t => t.denote


mutual
theorem ofDatum_denote : (d : Datum) → (Syn.ofDatum d).denote = d.strip
  | .prim _ _ | .sym _ _ | .nil _ => rfl
  | .vec xs _ => by simp [Syn.ofDatum, Syn.denote, Datum.strip, ofDatums_denote xs]
  | .pair a d _ => by
    have h1 := ofDatum_denote a
    have h2 := ofTail_denote d
    simp only [Syn.ofDatum]
    split
    · rename_i h; rw [h] at h2; simp only [tailDen] at h2
      simp [Syn.denote, Syn.denoteL, Datum.strip, h1, h2]
    · rename_i t h; rw [h] at h2; simp only [tailDen] at h2
      simp [Syn.denote, Syn.denoteL, Datum.strip, h1, h2]
theorem ofTail_denote : (d : Datum) →
    Syn.denoteL (Syn.ofTail d).1 (tailDen (Syn.ofTail d).2) = d.strip
  | .pair a d _ => by
    simp [Syn.ofTail, Syn.denoteL, Datum.strip, ofDatum_denote a, ofTail_denote d]
  | .nil _ | .prim _ _ | .sym _ _ => rfl
  | .vec xs _ => by
    simp [Syn.ofTail, Syn.denoteL, tailDen, Syn.denote, Datum.strip, ofDatums_denote xs]
theorem ofDatums_denote : (xs : List Datum) →
    Syn.denoteV (Syn.ofDatums xs) = Datum.stripList xs
  | [] => rfl
  | x :: xs => by
    simp [Syn.ofDatums, Syn.denoteV, Datum.stripList, ofDatum_denote x, ofDatums_denote xs]
end

mutual
theorem ofDatum_supported : (d : Datum) → SupportedD d → (Syn.ofDatum d).Supported
  | .prim _ _, h | .sym _ _, h => ⟨rfl, h⟩
  | .nil _, _ => by simp [Syn.ofDatum, Syn.Supported, Syn.SupportedL]
  | .vec xs _, h => by
    simpa [Syn.ofDatum, Syn.Supported] using ofDatums_supported xs (by simpa [SupportedD] using h)
  | .pair a d _, h => by
    simp only [SupportedD] at h
    have h1 := ofDatum_supported a h.1
    have h2 := ofTail_supported d h.2
    simp only [Syn.ofDatum]
    split
    · simp [Syn.Supported, Syn.SupportedL, h1, h2.1]
    · rename_i t ht
      simp [Syn.Supported, Syn.SupportedL, h1, h2.1, h2.2 t ht]
theorem ofTail_supported : (d : Datum) → SupportedD d →
    Syn.SupportedL (Syn.ofTail d).1 ∧ ∀ t, (Syn.ofTail d).2 = some t → t.Supported
  | .pair a d _, h => by
    simp only [SupportedD] at h
    have h1 := ofDatum_supported a h.1
    have h2 := ofTail_supported d h.2
    exact ⟨by simp [Syn.ofTail, Syn.SupportedL, h1, h2.1], by simpa [Syn.ofTail] using h2.2⟩
  | .nil _, _ => by simp [Syn.ofTail, Syn.SupportedL]
  | .prim _ _, h | .sym _ _, h => by
    refine ⟨by simp [Syn.ofTail, Syn.SupportedL], ?_⟩
    intro t ht; simp only [Syn.ofTail, Option.some.injEq] at ht; subst ht; exact ⟨rfl, h⟩
  | .vec xs _, h => by
    refine ⟨by simp [Syn.ofTail, Syn.SupportedL], ?_⟩
    intro t ht; simp only [Syn.ofTail, Option.some.injEq] at ht; subst ht
    simpa [Syn.Supported] using ofDatums_supported xs (by simpa [SupportedD] using h)
theorem ofDatums_supported : (xs : List Datum) → SupportedDs xs → Syn.SupportedL (Syn.ofDatums xs)
  | [], _ => by simp [Syn.ofDatums, Syn.SupportedL]
  | x :: xs, h => by
    simp only [SupportedDs] at h
    simp [Syn.ofDatums, Syn.SupportedL, ofDatum_supported x h.1, ofDatums_supported xs h.2]
end

theorem ofDatums_eq_map : ∀ (xs : List Datum), Syn.ofDatums xs = xs.map Syn.ofDatum
  | [] => rfl
  | x :: xs => by rw [Syn.ofDatums, ofDatums_eq_map xs, List.map_cons]

theorem supportedDs_iff : ∀ {xs : List Datum}, SupportedDs xs ↔ ∀ x ∈ xs, SupportedD x
  | [] => by simp [SupportedDs]
  | x :: xs => by rw [SupportedDs, supportedDs_iff, List.forall_mem_cons]

/-! ## completeness once more, with the fuel counted on the written datum

Nothing else rests on this section: the theorems above go through the grammar and its bound
`2 * length`. -/

namespace Syn
mutual
def need : Syn → Nat
  | atom _ => 1
  | list xs => needSum xs + 2
  | dotted xs t => needSum xs + need t + 3
  | vec xs => needSum xs + 2
  | quote x => need x + 2
def needSum : List Syn → Nat
  | [] => 0
  | x :: xs => 1 + need x + needSum xs
end
end Syn

/-- `ReadSpec.CurOK x.need x.toks x.denote` with the first token given (`CurOK.at`) -/
def CurSpec (x : Syn) : Prop :=
  ∀ (fuel : Nat) (s : PState) (lt0 : LToken) (lmore lrest : List LToken),
    x.need ≤ fuel → (lt0 :: lmore).map (·.tok) = x.toks → s.cur = some lt0 →
    s.toks = lmore ++ lrest →
    ∃ d s', currentDatum fuel s = .ok (some d, s') ∧ d.strip = x.denote ∧ Leaves s s' lrest

/-- what `ReadSpec.CurOK x.need x.toks x.denote` says of `datum` (`CurOK.datum`) -/
def DatSpec (x : Syn) : Prop :=
  ∀ (fuel : Nat) (s : PState) (lt0 : LToken) (lmore lrest : List LToken),
    x.need ≤ fuel → (lt0 :: lmore).map (·.tok) = x.toks → s.cur = some lt0 →
    s.toks = lmore ++ lrest →
    ∃ d s', datum fuel s = .ok (d, s') ∧ d.strip = x.denote ∧ Leaves s s' lrest

section
open ReadSpec

mutual
theorem curOK_syn : (x : Syn) → WellFormed x → CurOK x.need x.toks x.denote
  | .atom t, h => curOK_atom t h
  | .list xs, h => by
    have := curOK_list (loopOK_syns xs (by simpa [WellFormed] using h)).1
    simpa [Syn.toks, Syn.denote, Syn.need, denoteL_improper, proper] using this
  | .dotted xs t, h => by
    simp only [WellFormed] at h
    have := curOK_dotted (loopOK_syns xs h.2.1).1 (denoteV_ne_nil h.1) (curOK_syn t h.2.2)
    simpa [Syn.toks, Syn.denote, Syn.need, denoteL_improper] using this
  | .vec xs, h => by
    have := curOK_vec (loopOK_syns xs (by simpa [WellFormed] using h)).2
    simpa [Syn.toks, Syn.denote, Syn.need] using this
  | .quote x, h => by
    simp only [WellFormed] at h
    have := curOK_quote (curOK_syn x h)
    simpa [Syn.toks, Syn.denote, Syn.need, quoteForm] using this
theorem loopOK_syns : (xs : List Syn) → WellFormedL xs →
    LoopOK (Syn.needSum xs) (Syn.toksL xs) (Syn.denoteV xs) ∧
      RepOK (Syn.needSum xs) (Syn.toksL xs) (Syn.denoteV xs)
  | [], _ => ⟨loopOK_nil, repOK_nil⟩
  | x :: xs, h => by
    simp only [WellFormedL] at h
    have hx := curOK_syn x h.1
    have hxs := loopOK_syns xs h.2
    simp only [Syn.needSum, Syn.toksL, Syn.denoteV]
    exact ⟨loopOK_cons hx hxs.1 (by omega) (by omega),
      repOK_cons hx hxs.2 (by omega) (by omega)⟩
end

theorem spec_all (x : Syn) (h : Syn.Supported x) : CurSpec x ∧ DatSpec x :=
  have := curOK_syn x (wf_of_supported x h)
  ⟨this.at, this.datum⟩

end

theorem spec_allL : (xs : List Syn) → Syn.SupportedL xs →
    ∀ y ∈ xs, Syn.Supported y ∧ CurSpec y ∧ DatSpec y
  | [], _ => fun _ h => nomatch h
  | x :: xs, h => by
    rw [Syn.SupportedL] at h
    exact List.forall_mem_cons.2 ⟨⟨h.1, spec_all x h.1⟩, spec_allL xs h.2⟩

mutual
theorem need_le : (x : Syn) → x.need + 1 ≤ 2 * x.toks.length
  | .atom t => by simp [Syn.need, Syn.toks]
  | .list xs | .vec xs => by
    have := needSum_le xs
    simp only [Syn.need, Syn.toks, List.length_cons, List.length_append, List.length_nil]; omega
  | .dotted xs t => by
    have := needSum_le xs
    have := need_le t
    simp only [Syn.need, Syn.toks, List.length_cons, List.length_append, List.length_nil]; omega
  | .quote x => by
    have := need_le x
    simp only [Syn.need, Syn.toks, List.length_cons]; omega
theorem needSum_le : (xs : List Syn) → Syn.needSum xs ≤ 2 * (Syn.toksL xs).length
  | [] => by simp [Syn.needSum]
  | x :: xs => by
    have := need_le x
    have := needSum_le xs
    simp only [Syn.needSum, Syn.toksL, List.length_append]; omega
end

end Ruschm.Text
