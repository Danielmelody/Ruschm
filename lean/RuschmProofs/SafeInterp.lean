/-
The interpreter around the evaluator keeps `Interp.Safe` and does not panic: every function of its
block (`safe_leaves`, an instance of `Interp.unary_run`), `evalAst`, `evalText`. Library factories made
from ANY file text hold `ok` declarations, and the initial states are safe. `Safe.congr` says which
fields the invariant reads: a step that sets another field is `h.congr`.
-/
import RuschmProofs.SafeEval
import RuschmProofs.SafeExpand
import RuschmProofs.LibLemmas
import RuschmProofs.InterpTop
open Ruschm
namespace Ruschm
namespace Interp
open Store Eval

theorem BindingsSafe.grows {σ σ' : Store} {defs} (h : BindingsSafe σ defs) (g : Grows σ σ') :
    BindingsSafe σ' defs := fun kv hkv => ⟨(h kv hkv).1, (h kv hkv).2.grows g⟩

theorem Factory.Safe.grows {σ σ' : Store} {f : Factory} (h : f.Safe σ) (g : Grows σ σ') : f.Safe σ' := by
  cases f with
  | native defs => exact BindingsSafe.grows h g
  | ast decls => exact h

theorem Safe.withStore {st : State} (h : Interp.Safe st) {σ' : Store} (hs : σ'.Safe) (hg : Grows st.store σ') :
    Interp.Safe { st with store := σ' } :=
  ⟨hs, lt_grows h.env hg, fun nd hnd => (h.instances nd hnd).grows hg,
    fun nf hnf => (h.factories nf hnf).grows hg, h.syn⟩

/-- `Interp.Safe` does not read `dir`, `files`, `inProgress`, `importEnd` -/
theorem Safe.congr {st st' : State} (h : Interp.Safe st)
    (e : (st'.store, st'.env, st'.instances, st'.factories, st'.syn) =
      (st.store, st.env, st.instances, st.factories, st.syn) := by rfl) : Interp.Safe st' := by
  obtain ⟨a, b, c, d, e', f, g, i, j⟩ := st
  obtain ⟨a', b', c', d', e'', f', g', i', j'⟩ := st'
  cases e
  exact ⟨h.store, h.env, h.instances, h.factories, h.syn⟩

structure IPost {α} (st' : State) (r : Except SErr α) (Q : α → Prop) : Prop where
  safe : Interp.Safe st'
  np : ∀ er, r = .error er → er.NP
  val : ∀ a, r = .ok a → Q a

/-! ### library factories -/

theorem grammarData_ratOk : Datum.ratOkList Gen.grammarData = true := by decide

theorem foldl_toStatement_ratOK : ∀ (ds : List Datum) (env : Xform.SynEnv), (∀ d ∈ ds, d.ratOk = true) →
    Xform.SynEnv.RatOK env →
    Xform.SynEnv.RatOK (ds.foldl (fun (env : Xform.SynEnv) (d : Datum) =>
      (Xform.toStatement (Xform.xformFuel d) d env).2) env)
  | [], _, _, he => he
  | d :: ds, _, hd, he =>
    foldl_toStatement_ratOK ds _ (fun x hx => hd x (List.mem_cons_of_mem _ hx))
      (Xform.toStatement_ok (hd d (List.mem_cons_self ..)) he).1

theorem grammarScope_ratOK : ∀ kr ∈ grammarScope, kr.2.RatOK := by
  have := foldl_toStatement_ratOK Gen.grammarData [[]] (Datum.ratOkList_iff.1 grammarData_ratOk)
    (List.forall_mem_singleton.2 fun _ h => nomatch h)
  rw [grammarScope]
  generalize List.foldl _ [[]] Gen.grammarData = env at this
  cases env with
  | nil => exact fun _ h => nomatch h
  | cons sc rest => exact this sc (List.mem_cons_self ..)

theorem libEnv_ratOK : Xform.SynEnv.RatOK [[], grammarScope] :=
  List.forall_mem_cons.2 ⟨fun _ h => (nomatch h), List.forall_mem_singleton.2 grammarScope_ratOK⟩

theorem factoryOfText_post (name : LibName) (text : String) :
    (∀ e, factoryOfText name text = .error e → e.NP) ∧
    ∀ f, factoryOfText name text = .ok f → ∃ decls, f = .ast decls ∧ LibDecl.okList decls = true := by
  unfold factoryOfText
  refine factoryOfText_go_rule (J := fun s env => s.RatOK ∧ Xform.SynEnv.RatOK env)
    (Q := fun decls => LibDecl.okList decls = true) (E := SErr.NP) (by simp [SErr.NP]) (by simp [SErr.NP])
    (fun _ _ _ _ hn => Read.nextDatum_np hn) (fun s env d s' hJ hn => ?_) _ _ _ ⟨?_, libEnv_ratOK⟩
  · have hr := Read.nextDatum_ratOk hn hJ.1
    have hd : d.strip.ratOk = true := by rw [Datum.strip_ratOk]; exact hr.2 d rfl
    have hx := Xform.toStatement_ok (fuel := Xform.xformFuel d.strip) hd hJ.2
    refine ⟨fun e env' h => Xform.toStatement_np _ _ _ (by rw [h]), fun stmt env' h => ?_⟩
    rw [h] at hx
    exact ⟨⟨hr.1, hx.1⟩, fun decls l hs => by subst hs; simpa [Statement.ok] using hx.2 _ rfl⟩
  · have := Read.ofText_ratOK text.toList
    exact ⟨fun t ht => by
        simp only [List.mem_map] at ht
        obtain ⟨t0, ht0, rfl⟩ := ht
        exact this.toks t0 ht0,
      fun t ht => this.cur t ht⟩

/-! ### the interpreter's mutual block -/

/-- `Eval.SafeAt` for the interpreter's block; nothing uses it (`iAt` proves it) -/
structure IAt (fuel : Nat) : Prop where
  importSet : ∀ {st s r st'}, evalImportSet fuel st s = (r, st') → Interp.Safe st →
    IPost st' r (BindingsSafe st'.store)
  getLibrary : ∀ {st name loc r st'}, getLibrary fuel st name loc = (r, st') → Interp.Safe st →
    IPost st' r (BindingsSafe st'.store)
  import_ : ∀ {st sets ρ r st'}, evalImport fuel st sets ρ = (r, st') → Interp.Safe st →
    IPost st' r (fun _ => True)
  importSets : ∀ {st sets acc r st'}, evalImportSets fuel st sets acc = (r, st') → Interp.Safe st →
    BindingsSafe st.store acc → IPost st' r (BindingsSafe st'.store)
  libraryDef : ∀ {st decls r st'}, evalLibraryDef fuel st decls = (r, st') → Interp.Safe st →
    LibDecl.okList decls = true → IPost st' r (BindingsSafe st'.store)
  libDecls : ∀ {st ρ decls acc r st'}, evalLibDecls fuel st ρ decls acc = (r, st') → Interp.Safe st →
    ρ < st.store.frames.size → LibDecl.okList decls = true → IPost st' r (fun _ => True)
  statements : ∀ {st ρ ss r st'}, evalStatements fuel st ρ ss = (r, st') → Interp.Safe st →
    ρ < st.store.frames.size → Statement.okList ss = true → IPost st' r (fun _ => True)

theorem safe_cache {st : State} (h : Interp.Safe st) {name : LibName} {defs : List (String × Value)}
    (hd : BindingsSafe st.store defs) :
    Interp.Safe { st with instances := libInsert st.instances name defs } :=
  ⟨h.store, h.env, fun nd hnd => (mem_libInsert hnd).elim (fun e => e ▸ hd) (h.instances nd), h.factories, h.syn⟩

theorem Statement.ok_of_okList {ss : List Statement} : Statement.okList ss = true → ∀ s ∈ ss, s.ok = true :=
  (all_of_rec rfl fun _ _ => rfl).1

theorem declAll_of_ok {decls : List LibDecl} (h : LibDecl.okList decls = true) (d : LibDecl) (hd : d ∈ decls) :
    DeclAll (fun _ => True) (fun _ => True) (fun s => s.ok = true) d := by
  have hd := (all_of_rec (f := LibDecl.okList) rfl fun _ _ => rfl).1 h d hd
  cases d with
  | importDecl sets => exact fun _ _ => trivial
  | «export» specs => exact fun _ _ => trivial
  | begin_ body => exact Statement.ok_of_okList hd

theorem findFactory_post {st : State} (hs : Interp.Safe st) (name : LibName) (loc : Loc) :
    Ends Interp.Safe SErr.NP (FactoryAll VGood (fun _ => True) (fun _ => True) (fun s => s.ok = true))
      (findFactory st name loc) := by
  have hc := findFactory_found st name loc
  generalize findFactory st name loc = x at hc ⊢
  cases hc with
  | @registered f hl =>
    have hf := hs.factories _ (libLookup_mem hl)
    cases f with
    | native defs => exact .ofOk hs hf
    | ast decls => exact .ofOk hs (declAll_of_ok hf)
  | @fromFile t f _ _ hft =>
    obtain ⟨decls, rfl, hd⟩ := (factoryOfText_post name t).2 f hft
    refine .ofOk ⟨hs.store, hs.env, hs.instances, fun nf hnf => ?_, hs.syn⟩ (declAll_of_ok hd)
    rcases mem_libInsert hnf with rfl | hm
    · exact hd
    · exact hs.factories nf hm
  | error _ he =>
    rcases he with ⟨rfl, _⟩ | ⟨rfl, _⟩ | ⟨t, _, hft⟩
    · exact .ofErr hs (by simp [SErr.NP])
    · exact .ofErr hs (by simp [SErr.NP])
    · exact .ofErr hs ((factoryOfText_post name t).1 _ hft)

/-- `Binds VGood`, in which the rule speaks of bindings, unfolds to the specification's `BindingsSafe` -/
theorem safe_leaves : Leaves Grows Interp.Safe VGood (fun σ ρ => ρ < σ.frames.size) SErr.NP (fun _ => True)
    (fun _ => True) (fun s => s.ok = true) where
  rel := storeRel_grows
  vmono g h := ⟨h.1, h.2.grows g⟩
  fmono g h := lt_grows h g
  fuel := by simp [SErr.NP]
  other := by simp [SErr.NP]
  cyclic _ := by simp [SErr.NP]
  unbound _ := by simp [SErr.NP]
  inProgress _ h := h.congr
  hit hs hc := hs.instances _ (libLookup_mem hc)
  find hs _ := findFactory_post hs _ _
  cache hs hd := safe_cache hs hd
  newFrame hs := ⟨hs.withStore (safe_newFrame hs.store none nofun) (grows_newFrame _ none), newFrame_lt ..⟩
  define hs hv := hs.withStore (safe_define hs.store _ _ hv) (grows_define ..)
  lookup hs hl := safe_lookup hs.store hl
  exprOrDef := exprOrDef_of_sound safeInv_sound Safe.store (fun h => h.withStore) id
    (fun hs hse => by rcases hse with rfl | ⟨x, l, rfl⟩ <;> simpa [Statement.ok, Def.ok] using hs)
    (.of_leaf trivial rfl rfl)

theorem evalImport_post (fuel : Nat) {st : State} (sets : List ImportSet) (ρ : Nat) (hs : Interp.Safe st) :
    Ends Interp.Safe SErr.NP (fun _ _ => True) (evalImport fuel st sets ρ) :=
  (unary_run safe_leaves fuel st (.import_ sets ρ) hs (fun _ _ => trivial)).toEnds

theorem getLibrary_post (fuel : Nat) {st : State} (name : LibName) (loc : Loc) (hs : Interp.Safe st) :
    Ends Interp.Safe SErr.NP BindingsSafe (getLibrary fuel st name loc) :=
  (unary_run safe_leaves fuel st (.getLibrary name loc) hs trivial).toEnds

theorem _root_.Ruschm.Ends.ipost {α} {Q : Store → α → Prop} {x : Except SErr α × State} {r st'}
    (i : Ends Interp.Safe SErr.NP Q x) (h : x = (r, st')) : IPost st' r (Q st'.store) := by
  subst h; exact ⟨i.inv, i.err, i.ok⟩

theorem iAt (fuel : Nat) : IAt fuel :=
  have u {α} (st : State) (c : Call α) := unary_run safe_leaves fuel st c
  ⟨fun {st s _ _} h hs => (u st (.importSet s) hs trivial).toEnds.ipost h,
   fun {st name loc _ _} h hs => (u st (.getLibrary name loc) hs trivial).toEnds.ipost h,
   fun {st sets ρ _ _} h hs => (u st (.import_ sets ρ) hs (fun _ _ => trivial)).toEnds.ipost h,
   fun {st sets acc _ _} h hs ha => (u st (.importSets sets acc) hs ⟨fun _ _ => trivial, ha⟩).toEnds.ipost h,
   fun {st decls _ _} h hs hd => (u st (.libraryDef decls) hs (declAll_of_ok hd)).toEnds.ipost h,
   fun {st ρ decls acc _ _} h hs hρ hd =>
    have i := (u st (.libDecls ρ decls acc) hs ⟨hρ, declAll_of_ok hd, fun _ _ => trivial⟩).toEnds.ipost h
    ⟨i.safe, i.np, fun _ _ => trivial⟩,
   fun {st ρ ss _ _} h hs hρ hd => (u st (.statements ρ ss) hs ⟨hρ, Statement.ok_of_okList hd⟩).toEnds.ipost h⟩

/-! ### `evalAst`, `evalText`, the initial states -/

open ProgramText FrontSpec

theorem evalAst_post {fuel : Nat} {st : State} {s : Statement} (hs : Interp.Safe st) (hok : s.ok = true) :
    Ends Interp.Safe SErr.NP (fun _ _ => True) (evalAst fuel st s) :=
  have i := evalAst_ends safe_leaves (fun _ h => h.congr) fuel hs hs.env hok fun _ _ _ _ _ => trivial
  ⟨i.inv, i.ok, fun e he => by
    obtain ⟨_, h | h, _⟩ := i.err e he
    · exact h
    · rw [SErr.NP, (Prod.mk.inj h).1]; exact nofun⟩

theorem safe_withSyn {st : State} (h : Interp.Safe st) {syn : Xform.SynEnv} (hsyn : Xform.SynEnv.RatOK syn) :
    Interp.Safe { st with syn := syn } :=
  ⟨h.store, h.env, h.instances, h.factories, hsyn⟩

theorem evalForm_post {fuel : Nat} {st : State} {d : Datum} (hst : Interp.Safe st) (hd : d.ratOk = true) :
    Ends Interp.Safe SErr.NP (fun _ _ => True) (evalForm fuel st d) := by
  have hx := Xform.toStatement_ok (fuel := Xform.xformFuel d) hd hst.syn
  rcases hx' : Xform.toStatement (Xform.xformFuel d) d st.syn with ⟨e | stmt, syn⟩ <;> rw [hx'] at hx
  · rw [evalForm_error hx']
    exact .ofErr (safe_withSyn hst hx.1) (Xform.toStatement_np _ _ _ (by rw [hx']))
  · rw [evalForm_ok hx']
    exact evalAst_post (safe_withSyn hst hx.1) (hx.2 _ rfl)

theorem evalText_post (fuel : Nat) (st : State) (text : List Char) (hst : Interp.Safe st) :
    Ends Interp.Safe SErr.NP (fun _ _ => True) (evalText fuel st text) := by
  have h := evalText_rule (fuel := fuel) (J := fun s st => s.RatOK ∧ Interp.Safe st) (Q := Interp.Safe)
    (E := SErr.NP) (fun _ _ h => h.2) (by simp [SErr.NP]) (fun _ _ _ _ hn => Read.nextDatum_np hn)
    (fun s st d s' hJ hn =>
      have hr := Read.nextDatum_ratOk hn hJ.1
      have i := evalForm_post (fuel := fuel) hJ.2 (hr.2 d rfl)
      ⟨fun v st' hx => ⟨hr.1, by rw [hx] at i; exact i.inv⟩,
       fun e st' hx => by rw [hx] at i; exact ⟨i.inv, i.err _ rfl⟩⟩)
    st text ⟨Read.ofText_ratOK text, hst⟩
  exact ⟨h.1, fun _ _ => trivial, h.2⟩

theorem root_safe : (({} : Store).newFrame none).2.Safe := ⟨Store.wf_root, valsSafe_all.2 .root⟩

theorem default_safe (b : Bool) : Interp.Safe (default_ b) := by
  have leaf : ∀ {σ : Store} (b : Builtin), VGood σ (.builtin b) := fun _ => .of_leaf trivial rfl rfl
  have ofText : ∀ {σ : Store} {n t f}, factoryOfText n t = .ok f → f.Safe σ := fun h => by
    obtain ⟨decls, rfl, hd⟩ := (factoryOfText_post _ _).2 _ h
    exact hd
  unfold default_
  dsimp only
  refine ⟨root_safe, by simp [Store.newFrame], nofun, fun nf hnf => ?_, libEnv_ratOK⟩
  simp only [List.mem_append, List.mem_cons, List.not_mem_nil, or_false] at hnf
  rcases hnf with (((rfl | rfl) | hnf) | hnf) | hnf
  · exact fun kv hkv => by obtain ⟨b', _, rfl⟩ := List.mem_map.1 hkv; exact leaf b'
  · exact fun kv hkv => by cases List.mem_singleton.1 hkv; exact leaf _
  · split at hnf
    · next hf => cases List.mem_singleton.1 hnf; exact ofText hf
    · cases hnf
  · split at hnf
    · next hf => cases List.mem_singleton.1 hnf; exact ofText hf
    · cases hnf
  · cases b
    · cases hnf
    · cases List.mem_singleton.1 hnf; exact fun kv hkv => by cases List.mem_singleton.1 hkv; exact leaf _

theorem withStdlib_safe (fuel : Nat) (b : Bool) : Interp.Safe (withStdlib fuel b) := by
  unfold withStdlib
  exact (evalImport_post fuel _ _ (default_safe b)).inv

end Interp
end Ruschm
