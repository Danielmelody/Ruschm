/-
The numeric native procedures and `boolean=?` walk their argument list: each argument is checked (`expect_number`, or
a match on a boolean) and a state is carried along. The three lemmas about such a walk (`walk_map`, `walk_type`,
`walk_comm` of `ExceptLemmas`) give, procedure by procedure, what it does on arguments that pass the check
(`…_nums`), that it stops with the type error at the first one that does not (`…_nonnum`), and that a map of values
the check does not see goes unnoticed (`…_comm`).
-/
import RuschmProofs.PrimLemmas
import RuschmProofs.ExceptLemmas

namespace Ruschm.Prim

def IsNum : Value → Prop
  | .num _ => True
  | _ => False

theorem expectNumber_err {v : Value} (h : ¬ IsNum v) : expectNumber v = .error .type := by
  cases v <;> simp_all [IsNum, expectNumber]

theorem numArg1_nonnum {b f x rest} (hx : ¬ IsNum x) : numArg1 b f (x :: rest) = .error .type := by
  simp only [numArg1, expectNumber_err hx]; rfl

theorem numArg2_nonnum {b f x y rest} (hx : ¬ IsNum x) : numArg2 b f (x :: y :: rest) = .error .type := by
  simp only [numArg2, expectNumber_err hx]; rfl

theorem numArg2_nonnum_snd {b f n x rest} (hx : ¬ IsNum x) : numArg2 b f (.num n :: x :: rest) = .error .type := by
  simp only [numArg2, expectNumber_err hx]; rfl

def IsBool : Value → Prop
  | .bool _ => True
  | _ => False

/-- `cmpBool` matches on a boolean where the numeric procedures call `expectNumber`: that match, as a function -/
def expectBool : Value → Except Err Bool
  | .bool b => .ok b
  | _ => .error .type

theorem expectBool_err {v : Value} (h : ¬ IsBool v) : expectBool v = .error .type := by
  cases v <;> first | rfl | exact absurd trivial h

theorem split_first_nonnum : ∀ (args : List Value), (∃ x ∈ args, ¬ IsNum x) →
    ∃ (pre : List Num) (x : Value) (post : List Value), args = pre.map Value.num ++ x :: post ∧ ¬ IsNum x
  | [], h => by obtain ⟨x, hx, _⟩ := h; cases hx
  | v :: vs, h => by
    cases v with
    | num n =>
      obtain ⟨pre, x, post, he, hx⟩ := split_first_nonnum vs <| h.imp fun x hx =>
        ⟨(List.mem_cons.mp hx.1).resolve_left fun e => hx.2 (e ▸ trivial), hx.2⟩
      exact ⟨n :: pre, x, post, by rw [he]; rfl, hx⟩
    | _ => exact ⟨[], _, vs, rfl, fun h => h⟩

/-! ## `+`, `*` and the tails of `-`, `/` -/

theorem foldNum_cons (f : Num → Num → Except Err Num) (s : Num) (v : Value) (vs : List Value) :
    foldNum f s (v :: vs) = expectNumber v >>= fun b => f s b >>= fun s' => foldNum f s' vs := by
  simp only [foldNum, List.foldlM_cons, bind_assoc]

theorem foldNum_nums (f : Num → Num → Except Err Num) (ns : List Num) (init : Num) :
    foldNum f init (ns.map Value.num) = ns.foldlM f init := by
  rw [foldNum, List.foldlM_map]; rfl

theorem foldNum_nonnum {f : Num → Num → Except Err Num} {init acc : Num} {pre post : List Value} {x : Value}
    (hpre : foldNum f init pre = .ok acc) (hx : ¬ IsNum x) :
    foldNum f init (pre ++ x :: post) = .error .type := by
  unfold foldNum at *
  rw [List.foldlM_append, hpre]
  simp only [List.foldlM_cons, expectNumber_err hx]; rfl

/-- the fold up to the first argument that is not a number -/
theorem foldNum_split (f : Num → Num → Except Err Num) (init : Num) (pre : List Num) {x : Value} (hx : ¬ IsNum x)
    (post : List Value) :
    foldNum f init (pre.map Value.num ++ x :: post) = pre.foldlM f init >>= fun _ => .error .type := by
  rw [walk_map (foldNum_cons f) (inj := Value.num) (fun _ => rfl)]
  exact bind_congr fun s => by rw [foldNum_cons, expectNumber_err hx]; rfl

theorem foldNum_has_nonnum {f : Num → Num → Except Err Num} (args : List Value) (init : Num)
    (h : ∃ x ∈ args, ¬ IsNum x) : ∃ e, foldNum f init args = .error e := by
  obtain ⟨pre, x, post, rfl, hx⟩ := split_first_nonnum args h
  rw [foldNum_split f init pre hx]
  cases pre.foldlM f init <;> exact ⟨_, rfl⟩

/-! ## the comparison chains -/

theorem cmpNum_go_cons (op : Num → Num → Bool) (s : Num × Bool) (v : Value) (vs : List Value) :
    cmpNum.go op s.1 s.2 (v :: vs) =
      expectNumber v >>= fun cur => (.ok (cur, s.2 && op s.1 cur) : Except Err _) >>= fun s' =>
        cmpNum.go op s'.1 s'.2 vs := by
  rw [cmpNum.go]; rfl

theorem cmpNum_nonnum {op : Num → Num → Bool} {ns : List Num} {x : Value} {post : List Value}
    (hx : ¬ IsNum x) :
    cmpNum op (ns.map Value.num ++ x :: post) = .error .type :=
  walk_type_first (inj := Value.num) (go := fun s => cmpNum.go op s.1 s.2) (init := fun n => (n, true))
    (cmpNum_go_cons op) (fun _ _ => rfl) (fun _ => rfl) post (expectNumber_err hx)

theorem cmpNum_go_nums {op : Num → Num → Bool} : ∀ (ns : List Num) (last : Num) (acc : Bool),
    cmpNum.go op last acc (ns.map Value.num) = .ok (acc && Num.cmpChain op (last :: ns))
  | [], last, acc => by simp [cmpNum.go, Num.cmpChain]
  | n :: ns, last, acc => by
    refine (cmpNum_go_nums ns n (acc && op last n)).trans ?_
    rw [Num.cmpChain]
    cases acc <;> cases op last n <;> simp

theorem cmpNum_nums {op : Num → Num → Bool} (ns : List Num) :
    cmpNum op (ns.map Value.num) = .ok (Num.cmpChain op ns) := by
  cases ns with
  | nil => rfl
  | cons n ns => exact cmpNum_go_nums ns n true

/-! ## `max`, `min` -/

theorem extremum_go_cons (step : Num → Num → Num) (s : Num) (v : Value) (vs : List Value) :
    (v :: vs).foldlM (fun a v => do let b ← expectNumber v; pure (step a b)) s =
      expectNumber v >>= fun b => (pure (step s b) : Except Err Num) >>= fun s' =>
        vs.foldlM (fun a v => do let b ← expectNumber v; pure (step a b)) s' := by
  simp only [List.foldlM_cons, bind_assoc]

theorem extremum_nums (step : Num → Num → Num) (x : Num) (ys : List Num) :
    extremum step ((x :: ys).map Value.num) = .ok (ys.foldl step x) :=
  (List.foldlM_map ..).trans List.foldlM_pure

theorem extremum_nonnum {step : Num → Num → Num} {pre : List Num} {x : Value} {post : List Value} (hx : ¬ IsNum x) :
    extremum step (pre.map Value.num ++ x :: post) = .error .type :=
  walk_type_first (init := id) (extremum_go_cons step) (fun _ _ => rfl) (fun _ => rfl) post (expectNumber_err hx)

/-! ## `boolean=?` -/

theorem cmpBool_go_cons (s : Bool × Bool) (v : Value) (vs : List Value) :
    cmpBool.go s.1 s.2 (v :: vs) =
      expectBool v >>= fun cur => (.ok (cur, s.2 && s.1 == cur) : Except Err _) >>= fun s' =>
        cmpBool.go s'.1 s'.2 vs := by
  cases v <;> rfl

theorem cmpBool_cons (x : Value) (rest : List Value) :
    cmpBool (x :: rest) = expectBool x >>= fun first => cmpBool.go first true rest := by
  cases x <;> rfl

theorem cmpBool_nonbool {pre : List Bool} {x : Value} {post : List Value} (hx : ¬ IsBool x) :
    cmpBool (pre.map Value.bool ++ x :: post) = .error .type :=
  walk_type_first (inj := Value.bool) (go := fun s => cmpBool.go s.1 s.2) (init := fun b => (b, true))
    cmpBool_go_cons cmpBool_cons (fun _ => rfl) post (expectBool_err hx)

/-! ## the exact numbers at the front of an argument list -/

/-- `exactPrefix` sees of a value what `expectNumber` does -/
theorem exactPrefix_cons (v : Value) (rest : List Value) :
    exactPrefix (v :: rest) = match expectNumber v with
      | .ok x => if x.notReal then x :: exactPrefix rest else []
      | .error _ => [] := by
  cases v <;> rfl

theorem exactPrefix_nonnum {x : Value} (hx : ¬ IsNum x) (rest : List Value) : exactPrefix (x :: rest) = [] := by
  rw [exactPrefix_cons, expectNumber_err hx]

theorem exactPrefix_map_nums {rest : List Value} (h : exactPrefix rest = []) : ∀ (pre : List Num),
    exactPrefix (pre.map Value.num ++ rest) = pre.takeWhile Num.notReal
  | [] => h
  | n :: pre => by
    show exactPrefix (.num n :: (pre.map Value.num ++ rest)) = _
    rw [exactPrefix, List.takeWhile_cons, exactPrefix_map_nums h pre]

theorem exactPrefix_map_num (pre : List Num) : exactPrefix (pre.map Value.num) = pre.takeWhile Num.notReal := by
  have h := exactPrefix_map_nums (rest := []) rfl pre
  rwa [List.append_nil] at h

theorem exactPrefix_nums_nonnum {x : Value} (hx : ¬ IsNum x) (post : List Value) (pre : List Num) :
    exactPrefix (pre.map Value.num ++ x :: post) = pre.takeWhile Num.notReal :=
  exactPrefix_map_nums (exactPrefix_nonnum hx post) pre

theorem exactPrefix_map_append : ∀ {pre : List Num}, (∀ x ∈ pre, x.notReal = true) → ∀ (rest : List Value),
    exactPrefix (pre.map Value.num ++ rest) = pre ++ exactPrefix rest
  | [], _, _ => rfl
  | x :: pre, h, rest => by
    show exactPrefix (.num x :: (pre.map Value.num ++ rest)) = _
    rw [exactPrefix, if_pos (h x (List.mem_cons_self ..)),
      exactPrefix_map_append (fun y hy => h y (List.mem_cons_of_mem _ hy))]
    rfl

/-! ## a map of values that `expect_number` does not see

The numeric argument lists are functions of the numbers `expect_number` finds: a map `φ` of values with
`expectNumber (φ v) = expectNumber v` goes unnoticed. -/

section comm
variable {φ : Value → Value} (hφ : ∀ v, expectNumber (φ v) = expectNumber v)
include hφ

theorem foldNum_comm (f init) (args : List Value) : foldNum f init (args.map φ) = foldNum f init args :=
  walk_comm (foldNum_cons f) hφ init args

theorem subDiv_comm (f unit) (args : List Value) : subDiv f unit (args.map φ) = subDiv f unit args := by
  unfold subDiv
  cases args with
  | nil => rfl
  | cons x rest =>
    simp only [List.map_cons, hφ]
    cases rest with
    | nil => rfl
    | cons y more => simp only [List.map_cons, hφ, foldNum_comm hφ]

theorem exactPrefix_comm : ∀ (args : List Value), exactPrefix (args.map φ) = exactPrefix args
  | [] => rfl
  | v :: vs => by rw [List.map_cons, exactPrefix_cons, exactPrefix_cons, hφ, exactPrefix_comm vs]

theorem divArgs_comm (args : List Value) : divArgs (args.map φ) = divArgs args := by
  unfold divArgs
  rw [exactPrefix_comm hφ, subDiv_comm hφ]
  cases args with
  | nil => rfl
  | cons x rest => cases rest <;> rfl

theorem cmpNum_comm (op) (args : List Value) : cmpNum op (args.map φ) = cmpNum op args := by
  cases args with
  | nil => rfl
  | cons x rest =>
    simp only [List.map_cons, cmpNum, hφ]
    exact bind_congr fun first => walk_comm (go := fun s => cmpNum.go op s.1 s.2) (cmpNum_go_cons op) hφ (first, true) rest

theorem extremum_comm (step) (args : List Value) : extremum step (args.map φ) = extremum step args := by
  cases args with
  | nil => rfl
  | cons x rest =>
    simp only [List.map_cons, extremum, hφ]
    exact bind_congr fun init => walk_comm (extremum_go_cons step) hφ init rest

theorem numArg1_comm (b f) (args : List Value) : numArg1 b f (args.map φ) = numArg1 b f args := by
  cases args with
  | nil => rfl
  | cons x _ => simp only [List.map_cons, numArg1, hφ]

theorem numArg2_comm (b f) (args : List Value) : numArg2 b f (args.map φ) = numArg2 b f args := by
  match args with
  | [] | [_] => rfl
  | x :: y :: _ => simp only [List.map_cons, numArg2, hφ]

end comm

theorem cmpBool_comm {φ : Value → Value} (hφ : ∀ v, expectBool (φ v) = expectBool v) (args : List Value) :
    cmpBool (args.map φ) = cmpBool args := by
  cases args with
  | nil => rfl
  | cons x rest =>
    rw [List.map_cons, cmpBool_cons, cmpBool_cons, hφ]
    exact bind_congr fun first => walk_comm (go := fun s => cmpBool.go s.1 s.2) cmpBool_go_cons hφ (first, true) rest

/-! ## `/`: the check for an exact zero divisor, by the length of the argument list -/

theorem divArgs_singleton (v : Value) :
    divArgs [v] = if (exactPrefix [v]).any Num.isExactZero then .error .divZero else subDiv Num.div (.int 1) [v] := rfl

theorem divArgs_cons_cons (x y : Value) (rest : List Value) :
    divArgs (x :: y :: rest) =
      if ((exactPrefix (x :: y :: rest)).drop 1).any Num.isExactZero then .error .divZero
      else subDiv Num.div (.int 1) (x :: y :: rest) := rfl

theorem divArgs_first_nonnum {x : Value} {rest : List Value} (hx : ¬ IsNum x) :
    divArgs (x :: rest) = subDiv Num.div (.int 1) (x :: rest) := by
  cases rest with
  | nil => rw [divArgs_singleton, exactPrefix_nonnum hx]; rfl
  | cons y more => rw [divArgs_cons_cons, exactPrefix_nonnum hx]; rfl

theorem divArgs_second_nonnum {a : Num} {x : Value} {rest : List Value} (hx : ¬ IsNum x) :
    divArgs (.num a :: x :: rest) = subDiv Num.div (.int 1) (.num a :: x :: rest) := by
  rw [divArgs_cons_cons, exactPrefix, exactPrefix_nonnum hx]
  split <;> rfl

/-! ## `-` and `/` on numbers alone

`exactPrefix` (on values, Prim.lean) is on numbers the `takeWhile notReal` of `Num.exactDivisors` (Num.lean):
`exactPrefix_map_num`. -/

/-- what `-` and `/` share: a single operand `x` gives `u ⊖ x`, more are folded from the first -/
def _root_.Ruschm.Num.fold1 (op : Num → Num → Except Err Num) (u x : Num) : List Num → Except Err Num
  | [] => op u x
  | y :: ys => (y :: ys).foldlM op x

theorem subDiv_nums (f : Num → Num → Except Err Num) (unit x : Num) (ys : List Num) :
    subDiv f unit ((x :: ys).map Value.num) = Num.fold1 f unit x ys := by
  cases ys with
  | nil => rfl
  | cons y more => exact bind_congr (x := f x y) fun i => foldNum_nums f more i

theorem divArgs_nums : ∀ {ns : List Num}, ns ≠ [] → divArgs (ns.map Value.num) = Num.divAll ns
  | [x], _ => rfl
  | x :: y :: more, _ => by
    show divArgs (Value.num x :: Value.num y :: more.map Value.num) = Num.divAll (x :: y :: more)
    have hp : exactPrefix (Value.num x :: Value.num y :: more.map Value.num) =
        (x :: y :: more).takeWhile Num.notReal := exactPrefix_map_num (x :: y :: more)
    rw [divArgs_cons_cons, hp, show Value.num x :: Value.num y :: more.map Value.num = (x :: y :: more).map Value.num from rfl,
      subDiv_nums Num.div (.int 1) x (y :: more)]
    rfl

end Ruschm.Prim
