/-
Property C05, NESTING — the parser's transformer re-expands until no macro use is left, and what it
builds for an arbitrarily nested surface program is the structural, compositional desugaring.

`C05Shapes.lean` proves ONE expansion step for each of the 28 rules of the bundled grammar (the
generated constant `Gen.grammarData`, reached through `Interp.grammarScope`); `C05Meaning.lean` gives
the evaluation rules of each form.  Here the steps are composed at the syntactic level: for EVERY
surface expression `s : Desugar.Surf` (`RuschmSpec/Desugar.lean`: the core forms and the nine derived
forms `begin let let* cond case and or when unless`, with all their clause kinds, derived forms
allowed in every sub-form position, nested to any depth) the transformer (`RuschmModel/Xform.lean`
`toStatement`, Rust `transform_to_statement`: a list whose head is a macro keyword is expanded by
`Transformer::transform` and the result is transformed again) turns the printed form `print s`
into exactly `desugar s`, the tree written down from the R7RS definitions of the derived forms as
`grammar.sld` implements them (non-hygienic `x`, `temp`, `atom-key`; `memv`, `not`, `null?`).

Because the theorems are about `Gen.grammarData`, any edit of `grammar.sld` re-opens them.
Helper lemmas: `RuschmProofs/DesugarLemmas.lean`.
-/
import RuschmProofs.DesugarLemmas
import RuschmProofs.C05Meaning


namespace Ruschm.C05Nesting
open Ruschm Ruschm.Xform Ruschm.CoreSyntax Ruschm.Macro Ruschm.C05 Ruschm.Desugar

private theorem ds_list : ∀ (ss : List Surf), okList ss = true → TrAll (costList ss) (printList ss) (desugarList ss) :=
  trAll_printList
private theorem ds_binds : ∀ (bs : List Bind), okBinds bs = true → TrBinds (costBinds bs) (printBinds bs) (desugarBinds bs) :=
  trBinds_printBinds
private theorem ds_case : ∀ (cs : List CaseClause), okCase cs = true → cs ≠ [] → ∀ (K : Datum) (k' : Expr),
    NotList K → TrS 1 K k' → TrS (costCase cs) (lst (ident "case" :: K :: printCaseClauses cs)) (desugarCase k' cs) :=
  trS_printCase


/-- the interpreter's own syntax environment (`Interpreter::new`): a fresh scope over the nine bundled
derived forms. The conditions on an environment are `Desugar.Std ⇒ Meaning.StdSyn ⇒ Xform.StdEnv`. -/
abbrev stdEnv : SynEnv := [[], Interp.grammarScope]

/-- `(let* ((a 1) (b (or #f a)))
      (cond ((and a b) => (lambda (t) (when t (case (f b) ((1 2) 'small) (else 'big)))))
            ((begin a))
            (else (unless a 0) b)))` -/
def sample : Surf :=
  .letstar [.mk "a" (.lit (.int 1)), .mk "b" (.or_ [.lit (.bool false), .var "a"])]
    [.cond_ [
      .arrow (.and_ [.var "a", .var "b"])
        (.lambda ["t"] none [.when_ (.var "t")
          [.case_ (.call (.var "f") [.var "b"])
            [.normal [.prim (.int 1) none, .prim (.int 2) none] [.quote (.sym "small" none)],
             .else_ [.quote (.sym "big" none)]]]]),
      .test (.begin_ [.var "a"]),
      .else_ [.unless_ (.var "a") [.lit (.int 0)], .var "b"]]]

private theorem sample_ok : ok sample = true := by decide +kernel
private theorem sample_cost : cost sample + 3 ≤ 600 := by decide +kernel

/-- NESTING, the main theorem.  Let `s` be ANY surface expression — variables, literals, quotations,
`if`, `lambda`, `set!`, calls, and the nine derived forms `begin let let* cond case and or when unless`
with all their clause kinds (`cond`: `(t)`, `(t => r)`, `(t e …)`, `(else e …)`; `case`: `((d …) e …)`,
`((d …) => r)`, `(else e …)`, `(else => r)`, key a variable, a literal or any expression), derived forms
in every sub-form position of derived and core forms, nested to any depth and of any length — that is a
program of this grammar (`Desugar.ok s`, decidable: operators and `=>` receivers are not variables named
like a special or derived form, bodies and clause lists are not empty, `else` clauses come last, …).
Then the parser's transformer (Rust `transform_to_statement`: expand a macro use, transform the result
again), run in the interpreter's own syntax environment on the printed form `print s` with any fuel
`n ≥ cost s`, returns exactly the structural desugaring `desugar s` — the tree written from the R7RS
definitions of the derived forms as `grammar.sld` implements them — and leaves the syntax environment
as it was.  (Locations: the printed form carries none, and every node of `desugar s` is unlocated; see
`nesting_located` for located data.) -/
theorem nesting (s : Surf) (hok : ok s = true) (n : Nat) (hn : cost s ≤ n) :
    toStatement n (print s) stdEnv = (.ok (.expr (desugar s)), stdEnv) :=
  trS_print s hok stdEnv Std.default n hn

example : ok sample = true ∧ cost sample ≤ 600 := ⟨sample_ok, Nat.le_of_add_right_le sample_cost⟩

/-- … the same in every syntax environment that resolves identifiers as the interpreter's own one does,
e.g. inside procedure bodies (each `lambda` body is transformed in a fresh child scope). -/
theorem nesting_any_scope (s : Surf) (hok : ok s = true) (env : SynEnv)
    (henv : ∀ k, env.get? k = SynEnv.get? stdEnv k) (n : Nat) (hn : cost s ≤ n) :
    toStatement n (print s) env = (.ok (.expr (desugar s)), env) :=
  trS_print s hok env henv n hn

example : (∀ k, SynEnv.get? ([] :: [] :: stdEnv) k = SynEnv.get? stdEnv k) ∧ ok sample = true ∧ cost sample ≤ 600 :=
  ⟨Std.default.child.child, sample_ok, Nat.le_of_add_right_le sample_cost⟩

/-- NESTING on data WITH locations (what the reader delivers): if `d` is, up to locations, the printed
form of the surface program `s`, the transformer turns `d` into an expression that is `desugar s` up to
locations. -/
theorem nesting_located (s : Surf) (hok : ok s = true) (d : Datum) (hd : d.strip = print s) (n : Nat)
    (hn : cost s ≤ n) :
    ∃ e', toStatement n d stdEnv = (.ok (.expr e'), stdEnv) ∧ e'.unloc = desugar s := by
  obtain ⟨s', h1, h2⟩ := toStatement_of_strip (d := d) (hd ▸ nesting s hok n hn)
  cases s' with
  | expr e' => exact ⟨e', h1, by simpa [Statement.unloc] using h2⟩
  | _ => simp [Statement.unloc] at h2

/-- `(and x (or y))` as read from a text: the data carry positions -/
private def sampleLocated : Datum :=
  .pair (.sym "and" (some (1, 2))) (.pair (.sym "x" (some (1, 6))) (.pair
    (.pair (.sym "or" (some (1, 9))) (.pair (.sym "y" (some (1, 12))) (.nil none) none) (some (1, 8)))
    (.nil none) none) none) (some (1, 1))

example : ok (.and_ [.var "x", .or_ [.var "y"]]) = true ∧
    sampleLocated.strip = print (.and_ [.var "x", .or_ [.var "y"]]) ∧ cost (.and_ [.var "x", .or_ [.var "y"]]) ≤ 100 :=
  ⟨by decide, rfl, by decide⟩

/-- VALUE of a nested surface program = value of its desugaring (composition with C01): whatever the
transformer makes of the printed form of `s` (with enough fuel), it has the value `v` (final store `τ`,
activation counters erased) in the model exactly when the reference semantics (`Ref.eval`, written from
the R7RS rules for the core forms) assigns `v` and `τ` to the core tree `desugar s`. -/
theorem nested_value_iff_ref (s : Surf) (hok : ok s = true) (n : Nat) (hn : cost s ≤ n)
    (σ : Store) (ρ : Nat) (v : Value) (τ : Store) :
    (∃ e', toStatement n (print s) stdEnv = (.ok (.expr e'), stdEnv) ∧
        ∃ k σ', Eval.evalExpr k σ ρ e' = (.ok v, σ') ∧ σ'.erase = τ) ↔
      ∃ m, Ref.eval m σ.erase ρ (desugar s) = (.ok v, τ) := by
  rw [nesting s hok n hn]
  constructor
  · rintro ⟨e', h, hv⟩
    cases h
    exact C01.model_iff_ref_value.mp hv
  · intro h
    exact ⟨_, rfl, C01.model_iff_ref_value.mpr h⟩

example : ok sample = true ∧ cost sample ≤ 600 := ⟨sample_ok, Nat.le_of_add_right_le sample_cost⟩

/-- … in the vocabulary of `C05Meaning.lean`: the transformer turns the printed form into an expression
(`XE`) whose value judgement (`Means`) is that of `desugar s`; so the evaluation rules proved there for
the single forms apply to the desugaring of a nested program node by node. -/
theorem nested_means (s : Surf) (hok : ok s = true) :
    ∃ e, Meaning.XE stdEnv (print s) e ∧ e = desugar s ∧
      ∀ σ ρ v τ, Meaning.Means σ ρ e v τ ↔ Meaning.Means σ ρ (desugar s) v τ :=
  ⟨desugar s, ⟨cost s, nesting s hok _ (Nat.le_refl _)⟩, rfl, fun _ _ _ _ => Iff.rfl⟩

example : ok sample = true := sample_ok


/-- `(or #f (and 1 2))`: the desugaring `((lambda (x) (if x x (if 1 2 #f))) #f)` evaluates to `2` — and so
does what the transformer makes of the printed form (`nested_means`). -/
example : ∃ e, Meaning.XE stdEnv (print (.or_ [.lit (.bool false), .and_ [.lit (.int 1), .lit (.int 2)]])) e ∧
    ∃ τ, Meaning.Means {} 0 e (.num (.int 2)) τ := by
  obtain ⟨e, hx, rfl, _⟩ := nested_means (.or_ [.lit (.bool false), .and_ [.lit (.int 1), .lit (.int 2)]]) (by decide)
  refine ⟨_, hx, ?_⟩
  refine ⟨Store.erase (Eval.evalExpr 50 {} 0
    (desugar (.or_ [.lit (.bool false), .and_ [.lit (.int 1), .lit (.int 2)]]))).2, 50, _, ?_, rfl⟩
  apply Prod.ext
  · with_unfolding_all rfl
  · rfl

/-! ## the side condition is needed: forms outside `Desugar.ok` are syntax errors, or other trees -/

set_option maxRecDepth 100000 in
/-- `(begin)`, `(cond)`, `(case k)`, `(when t)`, `(let ((x 1)))`: a derived form without the items its
rules require matches no rule — a syntax error (`MacroMissMatch`), not a tree. -/
example :
    (ok (.begin_ []) = false ∧ toStatement 100 (print (.begin_ [])) stdEnv = (.error (.syntax, none), stdEnv)) ∧
    (ok (.cond_ []) = false ∧ toStatement 100 (print (.cond_ [])) stdEnv = (.error (.syntax, none), stdEnv)) ∧
    (ok (.case_ (.var "k") []) = false ∧
      toStatement 100 (print (.case_ (.var "k") [])) stdEnv = (.error (.syntax, none), stdEnv)) ∧
    (ok (.when_ (.var "t") []) = false ∧
      toStatement 100 (print (.when_ (.var "t") [])) stdEnv = (.error (.syntax, none), stdEnv)) ∧
    (ok (.let_ [.mk "x" (.lit (.int 1))] []) = false ∧
      toStatement 100 (print (.let_ [.mk "x" (.lit (.int 1))] [])) stdEnv = (.error (.syntax, none), stdEnv)) := by
  unfold stdEnv
  rw [Macro.grammarScope_eq]
  exact ⟨⟨by decide, by rfl⟩, ⟨by decide, by rfl⟩, ⟨by decide, by rfl⟩, ⟨by decide, by rfl⟩, ⟨by decide, by rfl⟩⟩

set_option maxRecDepth 100000 in
/-- a call whose operator is the VARIABLE `and` prints as `(and 1)`, which is read as the derived form:
the tree is the literal `1`, not a call. -/
example : ok (.call (.var "and") [.lit (.int 1)]) = false ∧
    toStatement 100 (print (.call (.var "and") [.lit (.int 1)])) stdEnv = (.ok (.expr (.prim (.int 1) none)), stdEnv) := by
  unfold stdEnv
  rw [Macro.grammarScope_eq]
  exact ⟨by decide, by rfl⟩


/-! ## with the fuel the interpreter uses; top-level definitions -/

/-- The fuel the interpreter gives the transformer for a top-level datum (`xformFuel d = 8·size d + 4000`)
is always enough: for every program `s` of the grammar, however deeply nested and however long its
`and` / `or` / `let*` / `cond` / `case` chains, `cost s + 7 ≤ 8 · size (print s)`. -/
theorem nesting_interpreter_fuel (s : Surf) (hok : ok s = true) :
    toStatement (xformFuel (print s)) (print s) stdEnv = (.ok (.expr (desugar s)), stdEnv) :=
  nesting s hok _ (by have := cost_expr s; simp only [xformFuel]; omega)

example : ok sample = true := sample_ok

/-- A top-level (or internal) definition `(define x s)` of a nested surface expression is transformed into
the definition of `x` as `desugar s`. -/
theorem nesting_define (x : String) (s : Surf) (hok : ok s = true) (n : Nat) (hn : cost s + 3 ≤ n) :
    toStatement n (lst [ident "define", ident x, print s]) stdEnv =
      (.ok (.definition (.mk x (desugar s) none)), stdEnv) :=
  Tr.define none none none none x [] (nesting s hok) n hn

example : ok sample = true ∧ cost sample + 3 ≤ 600 := ⟨sample_ok, sample_cost⟩

end Ruschm.C05Nesting
