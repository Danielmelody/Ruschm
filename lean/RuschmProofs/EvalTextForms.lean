/-
`Interpreter::eval` is a loop over the forms of a text (`evalText.go`). It is reasoned about in two ways: by a rule
for invariants of the loop (`evalText_rule`), or as the run `runText` of the forms the reader finds
(`evalText_eq_runText`: the loop's own fuel never runs out, because every datum uses up a token).
-/
import RuschmSpec.Front
import RuschmProofs.ReadSpecLemmas

/-! ## the reader consumes tokens -/

namespace Ruschm.Read
open Ruschm

/-- nothing uses it -/
theorem peek_ok {s : PState} {o} (_h : peek s = .ok o) : True := trivial

theorem nextDatum_le {s s' : PState} {od} (h : nextDatum s = .ok (od, s')) :
    s'.toks.length ≤ s.toks.length := by
  obtain ⟨used, ht, -⟩ := ReadSpec.nextDatum_sound h
  rw [ht, List.length_append]; exact Nat.le_add_left _ _

theorem nextDatum_lt {s s' : PState} {d} (h : nextDatum s = .ok (some d, s')) :
    s'.toks.length < s.toks.length := by
  obtain ⟨used, ht, -, hd⟩ := ReadSpec.nextDatum_sound h
  obtain ⟨t, more, hu, -⟩ := ReadSpec.parses_head (hd d rfl).2.2
  cases used with
  | nil => cases hu
  | cons t used => rw [ht, List.length_append, List.length_cons]; omega

theorem allAux_acc (n : Nat) : ∀ (s : PState) (acc : List Datum),
    allAux n s acc = (acc.reverse ++ (allAux n s []).1, (allAux n s []).2) := by
  induction n with
  | zero => intro s acc; simp [allAux]
  | succ n ih =>
    intro s acc
    rw [allAux, allAux]
    split
    · simp
    · simp
    · rw [ih _ (_ :: acc), ih _ [_]]; simp

theorem allAux_datum {n : Nat} {s s' : PState} {d : Datum} (hd : nextDatum s = .ok (some d, s')) :
    (allAux (n + 1) s []).1 = d :: (allAux n s' []).1 ∧ (allAux (n + 1) s []).2 = (allAux n s' []).2 := by
  rw [allAux]; simp only [hd]; rw [allAux_acc]; exact ⟨rfl, rfl⟩

end Ruschm.Read

/-! ## one form -/

namespace Ruschm.FrontSpec
open Ruschm Ruschm.Interp

theorem evalForm_error {fuel : Nat} {st : State} {d : Datum} {e : SErr} {syn' : Xform.SynEnv}
    (h : Xform.toStatement (Xform.xformFuel d) d st.syn = (.error e, syn')) :
    evalForm fuel st d = (.error e, { st with syn := syn' }) := by
  rw [evalForm, h]

theorem evalForm_ok {fuel : Nat} {st : State} {d : Datum} {s : Statement} {syn' : Xform.SynEnv}
    (h : Xform.toStatement (Xform.xformFuel d) d st.syn = (.ok s, syn')) :
    evalForm fuel st d = evalAst fuel { st with syn := syn' } s := by
  rw [evalForm, h]

end Ruschm.FrontSpec

/-! ## a rule for invariants of the loop -/

namespace Ruschm.Interp
open FrontSpec

theorem evalText_go_form (fuel n : Nat) {s s' : Read.PState} (st : State) (last : Option Value) {d : Datum}
    (hd : Read.nextDatum s = .ok (some d, s')) :
    evalText.go fuel (n + 1) s st last =
      match evalForm fuel st d with
      | (.error e, st') => (.error e, st')
      | (.ok v, st') => evalText.go fuel n s' st' v := by
  rw [evalText.go, hd]
  unfold evalForm
  dsimp only
  rcases Xform.toStatement (Xform.xformFuel d) d st.syn with ⟨_ | stmt, syn⟩
  · rfl
  · dsimp only
    rcases evalAst fuel { st with syn := syn } stmt with ⟨_ | v, st'⟩ <;> rfl

/-- The loop of `Interpreter::eval`, form by form. `J` relates what is left to read to the state of the
interpreter: a form that succeeds keeps it. Then at the end of the text `Q` holds of the state and `E` of the
error, if they hold wherever the loop can stop: out of fuel, at the end of the tokens, at an error of the
reader, at a form that fails. -/
theorem evalText_go_rule {fuel : Nat} {J : Read.PState → State → Prop} {Q : State → Prop} {E : SErr → Prop}
    (hQ : ∀ s st, J s st → Q st) (hfuel : E (.fuel, none))
    (hread : ∀ s st e, J s st → Read.nextDatum s = .error e → E e)
    (hform : ∀ s st d s', J s st → Read.nextDatum s = .ok (some d, s') →
      (∀ v st', evalForm fuel st d = (.ok v, st') → J s' st') ∧
      (∀ e st', evalForm fuel st d = (.error e, st') → Q st' ∧ E e)) :
    ∀ (n : Nat) (s : Read.PState) (st : State) (last : Option Value), J s st →
      Q (evalText.go fuel n s st last).2 ∧ ∀ e, (evalText.go fuel n s st last).1 = .error e → E e
  | 0, s, st, last, hJ => ⟨hQ s st hJ, fun e he => by cases he; exact hfuel⟩
  | n + 1, s, st, last, hJ => by
    cases hd : Read.nextDatum s with
    | error e => rw [evalText.go, hd]; exact ⟨hQ s st hJ, fun e' he => by cases he; exact hread s st e hJ hd⟩
    | ok p =>
      obtain ⟨_ | d, s'⟩ := p
      · rw [evalText.go, hd]; exact ⟨hQ s st hJ, fun e he => by cases he⟩
      · have hf := hform s st d s' hJ hd
        rw [evalText_go_form fuel n st last hd]
        rcases hx : evalForm fuel st d with ⟨e | v, st'⟩
        · exact ⟨(hf.2 e st' hx).1, fun e' he => by cases he; exact (hf.2 e st' hx).2⟩
        · exact evalText_go_rule hQ hfuel hread hform n s' st' v (hf.1 v st' hx)

theorem evalText_rule {fuel : Nat} {J : Read.PState → State → Prop} {Q : State → Prop} {E : SErr → Prop}
    (hQ : ∀ s st, J s st → Q st) (hfuel : E (.fuel, none))
    (hread : ∀ s st e, J s st → Read.nextDatum s = .error e → E e)
    (hform : ∀ s st d s', J s st → Read.nextDatum s = .ok (some d, s') →
      (∀ v st', evalForm fuel st d = (.ok v, st') → J s' st') ∧
      (∀ e st', evalForm fuel st d = (.error e, st') → Q st' ∧ E e))
    (st : State) (text : List Char) (h0 : J (Read.ofText text) st) :
    Q (evalText fuel st text).2 ∧ ∀ e, (evalText fuel st text).1 = .error e → E e :=
  evalText_go_rule hQ hfuel hread hform _ _ st none h0

end Ruschm.Interp

/-! ## the text as the run of its forms -/

namespace Ruschm.FrontSpec
open Ruschm Ruschm.Interp Ruschm.Front

theorem go_eq_fold (fuel : Nat) : ∀ (n : Nat) (s : Read.PState) (st : State) (last : Option Value),
    s.toks.length < n →
    evalText.go fuel n s st last =
      match runForms fuel st (Read.allAux n s []).1 last with
      | (.error e, st') => (.error e, st')
      | (.ok v, st') =>
        match (Read.allAux n s []).2 with
        | some e => (.error e, st')
        | none => (.ok v, st') := by
  intro n
  induction n with
  | zero => intro s st last h; omega
  | succ n ih =>
    intro s st last h
    rcases hd : Read.nextDatum s with e | ⟨_ | d, s'⟩
    · rw [evalText.go, Read.allAux]; simp only [hd]; rfl
    · rw [evalText.go, Read.allAux]; simp only [hd]; rfl
    · rw [evalText_go_form fuel n st last hd, (Read.allAux_datum hd).1, (Read.allAux_datum hd).2, runForms]
      rcases evalForm fuel st d with ⟨e | v, st'⟩
      · rfl
      · exact ih s' st' v (by have := Read.nextDatum_lt hd; omega)

theorem evalText_eq_runText (fuel : Nat) (st : State) (text : List Char) :
    evalText fuel st text = runText fuel st text := by
  unfold evalText runText formsOf Read.all
  dsimp only
  exact go_eq_fold fuel _ _ _ _ (Nat.lt_succ_self _)

theorem runText_of_error {fuel : Nat} {st st' : State} {text : List Char} {e : SErr}
    (h : runForms fuel st (formsOf text).1 none = (.error e, st')) : runText fuel st text = (.error e, st') := by
  unfold runText; rw [h]

theorem runText_of_ok {fuel : Nat} {st st' : State} {text : List Char} {v : Option Value}
    (h : runForms fuel st (formsOf text).1 none = (.ok v, st')) :
    runText fuel st text =
      (match (formsOf text).2 with
       | some e => .error e
       | none => .ok v, st') := by
  unfold runText; rw [h]; cases (formsOf text).2 <;> rfl

theorem runText_snd (fuel : Nat) (st : State) (text : List Char) :
    (runText fuel st text).2 = (runForms fuel st (formsOf text).1 none).2 := by
  rcases h : runForms fuel st (formsOf text).1 none with ⟨_ | _, _⟩
  · rw [runText_of_error h]
  · rw [runText_of_ok h]

theorem runText_ok_iff {fuel : Nat} {st : State} {text : List Char} {v : Option Value} :
    (runText fuel st text).1 = .ok v ↔
      (runForms fuel st (formsOf text).1 none).1 = .ok v ∧ (formsOf text).2 = none := by
  rcases h : runForms fuel st (formsOf text).1 none with ⟨e | w, st₁⟩
  · rw [runText_of_error h]; exact ⟨fun h' => (by cases h'), fun h' => (by cases h'.1)⟩
  · rw [runText_of_ok h]
    cases (formsOf text).2 with
    | none => exact ⟨fun h' => ⟨h', rfl⟩, fun h' => h'.1⟩
    | some e => exact ⟨fun h' => (by cases h'), fun h' => (by cases h'.2)⟩

theorem evalText_snd (fuel : Nat) (st : State) (text : List Char) :
    (evalText fuel st text).2 = (runForms fuel st (formsOf text).1 none).2 := by
  rw [evalText_eq_runText, runText_snd]

theorem evalText_of_read {fuel : Nat} {st : State} {text : List Char} (h : (formsOf text).2 = none) :
    evalText fuel st text = runForms fuel st (formsOf text).1 none := by
  rw [evalText_eq_runText]
  rcases hr : runForms fuel st (formsOf text).1 none with ⟨_ | _, _⟩
  · rw [runText_of_error hr]
  · rw [runText_of_ok hr, h]

theorem runForms_inv_mem {P : State → Prop} {fuel : Nat} :
    ∀ (ds : List Datum) (st : State) (last : Option Value),
      (∀ st, ∀ d ∈ ds, P st → P (evalForm fuel st d).2) → P st → P (runForms fuel st ds last).2
  | [], _, _, _, h0 => h0
  | d :: ds, st, _, h, h0 => by
    have hd := h st d (List.mem_cons_self ..) h0
    rw [runForms]
    rcases hx : evalForm fuel st d with ⟨_ | v, st'⟩ <;> rw [hx] at hd
    · exact hd
    · exact runForms_inv_mem ds st' v (fun st d hd => h st d (List.mem_cons_of_mem _ hd)) hd

theorem runForms_inv {P : State → Prop} {fuel : Nat} (h : ∀ st d, P st → P (evalForm fuel st d).2)
    (ds : List Datum) (st : State) (last : Option Value) (h0 : P st) : P (runForms fuel st ds last).2 :=
  runForms_inv_mem ds st last (fun st d _ => h st d) h0

theorem evalText_keeps {P : State → Prop} {fuel : Nat} (h : ∀ st d, P st → P (evalForm fuel st d).2)
    (text : List Char) (st : State) (h0 : P st) : P (evalText fuel st text).2 :=
  evalText_snd fuel st text ▸ runForms_inv h _ st none h0

theorem runForms_append (fuel : Nat) (pre rest : List Datum) (st : State) (last : Option Value) :
    runForms fuel st (pre ++ rest) last =
      match runForms fuel st pre last with
      | (.error e, st') => (.error e, st')
      | (.ok v, st') => runForms fuel st' rest v := by
  fun_induction runForms fuel st pre last with
  | case1 => rfl
  | case2 st d ds _ e st' hx => simp only [List.cons_append, runForms, hx]
  | case3 st d ds _ v st' hx ih => simp only [List.cons_append, runForms, hx, ih]

theorem runForms_stops {fuel : Nat} {st st₁ st₂ : State} {pre : List Datum} {d : Datum} {last v : Option Value}
    {e : SErr} (post : List Datum) (hpre : runForms fuel st pre last = (.ok v, st₁))
    (hfail : evalForm fuel st₁ d = (.error e, st₂)) :
    runForms fuel st (pre ++ d :: post) last = (.error e, st₂) := by
  rw [runForms_append, hpre]
  dsimp only
  rw [runForms, hfail]

end Ruschm.FrontSpec
