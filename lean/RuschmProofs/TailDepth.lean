/-
Property C02, first part. Every evaluator step gives `depth` back and never lowers `maxDepth` (`DepthOk`, a
`StepRel`). `TailRuns` is the rest of the running loop from a tail expression on; `TailPath.spec` is what a new
tail context is proved with: a call reached along a `TailPath` is a pending call of the same loop.
-/
import RuschmProofs.EvalRules
namespace Ruschm.Eval
open Prim

/-! ## the activation counters -/

/-- what every evaluator step does to the activation counters -/
def DepthOk (σ σ' : Store) : Prop := σ'.depth = σ.depth ∧ σ.maxDepth ≤ σ'.maxDepth

theorem DepthOk.refl (σ : Store) : DepthOk σ σ := ⟨rfl, Nat.le_refl _⟩
theorem DepthOk.trans {σ₁ σ₂ σ₃ : Store} (h₁ : DepthOk σ₁ σ₂) (h₂ : DepthOk σ₂ σ₃) : DepthOk σ₁ σ₃ :=
  ⟨h₂.1.trans h₁.1, Nat.le_trans h₁.2 h₂.2⟩
theorem DepthOk.of_eq {σ σ' : Store} (hd : σ'.depth = σ.depth) (hm : σ'.maxDepth = σ.maxDepth) : DepthOk σ σ' :=
  ⟨hd, Nat.le_of_eq hm.symm⟩

theorem applyPure_counters (σ : Store) (b : Builtin) (args : List Value) :
    (applyPure σ b args).2.depth = σ.depth ∧ (applyPure σ b args).2.maxDepth = σ.maxDepth := by
  rcases applyPure_snd σ b args with h | h <;> rw [h]
  · exact ⟨rfl, rfl⟩
  · exact ⟨Eff.run_depth .., Eff.run_maxDepth ..⟩

theorem Applies.builtin_counters {σ b args env r σ'} (hb : b ≠ .apply) (h : Applies σ (.builtin b) args env r σ') :
    σ'.depth = σ.depth ∧ σ'.maxDepth = σ.maxDepth := by
  have h := (Applies.builtin_outcome hb).1 h
  split at h
  · have := applyPure_counters σ b args; rw [← h] at this; exact this
  · cases h; exact ⟨rfl, rfl⟩

/-- the conclusions of `stepRel_depthOk.eval n`, under the names `C02.depth_restored` reads them by -/
structure Depth (n : Nat) : Prop where
  expr : ∀ σ ρ e, DepthOk σ (evalExpr n σ ρ e).2
  args : ∀ σ ρ es, DepthOk σ (evalArgs n σ ρ es).2
  proc : ∀ σ p as env, DepthOk σ (applyProcedure n σ p as env).2
  loop : ∀ σ p as env, DepthOk σ (applyLoop n σ p as env).2
  scheme : ∀ σ lam cenv as, DepthOk σ (applyScheme n σ lam cenv as).2
  defs : ∀ σ ρ ds, DepthOk σ (evalDefs n σ ρ ds).2
  body : ∀ σ ρ es, DepthOk σ (evalBody n σ ρ es).2
  tail : ∀ σ ρ e, DepthOk σ (evalTail n σ ρ e).2

theorem stepRel_depthOk : StepRel DepthOk where
  refl := DepthOk.refl
  trans := DepthOk.trans
  define := fun σ ρ k v => .of_eq (Store.define_depth σ ρ k v) (Store.define_maxDepth σ ρ k v)
  newFrame := fun _ _ => .of_eq rfl rfl
  allocVec := fun _ _ _ => .of_eq rfl rfl
  applyPure := fun σ b args => .of_eq (applyPure_counters σ b args).1 (applyPure_counters σ b args).2
  bracket := fun {σ _} ⟨hd, hm⟩ =>
    ⟨(congrArg (· - 1) hd).trans (Nat.add_sub_cancel σ.depth 1), Nat.le_trans (Nat.le_max_left _ _) hm⟩

theorem depth_all (n : Nat) : Depth n :=
  have h := stepRel_depthOk.eval n
  ⟨h.expr, h.args, h.proc, h.loop, h.scheme, h.defs, h.body, h.tail⟩

/-! ### the judgements keep the counters -/

theorem Evals.depthOk {σ ρ e r σ'} (h : Evals σ ρ e r σ') : DepthOk σ σ' :=
  h.store fun n => (depth_all n).expr σ ρ e
theorem EvalsArgs.depthOk {σ ρ es r σ'} (h : EvalsArgs σ ρ es r σ') : DepthOk σ σ' :=
  h.store fun n => (depth_all n).args σ ρ es
theorem AppliesProc.depthOk {σ p as env r σ'} (h : AppliesProc σ p as env r σ') : DepthOk σ σ' :=
  h.store fun n => (depth_all n).proc σ p as env
theorem Applies.depthOk {σ p as env r σ'} (h : Applies σ p as env r σ') : DepthOk σ σ' :=
  h.store fun n => (depth_all n).loop σ p as env
theorem AppliesScheme.depthOk {σ lam cenv as r σ'} (h : AppliesScheme σ lam cenv as r σ') : DepthOk σ σ' :=
  h.store fun n => (depth_all n).scheme σ lam cenv as
theorem EvalsDefs.depthOk {σ ρ ds r σ'} (h : EvalsDefs σ ρ ds r σ') : DepthOk σ σ' :=
  h.store fun n => (depth_all n).defs σ ρ ds
theorem EvalsBody.depthOk {σ ρ es r σ'} (h : EvalsBody σ ρ es r σ') : DepthOk σ σ' :=
  h.store fun n => (depth_all n).body σ ρ es
theorem EvalsTail.depthOk {σ ρ e r σ'} (h : EvalsTail σ ρ e r σ') : DepthOk σ σ' :=
  h.store fun n => (depth_all n).tail σ ρ e

/-! ### sequences keep the counters -/

theorem EvalsSeq.depthOk {ρ σ es σ'} (h : EvalsSeq ρ σ es σ') : DepthOk σ σ' := by
  induction h with
  | nil => exact .refl _
  | cons h _ ih => exact h.depthOk.trans ih

theorem Reaches.depthOk {env σ p args σq q qargs} (h : Reaches env σ p args σq q qargs) : DepthOk σ σq := by
  induction h with
  | refl => exact .refl _
  | apply _ _ _ ih => exact ih
  | tail _ hs hf hargs _ _ ih => exact ((hs.depthOk.trans hf.depthOk).trans hargs.depthOk).trans ih

theorem EvalsDefSeq.depthOk {ρ σ ds σ'} (h : EvalsDefSeq ρ σ ds σ') : DepthOk σ σ' := by
  induction h with
  | nil => exact .refl _
  | cons h _ ih => exact (h.depthOk.trans (stepRel_depthOk.define ..)).trans ih

/-! ## tail position -/

/-- tail position; `lam_call` is what `begin`, `let`, … expand to -/
inductive InTail : Expr → Expr → Prop
  | here (e : Expr) : InTail e e
  | cond_then {sub t c a l} : InTail sub c → InTail sub (.cond t c a l)
  | cond_else {sub t c alt l} : InTail sub alt → InTail sub (.cond t c (some alt) l)
  | lam_call {sub formals defs pre last l args l'} : InTail sub last →
      InTail sub (.call (.lambda (.mk formals defs (pre ++ [last])) l) args l')

theorem InTail.trans {a b c : Expr} (h₁ : InTail a b) (h₂ : InTail b c) : InTail a c := by
  induction h₂ with
  | here => exact h₁
  | cond_then _ ih => exact .cond_then ih
  | cond_else _ ih => exact .cond_else ih
  | lam_call _ ih => exact .lam_call ih

/-- the running loop (entered from frame `env`), having reached the tail expression `e` of the current body in
frame `ρ`, ends with `r`: `eval_tail_expression` of `e`, then an error or a value ends the loop and a pending call
is run by `PendingRuns` -/
def TailRuns (env : Nat) (σ : Store) (ρ : Nat) (e : Expr) (r : Except SErr Value) (σ' : Store) : Prop :=
  (∃ er, EvalsTail σ ρ e (.error er) σ' ∧ r = .error er) ∨
  (∃ v, EvalsTail σ ρ e (.ok (.value v)) σ' ∧ r = .ok v) ∨
  (∃ f targs tenv σ₁, EvalsTail σ ρ e (.ok (.tailCall f targs tenv)) σ₁ ∧ PendingRuns env σ₁ tenv f targs r σ')

/-- parameters bound, definitions and earlier body expressions evaluated: the rest is `TailRuns` of the last one -/
theorem TailRuns.applies {env σ formals defs pre last cenv args restArgs σ₁ σ₂ σ₃ r σ'}
    (ha : arityOk formals.fixed.length formals.rest.isSome args.length = true)
    (hb : bindFixed (σ.newFrame (some cenv)).2 (σ.newFrame (some cenv)).1 formals.fixed args = (.ok restArgs, σ₁))
    (hd : EvalsDefSeq (σ.newFrame (some cenv)).1
      (Ref.bindRest σ₁ (σ.newFrame (some cenv)).1 formals.rest restArgs) defs σ₂)
    (hpre : EvalsSeq (σ.newFrame (some cenv)).1 σ₂ pre σ₃)
    (h : TailRuns env σ₃ (σ.newFrame (some cenv)).1 last r σ') :
    Applies σ (.closure (.mk formals defs (pre ++ [last])) cenv) args env r σ' := by
  have hs : ∀ {tr σ₄}, EvalsTail σ₃ (σ.newFrame (some cenv)).1 last tr σ₄ →
      AppliesScheme σ (.mk formals defs (pre ++ [last])) cenv args tr σ₄ := fun ht =>
    AppliesScheme.intro_ok (lam := .mk formals defs (pre ++ [last])) hb (EvalsDefs.of_seq hd)
      (EvalsBody.seq_last hpre ht)
  rcases h with ⟨er, ht, rfl⟩ | ⟨v, ht, rfl⟩ | ⟨f, targs, tenv, σ₄, ht, hp⟩
  · exact Applies.closure_err ha (hs ht)
  · exact Applies.closure_value ha (hs ht)
  · exact hp.applies ha (hs ht)

theorem TailRuns.of_tail {env σ ρ e σ₀ ρ₀ e₀ r σ'} (h : ∀ tr τ, EvalsTail σ₀ ρ₀ e₀ tr τ → EvalsTail σ ρ e tr τ)
    (hr : TailRuns env σ₀ ρ₀ e₀ r σ') : TailRuns env σ ρ e r σ' := by
  rcases hr with ⟨er, ht, rfl⟩ | ⟨v, ht, rfl⟩ | ⟨f, targs, tenv, σ₂, ht, hp⟩
  · exact .inl ⟨er, h _ _ ht, rfl⟩
  · exact .inr (.inl ⟨v, h _ _ ht, rfl⟩)
  · exact .inr (.inr ⟨f, targs, tenv, σ₂, h _ _ ht, hp⟩)

theorem TailRuns.cond_true {env σ ρ t c a l tv σ₁ r σ'} (ht : Evals σ ρ t (.ok tv) σ₁) (htv : tv.truthy = true)
    (h : TailRuns env σ₁ ρ c r σ') : TailRuns env σ ρ (.cond t c a l) r σ' :=
  h.of_tail fun _ _ => EvalsTail.cond_true ht htv

theorem TailRuns.cond_false {env σ ρ t c alt l tv σ₁ r σ'} (ht : Evals σ ρ t (.ok tv) σ₁) (htv : tv.truthy = false)
    (h : TailRuns env σ₁ ρ alt r σ') : TailRuns env σ ρ (.cond t c (some alt) l) r σ' :=
  h.of_tail fun _ _ => EvalsTail.cond_false ht htv

theorem TailRuns.call {env σ ρ f targs l r σ'} (h : PendingRuns env σ ρ f targs r σ') :
    TailRuns env σ ρ (.call f targs l) r σ' :=
  .inr (.inr ⟨f, targs, ρ, σ, EvalsTail.call, h⟩)

theorem TailRuns.call_ok {env σ ρ f targs l fv σ₂ vs σ₃ r σ'} (hf : Evals σ ρ f (.ok fv) σ₂)
    (hargs : EvalsArgs σ₂ ρ targs (.ok vs) σ₃) (hp : (procArity fv).isSome) (hl : Applies σ₃ fv vs env r σ') :
    TailRuns env σ ρ (.call f targs l) r σ' :=
  TailRuns.call (.ok hf hargs hp hl)

theorem TailRuns.value {env σ ρ e v σ'} (hcall : ∀ f as l, e ≠ .call f as l) (hcond : ∀ t c a l, e ≠ .cond t c a l)
    (h : Evals σ ρ e (.ok v) σ') : TailRuns env σ ρ e (.ok v) σ' :=
  .inr (.inl ⟨v, EvalsTail.other hcall hcond h, rfl⟩)

theorem TailRuns.err {env σ ρ e er σ'} (hcall : ∀ f as l, e ≠ .call f as l) (hcond : ∀ t c a l, e ≠ .cond t c a l)
    (h : Evals σ ρ e (.error er) σ') : TailRuns env σ ρ e (.error er) σ' :=
  .inl ⟨er, EvalsTail.other_err hcall hcond h, rfl⟩

theorem TailRuns.cond_err {env σ ρ t c a l er σ₁} (ht : Evals σ ρ t (.error er) σ₁) :
    TailRuns env σ ρ (.cond t c a l) (.error er) σ₁ :=
  .inl ⟨er, EvalsTail.cond_err ht, rfl⟩

theorem TailRuns.cond_void {env σ ρ t c l tv σ₁} (ht : Evals σ ρ t (.ok tv) σ₁) (htv : tv.truthy = false) :
    TailRuns env σ ρ (.cond t c none l) (.ok .void) σ₁ :=
  .inr (.inl ⟨.void, EvalsTail.cond_void ht htv, rfl⟩)

/-- evaluation of the tail expression `e` (frame `ρ`, store `σ`) arrives at `sub` as the tail expression to
evaluate in frame `ρs`, store `σs`: through the arm its test selects, through a `lambda` in operator position
whose operands, definitions and earlier body expressions evaluate -/
inductive TailPath (env : Nat) : Store → Nat → Expr → Store → Nat → Expr → Prop
  | here {σ ρ e} : TailPath env σ ρ e σ ρ e
  | cond_then {σ ρ t c a l tv σ₁ σs ρs sub} (ht : Evals σ ρ t (.ok tv) σ₁) (htv : tv.truthy = true)
      (h : TailPath env σ₁ ρ c σs ρs sub) : TailPath env σ ρ (.cond t c a l) σs ρs sub
  | cond_else {σ ρ t c alt l tv σ₁ σs ρs sub} (ht : Evals σ ρ t (.ok tv) σ₁) (htv : tv.truthy = false)
      (h : TailPath env σ₁ ρ alt σs ρs sub) : TailPath env σ ρ (.cond t c (some alt) l) σs ρs sub
  | lam_call {σ ρ formals defs pre last l args l' vs σ₁ restArgs σ₂ σ₃ σ₄ σs ρs sub}
      (hargs : EvalsArgs σ ρ args (.ok vs) σ₁)
      (ha : arityOk formals.fixed.length formals.rest.isSome vs.length = true)
      (hb : bindFixed (σ₁.newFrame (some ρ)).2 (σ₁.newFrame (some ρ)).1 formals.fixed vs = (.ok restArgs, σ₂))
      (hd : EvalsDefSeq (σ₁.newFrame (some ρ)).1
        (Ref.bindRest σ₂ (σ₁.newFrame (some ρ)).1 formals.rest restArgs) defs σ₃)
      (hpre : EvalsSeq (σ₁.newFrame (some ρ)).1 σ₃ pre σ₄)
      (h : TailPath env σ₄ (σ₁.newFrame (some ρ)).1 last σs ρs sub) :
      TailPath env σ ρ (.call (.lambda (.mk formals defs (pre ++ [last])) l) args l') σs ρs sub

/-- in particular a call reached along the path is a pending call of the same loop: no activation is opened -/
theorem TailPath.spec {env σ ρ e σs ρs sub} (h : TailPath env σ ρ e σs ρs sub) :
    InTail sub e ∧ DepthOk σ σs ∧ ∀ r σ', TailRuns env σs ρs sub r σ' → TailRuns env σ ρ e r σ' := by
  induction h with
  | here => exact ⟨.here _, .refl _, fun _ _ h => h⟩
  | cond_then ht htv _ ih =>
    exact ⟨.cond_then ih.1, ht.depthOk.trans ih.2.1, fun r σ' h => TailRuns.cond_true ht htv (ih.2.2 r σ' h)⟩
  | cond_else ht htv _ ih =>
    exact ⟨.cond_else ih.1, ht.depthOk.trans ih.2.1, fun r σ' h => TailRuns.cond_false ht htv (ih.2.2 r σ' h)⟩
  | @lam_call σ ρ formals defs pre last l args l' vs σ₁ restArgs σ₂ σ₃ σ₄ σs ρs sub hargs ha hb hd hpre _ ih =>
    refine ⟨.lam_call ih.1, ?_, fun r σ' h => ?_⟩
    · have h₁₂ : DepthOk σ₁ _ := (stepRel_depthOk.newFrame σ₁ (some ρ)).trans
        (stepRel_depthOk.bindFixed formals.fixed vs (σ₁.newFrame (some ρ)).2 (σ₁.newFrame (some ρ)).1)
      rw [hb] at h₁₂
      have hr := stepRel_depthOk.bindRest σ₂ (σ₁.newFrame (some ρ)).1 formals.rest restArgs
      exact ((((hargs.depthOk.trans h₁₂).trans hr).trans hd.depthOk).trans hpre.depthOk).trans ih.2.1
    · exact TailRuns.call_ok Evals.lambda hargs rfl (TailRuns.applies ha hb hd hpre (ih.2.2 r σ' h))

end Ruschm.Eval
