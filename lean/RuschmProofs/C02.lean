/-
Property C02 — tail calls run in bounded space.

"A procedure call in tail position - the last expression of a procedure body, either arm of a tail
if, the tail sub-form of a tail begin, let, let*, cond, case, and, or, when, unless, or the
procedure handed to apply in such a position - does not consume interpreter stack, and a loop
written with such calls (self, mutual, through a procedure parameter, with rest parameters)
completes for any iteration count using stack and live heap that do not grow with the count. The
loop also computes the same result as the equivalent bounded iteration."

What is proved here is about the MODEL's activation counters: `Store.depth` is the number of
`apply_procedure` activations alive (`applyProcedure` = `enter`, run the trampoline `applyLoop`,
`leave`), `Store.maxDepth` the largest value `depth` ever had. They decide whether the Rust stack
grows; real stack bytes and live heap are MEASURED by the correspondence check, not proved.

The property theorems live here (each is audited with `#print axioms`), with `activation_bound`, `countStore` and
the sample environments of the loop shapes; the helpers are in `TailDepth`, `TailLoops`, `TailForms`.
Vocabulary: `DepthOk σ σ'` := `σ'.depth = σ.depth ∧ σ.maxDepth ≤ σ'.maxDepth`; `EvalsSeq ρ σ es σ'`:
the expressions `es` evaluate in order to values, from `σ` to `σ'`; the fuel-free judgements
`Evals`, `EvalsArgs`, `Applies` (the loop), `AppliesProc` (one activation), `AppliesScheme`,
`EvalsBody`, `EvalsTail` of `EvalFuel.lean` (rules: `EvalRules.lean`).
-/
import RuschmProofs.TailForms
import RuschmProofs.TailLoops
import RuschmProofs.GrammarScope

namespace Ruschm.C02
open Ruschm Ruschm.Eval Ruschm.Prim

/-! ## 1. activations are balanced -/

/-- EVERY evaluator function, for EVERY amount of fuel and EVERY outcome (value, error, even the
fuel error) gives the store back with the `depth` it received (`enter`/`leave` are balanced), and
never lowers `maxDepth`. -/
theorem depth_restored (n : Nat) :
    (∀ σ ρ e, DepthOk σ (evalExpr n σ ρ e).2) ∧
    (∀ σ ρ es, DepthOk σ (evalArgs n σ ρ es).2) ∧
    (∀ σ p as env, DepthOk σ (applyProcedure n σ p as env).2) ∧
    (∀ σ p as env, DepthOk σ (applyLoop n σ p as env).2) ∧
    (∀ σ lam cenv as, DepthOk σ (applyScheme n σ lam cenv as).2) ∧
    (∀ σ ρ ds, DepthOk σ (evalDefs n σ ρ ds).2) ∧
    (∀ σ ρ es, DepthOk σ (evalBody n σ ρ es).2) ∧
    (∀ σ ρ e, DepthOk σ (evalTail n σ ρ e).2) :=
  have h := depth_all n
  ⟨h.expr, h.args, h.proc, h.loop, h.scheme, h.defs, h.body, h.tail⟩

/-- the same for the fuel-free judgements -/
theorem depth_restored_judgements :
    (∀ {σ ρ e r σ'}, Evals σ ρ e r σ' → DepthOk σ σ') ∧
    (∀ {σ ρ es r σ'}, EvalsArgs σ ρ es r σ' → DepthOk σ σ') ∧
    (∀ {σ p as env r σ'}, AppliesProc σ p as env r σ' → DepthOk σ σ') ∧
    (∀ {σ p as env r σ'}, Applies σ p as env r σ' → DepthOk σ σ') ∧
    (∀ {σ lam cenv as r σ'}, AppliesScheme σ lam cenv as r σ' → DepthOk σ σ') ∧
    (∀ {σ ρ ds r σ'}, EvalsDefs σ ρ ds r σ' → DepthOk σ σ') ∧
    (∀ {σ ρ es r σ'}, EvalsBody σ ρ es r σ' → DepthOk σ σ') ∧
    (∀ {σ ρ e r σ'}, EvalsTail σ ρ e r σ' → DepthOk σ σ') :=
  ⟨Evals.depthOk, EvalsArgs.depthOk, AppliesProc.depthOk, Applies.depthOk, AppliesScheme.depthOk,
   EvalsDefs.depthOk, EvalsBody.depthOk, EvalsTail.depthOk⟩

example : (evalExpr 6 {} 0 (.call (.lambda (.mk ⟨[], none⟩ [] [.prim (.int 1) none]) none) [] none)).2.depth = 0 ∧
    (evalExpr 6 {} 0 (.call (.lambda (.mk ⟨[], none⟩ [] [.prim (.int 1) none]) none) [] none)).2.maxDepth = 1 := by
  decide +kernel

/-- an ordinary (non-tail) call DOES nest: the loop of the callee runs one level deeper, and the
level is counted -/
theorem nontail_call_nests {σ p args env r σ'} (h : AppliesProc σ p args env r σ') :
    (∃ σ₁, Applies (enter σ) p args env r σ₁ ∧ σ' = leave σ₁) ∧ (enter σ).depth = σ.depth + 1 ∧
    σ.depth + 1 ≤ σ'.maxDepth := by
  obtain ⟨σ₁, hl, rfl⟩ := AppliesProc.iff_loop.mp h
  exact ⟨⟨σ₁, hl, rfl⟩, rfl, Nat.le_trans (Nat.le_max_right σ.maxDepth _) hl.depthOk.2⟩

/-! ## 2. the trampoline does not nest -/

/-- A user procedure whose body ends in a pending tail call: applying it IS (same outcome, same
final store) continuing THE SAME loop with the callee, started in the store `σ₃` left by the
non-tail parts (body, operator, operands) — and `σ₃` has the depth the loop was entered with.
No activation is added for the callee: the final `maxDepth` is the one reached by the non-tail
parts (`σ₃.maxDepth`) raised only by what the continued loop itself does; if the callee is a
native procedure it is `σ₃.maxDepth`. -/
theorem trampoline_no_nesting {σ : Store} {lam : Lambda} {cenv : Nat} {args : List Value} {env : Nat}
    {f targs tenv σ₁ fv σ₂ vs σ₃}
    (ha : arityOk lam.formals.fixed.length lam.formals.rest.isSome args.length = true)
    (hs : AppliesScheme σ lam cenv args (.ok (.tailCall f targs tenv)) σ₁)
    (hf : Evals σ₁ tenv f (.ok fv) σ₂) (hargs : EvalsArgs σ₂ tenv targs (.ok vs) σ₃)
    (hp : (procArity fv).isSome) :
    σ₃.depth = σ.depth ∧
    (∀ r σ', Applies σ (.closure lam cenv) args env r σ' ↔ Applies σ₃ fv vs env r σ') ∧
    (∀ b r σ', fv = .builtin b → b ≠ .apply → Applies σ (.closure lam cenv) args env r σ' →
      σ'.maxDepth = σ₃.maxDepth) := by
  refine ⟨((hs.depthOk.trans hf.depthOk).trans hargs.depthOk).1,
    Applies.closure_tail_iff ha hs hf hargs hp, ?_⟩
  rintro b r σ' rfl hb h
  exact (Applies.builtin_counters hb ((Applies.closure_tail_iff ha hs hf hargs hp r σ').mp h)).2

/-- `apply` in the loop: the loop continues with the procedure it was handed, in the SAME store —
no `enter`, no activation -/
theorem apply_no_nesting {σ : Store} {args : List Value} {env : Nat} {f args'} (ha : 1 ≤ args.length)
    (hs : spreadApply args = .ok (f, args')) (r σ') :
    Applies σ (.builtin .apply) args env r σ' ↔ Applies σ f args' env r σ' :=
  Applies.apply_iff ha hs r σ'

example : spreadApply [.builtin .add, .num (.int 1), .pair (.num (.int 2)) .nil] =
    .ok (.builtin .add, [.num (.int 1), .num (.int 2)]) := rfl

/-- every iteration the trampoline reaches, through any number of pending tail calls and `apply`s,
starts at the depth the loop was entered with -/
theorem reaches_same_depth {env σ p args σq q qargs} (h : Reaches env σ p args σq q qargs) :
    σq.depth = σ.depth :=
  h.depthOk.1

/-! ## 3. which expressions are tail expressions -/

/-- `if` passes tail position to the chosen arm: after the test, `eval_tail_expression` of the `if`
is `eval_tail_expression` of that arm (fuel level) -/
theorem tail_if (n : Nat) (σ : Store) (ρ : Nat) (t c : Expr) (a : Option Expr) (l : Loc) :
    evalTail (n+1) σ ρ (.cond t c a l) =
      match evalExpr n σ ρ t with
      | (.error er, σ₁) => (.error er, σ₁)
      | (.ok tv, σ₁) =>
        if tv.truthy then evalTail n σ₁ ρ c
        else match a with
          | some alt => evalTail n σ₁ ρ alt
          | none => (.ok (.value .void), σ₁) := by
  rw [evalTail]
  rfl

/-- the same, fuel-free: given the test's value, the `if` in tail position has exactly the outcomes
of the chosen arm in tail position -/
theorem tail_if_judgement {σ ρ t c a l tv σ₁} (ht : Evals σ ρ t (.ok tv) σ₁) (r σ') :
    EvalsTail σ ρ (.cond t c a l) r σ' ↔
      if tv.truthy then EvalsTail σ₁ ρ c r σ'
      else match a with
        | some alt => EvalsTail σ₁ ρ alt r σ'
        | none => r = .ok (.value .void) ∧ σ' = σ₁ :=
  EvalsTail.cond_iff_of ht r σ'

/-- a call in tail position is not evaluated: it is handed back to the trampoline -/
theorem tail_call_pending (n : Nat) (σ : Store) (ρ : Nat) (f : Expr) (args : List Expr) (l : Loc) :
    evalTail (n+1) σ ρ (.call f args l) = (.ok (.tailCall f args ρ), σ) :=
  evalTail_call n σ ρ f args l

/-- the last expression of a body is evaluated by `eval_tail_expression`, the ones before it by
`eval_expression` -/
theorem tail_body_last (n : Nat) (σ : Store) (ρ : Nat) (e e' last : Expr) (es : List Expr) :
    evalBody (n+1) σ ρ [last] = evalTail n σ ρ last ∧
    evalBody (n+1) σ ρ (e :: e' :: es) =
      match evalExpr n σ ρ e with
      | (.error er, σ₁) => (.error er, σ₁)
      | (.ok _, σ₁) => evalBody n σ₁ ρ (e' :: es) :=
  ⟨evalBody_last n σ ρ last, by rw [evalBody_cons]; rcases evalExpr n σ ρ e with ⟨_ | _, _⟩ <;> rfl⟩

/-- fuel-free: if the expressions before the last one evaluate (to values), the body's outcome is
the last expression's outcome as a tail expression -/
theorem tail_body_last_judgement {ρ σ es σ₁ last r σ'} (hs : EvalsSeq ρ σ es σ₁)
    (ht : EvalsTail σ₁ ρ last r σ') : EvalsBody σ ρ (es ++ [last]) r σ' :=
  EvalsBody.seq_last hs ht

example : EvalsBody {} 0 ([.prim (.int 1) none] ++ [.call (.prim (.int 2) none) [] none])
    (.ok (.tailCall (.prim (.int 2) none) [] 0)) {} :=
  tail_body_last_judgement (.cons (Evals.prim rfl) .nil) EvalsTail.call

/-! ## 4. the derived forms keep their tail sub-form in tail position

These theorems are ABOUT THE GENERATED CONSTANT `Gen.grammarData` (regenerated from
`/repo/src/parser/grammar.sld` on every run; through the shape theorems of `C05Shapes.lean`): an edit
of `grammar.sld` that moves a tail sub-form out of tail position re-opens them.

`DTail sub d` — the datum `sub` is in tail position of the datum `d` as the parser will transform it:
`d` itself; an arm of `(if t c)` / `(if t c a)`; the last body form of a `(lambda …)` in operator
position; and through one expansion step (`expand1`, the bundled rules applied to what follows the
keyword, located at the form — what `transform_to_statement` does) of a bundled derived form.
`IsList d xs`: `d` is the proper list of `xs`. A form is `(kw . rest)` = `.pair (.sym kw l₁) rest l`.
`dtail_intail` (below) carries `DTail` over to `InTail` on the transformed expressions. -/

open Ruschm.Macro in
/-- `(begin form… last)`: `last` — the expansion is `((lambda () form… last))` -/
theorem tail_position_begin {sub l₁ rest l pre last} (hu : IsList rest (pre ++ [last])) (h : DTail sub last) :
    DTail sub (.pair (.sym "begin" l₁) rest l) :=
  dtail_begin hu h

open Ruschm.Macro in
/-- `(let ((name val) …) form… last)`, bindings possibly empty: `last` — the expansion is
`((lambda (name …) form… last) val …)` -/
theorem tail_position_let {sub l₁ rest l bs bds nvs pre last} (hu : IsList rest (bs :: (pre ++ [last])))
    (hbs : IsList bs bds) (hp : IsPairs bds nvs) (h : DTail sub last) :
    DTail sub (.pair (.sym "let" l₁) rest l) :=
  dtail_let hu hbs hp h

open Ruschm.Macro in
/-- `(let* ((name val) …) form… last)`, any number of bindings: `last` — nested `let`s -/
theorem tail_position_letstar {sub l₁ rest l bs bds nvs pre last} (hu : IsList rest (bs :: (pre ++ [last])))
    (hbs : IsList bs bds) (hp : IsPairs bds nvs) (h : DTail sub last) :
    DTail sub (.pair (.sym "let*" l₁) rest l) :=
  dtail_letstar h nvs hu hbs hp

open Ruschm.Macro in
/-- `(when test form… last)` and `(unless test form… last)`: `last` — `(if test (begin form… last))` -/
theorem tail_position_when_unless {sub l₁ rest l test pre last} (hu : IsList rest (test :: (pre ++ [last])))
    (h : DTail sub last) :
    DTail sub (.pair (.sym "when" l₁) rest l) ∧ DTail sub (.pair (.sym "unless" l₁) rest l) :=
  ⟨.expand (by decide) (fun _ => C05.when_shape (isList_withLoc l hu) (by simp))
      (.if_then (isList_ofList _ _) rfl (dtail_begin_built _ h)),
   .expand (by decide) (fun _ => C05.unless_shape (isList_withLoc l hu) (by simp))
      (.if_then (isList_ofList _ _) rfl (dtail_begin_built _ h))⟩

open Ruschm.Macro in
/-- `(and test… last)` and `(or test… last)`, any number of tests: `last` — nested `if`s (for `or`:
inside `((lambda (x) (if x x □)) test)`) -/
theorem tail_position_and_or {sub l₁ rest l pre last} (hu : IsList rest (pre ++ [last])) (h : DTail sub last) :
    DTail sub (.pair (.sym "and" l₁) rest l) ∧ DTail sub (.pair (.sym "or" l₁) rest l) :=
  ⟨dtail_and h pre hu, dtail_or h pre hu⟩

open Ruschm.Macro Ruschm.C05 in
/-- `cond`, the LAST clause: `(else form… last)` and `(test form… last)`: `last`; `(test => receiver)`:
the call `(receiver temp)`; `(test)`: the test. (Side conditions: those of the rule order, see
`C05Shapes.lean`.) -/
theorem tail_position_cond_last {sub l₁ rest l c} (hu : IsList rest [c]) :
    (∀ e pre last, IsList c (e :: (pre ++ [last])) → isSym "else" e = true → DTail sub last →
      DTail sub (.pair (.sym "cond" l₁) rest l)) ∧
    (∀ test pre last, IsList c (test :: (pre ++ [last])) → isSym "else" test = false →
      (∀ a r, pre ++ [last] = [a, r] → isSym "=>" a = false) → DTail sub last →
      DTail sub (.pair (.sym "cond" l₁) rest l)) ∧
    (∀ test a r, IsList c [test, a, r] → isSym "=>" a = true → isSym "else" test = false →
      DTail (L l [r, S l "temp"]) (.pair (.sym "cond" l₁) rest l)) ∧
    (∀ test, IsList c [test] → DTail sub test → DTail sub (.pair (.sym "cond" l₁) rest l)) :=
  ⟨fun _ _ _ hc he h => .expand (by decide)
      (fun fuel hf => at_loc (cond_else_shape (isList_withLoc l hu) hc he (by simp) hf)) (dtail_begin_built _ h),
   fun _ _ _ hc hte hna h => .expand (by decide)
      (fun fuel hf => at_loc (cond_normal_shape (isList_withLoc l hu) hc (by simp) hte hna hf))
      (.if_then (isList_ofList _ _) rfl (dtail_begin_built _ h)),
   fun test _ _ hc ha hte => .expand (by decide)
      (fun fuel hf => at_loc (cond_arrow_shape (isList_withLoc l hu) hc ha hte hf))
      (dtail_let1_built _ _ test _ (.if_then (isList_ofList _ _) rfl (.here _))),
   fun _ hc h => .expand (by decide) (fun fuel hf => at_loc (cond_test_shape (isList_withLoc l hu) hc hf)) h⟩

open Ruschm.Macro Ruschm.C05 in
/-- `cond`, a clause that is NOT the last: its tail sub-form (the last form of `(test form… last)`,
the call `(receiver temp)` of `(test => receiver)`) is in tail position, and so is everything in tail
position of `(cond clause…)` on the remaining clauses -/
theorem tail_position_cond_more {sub l₁ rest l c clauses} (hu : IsList rest (c :: clauses)) (hcl : clauses ≠ []) :
    (∀ test pre last, IsList c (test :: (pre ++ [last])) →
      (∀ a r, pre ++ [last] = [a, r] → isSym "=>" a = false) →
      (DTail sub last → DTail sub (.pair (.sym "cond" l₁) rest l)) ∧
      (DTail sub (.pair (.sym "cond" l) (Datum.ofList none clauses) l) → DTail sub (.pair (.sym "cond" l₁) rest l))) ∧
    (∀ test a r, IsList c [test, a, r] → isSym "=>" a = true →
      DTail (L l [r, S l "temp"]) (.pair (.sym "cond" l₁) rest l) ∧
      (DTail sub (.pair (.sym "cond" l) (Datum.ofList none clauses) l) → DTail sub (.pair (.sym "cond" l₁) rest l))) ∧
    (∀ test, IsList c [test] →
      (DTail sub (.pair (.sym "cond" l) (Datum.ofList none clauses) l) → DTail sub (.pair (.sym "cond" l₁) rest l))) := by
  refine ⟨fun test pre last hc hna => ?_, fun test a r hc ha => ?_, fun test hc h => ?_⟩
  · have step : ∀ {x}, DTail x _ → DTail x (.pair (.sym "cond" l₁) rest l) := fun hx => .expand (by decide)
      (fun fuel hf => at_loc (cond_normal_more_shape (isList_withLoc l hu) hc (by simp) hcl hna hf)) hx
    exact ⟨fun h => step (.if_then (isList_ofList _ _) rfl (dtail_begin_built _ h)),
      fun h => step (.if_else (isList_ofList _ _) rfl h)⟩
  · have step : ∀ {x}, DTail x _ → DTail x (.pair (.sym "cond" l₁) rest l) := fun hx => .expand (by decide)
      (fun fuel hf => at_loc (cond_arrow_more_shape (isList_withLoc l hu) hc ha hcl hf)) (dtail_let1_built _ _ test _ hx)
    exact ⟨step (.if_then (isList_ofList _ _) rfl (.here _)), fun h => step (.if_else (isList_ofList _ _) rfl h)⟩
  · exact .expand (by decide) (fun fuel hf => at_loc (cond_test_more_shape (isList_withLoc l hu) hc hcl hf))
      (dtail_let1_built _ _ test _ (.if_else (isList_ofList _ _) rfl h))

open Ruschm.Macro Ruschm.C05 in
/-- `case` with an atomic key, the LAST clause: `(else form… last)` and `((atom…) form… last)`: `last`;
`(else => receiver)` and `((atom…) => receiver)`: the call `(receiver key)` -/
theorem tail_position_case_last {sub l₁ rest l key c} (hu : IsList rest [key, c])
    (hk : ∀ ks, IsList key ks → ks = []) :
    (∀ e pre last, IsList c (e :: (pre ++ [last])) → isSym "else" e = true →
      (∀ a r, pre ++ [last] = [a, r] → isSym "=>" a = false) → DTail sub last →
      DTail sub (.pair (.sym "case" l₁) rest l)) ∧
    (∀ e a r, IsList c [e, a, r] → isSym "else" e = true → isSym "=>" a = true →
      DTail (L l [r, key]) (.pair (.sym "case" l₁) rest l)) ∧
    (∀ as atoms pre last, IsList c (as :: (pre ++ [last])) → IsList as atoms → atoms ≠ [] →
      (∀ a r, pre ++ [last] = [a, r] → isSym "=>" a = false) → DTail sub last →
      DTail sub (.pair (.sym "case" l₁) rest l)) ∧
    (∀ as atoms a r, IsList c [as, a, r] → IsList as atoms → atoms ≠ [] → isSym "=>" a = true →
      DTail (L l [r, key]) (.pair (.sym "case" l₁) rest l)) :=
  ⟨fun _ _ _ hc he hna h => .expand (by decide)
      (fun fuel hf => at_loc (case_else_shape (isList_withLoc l hu) hc he (by simp) hna hk hf)) (dtail_begin_built _ h),
   fun _ _ _ hc he ha => .expand (by decide)
      (fun fuel hf => at_loc (case_else_arrow_shape (isList_withLoc l hu) hc he ha hk hf)) (.here _),
   fun _ _ _ _ hc has hne hna h => .expand (by decide)
      (fun fuel hf => at_loc (case_normal_shape (isList_withLoc l hu) hc has hne (by simp) hna hk hf))
      (.if_then (isList_ofList _ _) rfl (dtail_begin_built _ h)),
   fun _ _ _ _ hc has hne ha => .expand (by decide)
      (fun fuel hf => at_loc (case_arrow_shape (isList_withLoc l hu) hc has hne ha hk hf))
      (.if_then (isList_ofList _ _) rfl (.here _))⟩

open Ruschm.Macro Ruschm.C05 in
/-- `case`, a clause that is NOT the last (atomic key), and a key that is a list (bound first to
`atom-key`): the clause's tail sub-form, and everything in tail position of the `case` on the
remaining clauses -/
theorem tail_position_case_more {sub l₁ rest l} :
    (∀ key c clauses, IsList rest (key :: c :: clauses) → clauses ≠ [] → (∀ ks, IsList key ks → ks = []) →
      (∀ as atoms pre last, IsList c (as :: (pre ++ [last])) → IsList as atoms → atoms ≠ [] →
        (∀ a r, pre ++ [last] = [a, r] → isSym "=>" a = false) →
        (DTail sub last → DTail sub (.pair (.sym "case" l₁) rest l)) ∧
        (DTail sub (.pair (.sym "case" l) (Datum.ofList none (key :: clauses)) l) →
          DTail sub (.pair (.sym "case" l₁) rest l))) ∧
      (∀ as atoms a r, IsList c [as, a, r] → IsList as atoms → atoms ≠ [] → isSym "=>" a = true →
        DTail (L l [r, key]) (.pair (.sym "case" l₁) rest l) ∧
        (DTail sub (.pair (.sym "case" l) (Datum.ofList none (key :: clauses)) l) →
          DTail sub (.pair (.sym "case" l₁) rest l)))) ∧
    (∀ k keys clauses, IsList rest (k :: clauses) → IsList k keys → keys ≠ [] → clauses ≠ [] →
      DTail sub (.pair (.sym "case" l) (Datum.ofList none (S l "atom-key" :: clauses)) l) →
      DTail sub (.pair (.sym "case" l₁) rest l)) := by
  refine ⟨fun key c clauses hu hcl hk => ⟨fun as atoms pre last hc has hne hna => ?_, fun as atoms a r hc has hne ha => ?_⟩,
    fun k keys clauses hu hk hkn hcl h => ?_⟩
  · have step : ∀ {x}, DTail x _ → DTail x (.pair (.sym "case" l₁) rest l) := fun hx => .expand (by decide)
      (fun fuel hf => at_loc (case_normal_more_shape (isList_withLoc l hu) hc has hne (by simp) hcl hna hk hf)) hx
    exact ⟨fun h => step (.if_then (isList_ofList _ _) rfl (dtail_begin_built _ h)),
      fun h => step (.if_else (isList_ofList _ _) rfl h)⟩
  · have step : ∀ {x}, DTail x _ → DTail x (.pair (.sym "case" l₁) rest l) := fun hx => .expand (by decide)
      (fun fuel hf => at_loc (case_arrow_more_shape (isList_withLoc l hu) hc has hne ha hcl hk hf)) hx
    exact ⟨step (.if_then (isList_ofList _ _) rfl (.here _)), fun h => step (.if_else (isList_ofList _ _) rfl h)⟩
  · exact .expand (by decide) (fun fuel hf => at_loc (case_list_key_shape (isList_withLoc l hu) hk hkn hcl hf))
      (dtail_let1_built _ _ (L _ keys) _ h)

open Ruschm.Macro Ruschm.Macro.Ex in
/-- examples: `(when t 1 (f))`, `(let* ((a 1) (b 2)) (f))`, `(or 1 2 (f))`,
`(cond (t 1) (else 2 (f)))`: the call `(f)` is in tail position -/
example : DTail (lst [sy "f"]) (lst [sy "when", sy "t", num 1, lst [sy "f"]]) :=
  (tail_position_when_unless (l₁ := none) (l := none) (rest := lst [sy "t", num 1, lst [sy "f"]]) (test := sy "t")
    (pre := [num 1]) (last := lst [sy "f"]) rfl (.here _)).1

open Ruschm.Macro Ruschm.Macro.Ex in
example : DTail (lst [sy "f"]) (lst [sy "let*", lst [lst [sy "a", num 1], lst [sy "b", num 2]], lst [sy "f"]]) :=
  tail_position_letstar (l₁ := none) (l := none)
    (rest := lst [lst [lst [sy "a", num 1], lst [sy "b", num 2]], lst [sy "f"]])
    (bs := lst [lst [sy "a", num 1], lst [sy "b", num 2]]) (pre := []) (last := lst [sy "f"])
    (bds := [lst [sy "a", num 1], lst [sy "b", num 2]])
    (nvs := [(sy "a", num 1), (sy "b", num 2)]) rfl rfl (.cons rfl (.cons rfl .nil)) (.here _)

open Ruschm.Macro Ruschm.Macro.Ex in
example : DTail (lst [sy "f"]) (lst [sy "or", num 1, num 2, lst [sy "f"]]) :=
  (tail_position_and_or (l₁ := none) (l := none) (rest := lst [num 1, num 2, lst [sy "f"]])
    (pre := [num 1, num 2]) (last := lst [sy "f"]) rfl (.here _)).2

open Ruschm.Macro Ruschm.Macro.Ex in
example : DTail (lst [sy "f"]) (lst [sy "cond", lst [sy "t", num 1], lst [sy "else", num 2, lst [sy "f"]]]) :=
  ((tail_position_cond_more (l₁ := none) (l := none)
      (rest := lst [lst [sy "t", num 1], lst [sy "else", num 2, lst [sy "f"]]])
      (c := lst [sy "t", num 1]) (clauses := [lst [sy "else", num 2, lst [sy "f"]]]) rfl
      (List.cons_ne_nil _ _)).1 (sy "t") [] (num 1) rfl (fun _ _ h => nomatch h)).2
    ((tail_position_cond_last (l₁ := none) (l := none) (rest := lst [lst [sy "else", num 2, lst [sy "f"]]])
      (c := lst [sy "else", num 2, lst [sy "f"]]) rfl).1 (sy "else") [num 2] (lst [sy "f"]) rfl rfl (.here _))

/-- the transformer leaves the syntax environment as it was whenever it produces an expression or a
definition (`define-syntax` is accepted only at top level and in library bodies) — so the keywords mean
the same for every sub-form of an expression -/
theorem transform_keeps_syntax_env (n : Nat) (d : Datum) (env env' : Xform.SynEnv) (s : Statement)
    (h : Xform.toStatement n d env = (.ok s, env')) (hs : Xform.Keep.IsED s) : env' = env :=
  Xform.toStatement_keep h hs

/-- FROM DATA TO EXPRESSIONS. If `sub` is in tail position of the datum `d` (`DTail`: through `if`
arms, lambda applications and expansions of the bundled forms) and the parser's transformer turns `d`
— in a syntax environment where the nine keywords resolve to the bundled rules (`StdEnv`) — into the
expression `e`, then it turns `sub` (in such an environment, which it leaves unchanged) into an
expression `esub` that is in tail position of `e` (`InTail`): the tail sub-form of every derived form
ends up where `eval_tail_expression` hands it to the trampoline. -/
theorem dtail_intail {sub d : Datum} (h : Macro.DTail sub d) {n env e env'} (hstd : Xform.StdEnv env)
    (hx : Xform.toStatement n d env = (.ok (.expr e), env')) :
    ∃ m envs esub, Xform.StdEnv envs ∧ Xform.toStatement m sub envs = (.ok (.expr esub), envs) ∧ InTail esub e :=
  let ⟨esub, ⟨m, hm⟩, hin⟩ := Meaning.XE.dtail h hstd (.of_run hx)
  ⟨m, env, esub, hstd, hm, hin⟩

/-- the interpreter's own syntax environment (an empty scope over the bundled forms) is such an
environment -/
theorem default_env_std : Xform.StdEnv [[], Interp.grammarScope] := Xform.stdEnv_default

open Ruschm.Macro Ruschm.Macro.Ex in
set_option maxRecDepth 100000 in
/-- example, end to end: `(when t 1 (f))` is transformed by the real transformer in the interpreter's
syntax environment, and the transformed `(f)` is `InTail` of the result -/
example : ∃ e env' m envs esub,
    Xform.toStatement 300 (lst [sy "when", sy "t", num 1, lst [sy "f"]]) [[], Interp.grammarScope] = (.ok (.expr e), env') ∧
    Xform.toStatement m (lst [sy "f"]) envs = (.ok (.expr esub), envs) ∧ InTail esub e := by
  have ok : (match Xform.toStatement 300 (lst [sy "when", sy "t", num 1, lst [sy "f"]])
      [[], Interp.grammarScope] with | (.ok (.expr _), _) => true | _ => false) = true := by
    rw [Macro.grammarScope_eq]; decide +kernel
  split at ok
  case h_2 => cases ok
  rename_i e env' hx
  have hd : DTail (lst [sy "f"]) (lst [sy "when", sy "t", num 1, lst [sy "f"]]) :=
    (tail_position_when_unless (l₁ := none) (l := none) (rest := lst [sy "t", num 1, lst [sy "f"]]) (test := sy "t")
      (pre := [num 1]) (last := lst [sy "f"]) rfl (.here _)).1
  obtain ⟨m, envs, esub, _, hs, hin⟩ := dtail_intail hd default_env_std hx
  exact ⟨e, env', m, envs, esub, hx, hs, hin⟩

/-! ## 5. the general principle: a call in tail position is a pending call of the same loop

`InTail sub e` — `sub` is `e`, or in an arm of a tail `if`, or the last body expression of a `lambda`
that is the operator of a tail call. `TailPath env σ ρ e σs ρs sub` — evaluation of the tail
expression `e` arrives at `sub` (the tests select the arms, the lambdas' operands, definitions and
earlier body expressions evaluate). `TailRuns env σ ρ e r σ'` — the running loop, having the tail
expression `e` to evaluate, ends with `r`, `σ'`. `PendingRuns` — the same for a pending call. -/

/-- If `sub` is in tail position of `e` and evaluation reaches it (`TailPath`), then `sub` is
evaluated as a tail expression OF THE SAME LOOP, at the same depth: whatever the loop does from
`sub` on is what it does from `e` on. No `applyProcedure` activation is opened on the way — the
lambdas on the path are applied by the trampoline. -/
theorem intail_no_activation {env σ ρ e σs ρs sub} (h : TailPath env σ ρ e σs ρs sub) :
    InTail sub e ∧ σs.depth = σ.depth ∧
    ∀ r σ', TailRuns env σs ρs sub r σ' → TailRuns env σ ρ e r σ' :=
  ⟨h.spec.1, h.spec.2.1.1, h.spec.2.2⟩

/-- in particular, when `sub` is a call: operator and operands are evaluated and THE LOOP CONTINUES
with the callee (`Applies`, the loop — not `AppliesProc`, an activation), in a store of the depth
the tail expression `e` was entered with -/
theorem intail_call_continues_loop {env σ ρ e σs ρs f targs l fv σ₂ vs σ₃ r σ'}
    (h : TailPath env σ ρ e σs ρs (.call f targs l)) (hf : Evals σs ρs f (.ok fv) σ₂)
    (hargs : EvalsArgs σ₂ ρs targs (.ok vs) σ₃) (hp : (procArity fv).isSome)
    (hl : Applies σ₃ fv vs env r σ') :
    σ₃.depth = σ.depth ∧ TailRuns env σ ρ e r σ' :=
  ⟨((h.spec.2.1.trans hf.depthOk).trans hargs.depthOk).1,
   h.spec.2.2 r σ' (TailRuns.call_ok hf hargs hp hl)⟩

/-- and a procedure whose body ends in `e` (parameters bound, definitions and earlier body
expressions evaluated): applying it in the loop is `TailRuns` of `e` -/
theorem tail_expression_of_body {env σ formals defs pre last cenv args restArgs σ₁ σ₂ σ₃ r σ'}
    (ha : arityOk formals.fixed.length formals.rest.isSome args.length = true)
    (hb : bindFixed (σ.newFrame (some cenv)).2 (σ.newFrame (some cenv)).1 formals.fixed args = (.ok restArgs, σ₁))
    (hd : EvalsDefSeq (σ.newFrame (some cenv)).1
      (Ref.bindRest σ₁ (σ.newFrame (some cenv)).1 formals.rest restArgs) defs σ₂)
    (hpre : EvalsSeq (σ.newFrame (some cenv)).1 σ₂ pre σ₃)
    (h : TailRuns env σ₃ (σ.newFrame (some cenv)).1 last r σ') :
    Applies σ (.closure (.mk formals defs (pre ++ [last])) cenv) args env r σ' :=
  TailRuns.applies ha hb hd hpre h

/-- example: in `(if #t ((lambda () (f))) 0)` the call `(f)` is reached in tail position -/
example : TailPath 0 {} 0
    (.cond (.prim (.bool true) none)
      (.call (.lambda (.mk ⟨[], none⟩ [] ([] ++ [.call (.sym "f" none) [] none])) none) [] none)
      (some (.prim (.int 0) none)) none)
    (({} : Store).newFrame (some 0)).2 0 (.call (.sym "f" none) [] none) :=
  .cond_then (Evals.prim rfl) rfl (.lam_call EvalsArgs.nil rfl rfl .nil .nil .here)

/-! ## 6. loops written with tail calls run at constant depth -/

/-- the store after `(define (loop n acc) (if (= n 0) acc (loop (- n 1) (+ acc 1))))` in a root frame
that binds `=`, `-`, `+` to the native procedures -/
def countStore : Store :=
  { frames := #[{ parent := none, defs := [("=", .builtin .numEq), ("-", .builtin .sub), ("+", .builtin .add),
      ("loop", .closure countLam 0)] }] }

theorem countStore_env : CountEnv countStore 0 :=
  ⟨⟨by decide, rfl⟩, ⟨by decide, rfl⟩, ⟨by decide, rfl⟩, ⟨by decide, rfl⟩⟩

/-- MAIN. The self-recursive counting loop
`(define (loop n acc) (if (= n 0) acc (loop (- n 1) (+ acc 1))))`, in ANY store whose frame `g` sees
`=`, `-`, `+` and `loop` (`CountEnv`), applied to `N` and `0` for EVERY `N` an `i32` can hold:
the activation completes with the value `N` — the result of the `N`-fold iteration of `(+ acc 1)` from
`0` — gives `depth` back, and `maxDepth` is `max σ.maxDepth (σ.depth + 2)`: the activation itself and
one level for the native calls `=`, `-`, `+` in operand position. The bound does not depend on `N`. -/
theorem loop_depth_bounded {σ : Store} {g : Nat} (env : Nat) (henv : CountEnv σ g) (N : Nat) (hN : N ≤ 2147483647) :
    ∃ σ', AppliesProc σ (.closure countLam g) [.num (.int N), .num (.int 0)] env
        (.ok (.num (.int (Nat.repeat (fun a : Int => a + 1) N 0)))) σ' ∧
      Nat.repeat (fun a : Int => a + 1) N 0 = N ∧
      σ'.depth = σ.depth ∧ σ'.maxDepth = max σ.maxDepth (σ.depth + 2) := by
  obtain ⟨σ₁, hl, hm⟩ := count_loop g env (σ := enter σ) ⟨henv.eq.enter, henv.sub.enter, henv.add.enter, henv.loop.enter⟩
    N 0 (by omega) (by omega) (by omega)
  have hit : Nat.repeat (fun a : Int => a + 1) N 0 = N := (repeat_succ_eq N 0).trans (Int.zero_add _)
  rw [Int.zero_add] at hl
  have hp := AppliesProc.of_loop hl
  exact ⟨leave σ₁, by rw [hit]; exact hp, hit, hp.depthOk.1, hm.trans (Store.enter_bound σ 1)⟩

/-- the same from the concrete top-level store, with the numbers: depth 0 before and after, `maxDepth`
2, for a million iterations as for one -/
theorem loop_depth_bounded_concrete (N : Nat) (hN : N ≤ 2147483647) :
    ∃ σ', AppliesProc countStore (.closure countLam 0) [.num (.int N), .num (.int 0)] 0 (.ok (.num (.int N))) σ' ∧
      σ'.depth = 0 ∧ σ'.maxDepth = 2 := by
  obtain ⟨σ', h, hit, hd, hm⟩ := loop_depth_bounded 0 countStore_env N hN
  rw [hit] at h
  exact ⟨σ', h, hd, hm⟩

example : ∃ σ', AppliesProc countStore (.closure countLam 0) [.num (.int 1000000), .num (.int 0)] 0
    (.ok (.num (.int 1000000))) σ' ∧ σ'.depth = 0 ∧ σ'.maxDepth = 2 :=
  loop_depth_bounded_concrete 1000000 (by decide)

/-! ### the other loop shapes

Each theorem: in ANY store whose frame `g` sees the needed native procedures and the loop's own
name(s), for EVERY count an `i32` can hold, the activation completes with the result of the bounded
iteration, gives `depth` back, and `maxDepth` is at most `max σ.maxDepth (σ.depth + 2)`. -/

/-- from a bound on the loop to the bound on the activation -/
theorem activation_bound {σ : Store} {p args env r} {k : Nat}
    (h : ∃ σ₁, Applies (enter σ) p args env r σ₁ ∧ σ₁.maxDepth ≤ max (enter σ).maxDepth ((enter σ).depth + k)) :
    ∃ σ', AppliesProc σ p args env r σ' ∧ σ'.depth = σ.depth ∧ σ'.maxDepth ≤ max σ.maxDepth (σ.depth + (k + 1)) := by
  obtain ⟨σ₁, hl, hm⟩ := h
  have hp := AppliesProc.of_loop hl
  exact ⟨leave σ₁, hp, hp.depthOk.1, Nat.le_trans hm (Nat.le_of_eq (Store.enter_bound σ k))⟩

/-- THE TAIL CALL WRAPPED IN ANY GOOD TAIL CONTEXT: `(define (loop n acc) (if (= n 0) acc E))` where
evaluating the tail expression `E` leads (`TailPath`: through `if` arms and lambda applications) to
the call `(loop (- n 1) (+ acc 1))` in a frame that still sees the loop's variables, raising
`maxDepth` at most to `depth + 1` (`GoodContext`) -/
theorem loop_depth_bounded_in_context {σ : Store} {g : Nat} (env : Nat) (E : Expr)
    (hE : GoodContext env (ctxLam E) g E)
    (heq : Sees σ g "=" (.builtin .numEq)) (hsub : Sees σ g "-" (.builtin .sub)) (hadd : Sees σ g "+" (.builtin .add))
    (hloop : Sees σ g "loop" (.closure (ctxLam E) g)) (N : Nat) (hN : N ≤ 2147483647) :
    ∃ σ', AppliesProc σ (.closure (ctxLam E) g) [.num (.int N), .num (.int 0)] env (.ok (.num (.int N))) σ' ∧
      σ'.depth = σ.depth ∧ σ'.maxDepth ≤ max σ.maxDepth (σ.depth + 2) := by
  obtain ⟨σ₁, hl, hm⟩ := ctx_loop g env E hE (σ := enter σ) heq.enter hsub.enter hadd.enter hloop.enter N 0
    (by omega) (by omega) (by omega)
  rw [Int.zero_add] at hl
  exact activation_bound (k := 1) ⟨σ₁, hl, Nat.le_of_eq hm⟩

/-- good contexts exist and compose: the empty one, `((lambda () □))` (the expansion of `begin` and
`(let () …)`), `((lambda (x) □) v)` (the expansion of `let`), the arms of an `if` — e.g. the call
wrapped as `(if #t ((lambda () ((lambda (k) □) 7))) 0)` -/
theorem good_contexts (env : Nat) (L : Lambda) (g : Nat) :
    GoodContext env L g recCall ∧
    (∀ E, GoodContext env L g E → GoodContext env L g (.call (.lambda (.mk ⟨[], none⟩ [] ([] ++ [E])) none) [] none)) ∧
    (∀ E x v, (x ≠ "n" ∧ x ≠ "acc" ∧ x ≠ "-" ∧ x ≠ "+" ∧ x ≠ "loop") → GoodContext env L g E →
      GoodContext env L g (.call (.lambda (.mk ⟨[x], none⟩ [] ([] ++ [E])) none) [.prim (.int v) none] none)) ∧
    (∀ E alt, GoodContext env L g E → GoodContext env L g (.cond (.prim (.bool true) none) E alt none)) ∧
    (∀ E c, GoodContext env L g E → GoodContext env L g (.cond (.prim (.bool false) none) c (some E) none)) :=
  ⟨goodContext_here env L g, fun _ h => goodContext_thunk env L g h, fun _ x v hx h => goodContext_let env L g x v hx h,
   fun _ alt h => goodContext_if_true env L g alt h, fun _ c h => goodContext_if_false env L g c h⟩

example (env g : Nat) (L : Lambda) : GoodContext env L g
    (.cond (.prim (.bool true) none)
      (.call (.lambda (.mk ⟨[], none⟩ [] ([] ++
        [.call (.lambda (.mk ⟨["k"], none⟩ [] ([] ++ [recCall])) none) [.prim (.int 7) none] none])) none) [] none)
      (some (.prim (.int 0) none)) none) :=
  goodContext_if_true env L g _ (goodContext_thunk env L g
    (goodContext_let env L g "k" 7 (by decide +kernel) (goodContext_here env L g)))

/-- MUTUAL RECURSION: `(define (even? n) (if (= n 0) #t (odd? (- n 1))))`,
`(define (odd? n) (if (= n 0) #f (even? (- n 1))))`: `(even? N)` is `N mod 2 = 0` -/
theorem loop_depth_bounded_mutual {σ : Store} {g : Nat} (env : Nat) (henv : ParityEnv σ g) (N : Nat)
    (hN : N ≤ 2147483647) :
    ∃ σ', AppliesProc σ (.closure (parityLam true "odd?") g) [.num (.int N)] env (.ok (.bool (N % 2 == 0))) σ' ∧
      σ'.depth = σ.depth ∧ σ'.maxDepth ≤ max σ.maxDepth (σ.depth + 2) := by
  obtain ⟨σ₁, hl, hm⟩ := parity_loop g env (σ := enter σ) ⟨henv.eq.enter, henv.sub.enter, henv.even.enter, henv.odd.enter⟩
    true N (by omega)
  rw [repeat_not_eq, Bool.true_beq] at hl
  exact activation_bound (k := 1) ⟨σ₁, hl, Nat.le_of_eq hm⟩

/-- A LOOP THROUGH A PROCEDURE PARAMETER: `(define (loop f n acc) (if (= n 0) acc (f f (- n 1) (+ acc 1))))`
applied to itself -/
theorem loop_depth_bounded_higher_order {σ : Store} {g : Nat} (env : Nat) (henv : ArithEnv σ g) (N : Nat)
    (hN : N ≤ 2147483647) :
    ∃ σ', AppliesProc σ (.closure hoLam g) [.closure hoLam g, .num (.int N), .num (.int 0)] env
        (.ok (.num (.int N))) σ' ∧ σ'.depth = σ.depth ∧ σ'.maxDepth ≤ max σ.maxDepth (σ.depth + 2) := by
  obtain ⟨σ₁, hl, hm⟩ := ho_loop g env (σ := enter σ) ⟨henv.eq.enter, henv.sub.enter, henv.add.enter⟩ N 0
    (by omega) (by omega) (by omega)
  rw [Int.zero_add] at hl
  exact activation_bound (k := 1) ⟨σ₁, hl, Nat.le_of_eq hm⟩

/-- A LOOP WITH A REST PARAMETER: `(define (loop n . rest) (if (= n 0) (car rest) (loop (- n 1) (+ (car rest) 1))))`
(the final `(car rest)` is itself a tail call, of a native procedure) -/
theorem loop_depth_bounded_variadic {σ : Store} {g : Nat} (env : Nat) (henv : VarEnv σ g) (N : Nat)
    (hN : N ≤ 2147483647) :
    ∃ σ', AppliesProc σ (.closure varLam g) [.num (.int N), .num (.int 0)] env (.ok (.num (.int N))) σ' ∧
      σ'.depth = σ.depth ∧ σ'.maxDepth ≤ max σ.maxDepth (σ.depth + 2) := by
  obtain ⟨σ₁, hl, hm⟩ := var_loop g env (σ := enter σ)
    ⟨henv.eq.enter, henv.sub.enter, henv.add.enter, henv.car.enter, henv.loop.enter⟩ N 0 (by omega) (by omega) (by omega)
  rw [Int.zero_add] at hl
  exact activation_bound (k := 1) ⟨σ₁, hl, Nat.le_of_eq hm⟩

/-- `apply` IN TAIL POSITION: `(define (loop n acc) (if (= n 0) acc (apply loop (- n 1) (cons (+ acc 1) '()))))` -/
theorem loop_depth_bounded_apply {σ : Store} {g : Nat} (env : Nat) (henv : AppEnv σ g) (N : Nat)
    (hN : N ≤ 2147483647) :
    ∃ σ', AppliesProc σ (.closure appLam g) [.num (.int N), .num (.int 0)] env (.ok (.num (.int N))) σ' ∧
      σ'.depth = σ.depth ∧ σ'.maxDepth ≤ max σ.maxDepth (σ.depth + 2) := by
  obtain ⟨σ₁, hl, hm⟩ := app_loop g env (σ := enter σ)
    ⟨henv.eq.enter, henv.sub.enter, henv.add.enter, henv.cons.enter, henv.apply.enter, henv.loop.enter⟩ N 0
    (by omega) (by omega) (by omega)
  rw [Int.zero_add] at hl
  exact activation_bound (k := 1) ⟨σ₁, hl, Nat.le_of_eq hm⟩

private theorem parity_env : ParityEnv { frames := #[{ parent := none, defs := [("=", .builtin .numEq), ("-", .builtin .sub),
    ("even?", .closure (parityLam true "odd?") 0), ("odd?", .closure (parityLam false "even?") 0)] }] } 0 :=
  ⟨⟨by decide, rfl⟩, ⟨by decide, rfl⟩, ⟨by decide, rfl⟩, ⟨by decide, rfl⟩⟩

private theorem arith_env : ArithEnv { frames := #[{ parent := none, defs := [("=", .builtin .numEq), ("-", .builtin .sub),
    ("+", .builtin .add)] }] } 0 :=
  ⟨⟨by decide, rfl⟩, ⟨by decide, rfl⟩, ⟨by decide, rfl⟩⟩

private theorem var_env : VarEnv { frames := #[{ parent := none, defs := [("=", .builtin .numEq), ("-", .builtin .sub),
    ("+", .builtin .add), ("car", .builtin .car), ("loop", .closure varLam 0)] }] } 0 :=
  ⟨⟨by decide, rfl⟩, ⟨by decide, rfl⟩, ⟨by decide, rfl⟩, ⟨by decide, rfl⟩, ⟨by decide, rfl⟩⟩

private theorem app_env : AppEnv { frames := #[{ parent := none, defs := [("=", .builtin .numEq), ("-", .builtin .sub),
    ("+", .builtin .add), ("cons", .builtin .cons), ("apply", .builtin .apply), ("loop", .closure appLam 0)] }] } 0 :=
  ⟨⟨by decide, rfl⟩, ⟨by decide, rfl⟩, ⟨by decide, rfl⟩, ⟨by decide, rfl⟩, ⟨by decide, rfl⟩, ⟨by decide, rfl⟩⟩

/-- the environments of the four shapes are inhabited (root frames binding the names) -/
example : ParityEnv { frames := #[{ parent := none, defs := [("=", .builtin .numEq), ("-", .builtin .sub),
      ("even?", .closure (parityLam true "odd?") 0), ("odd?", .closure (parityLam false "even?") 0)] }] } 0 ∧
    ArithEnv { frames := #[{ parent := none, defs := [("=", .builtin .numEq), ("-", .builtin .sub),
      ("+", .builtin .add)] }] } 0 ∧
    VarEnv { frames := #[{ parent := none, defs := [("=", .builtin .numEq), ("-", .builtin .sub),
      ("+", .builtin .add), ("car", .builtin .car), ("loop", .closure varLam 0)] }] } 0 ∧
    AppEnv { frames := #[{ parent := none, defs := [("=", .builtin .numEq), ("-", .builtin .sub),
      ("+", .builtin .add), ("cons", .builtin .cons), ("apply", .builtin .apply), ("loop", .closure appLam 0)] }] } 0 :=
  ⟨parity_env, arith_env, var_env, app_env⟩

/-! ## further non-vacuity examples -/

section Examples

/-- `(lambda () ((lambda () 1)))` applied in the loop: its pending tail call continues the same loop
at the same depth -/
example : ∃ σ₃ : Store, σ₃.depth = ({} : Store).depth ∧
    ∀ r σ', Applies {} (.closure (.mk ⟨[], none⟩ [] [.call (.lambda (.mk ⟨[], none⟩ [] [.prim (.int 1) none]) none) [] none]) 0) [] 0 r σ' ↔
      Applies σ₃ (.closure (.mk ⟨[], none⟩ [] [.prim (.int 1) none]) 0) [] 0 r σ' :=
  have h := trampoline_no_nesting (σ := {}) (env := 0) (args := [])
    (lam := .mk ⟨[], none⟩ [] [.call (.lambda (.mk ⟨[], none⟩ [] [.prim (.int 1) none]) none) [] none]) (cenv := 0)
    rfl (AppliesScheme.intro_ok rfl EvalsDefs.nil (EvalsBody.last EvalsTail.call)) Evals.lambda EvalsArgs.nil rfl
  ⟨_, h.1, h.2.1⟩

/-- `(apply car '((1)))` reaches `car` at the depth it started with -/
example : ∀ σ : Store, Reaches 0 σ (.builtin .apply) [.builtin .car, .pair (.pair (.num (.int 1)) .nil) .nil] σ
    (.builtin .car) [.pair (.num (.int 1)) .nil] := fun _ => .apply (by simp) rfl .refl

/-- a million iterations of each loop shape, from the top-level environments -/
example : ∃ σ', AppliesProc { frames := #[{ parent := none, defs := [("=", .builtin .numEq), ("-", .builtin .sub),
      ("even?", .closure (parityLam true "odd?") 0), ("odd?", .closure (parityLam false "even?") 0)] }] }
    (.closure (parityLam true "odd?") 0) [.num (.int (1000000 : Nat))] 0 (.ok (.bool ((1000000 : Nat) % 2 == 0))) σ' ∧
    σ'.depth = 0 ∧ σ'.maxDepth ≤ 2 :=
  loop_depth_bounded_mutual 0 parity_env 1000000 (by decide)

example : ∃ σ', AppliesProc { frames := #[{ parent := none, defs := [("=", .builtin .numEq), ("-", .builtin .sub),
      ("+", .builtin .add)] }] }
    (.closure hoLam 0) [.closure hoLam 0, .num (.int (1000000 : Nat)), .num (.int 0)] 0
    (.ok (.num (.int (1000000 : Nat)))) σ' ∧ σ'.depth = 0 ∧ σ'.maxDepth ≤ 2 :=
  loop_depth_bounded_higher_order 0 arith_env 1000000 (by decide)

example : ∃ σ', AppliesProc { frames := #[{ parent := none, defs := [("=", .builtin .numEq), ("-", .builtin .sub),
      ("+", .builtin .add), ("car", .builtin .car), ("loop", .closure varLam 0)] }] }
    (.closure varLam 0) [.num (.int (1000000 : Nat)), .num (.int 0)] 0
    (.ok (.num (.int (1000000 : Nat)))) σ' ∧ σ'.depth = 0 ∧ σ'.maxDepth ≤ 2 :=
  loop_depth_bounded_variadic 0 var_env 1000000 (by decide)

example : ∃ σ', AppliesProc { frames := #[{ parent := none, defs := [("=", .builtin .numEq), ("-", .builtin .sub),
      ("+", .builtin .add), ("cons", .builtin .cons), ("apply", .builtin .apply), ("loop", .closure appLam 0)] }] }
    (.closure appLam 0) [.num (.int (1000000 : Nat)), .num (.int 0)] 0
    (.ok (.num (.int (1000000 : Nat)))) σ' ∧ σ'.depth = 0 ∧ σ'.maxDepth ≤ 2 :=
  loop_depth_bounded_apply 0 app_env 1000000 (by decide)

/-- the counting loop with its recursive call wrapped as `((lambda () ((lambda (k) □) 7)))` -/
example : ∃ σ', AppliesProc { frames := #[{ parent := none, defs := [("=", .builtin .numEq), ("-", .builtin .sub),
      ("+", .builtin .add), ("loop", .closure (ctxLam (.call (.lambda (.mk ⟨[], none⟩ [] ([] ++
        [.call (.lambda (.mk ⟨["k"], none⟩ [] ([] ++ [recCall])) none) [.prim (.int 7) none] none])) none) [] none)) 0)] }] }
    (.closure (ctxLam (.call (.lambda (.mk ⟨[], none⟩ [] ([] ++
        [.call (.lambda (.mk ⟨["k"], none⟩ [] ([] ++ [recCall])) none) [.prim (.int 7) none] none])) none) [] none)) 0)
    [.num (.int (1000000 : Nat)), .num (.int 0)] 0 (.ok (.num (.int (1000000 : Nat)))) σ' ∧
    σ'.depth = 0 ∧ σ'.maxDepth ≤ 2 :=
  loop_depth_bounded_in_context 0 _
    (goodContext_thunk 0 _ 0 (goodContext_let 0 _ 0 "k" 7 (by decide) (goodContext_here 0 _ 0)))
    ⟨by decide, rfl⟩ ⟨by decide, rfl⟩ ⟨by decide, rfl⟩ ⟨by decide, rfl⟩ 1000000 (by decide)

end Examples

end Ruschm.C02
