/-
Finer facts about library definitions, for C13More. The `export` declarations take no part in the evaluation of
the body. The in-progress mark protects the instances of the libraries being loaded (`Keep`, `keep_run`): only
`get_library` touches one, the one it is asked for (`keepOf`). The importer-side fields of the state are never
read (`unobserved_withImporter`, an instance of `comm_run`).
-/
import RuschmProofs.LibLemmas

namespace Ruschm
namespace Interp
open Eval (NotFuel)

/-! ## `export` declarations do not take part in the evaluation of the body -/

/-- the declarations without the `export` declarations: the body proper -/
def stripExports : List LibDecl → List LibDecl
  | [] => []
  | .export _ :: ds => stripExports ds
  | d :: ds => d :: stripExports ds

/-- the outcome of the body, forgetting the collected export specs -/
def bodyOutcome (r : Except SErr (List ExportSpec)) : Except SErr Unit :=
  match r with
  | .ok _ => .ok ()
  | .error e => .error e

theorem notFuel_bodyOutcome {r : Except SErr (List ExportSpec)} (h : NotFuel r) : NotFuel (bodyOutcome r) := by
  cases r with
  | ok _ => simp [bodyOutcome]
  | error e => exact h.cast

theorem evalLibDecls_strip (acc0 : List ExportSpec) : ∀ (decls : List LibDecl) (n : Nat) (st : State) (ρ : Nat)
    (acc : List ExportSpec) {r : Except SErr (List ExportSpec)} {st' : State},
    evalLibDecls n st ρ decls acc = (r, st') → NotFuel r →
    evalLibDecls n st ρ (stripExports decls) acc0 = (r.map fun _ => acc0, st')
  | _, 0, _, _, _, _, _, h, hr => by rw [evalLibDecls] at h; cases h; simp at hr
  | [], _ + 1, _, _, _, _, _, h, _ => by rw [evalLibDecls] at h; cases h; rw [stripExports, evalLibDecls]; rfl
  | d :: ds, n + 1, st, ρ, acc, r, _, h, hr => by
    replace h := (runCall_succ n st (.libDecls ρ (d :: ds) acc)).symm.trans h
    have e := runCall_succ n st (.libDecls ρ (stripExports (d :: ds)) acc0)
    cases d with
    | «export» specs =>
      refine runCall_mono (.libDecls ρ (stripExports ds) acc0) (evalLibDecls_strip acc0 ds n st ρ _ h hr) ?_
      cases r with
      | ok _ => exact .ok _
      | error e => exact hr.cast
    | importDecl _ | begin_ _ =>
      refine e.trans ?_
      rcases andThen_eq h with ⟨e, hx, rfl⟩ | ⟨_, st1, hx, h⟩ <;> simp only [stripExports, stepCall, hx]
      · rfl
      · exact evalLibDecls_strip acc0 ds n st1 ρ acc h hr

/-- a library definition from its body proper and its export specs -/
theorem evalLibraryDef_strip {n : Nat} {st st' : State} {decls : List LibDecl} {r}
    (h : evalLibraryDef (n + 1) st decls = (r, st')) (hr : NotFuel r) :
    (r, st') = andThen
      (evalLibDecls n { st with store := (st.store.newFrame none).2 } st.store.frames.size (stripExports decls) [])
      fun _ st1 => ((S.exportSpecs decls).foldlM (exportStep (st1.store.lookup st.store.frames.size)) [], st1) := by
  obtain ⟨x, hd, nf⟩ := evalLibraryDef_libDecls n st decls
  rw [h] at hd nf
  rw [evalLibDecls_strip [] decls n _ _ [] hd (nf hr)]
  rw [evalLibraryDef_succ_eq, hd] at h
  cases x with
  | error e => exact h.symm
  | ok exports => rw [← h, evalLibDecls_exports _ _ _ _ _ _ _ hd]; rfl

/-! ## unbound exports -/

/-- the first export spec whose internal identifier is unbound -/
def firstUnbound (look : String → Option Value) (specs : List ExportSpec) : Option ExportSpec :=
  specs.find? (fun sp => (look sp.internal).isNone)

theorem exportFold_unbound (look : String → Option Value) : ∀ (specs : List ExportSpec) (acc : List (String × Value)),
    match firstUnbound look specs with
    | some sp => specs.foldlM (exportStep look) acc =
        .error (.unbound, match sp with | .direct _ l => l | .rename _ _ l => l)
    | none => ∃ defs, specs.foldlM (exportStep look) acc = .ok defs := by
  intro specs
  induction specs with
  | nil => intro acc; exact ⟨acc, rfl⟩
  | cons sp rest ih =>
    intro acc
    rw [List.foldlM_cons]
    simp only [firstUnbound, List.find?_cons]
    cases hl : look sp.internal with
    | none =>
      simp only [Option.isNone_none, exportStep, hl, bind, Except.bind]
      cases sp <;> rfl
    | some v =>
      simp only [Option.isNone_some, exportStep, hl, bind, Except.bind]
      exact ih _

/-! ## what the in-progress mark protects -/

/-- the instances of the libraries in progress (that satisfy `P`) are not touched -/
def Keep (P : LibName → Prop) (st st' : State) : Prop :=
  ∀ n ∈ st.inProgress, P n → libLookup st'.instances n = libLookup st.instances n

theorem Keep.refl (P) (st : State) : Keep P st st := fun _ _ _ => rfl

theorem Keep.trans {P} {a b c : State} (h1 : Keep P a b) (hip : b.inProgress = a.inProgress)
    (h2 : Keep P b c) : Keep P a c :=
  fun n hn hp => (h2 n (hip ▸ hn) hp).trans (h1 n hn hp)

theorem Keep.mono {P Q : LibName → Prop} {a b : State} (h : Keep P a b) (hq : ∀ n, Q n → P n) : Keep Q a b :=
  fun n hn hp => h n hn (hq n hp)

/-- `keep_run` for each of the seven functions by name; nothing builds it -/
structure KeepAt (fuel : Nat) : Prop where
  importSet : ∀ {st s r st'}, evalImportSet fuel st s = (r, st') → Keep (fun _ => True) st st'
  getLibrary : ∀ {st name loc r st'}, getLibrary fuel st name loc = (r, st') → Keep (· ≠ name) st st'
  import_ : ∀ {st sets ρ r st'}, evalImport fuel st sets ρ = (r, st') → Keep (fun _ => True) st st'
  importSets : ∀ {st sets acc r st'}, evalImportSets fuel st sets acc = (r, st') → Keep (fun _ => True) st st'
  libraryDef : ∀ {st decls r st'}, evalLibraryDef fuel st decls = (r, st') → Keep (fun _ => True) st st'
  libDecls : ∀ {st ρ decls acc r st'}, evalLibDecls fuel st ρ decls acc = (r, st') → Keep (fun _ => True) st st'
  statements : ∀ {st ρ ss r st'}, evalStatements fuel st ρ ss = (r, st') → Keep (fun _ => True) st st'

theorem keep_of_instances_eq {P} {st st' : State} (h : st'.instances = st.instances) : Keep P st st' :=
  fun _ _ _ => by rw [h]

/-- whose instances a call may touch although they are in progress: `get_library` the one it is asked for -/
def keepOf : {α : Type} → Call α → LibName → Prop
  | _, .getLibrary name _ => (· ≠ name)
  | _, _ => fun _ => True

theorem Keep.andThen {α β} {P} {st : State} {x : Except SErr α × State} {k : α → State → Except SErr β × State}
    (hx : Keep P st x.2) (hip : x.2.inProgress = st.inProgress)
    (hk : ∀ a st1, x = (.ok a, st1) → Keep P st1 (k a st1).2) : Keep P st (Ruschm.andThen x k).2 := by
  obtain ⟨_ | a, st1⟩ := x
  · exact hx
  · exact hx.trans hip (hk a st1 rfl)

theorem keep_run : ∀ n {α} (st : State) (c : Call α), Keep (keepOf c) st (runCall n st c).2 :=
  run_rule (P := fun _ st c x => Keep (keepOf c) st x.2) (fun _ _ => Keep.refl _ _) fun n ih α st c => by
    have ip {β} (st : State) (c : Call β) := (run_inv storeRel_true n st c).inProgress
    have same {P st} {σ : Store} : Keep P st { st with store := σ } := keep_of_instances_eq rfl
    cases c with
    | importSet s =>
      cases s using ImportSet.opInduction with
      | direct name loc =>
        rw [stepCall_direct]
        split
        · exact Keep.refl _ _
        · -- a library in progress is not the one asked for: that would have been the cyclic error
          rename_i hc
          exact fun m hm _ => ih _ (.getLibrary name loc) m (List.mem_cons_of_mem _ hm)
            (by rintro rfl; exact hc (by simpa using hm))
      | wrap op sub => rw [stepCall_wrap]; exact (ih st (.importSet sub)).andThen (ip ..) fun _ _ _ => Keep.refl _ _
    | getLibrary name loc =>
      simp only [stepCall]
      split
      · exact Keep.refl _ _
      · have j := findFactory_inv storeRel_true (Prod.eta (findFactory st name loc)).symm
        refine Keep.andThen (keep_of_instances_eq j.2) j.1.inProgress fun f st1 _ => ?_
        have k2 : Keep (fun _ => True) st1 (newLibraryWith (runCall n) st1 f).2 ∧
            (newLibraryWith (runCall n) st1 f).2.inProgress = st1.inProgress := by
          cases f with
          | native defs => exact ⟨Keep.refl _ _, rfl⟩
          | ast decls => exact ⟨ih st1 (.libraryDef decls), ip st1 (.libraryDef decls)⟩
        exact Keep.andThen (k2.1.mono fun _ _ => trivial) k2.2 fun defs st2 _ m _ hne => by
          simp only [libLookup_libInsert_ne _ _ hne]
    | import_ sets ρ => exact (ih st (.importSets sets [])).andThen (ip ..) fun _ _ _ => same
    | importSets sets acc =>
      cases sets with
      | nil => exact Keep.refl _ _
      | cons s rest =>
        exact (ih st (.importSet s)).andThen (ip ..) fun _ st1 _ =>
          Keep.andThen (Keep.refl _ _) rfl fun acc' st2 _ => ih st2 (.importSets rest acc')
    | libraryDef decls =>
      exact Keep.andThen (fun m hm hp => ih _ (.libDecls _ decls []) m hm hp) (ip ..) fun _ _ _ => Keep.refl _ _
    | libDecls ρ decls acc =>
      cases decls with
      | nil => exact Keep.refl _ _
      | cons d ds =>
        cases d with
        | importDecl sets => exact (ih st (.import_ sets ρ)).andThen (ip ..) fun _ st1 _ => ih st1 (.libDecls ρ ds acc)
        | «export» specs => exact ih st (.libDecls ρ ds (acc ++ specs))
        | begin_ body => exact (ih st (.statements ρ body)).andThen (ip ..) fun _ st1 _ => ih st1 (.libDecls ρ ds acc)
    | statements ρ ss =>
      cases ss with
      | nil => exact Keep.refl _ _
      | cons s rest =>
        have fr := evalExprOrDef_frame (r := (evalExprOrDef n st s ρ).1) (st' := (evalExprOrDef n st s ρ).2) rfl
        exact Keep.andThen (keep_of_instances_eq (by rw [fr])) (by rw [fr]) fun _ st1 _ => ih st1 (.statements ρ rest)

theorem keep_of_run {n : Nat} {α} {st : State} (c : Call α) {r st'} (h : runCall n st c = (r, st')) :
    Keep (keepOf c) st st' := by
  have := keep_run n st c; rwa [h] at this

theorem getLibrary_error_keeps {n : Nat} {st st' : State} {name : LibName} {loc : Loc} {e : SErr}
    (h : Interp.getLibrary n st name loc = (.error e, st')) (hip : name ∈ st.inProgress) :
    libLookup st'.instances name = libLookup st.instances name := by
  cases n with
  | zero => rw [Interp.getLibrary] at h; cases h; rfl
  | succ n =>
    have h : stepCall n (runCall n) st (.getLibrary name loc) = (.error e, st') :=
      (runCall_succ n st (.getLibrary name loc)).symm.trans h
    simp only [stepCall] at h
    split at h
    · cases h
    · rcases andThen_eq h with ⟨_, hf, -⟩ | ⟨f, st1, hf, h⟩
      · rw [(findFactory_inv storeRel_true hf).2]
      · have j := findFactory_inv storeRel_true hf
        rcases andThen_eq h with ⟨_, hn, -⟩ | ⟨defs, st2, -, h⟩
        · cases f with
          | native defs => cases hn
          | ast decls =>
            exact (keep_of_run (.libraryDef decls) hn name (j.1.inProgress ▸ hip) trivial).trans (by rw [j.2])
        · cases h

/-! ## the importer-side fields are never read -/

/-- `st` with the importer-side fields (`env`: the interpreter's global frame; `syn`; `importEnd`) of `t` -/
def withImporter (t st : State) : State :=
  { st with env := t.env, syn := t.syn, importEnd := t.importEnd }

/-- `f` does not read the importer-side fields and passes them through (not `Store.Blind`, which is about maps
of stores) -/
def Blind {α β} (f : State → β → Except SErr α × State) : Prop :=
  ∀ t st b, f (withImporter t st) b = ((f st b).1, withImporter t (f st b).2)

structure BlindAt (n : Nat) : Prop where
  importSet : Blind (fun st s => evalImportSet n st s)
  getLibrary : Blind (fun st (p : LibName × Loc) => getLibrary n st p.1 p.2)
  import_ : Blind (fun st (p : List ImportSet × Nat) => evalImport n st p.1 p.2)
  importSets : Blind (fun st (p : List ImportSet × List (String × Value)) => evalImportSets n st p.1 p.2)
  libraryDef : Blind (fun st decls => evalLibraryDef n st decls)
  libDecls : Blind (fun st (p : Nat × List LibDecl × List ExportSpec) => evalLibDecls n st p.1 p.2.1 p.2.2)
  statements : Blind (fun st (p : Nat × List Statement) => evalStatements n st p.1 p.2)

theorem unobserved_withImporter (t : State) : Unobserved (withImporter t) id (fun _ => True) where
  inProgress _ := rfl
  instances _ := rfl
  store _ := rfl
  setInProgress _ _ := rfl
  setInstances _ _ := rfl
  setStore _ _ := rfl
  factories _ := rfl
  setFactories _ _ := rfl
  fileAt _ _ _ := rfl
  expr _ _ _ _ := rfl
  define _ _ _ _ := rfl
  newFrame _ := rfl
  lookup _ _ _ := rfl
  derivedEq _ _ _ _ := rfl
  keep _ _ _ := trivial

/-! ## a successful import leaves the instance in the cache -/

theorem evalImportSet_ok_cached (s : ImportSet) : ∀ {fuel : Nat} {st st' : State} {defs : S.Bindings},
    evalImportSet fuel st s = (.ok defs, st') →
    ∃ d, libLookup st'.instances (S.leaf s) = some d ∧ defs = S.transform s d := by
  induction s using ImportSet.opInduction with
  | direct name loc =>
    intro fuel st st' defs h
    cases fuel with
    | zero => rw [evalImportSet] at h; cases h
    | succ fuel =>
      rw [evalImportSet] at h
      split at h
      · cases h
      · obtain ⟨hr, rfl⟩ := Prod.mk.inj h
        exact ⟨defs, getLibrary_ok_cached (st' := (Interp.getLibrary fuel _ name loc).2) (Prod.ext hr rfl), rfl⟩
  | wrap op sub ih =>
    intro fuel st st' defs h
    cases fuel with
    | zero => rw [evalImportSet] at h; cases h
    | succ fuel =>
      rw [evalImportSet_wrap] at h
      split at h <;> rename_i he <;> cases h
      obtain ⟨d, h1, h2⟩ := ih he
      exact ⟨d, by simpa using h1, by rw [ImportOp.transform_wrap, h2]⟩

/-! ## after the first import set of a library definition

What the rest of the enclosing call does extends (`Inv`) the state the first set left, so the instance that set
cached is still there. The fuel is what reaches `evalImportSet k`: `evalImportSets (k + 1)`, `evalImport (k + 2)`,
`evalLibraryDef (k + 4)` through `evalLibDecls (k + 3)`. -/

theorem libraryDef_after_first {k : Nat} {st st1 : State} {s : ImportSet} {more : List ImportSet}
    {rest : List LibDecl} {defs : List (String × Value)}
    (h1 : evalImportSet k { st with store := (st.store.newFrame none).2 } s = (.ok defs, st1)) :
    Inv (fun _ _ => True) st1 (evalLibraryDef (k + 4) st (.importDecl (s :: more) :: rest)).2 := by
  have i {α} (n st) (c : Call α) := run_inv storeRel_true n st c
  show Inv _ st1 (runCall (k + 4) st (.libraryDef (.importDecl (s :: more) :: rest))).2
  rw [runCall_succ]
  refine andThen_rel (R := Inv _) (Inv.trans storeRel_true) ?_ fun _ _ _ => Inv.refl storeRel_true _
  show Inv _ _ (runCall _ _ _).2
  rw [runCall_succ]
  refine andThen_rel (R := Inv _) (Inv.trans storeRel_true) ?_ fun _ s _ => i _ s _
  show Inv _ _ (runCall _ _ _).2
  rw [runCall_succ]
  refine andThen_rel (R := Inv _) (Inv.trans storeRel_true) ?_ fun _ _ _ => Inv.store_step _ trivial
  show Inv _ _ (runCall _ _ _).2
  rw [runCall_succ]
  simp only [stepCall, runCall, h1, andThen_ok]
  exact andThen_rel (R := Inv _) (Inv.trans storeRel_true) (Inv.refl storeRel_true _) fun acc' s _ => i k s (.importSets more acc')

end Interp
end Ruschm
