/-
Property C04 — "a use that matches no rule is a syntax error, never a silent mis-expansion":
REJECTED USES LEAVE NOTHING BEHIND, however many of them there are.

`C04Program.macro_use_no_match_no_effect` and `C04Program.define_syntax_malformed_no_effect` say that
ONE rejected form returns its syntax error together with the interpreter state it was given. This
file draws the consequence for a whole history on one interpreter (a REPL session, or the "macro
storm" of the differential check: hundreds of rejected uses between two runs of the same good
uses): by induction over the list, after ANY number of rejected forms the state is the state before
them, so every later form evaluates exactly as it would have without them.

(A seeded change that kept a thread-local count of open macro uses and did not restore it when a use
was rejected — after about 200 rejected uses every use failed — was at first not noticed by the
check; in the model there is no such place: `Rejected` forms return the state itself.)

`storm` is the session: every form is evaluated by `FrontSpec.evalForm` from the state its
predecessor left, AN ERROR DOES NOT END THE SESSION (this is what distinguishes it from
`FrontSpec.runForms`, one text); it returns the outcomes in order and the final state.
-/
import RuschmProofs.C04Program


namespace Ruschm.C04Storm
open Ruschm Ruschm.Xform Ruschm.Macro Ruschm.Macro.Ex Ruschm.MacroProgram
open Ruschm.Interp Ruschm.FrontSpec Ruschm.ProgramText
open Ruschm.Meaning (coreKeywords)

/-- the form `d` is REJECTED in state `st`: its outcome is an error and the state returned with the
error is `st` itself — store, syntax scopes, libraries, import phase, everything -/
def Rejected (fuel : Nat) (st : State) (d : Datum) : Prop :=
  (evalForm fuel st d).2 = st ∧ ∃ e, (evalForm fuel st d).1 = .error e

/-- a session on one interpreter: the forms one after another, each from the state the previous
one left, going on after an error; the outcomes in order, and the final state -/
def storm (fuel : Nat) : State → List Datum → List (Except SErr (Option Value)) × State
  | st, [] => ([], st)
  | st, d :: ds =>
    ((evalForm fuel st d).1 :: (storm fuel (evalForm fuel st d).2 ds).1,
     (storm fuel (evalForm fuel st d).2 ds).2)

/-- a session is run piecewise: the second part starts from the state the first part left -/
private theorem storm_append (fuel : Nat) (ds₂ : List Datum) : ∀ (ds₁ : List Datum) (st : State),
    storm fuel st (ds₁ ++ ds₂) =
      ((storm fuel st ds₁).1 ++ (storm fuel (storm fuel st ds₁).2 ds₂).1,
       (storm fuel (storm fuel st ds₁).2 ds₂).2)
  | [], st => rfl
  | d :: ds₁, st => by
    simp only [List.cons_append, storm, storm_append fuel ds₂ ds₁ (evalForm fuel st d).2]

/-! ## 1. any number of rejected forms: the state is the state before them -/

/-- **A STORM OF REJECTED FORMS LEAVES NOTHING BEHIND.** If every form of `ds` is rejected in state
`st` (judged one by one, each alone, in `st`), then the session that runs ALL of them one after
another from `st` ends in `st` itself; its outcomes are, in order, the errors the forms give alone;
every outcome is an error. For every list `ds`, of any length (induction), and every fuel. -/
theorem rejected_storm_leaves_nothing (fuel : Nat) (st : State) : ∀ (ds : List Datum),
    (∀ d ∈ ds, Rejected fuel st d) →
    (storm fuel st ds).2 = st ∧
    (storm fuel st ds).1 = ds.map (fun d => (evalForm fuel st d).1) ∧
    ∀ r ∈ (storm fuel st ds).1, ∃ e, r = .error e
  | [], _ => ⟨rfl, rfl, fun r hr => by cases hr⟩
  | d :: ds, h => by
    obtain ⟨hst, e, he⟩ := h d (List.mem_cons_self ..)
    obtain ⟨ih1, ih2, ih3⟩ := rejected_storm_leaves_nothing fuel st ds
      (fun d' hd' => h d' (List.mem_cons_of_mem _ hd'))
    simp only [storm, hst, List.map_cons]
    refine ⟨ih1, by rw [ih2], fun r hr => ?_⟩
    rcases List.mem_cons.1 hr with rfl | hr
    · exact ⟨e, he⟩
    · exact ih3 r hr

/-- **A FORM AFTER THE STORM EVALUATES AS BEFORE IT**: outcome and resulting state of any form `d`
(a good use, a definition, anything) evaluated after the rejected forms `ds` are those of `d`
evaluated instead of them. -/
theorem form_after_storm (fuel : Nat) (st : State) (ds : List Datum)
    (h : ∀ d ∈ ds, Rejected fuel st d) (d : Datum) :
    evalForm fuel (storm fuel st ds).2 d = evalForm fuel st d := by
  rw [(rejected_storm_leaves_nothing fuel st ds h).1]

/-- … and so does a whole continuation `more` of the session: the session `ds ++ more` gives the
errors of `ds`, then exactly the outcomes of the session `more` alone, and ends in the state `more`
alone ends in. (The check's storm: good uses, hundreds of rejected ones, the same good uses.) -/
theorem session_after_storm (fuel : Nat) (st : State) (ds more : List Datum)
    (h : ∀ d ∈ ds, Rejected fuel st d) :
    storm fuel st (ds ++ more) =
      (ds.map (fun d => (evalForm fuel st d).1) ++ (storm fuel st more).1, (storm fuel st more).2) := by
  obtain ⟨h1, h2, -⟩ := rejected_storm_leaves_nothing fuel st ds h
  rw [storm_append, h1, h2]

/-- rejected forms may also be REPEATED: `n` rounds of the same rejected forms change nothing -/
theorem repeated_storm_leaves_nothing (fuel : Nat) (st : State) (ds : List Datum)
    (h : ∀ d ∈ ds, Rejected fuel st d) (n : Nat) (d : Datum) :
    (storm fuel st (List.replicate n ds).flatten).2 = st ∧
    evalForm fuel (storm fuel st (List.replicate n ds).flatten).2 d = evalForm fuel st d := by
  have hall : ∀ d ∈ (List.replicate n ds).flatten, Rejected fuel st d :=
    fun d' hd' => h d' (mem_of_mem_replicate_flatten hd')
  exact ⟨(rejected_storm_leaves_nothing fuel st _ hall).1, form_after_storm fuel st _ hall d⟩

/-! ## 2. the forms the interpreter rejects this way -/

/-- `d` is a use `(kw . rest)` of a keyword that the syntax environment `syn` binds to a supported
rule set none of whose patterns matches the use -/
def NoMatchUse (syn : SynEnv) (d : Datum) : Prop :=
  ∃ kw l₁ l rest rs, d = .pair (.sym kw l₁) rest l ∧ kw ∉ coreKeywords ∧ rest.isListy = true ∧
    syn.get? kw = some rs ∧ SupportedRules rs = true ∧
    ∀ q ∈ rs.rules, specMatch rs.literals q.1 (rest.withLoc l) = none

/-- a use that matches no rule is `Rejected` (`C04Program.macro_use_no_match_no_effect`), in every
state with these syntax scopes, whatever its store -/
theorem no_match_use_rejected (fuel : Nat) (st : State) {d : Datum} (h : NoMatchUse st.syn d) :
    evalForm fuel st d = (.error (.syntax, none), st) ∧ Rejected fuel st d := by
  obtain ⟨kw, l₁, l, rest, rs, rfl, hkw, hrest, henv, hs, hnone⟩ := h
  have := C04Program.macro_use_no_match_no_effect (l₁ := l₁) fuel st hkw hrest henv hs hnone
  exact ⟨this, by rw [Rejected, this]; exact ⟨rfl, _, rfl⟩⟩

/-- a `define-syntax` form whose transformer spec is malformed is `Rejected`
(`C04Program.define_syntax_malformed_no_effect`) -/
theorem malformed_define_syntax_rejected {l₁ lm l : Loc} {rest spec : Datum} {more : List Datum}
    {m : String} {e : SErr} (fuel : Nat) (st : State)
    (hrest : IsList rest (.sym m lm :: spec :: more)) (hr : toRules m spec = .error e) :
    Rejected fuel st (.pair (.sym "define-syntax" l₁) rest l) := by
  have := C04Program.define_syntax_malformed_no_effect (l₁ := l₁) (l := l) fuel st hrest hr
  rw [Rejected, this]; exact ⟨rfl, _, rfl⟩

example : IsList (lst [sy "m", lst [sy "syntax-rules", lst [num 1]]])
      [.sym "m" none, lst [sy "syntax-rules", lst [num 1]]] ∧
    toRules "m" (lst [sy "syntax-rules", lst [num 1]]) = .error (.syntax, none) := ⟨rfl, rfl⟩

/-- **THE MACRO STORM**: a session of uses each of which matches no rule of its keyword (in the
syntax scopes of `st`), followed by any forms `more`: every use is answered with the syntax error,
and `more` runs exactly as it runs from `st` without the storm. -/
theorem no_match_storm (fuel : Nat) (st : State) (ds more : List Datum)
    (h : ∀ d ∈ ds, NoMatchUse st.syn d) :
    storm fuel st (ds ++ more) =
      (ds.map (fun _ => .error (.syntax, none)) ++ (storm fuel st more).1, (storm fuel st more).2) := by
  rw [session_after_storm fuel st ds more (fun d hd => (no_match_use_rejected fuel st (h d hd)).2)]
  congr 2
  exact List.map_congr_left fun d hd => by rw [(no_match_use_rejected fuel st (h d hd)).1]

/-! ## 3. the storm of the check, closed -/

/-- `(syntax-rules (k) ((pick k a) '(first a)) ((pick a) '(second a)))` -/
def pickSpec : Datum :=
  lst [sy "syntax-rules", lst [sy "k"],
    lst [lst [sy "pick", sy "k", sy "a"], lst [sy "quote", lst [sy "first", sy "a"]]],
    lst [lst [sy "pick", sy "a"], lst [sy "quote", lst [sy "second", sy "a"]]]]

def pickRules : Rules :=
  ⟨["k"],
   [(plist [.ident "k", .ident "a"],
     .list [(.ident "quote", false), (.list [(.ident "first", false), (.ident "a", false)], false)]),
    (plist [.ident "a"],
     .list [(.ident "quote", false), (.list [(.ident "second", false), (.ident "a", false)], false)])]⟩

example : toRules "pick" pickSpec = .ok pickRules ∧ SupportedRules pickRules = true := ⟨rfl, by decide +kernel⟩

/-- the syntax scopes of an interpreter after `(define-syntax pick …)`: its own scope over the
bundled forms -/
def pickSyn : SynEnv := [[("pick", pickRules)], Interp.grammarScope]

/-- the three rejected shapes: `(pick 1 2)` (the first rule wants the literal `k`, the second one
operand), `(pick)`, and `(cond)` — a bundled form without a clause -/
def badUses : List Datum := [lst [sy "pick", num 1, num 2], lst [sy "pick"], lst [sy "cond"]]

/-- in these scopes `cond` is the bundled form (its seven rules, `Macro.condRules`) -/
private theorem pickSyn_cond : pickSyn.get? "cond" = some condRules := by
  rw [pickSyn, grammarScope_eq]; rfl

/-- each of the three shapes matches no rule of its keyword -/
theorem bad_uses_no_match : ∀ d ∈ badUses, NoMatchUse pickSyn d := by
  intro d hd
  simp only [badUses, List.mem_cons, List.not_mem_nil, or_false] at hd
  rcases hd with rfl | rfl | rfl
  · exact ⟨"pick", none, none, lst [num 1, num 2], pickRules, rfl, by decide, rfl, rfl, rfl, by decide⟩
  · exact ⟨"pick", none, none, lst [], pickRules, rfl, by decide, rfl, rfl, rfl, by decide⟩
  · exact ⟨"cond", none, none, lst [], condRules, rfl, by decide, rfl, pickSyn_cond, by decide, by decide⟩

/-- the hypotheses of section 1 (`∀ d ∈ ds, Rejected fuel st d`) and of `no_match_storm` are met: on
the default interpreter with `pick` defined, each of the three uses is rejected, for every fuel -/
example (fuel : Nat) : (∀ d ∈ badUses, NoMatchUse ({ (default_ false) with syn := pickSyn } : State).syn d) ∧
    ∀ d ∈ badUses, Rejected fuel { (default_ false) with syn := pickSyn } d :=
  ⟨bad_uses_no_match, fun d hd => (no_match_use_rejected fuel _ (bad_uses_no_match d hd)).2⟩

/-- **THE CHECK'S STORM, FOR EVERY LENGTH.** On an interpreter in ANY state whose syntax scopes are
those after `(define-syntax pick …)` (its store, libraries, … arbitrary), `n` rounds of
`(pick 1 2) (pick) (cond)` — `3·n` rejected uses, for every `n` — are all answered with the syntax
error, leave the state exactly as it was, and any form `d` evaluated afterwards (outcome and state)
is what it is without the storm. -/
theorem pick_storm (fuel : Nat) (st : State) (hsyn : st.syn = pickSyn) (n : Nat) :
    (storm fuel st (List.replicate n badUses).flatten).1 = List.replicate (3 * n) (.error (.syntax, none)) ∧
    (storm fuel st (List.replicate n badUses).flatten).2 = st ∧
    ∀ d, evalForm fuel (storm fuel st (List.replicate n badUses).flatten).2 d = evalForm fuel st d := by
  have hall : ∀ d ∈ (List.replicate n badUses).flatten, NoMatchUse st.syn d :=
    fun d hd => hsyn ▸ bad_uses_no_match d (mem_of_mem_replicate_flatten hd)
  have h := no_match_storm fuel st _ [] hall
  simp only [List.append_nil, storm] at h
  have hlen : ((List.replicate n badUses).flatten).length = 3 * n := by
    simp [badUses, Nat.mul_comm]
  refine ⟨?_, by rw [h], fun d => by rw [h]⟩
  rw [h]
  simp only [List.map_const', hlen]

/-- the hypothesis is met by the interpreter after the definition: `Interpreter::default()` has the
scopes `[[], grammarScope]`, and the accepted `(define-syntax pick …)` records the rules in the
innermost one (`C04Program.define_syntax_records_rules`) -/
example : (default_ false).syn = [[], Interp.grammarScope] ∧
    SynEnv.define [[], Interp.grammarScope] "pick" pickRules = pickSyn ∧
    ({ (default_ false) with syn := pickSyn } : State).syn = pickSyn := ⟨rfl, rfl, rfl⟩

/-- and a good use after the storm: `(pick 7)` still selects the second rule, `(pick k 1)` the
first — as transformed in the scopes the storm left (which are the scopes before it) -/
example (fuel : Nat) (st : State) (hsyn : st.syn = pickSyn) :
    (storm fuel st (List.replicate 1000 badUses).flatten).2.syn = pickSyn ∧
    toStatement 100 (lst [sy "pick", num 7]) pickSyn =
      (.ok (.expr (.quote (lst [sy "second", num 7]) none)), pickSyn) ∧
    toStatement 100 (lst [sy "pick", sy "k", num 1]) pickSyn =
      (.ok (.expr (.quote (lst [sy "first", num 1]) none)), pickSyn) :=
  ⟨by rw [(pick_storm fuel st hsyn 1000).2.1, hsyn], by rfl, by rfl⟩

end Ruschm.C04Storm
