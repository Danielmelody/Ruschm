/-
Property C04, the path a PROGRAM takes — "A use of a syntax-rules macro is rewritten by the first
rule, in textual order, whose pattern matches the use … a use that matches no rule is a syntax
error, never a silent mis-expansion."

`C04.lean` proves this about `Macro.transform`, `C04More.lean` about the way `define-syntax` builds
the rules from the written `(syntax-rules …)` form. This file closes the gap between the two and
the interpreter: `Xform.toStatement` (Rust: `transform_to_statement`,
`transform_syntax_definition`) on

1. a `(define-syntax m (syntax-rules …))` form: the rules built by `toRules` are recorded under `m`
   in the innermost syntax scope, nothing else changes, there is no code to evaluate; malformed
   definitions are syntax errors that leave the environment as it was;
2. a use `(m . args)`: ONE step is `Macro.transform` with the rules the environment gives for `m` —
   so (C04) the template of the first matching rule, instantiated — and the RESULT is transformed
   again; a use that matches no rule is a syntax error and nothing is evaluated;
3. iterated expansion: `k` steps cost `k` units of fuel; a macro that expands to itself runs out
   of fuel (the Rust recursion has no bound);
4. a program: `(define-syntax m …)` followed by forms that use `m` is run as the statements of the
   expansions.

Helper definitions and lemmas: `Step`, `Steps` in `ExpandStep.lean`, `UsesAs` in `MacroProgramLemmas.lean`.
-/
import RuschmProofs.C04More
import RuschmProofs.MacroProgramLemmas


namespace Ruschm.C04Program
open Ruschm Ruschm.Xform Ruschm.Macro Ruschm.Macro.Ex Ruschm.MacroProgram
open Ruschm.Interp Ruschm.FrontSpec Ruschm.ProgramText
open Ruschm.Meaning (coreKeywords)

/-! ## data of the non-vacuity examples -/

/-- `(syntax-rules (then else) ((my-if c then a else b) (if c a b)) ((my-if c then a) (if c a #f)))` -/
def myIfSpec : Datum :=
  lst [sy "syntax-rules", lst [sy "then", sy "else"],
    lst [lst [sy "my-if", sy "c", sy "then", sy "a", sy "else", sy "b"], lst [sy "if", sy "c", sy "a", sy "b"]],
    lst [lst [sy "my-if", sy "c", sy "then", sy "a"], lst [sy "if", sy "c", sy "a", .prim (.bool false) none]]]

def myIfRules : Rules :=
  ⟨["then", "else"],
   [(plist [.ident "c", .ident "then", .ident "a", .ident "else", .ident "b"],
     .list [(.ident "if", false), (.ident "c", false), (.ident "a", false), (.ident "b", false)]),
    (plist [.ident "c", .ident "then", .ident "a"],
     .list [(.ident "if", false), (.ident "c", false), (.ident "a", false), (.prim (.bool false), false)])]⟩

/-- `(define-syntax my-if (syntax-rules …))` -/
def myIfDef : Datum := lst [sy "define-syntax", sy "my-if", myIfSpec]

/-- `(syntax-rules () ((my-or) #f) ((my-or e) e) ((my-or e r ...) (if e e (my-or r ...))))`: a
RECURSIVE macro -/
def myOrSpec : Datum :=
  lst [sy "syntax-rules", lst [],
    lst [lst [sy "my-or"], .prim (.bool false) none],
    lst [lst [sy "my-or", sy "e"], sy "e"],
    lst [lst [sy "my-or", sy "e", sy "r", sy "..."],
      lst [sy "if", sy "e", sy "e", lst [sy "my-or", sy "r", sy "..."]]]]

def myOrRules : Rules :=
  ⟨[], [(plist [], .prim (.bool false)),
        (plist [.ident "e"], .ident "e"),
        (plist [.ident "e", .ident "r", .ellipsis],
         .list [(.ident "if", false), (.ident "e", false), (.ident "e", false),
           (.list [(.ident "my-or", false), (.ident "r", true)], false)])]⟩

def myOrDef : Datum := lst [sy "define-syntax", sy "my-or", myOrSpec]

/-- `(syntax-rules () ((when c e) (if c e #f)))`: a user macro with the name of a bundled form -/
def myWhenSpec : Datum :=
  lst [sy "syntax-rules", lst [],
    lst [lst [sy "when", sy "c", sy "e"], lst [sy "if", sy "c", sy "e", .prim (.bool false) none]]]

def myWhenRules : Rules :=
  ⟨[], [(plist [.ident "c", .ident "e"],
         .list [(.ident "if", false), (.ident "c", false), (.ident "e", false), (.prim (.bool false), false)])]⟩

/-- `(syntax-rules () ((loop) (loop)))` -/
def loopSpec : Datum := lst [sy "syntax-rules", lst [], lst [lst [sy "loop"], lst [sy "loop"]]]
def loopRules : Rules := ⟨[], [(plist [], .list [(.ident "loop", false)])]⟩
def loopDef : Datum := lst [sy "define-syntax", sy "loop", loopSpec]
/-- the form `(loop)` as the template builds it at a use located at `l` -/
def loopForm (l : Loc) : Datum := .pair (.sym "loop" l) (.nil none) l

private theorem myIf_toRules : toRules "my-if" myIfSpec = .ok myIfRules := rfl
private theorem myWhen_toRules : toRules "when" myWhenSpec = .ok myWhenRules := rfl
private theorem loop_toRules : toRules "loop" loopSpec = .ok loopRules := rfl
private theorem myIf_supported : SupportedRules myIfRules = true := by decide +kernel
private theorem myOr_supported : SupportedRules myOrRules = true := by decide +kernel

example : toRules "my-if" myIfSpec = .ok myIfRules ∧ toRules "my-or" myOrSpec = .ok myOrRules ∧
    toRules "when" myWhenSpec = .ok myWhenRules ∧ toRules "loop" loopSpec = .ok loopRules ∧
    SupportedRules myIfRules = true ∧ SupportedRules myOrRules = true ∧
    SupportedRules myWhenRules = true ∧ SupportedRules loopRules = true :=
  ⟨myIf_toRules, rfl, myWhen_toRules, loop_toRules, myIf_supported, myOr_supported,
    by decide +kernel, by decide +kernel⟩

/-! ## 1. `define-syntax` records the rules -/

/-- **`(define-syntax m spec more…)` with an accepted transformer spec** (`toRules m spec = ok rs`:
by `C04More.toRules_spec` exactly the forms `(syntax-rules (literal…) (pattern template)…)` whose
rules are accepted, `rs` being their images in textual order). Whatever the fuel (one unit is
enough) and the syntax environment:

* `toStatement` succeeds with the statement `syntaxDef m rs` (no expression, no definition: there
  is no code to evaluate, see `define_syntax_evaluates_nothing`), located at the form;
* in the environment it returns, `m` resolves to EXACTLY `rs`, every other keyword resolves as
  before;
* only the INNERMOST scope is written to: over scopes `own :: base` the result is
  `scopeInsert own m rs :: base` — an `m` of an outer scope (a bundled derived form for instance) is
  shadowed in this environment only, the outer scope is not touched (`C19.syn_base_unchanged` is the
  same fact for a whole text);
* the literals and rules recorded are the written ones, position by position. -/
theorem define_syntax_records_rules {l₁ lm l : Loc} {rest spec : Datum} {more : List Datum}
    {m : String} {rs : Rules} (n : Nat) (env : SynEnv)
    (hrest : IsList rest (.sym m lm :: spec :: more)) (hr : toRules m spec = .ok rs) :
    toStatement (n + 1) (.pair (.sym "define-syntax" l₁) rest l) env =
        (.ok (.syntaxDef m rs l), env.define m rs) ∧
      (env.define m rs).get? m = some rs ∧
      (∀ k, k ≠ m → (env.define m rs).get? k = env.get? k) ∧
      (∀ own base, env = own :: base → env.define m rs = scopeInsert own m rs :: base) ∧
      ∃ litDs ruleDs, synRulesParts spec = some (litDs, ruleDs) ∧
        MapOk Macro.identOf litDs rs.literals ∧ MapOk (toRule m) ruleDs rs.rules := by
  refine ⟨?_, (env.get?_define m rs m).trans (if_pos rfl), fun k hk => (env.get?_define m rs k).trans (if_neg hk), ?_,
    (C04More.toRules_spec m spec rs).1 hr⟩
  · rw [toStatement_define_syntax n hrest, hr]
  · rintro own base rfl; rfl

example : IsList (lst [sy "my-if", myIfSpec]) [.sym "my-if" none, myIfSpec] ∧
    toRules "my-if" myIfSpec = .ok myIfRules ∧
    toStatement 1 myIfDef [[]] = (.ok (.syntaxDef "my-if" myIfRules none), [[("my-if", myIfRules)]]) :=
  ⟨rfl, myIf_toRules, (define_syntax_records_rules (rest := lst [sy "my-if", myIfSpec]) 0 [[]] rfl myIf_toRules).1⟩

/-- the same, from the WRITTEN form: a `(syntax-rules (literal…) rule…)` form whose literals are
identifiers `lits` and whose rules `toRule m` accepts as `rules` (for the patterns and templates of
the supported class: `C04More.toRule_spec`, `toPat_*`, `toTmpl_*`) records `⟨lits, rules⟩` -/
theorem define_syntax_records_written_rules {l₁ lm l : Loc} {rest spec : Datum} {more litDs ruleDs : List Datum}
    {m : String} {lits : List String} {rules : List (Pat × Tmpl)} (n : Nat) (env : SynEnv)
    (hrest : IsList rest (.sym m lm :: spec :: more))
    (hparts : synRulesParts spec = some (litDs, ruleDs)) (hl : MapOk Macro.identOf litDs lits)
    (hrules : MapOk (toRule m) ruleDs rules) :
    toStatement (n + 1) (.pair (.sym "define-syntax" l₁) rest l) env =
        (.ok (.syntaxDef m ⟨lits, rules⟩ l), env.define m ⟨lits, rules⟩) ∧
      (env.define m ⟨lits, rules⟩).get? m = some ⟨lits, rules⟩ :=
  have h := define_syntax_records_rules (l₁ := l₁) (l := l) n env hrest
    ((C04More.toRules_spec m spec ⟨lits, rules⟩).2 ⟨litDs, ruleDs, hparts, hl, hrules⟩)
  ⟨h.1, h.2.1⟩

example : synRulesParts myWhenSpec = some ([],
      [lst [lst [sy "when", sy "c", sy "e"], lst [sy "if", sy "c", sy "e", .prim (.bool false) none]]]) ∧
    MapOk (toRule "when")
      [lst [lst [sy "when", sy "c", sy "e"], lst [sy "if", sy "c", sy "e", .prim (.bool false) none]]]
      myWhenRules.rules ∧ MapOk Macro.identOf [] myWhenRules.literals ∧
    IsList (lst [sy "when", myWhenSpec]) [.sym "when" none, myWhenSpec] :=
  ⟨rfl, .cons rfl .nil, .nil, rfl⟩

/-- **shadowing a bundled derived form**: in an interpreter's syntax environment `[own, grammarScope]`
a `(define-syntax when …)` writes to `own`; `when` then resolves to the user's rules, the other
eight bundled forms still resolve to the bundled rules, and the bundled scope is the same constant
`grammarScope` — which is what every other (and every future) instance reads
(`C19.bundled_forms_constant`). -/
theorem define_syntax_shadows_bundled_form {l₁ lm l : Loc} {rest spec : Datum} {more : List Datum}
    {rs : Rules} (n : Nat) (own : List (String × Rules))
    (hrest : IsList rest (.sym "when" lm :: spec :: more)) (hr : toRules "when" spec = .ok rs) :
    toStatement (n + 1) (.pair (.sym "define-syntax" l₁) rest l) [own, grammarScope] =
        (.ok (.syntaxDef "when" rs l), [scopeInsert own "when" rs, grammarScope]) ∧
      SynEnv.get? [scopeInsert own "when" rs, grammarScope] "when" = some rs ∧
      (∀ kw ∈ C05.keywords, kw ≠ "when" → own.lookup kw = none →
        SynEnv.get? [scopeInsert own "when" rs, grammarScope] kw = grammarRules kw) ∧
      ∀ fuel b, (withStdlib fuel b).syn.get? "when" = grammarRules "when" := by
  obtain ⟨h1, h2, h3, h4, -⟩ := define_syntax_records_rules n [own, grammarScope] hrest hr
  rw [h4 own [grammarScope] rfl] at h1 h2 h3
  refine ⟨h1, h2, fun kw hkw hne hown => ?_, fun fuel b => ?_⟩
  · exact (h3 kw hne).trans ((get?_cons_of_lookup_none hown _).trans
      ((get?_cons_of_lookup_none rfl _).symm.trans (stdEnv_default kw hkw)))
  · rw [withStdlib_syn fuel b]
    exact stdEnv_default "when" (by decide +kernel)

example : toRules "when" myWhenSpec = .ok myWhenRules ∧
    SynEnv.get? [scopeInsert [] "when" myWhenRules, grammarScope] "when" = some myWhenRules ∧
    grammarRules "when" = some whenRules ∧ whenRules.rules ≠ myWhenRules.rules :=
  ⟨myWhen_toRules, rfl, when_rules, fun h => by simp [whenRules, myWhenRules, Pat.ofList] at h⟩

/-- **there is no code to evaluate**: `eval_ast` on the statement of a syntax definition returns no
value, whatever the fuel; it leaves the syntax scopes, the libraries and the output alone. What it
does change: the import phase is over, and — as the Rust `eval_expression_or_definition` does — the
keyword is ALSO bound, in the root frame of VALUES, to the transformer as a value
(`Value::Transformer`): a variable `m` defined before is overwritten. -/
theorem define_syntax_evaluates_nothing (fuel : Nat) (st : State) (m : String) (rs : Rules) (l : Loc) :
    evalAst fuel st (.syntaxDef m rs l) =
      (.ok none, { st with importEnd := true, store := st.store.define st.env m (.transformer rs) }) :=
  evalAst_syntaxDef fuel st m rs l

/-- **a malformed transformer spec** (not a `syntax-rules` list, a literal that is not an
identifier, a rule that is not `((m . pattern) template)`, a pattern with another keyword, a stray
`...` in a template: every way `toRules` fails) is a SYNTAX error, and the syntax environment is
returned unchanged: nothing was recorded. -/
theorem define_syntax_malformed_rules {l₁ lm l : Loc} {rest spec : Datum} {more : List Datum}
    {m : String} {e : SErr} (n : Nat) (env : SynEnv)
    (hrest : IsList rest (.sym m lm :: spec :: more)) (hr : toRules m spec = .error e) :
    toStatement (n + 1) (.pair (.sym "define-syntax" l₁) rest l) env = (.error e, env) ∧
      e.1 = .syntax := by
  refine ⟨?_, (C04More.front_errors_are_syntax (kw := m) (d := spec) (e := e)).1 hr⟩
  rw [toStatement_define_syntax n hrest, hr]

/-- the second rule is written with `_` for the keyword: rejected, located at the `_` -/
example : toRules "m" (lst [sy "syntax-rules", lst [], lst [lst [sy "m", sy "x"], sy "x"],
      lst [lst [.sym "_" (some (7, 8)), sy "x", sy "y"], sy "y"]]) = .error (.syntax, some (7, 8)) ∧
    toStatement 1 (lst [sy "define-syntax", sy "m", lst [sy "syntax-rules", lst [],
      lst [lst [sy "m", sy "x"], sy "x"],
      lst [lst [.sym "_" (some (7, 8)), sy "x", sy "y"], sy "y"]]]) [[("k", myIfRules)]] =
      (.error (.syntax, some (7, 8)), [[("k", myIfRules)]]) := ⟨rfl, rfl⟩

/-- **the other malformed definitions**: a name that is not an identifier is a syntax error located
at it; a missing name or a missing transformer spec is a syntax error (`UnexpectedEnd`); a dotted
form `(define-syntax . x)` is a syntax error. In every case the environment is unchanged. -/
theorem define_syntax_malformed_form {l₁ l : Loc} {rest : Datum} (n : Nat) (env : SynEnv) :
    (∀ k more, IsList rest (k :: more) → (∀ s l', k ≠ .sym s l') →
      toStatement (n + 1) (.pair (.sym "define-syntax" l₁) rest l) env = (.error (.syntax, k.loc), env)) ∧
    (∀ args, IsList rest args → (args = [] ∨ ∃ m lm, args = [.sym m lm]) →
      toStatement (n + 1) (.pair (.sym "define-syntax" l₁) rest l) env = (.error (.syntax, none), env)) ∧
    (rest.isListy = false →
      toStatement (n + 1) (.pair (.sym "define-syntax" l₁) rest l) env = (.error (.syntax, none), env)) :=
  ⟨fun _ _ h hk => toStatement_define_syntax_bad_name n h hk,
   fun _ h hs => toStatement_define_syntax_short n h hs,
   fun h => congrFun (toStatement_dotted n h) env⟩

example : toStatement 1 (lst [sy "define-syntax", .prim (.int 5) (some (1, 16)), myIfSpec]) [[]] =
      (.error (.syntax, some (1, 16)), [[]]) ∧
    toStatement 1 (lst [sy "define-syntax", sy "m"]) [[]] = (.error (.syntax, none), [[]]) ∧
    toStatement 1 (lst [sy "define-syntax"]) [[]] = (.error (.syntax, none), [[]]) ∧
    toStatement 1 (.pair (sy "define-syntax") (sy "m") none) [[]] = (.error (.syntax, none), [[]]) :=
  ⟨rfl, rfl, rfl, rfl⟩

/-- … and at the level of the interpreter: a `define-syntax` form that is rejected leaves the WHOLE
interpreter state as it was (nothing is evaluated, nothing recorded) -/
theorem define_syntax_malformed_no_effect {l₁ lm l : Loc} {rest spec : Datum} {more : List Datum}
    {m : String} {e : SErr} (fuel : Nat) (st : State)
    (hrest : IsList rest (.sym m lm :: spec :: more)) (hr : toRules m spec = .error e) :
    evalForm fuel st (.pair (.sym "define-syntax" l₁) rest l) = (.error e, st) := by
  obtain ⟨n, hn⟩ := xformFuel_succ (.pair (.sym "define-syntax" l₁) rest l)
  apply evalForm_error
  rw [hn]
  exact (define_syntax_malformed_rules n st.syn hrest hr).1

example : toRules "m" (lst [sy "syntax-rules", lst [num 1]]) = .error (.syntax, none) := rfl

/-! ## 2. A macro use is expanded by the first matching rule, and the result transformed again -/

/-- **one step, for ANY rule set** (no class hypothesis). In a syntax environment where `kw` — not
one of the eight core keywords, which `toStatement` tests first — resolves to `rs`, the list form
`(kw . rest)` is transformed as follows: `Macro.transform` is run on the form without its keyword,
located at the use, with the rules `rs`; if it returns `d'`, the statement of the use is the
statement of `d'` (one unit of fuel less, same environment); if it fails, that error is the
outcome and the environment is unchanged. -/
theorem macro_use_one_step {kw : String} {l₁ l : Loc} {rest : Datum} {env : SynEnv} {rs : Rules}
    (n : Nat) (hkw : kw ∉ coreKeywords) (hrest : rest.isListy = true) (henv : env.get? kw = some rs) :
    toStatement (n + 1) (.pair (.sym kw l₁) rest l) env =
      match Macro.transform (Macro.matchFuel (.pair (.sym kw l₁) rest l) + n) rs (rest.withLoc l) with
      | .ok d' => toStatement n d' env
      | .error e => (.error e, env) :=
  toStatement_macro n hrest hkw henv

/-- `(my-if p then 1)` is a use of the second rule -/
private theorem myIf_step : Step [[("my-if", myIfRules)]] (lst [sy "my-if", sy "p", sy "then", num 1])
    (lst [sy "if", sy "p", num 1, .prim (.bool false) none]) :=
  step_of_spec (by decide +kernel) rfl rfl myIf_supported rfl

example : toStatement 100 (lst [sy "my-if", sy "p", sy "then", num 1]) [[("my-if", myIfRules)]] =
    toStatement 99 (lst [sy "if", sy "p", num 1, .prim (.bool false) none]) [[("my-if", myIfRules)]] :=
  toStatement_step myIf_step 99

/-- … in terms of `C04.transform_first_match`: when `(p, t)` is the FIRST rule of `rs` whose pattern
matches the use (every earlier rule fails), with table `σ`, the use is transformed as the template
`t` filled with `σ` (`Macro.fill`: `subst` after the ellipsis test), located at the use. -/
theorem macro_use_first_match {kw : String} {l₁ l : Loc} {rest : Datum} {env : SynEnv} {rs : Rules}
    {t : Tmpl} {σ : Subst} (n : Nat) (hkw : kw ∉ coreKeywords) (hrest : rest.isListy = true)
    (henv : env.get? kw = some rs)
    (hfm : C04.FirstMatch (Macro.matchFuel (.pair (.sym kw l₁) rest l) + n) rs.literals rs.rules
      (rest.withLoc l) t σ) :
    toStatement (n + 1) (.pair (.sym kw l₁) rest l) env =
      match fill (Macro.matchFuel (.pair (.sym kw l₁) rest l) + n) t σ l with
      | .ok d' => toStatement n d' env
      | .error e => (.error e, env) := by
  rw [toStatement_macro n hrest hkw henv, Macro.transform, C04.transform_first_match hfm, withLoc_loc]
  rfl

/-- `(my-if p then 1)`: the first rule fails, the second matches with `c ↦ p`, `a ↦ 1` -/
example : C04.FirstMatch (Macro.matchFuel (lst [sy "my-if", sy "p", sy "then", num 1]) + 0)
      myIfRules.literals myIfRules.rules ((lst [sy "p", sy "then", num 1]).withLoc none)
      myIfRules.rules[1].2 [("c", sy "p", []), ("a", num 1, [])] ∧
    fill (Macro.matchFuel (lst [sy "my-if", sy "p", sy "then", num 1]) + 0) myIfRules.rules[1].2
      [("c", sy "p", []), ("a", num 1, [])] none = .ok (lst [sy "if", sy "p", num 1, .prim (.bool false) none]) :=
  ⟨⟨[myIfRules.rules[0]], _, [], rfl, List.forall_mem_singleton.2 ⟨_, rfl⟩, rfl⟩, rfl⟩

/-- … and when NO rule matches (`C04.transform_no_match`) the use is a syntax error -/
theorem macro_use_no_match {kw : String} {l₁ l : Loc} {rest : Datum} {env : SynEnv} {rs : Rules}
    (n : Nat) (hkw : kw ∉ coreKeywords) (hrest : rest.isListy = true) (henv : env.get? kw = some rs)
    (hnm : C04.NoMatch (Macro.matchFuel (.pair (.sym kw l₁) rest l) + n) rs.literals rs.rules
      (rest.withLoc l)) :
    toStatement (n + 1) (.pair (.sym kw l₁) rest l) env = (.error (.syntax, none), env) := by
  rw [toStatement_macro n hrest hkw henv, Macro.transform, C04.transform_no_match hnm]

/-- `(my-if p than 1)`: `than` is not the literal `then` -/
example : C04.NoMatch (Macro.matchFuel (lst [sy "my-if", sy "p", sy "than", num 1]) + 0)
      myIfRules.literals myIfRules.rules ((lst [sy "p", sy "than", num 1]).withLoc none) :=
  List.forall_mem_cons.2 ⟨⟨_, rfl⟩, List.forall_mem_singleton.2 ⟨_, rfl⟩⟩

/-- **A MACRO USE IS EXPANDED BY THE FIRST MATCHING RULE** (supported class of `C04.lean`). In a
syntax environment where `kw` resolves to a supported rule set `rs`, for every fuel: EITHER some
rule `(p, t)` of `rs` declaratively matches the use (the form without its keyword) with bindings
`β`, no earlier rule matches, and the statement of the use is the statement — one unit of fuel
less, same environment — of `specInst t β`, the DECLARATIVE instantiation of that rule's template
(every pattern variable replaced by what it matched, every ellipsis sub-template repeated once per
matched item, in order; nodes built from the template are located at the use); OR no rule matches,
and the use is a syntax error, the environment unchanged. Nothing else can happen. -/
theorem macro_use_expands_by_first_rule {kw : String} {l₁ l : Loc} {rest : Datum} {env : SynEnv}
    {rs : Rules} (n : Nat) (hkw : kw ∉ coreKeywords) (hrest : rest.isListy = true)
    (henv : env.get? kw = some rs) (hs : SupportedRules rs = true) :
    (∃ pre p t post β, rs.rules = pre ++ (p, t) :: post ∧
      (∀ q ∈ pre, specMatch rs.literals q.1 (rest.withLoc l) = none) ∧
      specMatch rs.literals p (rest.withLoc l) = some β ∧
      toStatement (n + 1) (.pair (.sym kw l₁) rest l) env = toStatement n (specInst t β l) env) ∨
    ((∀ q ∈ rs.rules, specMatch rs.literals q.1 (rest.withLoc l) = none) ∧
      toStatement (n + 1) (.pair (.sym kw l₁) rest l) env = (.error (.syntax, none), env)) := by
  rw [toStatement_macro n hrest hkw henv]
  have hf : Macro.matchFuel (rest.withLoc l) ≤ Macro.matchFuel (.pair (.sym kw l₁) rest l) + n :=
    Nat.le_trans matchFuel_use_le (Nat.le_add_right _ _)
  rcases C04.no_silent_misexpansion_matchFuel hs hf with
    ⟨pre, p, t, post, β, h1, h2, h3, h4⟩ | ⟨h1, h2⟩
  · exact .inl ⟨pre, p, t, post, β, h1, h2, h3, by rw [h4, withLoc_loc]⟩
  · exact .inr ⟨h1, by rw [h2]⟩

/-- `(my-if p then 1 else 2)`: the first rule; `(my-if p then 1)`: the second; the literal `then`
matches only itself: `(my-if p than 1)` matches no rule -/
example :
    specMatch ["then", "else"] myIfRules.rules[0].1 (lst [sy "p", sy "then", num 1, sy "else", num 2]) =
      some [("c", [sy "p"]), ("a", [num 1]), ("b", [num 2])] ∧
    specInst myIfRules.rules[0].2 [("c", [sy "p"]), ("a", [num 1]), ("b", [num 2])] none =
      lst [sy "if", sy "p", num 1, num 2] ∧
    specMatch ["then", "else"] myIfRules.rules[0].1 (lst [sy "p", sy "then", num 1]) = none ∧
    specMatch ["then", "else"] myIfRules.rules[1].1 (lst [sy "p", sy "then", num 1]) =
      some [("c", [sy "p"]), ("a", [num 1])] ∧
    toStatement 100 (lst [sy "my-if", sy "p", sy "then", num 1, sy "else", num 2]) [[("my-if", myIfRules)]] =
      (.ok (.expr (.cond (.sym "p" none) (.prim (.int 1) none) (some (.prim (.int 2) none)) none)),
        [[("my-if", myIfRules)]]) ∧
    toStatement 100 (lst [sy "my-if", sy "p", sy "than", num 1]) [[("my-if", myIfRules)]] =
      (.error (.syntax, none), [[("my-if", myIfRules)]]) :=
  ⟨rfl, rfl, rfl, rfl, rfl, rfl⟩

/-- **a use that matches no rule is reported without evaluating anything**: the form is a syntax
error of `Interpreter::eval`'s loop and the whole interpreter state — store (hence output), syntax
scopes, libraries — is exactly as before. -/
theorem macro_use_no_match_no_effect {kw : String} {l₁ l : Loc} {rest : Datum} {rs : Rules}
    (fuel : Nat) (st : State) (hkw : kw ∉ coreKeywords) (hrest : rest.isListy = true)
    (henv : st.syn.get? kw = some rs) (hs : SupportedRules rs = true)
    (hnone : ∀ q ∈ rs.rules, specMatch rs.literals q.1 (rest.withLoc l) = none) :
    evalForm fuel st (.pair (.sym kw l₁) rest l) = (.error (.syntax, none), st) := by
  obtain ⟨n, hn⟩ := xformFuel_succ (.pair (.sym kw l₁) rest l)
  apply evalForm_error
  rw [hn]
  rcases macro_use_expands_by_first_rule (l₁ := l₁) (l := l) n hkw hrest henv hs with
    ⟨pre, p, t, post, β, h1, -, h3, -⟩ | ⟨-, h2⟩
  · have := hnone (p, t) (by rw [h1]; simp)
    rw [h3] at this; cases this
  · exact h2

example : ∀ q ∈ myIfRules.rules, specMatch myIfRules.literals q.1
    ((lst [sy "p", sy "than", num 1]).withLoc none) = none := by decide +kernel

/-! ## 3. The expansion is expanded again -/

/-- **one step** (`MacroProgram.Step env d d'`: `d` is a use of a keyword bound in `env`, and the
expander turns it into `d'`): the statement of `d` is the statement of `d'`, one unit of fuel less.
Whatever `d'` is — a core form, a call, or AGAIN a macro use, of the same macro, of another user
macro, of a bundled form: `toStatement` is simply run on it. -/
theorem expansion_is_transformed_again {env : SynEnv} {d d' : Datum} (h : Step env d d') (n : Nat) :
    toStatement (n + 1) d env = toStatement n d' env :=
  toStatement_step h n

example : Step [[("my-if", myIfRules)]] (lst [sy "my-if", sy "p", sy "then", num 1])
    (lst [sy "if", sy "p", num 1, .prim (.bool false) none]) :=
  myIf_step

/-- for a supported rule set the step is the declarative expansion -/
theorem step_of_supported {env : SynEnv} {kw : String} {l₁ l : Loc} {rest d' : Datum} {rs : Rules}
    (hkw : kw ∉ coreKeywords) (hrest : rest.isListy = true) (henv : env.get? kw = some rs)
    (hs : SupportedRules rs = true)
    (h : specTransform rs.literals rs.rules (rest.withLoc l) = .ok d') :
    Step env (.pair (.sym kw l₁) rest l) d' :=
  step_of_spec hkw hrest henv hs h

/-- a use of a BUNDLED derived form is a step, in every environment that resolves the nine keywords
to the bundled rules (`StdEnv`): the shape theorems of `C05Shapes.lean`, which are stated for
`expand1`, give its result -/
theorem step_of_bundled {env : SynEnv} {kw : String} {l₁ l : Loc} {rest d' : Datum}
    (hstd : StdEnv env) (hkw : kw ∈ C05.keywords) (hrest : rest.isListy = true)
    (hxp : ∀ fuel, Macro.matchFuel (rest.withLoc l) ≤ fuel → expand1 fuel kw (rest.withLoc l) = .ok d') :
    Step env (.pair (.sym kw l₁) rest l) d' :=
  step_bundled (hstd kw hkw) (derived_not_core hkw) hrest hxp

/-- **THE EXPANSION IS EXPANDED AGAIN, TO THE END**: if `d` reaches `d'` by `k` expansion steps
(`Steps env k d d'`: each step applied to the result of the one before, whatever macro — user or
bundled — it is a use of), the statement of `d` with fuel `n + k` is the statement of `d'` with
fuel `n`: the SAME outcome (statement or error) and the SAME environment. In particular when `d'` is
the fully expanded form (not a macro use any more), the statement of `d` is the statement of the
fully expanded datum, and the fuel needed is that of the expanded datum PLUS ONE UNIT PER
EXPANSION STEP. -/
theorem expansion_is_reexpanded {env : SynEnv} {k : Nat} {d d' : Datum} (h : Steps env k d d')
    (n : Nat) : toStatement (n + k) d env = toStatement n d' env :=
  toStatement_steps h n

/-- the fuel bound, for the fuel the interpreter runs the transformer with
(`xformFuel d = 8 * d.size + 4000`): a form that reaches `d'` by `k ≤ xformFuel d` steps is
transformed as `d'` with `xformFuel d - k` units; up to 4000 steps leave `d'` at least
`8 * d.size` units. -/
theorem expansion_fuel_bound {env : SynEnv} {k : Nat} {d d' : Datum} (h : Steps env k d d')
    (hk : k ≤ xformFuel d) :
    toStatement (xformFuel d) d env = toStatement (xformFuel d - k) d' env ∧
      (k ≤ 4000 → 8 * d.size ≤ xformFuel d - k) :=
  ⟨toStatement_steps_sub h hk, fun h4 => by unfold xformFuel; omega⟩

/-- the RECURSIVE macro `my-or`: `(my-or (my-or 5))` reaches `5` in two steps (the second rule,
twice); `(my-or 1 2 3)` reaches `(if 1 1 (my-or 2 3))` in one step, and the inner use is expanded
when the `if` form is transformed -/
example : Steps [[("my-or", myOrRules)]] 2 (lst [sy "my-or", lst [sy "my-or", num 5]]) (num 5) ∧
    toStatement 100 (lst [sy "my-or", lst [sy "my-or", num 5]]) [[("my-or", myOrRules)]] =
      (.ok (.expr (.prim (.int 5) none)), [[("my-or", myOrRules)]]) ∧
    Steps [[("my-or", myOrRules)]] 1 (lst [sy "my-or", num 1, num 2, num 3])
      (lst [sy "if", num 1, num 1, lst [sy "my-or", num 2, num 3]]) ∧
    toStatement 100 (lst [sy "my-or", num 1, num 2, num 3]) [[("my-or", myOrRules)]] =
      (.ok (.expr (.cond (.prim (.int 1) none) (.prim (.int 1) none)
        (some (.cond (.prim (.int 2) none) (.prim (.int 2) none) (some (.prim (.int 3) none)) none)) none)),
        [[("my-or", myOrRules)]]) := by
  have hkw : "my-or" ∉ coreKeywords := by decide +kernel
  refine ⟨?h₁, (toStatement_steps ?h₁ 98).trans rfl, ?h₂, (toStatement_steps ?h₂ 99).trans rfl⟩
  · exact .step (step_of_supported hkw rfl rfl myOr_supported rfl)
      (.step (step_of_supported hkw rfl rfl myOr_supported rfl) (.refl _))
  · exact .step (step_of_supported hkw rfl rfl myOr_supported rfl) (.refl _)

/-- a user macro that expands to a use of a BUNDLED form: with `(my-w c e) ⇒ (when c e)`, the use
`(my-w p 1)` reaches `(if p (begin 1))` in two steps, in every environment with the bundled forms -/
example (env : SynEnv) (hstd : StdEnv env)
    (hm : env.get? "my-w" = some ⟨[], [(plist [.ident "c", .ident "e"],
      .list [(.ident "when", false), (.ident "c", false), (.ident "e", false)])]⟩) :
    Steps env 2 (lst [sy "my-w", sy "p", num 1])
      (lst [sy "if", sy "p", lst [sy "begin", num 1]]) :=
  .step (step_of_supported (by decide +kernel) rfl hm (by decide +kernel) rfl)
    (.step (step_of_bundled hstd (by decide +kernel) rfl (fun fuel hf =>
      C05.when_shape (test := sy "p") (results := [num 1]) rfl (List.cons_ne_nil _ _) hf)) (.refl _))

/-- **A MACRO THAT EXPANDS TO ITSELF RUNS OUT OF FUEL**: if a form expands, in one step, to itself,
`toStatement` returns the model's fuel error for EVERY amount of fuel (and leaves the environment as
it was). The Rust `transform_to_statement` has no fuel: it calls itself on the expansion without
bound — the recursion ends only when the stack does (a crash of the process, not an error value);
the fuel error is the model's counterpart of that. -/
theorem self_expansion_runs_out_of_fuel {env : SynEnv} {d : Datum} (h : Step env d d) :
    ∀ n, toStatement n d env = (.error (.fuel, none), env) :=
  toStatement_step_self h h

/-- `(define-syntax loop (syntax-rules () ((loop) (loop))))`: every use `(loop)` expands to the form
`(loop)` located at the use, which expands to itself -/
theorem loop_steps {env : SynEnv} (henv : env.get? "loop" = some loopRules) (l₁ l₂ l : Loc) :
    Step env (.pair (.sym "loop" l₁) (.nil l₂) l) (loopForm l) ∧ Step env (loopForm l) (loopForm l) :=
  ⟨step_of_supported (by decide +kernel) rfl henv rfl rfl, step_of_supported (by decide +kernel) rfl henv rfl rfl⟩

/-- … hence a use of `loop` runs out of any amount of fuel -/
theorem loop_runs_out_of_fuel {env : SynEnv} (henv : env.get? "loop" = some loopRules)
    (l₁ l₂ l : Loc) (n : Nat) :
    toStatement n (.pair (.sym "loop" l₁) (.nil l₂) l) env = (.error (.fuel, none), env) :=
  toStatement_step_self (loop_steps henv l₁ l₂ l).1 (loop_steps henv l₁ l₂ l).2 n

/-- closed instance: after the definition, `(loop)` with the interpreter's fuel, and with 3 units -/
example : toStatement 1 loopDef [[]] = (.ok (.syntaxDef "loop" loopRules none), [[("loop", loopRules)]]) ∧
    toStatement (xformFuel (loopForm none)) (loopForm none) [[("loop", loopRules)]] =
      (.error (.fuel, none), [[("loop", loopRules)]]) ∧ loopForm none = lst [sy "loop"] ∧
    toStatement 3 (lst [sy "loop"]) [[("loop", loopRules)]] = (.error (.fuel, none), [[("loop", loopRules)]]) :=
  ⟨(define_syntax_records_rules (rest := lst [sy "loop", loopSpec]) 0 [[]] rfl loop_toRules).1,
    loop_runs_out_of_fuel (env := [[("loop", loopRules)]]) rfl none none none _, rfl,
    loop_runs_out_of_fuel (env := [[("loop", loopRules)]]) rfl none none none 3⟩

/-! ## 4. A program that defines and uses a macro -/

/-- **the definition, as a form of a program**: `Interpreter::eval`'s loop on an accepted
`(define-syntax m spec)` form gives no value; afterwards `m` resolves to `rs` in the interpreter's
syntax scopes (innermost scope, see `define_syntax_records_rules`), the import phase is over, the
root frame binds `m` to the transformer value; everything else is as before. -/
theorem define_syntax_form {l₁ lm l : Loc} {rest spec : Datum} {more : List Datum} {m : String}
    {rs : Rules} (fuel : Nat) (st : State)
    (hrest : IsList rest (.sym m lm :: spec :: more)) (hr : toRules m spec = .ok rs) :
    evalForm fuel st (.pair (.sym "define-syntax" l₁) rest l) =
      (.ok none, { st with syn := st.syn.define m rs, importEnd := true,
                           store := st.store.define st.env m (.transformer rs) }) := by
  obtain ⟨n, hn⟩ := xformFuel_succ (.pair (.sym "define-syntax" l₁) rest l)
  have h := (define_syntax_records_rules (l₁ := l₁) (l := l) n st.syn hrest hr).1
  rw [← hn] at h
  rw [evalForm_ok h, evalAst_syntaxDef]

/-- **forms that use macros are run as the statements of their expansions**: if every form of `ds`
reaches (by expansion steps in the interpreter's syntax environment, possibly none) a datum that is
transformed into the corresponding statement of `sts` (`UsesAs`), then running the forms is running
`sts` with `eval_ast`, statement by statement (`ProgramText.runStmts`: first error ends the run). -/
theorem forms_run_as_expansions (fuel : Nat) (st : State) (ds : List Datum) (sts : List Statement)
    (last : Option Value) (h : UsesAs st.syn ds sts) :
    runForms fuel st ds last = runStmts fuel st sts last :=
  runForms_usesAs fuel ds sts st last h

/-- **A PROGRAM `(define-syntax m …)` FOLLOWED BY FORMS THAT USE `m`.** Let the definition be
accepted with rules `rs`, and let every following form reach — by expansion steps in the syntax
environment that has `m ↦ rs` recorded (steps of `m`, of other macros of the environment, of bundled
forms; by (2) each step is the first matching rule's template instantiated) — a datum transformed
into the corresponding statement of `sts`. Then the forms are run as follows: the definition
evaluates to nothing and only records `m` (syntax scope, and the transformer value in the root
frame); from that state the statements `sts` OF THE EXPANSIONS are evaluated by `eval_ast` one
after another, the first error ending the run. The uses themselves leave no trace: the run is that
of the program in which every use is replaced by its expansion. -/
theorem user_macro_program {l₁ lm l : Loc} {rest spec : Datum} {more : List Datum} {m : String}
    {rs : Rules} (fuel : Nat) (st : State) (ds : List Datum) (sts : List Statement)
    (last : Option Value)
    (hrest : IsList rest (.sym m lm :: spec :: more)) (hr : toRules m spec = .ok rs)
    (huses : UsesAs (st.syn.define m rs) ds sts) :
    runForms fuel st (.pair (.sym "define-syntax" l₁) rest l :: ds) last =
        runStmts fuel { st with syn := st.syn.define m rs, importEnd := true,
                                store := st.store.define st.env m (.transformer rs) } sts none ∧
      runForms fuel st (.pair (.sym "define-syntax" l₁) rest l :: ds) last =
        runStmts fuel { st with syn := st.syn.define m rs } (.syntaxDef m rs l :: sts) last := by
  rw [runForms, define_syntax_form fuel st hrest hr, runStmts, evalAst_syntaxDef]
  exact ⟨runForms_usesAs fuel ds sts _ none huses, runForms_usesAs fuel ds sts _ none huses⟩

/-- **down to the reference semantics** (composition with `C17More`/`C01`): when the statements of
the expansions are top-level expressions and definitions, and the run of the program does not end
in the model's fuel error, its outcome is the one the REFERENCE run (`ProgramText.RefRuns`: each
statement given the outcome `Ref.evalTop` assigns to it, in order, an error ending the program) of
the EXPANDED statements has from the store in which the definition has bound `m` — same value, or
same error kind (`AgreeKind`) — and the final stores agree. The macro uses have been compiled away
entirely. -/
theorem user_macro_program_refines_reference {l₁ lm l : Loc} {rest spec : Datum} {more : List Datum}
    {m : String} {rs : Rules} (fuel : Nat) (st st' : State) (ds : List Datum) (sts : List Statement)
    (last : Option Value) (r : Except SErr (Option Value))
    (hrest : IsList rest (.sym m lm :: spec :: more)) (hr : toRules m spec = .ok rs)
    (huses : UsesAs (st.syn.define m rs) ds sts) (hcore : ∀ s ∈ sts, CoreShape s)
    (hrun : runForms fuel st (.pair (.sym "define-syntax" l₁) rest l :: ds) last = (r, st'))
    (hnf : Eval.NotFuel r) :
    ∃ r', RefRuns st.env (st.store.define st.env m (.transformer rs)).erase sts none r' st'.store.erase ∧
      AgreeKind r r' := by
  rw [(user_macro_program fuel st ds sts last hrest hr huses).1] at hrun
  exact runStmts_refines_ref fuel sts _ st' none r hcore hrun hnf

/-- the same for a program TEXT: if the reader finds the definition followed by the forms `ds`
(and reads the text to its end), `Interpreter::eval` on the text is that run -/
theorem user_macro_program_text {l₁ lm l : Loc} {rest spec : Datum} {more : List Datum} {m : String}
    {rs : Rules} (fuel : Nat) (st : State) (text : List Char) (ds : List Datum) (sts : List Statement)
    (hforms : formsOf text = (.pair (.sym "define-syntax" l₁) rest l :: ds, none))
    (hrest : IsList rest (.sym m lm :: spec :: more)) (hr : toRules m spec = .ok rs)
    (huses : UsesAs (st.syn.define m rs) ds sts) :
    evalText fuel st text =
      runStmts fuel { st with syn := st.syn.define m rs, importEnd := true,
                              store := st.store.define st.env m (.transformer rs) } sts none := by
  rw [evalText_of_read (congrArg Prod.snd hforms), congrArg Prod.fst hforms]
  exact (user_macro_program fuel st ds sts none hrest hr huses).1

/-- **uses replaced by their expansions**: two lists of forms that lead to the same statements — for
instance forms with macro uses, and the same forms with the uses replaced by their expansions, when
these are transformed into the same statements with their own fuel — are run alike -/
theorem uses_replaced_by_expansions (fuel : Nat) (st : State) (ds ds' : List Datum)
    (sts : List Statement) (last : Option Value)
    (h : UsesAs st.syn ds sts) (h' : UsesAs st.syn ds' sts) :
    runForms fuel st ds last = runForms fuel st ds' last := by
  rw [runForms_usesAs fuel ds sts st last h, runForms_usesAs fuel ds' sts st last h']

set_option maxRecDepth 100000 in
/-- the program `(define-syntax my-if …) (my-if #t then 1 else 2) (my-if #f then 1)` in an
interpreter whose own syntax scope is empty: the hypotheses of `user_macro_program` hold, with the
statements of `(if #t 1 2)` and `(if #f 1 #f)` -/
example : IsList (lst [sy "my-if", myIfSpec]) [.sym "my-if" none, myIfSpec] ∧
    toRules "my-if" myIfSpec = .ok myIfRules ∧
    UsesAs (SynEnv.define [[]] "my-if" myIfRules)
      [lst [sy "my-if", .prim (.bool true) none, sy "then", num 1, sy "else", num 2],
       lst [sy "my-if", .prim (.bool false) none, sy "then", num 1]]
      [.expr (.cond (.prim (.bool true) none) (.prim (.int 1) none) (some (.prim (.int 2) none)) none),
       .expr (.cond (.prim (.bool false) none) (.prim (.int 1) none) (some (.prim (.bool false) none)) none)] :=
  have hkw : "my-if" ∉ coreKeywords := by decide +kernel
  ⟨rfl, myIf_toRules,
   ⟨1, lst [sy "if", .prim (.bool true) none, num 1, num 2],
      .step (step_of_supported hkw rfl rfl myIf_supported rfl) (.refl _), Nat.succ_pos _, rfl⟩,
   ⟨1, lst [sy "if", .prim (.bool false) none, num 1, .prim (.bool false) none],
      .step (step_of_supported hkw rfl rfl myIf_supported rfl) (.refl _), Nat.succ_pos _, rfl⟩, trivial⟩

/-- the statements of the two expansions are top-level expressions (`CoreShape`) -/
example : ∀ s ∈ [Statement.expr (.cond (.prim (.bool true) none) (.prim (.int 1) none) (some (.prim (.int 2) none)) none),
    .expr (.cond (.prim (.bool false) none) (.prim (.int 1) none) (some (.prim (.bool false) none)) none)],
    CoreShape s :=
  List.forall_mem_cons.2 ⟨trivial, List.forall_mem_singleton.2 trivial⟩

set_option maxRecDepth 100000 in
/-- … and the two replaced-by-expansion forms lead to the same statements (no step) -/
example : UsesAs (SynEnv.define [[]] "my-if" myIfRules)
      [lst [sy "if", .prim (.bool true) none, num 1, num 2]]
      [.expr (.cond (.prim (.bool true) none) (.prim (.int 1) none) (some (.prim (.int 2) none)) none)] :=
  ⟨⟨0, _, .refl _, Nat.zero_le _, rfl⟩, trivial⟩

/-- a program that defines `loop` and uses it: the definition is recorded, the use runs out of the
transformer's fuel, nothing of the use is evaluated -/
theorem loop_program_runs_out_of_fuel (fuel : Nat) (st : State) (last : Option Value) :
    runForms fuel st [loopDef, lst [sy "loop"]] last =
      (.error (.fuel, none),
        { st with syn := st.syn.define "loop" loopRules, importEnd := true,
                  store := st.store.define st.env "loop" (.transformer loopRules) }) := by
  have hdef : evalForm fuel st loopDef =
      (.ok none, { st with syn := st.syn.define "loop" loopRules, importEnd := true,
                           store := st.store.define st.env "loop" (.transformer loopRules) }) :=
    define_syntax_form (l₁ := none) (lm := none) (l := none) (more := [])
      (rest := lst [sy "loop", loopSpec]) (m := "loop") (spec := loopSpec) (rs := loopRules) fuel st rfl rfl
  have huse : ∀ st' : State, st'.syn = st.syn.define "loop" loopRules →
      evalForm fuel st' (lst [sy "loop"]) = (.error (.fuel, none), st') := fun st' h =>
    evalForm_error (loop_runs_out_of_fuel (env := st'.syn) (h ▸ (SynEnv.get?_define _ _ _ _).trans (if_pos rfl)) none none none _)
  simp only [runForms, hdef]
  rw [huse _ rfl]

end Ruschm.C04Program
