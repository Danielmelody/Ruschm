/-
Property C11, the rules by which library code is run symbolically. The first-order procedures only read the
store (its vectors `V`, and only `equal?` does) and only append frames to it: `PEval V b ρ bs e r` says that `e`
has outcome `r` in EVERY store with vectors `V` in which frame `ρ` sees `bs` in front of the library frame `b`.
The rules COMPUTE `r` from the outcomes of the parts, so a body is run once, for arbitrary arguments, and
compared with the specification afterwards. Why a layer of its own: every statement of C11 ends in `σ.Ext σ'`,
and each rule composes the extensions of its premises, so no proof names an intermediate store. `PApp`
quantifies over store and caller: one fact per procedure serves at every call site. `Opr` looks an operator up
without a store: a name is a parameter or, by a closed `decide +kernel` condition, a name of the library frame.
-/
import RuschmProofs.ListLibStore
import RuschmSpec.ListMore

namespace Ruschm.ListLib
open Ruschm Ruschm.Eval Ruschm.ListSpec Ruschm.Store

/-! ## running library code symbolically: store-polymorphic rules -/

def EvalsE (σ : Store) (ρ : Nat) (e : Expr) (r : Except SErr Value) : Prop :=
  ∃ σ', Evals σ ρ e r σ' ∧ σ.Ext σ'
def EvalsArgsE (σ : Store) (ρ : Nat) (es : List Expr) (r : Except SErr (List Value)) : Prop :=
  ∃ σ', EvalsArgs σ ρ es r σ' ∧ σ.Ext σ'
def AppliesE (σ : Store) (p : Value) (args : List Value) (env : Nat) (r : Except SErr Value) : Prop :=
  ∃ σ', Applies σ p args env r σ' ∧ σ.Ext σ'
def TailRunsE (σ : Store) (ρ : Nat) (e : Expr) (env : Nat) (r : Except SErr Value) : Prop :=
  ∃ σ', TailRuns σ ρ e env r σ' ∧ σ.Ext σ'

def PEval (V : Array VecCell) (b ρ : Nat) (bs : List (String × Value)) (e : Expr) (r : Except SErr Value) : Prop :=
  ∀ σ, Scope b ρ bs σ → σ.vecs = V → EvalsE σ ρ e r
def PArgs (V : Array VecCell) (b ρ : Nat) (bs : List (String × Value)) (es : List Expr)
    (r : Except SErr (List Value)) : Prop :=
  ∀ σ, Scope b ρ bs σ → σ.vecs = V → EvalsArgsE σ ρ es r
def PTail (V : Array VecCell) (b ρ : Nat) (bs : List (String × Value)) (e : Expr) (r : Except SErr Value) : Prop :=
  ∀ σ env, Scope b ρ bs σ → σ.vecs = V → TailRunsE σ ρ e env r
/-- in every store with the library frame `b` and the vectors `V`, whoever the caller is -/
def PApp (V : Array VecCell) (b : Nat) (p : Value) (args : List Value) (r : Except SErr Value) : Prop :=
  ∀ σ env, LibFrame σ b → σ.vecs = V → AppliesE σ p args env r

/-- the outcome of evaluating an operand list: the first error, else all the values -/
def consR : Except SErr Value → Except SErr (List Value) → Except SErr (List Value)
  | .error e, _ => .error e
  | .ok _, .error e => .error e
  | .ok v, .ok vs => .ok (v :: vs)

/-! two monad laws of `Except` in the `.bind` spelling, the one in which the rules write their outcomes -/

theorem bind_ok {α β ε} (v : α) (f : α → Except ε β) : (Except.ok v).bind f = f v := rfl
theorem bind_assoc {α β γ ε} (x : Except ε α) (f : α → Except ε β) (g : β → Except ε γ) :
    (x.bind f).bind g = x.bind fun v => (f v).bind g := by cases x <;> rfl

/-- the name `f` in operator position names the procedure `fv`, in every store of the scope -/
structure Opr (b ρ : Nat) (bs : List (String × Value)) (f : String) (fv : Value) : Prop where
  proc : (procArity fv).isSome
  sees : ∀ σ, Scope b ρ bs σ → σ.lookup ρ f = some fv

section rules
variable {V : Array VecCell} {b ρ : Nat} {bs : List (String × Value)}

theorem PEval.congr {e r r'} (h : PEval V b ρ bs e r) (hr : r = r') : PEval V b ρ bs e r' := hr ▸ h
theorem PApp.congr {p args r r'} (h : PApp V b p args r) (hr : r = r') : PApp V b p args r' := hr ▸ h

theorem PEval.var {y l v} (hy : bs.lookup y = some v) : PEval V b ρ bs (.sym y l) (.ok v) :=
  fun σ h _ => ⟨σ, Evals.sym (h.var hy), .refl σ⟩

theorem PEval.opr {f l fv} (ho : Opr b ρ bs f fv) : PEval V b ρ bs (.sym f l) (.ok fv) :=
  fun σ h _ => ⟨σ, Evals.sym (ho.sees σ h), .refl σ⟩

theorem PEval.prim {p l v} (hp : evalPrim p = .ok v) : PEval V b ρ bs (.prim p l) (.ok v) :=
  fun σ _ _ => ⟨σ, Evals.prim hp, .refl σ⟩

theorem PEval.nil {l l'} : PEval V b ρ bs (.quote (.nil l') l) (.ok .nil) :=
  fun σ _ _ => ⟨σ, Evals.quote (by rw [readLiteral]), .refl σ⟩

theorem PArgs.nil : PArgs V b ρ bs [] (.ok []) := fun σ _ _ => ⟨σ, EvalsArgs.nil, .refl σ⟩

theorem PArgs.cons {a as ra ras} (ha : PEval V b ρ bs a ra) (has : PArgs V b ρ bs as ras) :
    PArgs V b ρ bs (a :: as) (consR ra ras) := by
  intro σ h hv
  obtain ⟨σ₁, h₁, e₁⟩ := ha σ h hv
  cases ra with
  | error er => exact ⟨σ₁, EvalsArgs.cons_err h₁, e₁⟩
  | ok v =>
    obtain ⟨σ₂, h₂, e₂⟩ := has σ₁ (h.ext e₁.framesExt) (e₁.vecs.trans hv)
    cases ras with
    | error er => exact ⟨σ₂, EvalsArgs.cons_tail_err h₁ h₂, e₁.trans e₂⟩
    | ok vs => exact ⟨σ₂, EvalsArgs.cons h₁ h₂, e₁.trans e₂⟩

theorem PEval.app {f l args l' fv ras} {k : List Value → Except SErr Value} (ho : Opr b ρ bs f fv)
    (ha : PArgs V b ρ bs args ras) (hk : ∀ vs, ras = .ok vs → PApp V b fv vs (k vs)) :
    PEval V b ρ bs (.call (.sym f l) args l') (ras.bind k) := by
  intro σ h hv
  obtain ⟨σ₂, h₂, e₂⟩ := ha σ h hv
  cases ras with
  | error er => exact ⟨σ₂, Evals.call_arg_err (Evals.sym (ho.sees σ h)) h₂ ho.proc, e₂⟩
  | ok vs =>
    obtain ⟨σ₃, h₃, e₃⟩ := hk vs rfl (enter σ₂) ρ ((h.ext e₂.framesExt).enter).lib (e₂.vecs.trans hv)
    exact ⟨leave σ₃, Evals.call_loop (Evals.sym (ho.sees σ h)) h₂ ho.proc h₃, e₂.trans (.of_activation e₃)⟩

/-- in tail position the call is the next iteration of the activation's loop -/
theorem PTail.app {f l args l' fv ras} {k : List Value → Except SErr Value} (ho : Opr b ρ bs f fv)
    (ha : PArgs V b ρ bs args ras) (hk : ∀ vs, ras = .ok vs → PApp V b fv vs (k vs)) :
    PTail V b ρ bs (.call (.sym f l) args l') (ras.bind k) := by
  intro σ env h hv
  obtain ⟨σ₂, h₂, e₂⟩ := ha σ h hv
  have hf := Evals.sym (l := l) (ho.sees σ h)
  cases ras with
  | error er => exact ⟨σ₂, TailRuns.call (.arg_err hf h₂), e₂⟩
  | ok vs =>
    obtain ⟨σ₃, h₃, e₃⟩ := hk vs rfl σ₂ env (h.ext e₂.framesExt).lib (e₂.vecs.trans hv)
    exact ⟨σ₃, TailRuns.call_ok hf h₂ ho.proc h₃, e₂.trans e₃⟩

/-- in the trampoline an operand error is the outcome whatever the operator evaluated to (it need
not be a procedure) -/
theorem PTail.app_err {f l args l' fv ras er} (hf : ∀ σ, Scope b ρ bs σ → σ.lookup ρ f = some fv)
    (ha : PArgs V b ρ bs args ras) (he : ras = .error er) : PTail V b ρ bs (.call (.sym f l) args l') (.error er) := by
  subst he
  intro σ env h hv
  obtain ⟨σ₂, h₂, e₂⟩ := ha σ h hv
  exact ⟨σ₂, TailRuns.call (.arg_err (Evals.sym (hf σ h)) h₂), e₂⟩

theorem PTail.value {e r} (hcall : ∀ f as l, e ≠ .call f as l) (hcond : ∀ t c a l, e ≠ .cond t c a l)
    (he : PEval V b ρ bs e r) : PTail V b ρ bs e r := by
  intro σ env h hv
  obtain ⟨σ₁, h₁, e₁⟩ := he σ h hv
  cases r with
  | error er => exact ⟨σ₁, TailRuns.err hcall hcond h₁, e₁⟩
  | ok v => exact ⟨σ₁, TailRuns.value hcall hcond h₁, e₁⟩

theorem PTail.var {y l v} (hy : bs.lookup y = some v) : PTail V b ρ bs (.sym y l) (.ok v) :=
  PTail.value (by intros; simp) (by intros; simp) (PEval.var hy)
theorem PTail.prim {p l v} (hp : evalPrim p = .ok v) : PTail V b ρ bs (.prim p l) (.ok v) :=
  PTail.value (by intros; simp) (by intros; simp) (PEval.prim hp)
theorem PTail.nil {l l'} : PTail V b ρ bs (.quote (.nil l') l) (.ok .nil) :=
  PTail.value (by intros; simp) (by intros; simp) PEval.nil

theorem PTail.ite {t c a l rt rc ra} (ht : PEval V b ρ bs t rt)
    (hc : ∀ tv, rt = .ok tv → tv.truthy = true → PTail V b ρ bs c rc)
    (ha : ∀ tv, rt = .ok tv → tv.truthy = false → PTail V b ρ bs a ra) :
    PTail V b ρ bs (.cond t c (some a) l) (rt.bind fun tv => if tv.truthy then rc else ra) := by
  intro σ env h hv
  obtain ⟨σ₁, h₁, e₁⟩ := ht σ h hv
  cases rt with
  | error er => exact ⟨σ₁, TailRuns.cond_err h₁, e₁⟩
  | ok tv =>
    show TailRunsE σ ρ _ env (if tv.truthy = true then rc else ra)
    cases htv : tv.truthy with
    | true =>
      obtain ⟨σ₂, h₂, e₂⟩ := hc tv rfl htv σ₁ env (h.ext e₁.framesExt) (e₁.vecs.trans hv)
      exact ⟨σ₂, TailRuns.cond_true h₁ htv h₂, e₁.trans e₂⟩
    | false =>
      obtain ⟨σ₂, h₂, e₂⟩ := ha tv rfl htv σ₁ env (h.ext e₁.framesExt) (e₁.vecs.trans hv)
      exact ⟨σ₂, TailRuns.cond_false h₁ htv h₂, e₁.trans e₂⟩

theorem PTail.cond {t c a l rt rc ra} (ht : PEval V b ρ bs t rt) (hc : PTail V b ρ bs c rc) (ha : PTail V b ρ bs a ra) :
    PTail V b ρ bs (.cond t c (some a) l) (rt.bind fun tv => if tv.truthy then rc else ra) :=
  PTail.ite ht (fun _ _ _ => hc) (fun _ _ _ => ha)

/-- a `cond` clause body `((lambda () e))` -/
theorem PTail.thunk {e r} (h : ∀ ρ', PTail V b ρ' bs e r) : PTail V b ρ bs (thunk e) r := by
  intro σ env hs hv
  obtain ⟨σ₁, h₁, e₁⟩ := h σ.frames.size _ env hs.of_thunk ((callFrame_ext σ ρ _ _).vecs.trans hv)
  exact ⟨σ₁, TailRuns.thunk h₁, (callFrame_ext σ ρ _ _).trans e₁⟩

theorem PApp.closure {formals e args r}
    (ha : arityOk formals.fixed.length formals.rest.isSome args.length = true)
    (h : ∀ ρ, PTail V b ρ (paramDefs formals args) e r) :
    PApp V b (.closure (.mk formals [] [e]) b) args r := by
  intro σ env hl hv
  obtain ⟨σ₁, h₁, e₁⟩ := h σ.frames.size _ env (Scope.of_call hl formals args)
    ((callFrame_ext σ b _ _).vecs.trans hv)
  exact ⟨σ₁, Applies.closure_simple ha h₁, (callFrame_ext σ b _ _).trans e₁⟩

/-- a native procedure that leaves the store alone (it may read the vectors) -/
theorem PApp.native {bi args r} (hb : bi ≠ .apply)
    (ha : arityOk bi.arity.1 bi.arity.2 args.length = true)
    (h : ∀ σ, σ.vecs = V → Prim.applyPure σ bi args = (r, σ)) : PApp V b (.builtin bi) args r :=
  fun σ _ _ hv => ⟨σ, Applies.builtin_run hb ha (h σ hv), .refl σ⟩

/-- `PApp.native` with a hypothesis it does not need: no native returns the fuel error -/
theorem PApp.builtin {bi args r} (hb : bi ≠ .apply)
    (ha : arityOk bi.arity.1 bi.arity.2 args.length = true)
    (h : ∀ σ, σ.vecs = V → Prim.applyPure σ bi args = (r, σ))
    (hr : NotFuel r) : PApp V b (.builtin bi) args r :=
  (fun _ => PApp.native hb ha h) hr

/-- a procedure of the library, by its place in `base.sld` -/
theorem PApp.lib (i : Nat) {n : String} {formals e args r}
    (hi : expectedDefs[i]? = some (n, .lambda (.mk formals [] [e]) none))
    (ha : arityOk formals.fixed.length formals.rest.isSome args.length = true)
    (h : ∀ ρ, PTail V b ρ (paramDefs formals args) e r) : PApp V b (libProc n b) args r :=
  libProc_of_index hi b ▸ PApp.closure ha h

/-! ### one, two and three operands

`J r` stands for what a call rule concludes of the call at hand with outcome `r`: the operand lists
of fixed length are unfolded once for `PEval.app` and `PTail.app`. -/

section arity
variable {J : Except SErr Value → Prop} {fv : Value}

theorem app1_of {a ra} {k : Value → Except SErr Value}
    (happ : ∀ {ras k}, PArgs V b ρ bs [a] ras → (∀ vs, ras = .ok vs → PApp V b fv vs (k vs)) → J (ras.bind k))
    (ha : PEval V b ρ bs a ra) (hk : ∀ v, ra = .ok v → PApp V b fv [v] (k v)) : J (ra.bind k) := by
  have := happ (k := fun vs => match vs with | [v] => k v | _ => .error (.other, none)) (PArgs.cons ha PArgs.nil)
    fun vs hvs => by cases ra <;> cases hvs; exact hk _ rfl
  cases ra <;> exact this

theorem app2_of {a₁ a₂ r₁ r₂} {k : Value → Value → Except SErr Value}
    (happ : ∀ {ras k}, PArgs V b ρ bs [a₁, a₂] ras → (∀ vs, ras = .ok vs → PApp V b fv vs (k vs)) → J (ras.bind k))
    (h₁ : PEval V b ρ bs a₁ r₁) (h₂ : PEval V b ρ bs a₂ r₂)
    (hk : ∀ v₁ v₂, r₁ = .ok v₁ → r₂ = .ok v₂ → PApp V b fv [v₁, v₂] (k v₁ v₂)) :
    J (r₁.bind fun v₁ => r₂.bind fun v₂ => k v₁ v₂) := by
  have := happ (k := fun vs => match vs with | [v₁, v₂] => k v₁ v₂ | _ => .error (.other, none))
    (PArgs.cons h₁ (PArgs.cons h₂ PArgs.nil)) fun vs hvs => by
      cases r₁ <;> cases r₂ <;> cases hvs; exact hk _ _ rfl rfl
  cases r₁ <;> cases r₂ <;> exact this

theorem app3_of {a₁ a₂ a₃ r₁ r₂ r₃} {k : Value → Value → Value → Except SErr Value}
    (happ : ∀ {ras k}, PArgs V b ρ bs [a₁, a₂, a₃] ras → (∀ vs, ras = .ok vs → PApp V b fv vs (k vs)) → J (ras.bind k))
    (h₁ : PEval V b ρ bs a₁ r₁) (h₂ : PEval V b ρ bs a₂ r₂) (h₃ : PEval V b ρ bs a₃ r₃)
    (hk : ∀ v₁ v₂ v₃, r₁ = .ok v₁ → r₂ = .ok v₂ → r₃ = .ok v₃ → PApp V b fv [v₁, v₂, v₃] (k v₁ v₂ v₃)) :
    J (r₁.bind fun v₁ => r₂.bind fun v₂ => r₃.bind fun v₃ => k v₁ v₂ v₃) := by
  have := happ (k := fun vs => match vs with | [v₁, v₂, v₃] => k v₁ v₂ v₃ | _ => .error (.other, none))
    (PArgs.cons h₁ (PArgs.cons h₂ (PArgs.cons h₃ PArgs.nil))) fun vs hvs => by
      cases r₁ <;> cases r₂ <;> cases r₃ <;> cases hvs; exact hk _ _ _ rfl rfl rfl
  cases r₁ <;> cases r₂ <;> cases r₃ <;> exact this

end arity

section
variable {f : String} {l l' : Loc} {fv : Value}

theorem PEval.app1 {a ra} {k : Value → Except SErr Value} (ho : Opr b ρ bs f fv) (ha : PEval V b ρ bs a ra)
    (hk : ∀ v, ra = .ok v → PApp V b fv [v] (k v)) : PEval V b ρ bs (.call (.sym f l) [a] l') (ra.bind k) :=
  app1_of (PEval.app ho) ha hk
theorem PTail.app1 {a ra} {k : Value → Except SErr Value} (ho : Opr b ρ bs f fv) (ha : PEval V b ρ bs a ra)
    (hk : ∀ v, ra = .ok v → PApp V b fv [v] (k v)) : PTail V b ρ bs (.call (.sym f l) [a] l') (ra.bind k) :=
  app1_of (PTail.app ho) ha hk

theorem PEval.app2 {a₁ a₂ r₁ r₂} {k : Value → Value → Except SErr Value} (ho : Opr b ρ bs f fv)
    (h₁ : PEval V b ρ bs a₁ r₁) (h₂ : PEval V b ρ bs a₂ r₂)
    (hk : ∀ v₁ v₂, r₁ = .ok v₁ → r₂ = .ok v₂ → PApp V b fv [v₁, v₂] (k v₁ v₂)) :
    PEval V b ρ bs (.call (.sym f l) [a₁, a₂] l') (r₁.bind fun v₁ => r₂.bind fun v₂ => k v₁ v₂) :=
  app2_of (PEval.app ho) h₁ h₂ hk
theorem PTail.app2 {a₁ a₂ r₁ r₂} {k : Value → Value → Except SErr Value} (ho : Opr b ρ bs f fv)
    (h₁ : PEval V b ρ bs a₁ r₁) (h₂ : PEval V b ρ bs a₂ r₂)
    (hk : ∀ v₁ v₂, r₁ = .ok v₁ → r₂ = .ok v₂ → PApp V b fv [v₁, v₂] (k v₁ v₂)) :
    PTail V b ρ bs (.call (.sym f l) [a₁, a₂] l') (r₁.bind fun v₁ => r₂.bind fun v₂ => k v₁ v₂) :=
  app2_of (PTail.app ho) h₁ h₂ hk

theorem PEval.app3 {a₁ a₂ a₃ r₁ r₂ r₃} {k : Value → Value → Value → Except SErr Value} (ho : Opr b ρ bs f fv)
    (h₁ : PEval V b ρ bs a₁ r₁) (h₂ : PEval V b ρ bs a₂ r₂) (h₃ : PEval V b ρ bs a₃ r₃)
    (hk : ∀ v₁ v₂ v₃, r₁ = .ok v₁ → r₂ = .ok v₂ → r₃ = .ok v₃ → PApp V b fv [v₁, v₂, v₃] (k v₁ v₂ v₃)) :
    PEval V b ρ bs (.call (.sym f l) [a₁, a₂, a₃] l')
      (r₁.bind fun v₁ => r₂.bind fun v₂ => r₃.bind fun v₃ => k v₁ v₂ v₃) :=
  app3_of (PEval.app ho) h₁ h₂ h₃ hk
theorem PTail.app3 {a₁ a₂ a₃ r₁ r₂ r₃} {k : Value → Value → Value → Except SErr Value} (ho : Opr b ρ bs f fv)
    (h₁ : PEval V b ρ bs a₁ r₁) (h₂ : PEval V b ρ bs a₂ r₂) (h₃ : PEval V b ρ bs a₃ r₃)
    (hk : ∀ v₁ v₂ v₃, r₁ = .ok v₁ → r₂ = .ok v₂ → r₃ = .ok v₃ → PApp V b fv [v₁, v₂, v₃] (k v₁ v₂ v₃)) :
    PTail V b ρ bs (.call (.sym f l) [a₁, a₂, a₃] l')
      (r₁.bind fun v₁ => r₂.bind fun v₂ => r₃.bind fun v₃ => k v₁ v₂ v₃) :=
  app3_of (PTail.app ho) h₁ h₂ h₃ hk

theorem PEval.app1_ok {a v r} (ho : Opr b ρ bs f fv) (ha : PEval V b ρ bs a (.ok v)) (hk : PApp V b fv [v] r) :
    PEval V b ρ bs (.call (.sym f l) [a] l') r :=
  PEval.app1 (k := fun _ => r) ho ha fun _ h => by cases h; exact hk
theorem PEval.app2_ok {a₁ a₂ v₁ v₂ r} (ho : Opr b ρ bs f fv) (h₁ : PEval V b ρ bs a₁ (.ok v₁))
    (h₂ : PEval V b ρ bs a₂ (.ok v₂)) (hk : PApp V b fv [v₁, v₂] r) :
    PEval V b ρ bs (.call (.sym f l) [a₁, a₂] l') r :=
  PEval.app2 (k := fun _ _ => r) ho h₁ h₂ fun _ _ h h' => by cases h; cases h'; exact hk
theorem PTail.app3_ok {a₁ a₂ a₃ v₁ v₂ v₃ r} (ho : Opr b ρ bs f fv) (h₁ : PEval V b ρ bs a₁ (.ok v₁))
    (h₂ : PEval V b ρ bs a₂ (.ok v₂)) (h₃ : PEval V b ρ bs a₃ (.ok v₃)) (hk : PApp V b fv [v₁, v₂, v₃] r) :
    PTail V b ρ bs (.call (.sym f l) [a₁, a₂, a₃] l') r :=
  PTail.app3 (k := fun _ _ _ => r) ho h₁ h₂ h₃ fun _ _ _ h h' h'' => by cases h; cases h'; cases h''; exact hk

end
end rules

/-! ## the natives the library is built on -/

theorem applyPure_car (σ : Store) (v : Value) : Prim.applyPure σ .car [v] = (carS v, σ) := by
  cases v <;> rfl
theorem applyPure_cdr (σ : Store) (v : Value) : Prim.applyPure σ .cdr [v] = (cdrS v, σ) := by
  cases v <;> rfl
theorem applyPure_cons (σ : Store) (a d : Value) : Prim.applyPure σ .cons [a, d] = (.ok (.pair a d), σ) := rfl
theorem applyPure_isPair (σ : Store) (v : Value) : Prim.applyPure σ .isPair [v] = (.ok (.bool (isPair v)), σ) := by
  cases v <;> rfl
theorem applyPure_eqv (σ : Store) (a c : Value) : Prim.applyPure σ .eqv [a, c] = (.ok (.bool (Prim.eqv a c)), σ) := rfl
theorem applyPure_eq (σ : Store) (a c : Value) : Prim.applyPure σ .eq [a, c] = (.ok (.bool (Prim.eqv a c)), σ) := rfl
theorem applyPure_not (σ : Store) (v : Value) : Prim.applyPure σ .not [v] = (.ok (.bool (!v.truthy)), σ) := by
  cases v with
  | bool x => cases x <;> rfl
  | _ => rfl

section
variable {V : Array VecCell} {b : Nat}
theorem PApp.car {v} : PApp V b (.builtin .car) [v] (carS v) :=
  PApp.native (by decide) (by rfl) (fun σ _ => applyPure_car σ v)
theorem PApp.cdr {v} : PApp V b (.builtin .cdr) [v] (cdrS v) :=
  PApp.native (by decide) (by rfl) (fun σ _ => applyPure_cdr σ v)
theorem PApp.cons {a d} : PApp V b (.builtin .cons) [a, d] (.ok (.pair a d)) :=
  PApp.native (by decide) (by rfl) (fun σ _ => applyPure_cons σ a d)
theorem PApp.isPair {v} : PApp V b (.builtin .isPair) [v] (.ok (.bool (isPair v))) :=
  PApp.native (by decide) (by rfl) (fun σ _ => applyPure_isPair σ v)
theorem PApp.eqv {a c} : PApp V b (.builtin .eqv) [a, c] (.ok (.bool (Prim.eqv a c))) :=
  PApp.native (by decide) (by rfl) (fun σ _ => applyPure_eqv σ a c)
theorem PApp.eq {a c} : PApp V b (.builtin .eq) [a, c] (.ok (.bool (Prim.eqv a c))) :=
  PApp.native (by decide) (by rfl) (fun σ _ => applyPure_eq σ a c)
theorem PApp.not {v} : PApp V b (.builtin .not) [v] (.ok (.bool (!v.truthy))) :=
  PApp.native (by decide) (by rfl) (fun σ _ => applyPure_not σ v)

end

theorem procArity_libProc {n : String} {b : Nat} {i : Nat} {lam : Lambda}
    (hi : expectedDefs[i]? = some (n, .lambda lam none)) : (procArity (libProc n b)).isSome := by
  rw [libProc_of_index hi]; rfl

/-! ### integer arithmetic of the index-driven procedures -/

section
variable {V : Array VecCell} {b : Nat}
theorem PApp.numEq_int {a c : Int} :
    PApp V b (.builtin .numEq) [.num (.int a), .num (.int c)] (.ok (.bool (a == c))) :=
  PApp.native (by decide) (by rfl) (fun σ _ => Prim.applyPure_numEq σ _ _)
theorem PApp.gt_int {a c : Int} :
    PApp V b (.builtin .gt) [.num (.int a), .num (.int c)] (.ok (.bool (decide (a > c)))) :=
  PApp.native (by decide) (by rfl) (fun σ _ => Prim.applyPure_gt σ _ _)
theorem PApp.sub_int {a c : Int} (h : fitsI32 (a - c) = true) :
    PApp V b (.builtin .sub) [.num (.int a), .num (.int c)] (.ok (.num (.int (a - c)))) :=
  PApp.native (by decide) (by rfl) (fun σ _ => Prim.applyPure_sub_int σ h)
end

/-! ### the vector natives `equal?` reads the store with -/

theorem applyPure_isVector (σ : Store) (v : Value) : Prim.applyPure σ .isVector [v] = (.ok (.bool (isVec v)), σ) := by
  cases v <;> rfl

theorem applyPure_vectorLength (σ : Store) {id : Nat} {cell : VecCell} (h : σ.vecs[id]? = some cell) :
    Prim.applyPure σ .vectorLength [.vec id] = (.ok (.num (.int cell.items.length)), σ) := by
  simp only [Prim.applyPure, h]; rfl

/-- `vector-ref` on a cell at a natural index: the item, or the index error beyond the last one -/
def vecRefS (cell : VecCell) (k : Nat) : Except SErr Value := cell.items[k]?.elim (.error indexErr) .ok

theorem applyPure_vectorRef (σ : Store) {id : Nat} {cell : VecCell} (h : σ.vecs[id]? = some cell) (k : Nat) :
    Prim.applyPure σ .vectorRef [.vec id, .num (.int k)] = (vecRefS cell k, σ) := by
  have : ¬ ((k : Int) < 0) := by omega
  simp only [Prim.applyPure, h, this, if_false, Int.toNat_natCast, vecRefS]
  cases cell.items[k]? <;> rfl

section
variable {V : Array VecCell} {b : Nat}
theorem PApp.isVector {v} : PApp V b (.builtin .isVector) [v] (.ok (.bool (isVec v))) :=
  PApp.native (by decide) (by rfl) (fun σ _ => applyPure_isVector σ v)
theorem PApp.vectorLength {id : Nat} {cell : VecCell} (h : V[id]? = some cell) :
    PApp V b (.builtin .vectorLength) [.vec id] (.ok (.num (.int cell.items.length))) :=
  PApp.native (by decide) (by rfl) (fun σ hv => applyPure_vectorLength σ (hv ▸ h))
theorem PApp.vectorRef {id : Nat} {cell : VecCell} (h : V[id]? = some cell) (k : Nat) :
    PApp V b (.builtin .vectorRef) [.vec id, .num (.int k)] (vecRefS cell k) :=
  PApp.native (by decide) (by rfl) (fun σ hv => applyPure_vectorRef σ (hv ▸ h) k)
theorem PApp.add_int {a c : Int} (ha : fitsI32 a = true) (h : fitsI32 (a + c) = true) :
    PApp V b (.builtin .add) [.num (.int a), .num (.int c)] (.ok (.num (.int (a + c)))) :=
  PApp.native (by decide) (by rfl) (fun σ _ => Prim.applyPure_add_int σ ha h)
end

theorem eqv_nil (x : Value) : Prim.eqv x .nil = isNil x := by cases x <;> rfl
theorem eqv_nil_left (x : Value) : Prim.eqv .nil x = isNil x := by cases x <;> rfl

/-! ### what the frame of a call binds, by closed conditions on the parameter names

The conditions (`y ∉ F.names`, `F.names.Nodup`) mention no value, so that for a given procedure
they are closed and `decide +kernel` settles them; a proof of a procedure states the ones it needs
once, at its head. (Evaluating `(paramDefs F args).lookup y` by `rfl` instead compares the strings
in the elaborator, which is slow, at every occurrence of a name.) -/

def _root_.Ruschm.Formals.names (F : Formals) : List String := F.fixed ++ F.rest.toList

theorem keys_zip_sublist : ∀ (fs : List String) (as : List Value), ((fs.zip as).map (·.1)).Sublist fs
  | [], _ => .slnil
  | _ :: _, [] => List.nil_sublist _
  | f :: fs, _ :: as => (keys_zip_sublist fs as).cons₂ f

theorem lookup_paramDefs (F : Formals) (args : List Value) (y : String) :
    (paramDefs F args).lookup y = if F.rest = some y then some (Value.ofList (args.drop F.fixed.length))
      else ((F.fixed.zip args).reverse).lookup y := by
  rw [← paramDefs_eq, paramDefs_lookup]

theorem paramDefs_lookup_none {F : Formals} {args : List Value} {y : String} (h : y ∉ F.names) :
    (paramDefs F args).lookup y = none := by
  rw [lookup_paramDefs, if_neg fun e : F.rest = some y => h (List.mem_append_right _ (e ▸ .head _))]
  refine Assoc.lookup_none_of_not_mem fun hm => h (List.mem_append_left _ ?_)
  obtain ⟨p, hp, rfl⟩ := List.mem_map.1 hm
  exact (List.of_mem_zip (List.mem_reverse.1 hp)).1

theorem paramDefs_lookup_fixed {F : Formals} {args : List Value} {y : String} {v : Value} (hnd : F.names.Nodup)
    (i : Nat) (hi : F.fixed[i]? = some y) (ha : args[i]? = some v) : (paramDefs F args).lookup y = some v := by
  have ⟨hf, _, hd⟩ := List.nodup_append.mp hnd
  rw [lookup_paramDefs, if_neg fun e : F.rest = some y => hd y (List.mem_of_getElem? hi) y (e ▸ .head _) rfl]
  exact Assoc.lookup_of_mem_nodup (((List.reverse_perm _).map _).nodup_iff.2 (hf.sublist (keys_zip_sublist _ _)))
    (List.mem_reverse.2 (List.mem_iff_getElem?.2 ⟨i, List.getElem?_zip_eq_some.2 ⟨hi, ha⟩⟩))

theorem paramDefs_lookup_rest {F : Formals} {args : List Value} {y : String} (hr : F.rest = some y) :
    (paramDefs F args).lookup y = some (Value.ofList (args.drop F.fixed.length)) := by
  rw [lookup_paramDefs, if_pos hr]

/-! ### names in the frame of a call -/

section names
variable {V : Array VecCell} {b ρ : Nat} {F : Formals} {args : List Value}

theorem Scope.arg {σ} (h : Scope b ρ (paramDefs F args) σ) (hnd : F.names.Nodup) (i : Nat) {y v}
    (hi : F.fixed[i]? = some y := by rfl) (ha : args[i]? = some v := by rfl) : σ.lookup ρ y = some v :=
  h.var (paramDefs_lookup_fixed hnd i hi ha)

theorem Scope.nat {σ} (h : Scope b ρ (paramDefs F args) σ) (bi : Builtin) (hy : bi.name ∉ F.names)
    (hbi : bi ∈ Builtin.baseList := by decide) : σ.lookup ρ bi.name = some (.builtin bi) :=
  h.builtin bi hbi (paramDefs_lookup_none hy)

theorem Scope.libProc {σ} (h : Scope b ρ (paramDefs F args) σ) (i : Nat) {n : String} {e : Expr} (hy : n ∉ F.names)
    (hi : expectedDefs[i]? = some (n, e) := by rfl) : σ.lookup ρ n = some (libProc n b) :=
  h.proc i hi (paramDefs_lookup_none hy)

theorem Opr.nat (bi : Builtin) (hy : bi.name ∉ F.names) (hbi : bi ∈ Builtin.baseList := by decide) :
    Opr b ρ (paramDefs F args) bi.name (.builtin bi) := ⟨rfl, fun _ h => h.nat bi hy hbi⟩

theorem Opr.lib (i : Nat) {n : String} {lam : Lambda} (hy : n ∉ F.names)
    (hi : expectedDefs[i]? = some (n, .lambda lam none) := by rfl) : Opr b ρ (paramDefs F args) n (libProc n b) :=
  ⟨procArity_libProc hi, fun _ h => h.libProc i hy hi⟩

theorem Opr.arg {y fv} (hnd : F.names.Nodup) (i : Nat) (hp : (procArity fv).isSome)
    (hi : F.fixed[i]? = some y := by rfl) (ha : args[i]? = some fv := by rfl) : Opr b ρ (paramDefs F args) y fv :=
  ⟨hp, fun _ h => h.arg hnd i hi ha⟩

theorem PEval.arg {y l v} (hnd : F.names.Nodup) (i : Nat) (hi : F.fixed[i]? = some y := by rfl)
    (ha : args[i]? = some v := by rfl) : PEval V b ρ (paramDefs F args) (.sym y l) (.ok v) :=
  PEval.var (paramDefs_lookup_fixed hnd i hi ha)
theorem PTail.arg {y l v} (hnd : F.names.Nodup) (i : Nat) (hi : F.fixed[i]? = some y := by rfl)
    (ha : args[i]? = some v := by rfl) : PTail V b ρ (paramDefs F args) (.sym y l) (.ok v) :=
  PTail.var (paramDefs_lookup_fixed hnd i hi ha)

theorem PEval.car {a l l' ra} (hy : "car" ∉ F.names) (ha : PEval V b ρ (paramDefs F args) a ra) :
    PEval V b ρ (paramDefs F args) (.call (.sym "car" l) [a] l') (ra.bind carS) :=
  PEval.app1 (Opr.nat .car hy) ha fun _ _ => PApp.car
theorem PEval.cdr {a l l' ra} (hy : "cdr" ∉ F.names) (ha : PEval V b ρ (paramDefs F args) a ra) :
    PEval V b ρ (paramDefs F args) (.call (.sym "cdr" l) [a] l') (ra.bind cdrS) :=
  PEval.app1 (Opr.nat .cdr hy) ha fun _ _ => PApp.cdr
theorem PEval.isPair {a l l' ra} (hy : "pair?" ∉ F.names) (ha : PEval V b ρ (paramDefs F args) a ra) :
    PEval V b ρ (paramDefs F args) (.call (.sym "pair?" l) [a] l') (ra.bind fun v => .ok (.bool (isPair v))) :=
  PEval.app1 (Opr.nat .isPair hy) ha fun _ _ => PApp.isPair

end names

end Ruschm.ListLib
