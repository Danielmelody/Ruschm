/-
The model matcher refines the declarative matcher `specMatch` on the supported class of patterns
(`matchDatum_eq_spec_cases`). The model threads one table through a run and pushes further matches
into it; `specMatch` returns bindings and combines them. `RefD` / `RefS` relate the two: the table after a
run is the table before it with the bindings appended, `σ ++ β.toSubst`. That needs the variables of the
pattern distinct and new to the table, which is where `Supported` enters. The proof is an instance of
`match_induct`.
-/
import RuschmProofs.MacroLemmas

namespace Ruschm.Macro
open Ruschm

/-! ## Spines of supported list patterns -/

theorem properElems_eq_spine (d : Datum) :
    properElems d = match d.spine.2 with | none => some d.spine.1 | some _ => none := by
  fun_induction Datum.spine d with
  | case1 a d l xs t h ih =>
    simp only [h] at ih
    simp only [properElems, ih]
    cases t <;> rfl
  | case2 => rfl
  | case3 d h1 h2 => cases d <;> simp_all [properElems]

theorem Pat.isEllTail_iff {p : Pat} : p.isEllTail = true ↔ p = .pair .ellipsis .nil := by
  unfold Pat.isEllTail; split <;> simp_all

theorem Pat.isEllOnly_iff {ps : List Pat} : Pat.isEllOnly ps = true ↔ ps = [.ellipsis] := by
  unfold Pat.isEllOnly; split <;> simp_all

theorem Pat.okTail_listy {lits p} (h : Pat.okTail lits p = true) : p.isListy = true := by
  cases p <;> simp_all [Pat.okTail, Pat.isListy]

theorem Pat.ok_okTail {lits p} (h : Pat.ok lits p = true) (hl : p.isListy = true) :
    Pat.okTail lits p = true := by
  cases p <;> simp_all [Pat.okTail, Pat.ok, Pat.isListy]

theorem Pat.okTail_ok {lits p} (h : Pat.okTail lits p = true) : Pat.ok lits p = true := by
  cases p <;> simp_all [Pat.okTail, Pat.ok]

theorem Pat.okList_cons {lits p ps} (h : Pat.okList lits (p :: ps) = true) :
    (ps = [.ellipsis] ∧ Pat.ok lits p = true ∧ p.ellFree = true ∧ p.isLit lits = false) ∨
      (Pat.isEllOnly ps = false ∧ Pat.ok lits p = true ∧ Pat.okList lits ps = true) := by
  rw [Pat.okList] at h
  split at h <;> simp only [Bool.and_eq_true, Bool.not_eq_true'] at h
  · exact .inl ⟨Pat.isEllOnly_iff.1 ‹_›, h.1.1, h.1.2, h.2⟩
  · exact .inr ⟨Bool.eq_false_iff.2 ‹_›, h⟩

/-! ## Lists of patterns -/

@[simp] theorem Pat.spine_ofList (ps : List Pat) : (Pat.ofList ps).spine = (ps, none) := by
  induction ps with
  | nil => rfl
  | cons p ps ih => simp [Pat.ofList, Pat.spine, ih]

theorem Pat.isListy_ofList (ps : List Pat) : (Pat.ofList ps).isListy = true := by
  cases ps <;> rfl

theorem Pat.isEllTail_ofList (ps : List Pat) : (Pat.ofList ps).isEllTail = Pat.isEllOnly ps := by
  cases ps with
  | nil => rfl
  | cons q qs => cases qs <;> cases q <;> rfl

theorem Pat.eq_ofList_spine : ∀ {p : Pat}, p.spine.2 = none → p = Pat.ofList p.spine.1
  | .nil, _ => rfl
  | .pair a d, h => congrArg (Pat.pair a) (Pat.eq_ofList_spine (p := d) h)
  | .underscore, h | .ellipsis, h | .vec _, h | .ident _, h | .prim _, h => nomatch h

theorem Pat.okTail_ofList {lits} : ∀ ps, Pat.okTail lits (Pat.ofList ps) = Pat.okList lits ps
  | [] => rfl
  | p :: ps => by rw [Pat.ofList, Pat.okTail, Pat.okList, Pat.isEllTail_ofList, Pat.okTail_ofList ps]

theorem Pat.okTail_proper {lits} : ∀ p : Pat, Pat.okTail lits p = true → p.spine.2 = none
  | .nil, _ => rfl
  | .pair a d, h => by
    rw [Pat.okTail] at h
    split at h
    · next he => cases Pat.isEllTail_iff.1 he; rfl
    · exact Pat.okTail_proper d (Bool.and_eq_true _ _ ▸ h).2
  | .underscore, h | .ellipsis, h | .vec _, h | .ident _, h | .prim _, h => by simp [Pat.okTail] at h

theorem Pat.okTail_spine {lits} (p : Pat) (h : Pat.okTail lits p = true) :
    p.spine.2 = none ∧ Pat.okList lits p.spine.1 = true :=
  have h2 := Pat.okTail_proper p h
  ⟨h2, by rw [← Pat.okTail_ofList, ← Pat.eq_ofList_spine h2]; exact h⟩

/-! ## Equations of the declarative matcher, by the shape of the pattern -/

def isSym (s : String) : Datum → Bool
  | .sym t _ => t == s
  | _ => false

theorem specMatch_lit {lits v d} (hv : lits.contains v = true) :
    specMatch lits (.ident v) d = if isSym v d then some [] else none := by
  simp only [specMatch, hv, if_true]
  cases d <;> simp [isSym]

theorem specMatch_var {lits v d} (hv : lits.contains v = false) :
    specMatch lits (.ident v) d = some [(v, [d])] := by
  simp only [specMatch, hv, Bool.false_eq_true, if_false]

/-- the right-hand sides are the tests of `matchDatum_lit` and `matchDatum_prim` -/
theorem specMatch_lit_isSome {lits v d} (hv : lits.contains v = true) :
    (specMatch lits (.ident v) d).isSome = (match d with | .sym s _ => s == v | _ => false) := by
  rw [specMatch_lit hv]; cases d <;> simp [isSym, apply_ite, Bool.beq_eq_decide_eq]

theorem specMatch_prim_isSome {lits a d} :
    (specMatch lits (.prim a) d).isSome = (match d with | .prim b _ => a == b | _ => false) := by
  cases d <;> simp [specMatch, apply_ite, Bool.beq_eq_decide_eq]

theorem specMatch_ofList_elems {lits} (ps : List Pat) : ∀ d : Datum,
    specMatch lits (Pat.ofList ps) d =
      match properElems d with
      | some ds => specMatchList lits ps ds
      | none => none := by
  induction ps with
  | nil =>
    intro d
    cases d with
    | pair x y l => simp only [Pat.ofList, specMatch, properElems]; cases properElems y <;> rfl
    | _ => rfl
  | cons p ps ih =>
    intro d
    simp only [Pat.ofList, specMatch, Pat.isEllTail_ofList]
    cases d with
    | pair x y l =>
      simp only [ih y, properElems]
      cases properElems y <;> simp only [Option.map, specMatchList, specRun] <;>
        cases Pat.isEllOnly ps <;> cases specMatch lits p x <;> rfl
    | _ => simp only [properElems, specMatchList, specRun] <;> cases Pat.isEllOnly ps <;> rfl

theorem specMatch_listy {lits} (p : Pat) (h : Pat.okTail lits p = true) (d : Datum) :
    specMatch lits p d =
      match d.spine.2 with
      | none => specMatchList lits p.spine.1 d.spine.1
      | some _ => none := by
  conv => lhs; rw [Pat.eq_ofList_spine (Pat.okTail_spine p h).1]
  rw [specMatch_ofList_elems, properElems_eq_spine]
  cases d.spine.2 <;> rfl

theorem specMatchList_cons_nil {lits p ps} : specMatchList lits (p :: ps) [] = none := by
  simp only [specMatchList]; split <;> rfl

theorem specMatchList_elementwise {lits ps} (h : ∀ p ∈ ps, p.isEllipsis = false) (ds : List Datum) :
    specMatchList lits ps ds = elementwise (specMatch lits) ps ds := by
  induction ps generalizing ds with
  | nil => cases ds <;> rfl
  | cons p ps ih =>
    have he : Pat.isEllOnly ps = false := Bool.eq_false_iff.2 fun hps => by
      cases Pat.isEllOnly_iff.1 hps
      cases h .ellipsis (by simp)
    simp only [specMatchList, he, Bool.false_eq_true, if_false]
    cases ds with
    | nil => rfl
    | cons d ds => simp only [elementwise, ih (fun p hp => h p (by simp [hp]))]

theorem specMatch_ofList_elementwise {lits ps} (h : ∀ p ∈ ps, p.isEllipsis = false) (d : Datum) :
    specMatch lits (Pat.ofList ps) d = (properElems d).bind (elementwise (specMatch lits) ps) := by
  rw [specMatch_ofList_elems]
  cases properElems d with
  | none => rfl
  | some ds => simp [specMatchList_elementwise h]

theorem specMatch_vec_elementwise {lits ps} (h : ∀ p ∈ ps, p.isEllipsis = false) (d : Datum) :
    specMatch lits (.vec ps) d = (vecElems d).bind (elementwise (specMatch lits) ps) := by
  cases d <;> simp [specMatch, vecElems, specMatchList_elementwise h]

theorem specMatch_run {lits} (q : Pat) (d : Datum) :
    specMatch lits (Pat.ofList [q, .ellipsis]) d =
      (properElems d).bind fun ds => (mapOpt (specMatch lits q) ds).bind combine := by
  simp only [Pat.ofList, specMatch, Pat.isEllTail, if_true, specRun]
  cases properElems d <;> rfl

/-! ## Shape of the bindings the declarative matcher yields -/

def Bindings.NonEmpty (β : Bindings) : Prop := ∀ e ∈ β, e.2 ≠ []
def Bindings.Single (β : Bindings) : Prop := ∀ e ∈ β, ∃ m, e.2 = [m]

theorem Bindings.Single.nonEmpty {β : Bindings} (h : β.Single) : β.NonEmpty := by
  intro e he; obtain ⟨m, hm⟩ := h e he; simp [hm]

theorem mapOpt_cons_some {α β : Type} {f : α → Option β} {x xs ys} :
    mapOpt f (x :: xs) = some ys ↔ ∃ y ys', f x = some y ∧ mapOpt f xs = some ys' ∧ ys = y :: ys' := by
  simp only [mapOpt]
  cases f x <;> cases mapOpt f xs <;> simp [eq_comm]

theorem mapOpt_cons_none {α β : Type} {f : α → Option β} {x xs} :
    mapOpt f (x :: xs) = none ↔ f x = none ∨ mapOpt f xs = none := by
  simp only [mapOpt]
  cases f x <;> cases mapOpt f xs <;> simp

@[simp] theorem zipB_keys {β β' : Bindings} : (zipB β β').map Prod.fst = β.map Prod.fst := by
  simp [zipB, Function.comp_def]

theorem foldl_zipB_keys {β : Bindings} {βs : List Bindings} :
    (βs.foldl zipB β).map Prod.fst = β.map Prod.fst := by
  induction βs generalizing β with
  | nil => rfl
  | cons b bs ih => simp [ih]

theorem zipB_nonEmpty {β β' : Bindings} (h : β.NonEmpty) : (zipB β β').NonEmpty := by
  intro e he
  simp only [zipB, List.mem_map] at he
  obtain ⟨e', he', rfl⟩ := he
  have := h e' he'
  simp [this]

theorem foldl_zipB_nonEmpty {β : Bindings} {βs : List Bindings} (h : β.NonEmpty) :
    (βs.foldl zipB β).NonEmpty := by
  induction βs generalizing β with
  | nil => exact h
  | cons b bs ih => exact ih (zipB_nonEmpty h)

theorem specRun_some {m : Datum → Option Bindings} {ds β} (h : specRun m (some ds) = some β) :
    ∃ d1 ds' β1 βs, ds = d1 :: ds' ∧ m d1 = some β1 ∧ mapOpt m ds' = some βs ∧
      β = βs.foldl zipB β1 := by
  simp only [specRun, Option.bind_eq_some_iff] at h
  obtain ⟨bs, h1, h2⟩ := h
  cases ds with
  | nil => simp [mapOpt] at h1; subst h1; simp [combine] at h2
  | cons d1 ds' =>
    obtain ⟨y, ys', hy, hys, rfl⟩ := mapOpt_cons_some.1 h1
    simp only [combine, Option.some.injEq] at h2
    exact ⟨d1, ds', y, ys', rfl, hy, hys, h2.symm⟩

theorem zipB_len {β β' : Bindings} {N M : Nat} (h : ∀ e ∈ β, e.2.length ≤ N)
    (h' : ∀ e ∈ β', e.2.length ≤ M) : ∀ e ∈ zipB β β', e.2.length ≤ N + M := by
  intro e he
  simp only [zipB, List.mem_map] at he
  obtain ⟨e0, he0, rfl⟩ := he
  have h1 := h e0 he0
  simp only [List.length_append]
  cases hl : β'.lookup e0.1 with
  | none => simp only [Option.getD_none, List.length_nil]; omega
  | some ms =>
    have := h' _ (Assoc.mem_of_lookup hl)
    simp only [Option.getD_some] at this ⊢; omega

theorem foldl_zipB_len {m : Datum → Option Bindings}
    (ds : List Datum) (ih : ∀ d ∈ ds, ∀ β, m d = some β → ∀ e ∈ β, e.2.length ≤ d.size) :
    ∀ (βs : List Bindings) (acc : Bindings) (N : Nat), mapOpt m ds = some βs →
      (∀ e ∈ acc, e.2.length ≤ N) → ∀ e ∈ βs.foldl zipB acc, e.2.length ≤ N + Datum.sizeList ds := by
  induction ds with
  | nil =>
    intro βs acc N h hacc
    simp [mapOpt] at h; subst h
    simpa [Datum.sizeList] using hacc
  | cons d ds ihds =>
    intro βs acc N h hacc
    obtain ⟨β, βs', hβ, hβs, rfl⟩ := mapOpt_cons_some.1 h
    simp only [List.foldl_cons, Datum.sizeList]
    have := ihds (fun d' hd' => ih d' (by simp [hd'])) βs' (zipB acc β) (N + d.size) hβs
      (zipB_len hacc (ih d (by simp) β hβ))
    intro e he
    have := this e he
    omega

theorem specRun_len {m : Datum → Option Bindings} {ds β}
    (ih : ∀ d ∈ ds, ∀ β, m d = some β → ∀ e ∈ β, e.2.length ≤ d.size)
    (h : specRun m (some ds) = some β) : ∀ e ∈ β, e.2.length ≤ Datum.sizeList ds := by
  obtain ⟨d1, ds', β1, βs, rfl, h1, h2, rfl⟩ := specRun_some h
  have := foldl_zipB_len ds' (fun d hd => ih d (by simp [hd])) βs β1 d1.size h2
    (ih d1 (by simp) β1 h1)
  simpa [Datum.sizeList] using this

/-- what the declarative matcher yields for patterns with the variables `vs` (without ellipsis if `ef`)
against data of size `N` -/
structure Shape (vs : List String) (ef : Prop) (N : Nat) (β : Bindings) : Prop where
  keys : β.map Prod.fst = vs
  ne : β.NonEmpty
  single : ef → β.Single
  len : ∀ e ∈ β, e.2.length ≤ N

theorem Shape.nil {ef N} : Shape [] ef N [] := ⟨rfl, nofun, fun _ => nofun, nofun⟩

theorem Shape.append {v1 v2 e1 e2 N1 N2 β1 β2} (h1 : Shape v1 e1 N1 β1) (h2 : Shape v2 e2 N2 β2) :
    Shape (v1 ++ v2) (e1 ∧ e2) (N1 + N2) (β1 ++ β2) where
  keys := by rw [List.map_append, h1.keys, h2.keys]
  ne := List.forall_mem_append.2 ⟨h1.ne, h2.ne⟩
  single := fun h => List.forall_mem_append.2 ⟨h1.single h.1, h2.single h.2⟩
  len := List.forall_mem_append.2
    ⟨fun e he => Nat.le_trans (h1.len e he) (Nat.le_add_right ..),
     fun e he => Nat.le_trans (h2.len e he) (Nat.le_add_left ..)⟩

theorem Shape.mono {vs ef ef' N N' β} (h : Shape vs ef N β) (hN : N ≤ N') (he : ef' → ef) :
    Shape vs ef' N' β :=
  ⟨h.keys, h.ne, fun h' => h.single (he h'), fun e he => Nat.le_trans (h.len e he) hN⟩

theorem Shape.run {m : Datum → Option Bindings} {vs ef ds β}
    (ih : ∀ d β, m d = some β → Shape vs ef d.size β) (h : specRun m (some ds) = some β) :
    Shape vs False (Datum.sizeList ds) β := by
  have hl := specRun_len (fun d _ β hβ => (ih d β hβ).len) h
  obtain ⟨d1, ds', β1, βs, rfl, h1, -, rfl⟩ := specRun_some h
  exact ⟨by rw [foldl_zipB_keys, (ih _ _ h1).keys], foldl_zipB_nonEmpty (ih _ _ h1).ne, nofun, hl⟩

theorem specRun_cons_some {m : Datum → Option Bindings} {d ds β} (h : m d = some β) :
    specRun m (some (d :: ds)) = (mapOpt m ds).map (fun βs => βs.foldl zipB β) := by
  simp only [specRun, mapOpt, h]
  cases mapOpt m ds <;> simp [combine]

theorem specRun_cons_none {m : Datum → Option Bindings} {d ds} (h : m d = none) :
    specRun m (some (d :: ds)) = none := by
  simp [specRun, mapOpt, h]

/-- the successful matches of the declarative matcher as rules: `D` for a pattern against a datum,
`L` for the elements of a list or vector pattern against data, `R` for a run `a ...` of items -/
theorem specMatch_induct (lits : List String) {D : Pat → Datum → Bindings → Prop}
    {L : List Pat → List Datum → Bindings → Prop} {R : Pat → List Datum → Bindings → Prop}
    (under : ∀ d, D .underscore d [])
    (var : ∀ v d, lits.contains v = false → D (.ident v) d [(v, [d])])
    (lit : ∀ v l, lits.contains v = true → D (.ident v) (.sym v l) [])
    (prim : ∀ a l, D (.prim a) (.prim a l) [])
    (nil : ∀ l, D .nil (.nil l) [])
    (tail : ∀ a d ds β, properElems d = some ds → R a ds β → D (.pair a (.pair .ellipsis .nil)) d β)
    (pair : ∀ a r x y l β₁ β₂, r.isEllTail = false → specMatch lits a x = some β₁ →
      specMatch lits r y = some β₂ → D a x β₁ → D r y β₂ → D (.pair a r) (.pair x y l) (β₁ ++ β₂))
    (vec : ∀ ps ds l β, L ps ds β → D (.vec ps) (.vec ds l) β)
    (lnil : L [] [] [])
    (lrun : ∀ p ds β, R p ds β → L [p, .ellipsis] ds β)
    (lcons : ∀ p ps d ds β₁ β₂, Pat.isEllOnly ps = false → specMatch lits p d = some β₁ →
      specMatchList lits ps ds = some β₂ → D p d β₁ → L ps ds β₂ → L (p :: ps) (d :: ds) (β₁ ++ β₂))
    (run : ∀ a d ds β βs, specMatch lits a d = some β → mapOpt (specMatch lits a) ds = some βs →
      (∀ x b, specMatch lits a x = some b → D a x b) → R a (d :: ds) (βs.foldl zipB β)) :
    (∀ p d β, specMatch lits p d = some β → D p d β) ∧
    (∀ ps ds β, specMatchList lits ps ds = some β → L ps ds β) := by
  have hrun : ∀ {a ds β}, (∀ x b, specMatch lits a x = some b → D a x b) →
      specRun (specMatch lits a) (some ds) = some β → R a ds β := fun ih h => by
    obtain ⟨d1, ds', β1, βs, rfl, h1, h2, rfl⟩ := specRun_some h
    exact run _ _ _ _ _ h1 h2 ih
  apply Pat.ind
  · intro d β h; cases h; exact under d
  · intro d β h; cases h
  · intro a r iha ihr d β h
    simp only [specMatch] at h
    split at h
    · next he =>
      cases Pat.isEllTail_iff.1 he
      cases hd : properElems d with
      | none => rw [hd] at h; cases h
      | some ds => exact tail _ _ _ _ hd (hrun iha (hd ▸ h))
    · next he =>
      cases d <;> simp only [reduceCtorEq] at h
      rename_i x y l
      cases h1 : specMatch lits a x <;> cases h2 : specMatch lits r y <;> simp [h1, h2] at h
      subst h
      exact pair _ _ _ _ _ _ _ (Bool.eq_false_iff.2 he) h1 h2 (iha _ _ h1) (ihr _ _ h2)
  · intro d β h
    cases d <;> simp [specMatch] at h
    subst h; exact nil _
  · intro xs ih d β h
    cases d <;> simp [specMatch] at h
    exact vec _ _ _ _ (ih _ _ h)
  · intro v d β h
    simp only [specMatch] at h
    split at h
    · next hv =>
      cases d <;> simp at h
      obtain ⟨rfl, rfl⟩ := h
      exact lit _ _ hv
    · next hv => cases h; exact var _ _ (Bool.eq_false_iff.2 hv)
  · intro q d β h
    cases d <;> simp [specMatch] at h
    obtain ⟨rfl, rfl⟩ := h
    exact prim _ _
  · intro ds β h
    cases ds <;> cases h
    exact lnil
  · intro p ps ihp ihps ds β h
    simp only [specMatchList] at h
    split at h
    · next he => cases Pat.isEllOnly_iff.1 he; exact lrun _ _ _ (hrun ihp h)
    · next he =>
      cases ds <;> simp only [reduceCtorEq] at h
      rename_i x y
      cases h1 : specMatch lits p x <;> cases h2 : specMatchList lits ps y <;> simp [h1, h2] at h
      subst h
      exact lcons _ _ _ _ _ _ (Bool.eq_false_iff.2 he) h1 h2 (ihp _ _ h1) (ihps _ _ h2)

theorem properElems_sizeList {d : Datum} {ds} (h : properElems d = some ds) : Datum.sizeList ds ≤ d.size := by
  rw [properElems_eq_spine] at h
  split at h <;> cases h
  exact d.sizeList_spine_le

theorem specMatch_shape_aux (lits : List String) :
    (∀ p, ∀ d β, specMatch lits p d = some β → Shape (p.vars lits) (p.ellFree = true) d.size β) ∧
    (∀ ps, ∀ ds β, specMatchList lits ps ds = some β →
      Shape (Pat.varsList lits ps) (Pat.ellFreeList ps = true) (Datum.sizeList ds) β) := by
  refine specMatch_induct lits (R := fun a ds β => Shape (a.vars lits) False (Datum.sizeList ds) β)
    ?_ ?_ ?_ ?_ ?_ ?_ ?_ ?_ ?_ ?_ ?_ ?_
  · exact fun _ => Shape.nil
  · intro v d hv
    rw [Pat.vars, hv]
    exact ⟨rfl, by simp [Bindings.NonEmpty], fun _ e he => ⟨d, by simp_all⟩,
      fun e he => by simp at he; subst he; exact d.size_pos⟩
  · intro v l hv; rw [Pat.vars, hv]; exact Shape.nil
  · exact fun _ _ => Shape.nil
  · exact fun _ => Shape.nil
  · intro a d ds β hd h
    simpa [Pat.vars, Pat.ellFree] using h.mono (properElems_sizeList hd) id
  · intro a r x y l β₁ β₂ _ _ _ h1 h2
    simpa [Pat.vars, Pat.ellFree, Datum.size] using (h1.append h2).mono (Nat.le_succ _) id
  · intro ps ds l β h
    simpa [Pat.vars, Pat.ellFree, Datum.size] using h.mono (Nat.le_succ _) id
  · exact Shape.nil
  · intro p ds β h
    simpa [Pat.varsList, Pat.vars, Pat.ellFreeList, Pat.ellFree] using h
  · intro p ps d ds β₁ β₂ _ _ _ h1 h2
    simpa [Pat.varsList, Pat.ellFreeList, Datum.sizeList] using h1.append h2
  · intro a d ds β βs h1 h2 ih
    exact Shape.run ih (by rw [specRun_cons_some h1, h2]; rfl)

theorem specMatch_keys {lits p d β} (h : specMatch lits p d = some β) :
    β.map Prod.fst = p.vars lits := ((specMatch_shape_aux lits).1 p d β h).keys

theorem specMatch_nonEmpty {lits p d β} (h : specMatch lits p d = some β) : β.NonEmpty :=
  ((specMatch_shape_aux lits).1 p d β h).ne

theorem specMatch_single {lits p d β} (h : specMatch lits p d = some β)
    (he : p.ellFree = true) : β.Single := ((specMatch_shape_aux lits).1 p d β h).single he

theorem specMatch_len {lits p d β} (h : specMatch lits p d = some β) :
    ∀ e ∈ β, e.2.length ≤ d.size := ((specMatch_shape_aux lits).1 p d β h).len

theorem specMatchList_keys {lits ps ds β} (h : specMatchList lits ps ds = some β) :
    β.map Prod.fst = Pat.varsList lits ps := ((specMatch_shape_aux lits).2 ps ds β h).keys

theorem specMatchList_nonEmpty {lits ps ds β} (h : specMatchList lits ps ds = some β) :
    β.NonEmpty := ((specMatch_shape_aux lits).2 ps ds β h).ne

/-! ## Tables: fresh inserts append, pushes extend the item sequences -/

@[simp] theorem Bindings.toSubst_nil : Bindings.toSubst [] = [] := rfl

@[simp] theorem Bindings.toSubst_append {β₁ β₂ : Bindings} :
    Bindings.toSubst (β₁ ++ β₂) = β₁.toSubst ++ β₂.toSubst := by simp [Bindings.toSubst]

@[simp] theorem Bindings.keys_toSubst {β : Bindings} :
    Subst.keys β.toSubst = β.map Prod.fst := by
  simp [Subst.keys, Bindings.toSubst, Function.comp_def]

theorem Bindings.toBindings_toSubst {β : Bindings} (h : β.NonEmpty) :
    β.toSubst.toBindings = β := by
  simp only [Subst.toBindings, Bindings.toSubst, List.map_map]
  conv => rhs; rw [← List.map_id β]
  apply List.map_congr_left
  intro e he
  have := h e he
  obtain ⟨v, ms⟩ := e
  cases ms with
  | nil => exact absurd rfl this
  | cons m ms => rfl

def Subst.pushed (A : Subst) (v : String) (m : Datum) : Subst :=
  A.map fun e => if e.1 = v then (e.1, e.2.1, e.2.2 ++ [m]) else e

@[simp] theorem Subst.keys_pushed {A : Subst} {v m} : Subst.keys (A.pushed v m) = Subst.keys A := by
  simp only [Subst.keys, Subst.pushed, List.map_map]
  congr 1; funext e; simp only [Function.comp]; split <;> rfl

theorem Subst.push?_pushed {A : Subst} {v m} (hv : v ∈ Subst.keys A) (hn : (Subst.keys A).Nodup) :
    A.push? v m = some (A.pushed v m) := by
  induction A with
  | nil => cases hv
  | cons e A ih =>
    obtain ⟨k, f, more⟩ := e
    obtain ⟨hk, hn⟩ := List.nodup_cons.1 hn
    rw [Subst.push?, Subst.pushed, List.map_cons]
    by_cases h : k = v
    · subst h -- entries with another key are unchanged
      rw [if_pos rfl, if_pos rfl, List.map_congr_left (g := id) fun e he =>
        if_neg fun (h : e.1 = k) => hk (h ▸ List.mem_map_of_mem (f := (·.1)) he), List.map_id]
    · rw [if_neg h, if_neg h, ih ((List.mem_cons.1 hv).resolve_left (Ne.symm h)) hn]; rfl

theorem Subst.push?_append {σ0 A : Subst} {v m} (h0 : v ∉ Subst.keys σ0) :
    (σ0 ++ A).push? v m = (A.push? v m).map (σ0 ++ ·) := by
  induction σ0 with
  | nil => cases h : A.push? v m <;> simp [h]
  | cons e σ0 ih =>
    obtain ⟨k, f, more⟩ := e
    simp only [Subst.keys_cons, List.mem_cons, not_or] at h0
    simp only [List.cons_append, Subst.push?]
    rw [if_neg (fun hk => h0.1 hk.symm), ih h0.2]
    cases A.push? v m <;> rfl

/-- what `pushAll τ` pushes for the variable `k` -/
def Subst.collect (τ : Subst) (k : String) : List Datum :=
  τ.filterMap fun e => if e.1 = k then some e.2.1 else none

theorem pushAll_append {τ σ0 A : Subst}
    (hsub : ∀ k ∈ Subst.keys τ, k ∈ Subst.keys A) (hn : (Subst.keys A).Nodup)
    (hdis : ∀ k ∈ Subst.keys A, k ∉ Subst.keys σ0) :
    pushAll τ (σ0 ++ A) =
      some (σ0 ++ A.map fun e => (e.1, e.2.1, e.2.2 ++ τ.collect e.1)) := by
  induction τ generalizing A with
  | nil => simp [pushAll_nil, Subst.collect]
  | cons e τ ih =>
    obtain ⟨v, m, r⟩ := e
    have hv : v ∈ Subst.keys A := hsub v (by simp)
    rw [pushAll_cons, Subst.push?_append (hdis v hv), Subst.push?_pushed hv hn]
    simp only [Option.map_some, Option.bind_some]
    rw [ih (A := A.pushed v m)]
    · simp only [Subst.pushed, List.map_map, Option.some.injEq, List.append_cancel_left_eq]
      apply List.map_congr_left
      intro e he
      simp only [Function.comp, Subst.collect, List.filterMap_cons]
      by_cases hk : e.1 = v
      · simp [hk]
      · have : ¬ v = e.1 := fun h => hk h.symm
        simp [hk, this]
    · intro k hk; rw [Subst.keys_pushed]; exact hsub k (by simp [hk])
    · rw [Subst.keys_pushed]; exact hn
    · intro k hk; rw [Subst.keys_pushed] at hk; exact hdis k hk

theorem Subst.collect_cons {v m r} {τ : Subst} {k} :
    Subst.collect ((v, m, r) :: τ) k = if v = k then m :: Subst.collect τ k else Subst.collect τ k := by
  simp only [Subst.collect, List.filterMap_cons]
  by_cases h : v = k <;> simp [h]

theorem Subst.collect_fresh {τ : Subst} {k} (h : k ∉ Subst.keys τ) : Subst.collect τ k = [] :=
  List.filterMap_eq_nil_iff.2 fun e he => if_neg fun (hk : e.1 = k) => h (hk ▸ List.mem_map_of_mem (f := (·.1)) he)

theorem Subst.collect_toSubst {β : Bindings} (hs : β.Single) (hn : (β.map Prod.fst).Nodup) (k) :
    Subst.collect β.toSubst k = (β.lookup k).getD [] := by
  induction β with
  | nil => rfl
  | cons e β ih =>
    obtain ⟨v, ms⟩ := e
    obtain ⟨m, rfl⟩ : ∃ m, ms = [m] := hs (v, ms) (List.mem_cons_self ..)
    obtain ⟨hv, hn⟩ := List.nodup_cons.1 hn
    show Subst.collect ((v, m, []) :: Bindings.toSubst β) k = _
    rw [Subst.collect_cons, Assoc.lookup_cons_ite]
    by_cases hk : v = k
    · subst hk; rw [if_pos rfl, if_pos rfl, Subst.collect_fresh (by simpa using hv)]; rfl
    · rw [if_neg hk, if_neg (Ne.symm hk)]; exact ih (fun e he => hs e (List.mem_cons_of_mem _ he)) hn

theorem pushAll_toSubst {σ0 : Subst} {acc β' : Bindings} {vs : List String}
    (hs : β'.Single) (hkeys : β'.map Prod.fst = vs) (hacc : acc.map Prod.fst = vs) (hn' : vs.Nodup)
    (hne : acc.NonEmpty) (hdis : ∀ k ∈ vs, k ∉ Subst.keys σ0) :
    pushAll β'.toSubst (σ0 ++ acc.toSubst) = some (σ0 ++ (zipB acc β').toSubst) := by
  subst hkeys
  rw [pushAll_append]
  · simp only [Option.some.injEq, List.append_cancel_left_eq]
    simp only [Subst.collect_toSubst hs hn']
    simp only [Bindings.toSubst, zipB, List.map_map]
    apply List.map_congr_left
    intro e he
    have hne' := hne e he
    obtain ⟨k, ms⟩ := e
    cases ms with
    | nil => exact absurd rfl hne'
    | cons m ms => rfl
  · simp [hacc]
  · simpa [hacc] using hn'
  · simpa [hacc] using hdis

/-! ## The refinement: model matcher ⊑ declarative matcher -/

theorem supported_iff {lits p} : Supported lits p = true ↔ Pat.ok lits p = true ∧ (p.vars lits).Nodup := by
  simp only [Supported, Bool.and_eq_true, decide_eq_true_eq]

def Agrees (r : Except SErr (Bool × Subst)) (o : Option Subst) : Prop :=
  r = .error (.fuel, none) ∨
    match o with
    | some σ' => r = .ok (true, σ')
    | none => ∃ σ', r = .ok (false, σ')

theorem Agrees.fuel {o} : Agrees (.error (.fuel, none)) o := .inl rfl
theorem Agrees.ofSome {σ'} : Agrees (.ok (true, σ')) (some σ') := .inr rfl
theorem Agrees.ofNone {σ'} : Agrees (.ok (false, σ')) none := .inr ⟨σ', rfl⟩

theorem Agrees.test {σ : Subst} {c : Bool} {P : Prop} [Decidable P] (h : c = decide P) :
    Agrees (.ok (c, σ)) ((if P then some ([] : Bindings) else none).map fun β => σ ++ Bindings.toSubst β) := by
  subst h
  by_cases hP : P
  · rw [if_pos hP, decide_eq_true hP, Option.map_some, Bindings.toSubst_nil, List.append_nil]
    exact .ofSome
  · rw [if_neg hP, decide_eq_false hP]; exact .ofNone

theorem nextMM_not_lit {lits p} (h : p.isLit lits = false) : nextMM lits p = some p := by
  rw [nextMM_eq, h]; rfl

theorem Agrees.error {e o o'} (h : Agrees (.error e) o) : Agrees (.error e) o' := by
  rcases h with h | h
  · exact .inl h
  · cases o <;> simp at h

theorem Agrees.ok_true {σ1 o} (h : Agrees (.ok (true, σ1)) o) : o = some σ1 := by
  rcases h with h | h
  · cases h
  · cases o <;> simp at h
    rw [h]

theorem Agrees.ok_false {σ1 o} (h : Agrees (.ok (false, σ1)) o) : o = none := by
  rcases h with h | h
  · cases h
  · cases o <;> simp at h
    rfl

theorem Agrees.stop {r o o'} (h : Agrees r o) (hns : ∀ σ1, r ≠ .ok (true, σ1)) (ho : o = none → o' = none) :
    Agrees r o' := by
  rcases r with e | ⟨_ | _, σ1⟩
  · exact h.error
  · rw [ho h.ok_false]; exact .ofNone
  · exact absurd rfl (hns σ1)

theorem mapOpt_cons_map {α β : Type} {f : α → Option β} {x xs y} (h : f x = some y) :
    mapOpt f (x :: xs) = (mapOpt f xs).map (y :: ·) := by
  simp only [mapOpt, h]; cases mapOpt f xs <;> rfl

abbrev RefD (lits : List String) (p : Pat) (d : Datum) (σ : Subst) (r : Outcome) : Prop :=
  Pat.ok lits p = true → (p.vars lits).Nodup → (∀ v ∈ p.vars lits, v ∉ Subst.keys σ) →
    Agrees r ((specMatch lits p d).map (σ ++ ·.toSubst))

/-- Second conjunct: the stream stands at the final `...` with `q` pending, inside a run. Invariant of the
run: `σ = σ0 ++ acc.toSubst`, with `σ0` the table from before the run and `acc` the bindings of the items
matched so far, one non-empty sequence per variable of `q`; a further item extends `acc` by `zipB`. -/
abbrev RefS (lits : List String) (ps : List Pat) (ds : List Datum) (mm : Option Pat) (σ : Subst)
    (r : Outcome) : Prop :=
  (Pat.okList lits ps = true → (Pat.varsList lits ps).Nodup →
    (∀ v ∈ Pat.varsList lits ps, v ∉ Subst.keys σ) →
    Agrees r ((specMatchList lits ps ds).map (σ ++ ·.toSubst))) ∧
  (∀ q σ0 (acc : Bindings), ps = [.ellipsis] → mm = some q → σ = σ0 ++ acc.toSubst →
    Pat.ok lits q = true → q.ellFree = true → (q.vars lits).Nodup → acc.map Prod.fst = q.vars lits →
    acc.NonEmpty → (∀ v ∈ q.vars lits, v ∉ Subst.keys σ0) →
    Agrees r ((mapOpt (specMatch lits q) ds).map (fun βs => σ0 ++ (βs.foldl zipB acc).toSubst)))

theorem match_spec_aux (lits : List String) : ∀ n,
    (∀ p d σ, RefD lits p d σ (matchDatum n lits p d σ)) ∧
    (∀ ps ds mm σ, RefS lits ps ds mm σ (matchStream n lits ps ds mm σ)) := by
  have noEll : ∀ {ps : List Pat} {α : Prop}, Pat.okList lits (.ellipsis :: ps) = true → α := fun h => by
    simp [Pat.okList, Pat.ok] at h
  have listy : ∀ {p : Pat}, Pat.ok lits p = true → p.isListy = true →
      Pat.okTail lits p = true ∧ p.spine.2 = none ∧ Pat.okList lits p.spine.1 = true ∧
        p.vars lits = Pat.varsList lits p.spine.1 := fun {p} hok hl => by
    have hT := Pat.ok_okTail hok hl
    obtain ⟨hs2, hs1⟩ := Pat.okTail_spine p hT
    have hv := Pat.vars_spine lits p
    simp only [hs2, List.append_nil] at hv
    exact ⟨hT, hs2, hs1, hv⟩
  refine match_induct (lits := lits) (D := fun _ => RefD lits) (S := fun _ => RefS lits)
    ?zeroD ?zeroS ?under ?ell ?var ?lit ?prim ?vec ?vecNo ?listNo ?listStop ?listTails ?listEnd ?listOdd
    ?nilNil ?nilCons ?consNil ?ellNil ?stop ?step ?ellOne ?ellNone ?ellErr ?ellFail ?ellPanic ?ellStay ?ellOver
  case zeroD => exact fun _ _ _ => .fuel
  case zeroS => exact ⟨fun _ _ _ => .fuel, fun _ _ _ _ _ _ _ _ _ _ _ _ => .fuel⟩
  case under =>
    intro _ d σ _ _ _
    simp only [specMatch, Option.map_some, Bindings.toSubst_nil, List.append_nil]
    exact .ofSome
  case ell => exact fun hok => by simp [Pat.ok] at hok
  case var =>
    intro _ v d σ hv _ _ hdis
    rw [Subst.insert_fresh (hdis v (by simp only [Pat.vars, hv, Bool.false_eq_true, if_false, List.mem_singleton]))]
    simp only [specMatch, hv, Bool.false_eq_true, if_false, Option.map_some]
    exact .ofSome
  case lit =>
    intro _ v d σ hv _ _ _
    simp only [specMatch, hv, if_true]
    cases d <;> first | exact .ofNone | exact Agrees.test (Bool.beq_eq_decide_eq _ _)
  case prim =>
    intro _ a d σ _ _ _
    simp only [specMatch]
    cases d <;> first | exact .ofNone | exact Agrees.test (Bool.beq_eq_decide_eq _ _)
  case vec =>
    intro _ ps ds l σ r ih hok hnd hdis
    exact ih.1 hok hnd hdis
  case vecNo =>
    intro _ ps d σ h _ _ _
    cases d <;> first | exact .ofNone | exact absurd rfl (h _ _)
  case listNo =>
    intro _ p d σ hp hd hok _ _
    rw [specMatch_listy p (listy hok hp).1, Datum.spine_atom hd]
    exact .ofNone
  case listStop =>
    intro _ p d σ r hp _ ih hns hok hnd hdis
    obtain ⟨hT, -, hs1, hv⟩ := listy hok hp
    rw [specMatch_listy p hT]
    refine (ih.1 hs1 (hv ▸ hnd) (hv ▸ hdis)).stop hns fun h => ?_
    cases d.spine.2 <;> first | exact h | rfl
  case listTails =>
    intro _ p d σ σ1 lp ld r hp _ _ hlp _ _ hok _ _
    exact absurd ((listy hok hp).2.1 ▸ hlp) nofun
  case listEnd =>
    intro _ p d σ σ1 hp _ ih _ hld hok hnd hdis
    obtain ⟨hT, -, hs1, hv⟩ := listy hok hp
    rw [specMatch_listy p hT, hld, (ih.1 hs1 (hv ▸ hnd) (hv ▸ hdis)).ok_true]
    exact .ofSome
  case listOdd =>
    intro _ p d σ σ1 hp _ _ hne hok _ _
    obtain ⟨hT, hs2, -, -⟩ := listy hok hp
    rw [specMatch_listy p hT]
    cases hd : d.spine.2 with
    | none => rw [hs2, hd] at hne; exact absurd rfl hne
    | some t => exact .ofNone
  case nilNil =>
    refine ⟨fun _ _ _ => ?_, fun _ _ _ h => nomatch h⟩
    simp only [specMatchList, Option.map_some, Bindings.toSubst_nil, List.append_nil]
    exact .ofSome
  case nilCons => exact ⟨fun _ _ _ => .ofNone, fun _ _ _ h => nomatch h⟩
  case consNil =>
    intro _ p ps mm σ h
    refine ⟨fun _ _ _ => by rw [specMatchList_cons_nil]; exact .ofNone, fun q _ _ hps hmm => ?_⟩
    cases hps; cases hmm
    rcases h with h | h <;> cases h
  case ellNil =>
    intro _ ps mp σ r ih
    refine ⟨noEll, fun q σ0 acc hps hmm hσ _ _ _ _ _ _ => ?_⟩
    cases hps
    simpa [specMatchList, mapOpt, hσ] using ih.1 rfl .nil nofun
  case stop =>
    intro _ p ps d ds mm σ r hp ih hns
    refine ⟨fun hok hnd hdis => ?_, fun _ _ _ hps => by cases hps; cases hp⟩
    simp only [Pat.varsList] at hnd hdis
    rw [specMatchList]
    rcases Pat.okList_cons hok with ⟨rfl, hpok, -, -⟩ | ⟨he, hpok, -⟩
    · rw [if_pos (Pat.isEllOnly_iff.2 rfl)]
      exact (ih hpok (by simpa [Pat.varsList, Pat.vars] using hnd)
        (fun v hv => hdis v (by simp [hv]))).stop hns fun h => by
          rw [specRun_cons_none (Option.map_eq_none_iff.1 h)]; rfl
    · rw [he, if_neg Bool.false_ne_true]
      exact (ih hpok (List.nodup_append.1 hnd).1 (fun v hv => hdis v (by simp [hv]))).stop hns fun h => by
        rw [Option.map_eq_none_iff.1 h]; rfl
  case step =>
    intro _ p ps d ds mm σ σ1 r hp ihD ihS
    refine ⟨fun hok hnd hdis => ?_, fun _ _ _ hps => by cases hps; cases hp⟩
    simp only [Pat.varsList] at hnd hdis
    rw [specMatchList]
    rcases Pat.okList_cons hok with ⟨rfl, hpok, hpef, hplit⟩ | ⟨he, hpok, hpsok⟩
    · have hvl : p.vars lits ++ Pat.varsList lits [Pat.ellipsis] = p.vars lits := List.append_nil _
      rw [hvl] at hnd hdis
      obtain ⟨β, hβ, rfl⟩ := Option.map_eq_some_iff.1 (ihD hpok hnd hdis).ok_true
      rw [if_pos (Pat.isEllOnly_iff.2 rfl), specRun_cons_some hβ, Option.map_map]
      exact ihS.2 p σ β rfl (nextMM_not_lit hplit) rfl hpok hpef hnd (specMatch_keys hβ)
        (specMatch_nonEmpty hβ) hdis
    · obtain ⟨hnd1, hnd2, hnd3⟩ := List.nodup_append.1 hnd
      obtain ⟨β, hβ, rfl⟩ := Option.map_eq_some_iff.1
        (ihD hpok hnd1 (fun v hv => hdis v (by simp [hv]))).ok_true
      have := ihS.1 hpsok hnd2 (by
        intro v hv
        simp only [Subst.keys_append, Bindings.keys_toSubst, specMatch_keys hβ, List.mem_append, not_or]
        exact ⟨hdis v (by simp [hv]), fun h => hnd3 v h v hv rfl⟩)
      rw [he, if_neg Bool.false_ne_true, hβ]
      cases hps : specMatchList lits ps ds with
      | none => simpa [hps] using this
      | some β₂ => simpa [hps, List.append_assoc] using this
  case ellOne => exact ⟨noEll, fun _ _ _ _ _ _ _ _ _ _ _ _ => .fuel⟩
  case ellNone => exact ⟨noEll, fun _ _ _ _ h => nomatch h⟩
  case ellErr =>
    intro _ ps d ds mp σ e ih
    refine ⟨noEll, fun q σ0 acc _ hmm _ hq _ hnd _ _ _ => ?_⟩
    cases hmm
    exact (ih hq hnd (fun _ _ => by simp)).error
  case ellFail =>
    intro _ ps d ds mp σ τ ih
    refine ⟨noEll, fun q σ0 acc _ hmm _ hq _ hnd _ _ _ => ?_⟩
    cases hmm
    have := Option.map_eq_none_iff.1 (ih hq hnd (fun _ _ => by simp)).ok_false
    simp only [mapOpt, this, Option.map_none]
    exact .ofNone
  case ellPanic =>
    intro _ ps d ds mp σ τ ih hpush
    refine ⟨noEll, fun q σ0 acc _ hmm hσ hq hef hnd hkeys hne hdis => ?_⟩
    cases hmm
    obtain ⟨β, hβ, rfl⟩ := Option.map_eq_some_iff.1 (ih hq hnd (fun _ _ => by simp)).ok_true
    rw [List.nil_append, hσ, pushAll_toSubst (specMatch_single hβ hef) (specMatch_keys hβ) hkeys hnd hne hdis] at hpush
    cases hpush
  case ellStay =>
    intro _ ps d ds mp σ τ σ2 r ih hpush ihS _
    refine ⟨noEll, fun q σ0 acc hps hmm hσ hq hef hnd hkeys hne hdis => ?_⟩
    cases hmm
    obtain ⟨β, hβ, rfl⟩ := Option.map_eq_some_iff.1 (ih hq hnd (fun _ _ => by simp)).ok_true
    rw [List.nil_append, hσ, pushAll_toSubst (specMatch_single hβ hef) (specMatch_keys hβ) hkeys hnd hne hdis] at hpush
    cases hpush
    rw [mapOpt_cons_map hβ, Option.map_map]
    exact ihS.2 _ σ0 (zipB acc β) hps rfl rfl hq hef hnd (by simpa using hkeys) (zipB_nonEmpty hne) hdis
  case ellOver =>
    intro _ ps d ds mp σ τ σ2 σ3 r ih hpush ihS1 ihS2
    refine ⟨noEll, fun q σ0 acc hps hmm hσ hq hef hnd hkeys hne hdis => ?_⟩
    cases hmm
    obtain ⟨β, hβ, rfl⟩ := Option.map_eq_some_iff.1 (ih hq hnd (fun _ _ => by simp)).ok_true
    rw [List.nil_append, hσ, pushAll_toSubst (specMatch_single hβ hef) (specMatch_keys hβ) hkeys hnd hne hdis] at hpush
    cases hpush
    have hno := Option.map_eq_none_iff.1
      (ihS1.2 _ σ0 (zipB acc β) hps rfl rfl hq hef hnd (by simpa using hkeys) (zipB_nonEmpty hne) hdis).ok_false
    rw [mapOpt_cons_map hβ, hno]
    cases hps
    cases ds with
    | nil => cases hno
    | cons x xs => exact ihS2.1 rfl .nil nofun

theorem matchDatum_eq_spec_cases {lits n p d} (hs : Supported lits p = true)
    (hnf : matchDatum n lits p d [] ≠ .error (.fuel, none)) :
    (∀ β, specMatch lits p d = some β →
      matchDatum n lits p d [] = .ok (true, β.toSubst) ∧ β.toSubst.toBindings = β) ∧
    (specMatch lits p d = none → ∃ σ', matchDatum n lits p d [] = .ok (false, σ')) := by
  have hs := supported_iff.1 hs
  rcases (match_spec_aux lits n).1 p d [] hs.1 hs.2 (fun v _ => by simp) with h | h
  · exact absurd h hnf
  · exact ⟨fun β hβ => ⟨by simpa [hβ] using h, Bindings.toBindings_toSubst (specMatch_nonEmpty hβ)⟩,
      fun hn => by simpa [hn] using h⟩

theorem matchDatum_eq_spec {lits n p d} (hs : Supported lits p = true) (hf : p.size + d.size ≤ n) :
    match specMatch lits p d with
    | some β => matchDatum n lits p d [] = .ok (true, β.toSubst) ∧ β.toSubst.toBindings = β
    | none => ∃ σ', matchDatum n lits p d [] = .ok (false, σ') := by
  have h := matchDatum_eq_spec_cases hs (matchDatum_fuel (σ := []) (l := none) hf)
  cases hm : specMatch lits p d with
  | some β => exact h.1 β hm
  | none => exact h.2 hm

end Ruschm.Macro
