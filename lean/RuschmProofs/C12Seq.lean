/-
Property C12 over TIME — what several import declarations, one after the other, do to ONE frame.

`RuschmProofs/C12.lean` is about one import declaration (`importSet_eq_spec`, `import_union`,
`import_conflict_is_error`). This file is about `Interp.evalImport` applied several times:

1. `import_defines_exactly`: a successful declaration binds, in the target frame, exactly the names
   of its merged binding list to exactly those values — whatever the frame held before (an
   equal-looking earlier value included: `equal_looking_value_is_replaced`);
2. `later_declaration_wins` / `last_declaration_wins`: of several declarations, the LAST one that
   binds a name decides;
3. `conflict_is_per_declaration`, `failed_declaration_has_no_effect`: the "one name, two different
   bindings" error is a matter of the sets of ONE declaration; nothing survives from one declaration
   to the next, and a failed declaration leaves the frame as it was;
4. `library_private_imports_do_not_conflict`: the import declarations of a library body go into
   the library's own fresh frame and cannot conflict with the program's.

Vocabulary as in C12: `S.denoteAll` (the concatenated denotations of the sets of a declaration),
`S.asMap` (that list as a map: the last binding of a name), `S.Clash`, `importEq`, `exportsOf`.
Helper lemmas are `private`.
-/
import RuschmProofs.C12
import RuschmProofs.Same

namespace Ruschm.C12Seq
open Ruschm Ruschm.Interp

/-! ## vocabulary -/

/-- several import declarations, one after the other, into the same frame `ρ`; the first error
stops the sequence (`eval_ast` returns it and the driver stops) -/
def importAll (fuel : Nat) (ρ : Nat) : State → List (List ImportSet) → Except SErr Unit × State
  | st, [] => (.ok (), st)
  | st, sets :: rest =>
    match evalImport fuel st sets ρ with
    | (.ok (), st') => importAll fuel ρ st' rest
    | (.error e, st') => (.error e, st')

/-- `new` where it binds the name, `old` elsewhere — written out as the `match` it is; `S.override m old x` is
`orElse (m x) (old x)` -/
def orElse (new : Option Value) (old : Option Value) : Option Value :=
  match new with
  | some v => some v
  | none => old

/-! ## helpers -/

/-- what a successful import declaration with merged binding list `bs` did to the state -/
private structure Imported (st st' : State) (ρ : Nat) (bs : S.Bindings) : Prop where
  state : st' = { st with store := st'.store, instances := st'.instances }
  exports : ∀ n, exportsOf st' n = exportsOf st n
  binding : ∀ x, st'.store.binding ρ x = S.override (S.asMap bs) (st.store.binding ρ) x
  other_frames : ∀ i, i ≠ ρ → st'.store.frames[i]? = st.store.frames[i]?
  parent : ∀ i : Nat, st'.store.frames[i]?.map Frame.parent = st.store.frames[i]?.map Frame.parent
  size : st'.store.frames.size = st.store.frames.size
  vecs : st'.store.vecs = st.store.vecs

private theorem Imported.inProgress {st st' : State} {ρ bs} (h : Imported st st' ρ bs) :
    st'.inProgress = st.inProgress := by rw [h.state]

private theorem Imported.importEq {st st' : State} {ρ bs} (h : Imported st st' ρ bs) :
    importEq st' = importEq st := importEq_congr h.vecs

/-- the same with the target frame allocated, and the store as `Lib.DefinedIn` says, for its lemmas -/
private structure Did (st st' : State) (ρ : Nat) (bs : S.Bindings) : Prop where
  imported : Imported st st' ρ bs
  frame : ρ < st.store.frames.size
  defined : Lib.DefinedIn st.store st'.store ρ (S.asMap bs)

private theorem Did.importEq {st st' : State} {ρ bs} (h : Did st st' ρ bs) : importEq st' = importEq st :=
  h.imported.importEq

/-- what an import declaration needs to go through as `C12.import_union` describes: fuel, libraries that
are not being loaded and have export lists, merged binding list `bs`, a target frame that exists -/
private structure Ready (sets : List ImportSet) (fuel : Nat) (st : State) (ρ : Nat) (bs : S.Bindings) : Prop where
  fuel : fuelNeededAll sets + 1 ≤ fuel
  idle : ∀ s ∈ sets, S.leaf s ∉ st.inProgress
  denote : S.denoteAll sets (exportsOf st) = some bs
  frame : ρ < st.store.frames.size

private theorem Ready.ok_spec {sets fuel st ρ bs} (r : Ready sets fuel st ρ bs) {st' : State}
    (hev : evalImport fuel st sets ρ = (.ok (), st')) : ¬ S.Clash (importEq st) bs ∧ Did st st' ρ bs := by
  obtain ⟨hc, hst, hex, d⟩ := evalImport_ok_defined r.fuel r.idle r.denote hev
  exact ⟨hc, ⟨hst, hex, d.bindings r.frame, d.other_frames, d.parent, d.size, d.vecs⟩, r.frame, d⟩

private theorem Ready.run {sets fuel st ρ bs} (r : Ready sets fuel st ρ bs) (hok : ¬ S.Clash (importEq st) bs) :
    ∃ st', evalImport fuel st sets ρ = (.ok (), st') ∧ Did st st' ρ bs := by
  obtain ⟨st', he, -⟩ := evalImport_defined ρ r.fuel r.idle r.denote hok
  exact ⟨st', he, (r.ok_spec he).2⟩

private theorem Ready.carry {sets fuel st ρ bs} (r : Ready sets fuel st ρ bs) {st' : State}
    (hip : st'.inProgress = st.inProgress) (hex : ∀ n, exportsOf st' n = exportsOf st n)
    (hsz : st.store.frames.size ≤ st'.store.frames.size) : Ready sets fuel st' ρ bs :=
  ⟨r.fuel, by rw [hip]; exact r.idle, by rw [S.denoteAll_congr hex]; exact r.denote, Nat.lt_of_lt_of_le r.frame hsz⟩

private theorem Ready.after {sets fuel st ρ bs} (r : Ready sets fuel st ρ bs) {st' : State} {ρ' bs'}
    (h : Did st st' ρ' bs') : Ready sets fuel st' ρ bs :=
  r.carry h.imported.inProgress h.imported.exports (Nat.le_of_eq h.imported.size.symm)

private theorem Did.orElse {st st' : State} {ρ bs} (h : Did st st' ρ bs) (x : String) :
    st'.store.binding ρ x = orElse (S.asMap bs x) (st.store.binding ρ x) ∧
    st'.store.lookup ρ x = orElse (S.asMap bs x) (st.store.lookup ρ x) := by
  cases hx : S.asMap bs x with
  | some v => exact h.defined.lookup_bound h.frame hx
  | none => exact ⟨(h.defined.lookup_unbound h.frame hx).1 ρ, (h.defined.lookup_unbound h.frame hx).2 ρ⟩

/-! ## the demo library: two numbers and two closures -/

/-- a procedure `(lambda () 1)` -/
def demoLam : Lambda := .mk ⟨[], none⟩ [] [.prim (.int 1) none]

/-- `(m)` exports the numbers `a = 1`, `b = 2` and two closures of ONE lambda over DIFFERENT
frames (1 and 2): `f`, `g` — the derived equality of values calls `f` and `g` equal -/
def demoLib : LibName := [.ident "m"]
def demoExports : S.Bindings :=
  [("a", .num (.int 1)), ("b", .num (.int 2)), ("f", .closure demoLam 1), ("g", .closure demoLam 2)]

/-- frame 0 (the program's) holds `a ↦ 7` and `f ↦ the closure over frame 2`; frames 1 and 2 are
the frames of the two closures -/
def demoStore : Store :=
  { frames := #[⟨none, [("a", .num (.int 7)), ("f", .closure demoLam 2)]⟩, ⟨none, []⟩, ⟨none, []⟩] }

def demoState : State := { store := demoStore, factories := [(demoLib, .native demoExports)] }

private theorem demo_closures_equal_looking :
    importEq demoState (.closure demoLam 2) (.closure demoLam 1) = true ∧
    (Value.closure demoLam 2) ≠ (.closure demoLam 1) := by
  constructor
  · decide +kernel
  · intro h; cases h

private theorem demo_idle (sets : List ImportSet) : ∀ s ∈ sets, S.leaf s ∉ demoState.inProgress :=
  fun _ _ => List.not_mem_nil

private theorem demo_frame : 0 < demoState.store.frames.size := by decide +kernel

/-- `(only (m) a)` is `a = 1` -/
private theorem demo_only_a :
    S.denoteAll [.only (.direct demoLib none) ["a"]] (exportsOf demoState) = some [("a", .num (.int 1))] := by
  rfl

/-- `(rename (only (m) b) (b a))` is `a = 2` -/
private theorem demo_b_as_a :
    S.denoteAll [.rename (.only (.direct demoLib none) ["b"]) [("b", "a")]] (exportsOf demoState) =
      some [("a", .num (.int 2))] := by
  rfl

/-! ## 1. a successful declaration defines exactly its bindings -/

/-- After a successful import declaration (`evalImport … = (.ok (), st')`; its sets over
instantiated or native libraries, with merged binding list `bs` = the concatenated denotations of
its sets), for EVERY name `x`:

* if the declaration binds `x` — `S.asMap bs x = some v`: the last binding of `x` in the union —
  then frame `ρ` now binds `x` to `v` and `lookup` of `x` from `ρ` is `v`, WHATEVER `ρ` (or a
  frame above it) held for `x` before: there is no hypothesis about the old binding;
* if the declaration does not bind `x`, then the binding of `x` in `ρ`, and the `lookup` of `x`
  from every frame, is what it was before.

The declaration had no clash of its own (it would have failed otherwise). -/
theorem import_defines_exactly (sets : List ImportSet) (fuel : Nat) (st st' : State) (ρ : Nat)
    (bs : S.Bindings) (hfuel : fuelNeededAll sets + 1 ≤ fuel)
    (hip : ∀ s ∈ sets, S.leaf s ∉ st.inProgress)
    (hd : S.denoteAll sets (exportsOf st) = some bs) (hρ : ρ < st.store.frames.size)
    (hev : evalImport fuel st sets ρ = (.ok (), st')) :
    ¬ S.Clash (importEq st) bs ∧
    ∀ x,
      (∀ v, S.asMap bs x = some v →
        st'.store.binding ρ x = some v ∧ st'.store.lookup ρ x = some v) ∧
      (S.asMap bs x = none →
        st'.store.binding ρ x = st.store.binding ρ x ∧
        ∀ ρ', st'.store.lookup ρ' x = st.store.lookup ρ' x) := by
  obtain ⟨hc, h⟩ := Ready.ok_spec ⟨hfuel, hip, hd, hρ⟩ hev
  exact ⟨hc, fun x => ⟨fun v hx => h.defined.lookup_bound hρ hx,
    fun hx => ⟨(h.defined.lookup_unbound hρ hx).1 ρ, (h.defined.lookup_unbound hρ hx).2⟩⟩⟩

/-- `(import (only (m) a b))` into the demo frame: `a` was 7 and is 1 now, `b` is new, `f` (not
imported) is what it was -/
example : ∃ st', evalImport 5 demoState [.only (.direct demoLib none) ["a", "b"]] 0 = (.ok (), st') ∧
    st'.store.lookup 0 "a" = some (.num (.int 1)) ∧ st'.store.lookup 0 "b" = some (.num (.int 2)) ∧
    st'.store.lookup 0 "f" = some (.closure demoLam 2) := by
  have hd : S.denoteAll [.only (.direct demoLib none) ["a", "b"]] (exportsOf demoState) =
      some [("a", .num (.int 1)), ("b", .num (.int 2))] := rfl
  obtain ⟨st', he, -⟩ := C12.import_union _ 5 demoState 0 _ (by decide +kernel) (demo_idle _) hd
    (Lib.not_clash_of_admissible (by simp [S.Admissible])) demo_frame
  obtain ⟨-, h⟩ := import_defines_exactly _ 5 demoState st' 0 _ (by decide +kernel) (demo_idle _) hd
    demo_frame he
  exact ⟨st', he, ((h "a").1 _ rfl).2, ((h "b").1 _ rfl).2, (((h "f").2 rfl).2 0).trans rfl⟩

/-- An EQUAL-LOOKING earlier value is REPLACED, not kept: let frame `ρ` bind `x` to `old`, and let
a successful declaration bind `x` to `new`, where `old` and `new` are different values that the
comparison of `eval_import` (`importEq`, the derived `PartialEq`) calls equal — two closures of one
lambda over different frames, two vectors (cells) with equal contents. Afterwards `ρ` binds `x` to
`new` — the frame / cell id of `new` is what is stored — and not to `old`. (There is no "already
bound to an equal value" shortcut.) -/
theorem equal_looking_value_is_replaced (sets : List ImportSet) (fuel : Nat) (st st' : State) (ρ : Nat)
    (bs : S.Bindings) (hfuel : fuelNeededAll sets + 1 ≤ fuel)
    (hip : ∀ s ∈ sets, S.leaf s ∉ st.inProgress)
    (hd : S.denoteAll sets (exportsOf st) = some bs) (hρ : ρ < st.store.frames.size)
    (hev : evalImport fuel st sets ρ = (.ok (), st'))
    (x : String) (old new : Value) (_hold : st.store.binding ρ x = some old)
    (hnew : S.asMap bs x = some new) (_heq : importEq st old new = true) (hne : old ≠ new) :
    st'.store.binding ρ x = some new ∧ st'.store.lookup ρ x = some new ∧
      st'.store.binding ρ x ≠ some old ∧ st'.store.lookup ρ x ≠ some old := by
  obtain ⟨-, h⟩ := import_defines_exactly sets fuel st st' ρ bs hfuel hip hd hρ hev
  obtain ⟨h1, h2⟩ := (h x).1 new hnew
  refine ⟨h1, h2, ?_, ?_⟩
  · rw [h1]; intro e; exact hne (Option.some.inj e).symm
  · rw [h2]; intro e; exact hne (Option.some.inj e).symm

/-- the demo frame binds `f` to the closure over frame 2; `(import (only (m) f))` brings the
closure of the same lambda over frame 1: equal for `importEq`, different values; afterwards `f`
is the closure over frame 1 -/
example : ∃ st', evalImport 5 demoState [.only (.direct demoLib none) ["f"]] 0 = (.ok (), st') ∧
    demoState.store.binding 0 "f" = some (.closure demoLam 2) ∧
    importEq demoState (.closure demoLam 2) (.closure demoLam 1) = true ∧
    st'.store.lookup 0 "f" = some (.closure demoLam 1) ∧
    st'.store.lookup 0 "f" ≠ some (.closure demoLam 2) := by
  have hd : S.denoteAll [.only (.direct demoLib none) ["f"]] (exportsOf demoState) =
      some [("f", .closure demoLam 1)] := rfl
  obtain ⟨st', he, -⟩ := C12.import_union _ 5 demoState 0 _ (by decide +kernel) (demo_idle _) hd
    (Lib.not_clash_of_admissible (by simp [S.Admissible])) demo_frame
  have hold : demoState.store.binding 0 "f" = some (.closure demoLam 2) := rfl
  obtain ⟨-, h2, -, h4⟩ := equal_looking_value_is_replaced _ 5 demoState st' 0 _ (by decide +kernel)
    (demo_idle _) hd demo_frame he "f" (.closure demoLam 2) (.closure demoLam 1) hold rfl
    demo_closures_equal_looking.1 demo_closures_equal_looking.2
  exact ⟨st', he, hold, demo_closures_equal_looking.1, h2, h4⟩

/-! ## 2. the later declaration wins -/

/-- Two successive successful import declarations into frame `ρ` (sets over instantiated or native
libraries; `bs₁`, `bs₂` their merged binding lists): afterwards the binding of every name `x` in
`ρ`, and its `lookup` from `ρ`, is the SECOND declaration's if that binds `x`, else the first's if
that binds `x`, else the old one. Nothing is assumed about how `bs₁` and `bs₂` relate: a name bound
by both is simply bound again. -/
theorem later_declaration_wins (sets₁ sets₂ : List ImportSet) (fuel : Nat) (st st₁ st₂ : State) (ρ : Nat)
    (bs₁ bs₂ : S.Bindings) (hfuel₁ : fuelNeededAll sets₁ + 1 ≤ fuel) (hfuel₂ : fuelNeededAll sets₂ + 1 ≤ fuel)
    (hip₁ : ∀ s ∈ sets₁, S.leaf s ∉ st.inProgress) (hip₂ : ∀ s ∈ sets₂, S.leaf s ∉ st.inProgress)
    (hd₁ : S.denoteAll sets₁ (exportsOf st) = some bs₁) (hd₂ : S.denoteAll sets₂ (exportsOf st) = some bs₂)
    (hρ : ρ < st.store.frames.size)
    (h₁ : evalImport fuel st sets₁ ρ = (.ok (), st₁)) (h₂ : evalImport fuel st₁ sets₂ ρ = (.ok (), st₂)) :
    ∀ x,
      st₂.store.binding ρ x = orElse (S.asMap bs₂ x) (orElse (S.asMap bs₁ x) (st.store.binding ρ x)) ∧
      st₂.store.lookup ρ x = orElse (S.asMap bs₂ x) (orElse (S.asMap bs₁ x) (st.store.lookup ρ x)) := by
  have r₂ : Ready sets₂ fuel st ρ bs₂ := ⟨hfuel₂, hip₂, hd₂, hρ⟩
  obtain ⟨-, i₁⟩ := Ready.ok_spec ⟨hfuel₁, hip₁, hd₁, hρ⟩ h₁
  obtain ⟨-, i₂⟩ := (r₂.after i₁).ok_spec h₂
  intro x
  rw [(i₂.orElse x).1, (i₂.orElse x).2, (i₁.orElse x).1, (i₁.orElse x).2]
  exact ⟨rfl, rfl⟩

/-- what a list of declarations, in order, makes of the old binding of `x`: each declaration that
binds `x` overrides what was there -/
def decided (bss : List S.Bindings) (old : Option Value) (x : String) : Option Value :=
  bss.foldl (fun acc bs => orElse (S.asMap bs x) acc) old

/-- `decided` is the old value when no list binds `x` -/
theorem decided_none (bss : List S.Bindings) (old : Option Value) (x : String)
    (h : ∀ b ∈ bss, S.asMap b x = none) : decided bss old x = old := by
  unfold decided
  induction bss with
  | nil => rfl
  | cons b bss ih =>
    rw [List.foldl_cons, h b (by simp)]
    exact ih (fun b' hb' => h b' (by simp [hb']))

/-- … and is decided by the LAST list that binds `x` -/
theorem decided_last (pre post : List S.Bindings) (bs : S.Bindings) (old : Option Value) (x : String)
    (v : Value) (hx : S.asMap bs x = some v) (hpost : ∀ b ∈ post, S.asMap b x = none) :
    decided (pre ++ bs :: post) old x = some v := by
  unfold decided
  rw [List.foldl_append, List.foldl_cons, hx]
  exact decided_none post _ x hpost

example : decided [[("a", .num (.int 1))], [("a", .num (.int 2))], [("b", .num (.int 3))]] none "a" =
    some (.num (.int 2)) :=
  decided_last [[("a", .num (.int 1))]] [[("b", .num (.int 3))]] [("a", .num (.int 2))] none "a" _
    (eq_of_same (by decide +kernel)) (by decide +kernel)

private theorem importAll_spec (fuel : Nat) (ρ : Nat) :
    ∀ (ds : List (List ImportSet × S.Bindings)) (st st' : State),
    (∀ d ∈ ds, Ready d.1 fuel st ρ d.2) → importAll fuel ρ st (ds.map Prod.fst) = (.ok (), st') →
    ∀ x, st'.store.binding ρ x = decided (ds.map Prod.snd) (st.store.binding ρ x) x ∧
      st'.store.lookup ρ x = decided (ds.map Prod.snd) (st.store.lookup ρ x) x
  | [], st, st', _, h, x => by cases h; exact ⟨rfl, rfl⟩
  | d :: ds, st, st', hyp, h, x => by
    simp only [List.map_cons, importAll] at h
    split at h
    · rename_i st₁ he
      obtain ⟨-, i₁⟩ := (hyp d (List.mem_cons_self ..)).ok_spec he
      obtain ⟨hb, hl⟩ := importAll_spec fuel ρ ds st₁ st'
        (fun d' hd' => (hyp d' (List.mem_cons_of_mem _ hd')).after i₁) h x
      rw [hb, hl, (i₁.orElse x).1, (i₁.orElse x).2]
      exact ⟨rfl, rfl⟩
    · cases h

/-- ANY number of import declarations, one after the other, all successful, into frame `ρ`
(`ds`: each declaration's sets with its merged binding list): for every name `x`, the LAST
declaration that binds `x` decides — if `ds = pre ++ d :: post`, `d` binds `x` to `v` and no
declaration of `post` binds `x`, then afterwards `ρ` binds `x` to `v` and `lookup` of `x` from `ρ`
is `v` (whatever `pre` and the old frame said); and if no declaration binds `x`, binding and lookup
are the old ones. -/
theorem last_declaration_wins (ds : List (List ImportSet × S.Bindings)) (fuel : Nat) (st st' : State)
    (ρ : Nat)
    (hyp : ∀ d ∈ ds, fuelNeededAll d.1 + 1 ≤ fuel ∧ (∀ s ∈ d.1, S.leaf s ∉ st.inProgress) ∧
      S.denoteAll d.1 (exportsOf st) = some d.2)
    (hρ : ρ < st.store.frames.size)
    (hev : importAll fuel ρ st (ds.map Prod.fst) = (.ok (), st')) :
    ∀ x,
      (∀ pre d post v, ds = pre ++ d :: post → S.asMap d.2 x = some v →
        (∀ e ∈ post, S.asMap e.2 x = none) →
        st'.store.binding ρ x = some v ∧ st'.store.lookup ρ x = some v) ∧
      ((∀ d ∈ ds, S.asMap d.2 x = none) →
        st'.store.binding ρ x = st.store.binding ρ x ∧ st'.store.lookup ρ x = st.store.lookup ρ x) := by
  intro x
  obtain ⟨hb, hl⟩ := importAll_spec fuel ρ ds st st'
    (fun d hd => ⟨(hyp d hd).1, (hyp d hd).2.1, (hyp d hd).2.2, hρ⟩) hev x
  constructor
  · rintro pre d post v rfl hx hpost
    have hpost' : ∀ b ∈ post.map Prod.snd, S.asMap b x = none := List.forall_mem_map.2 hpost
    rw [hb, hl]
    simp only [List.map_append, List.map_cons]
    exact ⟨decided_last _ _ _ _ x v hx hpost', decided_last _ _ _ _ x v hx hpost'⟩
  · intro hnone
    have hnone' : ∀ b ∈ ds.map Prod.snd, S.asMap b x = none := List.forall_mem_map.2 hnone
    rw [hb, hl]
    exact ⟨decided_none _ _ x hnone', decided_none _ _ x hnone'⟩

/-! ## 3. a conflict is a matter of ONE declaration -/

/-- The "one name, two different bindings" error depends only on the import sets of THAT
declaration. If each of two declarations is conflict-free on its own (`¬ S.Clash` of its own merged
list, both judged on the state before the first), then importing one after the other into the same
frame SUCCEEDS — there is no hypothesis relating `bs₁` and `bs₂`: they may bind a common name to
different values — and the frame ends up with the second's bindings over the first's over the old
ones. The table of bindings seen so far does not survive from one declaration to the next. -/
theorem conflict_is_per_declaration (sets₁ sets₂ : List ImportSet) (fuel : Nat) (st : State) (ρ : Nat)
    (bs₁ bs₂ : S.Bindings) (hfuel₁ : fuelNeededAll sets₁ + 1 ≤ fuel) (hfuel₂ : fuelNeededAll sets₂ + 1 ≤ fuel)
    (hip₁ : ∀ s ∈ sets₁, S.leaf s ∉ st.inProgress) (hip₂ : ∀ s ∈ sets₂, S.leaf s ∉ st.inProgress)
    (hd₁ : S.denoteAll sets₁ (exportsOf st) = some bs₁) (hd₂ : S.denoteAll sets₂ (exportsOf st) = some bs₂)
    (hok₁ : ¬ S.Clash (importEq st) bs₁) (hok₂ : ¬ S.Clash (importEq st) bs₂)
    (hρ : ρ < st.store.frames.size) :
    ∃ st₁ st₂, evalImport fuel st sets₁ ρ = (.ok (), st₁) ∧ evalImport fuel st₁ sets₂ ρ = (.ok (), st₂) ∧
      ∀ x,
        st₂.store.binding ρ x = orElse (S.asMap bs₂ x) (orElse (S.asMap bs₁ x) (st.store.binding ρ x)) ∧
        st₂.store.lookup ρ x = orElse (S.asMap bs₂ x) (orElse (S.asMap bs₁ x) (st.store.lookup ρ x)) := by
  have r₂ : Ready sets₂ fuel st ρ bs₂ := ⟨hfuel₂, hip₂, hd₂, hρ⟩
  obtain ⟨st₁, h₁, i₁⟩ := Ready.run ⟨hfuel₁, hip₁, hd₁, hρ⟩ hok₁
  obtain ⟨st₂, h₂, -⟩ := (r₂.after i₁).run (by rw [i₁.importEq]; exact hok₂)
  exact ⟨st₁, st₂, h₁, h₂,
    later_declaration_wins sets₁ sets₂ fuel st st₁ st₂ ρ bs₁ bs₂ hfuel₁ hfuel₂ hip₁ hip₂ hd₁ hd₂ hρ h₁ h₂⟩

/-- The contrast: the SAME sets written in ONE declaration do conflict. If the first group binds
`x` to `v` and the second group binds `x` (first) to `w`, and the comparison tells `v` and `w`
apart, then `(import sets₁… sets₂…)` is the error `.other` and leaves the store as it was — while
`(import sets₁…) (import sets₂…)` succeeds (`conflict_is_per_declaration`). -/
theorem one_declaration_would_conflict (sets₁ sets₂ : List ImportSet) (fuel : Nat) (st : State) (ρ : Nat)
    (bs₁ bs₂ : S.Bindings) (hfuel : fuelNeededAll (sets₁ ++ sets₂) + 1 ≤ fuel)
    (hip₁ : ∀ s ∈ sets₁, S.leaf s ∉ st.inProgress) (hip₂ : ∀ s ∈ sets₂, S.leaf s ∉ st.inProgress)
    (hd₁ : S.denoteAll sets₁ (exportsOf st) = some bs₁) (hd₂ : S.denoteAll sets₂ (exportsOf st) = some bs₂)
    (x : String) (v w : Value) (hv : S.asMap bs₁ x = some v) (hw : bs₂.lookup x = some w)
    (hne : importEq st v w = false) :
    ∃ st', evalImport fuel st (sets₁ ++ sets₂) ρ = (.error (.other, none), st') ∧ st'.store = st.store := by
  obtain ⟨p, q, rfl, hp⟩ := Lib.lookup_split hw
  have hclash : S.Clash (importEq st) (bs₁ ++ (p ++ (x, w) :: q)) := by
    refine ⟨bs₁ ++ p, x, w, q, v, by simp, ?_, hne⟩
    rw [Lib.asMap_append, hp]
    exact hv
  obtain ⟨st', he, hs, -⟩ := C12.import_conflict_is_error (sets₁ ++ sets₂) fuel st ρ _ hfuel
    (by
      intro s hs
      rcases List.mem_append.1 hs with h | h
      · exact hip₁ s h
      · exact hip₂ s h)
    (S.denoteAll_append _ _ _ _ _ hd₁ hd₂) hclash
  exact ⟨st', he, by rw [hs]⟩

/-- A declaration that conflicts WITH ITSELF (`S.Clash` of its merged list) fails with `.other`
and has NO effect on any frame: the store afterwards is the store before (of the whole state, only
the instance cache may have grown), so every binding and every lookup is as it was. And nothing of
it is remembered: a following declaration that is conflict-free on its own succeeds and defines
exactly its own bindings over the ORIGINAL frame — also for the names the failed declaration tried
to bind. -/
theorem failed_declaration_has_no_effect (sets₁ sets₂ : List ImportSet) (fuel : Nat) (st : State) (ρ : Nat)
    (bs₁ bs₂ : S.Bindings) (hfuel₁ : fuelNeededAll sets₁ + 1 ≤ fuel) (hfuel₂ : fuelNeededAll sets₂ + 1 ≤ fuel)
    (hip₁ : ∀ s ∈ sets₁, S.leaf s ∉ st.inProgress) (hip₂ : ∀ s ∈ sets₂, S.leaf s ∉ st.inProgress)
    (hd₁ : S.denoteAll sets₁ (exportsOf st) = some bs₁) (hd₂ : S.denoteAll sets₂ (exportsOf st) = some bs₂)
    (hclash₁ : S.Clash (importEq st) bs₁) (hok₂ : ¬ S.Clash (importEq st) bs₂)
    (hρ : ρ < st.store.frames.size) :
    ∃ st₁, evalImport fuel st sets₁ ρ = (.error (.other, none), st₁) ∧
      st₁.store = st.store ∧ st₁ = { st with instances := st₁.instances } ∧
      (∀ ρ' x, st₁.store.binding ρ' x = st.store.binding ρ' x ∧ st₁.store.lookup ρ' x = st.store.lookup ρ' x) ∧
      ∃ st₂, evalImport fuel st₁ sets₂ ρ = (.ok (), st₂) ∧
        ∀ x,
          st₂.store.binding ρ x = orElse (S.asMap bs₂ x) (st.store.binding ρ x) ∧
          st₂.store.lookup ρ x = orElse (S.asMap bs₂ x) (st.store.lookup ρ x) := by
  obtain ⟨st₁, he, hs, hex⟩ := C12.import_conflict_is_error sets₁ fuel st ρ bs₁ hfuel₁ hip₁ hd₁ hclash₁
  have hstore : st₁.store = st.store := SameButInstances.store hs
  have hip : st₁.inProgress = st.inProgress := SameButInstances.inProgress hs
  have r₂ : Ready sets₂ fuel st₁ ρ bs₂ :=
    (⟨hfuel₂, hip₂, hd₂, hρ⟩ : Ready sets₂ fuel st ρ bs₂).carry hip hex (by rw [hstore]; exact Nat.le_refl _)
  obtain ⟨st₂, h₂, i₂⟩ := r₂.run (by rw [importEq_congr (st := st) (congrArg _ hstore)]; exact hok₂)
  refine ⟨st₁, he, hstore, hs, fun ρ' x => by rw [hstore]; exact ⟨rfl, rfl⟩, st₂, h₂, fun x => ?_⟩
  rw [(i₂.orElse x).1, (i₂.orElse x).2, hstore]
  exact ⟨rfl, rfl⟩

/-! ### closed examples for sections 2 and 3 (the demo library) -/

/-- `(import (only (m) a))` then `(import (rename (only (m) b) (b a)))`: each is conflict-free, the
two bind `a` differently (1, then 2); both succeed and `a` is 2 afterwards -/
example : ∃ st₁ st₂, evalImport 6 demoState [.only (.direct demoLib none) ["a"]] 0 = (.ok (), st₁) ∧
    evalImport 6 st₁ [.rename (.only (.direct demoLib none) ["b"]) [("b", "a")]] 0 = (.ok (), st₂) ∧
    st₂.store.lookup 0 "a" = some (.num (.int 2)) := by
  obtain ⟨st₁, st₂, h₁, h₂, h⟩ := conflict_is_per_declaration _ _ 6 demoState 0 _ _
    (by decide +kernel) (by decide +kernel) (demo_idle _) (demo_idle _) demo_only_a demo_b_as_a
    (Lib.not_clash_of_admissible (by simp [S.Admissible])) (Lib.not_clash_of_admissible (by simp [S.Admissible]))
    demo_frame
  exact ⟨st₁, st₂, h₁, h₂, (h "a").2.trans rfl⟩

/-- the same two import sets in ONE declaration: an error -/
example : ∃ st', evalImport 7 demoState
    ([.only (.direct demoLib none) ["a"]] ++ [.rename (.only (.direct demoLib none) ["b"]) [("b", "a")]]) 0 =
      (.error (.other, none), st') ∧ st'.store = demoState.store :=
  one_declaration_would_conflict _ _ 7 demoState 0 _ _ (by decide +kernel) (demo_idle _) (demo_idle _)
    demo_only_a demo_b_as_a "a" (.num (.int 1)) (.num (.int 2)) (by rfl) (by rfl) (by rfl)

/-- `later_declaration_wins` on the two declarations above -/
example (st₁ st₂ : State)
    (h₁ : evalImport 6 demoState [.only (.direct demoLib none) ["a"]] 0 = (.ok (), st₁))
    (h₂ : evalImport 6 st₁ [.rename (.only (.direct demoLib none) ["b"]) [("b", "a")]] 0 = (.ok (), st₂)) :
    st₂.store.binding 0 "a" = some (.num (.int 2)) ∧
    st₂.store.binding 0 "f" = some (.closure demoLam 2) := by
  have h := later_declaration_wins _ _ 6 demoState st₁ st₂ 0 _ _ (by decide +kernel) (by decide +kernel)
    (demo_idle _) (demo_idle _) demo_only_a demo_b_as_a demo_frame h₁ h₂
  exact ⟨(h "a").1.trans rfl, (h "f").1.trans rfl⟩

/-- `(import (rename (m) (a c) (b c)))` conflicts with itself (`c` = 1 and `c` = 2): it fails, the
frame is untouched, and `(import (only (m) b))` right after it succeeds -/
example : ∃ st₁, evalImport 6 demoState [.rename (.only (.direct demoLib none) ["a", "b"]) [("a", "c"), ("b", "c")]] 0 =
      (.error (.other, none), st₁) ∧ st₁.store = demoState.store ∧
    ∃ st₂, evalImport 6 st₁ [.only (.direct demoLib none) ["b"]] 0 = (.ok (), st₂) ∧
      st₂.store.lookup 0 "b" = some (.num (.int 2)) ∧ st₂.store.lookup 0 "c" = none := by
  obtain ⟨st₁, h₁, hs, -, -, st₂, h₂, h⟩ := failed_declaration_has_no_effect
    [.rename (.only (.direct demoLib none) ["a", "b"]) [("a", "c"), ("b", "c")]] [.only (.direct demoLib none) ["b"]]
    6 demoState 0 [("c", .num (.int 1)), ("c", .num (.int 2))] [("b", .num (.int 2))]
    (by decide +kernel) (by decide +kernel) (demo_idle _) (demo_idle _) (by rfl) (by rfl)
    (by rw [Lib.clash_iff]; rfl) (Lib.not_clash_of_admissible (by simp [S.Admissible])) demo_frame
  exact ⟨st₁, h₁, hs, st₂, h₂, (h "b").2.trans rfl, (h "c").2.trans rfl⟩

/-- three declarations in a row, the general theorem: `a` is bound by the first (1) and the second
(2, as `b` renamed), not by the third: the second decides -/
example : ∃ st', importAll 6 0 demoState [[.only (.direct demoLib none) ["a"]],
      [.rename (.only (.direct demoLib none) ["b"]) [("b", "a")]], [.only (.direct demoLib none) ["g"]]] =
        (.ok (), st') ∧
    st'.store.lookup 0 "a" = some (.num (.int 2)) := by
  have hrun : (importAll 6 0 demoState [[.only (.direct demoLib none) ["a"]],
      [.rename (.only (.direct demoLib none) ["b"]) [("b", "a")]], [.only (.direct demoLib none) ["g"]]]).1.isOk =
        true := by
    decide +kernel
  generalize hev : importAll 6 0 demoState [[.only (.direct demoLib none) ["a"]],
      [.rename (.only (.direct demoLib none) ["b"]) [("b", "a")]], [.only (.direct demoLib none) ["g"]]] = p
    at hrun
  obtain ⟨_ | ⟨⟨⟩⟩, st'⟩ := p
  · cases hrun
  refine ⟨st', rfl, ?_⟩
  have h := last_declaration_wins
    [([.only (.direct demoLib none) ["a"]], [("a", .num (.int 1))]),
     ([.rename (.only (.direct demoLib none) ["b"]) [("b", "a")]], [("a", .num (.int 2))]),
     ([.only (.direct demoLib none) ["g"]], [("g", .closure demoLam 2)])] 6 demoState st' 0
    (by
      intro d hd
      simp only [List.mem_cons, List.not_mem_nil, or_false] at hd
      rcases hd with rfl | rfl | rfl
      · exact ⟨by decide +kernel, demo_idle _, demo_only_a⟩
      · exact ⟨by decide +kernel, demo_idle _, demo_b_as_a⟩
      · exact ⟨by decide +kernel, demo_idle _, by rfl⟩)
    demo_frame hev "a"
  exact (h.1 [_] _ [_] _ rfl (by rfl) (by decide +kernel)).2

example : decided [[("a", .num (.int 1))], [("b", .num (.int 3))]] (some (.num (.int 9))) "c" =
    some (.num (.int 9)) :=
  decided_none _ _ "c" (by decide +kernel)

/-! ## 4. the import declarations inside a library body -/

/-- The import declarations INSIDE a library body cannot conflict with the program's. Instantiating
a library whose body starts with `(import setsL…)` on state `st` (`evalLibraryDef`: see
`C13.lib_env_is_fresh_root`) allocates the fresh parentless frame `ρL = st.store.frames.size` and
evaluates that declaration INTO `ρL` — not into the frame `ρ` of the importing program. So, with
both declarations conflict-free ON THEIR OWN and no hypothesis relating `bsL` (the library's private
imports) to `bsP` (the program's) or to what `ρ` binds already:

* the library's declaration succeeds; `ρL` binds, and sees, exactly `bsL`;
* the bindings and lookups of every older frame (`ρ` in particular) are untouched, whatever names
  `bsL` binds;
* the library definition goes on with the remaining declarations from that state;
* a program declaration `(import setsP…)` into `ρ` afterwards succeeds, `ρ` gets exactly `bsP` over
  what it had, and the library frame STILL sees exactly `bsL`.

In particular the program may import `x` from one library while another library privately imports
a different `x`: `lookup ρ x` is the program's, `lookup ρL x` the library's. -/
theorem library_private_imports_do_not_conflict (setsL setsP : List ImportSet) (rest : List LibDecl)
    (k fuel : Nat) (st : State) (ρ : Nat) (bsL bsP : S.Bindings)
    (hfuelL : fuelNeededAll setsL + 1 ≤ k) (hfuelP : fuelNeededAll setsP + 1 ≤ fuel)
    (hipL : ∀ s ∈ setsL, S.leaf s ∉ st.inProgress) (hipP : ∀ s ∈ setsP, S.leaf s ∉ st.inProgress)
    (hdL : S.denoteAll setsL (exportsOf st) = some bsL) (hdP : S.denoteAll setsP (exportsOf st) = some bsP)
    (hokL : ¬ S.Clash (importEq st) bsL) (hokP : ¬ S.Clash (importEq st) bsP)
    (hρ : ρ < st.store.frames.size) :
    ∃ st₁,
      evalImport k { st with store := (st.store.newFrame none).2 } setsL st.store.frames.size = (.ok (), st₁) ∧
      (∀ acc, evalLibDecls (k + 1) { st with store := (st.store.newFrame none).2 } st.store.frames.size
          (.importDecl setsL :: rest) acc = evalLibDecls k st₁ st.store.frames.size rest acc) ∧
      (evalLibraryDef (k + 2) st (.importDecl setsL :: rest) =
        match evalLibDecls k st₁ st.store.frames.size rest [] with
        | (.error e, st') => (.error e, st')
        | (.ok exports, st') =>
          (exports.foldlM (exportStep (st'.store.lookup st.store.frames.size)) [], st')) ∧
      (∀ x, st₁.store.binding st.store.frames.size x = S.asMap bsL x ∧
        st₁.store.lookup st.store.frames.size x = S.asMap bsL x) ∧
      (∀ ρ' x, ρ' < st.store.frames.size →
        st₁.store.binding ρ' x = st.store.binding ρ' x ∧ st₁.store.lookup ρ' x = st.store.lookup ρ' x) ∧
      ∃ st₂, evalImport fuel st₁ setsP ρ = (.ok (), st₂) ∧
        (∀ x, st₂.store.binding ρ x = orElse (S.asMap bsP x) (st.store.binding ρ x) ∧
          st₂.store.lookup ρ x = orElse (S.asMap bsP x) (st.store.lookup ρ x)) ∧
        (∀ x, st₂.store.lookup st.store.frames.size x = S.asMap bsL x) := by
  -- the state the library body starts in
  generalize hN : ({ st with store := (st.store.newFrame none).2 } : State) = stN
  have hNstore : stN.store = (st.store.newFrame none).2 := by rw [← hN]
  have hNeq : importEq stN = importEq st := importEq_congr (by rw [hNstore]; rfl)
  have hNsize : stN.store.frames.size = st.store.frames.size + 1 := by
    rw [hNstore]; simp [Store.newFrame]
  have carryN : ∀ {sets fuel ρ bs}, Ready sets fuel st ρ bs → Ready sets fuel stN ρ bs := fun r =>
    r.carry (by rw [← hN]) (fun n => by rw [← hN]; rfl) (hNsize ▸ Nat.le_succ _)
  obtain ⟨st₁, h₁, i₁⟩ := Ready.run (ρ := st.store.frames.size)
    ⟨hfuelL, (carryN ⟨hfuelL, hipL, hdL, hρ⟩).idle, (carryN ⟨hfuelL, hipL, hdL, hρ⟩).denote,
      hNsize ▸ Nat.lt_succ_self _⟩
    (by rw [hNeq]; exact hokL)
  -- the library frame
  have hlib : ∀ x, st₁.store.binding st.store.frames.size x = S.asMap bsL x ∧
      st₁.store.lookup st.store.frames.size x = S.asMap bsL x := by
    intro x
    rw [(i₁.orElse x).1, (i₁.orElse x).2, hNstore, Store.binding_newFrame, Store.lookup_newFrame_new]
    have : st.store.binding st.store.frames.size x = none := by simp [Store.binding]
    rw [this]
    cases S.asMap bsL x <;> exact ⟨rfl, rfl⟩
  -- older frames
  have hold : ∀ ρ' x, ρ' < st.store.frames.size →
      st₁.store.binding ρ' x = st.store.binding ρ' x ∧ st₁.store.lookup ρ' x = st.store.lookup ρ' x := by
    intro ρ' x hlt
    constructor
    · rw [i₁.defined.binding_other (Nat.ne_of_lt hlt) x, hNstore, Store.binding_newFrame]
    · rw [i₁.defined.lookup_off_chain (Store.not_mem_chain_of_lt hlt) x, hNstore, Store.lookup_newFrame_old _ _ hlt]
  have hdecls : ∀ acc, evalLibDecls (k + 1) stN st.store.frames.size (.importDecl setsL :: rest) acc =
      evalLibDecls k st₁ st.store.frames.size rest acc := by
    intro acc
    rw [evalLibDecls]
    simp only [h₁]
  -- the program's declaration
  obtain ⟨st₂, h₂, i₂⟩ := ((carryN ⟨hfuelP, hipP, hdP, hρ⟩).after i₁).run (by rw [i₁.importEq, hNeq]; exact hokP)
  refine ⟨st₁, h₁, hdecls, ?_, hlib, hold, st₂, h₂, fun x => ?_, fun x => ?_⟩
  · rw [evalLibraryDef_succ_eq, hN, hdecls]
    rfl
  · rw [(i₂.orElse x).1, (i₂.orElse x).2, (hold ρ x hρ).1, (hold ρ x hρ).2]
    exact ⟨rfl, rfl⟩
  · have hp : st₁.store.parentOf st.store.frames.size = none := by
      rw [i₁.defined.parentOf, hNstore]; simp [Store.parentOf, Store.newFrame]
    rw [i₂.defined.lookup_off_chain (Store.not_mem_chain_of_parent_none (Nat.ne_of_gt hρ) hp) x]
    exact (hlib x).2

/-- the hypotheses on the demo state: a library body starting with
`(import (rename (only (m) b) (b a)))` (privately, `a` is 2) and a program that does
`(import (only (m) a))` (`a` is 1): no conflict; the program's frame 0 sees 1, the library's frame 3
sees 2 -/
example : ∃ st₁ st₂,
    evalImport 6 { demoState with store := (demoState.store.newFrame none).2 }
      [.rename (.only (.direct demoLib none) ["b"]) [("b", "a")]] 3 = (.ok (), st₁) ∧
    evalImport 6 st₁ [.only (.direct demoLib none) ["a"]] 0 = (.ok (), st₂) ∧
    st₂.store.lookup 0 "a" = some (.num (.int 1)) ∧ st₂.store.lookup 3 "a" = some (.num (.int 2)) ∧
    st₂.store.lookup 3 "f" = none := by
  obtain ⟨st₁, h₁, -, -, -, -, st₂, h₂, hP, hL⟩ := library_private_imports_do_not_conflict _ _
    [.export [.rename "a" "k-a" none]] 6 6 demoState 0 _ _ (by decide +kernel) (by decide +kernel)
    (demo_idle _) (demo_idle _) demo_b_as_a demo_only_a
    (Lib.not_clash_of_admissible (by simp [S.Admissible])) (Lib.not_clash_of_admissible (by simp [S.Admissible]))
    demo_frame
  exact ⟨st₁, st₂, h₁, h₂, (hP "a").2.trans rfl, (hL "a").trans rfl, (hL "f").trans rfl⟩

/-- the library `(k)`: `(define-library (k) (import (rename (only (m) b) (b a))) (export (rename a k-a)))` -/
def libK : LibName := [.ident "k"]
def declsK : List LibDecl :=
  [.importDecl [.rename (.only (.direct demoLib none) ["b"]) [("b", "a")]], .export [.rename "a" "k-a" none]]
/-- the demo state with `(k)` registered next to `(m)` -/
def demoState2 : State :=
  { store := demoStore, factories := [(demoLib, .native demoExports), (libK, .ast declsK)] }

/-- The whole run, computed by the model: the program does `(import (only (m) a))`, then
`(import (k))` — whose body privately imports `b` of `(m)` under the name `a`. Both succeed; the
program's `a` is still 1, `k-a` is 2, and the library's own frame (3) sees `a` = 2. -/
example :
    (evalImport 14 (evalImport 9 demoState2 [.only (.direct demoLib none) ["a"]] 0).2 [.direct libK none] 0).1 = .ok () ∧
    (evalImport 14 (evalImport 9 demoState2 [.only (.direct demoLib none) ["a"]] 0).2
      [.direct libK none] 0).2.store.lookup 0 "a" = some (.num (.int 1)) ∧
    (evalImport 14 (evalImport 9 demoState2 [.only (.direct demoLib none) ["a"]] 0).2
      [.direct libK none] 0).2.store.lookup 0 "k-a" = some (.num (.int 2)) ∧
    (evalImport 14 (evalImport 9 demoState2 [.only (.direct demoLib none) ["a"]] 0).2
      [.direct libK none] 0).2.store.lookup 3 "a" = some (.num (.int 2)) := by
  refine ⟨?_, ?_, ?_, ?_⟩ <;> exact eq_of_same (by decide +kernel)

end Ruschm.C12Seq
