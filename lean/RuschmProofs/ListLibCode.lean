/-
THE TIE TO THE GENERATED SOURCE. `libStatement` is what the MODEL's `Xform.toStatement` makes of the one
`define-library` form of `Gen.baseLibData` (regenerated from `base.sld` on every run) in the syntax scope
`factoryOfText` uses: a closed computation. `lib_unfolded` runs it, macro expansion of `cond`/`and` included, and
states the result literally (`expectedDefs`); any edit of `base.sld` that changes a definition makes it fail.
`libProc name b` is the closure over frame `b` of the lambda `name` is defined as (`libProc_of_index`).
-/
import RuschmModel.Interp
import RuschmSpec.ListLib
import RuschmProofs.AssocInsert

namespace Ruschm.ListLib
open Ruschm Ruschm.Eval Ruschm.ListSpec

/-! ## the code of the library, from the generated datum -/

abbrev sy (s : String) : Expr := .sym s none
abbrev pr (p : Prim) : Expr := .prim p none
abbrev ca (f : String) (as : List Expr) : Expr := .call (.sym f none) as none
/-- what a `cond` clause body / `else` body expands to: `((lambda () e))` -/
abbrev thunk (e : Expr) : Expr := .call (.lambda (.mk ⟨[], none⟩ [] [e]) none) [] none
abbrev ite (t c a : Expr) : Expr := .cond t c (some a) none
abbrev q0 : Expr := .quote (.nil none) none

/-- the one top-level form of `base.sld` -/
def libDatum : Datum := Gen.baseLibData.headD (.nil none)

/-- the model's `transform_to_statement` on it, in the syntax scope of `factoryOfText` -/
def libStatement : Except SErr Statement :=
  (Xform.toStatement (Xform.xformFuel libDatum) libDatum [[], Interp.grammarScope]).1

/-- the declarations of the library (what `factoryOfText` puts in the `Factory.ast`) -/
def libDecls : List LibDecl :=
  match libStatement with
  | .ok (.libraryDef _ decls _) => decls
  | _ => []

def libBody : List Statement :=
  libDecls.flatMap fun d => match d with | .begin_ b => b | _ => []

/-- the definitions of the `begin` body -/
def baseDefs : List (String × Expr) :=
  libBody.filterMap fun s => match s with | .definition (.mk n e _) => some (n, e) | _ => none

/-- the names exported by `base.sld`, in order -/
def exportNames : List String :=
  ["apply", "car", "cdr", "eqv?", "eq?", "cons", "boolean?", "char?", "number?", "string?", "symbol?", "pair?", "procedure?", "vector?", "boolean=?", "not", "+", "-", "*", "/", "=", "<", "<=", ">", ">=", "abs", "min", "max", "sqrt", "exp", "ln", "log", "sin", "cos", "tan", "asin", "acos", "atan", "atan2", "floor", "ceiling", "exact", "floor-quotient", "floor-remainder", "newline", "vector", "make-vector", "vector-length", "vector-ref", "vector-set!", "caar", "cadr", "cdar", "cddr", "caaar", "caadr", "cadar", "caddr", "cdaar", "cdadr", "cddar", "cdddr", "list", "make-list", "null?", "append", "memq", "memv", "map", "for-each", "fold-left", "fold-right", "list-tail", "list-ref", "last-pair", "head", "atom?", "equal?", "list?"]

/-- the definitions of `base.sld` as the model's transformer produces them (`cond` and `and`
expanded by the bundled grammar), written out. The places, by which `PApp.lib i`, `Opr.lib i` and
`Applies.lib_simple i` name a procedure (`rfl` checks each): 0–11 `caar cadr cdar cddr caaar caadr cadar caddr
cdaar cdadr cddar cdddr`, 12 `list`, 13 `make-list`, 14 `null?`, 15 `append`, 16 `map`, 17 `filter`,
18 `for-each`, 19 `fold-left`, 20 `fold-right`, 21 `list-tail`, 22 `list-ref`, 23 `last-pair`, 24 `head`,
25 `atom?`, 26 `memq`, 27 `memv`, 28 `equal?`, 29 `vector-equal-from?`, 30 `list?`. -/
def expectedDefs : List (String × Expr) := [
  ("caar", .lambda (.mk ⟨["x"], none⟩ [] [ca "car" [ca "car" [sy "x"]]]) none),
  ("cadr", .lambda (.mk ⟨["x"], none⟩ [] [ca "car" [ca "cdr" [sy "x"]]]) none),
  ("cdar", .lambda (.mk ⟨["x"], none⟩ [] [ca "cdr" [ca "car" [sy "x"]]]) none),
  ("cddr", .lambda (.mk ⟨["x"], none⟩ [] [ca "cdr" [ca "cdr" [sy "x"]]]) none),
  ("caaar", .lambda (.mk ⟨["x"], none⟩ [] [ca "car" [ca "car" [ca "car" [sy "x"]]]]) none),
  ("caadr", .lambda (.mk ⟨["x"], none⟩ [] [ca "car" [ca "car" [ca "cdr" [sy "x"]]]]) none),
  ("cadar", .lambda (.mk ⟨["x"], none⟩ [] [ca "car" [ca "cdr" [ca "car" [sy "x"]]]]) none),
  ("caddr", .lambda (.mk ⟨["x"], none⟩ [] [ca "car" [ca "cdr" [ca "cdr" [sy "x"]]]]) none),
  ("cdaar", .lambda (.mk ⟨["x"], none⟩ [] [ca "cdr" [ca "car" [ca "car" [sy "x"]]]]) none),
  ("cdadr", .lambda (.mk ⟨["x"], none⟩ [] [ca "cdr" [ca "car" [ca "cdr" [sy "x"]]]]) none),
  ("cddar", .lambda (.mk ⟨["x"], none⟩ [] [ca "cdr" [ca "cdr" [ca "car" [sy "x"]]]]) none),
  ("cdddr", .lambda (.mk ⟨["x"], none⟩ [] [ca "cdr" [ca "cdr" [ca "cdr" [sy "x"]]]]) none),
  ("list", .lambda (.mk ⟨[], some "x"⟩ [] [sy "x"]) none),
  ("make-list", .lambda (.mk ⟨["k", "fill"], none⟩ [] [ite (ca ">" [sy "k", pr (.int 0)]) (ca "cons" [sy "fill", ca "make-list" [ca "-" [sy "k", pr (.int 1)], sy "fill"]]) (q0)]) none),
  ("null?", .lambda (.mk ⟨["x"], none⟩ [] [ca "eqv?" [sy "x", q0]]) none),
  ("append", .lambda (.mk ⟨[], some "lsts"⟩ [] [ite (ca "null?" [sy "lsts"]) (thunk (q0)) (ite (ca "null?" [ca "cdr" [sy "lsts"]]) (thunk (ca "car" [sy "lsts"])) (ite (ca "null?" [ca "car" [sy "lsts"]]) (thunk (ca "apply" [sy "append", ca "cdr" [sy "lsts"]])) (thunk (ca "cons" [ca "caar" [sy "lsts"], ca "apply" [sy "append", ca "cdar" [sy "lsts"], ca "cdr" [sy "lsts"]]]))))]) none),
  ("map", .lambda (.mk ⟨["proc", "list"], none⟩ [] [ite (ca "pair?" [sy "list"]) (ca "cons" [ca "proc" [ca "car" [sy "list"]], ca "map" [sy "proc", ca "cdr" [sy "list"]]]) (sy "list")]) none),
  ("filter", .lambda (.mk ⟨["pred", "lst"], none⟩ [] [ite (ca "null?" [sy "lst"]) (thunk (q0)) (ite (ca "pred" [ca "car" [sy "lst"]]) (thunk (ca "cons" [ca "car" [sy "lst"], ca "filter" [sy "pred", ca "cdr" [sy "lst"]]])) (thunk (ca "filterb" [sy "pred", ca "cdr" [sy "lst"]])))]) none),
  ("for-each", .lambda (.mk ⟨["proc", "list"], none⟩ [] [.cond (ca "pair?" [sy "list"]) (.call (.lambda (.mk ⟨[], none⟩ [] [ca "proc" [ca "car" [sy "list"]], ca "for-each" [sy "proc", ca "cdr" [sy "list"]]]) none) [] none) (none) none]) none),
  ("fold-left", .lambda (.mk ⟨["f", "init", "seq"], none⟩ [] [ite (ca "null?" [sy "seq"]) (sy "init") (ca "fold-left" [sy "f", ca "f" [ca "car" [sy "seq"], sy "init"], ca "cdr" [sy "seq"]])]) none),
  ("fold-right", .lambda (.mk ⟨["f", "init", "seq"], none⟩ [] [ite (ca "null?" [sy "seq"]) (sy "init") (ca "f" [ca "car" [sy "seq"], ca "fold-right" [sy "f", sy "init", ca "cdr" [sy "seq"]]])]) none),
  ("list-tail", .lambda (.mk ⟨["x", "k"], none⟩ [] [ite (ca "=" [sy "k", pr (.int 0)]) (sy "x") (ca "list-tail" [ca "cdr" [sy "x"], ca "-" [sy "k", pr (.int 1)]])]) none),
  ("list-ref", .lambda (.mk ⟨["x", "k"], none⟩ [] [ca "car" [ca "list-tail" [sy "x", sy "k"]]]) none),
  ("last-pair", .lambda (.mk ⟨["x"], none⟩ [] [ite (ca "pair?" [ca "cdr" [sy "x"]]) (ca "last-pair" [ca "cdr" [sy "x"]]) (sy "x")]) none),
  ("head", .lambda (.mk ⟨["stream"], none⟩ [] [ca "car" [sy "stream"]]) none),
  ("atom?", .lambda (.mk ⟨["x"], none⟩ [] [ite (ca "not" [ca "pair?" [sy "x"]]) (ca "not" [ca "null?" [sy "x"]]) (pr (.bool false))]) none),
  ("memq", .lambda (.mk ⟨["obj", "lst"], none⟩ [] [ite (ca "null?" [sy "lst"]) (thunk (pr (.bool false))) (ite (ca "eq?" [sy "obj", ca "car" [sy "lst"]]) (thunk (sy "lst")) (thunk (ca "memq" [sy "obj", ca "cdr" [sy "lst"]])))]) none),
  ("memv", .lambda (.mk ⟨["obj", "lst"], none⟩ [] [ite (ca "null?" [sy "lst"]) (thunk (pr (.bool false))) (ite (ca "eqv?" [sy "obj", ca "car" [sy "lst"]]) (thunk (sy "lst")) (thunk (ca "memv" [sy "obj", ca "cdr" [sy "lst"]])))]) none),
  ("equal?", .lambda (.mk ⟨["x", "y"], none⟩ [] [ite (ca "pair?" [sy "x"]) (ite (ca "pair?" [sy "y"]) (ite (ca "equal?" [ca "car" [sy "x"], ca "car" [sy "y"]]) (ca "equal?" [ca "cdr" [sy "x"], ca "cdr" [sy "y"]]) (pr (.bool false))) (pr (.bool false))) (ite (ca "vector?" [sy "x"]) (ite (ca "vector?" [sy "y"]) (ite (ca "=" [ca "vector-length" [sy "x"], ca "vector-length" [sy "y"]]) (ca "vector-equal-from?" [sy "x", sy "y", pr (.int 0)]) (pr (.bool false))) (pr (.bool false))) (ite (ca "not" [ca "pair?" [sy "y"]]) (ca "eqv?" [sy "x", sy "y"]) (pr (.bool false))))]) none),
  ("vector-equal-from?", .lambda (.mk ⟨["x", "y", "i"], none⟩ [] [ite (ca "=" [sy "i", ca "vector-length" [sy "x"]]) (pr (.bool true)) (ite (ca "equal?" [ca "vector-ref" [sy "x", sy "i"], ca "vector-ref" [sy "y", sy "i"]]) (ca "vector-equal-from?" [sy "x", sy "y", ca "+" [sy "i", pr (.int 1)]]) (pr (.bool false)))]) none),
  ("list?", .lambda (.mk ⟨["x"], none⟩ [] [ite (ca "eq?" [sy "x", q0]) (pr (.bool true)) (ite (ca "pair?" [sy "x"]) (ite (ca "list?" [ca "cdr" [sy "x"]]) (pr (.bool true)) (pr (.bool false))) (pr (.bool false)))]) none)]

def expectedDecls : List LibDecl :=
  [.importDecl [.direct Interp.libRuschmBase none],
   .export (exportNames.map (ExportSpec.direct · none)),
   .begin_ (expectedDefs.map fun p => .definition (.mk p.1 p.2 none))]

/-- the lambda `name` is defined as in `base.sld` -/
def procLambda (name : String) : Option Lambda :=
  match baseDefs.lookup name with
  | some (.lambda lam _) => some lam
  | _ => none

/-- the value `name` is bound to in the library frame `b`: the closure of its lambda over `b` -/
def libProc (name : String) (b : Nat) : Value :=
  match procLambda name with
  | some lam => .closure lam b
  | none => .void

set_option maxRecDepth 100000 in
-- `rfl` below has the elaborator run the transformer; without smart unfolding it unfolds the model's
-- recursive functions by their recursors, as the kernel does, not by their equations
set_option smartUnfolding false in
/-- What the definitions above unfold to, the model's transformer having run on the generated datum.
One theorem: the kernel runs the transformer anew in every declaration that unfolds one of them. -/
theorem lib_unfolded :
    libStatement = .ok (.libraryDef Interp.libSchemeBase expectedDecls none) ∧ libDecls = expectedDecls ∧
    baseDefs = expectedDefs ∧
    ∀ n b, libProc n b =
      match expectedDefs.lookup n with
      | some (.lambda lam _) => .closure lam b
      | _ => .void := by
  have h : libStatement = .ok (.libraryDef Interp.libSchemeBase expectedDecls none) := by rfl
  have hd : libDecls = expectedDecls := by unfold libDecls; rw [h]
  have hb : baseDefs = expectedDefs := by unfold baseDefs libBody; rw [hd]; rfl
  refine ⟨h, hd, hb, fun n b => ?_⟩
  unfold libProc procLambda
  rw [hb]
  cases expectedDefs.lookup n with
  | none => rfl
  | some e => cases e <;> rfl

theorem libStatement_eq :
    libStatement = .ok (.libraryDef Interp.libSchemeBase expectedDecls none) := lib_unfolded.1

theorem libDatum_eq : Gen.baseLibData = [libDatum] := by rfl

theorem libDecls_eq : libDecls = expectedDecls := lib_unfolded.2.1

theorem baseDefs_eq : baseDefs = expectedDefs := lib_unfolded.2.2.1

/-- so that the frame's association list binds each name to its own value -/
theorem libKeys_nodup : (Interp.nativeBase.map (·.1) ++ expectedDefs.map (·.1)).Nodup := by
  decide +kernel

theorem libProc_of_mem {n : String} {lam : Lambda} (h : (n, .lambda lam none) ∈ expectedDefs) (b : Nat) :
    libProc n b = .closure lam b := by
  rw [lib_unfolded.2.2.2, Assoc.lookup_of_mem_nodup (List.nodup_append.mp libKeys_nodup).2.1 h]

theorem libProc_of_index {i : Nat} {n : String} {lam : Lambda}
    (h : expectedDefs[i]? = some (n, .lambda lam none)) (b : Nat) : libProc n b = .closure lam b :=
  libProc_of_mem (List.mem_of_getElem? h) b

/- from here on `libProc name b` is only ever rewritten with `libProc_of_index`: unfolding it would
re-run the transformer -/
attribute [irreducible] libProc
end Ruschm.ListLib
