/-
By `C05Nesting` the printed items of a surface program are a way of WRITING its desugared statements (`item_prints`:
`PrintsAs` of `ProgramTextLemmas`), so the text of a surface program runs as its desugaring. On top of that two ways
to compare programs: plugging expressions with the same desugaring into a context (`subst`, `desugar_subst`), and a
derived form against its one-step R7RS definition (`Defn`, `Defn.desugar_eq`).
-/
import RuschmProofs.C05Nesting
import RuschmProofs.ProgramTextLemmas


namespace Ruschm.SurfaceText
open Ruschm Ruschm.Interp Ruschm.Xform Ruschm.Text Ruschm.Desugar Ruschm.ProgramText
open Ruschm.CoreSyntax (ident lst defineD strip_lst strip_defineD size_defineD)

/-! ## top-level items of a surface program -/

inductive Item where
  | import_ (sets : List ImportSet)
  | expr (s : Surf)
  | define (x : String) (s : Surf)

def Item.print : Item → Datum
  | .import_ sets => ImportSyntax.renderImport sets
  | .expr s => Desugar.print s
  | .define x s => lst [ident "define", ident x, Desugar.print s]

/-- the item's DESUGARED expression or definition -/
def Item.stmt : Item → Statement
  | .import_ sets => .importDecl sets none
  | .expr s => .expr (desugar s)
  | .define x s => .definition (.mk x (desugar s) none)

/-- the data embedded in the expression carry no source locations, so that its printed form carries none -/
def Item.WF : Item → Prop
  | .import_ sets => ∀ t ∈ sets, ImportSyntax.WF t
  | .expr s => ok s = true ∧ (Desugar.print s).strip = Desugar.print s
  | .define _ s => ok s = true ∧ (Desugar.print s).strip = Desugar.print s

/-- `C05Nesting.stdEnv` again; `Desugar.Std`, `Meaning.StdSyn` and `Xform.StdEnv` hold of it -/
abbrev stdEnv : SynEnv := C05Nesting.stdEnv

/-! ## the desugaring carries no locations -/

theorem desugar_unloc (s : Surf) (hok : ok s = true) (hs : (Desugar.print s).strip = Desugar.print s) :
    (desugar s).unloc = desugar s := by
  have h := C05Nesting.nesting s hok (cost s) (Nat.le_refl _)
  rw [← hs] at h
  have := toStatement_stripped_unloc h
  simpa [Statement.unloc] using this

theorem item_prints (i : Item) (h : i.WF) :
    i.print.strip = i.print ∧ toStatement (xformFuel i.print) i.print stdEnv = (.ok i.stmt.unloc, stdEnv) := by
  cases i with
  | import_ sets => exact printed_prints stdEnv (.importDecl sets none) h
  | expr s =>
    refine ⟨h.2, ?_⟩
    simp only [Item.stmt, Statement.unloc, desugar_unloc s h.1 h.2]
    exact C05Nesting.nesting_interpreter_fuel s h.1
  | define x s =>
    refine ⟨strip_defineD x _ h.2, ?_⟩
    simp only [Item.stmt, Statement.unloc, Def.unloc, desugar_unloc s h.1 h.2]
    exact C05Nesting.nesting_define x s h.1 _ (by
      show cost s + 3 ≤ xformFuel (defineD x (Desugar.print s))
      have := cost_expr s
      simp only [xformFuel, size_defineD]
      omega)

/-! ## surface contexts: plugging an expression into the places marked by a variable -/

mutual
/-- purely syntactic, as plugging into a context is: an occurrence under a binder of `hole` is replaced too; binding
names, formals and quoted data are not expression positions -/
def subst (hole : String) (a : Surf) : Surf → Surf
  | .var x => if x = hole then a else .var x
  | .lit p => .lit p
  | .vec xs => .vec xs
  | .quote d => .quote d
  | .if2 t c => .if2 (subst hole a t) (subst hole a c)
  | .if3 t c e => .if3 (subst hole a t) (subst hole a c) (subst hole a e)
  | .lambda fixed rest body => .lambda fixed rest (substList hole a body)
  | .set x e => .set x (subst hole a e)
  | .call f args => .call (subst hole a f) (substList hole a args)
  | .begin_ body => .begin_ (substList hole a body)
  | .let_ bs body => .let_ (substBinds hole a bs) (substList hole a body)
  | .letstar bs body => .letstar (substBinds hole a bs) (substList hole a body)
  | .and_ es => .and_ (substList hole a es)
  | .or_ es => .or_ (substList hole a es)
  | .when_ t body => .when_ (subst hole a t) (substList hole a body)
  | .unless_ t body => .unless_ (subst hole a t) (substList hole a body)
  | .cond_ cs => .cond_ (substCond hole a cs)
  | .case_ k cs => .case_ (subst hole a k) (substCase hole a cs)
def substList (hole : String) (a : Surf) : List Surf → List Surf
  | [] => []
  | s :: ss => subst hole a s :: substList hole a ss
def substBinds (hole : String) (a : Surf) : List Bind → List Bind
  | [] => []
  | .mk x v :: bs => .mk x (subst hole a v) :: substBinds hole a bs
def substCond (hole : String) (a : Surf) : List CondClause → List CondClause
  | [] => []
  | .test t :: cs => .test (subst hole a t) :: substCond hole a cs
  | .arrow t r :: cs => .arrow (subst hole a t) (subst hole a r) :: substCond hole a cs
  | .normal t body :: cs => .normal (subst hole a t) (substList hole a body) :: substCond hole a cs
  | .else_ body :: cs => .else_ (substList hole a body) :: substCond hole a cs
def substCase (hole : String) (a : Surf) : List CaseClause → List CaseClause
  | [] => []
  | .normal atoms body :: cs => .normal atoms (substList hole a body) :: substCase hole a cs
  | .arrow atoms r :: cs => .arrow atoms (subst hole a r) :: substCase hole a cs
  | .else_ body :: cs => .else_ (substList hole a body) :: substCase hole a cs
  | .elseArrow r :: cs => .elseArrow (subst hole a r) :: substCase hole a cs
end

def Item.subst (hole : String) (a : Surf) : Item → Item
  | .import_ sets => .import_ sets
  | .expr s => .expr (SurfaceText.subst hole a s)
  | .define x s => .define x (SurfaceText.subst hole a s)

theorem atomic_subst (hole : String) (a b : Surf) (hat : atomic a = atomic b) (c : Surf) :
    atomic (subst hole a c) = atomic (subst hole b c) := by
  cases c with
  | var x =>
    simp only [subst]
    by_cases hx : x = hole
    · simp only [hx, if_true]; exact hat
    · simp only [hx, if_false]
  | _ => simp only [subst, atomic]

theorem substCond_cons_ne (hole : String) (a : Surf) (c : CondClause) (cs : List CondClause) :
    substCond hole a (c :: cs) ≠ [] := by
  cases c <;> rw [substCond] <;> exact List.cons_ne_nil _ _

theorem substCase_cons_ne (hole : String) (a : Surf) (c : CaseClause) (cs : List CaseClause) :
    substCase hole a (c :: cs) ≠ [] := by
  cases c <;> rw [substCase] <;> exact List.cons_ne_nil _ _

/-! ## the desugaring is compositional -/

/-- nothing uses it -/
theorem desugarBinds_names_congr {bs bs' : List (String × Expr)} (h : bs = bs') :
    bs.map (·.1) = bs'.map (·.1) ∧ bs.map (·.2) = bs'.map (·.2) := by subst h; exact ⟨rfl, rfl⟩

mutual
/-- `hat`: a `case` key is desugared differently when it is a variable or a literal -/
theorem desugar_subst (hole : String) (a b : Surf) (hd : desugar a = desugar b) (hat : atomic a = atomic b) :
    ∀ c : Surf, desugar (subst hole a c) = desugar (subst hole b c)
  | .var x => by
    simp only [subst]
    by_cases hx : x = hole
    · simp only [hx, if_true]; exact hd
    · simp only [hx, if_false]
  | .lit _ | .vec _ | .quote _ => rfl
  | .if2 t c => by
    simp only [subst, desugar, desugar_subst hole a b hd hat t, desugar_subst hole a b hd hat c]
  | .if3 t c e => by
    simp only [subst, desugar, desugar_subst hole a b hd hat t, desugar_subst hole a b hd hat c,
      desugar_subst hole a b hd hat e]
  | .lambda fixed rest body => by
    simp only [subst, desugar, desugarList_subst hole a b hd hat body]
  | .set x e => by
    simp only [subst, desugar, desugar_subst hole a b hd hat e]
  | .call f args => by
    simp only [subst, desugar, desugar_subst hole a b hd hat f, desugarList_subst hole a b hd hat args]
  | .begin_ es | .and_ es | .or_ es => by
    simp only [subst, desugar, desugarList_subst hole a b hd hat es]
  | .let_ bs body | .letstar bs body => by
    simp only [subst, desugar, desugarBinds_subst hole a b hd hat bs, desugarList_subst hole a b hd hat body]
  | .when_ t body | .unless_ t body => by
    simp only [subst, desugar, desugar_subst hole a b hd hat t, desugarList_subst hole a b hd hat body]
  | .cond_ cs => by
    simp only [subst, desugar, desugarCond_subst hole a b hd hat cs]
  | .case_ k cs => by
    simp only [subst, desugar, desugar_subst hole a b hd hat k, atomic_subst hole a b hat k,
      desugarCase_subst hole a b hd hat cs]
theorem desugarList_subst (hole : String) (a b : Surf) (hd : desugar a = desugar b) (hat : atomic a = atomic b) :
    ∀ cs : List Surf, desugarList (substList hole a cs) = desugarList (substList hole b cs)
  | [] => rfl
  | c :: cs => by
    simp only [substList, desugarList, desugar_subst hole a b hd hat c, desugarList_subst hole a b hd hat cs]
theorem desugarBinds_subst (hole : String) (a b : Surf) (hd : desugar a = desugar b) (hat : atomic a = atomic b) :
    ∀ bs : List Bind, desugarBinds (substBinds hole a bs) = desugarBinds (substBinds hole b bs)
  | [] => rfl
  | .mk x v :: bs => by
    simp only [substBinds, desugarBinds, desugar_subst hole a b hd hat v, desugarBinds_subst hole a b hd hat bs]
theorem desugarCond_subst (hole : String) (a b : Surf) (hd : desugar a = desugar b) (hat : atomic a = atomic b) :
    ∀ cs : List CondClause, desugarCond (substCond hole a cs) = desugarCond (substCond hole b cs)
  | [] => rfl
  | .else_ body :: cs => by
    simp only [substCond, desugarCond, desugarList_subst hole a b hd hat body]
  | .test t :: [] => by
    simp only [substCond, desugarCond, desugar_subst hole a b hd hat t]
  | .test t :: c :: cs => by
    rw [substCond, substCond, desugarCond_test_more (substCond_cons_ne hole a c cs),
      desugarCond_test_more (substCond_cons_ne hole b c cs), desugar_subst hole a b hd hat t,
      desugarCond_subst hole a b hd hat (c :: cs)]
  | .arrow t r :: [] => by
    simp only [substCond, desugarCond, desugar_subst hole a b hd hat t, desugar_subst hole a b hd hat r]
  | .arrow t r :: c :: cs => by
    rw [substCond, substCond, desugarCond_arrow_more (substCond_cons_ne hole a c cs),
      desugarCond_arrow_more (substCond_cons_ne hole b c cs), desugar_subst hole a b hd hat t,
      desugar_subst hole a b hd hat r, desugarCond_subst hole a b hd hat (c :: cs)]
  | .normal t body :: [] => by
    simp only [substCond, desugarCond, desugar_subst hole a b hd hat t, desugarList_subst hole a b hd hat body]
  | .normal t body :: c :: cs => by
    rw [substCond, substCond, desugarCond_normal_more (substCond_cons_ne hole a c cs),
      desugarCond_normal_more (substCond_cons_ne hole b c cs), desugar_subst hole a b hd hat t,
      desugarList_subst hole a b hd hat body, desugarCond_subst hole a b hd hat (c :: cs)]
theorem desugarCase_subst (hole : String) (a b : Surf) (hd : desugar a = desugar b) (hat : atomic a = atomic b) :
    ∀ (cs : List CaseClause) (key : Expr),
      desugarCase key (substCase hole a cs) = desugarCase key (substCase hole b cs)
  | [], _ => rfl
  | .elseArrow r :: _, key | .arrow _ r :: [], key => by
    simp only [substCase, desugarCase, desugar_subst hole a b hd hat r]
  | .else_ body :: _, key | .normal _ body :: [], key => by
    simp only [substCase, desugarCase, desugarList_subst hole a b hd hat body]
  | .arrow atoms r :: c :: cs, key => by
    rw [substCase, substCase, desugarCase_arrow_more (substCase_cons_ne hole a c cs),
      desugarCase_arrow_more (substCase_cons_ne hole b c cs), desugar_subst hole a b hd hat r,
      desugarCase_subst hole a b hd hat (c :: cs) key]
  | .normal atoms body :: c :: cs, key => by
    rw [substCase, substCase, desugarCase_normal_more (substCase_cons_ne hole a c cs),
      desugarCase_normal_more (substCase_cons_ne hole b c cs), desugarList_subst hole a b hd hat body,
      desugarCase_subst hole a b hd hat (c :: cs) key]
end

theorem stmt_subst (hole : String) (a b : Surf) (hd : desugar a = desugar b) (hat : atomic a = atomic b)
    (ctx : List Item) : (ctx.map (Item.subst hole a)).map Item.stmt = (ctx.map (Item.subst hole b)).map Item.stmt := by
  simp only [List.map_map]
  apply List.map_congr_left
  intro i _
  cases i with
  | import_ sets => rfl
  | expr s | define _ s => simp only [Function.comp, Item.subst, Item.stmt, desugar_subst hole a b hd hat s]

/-! ## the one-step definitions of the derived forms -/

def bindNames : List Bind → List String
  | [] => []
  | .mk x _ :: bs => x :: bindNames bs
def bindVals : List Bind → List Surf
  | [] => []
  | .mk _ v :: bs => v :: bindVals bs

theorem desugarBinds_names : ∀ bs : List Bind, (desugarBinds bs).map (·.1) = bindNames bs
  | [] => rfl
  | .mk x v :: bs => by simp only [desugarBinds, bindNames, List.map_cons, desugarBinds_names bs]

theorem desugarBinds_vals : ∀ bs : List Bind, (desugarBinds bs).map (·.2) = desugarList (bindVals bs)
  | [] => rfl
  | .mk x v :: bs => by simp only [desugarBinds, bindVals, desugarList, List.map_cons, desugarBinds_vals bs]

/-- the ONE-STEP definition of a derived form as R7RS 7.3 / `grammar.sld` give it; the right-hand side is surface
syntax again. `c`, `cs`: one more clause and the remaining ones. -/
inductive Defn : Surf → Surf → Prop
  /-- `(begin e …)` = `((lambda () e …))` -/
  | begin_ (body : List Surf) : Defn (.begin_ body) (.call (.lambda [] none body) [])
  /-- `(when t e …)` = `(if t (begin e …))` -/
  | when_ (t : Surf) (body : List Surf) : Defn (.when_ t body) (.if2 t (.begin_ body))
  /-- `(unless t e …)` = `(if (not t) (begin e …))` -/
  | unless_ (t : Surf) (body : List Surf) :
      Defn (.unless_ t body) (.if2 (.call (.var "not") [t]) (.begin_ body))
  /-- `(let ((x v) …) b …)` = `((lambda (x …) b …) v …)` -/
  | let_ (bs : List Bind) (body : List Surf) :
      Defn (.let_ bs body) (.call (.lambda (bindNames bs) none body) (bindVals bs))
  /-- `(let* () b …)` = `(let () b …)` -/
  | letstar0 (body : List Surf) : Defn (.letstar [] body) (.let_ [] body)
  /-- `(let* ((x v)) b …)` = `(let ((x v)) b …)` -/
  | letstar1 (b : Bind) (body : List Surf) : Defn (.letstar [b] body) (.let_ [b] body)
  /-- `(let* ((x v) (y w) …) b …)` = `(let ((x v)) (let* ((y w) …) b …))` -/
  | letstar2 (b b' : Bind) (bs : List Bind) (body : List Surf) :
      Defn (.letstar (b :: b' :: bs) body) (.let_ [b] [.letstar (b' :: bs) body])
  /-- `(and)` = `#t` -/
  | and0 : Defn (.and_ []) (.lit (.bool true))
  /-- `(and a)` = `a` -/
  | and1 (a : Surf) : Defn (.and_ [a]) a
  /-- `(and a b …)` = `(if a (and b …) #f)` -/
  | and2 (a b : Surf) (r : List Surf) : Defn (.and_ (a :: b :: r)) (.if3 a (.and_ (b :: r)) (.lit (.bool false)))
  /-- `(or)` = `#f` -/
  | or0 : Defn (.or_ []) (.lit (.bool false))
  /-- `(or a)` = `a` -/
  | or1 (a : Surf) : Defn (.or_ [a]) a
  /-- `(or a b …)` = `(let ((x a)) (if x x (or b …)))` -/
  | or2 (a b : Surf) (r : List Surf) :
      Defn (.or_ (a :: b :: r)) (.let_ [.mk "x" a] [.if3 (.var "x") (.var "x") (.or_ (b :: r))])
  /-- `(cond (else e …))` = `(begin e …)` -/
  | condElse (body : List Surf) : Defn (.cond_ [.else_ body]) (.begin_ body)
  /-- `(cond (t))` = `t` -/
  | condTest1 (t : Surf) : Defn (.cond_ [.test t]) t
  /-- `(cond (t) c …)` = `(let ((temp t)) (if temp temp (cond c …)))` -/
  | condTest2 (t : Surf) (c : CondClause) (cs : List CondClause) :
      Defn (.cond_ (.test t :: c :: cs)) (.let_ [.mk "temp" t] [.if3 (.var "temp") (.var "temp") (.cond_ (c :: cs))])
  /-- `(cond (t => r))` = `(let ((temp t)) (if temp (r temp)))` -/
  | condArrow1 (t r : Surf) :
      Defn (.cond_ [.arrow t r]) (.let_ [.mk "temp" t] [.if2 (.var "temp") (.call r [.var "temp"])])
  /-- `(cond (t => r) c …)` = `(let ((temp t)) (if temp (r temp) (cond c …)))` -/
  | condArrow2 (t r : Surf) (c : CondClause) (cs : List CondClause) :
      Defn (.cond_ (.arrow t r :: c :: cs))
        (.let_ [.mk "temp" t] [.if3 (.var "temp") (.call r [.var "temp"]) (.cond_ (c :: cs))])
  /-- `(cond (t e …))` = `(if t (begin e …))` -/
  | condNormal1 (t : Surf) (body : List Surf) : Defn (.cond_ [.normal t body]) (.if2 t (.begin_ body))
  /-- `(cond (t e …) c …)` = `(if t (begin e …) (cond c …))` -/
  | condNormal2 (t : Surf) (body : List Surf) (c : CondClause) (cs : List CondClause) :
      Defn (.cond_ (.normal t body :: c :: cs)) (.if3 t (.begin_ body) (.cond_ (c :: cs)))
  /-- `(case (f a …) c …)` = `(let ((atom-key (f a …))) (case atom-key c …))`: a key that is not a
  variable or a literal -/
  | caseKey (k : Surf) (cs : List CaseClause) (hk : atomic k = false) :
      Defn (.case_ k cs) (.let_ [.mk "atom-key" k] [.case_ (.var "atom-key") cs])
  /-- `(case k (else e …))` = `(begin e …)`, `k` a variable or a literal -/
  | caseElse (k : Surf) (body : List Surf) (hk : atomic k = true) : Defn (.case_ k [.else_ body]) (.begin_ body)
  /-- `(case k (else => r))` = `(r k)` -/
  | caseElseArrow (k r : Surf) (hk : atomic k = true) : Defn (.case_ k [.elseArrow r]) (.call r [k])
  /-- `(case k ((d …) e …))` = `(if (memv k '(d …)) (begin e …))` -/
  | caseNormal1 (k : Surf) (atoms : List Datum) (body : List Surf) (hk : atomic k = true) :
      Defn (.case_ k [.normal atoms body]) (.if2 (.call (.var "memv") [k, .quote (lst atoms)]) (.begin_ body))
  /-- `(case k ((d …) e …) c …)` = `(if (memv k '(d …)) (begin e …) (case k c …))` -/
  | caseNormal2 (k : Surf) (atoms : List Datum) (body : List Surf) (c : CaseClause) (cs : List CaseClause)
      (hk : atomic k = true) :
      Defn (.case_ k (.normal atoms body :: c :: cs))
        (.if3 (.call (.var "memv") [k, .quote (lst atoms)]) (.begin_ body) (.case_ k (c :: cs)))
  /-- `(case k ((d …) => r))` = `(if (not (null? (memv k '(d …)))) (r k))` -/
  | caseArrow1 (k : Surf) (atoms : List Datum) (r : Surf) (hk : atomic k = true) :
      Defn (.case_ k [.arrow atoms r])
        (.if2 (.call (.var "not") [.call (.var "null?") [.call (.var "memv") [k, .quote (lst atoms)]]]) (.call r [k]))
  /-- `(case k ((d …) => r) c …)` = `(if (memv k '(d …)) (r k) (case k c …))` -/
  | caseArrow2 (k : Surf) (atoms : List Datum) (r : Surf) (c : CaseClause) (cs : List CaseClause)
      (hk : atomic k = true) :
      Defn (.case_ k (.arrow atoms r :: c :: cs))
        (.if3 (.call (.var "memv") [k, .quote (lst atoms)]) (.call r [k]) (.case_ k (c :: cs)))

theorem Defn.desugar_eq {d d' : Surf} (h : Defn d d') : desugar d = desugar d' := by
  cases h with
  | let_ bs body =>
    simp only [desugar, desugarBinds_names, desugarBinds_vals]
    rfl
  | caseKey k cs hk =>
    have h2 : atomic (.var "atom-key") = true := rfl
    simp only [desugar, desugarBinds, desugarList, hk, h2, List.map_cons, List.map_nil, if_true,
      Bool.false_eq_true, if_false]
  | letstar1 b body =>
    cases b
    simp only [desugar, desugarBinds, letStarE, List.map_cons, List.map_nil]
  | letstar2 b b' bs body =>
    cases b
    cases b'
    simp only [desugar, desugarList, desugarBinds, letStarE, List.map_cons, List.map_nil]
  | caseElse k body hk => simp only [desugar, desugarCase, hk, if_true]
  | caseElseArrow k r hk => simp only [desugar, desugarCase, desugarList, hk, if_true]
  | caseNormal1 _ _ _ hk | caseNormal2 _ _ _ _ _ hk | caseArrow1 _ _ _ hk | caseArrow2 _ _ _ _ _ hk =>
    simp only [desugar, desugarCase, desugarList, hk, if_true, memvE, varE]
  | _ =>
    simp only [desugar, desugarList, desugarBinds, desugarCond, andE, orE, letStarE, beginE, letE, boolE,
      List.map_cons, List.map_nil, varE, lamE, callE]

theorem Defn.atomic_left {d d' : Surf} (h : Defn d d') : atomic d = false := by
  cases h <;> rfl

/-! ## every supported program has valid layouts -/

def sepLayout (sep : List Char) (ts : List Token) : List (List Char) := List.replicate (ts.length + 1) sep

theorem validGaps_sep (sep : List Char) (h1 : isAtmos false sep = true) (h2 : isTrail false sep = true)
    (hne : sep.isEmpty = false) : ∀ ts : List Token, ValidGaps ts (sepLayout sep ts)
  | [] => h2
  | t :: ts => by
    have ih := validGaps_sep sep h1 h2 hne ts
    have e : sepLayout sep (t :: ts) = sep :: sepLayout sep ts := by
      simp [sepLayout, List.replicate_succ]
    rw [e]
    refine ⟨h1, ?_, ih⟩
    have e2 : (sepLayout sep ts).headD [] = sep := by simp [sepLayout, List.replicate_succ]
    rw [e2]
    simp [gapOK, hne]

/-- `h1`, `h2`: the separator is made of blanks, line ends and complete comments -/
theorem validLayout_sep (sep : List Char) (h1 : isAtmos false sep = true) (h2 : isTrail false sep = true)
    (hne : sep.isEmpty = false) (ps : List Datum) (hsup : ∀ p ∈ ps, SupportedD p) :
    ValidLayout (formsToks ps) (sepLayout sep (formsToks ps)) :=
  validLayout_of_gaps _ _ (toksL_supported _ (supportedL_ofDatums ps hsup)) (validGaps_sep sep h1 h2 hne _)

/-! ## the text of a surface program -/

def surfaceToks (items : List Item) : List Token := formsToks (items.map Item.print)

def surfaceText (items : List Item) (layout : List (List Char)) : List Char :=
  formsText (items.map Item.print) layout

/-! ## a structural sufficient condition for `(print s).strip = print s` -/

mutual
def plainD : Datum → Bool
  | .prim _ l => l.isNone
  | .sym _ l => l.isNone
  | .nil l => l.isNone
  | .pair a d l => l.isNone && plainD a && plainD d
  | .vec xs l => l.isNone && plainDs xs
def plainDs : List Datum → Bool
  | [] => true
  | x :: xs => plainD x && plainDs xs
end

mutual
theorem strip_of_plainD : ∀ d : Datum, plainD d = true → d.strip = d
  | .prim _ l, h | .sym _ l, h | .nil l, h => by cases l <;> simp_all [plainD, Datum.strip]
  | .pair a d l, h => by
    simp only [plainD, Bool.and_eq_true] at h
    cases l with
    | none => simp only [Datum.strip, strip_of_plainD a h.1.2, strip_of_plainD d h.2]
    | some _ => simp at h
  | .vec xs l, h => by
    simp only [plainD, Bool.and_eq_true] at h
    cases l with
    | none => simp only [Datum.strip, stripList_of_plainDs xs h.2]
    | some _ => simp at h
theorem stripList_of_plainDs : ∀ xs : List Datum, plainDs xs = true → Datum.stripList xs = xs
  | [], _ => rfl
  | x :: xs, h => by
    simp only [plainDs, Bool.and_eq_true] at h
    simp only [Datum.stripList, strip_of_plainD x h.1, stripList_of_plainDs xs h.2]
end

theorem map_strip_of_plainDs (xs : List Datum) (h : plainDs xs = true) : xs.map Datum.strip = xs := by
  rw [← Datum.stripList_eq_map]; exact stripList_of_plainDs xs h

mutual
/-- the data embedded in the surface program (vector literals, quotations, `case` data) carry no source locations -/
def plain : Surf → Bool
  | .var _ | .lit _ => true
  | .vec xs => plainDs xs
  | .quote d => plainD d
  | .if2 t c => plain t && plain c
  | .if3 t c a => plain t && plain c && plain a
  | .lambda _ _ body => plainList body
  | .set _ e => plain e
  | .call f args => plain f && plainList args
  | .begin_ body => plainList body
  | .let_ bs body => plainBinds bs && plainList body
  | .letstar bs body => plainBinds bs && plainList body
  | .and_ es => plainList es
  | .or_ es => plainList es
  | .when_ t body => plain t && plainList body
  | .unless_ t body => plain t && plainList body
  | .cond_ cs => plainCond cs
  | .case_ k cs => plain k && plainCase cs
def plainList : List Surf → Bool
  | [] => true
  | s :: ss => plain s && plainList ss
def plainBinds : List Bind → Bool
  | [] => true
  | .mk _ v :: bs => plain v && plainBinds bs
def plainCond : List CondClause → Bool
  | [] => true
  | .test t :: cs => plain t && plainCond cs
  | .arrow t r :: cs => plain t && plain r && plainCond cs
  | .normal t body :: cs => plain t && plainList body && plainCond cs
  | .else_ body :: cs => plainList body && plainCond cs
def plainCase : List CaseClause → Bool
  | [] => true
  | .normal atoms body :: cs => plainDs atoms && plainList body && plainCase cs
  | .arrow atoms r :: cs => plainDs atoms && plain r && plainCase cs
  | .else_ body :: cs => plainList body && plainCase cs
  | .elseArrow r :: cs => plain r && plainCase cs
end

theorem strip_ident (x : String) : (ident x).strip = ident x := rfl

mutual
theorem strip_print : ∀ s : Surf, plain s = true → (Desugar.print s).strip = Desugar.print s
  | .var _, _ | .lit _, _ => rfl
  | .vec xs, h => by
    simp only [plain] at h
    simp only [Desugar.print, Datum.strip, stripList_of_plainDs xs h]
  | .quote d, h => by
    simp only [plain] at h
    simp only [Desugar.print, strip_lst, List.map_cons, List.map_nil, strip_ident, strip_of_plainD d h]
  | .if2 t c, h => by
    simp only [plain, Bool.and_eq_true] at h
    simp only [Desugar.print, strip_lst, List.map_cons, List.map_nil, strip_ident, strip_print t h.1, strip_print c h.2]
  | .if3 t c a, h => by
    simp only [plain, Bool.and_eq_true] at h
    simp only [Desugar.print, strip_lst, List.map_cons, List.map_nil, strip_ident, strip_print t h.1.1,
      strip_print c h.1.2, strip_print a h.2]
  | .lambda fixed rest body, h => by
    simp only [plain] at h
    simp only [Desugar.print, strip_lst, List.map_cons, strip_ident, CoreSyntax.strip_formalsD, strip_printList body h]
  | .set x e, h => by
    simp only [plain] at h
    simp only [Desugar.print, strip_lst, List.map_cons, List.map_nil, strip_ident, strip_print e h]
  | .call f args, h => by
    simp only [plain, Bool.and_eq_true] at h
    simp only [Desugar.print, strip_lst, List.map_cons, strip_print f h.1, strip_printList args h.2]
  | .begin_ es, h | .and_ es, h | .or_ es, h => by
    simp only [plain] at h
    simp only [Desugar.print, strip_lst, List.map_cons, strip_ident, strip_printList es h]
  | .let_ bs body, h | .letstar bs body, h => by
    simp only [plain, Bool.and_eq_true] at h
    simp only [Desugar.print, strip_lst, List.map_cons, strip_ident, strip_printBinds bs h.1, strip_printList body h.2]
  | .when_ t body, h | .unless_ t body, h => by
    simp only [plain, Bool.and_eq_true] at h
    simp only [Desugar.print, strip_lst, List.map_cons, strip_ident, strip_print t h.1, strip_printList body h.2]
  | .cond_ cs, h => by
    simp only [plain] at h
    simp only [Desugar.print, strip_lst, List.map_cons, strip_ident, strip_printCond cs h]
  | .case_ k cs, h => by
    simp only [plain, Bool.and_eq_true] at h
    simp only [Desugar.print, strip_lst, List.map_cons, strip_ident, strip_print k h.1, strip_printCase cs h.2]
theorem strip_printList : ∀ ss : List Surf, plainList ss = true → (printList ss).map Datum.strip = printList ss
  | [], _ => rfl
  | s :: ss, h => by
    simp only [plainList, Bool.and_eq_true] at h
    simp only [printList, List.map_cons, strip_print s h.1, strip_printList ss h.2]
theorem strip_printBinds : ∀ bs : List Bind, plainBinds bs = true → (printBinds bs).map Datum.strip = printBinds bs
  | [], _ => rfl
  | .mk x v :: bs, h => by
    simp only [plainBinds, Bool.and_eq_true] at h
    simp only [printBinds, printBind, List.map_cons, List.map_nil, strip_lst, strip_ident, strip_print v h.1,
      strip_printBinds bs h.2]
theorem strip_printCond : ∀ cs : List CondClause, plainCond cs = true →
    (printCondClauses cs).map Datum.strip = printCondClauses cs
  | [], _ => rfl
  | .test t :: cs, h => by
    simp only [plainCond, Bool.and_eq_true] at h
    simp only [printCondClauses, printCondClause, List.map_cons, List.map_nil, strip_lst, strip_print t h.1,
      strip_printCond cs h.2]
  | .arrow t r :: cs, h => by
    simp only [plainCond, Bool.and_eq_true] at h
    simp only [printCondClauses, printCondClause, List.map_cons, List.map_nil, strip_lst, strip_ident,
      strip_print t h.1.1, strip_print r h.1.2, strip_printCond cs h.2]
  | .normal t body :: cs, h => by
    simp only [plainCond, Bool.and_eq_true] at h
    simp only [printCondClauses, printCondClause, List.map_cons, strip_lst, strip_print t h.1.1,
      strip_printList body h.1.2, strip_printCond cs h.2]
  | .else_ body :: cs, h => by
    simp only [plainCond, Bool.and_eq_true] at h
    simp only [printCondClauses, printCondClause, List.map_cons, strip_lst, strip_ident,
      strip_printList body h.1, strip_printCond cs h.2]
theorem strip_printCase : ∀ cs : List CaseClause, plainCase cs = true →
    (printCaseClauses cs).map Datum.strip = printCaseClauses cs
  | [], _ => rfl
  | .normal atoms body :: cs, h => by
    simp only [plainCase, Bool.and_eq_true] at h
    simp only [printCaseClauses, printCaseClause, List.map_cons, strip_lst, map_strip_of_plainDs atoms h.1.1,
      strip_printList body h.1.2, strip_printCase cs h.2]
  | .arrow atoms r :: cs, h => by
    simp only [plainCase, Bool.and_eq_true] at h
    simp only [printCaseClauses, printCaseClause, List.map_cons, List.map_nil, strip_lst, strip_ident,
      map_strip_of_plainDs atoms h.1.1, strip_print r h.1.2, strip_printCase cs h.2]
  | .else_ body :: cs, h => by
    simp only [plainCase, Bool.and_eq_true] at h
    simp only [printCaseClauses, printCaseClause, List.map_cons, strip_lst, strip_ident,
      strip_printList body h.1, strip_printCase cs h.2]
  | .elseArrow r :: cs, h => by
    simp only [plainCase, Bool.and_eq_true] at h
    simp only [printCaseClauses, printCaseClause, List.map_cons, List.map_nil, strip_lst, strip_ident,
      strip_print r h.1, strip_printCase cs h.2]
end

end Ruschm.SurfaceText
