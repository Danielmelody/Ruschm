/-
Property C05 (shape part) — the bundled derived forms expand to the expected core forms.

Every theorem here is about the GENERATED constant `Gen.grammarData` (regenerated from
`/repo/src/parser/grammar.sld` on every run): an edit of `grammar.sld` re-opens these proofs.

`expand1 fuel kw use` is one expansion step of the derived form `kw` on `use`, the form WITHOUT
its keyword (what `Transformer::transform` receives), located at the macro use. Nodes built from
the template carry `use.loc`; the user's sub-forms are kept as they are.
-/
import RuschmProofs.MacroShapes


namespace Ruschm.C05
open Ruschm Ruschm.Macro

/-- the keywords of the bundled derived forms; `Desugar.derivedKeywords` and `C01More.stdMacros` are the same list
(`Desugar.nine_keywords`) -/
def keywords : List String := ["begin", "let", "let*", "cond", "case", "and", "or", "when", "unless"]

/-- every form of the bundled grammar is a `(define-syntax kw (syntax-rules …))` whose rules the
model of `transform_transformer` accepts, the keywords are exactly the nine derived forms, and
`grammarRules` finds each of them -/
theorem grammar_well_formed :
    (Gen.grammarData.map fun d => (defineSyntaxOf d).map (·.1)) = keywords.map some ∧
    (Gen.grammarData.all fun d =>
      match defineSyntaxOf d with
      | some (kw, spec) => (toRules kw spec).toOption.isSome
      | none => false) = true ∧
    (keywords.all fun kw => (grammarRules kw).isSome) = true := by
  refine ⟨by decide +kernel, by decide +kernel, ?_⟩
  simp only [keywords, List.all_cons, List.all_nil, begin_rules, let_rules, letstar_rules, cond_rules, case_rules,
    and_rules, or_rules, when_rules, unless_rules]
  rfl

/-- every bundled rule is in the supported class of C04 -/
theorem grammar_supported :
    (keywords.all fun kw =>
      match grammarRules kw with
      | some r => SupportedRules r
      | none => false) = true := by
  simp only [keywords, List.all_cons, List.all_nil, begin_rules, let_rules, letstar_rules, cond_rules, case_rules,
    and_rules, or_rules, when_rules, unless_rules]
  decide +kernel

/-- number of rules per form -/
theorem grammar_rule_counts :
    keywords.map (fun kw => (grammarRules kw).map (·.rules.length)) =
      [some 1, some 2, some 3, some 7, some 7, some 3, some 3, some 1, some 1] := by
  simp only [keywords, List.map_cons, List.map_nil, begin_rules, let_rules, letstar_rules, cond_rules, case_rules,
    and_rules, or_rules, when_rules, unless_rules]
  rfl

/-! ## Notation for the expected core data

Nodes built from a template are located at the macro use: a list `(x₁ … xₙ)` built by a template
is `Datum.ofList loc [x₁, …, xₙ]` (the head cell carries `loc`, the rest of the spine `none`), a
symbol is `Datum.sym s loc`. The user's sub-forms appear unchanged. -/

/-- the list `(x₁ … xₙ)` as a template builds it at a use located at `loc` -/
abbrev L (loc : Loc) (xs : List Datum) : Datum := Datum.ofList loc xs
/-- the symbol `s` as a template builds it -/
abbrev S (loc : Loc) (s : String) : Datum := Datum.sym s loc

/-! ## the declarative expander on the bundled rules -/

private theorem expand1_grammar {kw r fuel use} (hkw : kw ∈ keywords) (hr : grammarRules kw = some r)
    (hf : matchFuel use ≤ fuel) : expand1 fuel kw use = specTransform r.literals r.rules use := by
  have hs := List.all_eq_true.1 grammar_supported kw hkw
  rw [hr] at hs
  simp only [expand1, hr]
  exact transform_eq_spec_matchFuel hs hf

/-! ## when, unless -/

/-- `(when test result₁ …)` ⟹ `(if test (begin result₁ …))`, for one or more results -/
theorem when_shape {fuel use test results} (hu : IsList use (test :: results))
    (hne : results ≠ []) (hf : matchFuel use ≤ fuel) :
    expand1 fuel "when" use =
      .ok (L use.loc [S use.loc "if", test, L use.loc (S use.loc "begin" :: results)]) := by
  rw [expand1_grammar (by decide) when_rules hf]
  simp only [spec_inst, String.reduceBEq, whenRules, match_one_rest hu, hne]

/-- `(unless test result₁ …)` ⟹ `(if (not test) (begin result₁ …))` -/
theorem unless_shape {fuel use test results} (hu : IsList use (test :: results))
    (hne : results ≠ []) (hf : matchFuel use ≤ fuel) :
    expand1 fuel "unless" use =
      .ok (L use.loc [S use.loc "if", L use.loc [S use.loc "not", test],
        L use.loc (S use.loc "begin" :: results)]) := by
  rw [expand1_grammar (by decide) unless_rules hf]
  simp only [spec_inst, String.reduceBEq, unlessRules, match_one_rest hu, hne]

/-! ## begin -/

/-- `(begin e₁ …)` ⟹ `((lambda () e₁ …))`, for one or more forms -/
theorem begin_shape {fuel use es} (hu : IsList use es) (hne : es ≠ [])
    (hf : matchFuel use ≤ fuel) :
    expand1 fuel "begin" use =
      .ok (L use.loc [L use.loc (S use.loc "lambda" :: L use.loc [] :: es)]) := by
  rw [expand1_grammar (by decide) begin_rules hf]
  simp only [spec_inst, String.reduceBEq, beginRules, specMatch_ofList_isList hu,
    specMatchList_rest (lits := []) rfl, hne]

/-! ## and, or -/

/-- `(and)` ⟹ `#t` -/
theorem and_empty_shape {fuel use} (hu : IsList use []) (hf : matchFuel use ≤ fuel) :
    expand1 fuel "and" use = .ok (.prim (.bool true) use.loc) := by
  rw [expand1_grammar (by decide) and_rules hf]
  simp only [spec_inst, andRules, match_none hu]

/-- `(and test)` ⟹ `test` -/
theorem and_one_shape {fuel use test} (hu : IsList use [test]) (hf : matchFuel use ≤ fuel) :
    expand1 fuel "and" use = .ok test := by
  rw [expand1_grammar (by decide) and_rules hf]
  simp only [spec_inst, String.reduceBEq, andRules, match_none hu, match_test hu]

/-- `(and test₁ test₂ …)` ⟹ `(if test₁ (and test₂ …) #f)`, for two or more tests -/
theorem and_more_shape {fuel use test tests} (hu : IsList use (test :: tests)) (hne : tests ≠ [])
    (hf : matchFuel use ≤ fuel) :
    expand1 fuel "and" use =
      .ok (L use.loc [S use.loc "if", test, L use.loc (S use.loc "and" :: tests),
        .prim (.bool false) use.loc]) := by
  rw [expand1_grammar (by decide) and_rules hf]
  simp only [spec_inst, String.reduceBEq, andRules, match_none hu, match_test hu, match_one_rest hu,
    hne]

/-- `(or)` ⟹ `#f` -/
theorem or_empty_shape {fuel use} (hu : IsList use []) (hf : matchFuel use ≤ fuel) :
    expand1 fuel "or" use = .ok (.prim (.bool false) use.loc) := by
  rw [expand1_grammar (by decide) or_rules hf]
  simp only [spec_inst, orRules, match_none hu]

/-- `(or test)` ⟹ `test` -/
theorem or_one_shape {fuel use test} (hu : IsList use [test]) (hf : matchFuel use ≤ fuel) :
    expand1 fuel "or" use = .ok test := by
  rw [expand1_grammar (by decide) or_rules hf]
  simp only [spec_inst, String.reduceBEq, orRules, match_none hu, match_test hu]

/-- `(or test₁ test₂ …)` ⟹ `(let ((x test₁)) (if x x (or test₂ …)))`, for two or more tests.
(The template variable `x` is not renamed: the expander is not hygienic.) -/
theorem or_more_shape {fuel use test tests} (hu : IsList use (test :: tests)) (hne : tests ≠ [])
    (hf : matchFuel use ≤ fuel) :
    expand1 fuel "or" use =
      .ok (L use.loc [S use.loc "let", L use.loc [L use.loc [S use.loc "x", test]],
        L use.loc [S use.loc "if", S use.loc "x", S use.loc "x",
          L use.loc (S use.loc "or" :: tests)]]) := by
  rw [expand1_grammar (by decide) or_rules hf]
  simp only [spec_inst, String.reduceBEq, orRules, match_none hu, match_test hu, match_one_rest hu,
    hne]

/-! ## let -/

/-- `(let () body₁ …)` ⟹ `((lambda () body₁ …))` -/
theorem let_empty_shape {fuel use b bodies} (hu : IsList use (b :: bodies)) (hb : IsList b [])
    (hne : bodies ≠ []) (hf : matchFuel use ≤ fuel) :
    expand1 fuel "let" use =
      .ok (L use.loc [L use.loc (S use.loc "lambda" :: L use.loc [] :: bodies)]) := by
  rw [expand1_grammar (by decide) let_rules hf]
  simp only [spec_inst, String.reduceBEq, letRules, match_nil_bodies hu hb, hne]

/-- `(let ((name₁ val₁) …) body₁ …)` ⟹ `((lambda (name₁ …) body₁ …) val₁ …)`, for one or more
bindings `nvs = [(name₁, val₁), …]` and one or more body forms -/
theorem let_shape {fuel use bs bds nvs bodies} (hu : IsList use (bs :: bodies))
    (hbs : IsList bs bds) (hp : IsPairs bds nvs) (hnv : nvs ≠ []) (hne : bodies ≠ [])
    (hf : matchFuel use ≤ fuel) :
    expand1 fuel "let" use =
      .ok (L use.loc (L use.loc (S use.loc "lambda" :: L use.loc (nvs.map (·.1)) :: bodies) ::
        nvs.map (·.2))) := by
  rw [expand1_grammar (by decide) let_rules hf]
  have hbne : bds ≠ [] := fun h => hnv (hp.nil_iff.1 h)
  simp only [spec_inst, String.reduceBEq, letRules, match_nil_bodies hu hbs,
    match_bindings_bodies hu hbs hp, hne, hnv, hbne]

/-! ## let* -/

/-- `(let* () body₁ …)` ⟹ `(let () body₁ …)` -/
theorem letstar_empty_shape {fuel use b bodies} (hu : IsList use (b :: bodies)) (hb : IsList b [])
    (hne : bodies ≠ []) (hf : matchFuel use ≤ fuel) :
    expand1 fuel "let*" use = .ok (L use.loc (S use.loc "let" :: L use.loc [] :: bodies)) := by
  rw [expand1_grammar (by decide) letstar_rules hf]
  simp only [spec_inst, String.reduceBEq, letstarRules, match_nil_bodies hu hb, hne]

/-- `(let* ((name val)) body₁ …)` ⟹ `(let ((name val)) body₁ …)` -/
theorem letstar_one_shape {fuel use bs b n v bodies} (hu : IsList use (bs :: bodies))
    (hbs : IsList bs [b]) (hb : IsList b [n, v]) (hne : bodies ≠ [])
    (hf : matchFuel use ≤ fuel) :
    expand1 fuel "let*" use =
      .ok (L use.loc (S use.loc "let" :: L use.loc [L use.loc [n, v]] :: bodies)) := by
  rw [expand1_grammar (by decide) letstar_rules hf]
  simp only [spec_inst, String.reduceBEq, letstarRules, match_nil_bodies hu hbs,
    match_binding_bodies hu hbs hb, hne]

/-- `(let* ((name₁ val₁) (name₂ val₂) …) body₁ …)` ⟹
`(let ((name₁ val₁)) (let* ((name₂ val₂) …) body₁ …))`, for two or more bindings -/
theorem letstar_more_shape {fuel use bs b n v bds nvs bodies} (hu : IsList use (bs :: bodies))
    (hbs : IsList bs (b :: bds)) (hb : IsList b [n, v]) (hp : IsPairs bds nvs) (hnv : nvs ≠ [])
    (hne : bodies ≠ []) (hf : matchFuel use ≤ fuel) :
    expand1 fuel "let*" use =
      .ok (L use.loc [S use.loc "let", L use.loc [L use.loc [n, v]],
        L use.loc (S use.loc "let*" :: L use.loc (nvs.map fun nv => L use.loc [nv.1, nv.2]) ::
          bodies)]) := by
  rw [expand1_grammar (by decide) letstar_rules hf]
  have hbne : bds ≠ [] := fun h => hnv (hp.nil_iff.1 h)
  simp only [letstarRules, specTransform, match_nil_bodies hu hbs, match_binding_bodies hu hbs hb,
    match_binding_bindings_bodies hu hbs hb hp, hne, hnv, hbne, ne_eq, List.cons_ne_nil,
    not_false_eq_true, or_true, or_self, if_true, if_false]
  -- `(name2 val2) ...` in the template is not a variable under the ellipsis
  simp [specInst, specInstAt, specElemsAt, copies, seqLens, Tmpl.vars, Tmpl.varsElems, minLen,
    List.lookup, range_map_getD_pair]

/-! ## cond

The literals are `else` and `=>`. `isSym s d` says that the datum `d` is the symbol `s`. The side
conditions are exactly what the textual order of the seven rules forces. -/

/-- `(cond (else result₁ …))` ⟹ `(begin result₁ …)` -/
theorem cond_else_shape {fuel use c e results} (hu : IsList use [c]) (hc : IsList c (e :: results))
    (he : isSym "else" e = true) (hne : results ≠ []) (hf : matchFuel use ≤ fuel) :
    expand1 fuel "cond" use = .ok (L use.loc (S use.loc "begin" :: results)) := by
  rw [expand1_grammar (by decide) cond_rules hf, cond_table hu hc]
  simp only [spec_inst, String.reduceBEq, condRules, he, hne]

/-- `(cond (test => receiver))` ⟹ `(let ((temp test)) (if temp (receiver temp)))`, provided the
test is not the symbol `else` (else the first rule takes the clause: `=> receiver` would be its
results) -/
theorem cond_arrow_shape {fuel use c test a r} (hu : IsList use [c]) (hc : IsList c [test, a, r])
    (ha : isSym "=>" a = true) (hte : isSym "else" test = false) (hf : matchFuel use ≤ fuel) :
    expand1 fuel "cond" use =
      .ok (L use.loc [S use.loc "let", L use.loc [L use.loc [S use.loc "temp", test]],
        L use.loc [S use.loc "if", S use.loc "temp", L use.loc [r, S use.loc "temp"]]]) := by
  rw [expand1_grammar (by decide) cond_rules hf, cond_table hu hc]
  simp only [spec_inst, String.reduceBEq, condRules, hte, arrowOf_pair ha]

/-- `(cond (test => receiver) clause₁ …)` ⟹
`(let ((temp test)) (if temp (receiver temp) (cond clause₁ …)))`, for one or more further clauses
(no condition on `test`: the `else` rule only takes a sole clause) -/
theorem cond_arrow_more_shape {fuel use c test a r clauses} (hu : IsList use (c :: clauses))
    (hc : IsList c [test, a, r]) (ha : isSym "=>" a = true) (hcl : clauses ≠ [])
    (hf : matchFuel use ≤ fuel) :
    expand1 fuel "cond" use =
      .ok (L use.loc [S use.loc "let", L use.loc [L use.loc [S use.loc "temp", test]],
        L use.loc [S use.loc "if", S use.loc "temp", L use.loc [r, S use.loc "temp"],
          L use.loc (S use.loc "cond" :: clauses)]]) := by
  rw [expand1_grammar (by decide) cond_rules hf, cond_table hu hc]
  simp only [spec_inst, String.reduceBEq, condRules, hcl, arrowOf_pair ha]

/-- `(cond (test))` ⟹ `test` (whatever `test` is, even the symbol `else`: `(else result ...)`
needs at least one result) -/
theorem cond_test_shape {fuel use c test} (hu : IsList use [c]) (hc : IsList c [test])
    (hf : matchFuel use ≤ fuel) :
    expand1 fuel "cond" use = .ok test := by
  rw [expand1_grammar (by decide) cond_rules hf, cond_table hu hc]
  simp only [spec_inst, String.reduceBEq, condRules, arrowOf_nil]

/-- `(cond (test) clause₁ …)` ⟹ `(let ((temp test)) (if temp temp (cond clause₁ …)))` -/
theorem cond_test_more_shape {fuel use c test clauses} (hu : IsList use (c :: clauses))
    (hc : IsList c [test]) (hcl : clauses ≠ []) (hf : matchFuel use ≤ fuel) :
    expand1 fuel "cond" use =
      .ok (L use.loc [S use.loc "let", L use.loc [L use.loc [S use.loc "temp", test]],
        L use.loc [S use.loc "if", S use.loc "temp", S use.loc "temp",
          L use.loc (S use.loc "cond" :: clauses)]]) := by
  rw [expand1_grammar (by decide) cond_rules hf, cond_table hu hc]
  simp only [spec_inst, String.reduceBEq, condRules, hcl]

/-- `(cond (test result₁ …))` ⟹ `(if test (begin result₁ …))`, for one or more results, provided
the test is not the symbol `else` and the results are not `=> receiver` -/
theorem cond_normal_shape {fuel use c test results} (hu : IsList use [c])
    (hc : IsList c (test :: results)) (hne : results ≠ []) (hte : isSym "else" test = false)
    (hna : ∀ a r, results = [a, r] → isSym "=>" a = false) (hf : matchFuel use ≤ fuel) :
    expand1 fuel "cond" use =
      .ok (L use.loc [S use.loc "if", test, L use.loc (S use.loc "begin" :: results)]) := by
  rw [expand1_grammar (by decide) cond_rules hf, cond_table hu hc]
  simp only [spec_inst, String.reduceBEq, condRules, hne, hte, arrowOf_none hna]

/-- `(cond (test result₁ …) clause₁ …)` ⟹ `(if test (begin result₁ …) (cond clause₁ …))`, for one
or more results and one or more further clauses, provided the results are not `=> receiver` (no
condition on `test`) -/
theorem cond_normal_more_shape {fuel use c test results clauses} (hu : IsList use (c :: clauses))
    (hc : IsList c (test :: results)) (hne : results ≠ []) (hcl : clauses ≠ [])
    (hna : ∀ a r, results = [a, r] → isSym "=>" a = false) (hf : matchFuel use ≤ fuel) :
    expand1 fuel "cond" use =
      .ok (L use.loc [S use.loc "if", test, L use.loc (S use.loc "begin" :: results),
        L use.loc (S use.loc "cond" :: clauses)]) := by
  rw [expand1_grammar (by decide) cond_rules hf, cond_table hu hc]
  simp only [spec_inst, String.reduceBEq, condRules, hne, hcl, arrowOf_none hna]

/-! ## case

The literals are `else` and `=>`. The first rule takes every use whose key is a non-empty proper
list, so the other six need a key that is not one (`hk`); the textual order forces the remaining
side conditions. -/

/-- `(case (k₁ …) clause₁ …)` ⟹ `(let ((atom-key (k₁ …))) (case atom-key clause₁ …))`, for a key
that is a non-empty list and one or more clauses -/
theorem case_list_key_shape {fuel use k keys clauses} (hu : IsList use (k :: clauses))
    (hkl : IsList k keys) (hkn : keys ≠ []) (hcl : clauses ≠ []) (hf : matchFuel use ≤ fuel) :
    expand1 fuel "case" use =
      .ok (L use.loc [S use.loc "let", L use.loc [L use.loc [S use.loc "atom-key", L use.loc keys]],
        L use.loc (S use.loc "case" :: S use.loc "atom-key" :: clauses)]) := by
  rw [expand1_grammar (by decide) case_rules hf]
  simp only [spec_inst, String.reduceBEq, caseRules, specMatch_ofList_isList hu,
    specMatchList_one_rest (lits := ["else", "=>"]) (v := "clauses") rfl,
    specMatch_ofList_isList hkl, specMatchList_rest (lits := ["else", "=>"]) (v := "key") rfl, hkn,
    hcl]

/-- `(case key (else => receiver))` ⟹ `(receiver key)` -/
theorem case_else_arrow_shape {fuel use key c e a r} (hu : IsList use [key, c])
    (hc : IsList c [e, a, r]) (he : isSym "else" e = true) (ha : isSym "=>" a = true)
    (hk : ∀ ks, IsList key ks → ks = []) (hf : matchFuel use ≤ fuel) :
    expand1 fuel "case" use = .ok (L use.loc [r, key]) := by
  rw [expand1_grammar (by decide) case_rules hf, case_table hu hc hk]
  simp only [spec_inst, String.reduceBEq, caseRules, he, arrowOf_pair ha]

/-- `(case key (else result₁ …))` ⟹ `(begin result₁ …)`, provided the results are not
`=> receiver` -/
theorem case_else_shape {fuel use key c e results} (hu : IsList use [key, c])
    (hc : IsList c (e :: results)) (he : isSym "else" e = true) (hne : results ≠ [])
    (hna : ∀ a r, results = [a, r] → isSym "=>" a = false)
    (hk : ∀ ks, IsList key ks → ks = []) (hf : matchFuel use ≤ fuel) :
    expand1 fuel "case" use = .ok (L use.loc (S use.loc "begin" :: results)) := by
  rw [expand1_grammar (by decide) case_rules hf, case_table hu hc hk]
  simp only [spec_inst, String.reduceBEq, caseRules, he, hne, arrowOf_none hna]

/-- `(case key ((atom₁ …) => receiver))` ⟹
`(if (not (null? (memv key '(atom₁ …)))) (receiver key))` -/
theorem case_arrow_shape {fuel use key c as atoms a r} (hu : IsList use [key, c])
    (hc : IsList c [as, a, r]) (has : IsList as atoms) (hat : atoms ≠ [])
    (ha : isSym "=>" a = true) (hk : ∀ ks, IsList key ks → ks = []) (hf : matchFuel use ≤ fuel) :
    expand1 fuel "case" use =
      .ok (L use.loc [S use.loc "if",
        L use.loc [S use.loc "not", L use.loc [S use.loc "null?", L use.loc [S use.loc "memv", key, L use.loc [S use.loc "quote", L use.loc atoms]]]],
        L use.loc [r, key]]) := by
  rw [expand1_grammar (by decide) case_rules hf, case_table hu hc hk]
  simp only [spec_inst, String.reduceBEq, caseRules, match_atoms has hat, isSym_of_isList has hat, arrowOf_pair ha]

/-- `(case key ((atom₁ …) result₁ …))` ⟹ `(if (memv key '(atom₁ …)) (begin result₁ …))`, provided
the results are not `=> receiver` -/
theorem case_normal_shape {fuel use key c as atoms results} (hu : IsList use [key, c])
    (hc : IsList c (as :: results)) (has : IsList as atoms) (hat : atoms ≠ [])
    (hne : results ≠ []) (hna : ∀ a r, results = [a, r] → isSym "=>" a = false)
    (hk : ∀ ks, IsList key ks → ks = []) (hf : matchFuel use ≤ fuel) :
    expand1 fuel "case" use =
      .ok (L use.loc [S use.loc "if", L use.loc [S use.loc "memv", key, L use.loc [S use.loc "quote", L use.loc atoms]],
        L use.loc (S use.loc "begin" :: results)]) := by
  rw [expand1_grammar (by decide) case_rules hf, case_table hu hc hk]
  simp only [spec_inst, String.reduceBEq, caseRules, match_atoms has hat, isSym_of_isList has hat, hne, arrowOf_none hna]

/-- `(case key ((atom₁ …) => receiver) clause₁ …)` ⟹
`(if (memv key '(atom₁ …)) (receiver key) (case key clause₁ …))`, for one or more further clauses -/
theorem case_arrow_more_shape {fuel use key c as atoms a r clauses}
    (hu : IsList use (key :: c :: clauses)) (hc : IsList c [as, a, r]) (has : IsList as atoms)
    (hat : atoms ≠ []) (ha : isSym "=>" a = true) (hcl : clauses ≠ [])
    (hk : ∀ ks, IsList key ks → ks = []) (hf : matchFuel use ≤ fuel) :
    expand1 fuel "case" use =
      .ok (L use.loc [S use.loc "if", L use.loc [S use.loc "memv", key, L use.loc [S use.loc "quote", L use.loc atoms]], L use.loc [r, key],
        L use.loc (S use.loc "case" :: key :: clauses)]) := by
  rw [expand1_grammar (by decide) case_rules hf, case_table hu hc hk]
  simp only [spec_inst, String.reduceBEq, caseRules, match_atoms has hat, isSym_of_isList has hat, hcl, arrowOf_pair ha]

/-- `(case key ((atom₁ …) result₁ …) clause₁ …)` ⟹
`(if (memv key '(atom₁ …)) (begin result₁ …) (case key clause₁ …))`, provided the results are not
`=> receiver` -/
theorem case_normal_more_shape {fuel use key c as atoms results clauses}
    (hu : IsList use (key :: c :: clauses)) (hc : IsList c (as :: results))
    (has : IsList as atoms) (hat : atoms ≠ []) (hne : results ≠ []) (hcl : clauses ≠ [])
    (hna : ∀ a r, results = [a, r] → isSym "=>" a = false)
    (hk : ∀ ks, IsList key ks → ks = []) (hf : matchFuel use ≤ fuel) :
    expand1 fuel "case" use =
      .ok (L use.loc [S use.loc "if", L use.loc [S use.loc "memv", key, L use.loc [S use.loc "quote", L use.loc atoms]],
        L use.loc (S use.loc "begin" :: results), L use.loc (S use.loc "case" :: key :: clauses)]) := by
  rw [expand1_grammar (by decide) case_rules hf, case_table hu hc hk]
  simp only [spec_inst, String.reduceBEq, caseRules, match_atoms has hat, isSym_of_isList has hat, hne, hcl, arrowOf_none hna]

/-! ## Non-vacuity: the hypotheses of the shape theorems are satisfiable

One closed instance per form (the expansions are those the real expander produces on the same
input, see the `expand` correspondence check). -/

section Examples
open Ruschm.Macro.Ex

example : expand1 300 "when" (lst [sy "t", num 1, num 2]) =
    .ok (lst [sy "if", sy "t", lst [sy "begin", num 1, num 2]]) :=
  when_shape (test := sy "t") (results := [num 1, num 2]) rfl (List.cons_ne_nil _ _) (by decide)

example : expand1 300 "unless" (lst [sy "t", num 1]) =
    .ok (lst [sy "if", lst [sy "not", sy "t"], lst [sy "begin", num 1]]) :=
  unless_shape (test := sy "t") (results := [num 1]) rfl (List.cons_ne_nil _ _) (by decide)

example : expand1 300 "begin" (lst [num 1, num 2]) = .ok (lst [lst [sy "lambda", lst [], num 1, num 2]]) :=
  begin_shape (es := [num 1, num 2]) rfl (List.cons_ne_nil _ _) (by decide)

example : expand1 300 "and" (lst [num 1, num 2, num 3]) =
    .ok (lst [sy "if", num 1, lst [sy "and", num 2, num 3], .prim (.bool false) none]) :=
  and_more_shape (test := num 1) (tests := [num 2, num 3]) rfl (List.cons_ne_nil _ _) (by decide)

example : expand1 300 "or" (lst [num 1, num 2]) =
    .ok (lst [sy "let", lst [lst [sy "x", num 1]], lst [sy "if", sy "x", sy "x", lst [sy "or", num 2]]]) :=
  or_more_shape (test := num 1) (tests := [num 2]) rfl (List.cons_ne_nil _ _) (by decide)

example : expand1 300 "let" (lst [lst [lst [sy "a", num 1], lst [sy "b", num 2]], sy "a"]) =
    .ok (lst [lst [sy "lambda", lst [sy "a", sy "b"], sy "a"], num 1, num 2]) :=
  let_shape (bds := [lst [sy "a", num 1], lst [sy "b", num 2]])
    (nvs := [(sy "a", num 1), (sy "b", num 2)]) (bodies := [sy "a"]) rfl rfl
    (.cons rfl (.cons rfl .nil)) (List.cons_ne_nil _ _) (List.cons_ne_nil _ _) (by decide)

example : expand1 300 "let*" (lst [lst [lst [sy "a", num 1], lst [sy "b", num 2]], sy "a"]) =
    .ok (lst [sy "let", lst [lst [sy "a", num 1]],
      lst [sy "let*", lst [lst [sy "b", num 2]], sy "a"]]) :=
  letstar_more_shape (b := lst [sy "a", num 1]) (bds := [lst [sy "b", num 2]])
    (nvs := [(sy "b", num 2)]) (bodies := [sy "a"]) rfl rfl rfl (.cons rfl .nil) (List.cons_ne_nil _ _)
    (List.cons_ne_nil _ _) (by decide)

example : expand1 300 "cond" (lst [lst [sy "t", sy "=>", sy "f"], lst [sy "else", num 1]]) =
    .ok (lst [sy "let", lst [lst [sy "temp", sy "t"]],
      lst [sy "if", sy "temp", lst [sy "f", sy "temp"], lst [sy "cond", lst [sy "else", num 1]]]]) :=
  cond_arrow_more_shape (c := lst [sy "t", sy "=>", sy "f"]) (clauses := [lst [sy "else", num 1]])
    rfl rfl rfl (List.cons_ne_nil _ _) (by decide)

example : expand1 300 "cond" (lst [lst [sy "t", num 1, num 2]]) =
    .ok (lst [sy "if", sy "t", lst [sy "begin", num 1, num 2]]) :=
  cond_normal_shape (c := lst [sy "t", num 1, num 2]) (test := sy "t") (results := [num 1, num 2])
    rfl rfl (List.cons_ne_nil _ _) rfl (by intro a r h; cases h; rfl) (by decide)

example : expand1 300 "case" (lst [lst [sy "f", sy "x"], lst [lst [num 1], num 2]]) =
    .ok (lst [sy "let", lst [lst [sy "atom-key", lst [sy "f", sy "x"]]],
      lst [sy "case", sy "atom-key", lst [lst [num 1], num 2]]]) :=
  case_list_key_shape (k := lst [sy "f", sy "x"]) (keys := [sy "f", sy "x"])
    (clauses := [lst [lst [num 1], num 2]]) rfl rfl (List.cons_ne_nil _ _) (List.cons_ne_nil _ _) (by decide)

example : expand1 300 "case" (lst [sy "k", lst [lst [num 1, num 2], sy "a"], lst [sy "else", sy "b"]]) =
    .ok (lst [sy "if", lst [sy "memv", sy "k", lst [sy "quote", lst [num 1, num 2]]],
      lst [sy "begin", sy "a"], lst [sy "case", sy "k", lst [sy "else", sy "b"]]]) :=
  case_normal_more_shape (key := sy "k") (c := lst [lst [num 1, num 2], sy "a"])
    (as := lst [num 1, num 2]) (atoms := [num 1, num 2]) (results := [sy "a"])
    (clauses := [lst [sy "else", sy "b"]]) rfl rfl rfl (List.cons_ne_nil _ _) (List.cons_ne_nil _ _) (List.cons_ne_nil _ _)
    (by intro a r h; cases h) (by intro ks h; cases h) (by decide)

end Examples

end Ruschm.C05
