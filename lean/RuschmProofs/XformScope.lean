/-
The transformer (`RuschmModel/Xform.lean`) depends on the syntax environment only through lookups: relations
between syntax environments that agree on them (`EnvRel`: `LookupEq`, `OverBase`) are respected by every
function of the block (`Rel2`, `relAll`). Hence a fresh child scope changes no result (`child_result_eq`,
`toBody_inChild`), and only the innermost scope is ever written to (`toStatement_base`).
-/
import RuschmProofs.XformInduction


namespace Ruschm.Xform

/-! ## The transformer depends on the syntax environment only through lookups -/

theorem scopeInsert_lookup (scope : List (String × Macro.Rules)) (k : String) (r : Macro.Rules) (k' : String) :
    (scopeInsert scope k r).lookup k' = if k' = k then some r else scope.lookup k' :=
  Assoc.lookup_insert_of (fun _ _ => rfl) (fun _ _ _ _ _ => rfl) k r k' scope

theorem SynEnv.get?_define (env : SynEnv) (k : String) (r : Macro.Rules) (k' : String) :
    (env.define k r).get? k' = if k' = k then some r else env.get? k' := by
  cases env with
  | nil => by_cases h : k' = k <;> simp [SynEnv.define, SynEnv.get?, List.lookup, h, beq_eq_false_iff_ne.2]
  | cons scope rest =>
    simp only [SynEnv.define, SynEnv.get?, scopeInsert_lookup]
    by_cases h : k' = k <;> simp [h]

/-- `d` counts the child scopes opened and not yet closed since the two runs started; an instance uses it
to say where in the environment the scopes it speaks of lie -/
class EnvRel (R : Nat → SynEnv → SynEnv → Prop) : Prop where
  get? : ∀ {d s₁ s₂}, R d s₁ s₂ → ∀ k, s₁.get? k = s₂.get? k
  define : ∀ {d s₁ s₂}, R d s₁ s₂ → ∀ k r, R d (s₁.define k r) (s₂.define k r)
  push : ∀ {d s₁ s₂}, R d s₁ s₂ → R (d+1) ([] :: s₁) ([] :: s₂)
  pop : ∀ {d o₁ o₂}, R (d+1) o₁ o₂ → R d (popScope o₁) (popScope o₂)

/-- the `d` innermost scopes are the same; below them the two environments answer every lookup alike -/
inductive LookupEq : Nat → SynEnv → SynEnv → Prop
  | here {s₁ s₂} : (∀ k, s₁.get? k = s₂.get? k) → LookupEq 0 s₁ s₂
  | there {d c s₁ s₂} : LookupEq d s₁ s₂ → LookupEq (d+1) (c :: s₁) (c :: s₂)

instance : EnvRel LookupEq where
  get? := fun h k => by
    induction h with
    | here hl => exact hl k
    | there _ ih => simp only [SynEnv.get?, ih]
  define := fun h k r => by
    cases h with
    | here hl => exact .here fun k' => by rw [SynEnv.get?_define, SynEnv.get?_define, hl k']
    | there h' => exact .there h'
  push := .there
  pop := fun h => by cases h with | there h' => exact h'

theorem get?_cons_of_lookup_none {sc : List (String × Macro.Rules)} {k : String} (h : sc.lookup k = none)
    (env : SynEnv) : SynEnv.get? (sc :: env) k = env.get? k := by
  rw [SynEnv.get?, h]

theorem get?_append_empty (pre : SynEnv) (k : String) : SynEnv.get? (pre ++ [[]]) k = SynEnv.get? pre k := by
  induction pre with
  | nil => simp [SynEnv.get?, List.lookup]
  | cons c pre ih => simp only [List.cons_append, SynEnv.get?, ih]

/-- both runs are the same run, and the environment is `d + 1` scopes above the fixed `base` -/
def OverBase (base : SynEnv) (d : Nat) (s₁ s₂ : SynEnv) : Prop :=
  s₁ = s₂ ∧ ∃ pre : SynEnv, pre.length = d + 1 ∧ s₁ = pre ++ base

instance (base : SynEnv) : EnvRel (OverBase base) where
  get? := fun h k => by rw [h.1]
  define := fun {d s₁ s₂} h k r => by
    obtain ⟨rfl, pre, hl, rfl⟩ := h
    refine ⟨rfl, ?_⟩
    cases pre with
    | nil => simp at hl
    | cons c pre => exact ⟨scopeInsert c k r :: pre, by simpa using hl, by simp [SynEnv.define]⟩
  push := fun {d s₁ s₂} h => by
    obtain ⟨rfl, pre, hl, rfl⟩ := h
    exact ⟨rfl, [] :: pre, by simp [hl], by simp⟩
  pop := fun {d o₁ o₂} h => by
    obtain ⟨rfl, pre, hl, rfl⟩ := h
    refine ⟨rfl, ?_⟩
    cases pre with
    | nil => simp at hl
    | cons c pre => exact ⟨pre, by simpa using hl, by simp [popScope]⟩

structure Rel2 (R : Nat → SynEnv → SynEnv → Prop) {α} (m : XM α) : Prop where
  rel : ∀ d s₁ s₂, R d s₁ s₂ → (m s₁).1 = (m s₂).1 ∧ R d (m s₁).2 (m s₂).2

section combinators
variable {R : Nat → SynEnv → SynEnv → Prop}

theorem Rel2.lift {α} (x : Except SErr α) : Rel2 R (lift x) := ⟨fun _ _ _ h => ⟨rfl, h⟩⟩

theorem Rel2.bind {α β} {m : XM α} {f : α → XM β} (hm : Rel2 R m) (hf : ∀ a, Rel2 R (f a)) : Rel2 R (m >>= f) := by
  refine ⟨fun d s₁ s₂ h => ?_⟩
  rw [XM.bind_def, XM.bind_def]
  match m s₁, m s₂, hm.rel d s₁ s₂ h with
  | (.error e, e₁), (_, e₂), ⟨rfl, h₂⟩ => exact ⟨rfl, h₂⟩
  | (.ok a, e₁), (_, e₂), ⟨rfl, h₂⟩ => exact (hf a).rel d e₁ e₂ h₂

variable [hR : EnvRel R]

-- the instance is among the hypotheses of the next two although their proofs do not use it
set_option linter.unusedSectionVars false in
theorem Rel2.identOf (d : Datum) : Rel2 R (identOf d) := Rel2.lift _
set_option linter.unusedSectionVars false in
theorem Rel2.expectList (d : Datum) : Rel2 R (expectList d) := Rel2.lift _

theorem Rel2.inChild {α} {m : XM α} (hm : Rel2 R m) : Rel2 R (inChild m) := by
  refine ⟨fun d s₁ s₂ h => ?_⟩
  obtain ⟨h₁, h₂⟩ := hm.rel (d+1) ([] :: s₁) ([] :: s₂) (hR.push h)
  rw [inChild_run, inChild_run]
  exact ⟨h₁, hR.pop h₂⟩

/-- the environment is read only to look a keyword up in it, and lookups agree -/
theorem Rel2.closed : XM.Closed (Rel2 R) where
  pure _ := ⟨fun _ _ _ h => ⟨rfl, h⟩⟩
  failS _ := ⟨fun _ _ _ h => ⟨rfl, h⟩⟩
  failF := ⟨fun _ _ _ h => ⟨rfl, h⟩⟩
  bind := Rel2.bind
  ident := Rel2.identOf
  elist := Rel2.expectList
  child := Rel2.inChild
  pop _ := Rel2.lift _
  rules _ _ := Rel2.lift _
  expand _ _ _ := Rel2.lift _
  define k r := ⟨fun _ _ _ h => ⟨rfl, hR.define h k r⟩⟩
  look kw _ _ hA hB := ⟨fun d s₁ s₂ h => by
    simp only [XM.bind_def, getEnv, hR.get? h kw]
    cases s₂.get? kw
    · exact hB.rel d s₁ s₂ h
    · exact (hA _).rel d s₁ s₂ h⟩

theorem relAll (n : Nat) : XM.All (Rel2 R) n := Rel2.closed.all n

end combinators

/-- a fresh empty child scope changes no result: every lookup goes through it -/
theorem child_result_eq {α} {m : XM α} (hm : Rel2 LookupEq m) (s : SynEnv) :
    (m ([] :: s)).1 = (m s).1 :=
  (hm.rel 0 ([] :: s) s (.here fun _ => rfl)).1

theorem toStatement_child (n : Nat) (d : Datum) (env : SynEnv) :
    (toStatement n d ([] :: env)).1 = (toStatement n d env).1 :=
  child_result_eq ((relAll n).stmt d) env

theorem toBody_inChild (j : Nat) (bs : List Datum) (s : SynEnv) :
    (inChild (toBody j bs [] []) s).1 = (toBody j bs [] [] s).1 := by
  rw [inChild_run]; exact child_result_eq ((relAll j).body bs [] []) s

theorem toStatement_base (n : Nat) (d : Datum) (own : List (String × Macro.Rules)) (base : SynEnv) :
    ∃ own', (toStatement n d (own :: base)).2 = own' :: base := by
  obtain ⟨_, _, pre, hl, h⟩ := ((relAll (R := OverBase base) n).stmt d).rel 0 (own :: base) (own :: base)
    ⟨rfl, [own], rfl, rfl⟩
  -- at depth 0 the part above `base` has length 1: it is one scope
  match pre, hl, h with
  | [own'], _, h => exact ⟨own', h⟩

end Ruschm.Xform
