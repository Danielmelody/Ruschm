/-
Property C13 — libraries are encapsulated and instantiated once per interpreter.

"A library exposes exactly the bindings it exports, under their external names, and evaluates its
body in an environment made only of its own imports and definitions: the importer cannot see
unexported definitions, the library cannot see the importer's definitions, and redefining an
imported name in the importer does not change what the library's own procedures do. All imports of
a library within one program refer to one instance, so state kept inside the library is shared by
everything that imports it."

Only property theorems live here (each is audited with `#print axioms`); helper lemmas are in
`RuschmProofs/LibLemmas.lean` and `RuschmProofs/InterpInduction.lean`, vocabulary in `RuschmSpec/Lib.lean`.
-/
import RuschmProofs.LibLemmas
import RuschmProofs.Same
import RuschmProofs.InterpTop

namespace Ruschm.C13
open Ruschm Ruschm.Interp

/-! ## what a library exposes -/

/-- When a library definition evaluates to the export list `defs`: the names of `defs` are exactly
the external names of the export specs (each once); the value under an external name is what the
library's own frame `ρlib` — the frame allocated for this library, number `st.store.frames.size`
— binds to the INTERNAL name of the (last) export spec with that external name; and every
exported internal name is bound there. Nothing else of the library frame is in `defs`. -/
theorem exports_exact {fuel : Nat} {st st' : State} {decls : List LibDecl} {defs : S.Bindings}
    (h : evalLibraryDef fuel st decls = (.ok defs, st')) :
    (∀ x, x ∈ defs.map Prod.fst ↔ ∃ sp ∈ S.exportSpecs decls, sp.external = x) ∧
    (defs.map Prod.fst).Nodup ∧
    (∀ x, defs.lookup x =
      (S.exportFor (S.exportSpecs decls) x).bind
        (fun sp => st'.store.lookup st.store.frames.size sp.internal)) ∧
    (∀ sp ∈ S.exportSpecs decls, (st'.store.lookup st.store.frames.size sp.internal).isSome) := by
  obtain ⟨k, rfl, -, hfold⟩ := evalLibraryDef_ok h
  obtain ⟨h1, h2, h3⟩ := exportFold_spec _ _ _ _ hfold
  have hlook : ∀ x, defs.lookup x = (S.exportFor (S.exportSpecs decls) x).bind
      (fun sp => st'.store.lookup st.store.frames.size sp.internal) := by
    intro x; rw [h1 x]; cases S.exportFor (S.exportSpecs decls) x <;> simp
  refine ⟨fun x => ?_, h3 (by simp), hlook, h2⟩
  rw [← Assoc.lookup_isSome_iff, hlook x]
  constructor
  · intro hs
    cases hf : S.exportFor (S.exportSpecs decls) x with
    | none => simp [hf] at hs
    | some sp => exact ⟨sp, (exportFor_some hf).1, (exportFor_some hf).2⟩
  · rintro ⟨sp, hsp, rfl⟩
    obtain ⟨sp', hf⟩ := Option.isSome_iff_exists.1 (exportFor_isSome hsp)
    rw [hf]
    exact h2 sp' (exportFor_some hf).1

/-- a library with a hidden helper: `(define-library .. (export (rename inc up)) (begin (define hidden 1) (define inc 2)))` -/
def demoDecls : List LibDecl :=
  [.export [.rename "inc" "up" none],
   .begin_ [.definition (.mk "hidden" (.prim (.int 1) none) none),
            .definition (.mk "inc" (.prim (.int 2) none) none)]]

example : (evalLibraryDef 6 {} demoDecls).1 = .ok [("up", .num (.int 2))] := by
  exact eq_of_same (by decide +kernel)

/-- The library's frame `ρlib = st.store.frames.size` is newly allocated (no frame had that
number before), the declarations are evaluated in it, and — whatever the outcome — it is a root:
it has no parent, so its chain is `[ρlib]` (the library sees NO definition of any other frame,
the importer's in particular), and it lies on the chain of no frame that existed before (lookups
from the importer's frames never reach a library-internal name). -/
theorem lib_env_is_fresh_root (fuel : Nat) (st : State) (decls : List LibDecl) :
    let ρlib := st.store.frames.size
    let res := evalLibraryDef (fuel + 1) st decls
    (∃ r, evalLibDecls fuel { st with store := (st.store.newFrame none).2 } ρlib decls [] = (r, res.2)) ∧
    st.store.frames[ρlib]? = none ∧
    res.2.store.parentOf ρlib = none ∧ ρlib < res.2.store.frames.size ∧
    res.2.store.chain ρlib = [ρlib] ∧
    (∀ ρ', ρ' < ρlib → ρlib ∉ res.2.store.chain ρ') :=
  have h := Lib.libraryDef_root fuel st decls
  ⟨(evalLibraryDef_libDecls fuel st decls).imp fun _ h => h.1, by simp, h.2, h.1, h.chain,
    fun _ => Store.not_mem_chain_of_lt⟩

example : (evalLibraryDef 6 {} demoDecls).2.store.chain 0 = [0] :=
  (lib_env_is_fresh_root 5 {} demoDecls).2.2.2.2.1

/-- `define` or `set!` executed in a frame `ρimp` whose chain is disjoint from the chain of `ρ'`
(`ρ'` a frame of the library: the library frame itself, or a frame of one of its closures) leaves
every lookup from `ρ'` unchanged: the library's procedures keep seeing their own bindings. -/
theorem importer_redefinition_harmless (σ : Store) (ρimp ρ' : Nat) (k : String) (v : Value)
    (hdisj : ∀ i ∈ σ.chain ρ', i ∉ σ.chain ρimp) (x : String) :
    (σ.define ρimp k v).lookup ρ' x = σ.lookup ρ' x ∧
    (σ.set ρimp k v).2.lookup ρ' x = σ.lookup ρ' x := by
  constructor
  · by_cases hlt : ρimp < σ.frames.size
    · exact Store.lookup_define_off_chain σ k v x (fun hm => hdisj _ hm (Store.self_mem_chain hlt))
    · rw [Store.define_of_not_lt σ k v hlt]
  · rw [Store.set_eq]
    cases hr : σ.resolve ρimp k with
    | none => rfl
    | some r =>
      exact Store.lookup_define_off_chain σ k v x (fun hm => hdisj _ hm (Store.resolve_mem_chain hr))

/-- importer frame 0 and library frame 1, both roots, both defining `f`: redefining `f` in the
importer does not change what the library sees -/
example : ((⟨#[⟨none, [("f", .num (.int 1))]⟩, ⟨none, [("f", .num (.int 2))]⟩], #[], [], [], 0, 0⟩ : Store).set 0 "f"
    (.num (.int 9))).2.lookup 1 "f" =
    (⟨#[⟨none, [("f", .num (.int 1))]⟩, ⟨none, [("f", .num (.int 2))]⟩], #[], [], [], 0, 0⟩ : Store).lookup 1 "f" :=
  (importer_redefinition_harmless _ 0 1 "f" _ (by decide) "f").2

/-! ## one instance per interpreter -/

/-- Once `getLibrary` has returned the export list `defs` for `name`, the instance cache maps
`name` to `defs`; and on ANY state whose cache does so, `getLibrary` — hence an import
`(.direct name)` — returns those same `defs` (the same values: closures over the SAME frames)
without evaluating anything: the state is returned unchanged. -/
theorem single_instance {fuel : Nat} {st st' : State} {name : LibName} {loc : Loc} {defs : S.Bindings}
    (h : getLibrary fuel st name loc = (.ok defs, st')) :
    libLookup st'.instances name = some defs ∧
    (∀ (fuel' : Nat) (st'' : State) (loc' : Loc), libLookup st''.instances name = some defs →
      getLibrary (fuel' + 1) st'' name loc' = (.ok defs, st'') ∧
      (name ∉ st''.inProgress → evalImportSet (fuel' + 2) st'' (.direct name loc') = (.ok defs, st''))) := by
  refine ⟨getLibrary_ok_cached h, fun fuel' st'' loc' hc => ⟨?_, fun hip => direct_cached hip hc⟩⟩
  rw [getLibrary_succ_eq, hc]

/-- a native library `(m)` -/
def demoLib : LibName := [.ident "m"]
def demoState : State := { factories := [(demoLib, .native [("a", .num (.int 1))])] }

/-- the hypothesis is satisfiable: the first `getLibrary` instantiates the library -/
example : getLibrary 1 demoState demoLib none = (.ok [("a", .num (.int 1))],
    { demoState with instances := [(demoLib, [("a", .num (.int 1))])] }) := by
  rw [getLibrary_succ_eq]
  simp [demoState, demoLib, libLookup, findFactory, instantiate, cacheInstance, newLibrary, libInsert]

/-- Evaluator and import steps never remove or change an entry of the instance cache. -/
theorem instances_only_grow (fuel : Nat) (st : State) (n : LibName) (d : S.Bindings)
    (h : libLookup st.instances n = some d) :
    (∀ s, libLookup (evalImportSet fuel st s).2.instances n = some d) ∧
    (∀ name loc, libLookup (getLibrary fuel st name loc).2.instances n = some d) ∧
    (∀ sets ρ, libLookup (evalImport fuel st sets ρ).2.instances n = some d) ∧
    (∀ decls, libLookup (evalLibraryDef fuel st decls).2.instances n = some d) ∧
    (∀ ρ ss, libLookup (evalStatements fuel st ρ ss).2.instances n = some d) ∧
    (∀ s, libLookup (evalAst fuel st s).2.instances n = some d) ∧
    (∀ text, libLookup (evalText fuel st text).2.instances n = some d) := by
  have I {α} (c : Call α) := (run_inv storeRel_true fuel st c).instances n d h
  exact ⟨fun s => I (.importSet s), fun name loc => I (.getLibrary name loc), fun sets ρ => I (.import_ sets ρ),
    fun decls => I (.libraryDef decls), fun ρ ss => I (.statements ρ ss),
    fun s => (evalAst_inv storeRel_true (Prod.eta (evalAst fuel st s)).symm).instances n d h,
    fun text => (evalText_inv storeRel_true fuel st text).instances n d h⟩

example : libLookup (evalImport 3 { demoState with instances := [([.ident "k"], [])] }
    [.direct demoLib none] 0).2.instances [.ident "k"] = some [] :=
  (instances_only_grow 3 _ [.ident "k"] [] (by simp [libLookup])).2.2.1 _ _

end Ruschm.C13
