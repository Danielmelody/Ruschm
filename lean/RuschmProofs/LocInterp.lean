/-
Positions through the interpreter around the evaluator: import sets, libraries, statements. Library
sources carry no positions (`factoryOfText_clean`, `LocXform`).
-/
import RuschmProofs.LocEval
import RuschmProofs.LocXform
import RuschmProofs.InterpTop

namespace Ruschm

namespace ImportOp
@[simp] theorem locs_wrap (op : ImportOp) (s : ImportSet) : (op.wrap s).locs = s.locs := by cases op <;> rfl
end ImportOp

/-! ## the interpreter around the evaluator -/

namespace InterpLoc
open Interp EvalLoc

/-- the code an interpreter state holds has its positions in `T` (`stIn_iff`: `st.rlocs ⊆ T`) -/
structure StIn (T : List RPos) (st : State) : Prop where
  store : SIn T st.store
  instances : ∀ p ∈ st.instances, ∀ kv ∈ p.2, VIn T kv.2
  factories : ∀ p ∈ st.factories, p.2.rlocs ⊆ T

theorem stIn_iff {T : List RPos} {st : State} : StIn T st ↔ st.rlocs ⊆ T := by
  simp only [State.rlocs, List.append_subset, flatMap_subset, ← sIn_iff]
  exact ⟨fun h => ⟨h.store, h.instances, h.factories⟩, fun h => ⟨h.1, h.2.1, h.2.2⟩⟩

/-- an error that arose while reading a library file: the only errors whose position refers to a
text other than the program (`Lexer::without_locations` strips the tokens, not the lexer's own
errors) -/
def LibReadErr (e : SErr) : Prop := ∃ name text, factoryOfText name text = .error e

def IErrOK (T : List RPos) (e : SErr) : Prop :=
  ∀ l, e.2 = some l →
    (e.1 = .unbound ∧ ((Role.ident, l) ∈ T ∨ (Role.export, l) ∈ T)) ∨
    (e.1 = .nonProcedure ∧ (Role.operator, l) ∈ T) ∨
    ((e.1 = .cyclic ∨ e.1 = .libNotFound) ∧ (Role.libname, l) ∈ T) ∨
    LibReadErr e

variable {T : List RPos}

theorem iErrOK_none (k : Err) : IErrOK T (k, none) := by intro l h; cases h
theorem iErrOK_of_errOK {e : SErr} (h : ErrOK T e) : IErrOK T e := by
  intro l hl
  rcases h l hl with ⟨h1, h2⟩ | ⟨h1, h2⟩
  · exact Or.inl ⟨h1, Or.inl h2⟩
  · exact Or.inr (Or.inl ⟨h1, h2⟩)
/-- the kinds of error reported at a position that plays the role `r` -/
def _root_.Ruschm.Role.kinds : Role → List Err
  | .node => []
  | .ident => [.unbound]
  | .export => [.unbound]
  | .operator => [.nonProcedure]
  | .libname => [.cyclic, .libNotFound]

theorem _root_.Ruschm.Role.kinds_cases {r : Role} {k : Err} (h : k ∈ r.kinds) :
    (r ≠ .libname ∧ (k = .unbound ∨ k = .nonProcedure)) ∨
    (r = .libname ∧ (k = .cyclic ∨ k = .libNotFound)) := by
  cases r <;> simp only [Role.kinds, List.mem_cons, List.not_mem_nil, or_false] at h
  · exact .inl ⟨nofun, .inl h⟩
  · exact .inl ⟨nofun, .inr h⟩
  · exact .inr ⟨rfl, h⟩
  · exact .inl ⟨nofun, .inl h⟩

/-- the converse of `IErrOK.role` -/
theorem iErrOK_at {r : Role} {k : Err} {loc : Loc} (hk : k ∈ r.kinds) (h : loc.as r ⊆ T) : IErrOK T (k, loc) := by
  intro l hl; simp only at hl; subst hl
  have hm : (r, l) ∈ T := h (by simp [Loc.as])
  cases r <;> simp only [Role.kinds, List.mem_cons, List.not_mem_nil, or_false] at hk
  · exact .inl ⟨hk, .inl hm⟩
  · exact .inr (.inl ⟨hk, hm⟩)
  · exact .inr (.inr (.inl ⟨hk, hm⟩))
  · exact .inl ⟨hk, .inr hm⟩

/-- `IErrOK` with the role named -/
theorem IErrOK.role {e : SErr} (h : IErrOK T e) {l : Pos} (hl : e.2 = some l) :
    (∃ r : Role, e.1 ∈ r.kinds ∧ (r, l) ∈ T) ∨ LibReadErr e := by
  rcases h l hl with ⟨hk, h | h⟩ | ⟨hk, h⟩ | ⟨hk, h⟩ | h
  · exact .inl ⟨.ident, by simp [Role.kinds, hk], h⟩
  · exact .inl ⟨.export, by simp [Role.kinds, hk], h⟩
  · exact .inl ⟨.operator, by simp [Role.kinds, hk], h⟩
  · exact .inl ⟨.libname, by simpa [Role.kinds] using hk, h⟩
  · exact .inr h

theorem iErrOK_libRead {name : LibName} {text : String} {e : SErr} (h : factoryOfText name text = .error e) :
    IErrOK T e := fun _ _ => .inr (.inr (.inr ⟨_, _, h⟩))

/-- only the store, the instances and the factories of a state hold code -/
theorem StIn.congr {st st' : State} (h : StIn T st) (hs : st'.store = st.store)
    (hi : st'.instances = st.instances) (hf : st'.factories = st.factories) : StIn T st' :=
  ⟨hs ▸ h.store, hi ▸ h.instances, hf ▸ h.factories⟩

theorem StIn.with_store {st : State} (h : StIn T st) {σ : Store} (hσ : SIn T σ) :
    StIn T { st with store := σ } := ⟨hσ, h.instances, h.factories⟩

/-- the loader's `Binds (fun _ => VIn T) σ defs`, which does not depend on `σ` -/
def BIn (T : List RPos) (defs : List (String × Value)) : Prop := ∀ kv ∈ defs, VIn T kv.2

/-- the statements of `unary_run (loc_leaves over_iErrOK)` for the seven functions of the loader as one
record; nothing in the development builds it (`evalLibraryDef_in` is one of its fields, proved) -/
structure InterpAt (T : List RPos) (fuel : Nat) : Prop where
  importSet : ∀ {st s r st'}, evalImportSet fuel st s = (r, st') → StIn T st →
    ImportSet.rlocsList [s] ⊆ T →
    StIn T st' ∧ (∀ defs, r = .ok defs → BIn T defs) ∧ (∀ e, r = .error e → IErrOK T e)
  getLibrary : ∀ {st name loc r st'}, getLibrary fuel st name loc = (r, st') → StIn T st →
    loc.as .libname ⊆ T →
    StIn T st' ∧ (∀ defs, r = .ok defs → BIn T defs) ∧ (∀ e, r = .error e → IErrOK T e)
  import_ : ∀ {st sets ρ r st'}, evalImport fuel st sets ρ = (r, st') → StIn T st →
    ImportSet.rlocsList sets ⊆ T → StIn T st' ∧ (∀ e, r = .error e → IErrOK T e)
  importSets : ∀ {st sets acc r st'}, evalImportSets fuel st sets acc = (r, st') → StIn T st →
    ImportSet.rlocsList sets ⊆ T → BIn T acc →
    StIn T st' ∧ (∀ defs, r = .ok defs → BIn T defs) ∧ (∀ e, r = .error e → IErrOK T e)
  libraryDef : ∀ {st decls r st'}, evalLibraryDef fuel st decls = (r, st') → StIn T st →
    LibDecl.rlocsList decls ⊆ T →
    StIn T st' ∧ (∀ defs, r = .ok defs → BIn T defs) ∧ (∀ e, r = .error e → IErrOK T e)
  libDecls : ∀ {st ρ decls acc r st'}, evalLibDecls fuel st ρ decls acc = (r, st') → StIn T st →
    LibDecl.rlocsList decls ⊆ T → (∀ s ∈ acc, s.loc.as .export ⊆ T) →
    StIn T st' ∧ (∀ ex, r = .ok ex → ∀ s ∈ ex, s.loc.as .export ⊆ T) ∧
      (∀ e, r = .error e → IErrOK T e)
  statements : ∀ {st ρ ss r st'}, evalStatements fuel st ρ ss = (r, st') → StIn T st →
    Statement.rlocsList ss ⊆ T → StIn T st' ∧ (∀ e, r = .error e → IErrOK T e)

theorem ImportSet.locs_eq (s : ImportSet) : s.locs = (S.leafLoc s).toList := by
  induction s using ImportSet.opInduction with
  | direct => rfl
  | wrap op s ih => rw [ImportOp.locs_wrap, ImportOp.leafLoc_wrap, ih]

theorem libname_of_rlocs {sets : List ImportSet} (h : ImportSet.rlocsList sets ⊆ T) :
    ∀ s ∈ sets, (S.leafLoc s).as .libname ⊆ T := fun s hs => by
  rw [Loc.as, ← ImportSet.locs_eq]
  exact (List.map_subset _ fun _ hp => List.mem_flatMap.2 ⟨s, hs, hp⟩).trans h

theorem stmts_of_rlocs : ∀ {ss : List Statement}, Statement.rlocsList ss ⊆ T → ∀ s ∈ ss, s.rlocs ⊆ T
  | [], _ => nofun
  | _ :: _, h => by
    simp only [Statement.rlocsList, List.append_subset] at h
    exact List.forall_mem_cons.2 ⟨h.1, stmts_of_rlocs h.2⟩

/-- The errors `E` and the positions `L` of library names of an invariant built on `StIn T`. With
`IErrOK T` and "in `T` as a library name" it is the invariant of C15; with `True` and `True` it says that
the positions of the library names imported never enter the state. -/
structure Over (T : List RPos) (E : SErr → Prop) (L : Loc → Prop) : Prop where
  err : ∀ {e}, IErrOK T e → E e
  lib : ∀ {loc}, L loc → E (.cyclic, loc) ∧ E (.libNotFound, loc)
  held : ∀ {loc}, loc.as .libname ⊆ T → L loc

theorem over_iErrOK : Over T (IErrOK T) (·.as .libname ⊆ T) :=
  ⟨id, fun h => ⟨iErrOK_at (r := .libname) (by simp [Role.kinds]) h,
    iErrOK_at (r := .libname) (by simp [Role.kinds]) h⟩, id⟩

theorem over_true : Over T (fun _ => True) (fun _ => True) :=
  ⟨fun _ => trivial, fun _ => ⟨trivial, trivial⟩, fun _ => trivial⟩

theorem StIn.cache {st : State} (h : StIn T st) {name : LibName} {defs : List (String × Value)}
    (hd : BIn T defs) : StIn T { st with instances := libInsert st.instances name defs } := by
  refine ⟨h.store, fun p hp => ?_, h.factories⟩
  rcases mem_libInsert hp with rfl | hp
  · exact hd
  · exact h.instances p hp

section over
variable {E : SErr → Prop} {L : Loc → Prop} (o : Over T E L)
include o

theorem declAll_of_rlocs : ∀ {decls : List LibDecl}, LibDecl.rlocsList decls ⊆ T →
    ∀ d ∈ decls, DeclAll L (·.loc.as .export ⊆ T) (·.rlocs ⊆ T) d
  | [], _ => nofun
  | d :: _, h => by
    simp only [LibDecl.rlocsList, List.append_subset] at h
    refine List.forall_mem_cons.2 ⟨?_, declAll_of_rlocs h.2⟩
    cases d <;> simp only [LibDecl.rlocs] at h
    · exact fun s hs => o.held (libname_of_rlocs h.1 s hs)
    · exact flatMap_subset.1 h.1
    · exact stmts_of_rlocs h.1

theorem factoryAll_of_rlocs {σ : Store} {f : Factory} (h : f.rlocs ⊆ T) :
    FactoryAll (fun _ => VIn T) L (·.loc.as .export ⊆ T) (·.rlocs ⊆ T) σ f := by
  cases f with
  | native defs => exact flatMap_subset.1 h
  | ast decls => exact declAll_of_rlocs o h

theorem findFactory_in {st : State} (hst : StIn T st) (name : LibName) {loc : Loc}
    (hloc : L loc) :
    Interp.Ends (StIn T) E (FactoryAll (fun _ => VIn T) L (·.loc.as .export ⊆ T) (·.rlocs ⊆ T))
      (findFactory st name loc) := by
  have hff := findFactory_found st name loc
  generalize findFactory st name loc = x at hff ⊢
  cases hff with
  | registered hl => exact .ofOk hst (factoryAll_of_rlocs o (hst.factories _ (libLookup_mem hl)))
  | @fromFile t f _ _ hft =>
    have hf0 : f.rlocs ⊆ T := by rw [factoryOfText_clean hft]; simp
    refine .ofOk ⟨hst.store, hst.instances, fun p hp => ?_⟩ (factoryAll_of_rlocs o hf0)
    rcases mem_libInsert hp with rfl | hp
    · exact hf0
    · exact hst.factories p hp
  | error _ he =>
    rcases he with ⟨rfl, _⟩ | ⟨rfl, _⟩ | ⟨t, _, hft⟩
    · exact .ofErr hst (o.lib hloc).2
    · exact .ofErr hst (o.err (iErrOK_none _))
    · exact .ofErr hst (o.err (iErrOK_libRead hft))

theorem loc_leaves : Leaves (fun _ _ => True) (StIn T) (fun _ => VIn T) (fun _ _ => True)
    E L (·.loc.as .export ⊆ T) (·.rlocs ⊆ T) where
  rel := storeRel_true
  vmono _ h := h
  fmono _ h := h
  fuel := o.err (iErrOK_none _)
  other := o.err (iErrOK_none _)
  cyclic h := (o.lib h).1
  unbound h := o.err (iErrOK_at (r := .export) (by simp [Role.kinds]) h)
  inProgress _ h := h.congr rfl rfl rfl
  hit hst hl := hst.instances _ (libLookup_mem hl)
  find hst hl := findFactory_in o hst _ hl
  cache hst hd := hst.cache hd
  newFrame hst := ⟨hst.with_store (sIn_newFrame hst.store none), trivial⟩
  define hst hv := hst.with_store (sIn_define hst.store _ _ hv)
  lookup hst hl := sIn_lookup hst.store hl
  exprOrDef := exprOrDef_of_sound locInv_sound StIn.store (fun h hσ _ => h.with_store hσ)
    (fun h => o.err (iErrOK_of_errOK h))
    (fun hs hse => by
      rcases hse with rfl | ⟨x, l, rfl⟩ <;> simp only [Statement.rlocs, Def.rlocs, List.append_subset] at hs
      · exact hs
      · exact hs.2)
    (@fun _ _ => vIn_transformer)

end over

theorem evalLibraryDef_in {fuel st decls r st'} (h : evalLibraryDef fuel st decls = (r, st')) (hst : StIn T st)
    (hd : LibDecl.rlocsList decls ⊆ T) :
    StIn T st' ∧ (∀ defs, r = .ok defs → BIn T defs) ∧ ∀ e, r = .error e → IErrOK T e :=
  (unary_run (loc_leaves (T := T) over_iErrOK) fuel st (.libraryDef decls) hst
    (declAll_of_rlocs over_iErrOK hd)).toEnds.of_eq h

theorem evalImport_stIn {fuel st sets ρ} (hst : StIn T st) :
    StIn T (evalImport fuel st sets ρ).2 :=
  (unary_run (loc_leaves (T := T) over_true) fuel st (.import_ sets ρ) hst fun _ _ => trivial).inv

open ProgramText

theorem evalAst_in {fuel st s r st'} (h : evalAst fuel st s = (r, st'))
    (hst : StIn T st) (hs : s.rlocs ⊆ T) :
    StIn T st' ∧ ∀ k loc, r = .error (k, loc) →
      ∃ loc0, IErrOK T (k, loc0) ∧ loc = loc0.orElse (fun _ => s.loc) := by
  have i := (evalAst_ends (loc_leaves (T := T) over_iErrOK) (fun _ h => h.congr rfl rfl rfl) fuel hst trivial hs
    fun sets l e => libname_of_rlocs (by
      subst e; simp only [Statement.rlocs, List.append_subset] at hs; exact hs.2)).of_eq h
  refine ⟨i.1, fun k loc hk => ?_⟩
  obtain ⟨loc0, h0 | h0, hl⟩ := i.2.2 _ hk
  · exact ⟨loc0, h0, hl⟩
  · -- the refusal sits at the statement, where a missing position is put in anyway
    obtain ⟨-, rfl⟩ := Prod.mk.inj h0
    exact ⟨none, iErrOK_none _, by cases hsl : s.loc <;> simpa [hsl] using hl⟩

theorem evalAst_post {fuel st s r st'} (h : evalAst fuel st s = (r, st')) :
    StIn (st.rlocs ++ s.rlocs) st' ∧ ∀ k loc, r = .error (k, loc) →
      ∃ loc0, IErrOK (st.rlocs ++ s.rlocs) (k, loc0) ∧ loc = loc0.orElse (fun _ => s.loc) :=
  evalAst_in h (stIn_iff.2 (List.subset_append_left _ _)) (List.subset_append_right _ _)

/-- `hs`: `eval_expression_or_definition` refuses the statement (an import declaration, a library definition);
nothing is asked of the positions of the statement itself -/
theorem evalAst_stIn_of_refused {fuel st s} (hst : StIn T st)
    (hs : ∀ st ρ, evalExprOrDef fuel st s ρ = (.error (.syntax, none), st)) :
    StIn T (evalAst fuel st s).2 := by
  rw [evalAst_eq, astPost_snd]
  rcases astInner_cases fuel st s with ⟨b, hx⟩ | ⟨sets, _, rfl, hx⟩ | ⟨_, _, _, rfl, hx⟩ <;> rw [hx]
  · rw [hs]; exact hst.congr rfl rfl rfl
  · rw [andThen_snd fun _ _ => rfl]; exact evalImport_stIn hst
  · exact hst

end InterpLoc

end Ruschm
