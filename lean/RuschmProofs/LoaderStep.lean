/-
The interpreter's mutual block of seven functions as the iteration of one functional: a call of one of them is
a `Call α`, `runCall n` runs it with fuel `n`, and `runCall (n + 1) = stepCall n (runCall n)`, where `stepCall`
says what each function does with the outcomes of the calls it makes (`andThen`: the first error ends the
call). A property of the block is shown once, of `stepCall` (`run_rule`). The four import-set operators are
one case throughout (`ImportOp`, `ImportSet.opInduction`). The pieces of `get_library` have names of their own
(`findFactory`, `newLibrary`, `cacheInstance`, `instantiate`), in which the property files say what it does.
-/
import RuschmSpec.Lib
import RuschmSpec.Unloc
import RuschmProofs.AndThen
import RuschmProofs.ExceptLemmas
import RuschmProofs.AssocInsert

namespace Ruschm

/-! ## an import set is a library name under operators -/

inductive ImportOp where
  | only (ids : List String)
  | except (ids : List String)
  | prefix (p : String)
  | rename (pairs : List (String × String))

namespace ImportOp

def wrap : ImportOp → ImportSet → ImportSet
  | .only ids, s => .only s ids
  | .except ids, s => .except s ids
  | .prefix p, s => .prefix s p
  | .rename pairs, s => .rename s pairs

def apply : ImportOp → S.Bindings → S.Bindings
  | .only ids, bs => bs.filter (fun b => ids.contains b.1)
  | .except ids, bs => bs.filter (fun b => !ids.contains b.1)
  | .prefix p, bs => bs.map (fun b => (p ++ b.1, b.2))
  | .rename pairs, bs => bs.map (fun b => (S.renameTarget pairs b.1, b.2))

variable (op : ImportOp) (s : ImportSet)

@[simp] theorem leaf_wrap : S.leaf (op.wrap s) = S.leaf s := by cases op <;> rfl
@[simp] theorem leafLoc_wrap : S.leafLoc (op.wrap s) = S.leafLoc s := by cases op <;> rfl
@[simp] theorem depth_wrap : S.depth (op.wrap s) = S.depth s + 1 := by cases op <;> rfl
@[simp] theorem fuelNeeded_wrap : S.fuelNeeded (op.wrap s) = S.fuelNeeded s + 1 := by cases op <;> rfl
@[simp] theorem transform_wrap (bs : S.Bindings) :
    S.transform (op.wrap s) bs = op.apply (S.transform s bs) := by cases op <;> rfl
@[simp] theorem denote_wrap (ex : LibName → Option S.Bindings) :
    S.denote (op.wrap s) ex = (S.denote s ex).map op.apply := by cases op <;> rfl

@[simp] theorem unloc_wrap : (op.wrap s).unloc = op.wrap s.unloc := by cases op <;> rfl

theorem mem_apply {op : ImportOp} {bs : S.Bindings} {kv : String × Value} (h : kv ∈ op.apply bs) :
    ∃ kv' ∈ bs, kv'.2 = kv.2 := by
  cases op with
  | only ids | except ids => exact ⟨kv, (List.mem_filter.1 h).1, rfl⟩
  | «prefix» p | rename pairs => obtain ⟨q, hq, rfl⟩ := List.mem_map.1 h; exact ⟨q, hq, rfl⟩

theorem apply_map (f : Value → Value) (bs : S.Bindings) :
    op.apply (bs.map fun p => (p.1, f p.2)) = (op.apply bs).map fun p => (p.1, f p.2) := by
  cases op <;> simp only [apply, List.map_map, List.filter_map] <;> rfl

theorem apply_perm {a b : S.Bindings} (h : a.Perm b) : (op.apply a).Perm (op.apply b) := by
  cases op with
  | only ids | except ids => exact h.filter _
  | «prefix» p | rename pairs => exact h.map _

end ImportOp

@[elab_as_elim] theorem ImportSet.opInduction {motive : ImportSet → Prop}
    (direct : ∀ name loc, motive (.direct name loc))
    (wrap : ∀ (op : ImportOp) s, motive s → motive (op.wrap s)) : ∀ s, motive s
  | .direct name loc => direct name loc
  | .only s ids => wrap (.only ids) s (opInduction direct wrap s)
  | .except s ids => wrap (.except ids) s (opInduction direct wrap s)
  | .prefix s p => wrap (.prefix p) s (opInduction direct wrap s)
  | .rename s pairs => wrap (.rename pairs) s (opInduction direct wrap s)

/-- the inverse of `ImportOp.wrap`; there so that `stepCall` has one case for the four operators -/
def ImportSet.view : ImportSet → (LibName × Loc) ⊕ (ImportOp × ImportSet)
  | .direct name loc => .inl (name, loc)
  | .only s ids => .inr (.only ids, s)
  | .except s ids => .inr (.except ids, s)
  | .prefix s p => .inr (.prefix p, s)
  | .rename s pairs => .inr (.rename pairs, s)

namespace Interp

/-! ## association lists keyed by library name -/

theorem libLookup_libInsert_self {α} (l : List (LibName × α)) (k : LibName) (v : α) :
    libLookup (libInsert l k v) k = some v :=
  (Assoc.lookup_libInsert l k v k).trans (if_pos rfl)

theorem libLookup_libInsert_ne {α} (l : List (LibName × α)) {k k' : LibName} (v : α) (hne : k' ≠ k) :
    libLookup (libInsert l k v) k' = libLookup l k' :=
  (Assoc.lookup_libInsert l k v k').trans (if_neg (Ne.symm hne))

theorem libLookup_libInsert_of_some {α} (l : List (LibName × α)) {k n : LibName} {v d : α}
    (hk : libLookup l k = none) (hn : libLookup l n = some d) :
    libLookup (libInsert l k v) n = some d := by
  have : n ≠ k := by rintro rfl; simp [hk] at hn
  rw [libLookup_libInsert_ne _ _ this, hn]

theorem libLookup_libInsert_some {α} {l : List (LibName × α)} {k n : LibName} {v x : α}
    (h : libLookup (libInsert l k v) n = some x) : n = k ∧ x = v ∨ libLookup l n = some x := by
  rw [Assoc.lookup_libInsert] at h
  split at h
  · next hk => exact .inl ⟨hk.symm, (Option.some.inj h).symm⟩
  · exact .inr h

theorem libLookup_mem {α} {l : List (LibName × α)} {k : LibName} {v : α} (h : libLookup l k = some v) :
    (k, v) ∈ l := by
  induction l with
  | nil => simp [libLookup] at h
  | cons p rest ih =>
    obtain ⟨k', v'⟩ := p
    simp only [libLookup] at h
    split at h
    · rename_i hk; cases h; subst hk; simp
    · exact List.mem_cons_of_mem _ (ih h)

theorem mem_libInsert {α} {l : List (LibName × α)} {k : LibName} {v : α} {x} (h : x ∈ libInsert l k v) :
    x = (k, v) ∨ x ∈ l :=
  Assoc.mem_insert_of (fun _ _ => rfl) (fun _ _ _ _ _ => rfl) h

/-! ## the equations of the mutual block -/

theorem renameTarget_eq_getD (pairs : List (String × String)) (n : String) :
    S.renameTarget pairs n = (pairs.reverse.lookup n).getD n := by
  unfold S.renameTarget; cases pairs.reverse.lookup n <;> rfl

theorem evalImportSet_wrap (fuel : Nat) (st : State) (op : ImportOp) (s : ImportSet) :
    evalImportSet (fuel + 1) st (op.wrap s) =
      match evalImportSet fuel st s with
      | (.ok defs, st) => (.ok (op.apply defs), st)
      | (.error e, st) => (.error e, st) := by
  cases op <;> rw [ImportOp.wrap, evalImportSet]
  case rename pairs => simp only [ImportOp.apply, renameTarget_eq_getD]; rfl
  all_goals rfl

/-! ### `get_library` -/

/-- the factory `get_library` finds for a name that has no instance yet: the registered one, or
one made from the library file (which is then registered) -/
def findFactory (st : State) (name : LibName) (loc : Loc) : Except SErr Factory × State :=
  match libLookup st.factories name with
  | some f => (.ok f, st)
  | none =>
    match st.files.lookup (fileKey st.dir (libPath name)) with
    | none => (.error (.libNotFound, loc), st)
    | some .unreadable => (.error (.io, none), st)
    | some (.text t) =>
      match factoryOfText name t with
      | .ok f => (.ok f, { st with factories := libInsert st.factories name f })
      | .error e => (.error e, st)

/-- the ways `findFactory` ends; an error changes nothing -/
inductive FoundFactory (st : State) (name : LibName) (loc : Loc) : Except SErr Factory × State → Prop where
  | registered {f} : libLookup st.factories name = some f → FoundFactory st name loc (.ok f, st)
  | fromFile {t f} : libLookup st.factories name = none →
      st.files.lookup (fileKey st.dir (libPath name)) = some (.text t) → factoryOfText name t = .ok f →
      FoundFactory st name loc (.ok f, { st with factories := libInsert st.factories name f })
  | error {e} : libLookup st.factories name = none →
      (e = (.libNotFound, loc) ∧ st.files.lookup (fileKey st.dir (libPath name)) = none) ∨
      (e = (.io, none) ∧ st.files.lookup (fileKey st.dir (libPath name)) = some .unreadable) ∨
      (∃ t, st.files.lookup (fileKey st.dir (libPath name)) = some (.text t) ∧ factoryOfText name t = .error e) →
      FoundFactory st name loc (.error e, st)

theorem findFactory_found (st : State) (name : LibName) (loc : Loc) :
    FoundFactory st name loc (findFactory st name loc) := by
  unfold findFactory
  split
  · rename_i f h1; exact .registered h1
  · rename_i h1
    split
    · rename_i h2; exact .error h1 (.inl ⟨rfl, h2⟩)
    · rename_i h2; exact .error h1 (.inr (.inl ⟨rfl, h2⟩))
    · rename_i t h2
      split
      · rename_i f h3; exact .fromFile h1 h2 h3
      · rename_i e h3; exact .error h1 (.inr (.inr ⟨t, h2, h3⟩))

theorem findFactory_frame (st : State) (name : LibName) (loc : Loc) :
    (findFactory st name loc).2 = { st with factories := (findFactory st name loc).2.factories } := by
  have h := findFactory_found st name loc
  generalize findFactory st name loc = x at h
  cases h <;> rfl

/-- `new_library` -/
def newLibrary (fuel : Nat) (st : State) (f : Factory) : Except SErr (List (String × Value)) × State :=
  match f with
  | .native defs => (.ok defs, st)
  | .ast decls => evalLibraryDef fuel st decls

def cacheInstance (name : LibName) (res : Except SErr (List (String × Value)) × State) :
    Except SErr (List (String × Value)) × State :=
  match res.1 with
  | .ok defs => (.ok defs, { res.2 with instances := libInsert res.2.instances name defs })
  | .error e => (.error e, res.2)

/-- `get_library` once the factory is found -/
def instantiate (fuel : Nat) (st : State) (f : Factory) (name : LibName) :
    Except SErr (List (String × Value)) × State :=
  cacheInstance name (newLibrary fuel st f)

/-- the form in which the property files state `get_library`; `stepCall` says the same with `andThen` -/
theorem getLibrary_succ_eq (fuel : Nat) (st : State) (name : LibName) (loc : Loc) :
    Interp.getLibrary (fuel + 1) st name loc =
      match libLookup st.instances name with
      | some defs => (.ok defs, st)
      | none =>
        match findFactory st name loc with
        | (.error e, st) => (.error e, st)
        | (.ok f, st) => instantiate fuel st f name := by
  rw [Interp.getLibrary]
  rfl

/-! ### the two folds: collecting exports, merging import sets -/

/-- one step of the export loop of `evalLibraryDef` -/
def exportStep (look : String → Option Value) (acc : List (String × Value)) (ex : ExportSpec) :
    Except SErr (List (String × Value)) :=
  match look ex.internal with
  | some v => .ok (assocInsert acc ex.external v)
  | none => .error (.unbound, match ex with | .direct _ l => l | .rename _ _ l => l)

theorem evalLibraryDef_succ_eq (fuel : Nat) (st : State) (decls : List LibDecl) :
    evalLibraryDef (fuel + 1) st decls =
      match evalLibDecls fuel { st with store := (st.store.newFrame none).2 } st.store.frames.size decls [] with
      | (.error e, st') => (.error e, st')
      | (.ok exports, st') =>
        (exports.foldlM (exportStep (st'.store.lookup st.store.frames.size)) [], st') := by
  rw [evalLibraryDef]
  simp only [Store.newFrame]
  generalize evalLibDecls fuel _ _ decls [] = res
  obtain ⟨r, st'⟩ := res
  cases r with
  | error e => rfl
  | ok exports =>
    simp only
    congr 2
    funext acc ex
    cases ex <;> rfl

theorem exportStep_cases (look : String → Option Value) (acc : List (String × Value)) (ex : ExportSpec) :
    (∃ v, look ex.internal = some v ∧ exportStep look acc ex = .ok (assocInsert acc ex.external v)) ∨
    exportStep look acc ex = .error (.unbound, match ex with | .direct _ l => l | .rename _ _ l => l) := by
  unfold exportStep
  split
  · rename_i v hv; exact .inl ⟨v, hv, rfl⟩
  · exact .inr rfl

end Interp

namespace Lib
open Interp

/-- the step of the fold in `evalImportSets` -/
def mergeStep (eq : Value → Value → Bool) (a : List (String × Value)) (p : String × Value) :
    Except SErr (List (String × Value)) :=
  match a.lookup p.1 with
  | some prev => if eq prev p.2 then .ok (assocInsert a p.1 p.2) else .error (.other, none)
  | none => .ok (assocInsert a p.1 p.2)

end Lib

namespace Interp
open Lib

theorem evalImportSets_cons_eq (fuel : Nat) (st : State) (s : ImportSet) (rest : List ImportSet)
    (acc : List (String × Value)) :
    evalImportSets (fuel + 1) st (s :: rest) acc =
      match evalImportSet fuel st s with
      | (.error e, st) => (.error e, st)
      | (.ok defs, st) =>
        match defs.foldlM (mergeStep (importEq st)) acc with
        | .error e => (.error e, st)
        | .ok acc' => evalImportSets fuel st rest acc' := by
  rw [evalImportSets]
  rfl

theorem mergeStep_cases (eq : Value → Value → Bool) (a : List (String × Value)) (p : String × Value) :
    Lib.mergeStep eq a p = .ok (assocInsert a p.1 p.2) ∨ Lib.mergeStep eq a p = .error (.other, none) := by
  unfold Lib.mergeStep
  split
  · split
    · exact .inl rfl
    · exact .inr rfl
  · exact .inl rfl

/-! ## library files -/

/-- the reader state `factoryOfText` starts from -/
def scanStart (t : String) : Read.PState :=
  let s := Read.ofText t.toList
  { s with toks := s.toks.map (fun tk => { tk with loc := none }) }

/-- the reader states and syntax scopes `factoryOfText` goes through on the text `t`: the start,
and the state after each top-level form that was read and transformed successfully -/
inductive Scanned (t : String) : Read.PState → Xform.SynEnv → Prop where
  | start : Scanned t (scanStart t) [[], grammarScope]
  | next {s env d s' stmt env'} : Scanned t s env → Read.nextDatum s = .ok (some d, s') →
      Xform.toStatement (Xform.xformFuel d.strip) d.strip env = (.ok stmt, env') → Scanned t s' env'

/-- the text `t` contains a top-level form that is a `define-library` named `n` with the
declarations `decls` -/
def DefinesLibrary (t : String) (n : LibName) (decls : List LibDecl) : Prop :=
  ∃ s env d s' loc env', Scanned t s env ∧ Read.nextDatum s = .ok (some d, s') ∧
    Xform.toStatement (Xform.xformFuel d.strip) d.strip env = (.ok (.libraryDef n decls loc), env')

/-- The loop of `LibraryFactory::from_char_stream` as a rule: `J` holds of the reader's state and the syntax
scopes as long as forms are read and transformed; the factory returned holds a `define-library` of the name
asked for, met where `J` held. -/
theorem factoryOfText_go_rule {name : LibName} {J : Read.PState → Xform.SynEnv → Prop} {Q : List LibDecl → Prop}
    {E : SErr → Prop} (hfuel : E (.fuel, none)) (hnone : E (.libNotFound, none))
    (hread : ∀ s env e, J s env → Read.nextDatum s = .error e → E e)
    (hform : ∀ s env d s', J s env → Read.nextDatum s = .ok (some d, s') →
      (∀ e env', Xform.toStatement (Xform.xformFuel d.strip) d.strip env = (.error e, env') → E e) ∧
      (∀ stmt env', Xform.toStatement (Xform.xformFuel d.strip) d.strip env = (.ok stmt, env') →
        J s' env' ∧ ∀ decls l, stmt = .libraryDef name decls l → Q decls)) :
    ∀ (fuel : Nat) (s : Read.PState) (env : Xform.SynEnv), J s env →
      (∀ e, factoryOfText.go name fuel s env = .error e → E e) ∧
      ∀ f, factoryOfText.go name fuel s env = .ok f → ∃ decls, f = .ast decls ∧ Q decls
  | 0, s, env, _ => by
    rw [factoryOfText.go]; exact ⟨fun e h => by cases h; exact hfuel, fun f h => nomatch h⟩
  | fuel + 1, s, env, hJ => by
    rw [factoryOfText.go]
    cases hd : Read.nextDatum s with
    | error e => exact ⟨fun e' h => by cases h; exact hread s env e hJ hd, fun f h => nomatch h⟩
    | ok p =>
      obtain ⟨_ | d, s'⟩ := p
      · exact ⟨fun e h => by cases h; exact hnone, fun f h => nomatch h⟩
      · have hf := hform s env d s' hJ hd
        dsimp only
        rcases hx : Xform.toStatement (Xform.xformFuel d.strip) d.strip env with ⟨e | stmt, env'⟩
        · exact ⟨fun e' h => by cases h; exact hf.1 e env' hx, fun f h => nomatch h⟩
        · have ih := factoryOfText_go_rule hfuel hnone hread hform fuel s' env' (hf.2 stmt env' hx).1
          cases stmt with
          | libraryDef n decls l =>
            dsimp only
            split
            · rename_i hn
              subst hn
              exact ⟨fun e h => (nomatch h), fun f h => by cases h; exact ⟨decls, rfl, (hf.2 _ env' hx).2 decls l rfl⟩⟩
            · exact ih
          | _ => exact ih

theorem factoryOfText_ok {name : LibName} {t : String} {f : Factory} (h : factoryOfText name t = .ok f) :
    ∃ decls, f = .ast decls ∧ DefinesLibrary t name decls :=
  (factoryOfText_go_rule (J := Scanned t) (Q := DefinesLibrary t name) (E := fun _ => True) trivial trivial
    (fun _ _ _ _ _ => trivial)
    (fun s env d s' hJ hd => ⟨fun _ _ _ => trivial, fun _ env' hx =>
      ⟨.next hJ hd hx, fun _ l hs => ⟨s, env, d, s', l, env', hJ, hd, hs ▸ hx⟩⟩⟩)
    _ _ _ .start).2 f h

/-! ## the block as the iteration of one functional -/

/-- a call of one of the seven functions of the block, with the type of its value -/
inductive Call : Type → Type where
  | importSet (s : ImportSet) : Call S.Bindings
  | getLibrary (name : LibName) (loc : Loc) : Call S.Bindings
  | import_ (sets : List ImportSet) (ρ : Nat) : Call Unit
  | importSets (sets : List ImportSet) (acc : S.Bindings) : Call S.Bindings
  | libraryDef (decls : List LibDecl) : Call S.Bindings
  | libDecls (ρ : Nat) (decls : List LibDecl) (acc : List ExportSpec) : Call (List ExportSpec)
  | statements (ρ : Nat) (ss : List Statement) : Call Unit

def runCall {α : Type} (n : Nat) (st : State) : Call α → Except SErr α × State
  | .importSet s => evalImportSet n st s
  | .getLibrary name loc => Interp.getLibrary n st name loc
  | .import_ sets ρ => evalImport n st sets ρ
  | .importSets sets acc => evalImportSets n st sets acc
  | .libraryDef decls => evalLibraryDef n st decls
  | .libDecls ρ decls acc => evalLibDecls n st ρ decls acc
  | .statements ρ ss => evalStatements n st ρ ss

/-- `new_library`, the library definition evaluated by `rec` -/
def newLibraryWith (rec : {β : Type} → State → Call β → Except SErr β × State) (st : State) :
    Factory → Except SErr S.Bindings × State
  | .native defs => (.ok defs, st)
  | .ast decls => rec st (.libraryDef decls)

/-- what each function of the block does, given (`rec`) the outcomes of the calls it makes; the fuel `n` goes
to the one leaf that takes fuel (`evalExprOrDef`, last line) and nowhere else -/
def stepCall {α : Type} (n : Nat) (rec : {β : Type} → State → Call β → Except SErr β × State) (st : State) :
    Call α → Except SErr α × State
  | .importSet s =>
    match s.view with
    | .inl (name, loc) =>
      if st.inProgress.contains name then (.error (.cyclic, loc), st) else
      let x := rec { st with inProgress := name :: st.inProgress } (.getLibrary name loc)
      (x.1, { x.2 with inProgress := x.2.inProgress.erase name })
    | .inr (op, sub) => andThen (rec st (.importSet sub)) fun defs st => (.ok (op.apply defs), st)
  | .getLibrary name loc =>
    match libLookup st.instances name with
    | some defs => (.ok defs, st)
    | none =>
      andThen (findFactory st name loc) fun f st =>
      andThen (newLibraryWith rec st f) fun defs st =>
      (.ok defs, { st with instances := libInsert st.instances name defs })
  | .import_ sets ρ =>
    andThen (rec st (.importSets sets [])) fun defs st =>
    (.ok (), { st with store := defs.foldl (fun σ p => σ.define ρ p.1 p.2) st.store })
  | .importSets [] acc => (.ok acc, st)
  | .importSets (s :: rest) acc =>
    andThen (rec st (.importSet s)) fun defs st =>
    andThen (defs.foldlM (mergeStep (importEq st)) acc, st) fun acc' st => rec st (.importSets rest acc')
  | .libraryDef decls =>
    andThen (rec { st with store := (st.store.newFrame none).2 } (.libDecls st.store.frames.size decls []))
      fun exports st' => (exports.foldlM (exportStep (st'.store.lookup st.store.frames.size)) [], st')
  | .libDecls _ [] acc => (.ok acc, st)
  | .libDecls ρ (.importDecl sets :: ds) acc =>
    andThen (rec st (.import_ sets ρ)) fun _ st => rec st (.libDecls ρ ds acc)
  | .libDecls ρ (.export specs :: ds) acc => rec st (.libDecls ρ ds (acc ++ specs))
  | .libDecls ρ (.begin_ body :: ds) acc =>
    andThen (rec st (.statements ρ body)) fun _ st => rec st (.libDecls ρ ds acc)
  | .statements _ [] => (.ok (), st)
  | .statements ρ (s :: ss) => andThen (evalExprOrDef n st s ρ) fun _ st => rec st (.statements ρ ss)

theorem runCall_zero {α} (st : State) (c : Call α) : runCall 0 st c = (.error (.fuel, none), st) := by
  cases c <;> simp only [runCall, evalImportSet, Interp.getLibrary, evalImport, evalImportSets, evalLibraryDef,
    evalLibDecls, evalStatements]

theorem newLibraryWith_run (n : Nat) (st : State) (f : Factory) :
    newLibraryWith (runCall n) st f = newLibrary n st f := by
  cases f <;> rfl

theorem cacheInstance_eq_andThen (name : LibName) (x : Except SErr S.Bindings × State) :
    cacheInstance name x =
      andThen x fun defs st => (.ok defs, { st with instances := libInsert st.instances name defs }) := by
  obtain ⟨_ | _, _⟩ := x <;> rfl

theorem runCall_succ {α} (n : Nat) (st : State) (c : Call α) : runCall (n + 1) st c = stepCall n (runCall n) st c := by
  cases c with
  | importSet s =>
    cases s using ImportSet.opInduction with
    | direct name loc => show evalImportSet (n + 1) st (.direct name loc) = _; rw [evalImportSet]; rfl
    | wrap op sub =>
      refine (evalImportSet_wrap n st op sub).trans ?_
      cases op <;> simp only [stepCall, ImportOp.wrap, ImportSet.view, runCall] <;>
        rcases evalImportSet n st sub with ⟨_ | _, _⟩ <;> rfl
  | getLibrary name loc =>
    refine (getLibrary_succ_eq n st name loc).trans ?_
    simp only [stepCall]
    cases libLookup st.instances name with
    | some defs => rfl
    | none =>
      dsimp only
      rcases findFactory st name loc with ⟨_ | f, st1⟩
      · rfl
      · simp only [andThen_ok, instantiate, newLibraryWith_run, cacheInstance_eq_andThen]
  | import_ sets ρ =>
    simp only [runCall, stepCall]; rw [evalImport]
    rcases evalImportSets n st sets [] with ⟨_ | _, _⟩ <;> rfl
  | importSets sets acc =>
    cases sets with
    | nil => show evalImportSets (n + 1) st [] acc = (.ok acc, st); rw [evalImportSets]
    | cons s rest =>
      refine (evalImportSets_cons_eq n st s rest acc).trans ?_
      simp only [runCall, stepCall]
      rcases evalImportSet n st s with ⟨_ | defs, st1⟩
      · rfl
      · simp only [andThen_ok]
        cases defs.foldlM (mergeStep (importEq st1)) acc <;> rfl
  | libraryDef decls =>
    refine (evalLibraryDef_succ_eq n st decls).trans ?_
    simp only [runCall, stepCall]
    rcases evalLibDecls n _ _ decls [] with ⟨_ | _, _⟩ <;> rfl
  | libDecls ρ decls acc =>
    cases decls with
    | nil => show evalLibDecls (n + 1) st ρ [] acc = (.ok acc, st); rw [evalLibDecls]
    | cons d ds =>
      cases d with
      | importDecl sets =>
        simp only [runCall, stepCall]; rw [evalLibDecls]
        rcases evalImport n st sets ρ with ⟨_ | _, _⟩ <;> rfl
      | «export» specs => simp only [runCall, stepCall]; rw [evalLibDecls]
      | begin_ body =>
        simp only [runCall, stepCall]; rw [evalLibDecls]
        rcases evalStatements n st ρ body with ⟨_ | _, _⟩ <;> rfl
  | statements ρ ss =>
    cases ss with
    | nil => show evalStatements (n + 1) st ρ [] = (.ok (), st); rw [evalStatements]
    | cons s rest =>
      simp only [runCall, stepCall]; rw [evalStatements]
      rcases evalExprOrDef n st s ρ with ⟨_ | _, _⟩ <;> rfl

theorem run_rule {P : {α : Type} → Nat → State → Call α → Except SErr α × State → Prop}
    (zero : ∀ {α} st (c : Call α), P 0 st c (.error (.fuel, none), st))
    (succ : ∀ n, (∀ {β} st (c : Call β), P n st c (runCall n st c)) →
      ∀ {α} st (c : Call α), P (n + 1) st c (stepCall n (runCall n) st c)) :
    ∀ n {α} st (c : Call α), P n st c (runCall n st c)
  | 0, _, st, c => runCall_zero st c ▸ zero st c
  | n + 1, _, st, c => runCall_succ n st c ▸ succ n (fun st c => run_rule zero succ n st c) st c

theorem stepCall_direct (n : Nat) (rec : {β : Type} → State → Call β → Except SErr β × State) (st : State) (name loc) :
    stepCall n rec st (.importSet (.direct name loc)) =
      if st.inProgress.contains name then (.error (.cyclic, loc), st) else
      ((rec { st with inProgress := name :: st.inProgress } (.getLibrary name loc)).1,
       { (rec { st with inProgress := name :: st.inProgress } (.getLibrary name loc)).2 with
          inProgress := (rec { st with inProgress := name :: st.inProgress } (.getLibrary name loc)).2.inProgress.erase
            name }) :=
  rfl

theorem stepCall_wrap (n : Nat) (rec : {β : Type} → State → Call β → Except SErr β × State) (st : State)
    (op : ImportOp) (s : ImportSet) :
    stepCall n rec st (.importSet (op.wrap s)) =
      andThen (rec st (.importSet s)) fun defs st => (.ok (op.apply defs), st) := by
  cases op <;> rfl

theorem getLibrary_ok_cached {fuel : Nat} {st st' : State} {name : LibName} {loc : Loc} {defs : S.Bindings}
    (h : Interp.getLibrary fuel st name loc = (.ok defs, st')) :
    libLookup st'.instances name = some defs := by
  cases fuel with
  | zero => rw [Interp.getLibrary] at h; cases h
  | succ n =>
    replace h : stepCall n (runCall n) st (.getLibrary name loc) = (.ok defs, st') := runCall_succ n st _ ▸ h
    simp only [stepCall] at h
    split at h
    · rename_i hc; cases h; exact hc
    · obtain ⟨_, _, _, h⟩ := andThen_value h
      obtain ⟨_, _, _, h⟩ := andThen_value h
      cases h; exact libLookup_libInsert_self _ _ _

end Interp
end Ruschm