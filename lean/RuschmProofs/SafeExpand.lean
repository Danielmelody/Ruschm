/-
Macro definition and expansion keep data free of `n/0`, and code made of such data is `ok`. Both
walks are instances: expansion of `Macro.transformRules_all` (a property of data closed under list and
vector building is kept), the transformer of `XM.Hered` (`ratOk_hered`). What users take:
`toStatement_ok`.
-/
import RuschmProofs.SafeFront
import RuschmProofs.MacroAll
import RuschmProofs.XformMade

namespace Ruschm
open Ruschm

theorem Datum.ofList_ratOk (l : Loc) : ∀ (xs : List Datum), (∀ x ∈ xs, x.ratOk = true) → (Datum.ofList l xs).ratOk = true
  | [], _ => rfl
  | x :: xs, h => by
    simp only [Datum.ofList, Datum.ratOk, Bool.and_eq_true]
    exact ⟨h x (by simp), Datum.ofList_ratOk none xs fun y hy => h y (by simp [hy])⟩

namespace Macro

theorem ratOk_elemClosed : ElemClosed (·.ratOk = true) where
  spine := fun d _ => Datum.spine_all (P := (·.ratOk = true)) (Q := (·.ratOk = true))
    (Read.ratOk_pair ..).1 (fun _ h => h) d
  vec := fun _ _ hd => Datum.ratOkList_iff.1 hd

/-! ### templates -/

theorem Tmpl.ratOkElems_iff {es : List (Tmpl × Bool)} :
    Tmpl.ratOkElems es = true ↔ ∀ e ∈ es, e.1.ratOk = true :=
  all_of_rec rfl fun _ _ => rfl

theorem toTmpl_ratOk : ∀ d {t}, toTmpl d = .ok t → d.ratOk = true → t.ratOk = true := by
  have elems : ∀ {xs es}, (∀ x ∈ xs, ∀ {t}, toTmpl x = .ok t → x.ratOk = true → t.ratOk = true) →
      (∀ x ∈ xs, x.ratOk = true) → tmplElems xs = .ok es → Tmpl.ratOkElems es = true :=
    fun ih hxs h => Tmpl.ratOkElems_iff.2 fun e he => by
      obtain ⟨x, hx, hxe⟩ := tmplElems_ok h e he
      exact ih x hx hxe (hxs x hx)
  refine Datum.elems_induct ?_ ?_ ?_ ?_ ?_
  · intro s l t h _; rw [toTmpl] at h; cases h; rfl
  · intro p l t h hd; rw [toTmpl] at h; cases h; exact hd
  · intro l t h _; rw [toTmpl] at h; cases h; rfl
  · intro a d l ih t h hd
    obtain ⟨es, hes, rfl⟩ := map_ok (toTmpl_pair a d l ▸ h)
    exact elems ih (ratOk_elemClosed.elems hd) hes
  · intro xs l ih t h hd
    obtain ⟨es, hes, rfl⟩ := map_ok (toTmpl_vec xs l ▸ h)
    exact elems ih (Datum.ratOkList_iff.1 hd) hes

theorem toRule_ratOk {k d pt} (h : toRule k d = .ok pt) (hd : d.ratOk = true) : pt.2.ratOk = true := by
  obtain ⟨_, td, t, hr, ht, rfl⟩ := toRule_ok_iff.1 h
  exact toTmpl_ratOk td ht (ratOk_elemClosed.elems hd td (ruleOf_mem hr))

theorem toRules_ratOk {k d r} (h : toRules k d = .ok r) (hd : d.ratOk = true) : r.RatOK := by
  obtain ⟨_, ruleDs, hp, -, hr⟩ := (toRules_ok_iff k d r).1 h
  intro pt hpt
  obtain ⟨x, hx, hxp⟩ := hr.mem pt hpt
  exact toRule_ratOk hxp
    (ratOk_elemClosed.elems hd x ((partsE_cases ((partsE_ok_iff d _).2 hp)).2 x hx))

/-! ### the matcher and the instantiator -/

theorem ratOk_builds (loc : Loc) : Builds (·.ratOk = true) (·.ratOk = true) loc where
  list := fun h => Tmpl.ratOkElems_iff.1 h
  vec := fun h => Tmpl.ratOkElems_iff.1 h
  sym := fun _ => rfl
  prim := fun h => h
  ofList := Datum.ofList_ratOk loc _
  mkVec := fun h => Datum.ratOkList_iff.2 h

theorem transform_ratOk {fuel : Nat} {r : Rules} {use d : Datum} (hr : r.RatOK) (hu : use.ratOk = true)
    (h : transform fuel r use = .ok d) : d.ratOk = true :=
  transformRules_all ratOk_elemClosed (ratOk_builds _) hu _ d hr h

end Macro
/-! ## `toStatement` produces `ok` code -/

namespace Xform

/-- nothing uses it; the notion in use is `XM.StateFree` -/
structure XPure {α} (m : XM α) : Prop where
  env : ∀ s, (m s).2 = s

theorem XPure.toFormals (d : Datum) : XPure (toFormals d) := ⟨toFormals_env d⟩

theorem popProper_ratOk' {d : Datum} {v} (h : Macro.popProper d = .ok (some v)) (hd : d.ratOk = true) :
    v.1.ratOk = true ∧ v.2.ratOk = true := by
  unfold Macro.popProper at h
  split at h <;> cases h <;> simp_all [Datum.ratOk]

theorem ratOk_hered : XM.Hered (fun _ => True) Macro.Rules.RatOK (fun _ => True)
    (·.ratOk = true) where
  failS := trivial
  failF := trivial
  err _ := trivial
  loc _ := trivial
  pair h := by rw [Datum.ratOk, Bool.and_eq_true] at h; exact ⟨trivial, h⟩
  parts := Macro.ratOk_elemClosed
  withLoc hb _ := by rw [Datum.ratOk_withLoc]; exact hb
  rules hs := ⟨fun _ hr => Macro.toRules_ratOk hr hs, fun _ _ => trivial⟩
  expand hr hu := ⟨fun _ hx => Macro.transform_ratOk hr hu hx, fun _ _ => trivial⟩

/-! ### code made of `n/0`-free data is `ok` -/

mutual
theorem ok_expr : ∀ (e : Expr), e.Made (fun _ => True) (·.ratOk = true) → e.ok = true
  | .sym _ _, _ => rfl
  | .prim _ _, h => h
  | .assign _ e _, h => ok_expr e h.2
  | .lambda lam _, h => ok_lambda lam h.2
  | .call f args _, h => by rw [Expr.ok, ok_expr f h.2.1.2, ok_exprs args h.2.2]; rfl
  | .cond t c none _, h => by rw [Expr.ok, ok_expr t h.2.1, ok_expr c h.2.2.1]; rfl
  | .cond t c (some a) _, h => by
    rw [Expr.ok, ok_expr t h.2.1, ok_expr c h.2.2.1]; exact ok_expr a h.2.2.2
  | .quote _ _, h => h.2
  | .datum _ _, h => h.2
theorem ok_exprs : ∀ (es : List Expr), Expr.MadeList (fun _ => True) (·.ratOk = true) es →
    Expr.okList es = true
  | [], _ => rfl
  | e :: es, h => by rw [Expr.okList, ok_expr e h.1, ok_exprs es h.2]; rfl
theorem ok_lambda : ∀ (lam : Lambda), lam.Made (fun _ => True) (·.ratOk = true) → lam.ok = true
  | .mk _ defs body, h => by
    rw [Lambda.ok, ok_defs defs h.1, ok_exprs body h.2.1]
    cases body with
    | nil => exact absurd rfl h.2.2
    | cons _ _ => rfl
theorem ok_defs : ∀ (ds : List Def), Def.MadeList (fun _ => True) (·.ratOk = true) ds →
    Def.okList ds = true
  | [], _ => rfl
  | .mk _ e _ :: ds, h => by rw [Def.okList, Def.ok, ok_expr e h.1.2, ok_defs ds h.2]; rfl
end

mutual
theorem ok_stmt : ∀ (s : Statement), s.Made (fun _ => True) (·.ratOk = true) → s.ok = true
  | .importDecl _ _, _ => rfl
  | .definition (.mk _ e _), h => ok_expr e h.2
  | .syntaxDef _ _ _, _ => rfl
  | .expr e, h => ok_expr e h
  | .libraryDef _ decls _, h => ok_decls decls h.2
theorem ok_stmts : ∀ (ss : List Statement), Statement.MadeList (fun _ => True) (·.ratOk = true) ss →
    Statement.okList ss = true
  | [], _ => rfl
  | s :: ss, h => by rw [Statement.okList, ok_stmt s h.1, ok_stmts ss h.2]; rfl
theorem ok_decl : ∀ (d : LibDecl), d.Made (fun _ => True) (·.ratOk = true) → d.ok = true
  | .importDecl _, _ => rfl
  | .export _, _ => rfl
  | .begin_ body, h => ok_stmts body h
theorem ok_decls : ∀ (ds : List LibDecl), LibDecl.MadeList (fun _ => True) (·.ratOk = true) ds →
    LibDecl.okList ds = true
  | [], _ => rfl
  | d :: ds, h => by rw [LibDecl.okList, ok_decl d h.1, ok_decls ds h.2]; rfl
end

theorem toStatement_ok {fuel : Nat} {d : Datum} {env : SynEnv} (hd : d.ratOk = true) (he : SynEnv.RatOK env) :
    SynEnv.RatOK (toStatement fuel d env).2 ∧ ∀ st, (toStatement fuel d env).1 = .ok st → st.ok = true :=
  have h := (ratOk_hered.all fuel).stmt d hd env he
  ⟨h.inv, fun st hs => ok_stmt st (h.ok st hs)⟩

end Xform
end Ruschm
