/-
The model lexer (`RuschmModel/Lex.lean`). Each scanner that is built from runs is ONE equation in
`takeWhile` / `dropWhile` / `advs` / `endOfToken`, from which both what it consumes and what it makes of
a chunk are read off. `Tracks R cs p x` says what a scanner leaves behind: on success a consumed
prefix of `cs`, related to the value by `R`, with the cursor moved over it; on failure a cursor
inside `cs`. It has one combinator per way a scanner is built. `atmosStep` is the one step function
of `isAtmos`, `isTrail`, `skipAtmosphere`, the specification's `skipAtmos` and the bracket counter.
-/
import RuschmSpec.Text
import RuschmSpec.LexSpec
namespace Ruschm.Text
open Ruschm Ruschm.Lex

/-! ## cursor -/

@[simp] theorem advs_nil (p : Pos) : advs [] p = p := rfl
@[simp] theorem advs_cons (c : Char) (cs : List Char) (p : Pos) :
    advs (c :: cs) p = advs cs (adv c p) := rfl
theorem advs_append (a b : List Char) (p : Pos) : advs (a ++ b) p = advs b (advs a p) := by
  simp [advs, List.foldl_append]

/-! ## the tests at the end of a token -/

theorem endOfToken_eq (cs : List Char) (p : Pos) :
    endOfToken cs p = if startsDelim cs then .ok () else .error p := by
  cases cs <;> rfl

theorem endOfToken_ok {cs : List Char} {p : Pos} {u : Unit} :
    endOfToken cs p = .ok u ↔ startsDelim cs = true := by
  rw [endOfToken_eq]; split <;> simp_all

theorem endOfSharpToken_ok {cs : List Char} {p : Pos} {u : Unit} :
    endOfSharpToken cs p = .ok u ↔ (startsDelim cs = true ∨ startsSharp cs = true) := by
  unfold endOfSharpToken
  split
  · simp [startsSharp]
  · rename_i h
    rw [endOfToken_ok]
    have : startsSharp cs = false := by
      unfold startsSharp; split
      · rename_i c r; exact absurd rfl (h r)
      · rfl
    simp [this]

theorem startsSharp_cons (c : Char) (r : List Char) : startsSharp (c :: r) = decide (c = '#') := by
  unfold startsSharp
  split
  · rename_i h; cases h; rfl
  · rename_i h; exact (decide_eq_false fun e => h r (by rw [e])).symm

theorem endOfToken_err {cs : List Char} {p : Pos} (e : LexErr) (h : endOfToken cs p = .error e) :
    e = p := by
  rw [endOfToken_eq] at h; split at h <;> cases h; rfl
theorem endOfSharpToken_err {cs : List Char} {p : Pos} (e : LexErr)
    (h : endOfSharpToken cs p = .error e) : e = p := by
  unfold endOfSharpToken at h; split at h
  · cases h
  · exact endOfToken_err e h

/-! ## character classes -/

/-- characters the bracket counter does not react to -/
def isPlain (c : Char) : Bool :=
  !(c = '(' || c = ')' || c = ';' || c = '"' || c = '|' || c = '#')

/-- the characters that are special for the lexer or the bracket counter -/
def specials : List Char := ['(', ')', ';', '"', '|', '#', ' ', '\t', '\n', '\r']

theorem isPlain_of_not_mem {c : Char} (h : c ∉ specials) : isPlain c = true := by
  simp only [specials, List.mem_cons, List.not_mem_nil, or_false, not_or] at h
  simp [isPlain, h]

theorem isDelimiter_of_not_mem {c : Char} (h : c ∉ specials) : isDelimiter c = false := by
  simp only [specials, List.mem_cons, List.not_mem_nil, or_false, not_or] at h
  simp [isDelimiter, isWs, h]

theorem not_mem_of_class {l : List Char} {P : Char → Bool} (hP : l.all (fun c => !P c) = true)
    {c : Char} (h : P c = true) : c ∉ l := by
  intro hc
  have := List.all_eq_true.mp hP c hc
  simp [h] at this

theorem isDigit_ns {c : Char} (h : isDigit c = true) : c ∉ specials :=
  not_mem_of_class (P := isDigit) (by decide +kernel) h
theorem isSubsequent_ns {c : Char} (h : isSubsequent c = true) : c ∉ specials :=
  not_mem_of_class (P := isSubsequent) (by decide +kernel) h
theorem isAsciiAlnum_ns {c : Char} (h : isAsciiAlnum c = true) : c ∉ specials :=
  not_mem_of_class (P := isAsciiAlnum) (by decide +kernel) h

theorem dot_ns : '.' ∉ specials := by decide

theorem char_le_iff (a b : Char) : a ≤ b ↔ a.toNat ≤ b.toNat := by
  rw [Char.le_def, UInt32.le_iff_toNat_le]; rfl

theorem isDigit_iff (c : Char) : isDigit c = true ↔ 48 ≤ c.toNat ∧ c.toNat ≤ 57 := by
  simp only [isDigit, Bool.and_eq_true, decide_eq_true_eq, char_le_iff]
  rfl

theorem isLetter_iff (c : Char) :
    isLetter c = true ↔ (97 ≤ c.toNat ∧ c.toNat ≤ 122) ∨ (65 ≤ c.toNat ∧ c.toNat ≤ 90) := by
  simp only [isLetter, Bool.or_eq_true, Bool.and_eq_true, decide_eq_true_eq, char_le_iff]
  rfl

theorem isInitial_not_digit {c : Char} (h : isInitial c = true) : isDigit c = false := by
  cases hd : isDigit c with
  | false => rfl
  | true =>
    rw [isDigit_iff] at hd
    simp only [isInitial, Bool.or_eq_true, decide_eq_true_eq] at h
    rw [isLetter_iff] at h
    simp only [or_assoc] at h
    rcases h with h | h | h | h | h | h | h | h | h | h | h | h | h | h | h | h | h
    all_goals first | omega | (subst h; revert hd; decide)

theorem Char_isDigit_eq (c : Char) : c.isDigit = isDigit c := by
  rw [Bool.eq_iff_iff, isDigit_iff]
  simp only [Char.isDigit, ge_iff_le, Bool.and_eq_true, decide_eq_true_eq, UInt32.le_iff_toNat_le]
  rfl

/-! ## `takeRun` -/

theorem takeRun_spec (f : Char → Bool) (cs : List Char) (p : Pos) (acc : List Char) :
    takeRun f cs p acc
      = (acc.reverse ++ cs.takeWhile f, cs.dropWhile f, advs (cs.takeWhile f) p) := by
  induction cs generalizing p acc with
  | nil => simp [takeRun]
  | cons c cs ih =>
    unfold takeRun
    split <;> simp [*, List.takeWhile, List.dropWhile]

theorem takeRun_nil (f : Char → Bool) (cs : List Char) (p : Pos) :
    takeRun f cs p [] = (cs.takeWhile f, cs.dropWhile f, advs (cs.takeWhile f) p) := by
  rw [takeRun_spec]; rfl

/-! ## the scanners, one equation each

`quotedIdentifier`, `hexEscape` and `string` walk the text one character at a time, and `character` is
one run followed by tests on its text: these four have no equation and are used by their definitions. -/

theorem endOfToken_bind {α} (cs : List Char) (p : Pos) (k : Except LexErr α) :
    (match cs with
      | [] => k
      | nc :: _ => do testDelimiter p nc; k) = (do endOfToken cs p; k) := by
  cases cs <;> rfl

theorem normalIdentifier_eq (first : Char) (cs : List Char) (p : Pos) :
    normalIdentifier first cs p = (do
      endOfToken (cs.dropWhile isSubsequent) (advs (cs.takeWhile isSubsequent) p)
      pure (.ident (String.ofList (first :: cs.takeWhile isSubsequent)), cs.dropWhile isSubsequent,
        advs (cs.takeWhile isSubsequent) p)) := by
  unfold normalIdentifier
  rw [takeRun_nil]
  exact endOfToken_bind _ _ _

/-- `<dot subsequent>` of R7RS -/
def isDotSubsequent (c : Char) : Bool := c = '+' || c = '-' || c = '.' || c = '@' || isInitial c

def dotStart : List Char → Bool
  | c :: _ => isDotSubsequent c
  | [] => false

theorem dotSubsequent_eq (acc cs : List Char) (p : Pos) :
    dotSubsequent acc cs p =
      if dotStart cs then (do
        endOfToken (cs.dropWhile isSubsequent) (advs (cs.takeWhile isSubsequent) p)
        pure (acc ++ cs.takeWhile isSubsequent, cs.dropWhile isSubsequent,
          advs (cs.takeWhile isSubsequent) p))
      else (do endOfToken cs p; pure (acc, cs, p)) := by
  cases cs with
  | nil => rfl
  | cons c r =>
    unfold dotSubsequent
    dsimp only [dotStart, isDotSubsequent]
    by_cases h : (c = '+' || c = '-' || c = '.' || c = '@' || isInitial c) = true
    · simp only [h, ↓reduceIte, takeRun_nil]; exact endOfToken_bind _ _ _
    · simp only [h]; rfl

theorem peculiarIdentifier_eq (first : Char) (cs : List Char) (p : Pos) :
    peculiarIdentifier first cs p =
      (if (first = '+' || first = '-') && cs.head? = some '.' then
          dotSubsequent [first, '.'] cs.tail (adv '.' p)
        else dotSubsequent [first] cs p) >>= fun r =>
      pure (.ident (String.ofList r.1), r.2.1, r.2.2) := by
  unfold peculiarIdentifier
  by_cases hs : (first = '+' || first = '-') = true
  · rw [if_pos hs, hs, Bool.true_and]
    cases cs with
    | nil => rfl
    | cons c r =>
      by_cases hc : c = '.'
      · subst hc; rfl
      · simp only [hc, if_false, List.head?_cons, Option.some.injEq, decide_false, Bool.false_eq_true]
  · rw [if_neg hs, Bool.not_eq_true _ |>.mp hs, Bool.false_and]; rfl

def signPart : List Char → List Char
  | [] => []
  | c :: _ => if c = '+' || c = '-' then [c] else []

theorem signPart_unsigned (r : List Char) : signPart r ++ LexSpec.unsigned r = r := by
  cases r with
  | nil => rfl
  | cons c r => simp only [signPart, LexSpec.unsigned]; split <;> simp

theorem numberSuffix_eq (lit cs1 : List Char) (p : Pos) :
    numberSuffix lit ('e' :: cs1) p =
      (lit ++ 'e' :: (signPart cs1 ++ (LexSpec.unsigned cs1).takeWhile isDigit),
        (LexSpec.unsigned cs1).dropWhile isDigit,
        advs ('e' :: (signPart cs1 ++ (LexSpec.unsigned cs1).takeWhile isDigit)) p) := by
  cases cs1 with
  | nil => simp [numberSuffix, takeRun, signPart, LexSpec.unsigned]
  | cons s cs2 =>
    by_cases hs : (s = '+' || s = '-') = true <;>
      simp [numberSuffix, hs, takeRun_spec, signPart, LexSpec.unsigned]

theorem real_eq (lit cs1 : List Char) (p : Pos) :
    real lit ('.' :: cs1) p =
      match cs1.dropWhile isDigit with
      | 'e' :: c' =>
        (match numberSuffix (lit ++ '.' :: cs1.takeWhile isDigit) ('e' :: c')
            (advs (cs1.takeWhile isDigit) (adv '.' p)) with
          | (l2, c2, q2) => do endOfToken c2 q2; pure (l2, c2, q2))
      | c => (do endOfToken c (advs (cs1.takeWhile isDigit) (adv '.' p));
                 pure (lit ++ '.' :: cs1.takeWhile isDigit, c, advs (cs1.takeWhile isDigit) (adv '.' p))) := by
  unfold real
  cases cs1 with
  | nil => rfl
  | cons nc r =>
    dsimp only
    by_cases h1 : nc = 'e'
    · subst h1; simp [List.takeWhile, List.dropWhile, isDigit]
    rw [if_neg h1]
    by_cases h2 : isDigit nc = true
    · rw [if_pos h2, takeRun_nil]
      cases h : (nc :: r).dropWhile isDigit with
      | nil => simp [endOfToken]; rfl
      | cons x tl =>
        dsimp only
        by_cases h3 : x = 'e'
        · subst h3; simp
        · rw [if_neg h3]
          split
          · rename_i heq; cases heq; exact absurd rfl h3
          · simp [endOfToken]
    · rw [if_neg h2]
      have hd : (nc :: r).dropWhile isDigit = nc :: r := by simp [List.dropWhile, h2]
      have ht : (nc :: r).takeWhile isDigit = [] := by simp [List.takeWhile, h2]
      rw [hd, ht]
      split
      · rename_i heq; cases heq; exact absurd rfl h1
      · simp [endOfToken]

def ratToken (lit den : List Char) (rest : List Char) (p : Pos) : Scan :=
  match parseI32? lit, parseU32? den with
  | some _, some 0 => .error p
  | some a, some b => pure (.prim (.rat a b), rest, p)
  | _, _ => .error p

theorem number_eq (first : Char) (cs : List Char) (p : Pos) :
    number first cs p =
      match cs.dropWhile isDigit with
      | 'e' :: c' =>
        (match numberSuffix (first :: cs.takeWhile isDigit) ('e' :: c') (advs (cs.takeWhile isDigit) p) with
          | (l, c, q) => do endOfToken c q; realToken l c q)
      | '.' :: c' =>
        real (first :: cs.takeWhile isDigit) ('.' :: c') (advs (cs.takeWhile isDigit) p) >>= fun x =>
          realToken x.1 x.2.1 x.2.2
      | '/' :: r => (do
        endOfToken (r.dropWhile isDigit) (advs (r.takeWhile isDigit) (adv '/' (advs (cs.takeWhile isDigit) p)))
        ratToken (first :: cs.takeWhile isDigit) (r.takeWhile isDigit) (r.dropWhile isDigit)
          (advs (r.takeWhile isDigit) (adv '/' (advs (cs.takeWhile isDigit) p))))
      | c => (do endOfToken c (advs (cs.takeWhile isDigit) p);
                 integerToken (first :: cs.takeWhile isDigit) c (advs (cs.takeWhile isDigit) p)) := by
  unfold number
  rw [takeRun_nil]
  cases cs.dropWhile isDigit with
  | nil => rfl
  | cons nc r =>
    dsimp only
    by_cases h1 : nc = 'e'
    · subst h1; rfl
    rw [if_neg h1]
    by_cases h2 : nc = '.'
    · subst h2; rfl
    rw [if_neg h2]
    by_cases h3 : nc = '/'
    · subst h3; rw [if_pos rfl, takeRun_nil]; rfl
    rw [if_neg h3]
    split
    · rename_i heq; cases heq; exact absurd rfl h1
    · rename_i heq; cases heq; exact absurd rfl h2
    · rename_i heq; cases heq; exact absurd rfl h3
    · rfl

end Ruschm.Text

/-! ## atmosphere

`skipAtmosphere` is defined by well-founded recursion; its twin by structural recursion unfolds by `rfl`. -/

namespace Ruschm.Lex

/-- `skipAtmosphere`: the line break that ends a comment is consumed at once -/
def skipAtmosphereS : Bool → List Char → Pos → List Char × Pos
  | _, [], p => ([], p)
  | false, c :: cs, p =>
    if isWs c then skipAtmosphereS false cs (adv c p)
    else if c = ';' then skipAtmosphereS true cs (adv c p)
    else (c :: cs, p)
  | true, c :: cs, p =>
    if c = '\n' || c = '\r' then skipAtmosphereS false cs (adv c p)
    else skipAtmosphereS true cs (adv c p)

theorem skipAtmosphere_eq (b : Bool) (cs : List Char) (p : Pos) :
    skipAtmosphere b cs p = skipAtmosphereS b cs p := by
  fun_induction skipAtmosphere b cs p with
  | case1 b p => cases b <;> rfl
  | case2 c cs p hw ih => rw [skipAtmosphereS, if_pos hw, ih]
  | case3 cs p hw ih => rw [skipAtmosphereS, if_neg hw, if_pos rfl, ih]
  | case4 c cs p hw hc => rw [skipAtmosphereS, if_neg hw, if_neg hc]
  | case5 c cs p hn ih =>
    have hw : isWs c = true := by
      simp only [Bool.or_eq_true, decide_eq_true_eq] at hn
      rcases hn with rfl | rfl <;> rfl
    rw [ih, skipAtmosphereS, if_pos hw, skipAtmosphereS, if_pos hn]
  | case6 c cs p hn ih => rw [skipAtmosphereS, if_neg hn, ih]

end Ruschm.Lex

namespace Ruschm.Text
open Ruschm Ruschm.Lex

/-- One character of atmosphere: the mode after it (`true`: inside a comment), `none` when the character
starts a token. `isAtmos`, `isTrail`, `skipAtmosphere`, the specification's `skipAtmos` and the bracket
counter all step like this. -/
def atmosStep : Bool → Char → Option Bool
  | true, c => some !(c = '\n' || c = '\r')
  | false, c => if isWs c then some false else if c = ';' then some true else none

theorem atmosStep_rec {α} (b : Bool) (c : Char) (stop : α) (go : Bool → α) :
    (match b with
      | false => if isWs c then go false else if c = ';' then go true else stop
      | true => if c = '\n' || c = '\r' then go false else go true)
    = (atmosStep b c).elim stop go := by
  cases b <;> dsimp only [atmosStep]
  · split
    · rfl
    · split <;> rfl
  · cases (c = '\n' || c = '\r') <;> rfl

theorem isAtmos_cons (b : Bool) (c : Char) (cs : List Char) :
    isAtmos b (c :: cs) = (atmosStep b c).elim false (isAtmos · cs) := by
  rw [← atmosStep_rec]; cases b <;> rfl

theorem isTrail_cons (b : Bool) (c : Char) (cs : List Char) :
    isTrail b (c :: cs) = (atmosStep b c).elim false (isTrail · cs) := by
  rw [← atmosStep_rec]; cases b <;> rfl

theorem skipAtmosphereS_cons (b : Bool) (c : Char) (cs : List Char) (p : Pos) :
    skipAtmosphereS b (c :: cs) p
      = (atmosStep b c).elim (c :: cs, p) (skipAtmosphereS · cs (adv c p)) := by
  rw [← atmosStep_rec]; cases b <;> rfl

theorem atmosStep_none {b : Bool} {c : Char} (h : atmosStep b c = none) (cs : List Char) :
    b = false ∧ startsTok (c :: cs) = true := by
  cases b
  · refine ⟨rfl, ?_⟩
    rw [atmosStep] at h
    by_cases hw : isWs c = true
    · rw [if_pos hw] at h; cases h
    · rw [if_neg hw] at h
      by_cases hc : c = ';'
      · rw [if_pos hc] at h; cases h
      · simp [startsTok, hw, hc]
  · cases h

/-- Induction along a text on which `f`, stepping by `atmosStep`, is true: no step of it is `none`. -/
theorem atmosStep_induction {f : Bool → List Char → Bool}
    (hf : ∀ b c cs, f b (c :: cs) = (atmosStep b c).elim false (f · cs))
    {motive : ∀ b a, f b a = true → Prop} (nil : ∀ b h, motive b [] h)
    (cons : ∀ {b b' c a} (_ : atmosStep b c = some b') h h', motive b' a h' → motive b (c :: a) h)
    (b a h) : motive b a h := by
  induction a generalizing b with
  | nil => exact nil b h
  | cons c a ih =>
    have h' := h
    rw [hf] at h'
    cases hs : atmosStep b c with
    | none => rw [hs] at h'; cases h'
    | some b' => rw [hs] at h'; exact cons hs h h' (ih b' h')

theorem isTrail_of_isAtmos (b : Bool) (a : List Char) (h : isAtmos b a = true) :
    isTrail b a = true := by
  induction b, a, h using atmosStep_induction isAtmos_cons with
  | nil b => cases b <;> rfl
  | cons hs _ _ ih => rw [isTrail_cons, hs]; exact ih

theorem skipAtmosphere_atmos (b : Bool) (a rest : List Char) (p : Pos)
    (h : isAtmos b a = true) (hr : startsTok rest = true) :
    skipAtmosphere b (a ++ rest) p = (rest, advs a p) := by
  rw [skipAtmosphere_eq]
  induction b, a, h using atmosStep_induction isAtmos_cons generalizing p with
  | nil b h =>
    cases b
    · cases rest with
      | nil => rfl
      | cons c r =>
        simp only [startsTok, Bool.and_eq_true, Bool.not_eq_true', decide_eq_false_iff_not] at hr
        rw [List.nil_append, skipAtmosphereS, if_neg (by rw [hr.1]; exact Bool.false_ne_true),
          if_neg hr.2]; rfl
    · cases h
  | cons hs _ _ ih => rw [List.cons_append, skipAtmosphereS_cons, hs]; exact ih _

theorem skipAtmosphere_trail (b : Bool) (a : List Char) (p : Pos) (h : isTrail b a = true) :
    ∃ p', skipAtmosphere b a p = ([], p') := by
  rw [skipAtmosphere_eq]
  induction b, a, h using atmosStep_induction isTrail_cons generalizing p with
  | nil b => exact ⟨p, by cases b <;> rfl⟩
  | cons hs _ _ ih => rw [skipAtmosphereS_cons, hs]; exact ih _

theorem skipAtmosphere_inv (b : Bool) (cs : List Char) (p : Pos) :
    ∃ a, cs = a ++ (skipAtmosphere b cs p).1 ∧ (skipAtmosphere b cs p).2 = advs a p ∧
      startsTok (skipAtmosphere b cs p).1 = true ∧ isTrail b a = true ∧
      ((skipAtmosphere b cs p).1 ≠ [] → isAtmos b a = true) := by
  rw [skipAtmosphere_eq]
  induction cs generalizing b p with
  | nil => exact ⟨[], rfl, by cases b <;> rfl, by cases b <;> rfl, by cases b <;> rfl,
      fun h => absurd (by cases b <;> rfl) h⟩
  | cons c cs ih =>
    rw [skipAtmosphereS_cons]
    cases hs : atmosStep b c with
    | none =>
      obtain ⟨rfl, ht⟩ := atmosStep_none hs cs
      exact ⟨[], rfl, rfl, ht, rfl, fun _ => rfl⟩
    | some b' =>
      obtain ⟨a, h1, h2, h3, h4, h5⟩ := ih b' (adv c p)
      refine ⟨c :: a, congrArg (c :: ·) h1, h2, h3, ?_, fun h => ?_⟩
      · rw [isTrail_cons, hs]; exact h4
      · rw [isAtmos_cons, hs]; exact h5 h

/-! ## what the scanners consume -/

structure Used (cs : List Char) (p : Pos) (rest : List Char) (p' : Pos) (used : List Char) :
    Prop where
  split : cs = used ++ rest
  pos : p' = advs used p

theorem Used.nil (cs : List Char) (p : Pos) : Used cs p cs p [] := ⟨rfl, rfl⟩

theorem Used.cons {cs p rest p' used} (c : Char) (h : Used cs (adv c p) rest p' used) :
    Used (c :: cs) p rest p' (c :: used) := ⟨by simp [h.split], by simp [h.pos]⟩

theorem Used.append {cs p mid pm rest p' u1 u2} (h1 : Used cs p mid pm u1)
    (h2 : Used mid pm rest p' u2) : Used cs p rest p' (u1 ++ u2) :=
  ⟨by simp [h1.split, h2.split], by simp [h2.pos, h1.pos, advs_append]⟩

theorem Used.length_le {cs p rest p' used} (h : Used cs p rest p' used) :
    rest.length + used.length = cs.length := by
  simp [h.split]; omega

def NoSpecial (l : List Char) : Prop := ∀ c ∈ l, c ∉ specials

theorem NoSpecial.nil : NoSpecial [] := by simp [NoSpecial]
theorem NoSpecial.cons {c l} (h : c ∉ specials) (hl : NoSpecial l) : NoSpecial (c :: l) :=
  List.forall_mem_cons.2 ⟨h, hl⟩
theorem NoSpecial.append {a b} (ha : NoSpecial a) (hb : NoSpecial b) : NoSpecial (a ++ b) :=
  List.forall_mem_append.2 ⟨ha, hb⟩

end Ruschm.Text

namespace Ruschm.LexLoc
open Lex Text

def Cur (cs : List Char) (p e : Lex.Pos) : Prop := ∃ pre, pre <+: cs ∧ e = advs pre p

theorem Cur.here (cs : List Char) (p : Lex.Pos) : Cur cs p p := ⟨[], List.nil_prefix, rfl⟩

theorem Cur.used {cs rest : List Char} {p p' e : Lex.Pos} {used : List Char}
    (hu : Used cs p rest p' used) (h : Cur rest p' e) : Cur cs p e := by
  obtain ⟨pre, hp, he⟩ := h
  refine ⟨used ++ pre, ?_, by rw [advs_append, ← hu.pos, he]⟩
  rw [hu.split]; exact (List.prefix_append_right_inj used).2 hp

theorem Cur.cons {cs : List Char} {p e : Lex.Pos} (c : Char) (h : Cur cs (adv c p) e) :
    Cur (c :: cs) p e :=
  Cur.used ((Used.nil cs _).cons c) h

end Ruschm.LexLoc

namespace Ruschm.Text
open Ruschm Ruschm.Lex Ruschm.LexLoc

/-- What a scanner started on `cs` at `p` leaves behind: a success has consumed a prefix `u` of `cs`,
related to the value by `R`, and moved the cursor over `u`; an error is reported at a cursor inside `cs`. -/
def Tracks {α} (R : α → List Char → Prop) (cs : List Char) (p : Pos) :
    Except LexErr (α × List Char × Pos) → Prop
  | .ok (a, rest, p') => ∃ u, Used cs p rest p' u ∧ R a u
  | .error e => Cur cs p e

/-- the relation of `Tracks` for a scanner that reads no special character: `T` of the value alone -/
def Plain {α} (T : α → Prop) (a : α) (u : List Char) : Prop := NoSpecial u ∧ T a

section
variable {α β : Type} {R : α → List Char → Prop} {T : α → Prop} {cs : List Char} {p : Pos}

theorem Tracks.here {a : α} (ht : T a) : Tracks (Plain T) cs p (.ok (a, cs, p)) :=
  ⟨[], Used.nil cs p, NoSpecial.nil, ht⟩

theorem Tracks.after {mid u : List Char} {pm : Pos} {x : Except LexErr (α × List Char × Pos)}
    (hu : Used cs p mid pm u) (hq : NoSpecial u) (h : Tracks (Plain T) mid pm x) :
    Tracks (Plain T) cs p x := by
  match x, h with
  | .ok (a, rest, p'), ⟨u', hu', hq', ht⟩ => exact ⟨u ++ u', hu.append hu', hq.append hq', ht⟩
  | .error e, h => exact Cur.used hu h

theorem Tracks.cons {x : Except LexErr (α × List Char × Pos)} (c : Char) (hc : c ∉ specials)
    (h : Tracks (Plain T) cs (adv c p) x) : Tracks (Plain T) (c :: cs) p x :=
  Tracks.after ((Used.nil cs _).cons c) (NoSpecial.cons hc NoSpecial.nil) h

theorem Tracks.guard {g : Except LexErr Unit} {k : Except LexErr (α × List Char × Pos)}
    (hg : ∀ e, g = .error e → e = p) (hk : Tracks R cs p k) : Tracks R cs p (g >>= fun _ => k) := by
  cases g with
  | error e => rw [hg e rfl]; exact Cur.here cs p
  | ok u => exact hk

theorem Tracks.bind {T' : β → Prop} {x : Except LexErr (β × List Char × Pos)}
    {f : β × List Char × Pos → Except LexErr (α × List Char × Pos)}
    (hx : Tracks (Plain T') cs p x)
    (hf : ∀ b mid pm, Tracks (Plain T) mid pm (f (b, mid, pm))) : Tracks (Plain T) cs p (x >>= f) := by
  match x, hx with
  | .ok (b, mid, pm), ⟨u, hu, hq, _⟩ => exact Tracks.after hu hq (hf b mid pm)
  | .error e, h => exact h
end

theorem Tracks.run {α : Type} {T : α → Prop} {f : Char → Bool} (hf : ∀ c, f c = true → c ∉ specials)
    {cs : List Char} {p : Pos} {x : Except LexErr (α × List Char × Pos)}
    (h : Tracks (Plain T) (cs.dropWhile f) (advs (cs.takeWhile f) p) x) : Tracks (Plain T) cs p x :=
  Tracks.after ⟨List.takeWhile_append_dropWhile.symm, rfl⟩
    (fun c hc => hf c (List.all_eq_true.mp List.all_takeWhile c hc)) h

/-! ## the scanners one by one -/

abbrev Atom (t : Token) : Prop := Syn.isAtomTok t = true

theorem normalIdentifier_tracks (first : Char) (cs : List Char) (p : Pos) :
    Tracks (Plain Atom) cs p (normalIdentifier first cs p) := by
  rw [normalIdentifier_eq]
  exact Tracks.run (fun _ => isSubsequent_ns) (Tracks.guard endOfToken_err (Tracks.here rfl))

theorem dotSubsequent_tracks (acc cs : List Char) (p : Pos) :
    Tracks (Plain fun _ => True) cs p (dotSubsequent acc cs p) := by
  rw [dotSubsequent_eq]
  split
  · exact Tracks.run (fun _ => isSubsequent_ns) (Tracks.guard endOfToken_err (Tracks.here trivial))
  · exact Tracks.guard endOfToken_err (Tracks.here trivial)

theorem peculiarIdentifier_tracks (first : Char) (cs : List Char) (p : Pos) :
    Tracks (Plain Atom) cs p (peculiarIdentifier first cs p) := by
  rw [peculiarIdentifier_eq]
  split
  · rename_i h
    cases cs with
    | nil => simp at h
    | cons c r =>
      obtain rfl : c = '.' := by simp only [Bool.and_eq_true, List.head?_cons, Option.some.injEq, decide_eq_true_eq] at h; exact h.2
      exact Tracks.cons '.' dot_ns (Tracks.bind (dotSubsequent_tracks _ _ _) fun _ _ _ => Tracks.here rfl)
  · exact Tracks.bind (dotSubsequent_tracks _ _ _) fun _ _ _ => Tracks.here rfl

theorem numberSuffix_used (lit cs1 : List Char) (p : Pos) :
    ∃ u, Used ('e' :: cs1) p (numberSuffix lit ('e' :: cs1) p).2.1
      (numberSuffix lit ('e' :: cs1) p).2.2 u ∧ NoSpecial u := by
  rw [numberSuffix_eq]
  refine ⟨_, ⟨?_, rfl⟩, NoSpecial.cons (by decide) (NoSpecial.append ?_ ?_)⟩
  · rw [List.cons_append, List.append_assoc, List.takeWhile_append_dropWhile, signPart_unsigned]
  · cases cs1 with
    | nil => exact NoSpecial.nil
    | cons s r =>
      rw [signPart]
      split
      · rename_i hs
        simp only [Bool.or_eq_true, decide_eq_true_eq] at hs
        exact NoSpecial.cons (by rcases hs with rfl | rfl <;> decide) NoSpecial.nil
      · exact NoSpecial.nil
  · exact fun c hc => isDigit_ns (List.all_eq_true.mp List.all_takeWhile c hc)

theorem Tracks.suffix {α : Type} {T : α → Prop} (lit cs1 : List Char) (p : Pos)
    {k : List Char → List Char → Pos → Except LexErr (α × List Char × Pos)}
    (hk : ∀ l c q, Tracks (Plain T) c q (k l c q)) :
    Tracks (Plain T) ('e' :: cs1) p (match numberSuffix lit ('e' :: cs1) p with
      | (lit, cs2, p2) => do endOfToken cs2 p2; k lit cs2 p2) := by
  obtain ⟨u, hu, hn⟩ := numberSuffix_used lit cs1 p
  generalize numberSuffix lit ('e' :: cs1) p = r at hu
  obtain ⟨l, c, q⟩ := r
  exact Tracks.after hu hn (Tracks.guard endOfToken_err (hk l c q))

theorem real_tracks (lit cs1 : List Char) (p : Pos) :
    Tracks (Plain fun _ => True) ('.' :: cs1) p (real lit ('.' :: cs1) p) := by
  rw [real_eq]
  refine Tracks.cons '.' dot_ns (Tracks.run (f := isDigit) (fun _ => isDigit_ns) ?_)
  generalize cs1.dropWhile isDigit = c
  split
  · exact Tracks.suffix (T := fun _ : List Char => True) _ _ _ fun _ _ _ => Tracks.here trivial
  · exact Tracks.guard endOfToken_err (Tracks.here trivial)

theorem integerToken_tracks (lit cs : List Char) (p : Pos) :
    Tracks (Plain Atom) cs p (integerToken lit cs p) := by
  unfold integerToken
  cases parseI32? lit with
  | none => exact Cur.here cs p
  | some i => exact Tracks.here rfl

theorem realToken_tracks (lit cs : List Char) (p : Pos) :
    Tracks (Plain Atom) cs p (realToken lit cs p) := by
  unfold realToken
  split
  · exact Tracks.here rfl
  · exact Cur.here cs p

theorem ratToken_tracks (lit den cs : List Char) (p : Pos) :
    Tracks (Plain Atom) cs p (ratToken lit den cs p) := by
  unfold ratToken
  split
  · exact Cur.here _ _
  · exact Tracks.here rfl
  · exact Cur.here _ _

theorem number_tracks (first : Char) (cs : List Char) (p : Pos) :
    Tracks (Plain Atom) cs p (number first cs p) := by
  rw [number_eq]
  refine Tracks.run (f := isDigit) (fun _ => isDigit_ns) ?_
  generalize cs.dropWhile isDigit = c
  split
  · exact Tracks.suffix _ _ _ realToken_tracks
  · exact Tracks.bind (real_tracks _ _ _) fun l c q => realToken_tracks l c q
  · exact Tracks.cons '/' (by decide) (Tracks.run (f := isDigit) (fun _ => isDigit_ns)
      (Tracks.guard endOfToken_err (ratToken_tracks _ _ _ _)))
  · exact Tracks.guard endOfToken_err (integerToken_tracks _ _ _)

theorem character_tracks (first : Char) (cs : List Char) (p : Pos) :
    Tracks (Plain fun t => sharpTok t = true) cs p (character first cs p) := by
  unfold character
  rw [takeRun_nil]
  refine Tracks.run (fun _ => isAsciiAlnum_ns) (Tracks.guard endOfSharpToken_err ?_)
  by_cases h1 : (cs.takeWhile isAsciiAlnum).isEmpty = true
  · rw [if_pos h1]; exact Tracks.here rfl
  rw [if_neg h1]
  cases charName? (first :: cs.takeWhile isAsciiAlnum) with
  | some c => exact Tracks.here rfl
  | none =>
    dsimp only
    by_cases h2 : first = 'x'
    · rw [if_pos h2]
      cases hexScalar? (cs.takeWhile isAsciiAlnum) with
      | none => exact Cur.here _ _
      | some c =>
        dsimp only
        by_cases h3 : (cs.takeWhile isAsciiAlnum).head? = some '+'
        · rw [if_pos h3]; exact Cur.here _ _
        · rw [if_neg h3]; exact Tracks.here rfl
    · rw [if_neg h2]; exact Cur.here _ _

theorem quotedIdentifier_tracks (cs : List Char) (p : Pos) (acc : List Char) :
    Tracks (fun t u => ∃ body, u = body ++ ['|'] ∧ '|' ∉ body ∧
      t = .ident (String.ofList (acc.reverse ++ body))) cs p (quotedIdentifier cs p acc) := by
  induction cs generalizing p acc with
  | nil => exact Cur.here [] p
  | cons c cs ih =>
    rw [quotedIdentifier]
    by_cases hc : c = '|'
    · subst hc; rw [if_pos rfl]
      exact ⟨['|'], ⟨rfl, rfl⟩, [], rfl, List.not_mem_nil, by rw [List.append_nil]⟩
    · rw [if_neg hc]
      match quotedIdentifier cs (adv c p) (c :: acc), ih (adv c p) (c :: acc) with
      | .ok (t, rest, p'), ⟨u, hu, body, hub, hb, ht⟩ =>
        subst hub
        refine ⟨c :: (body ++ ['|']), hu.cons c, c :: body, rfl, ?_, by simp [ht]⟩
        simp only [List.mem_cons, not_or]
        exact ⟨fun e => hc e.symm, hb⟩
      | .error e, h => exact Cur.cons c h

theorem hexEscape_tracks (cs : List Char) (p : Pos) (acc : List Char) :
    Tracks (fun hex u => ∃ body, u = body ++ [';'] ∧ hex = acc.reverse ++ body) cs p
      (hexEscape cs p acc) := by
  induction cs generalizing p acc with
  | nil => exact Cur.here [] p
  | cons c cs ih =>
    rw [hexEscape]
    by_cases hc : c = ';'
    · subst hc; rw [if_pos rfl]
      exact ⟨[';'], ⟨rfl, rfl⟩, [], rfl, by rw [List.append_nil]⟩
    · rw [if_neg hc]
      match hexEscape cs (adv c p) (c :: acc), ih (adv c p) (c :: acc) with
      | .ok (t, rest, p'), ⟨u, hu, body, hub, ht⟩ =>
        subst hub
        exact ⟨c :: (body ++ [';']), hu.cons c, c :: body, rfl, by simp [ht]⟩
      | .error e, h => exact Cur.cons c h

/-! ## string literals -/

/-- the characters of a string literal after the opening quote, up to and including the closing
quote: a backslash always hides the next character -/
inductive StrBody : List Char → Prop
  | close : StrBody ['"']
  | esc (c : Char) (r : List Char) : StrBody r → StrBody ('\\' :: c :: r)
  | lit (c : Char) (r : List Char) : c ≠ '"' → c ≠ '\\' → StrBody r → StrBody (c :: r)

theorem StrBody.lits {l r : List Char} (hl : ∀ c ∈ l, c ≠ '"' ∧ c ≠ '\\') (hr : StrBody r) :
    StrBody (l ++ r) := by
  induction l with
  | nil => exact hr
  | cons c l ih =>
    exact StrBody.lit c _ (hl c (by simp)).1 (hl c (by simp)).2
      (ih (fun x hx => hl x (by simp [hx])))

theorem hexVal_digits {ds : List Char} {n : Nat} (h : Proto.hexVal ds = some n) :
    ∀ c ∈ ds, (Proto.hexDigit? c).isSome = true := by
  have key : ∀ (ds : List Char) (a : Option Nat), ds.foldl (fun acc c =>
      match acc, Proto.hexDigit? c with
      | some a, some d => some (a * 16 + d)
      | _, _ => none) a = some n → a.isSome = true ∧ ∀ c ∈ ds, (Proto.hexDigit? c).isSome = true := by
    intro ds
    induction ds with
    | nil => intro a h; exact ⟨by rw [List.foldl_nil] at h; rw [h]; rfl, fun _ hc => nomatch hc⟩
    | cons d ds ih =>
      intro a h
      rw [List.foldl_cons] at h
      obtain ⟨h1, h2⟩ := ih _ h
      cases a with
      | none => cases h1
      | some a =>
        cases hd : Proto.hexDigit? d with
        | none => rw [hd] at h1; cases h1
        | some v =>
          refine ⟨rfl, fun c hc => ?_⟩
          rcases List.mem_cons.mp hc with rfl | hc
          · rw [hd]; rfl
          · exact h2 c hc
  exact (key ds _ h).2

theorem hexScalar_chars {hex : List Char} {ch : Char} (h : hexScalar? hex = some ch) :
    ∀ c ∈ hex, c ≠ '"' ∧ c ≠ '\\' := by
  have key : ∀ ds : List Char, (if ds.isEmpty then none else
      match Proto.hexVal ds with
      | none => none
      | some n =>
        if n ≤ 4294967295 ∧ (n < 0xD800 ∨ (0xDFFF < n ∧ n ≤ 0x10FFFF)) then some (Char.ofNat n)
        else none) = some ch → ∀ c ∈ ds, c ≠ '"' ∧ c ≠ '\\' := by
    intro ds h c hc
    split at h
    · cases h
    · cases hv : Proto.hexVal ds with
      | none => rw [hv] at h; cases h
      | some n =>
        have := hexVal_digits hv c hc
        constructor <;> (rintro rfl; revert this; decide)
  unfold hexScalar? at h
  split at h
  · exact List.forall_mem_cons.2 ⟨by decide, key _ h⟩
  · exact key _ h

abbrev StrR (t : Token) (u : List Char) : Prop := StrBody u ∧ ∃ s, t = .prim (.str s)

theorem Tracks.strEsc {cs : List Char} {p : Pos} {x : Scan} (c : Char)
    (h : Tracks StrR cs (adv c (adv '\\' p)) x) : Tracks StrR ('\\' :: c :: cs) p x := by
  match x, h with
  | .ok (t, rest, p'), ⟨u, hu, hb, ht⟩ => exact ⟨_, (hu.cons c).cons '\\', StrBody.esc c u hb, ht⟩
  | .error e, h => exact Cur.cons _ (Cur.cons c h)

/-- The cases are the arms of `Lex.string` in their order: 1 the end of the text, 2 the closing
quote, 3 a backslash at the end; 4–12 the nine one-character escapes (the last alternative below);
13–15 `\x`: `hexEscape` fails, gives a scalar value, gives none; 16 any other escape; 17 an
ordinary character. -/
theorem string_tracks (cs : List Char) (p : Pos) (acc : List Char) :
    Tracks StrR cs p (Lex.string cs p acc) := by
  fun_induction Lex.string cs p acc with
  | case1 p acc => exact Cur.here _ _
  | case2 cs p acc => exact ⟨['"'], ⟨rfl, rfl⟩, StrBody.close, _, rfl⟩
  | case3 => exact Cur.cons _ (Cur.here _ _)
  | case13 p acc tail e p1 _ _ _ _ _ _ _ _ _ _ p2 hhex =>
    have := hexEscape_tracks tail p2 []
    rw [hhex] at this
    exact Cur.cons _ (Cur.cons _ this)
  | case14 p acc tail hex cs2 p3 ch hsc p1 _ _ _ _ _ _ _ _ _ _ p2 hhex ih =>
    have := hexEscape_tracks tail p2 []
    rw [hhex] at this
    obtain ⟨u, hu, body, rfl, rfl⟩ := this
    match Lex.string cs2 p3 (ch :: acc), ih with
    | .ok (t, rest, p'), ⟨u', hu', hb, ht⟩ =>
      refine ⟨_, ((hu.append hu').cons _).cons _, StrBody.esc _ _ (StrBody.lits ?_ hb), ht⟩
      intro c hc
      rcases List.mem_append.mp hc with hc | hc
      · exact hexScalar_chars hsc c hc
      · rw [List.mem_singleton.mp hc]; decide
    | .error e, h => exact Cur.cons _ (Cur.cons _ (Cur.used hu h))
  | case15 p acc tail hex cs2 p3 hsc p1 _ _ _ _ _ _ _ _ _ _ p2 hhex =>
    have := hexEscape_tracks tail p2 []
    rw [hhex] at this
    obtain ⟨u, hu, -⟩ := this
    exact Cur.cons _ (Cur.cons _ (Cur.used hu (Cur.here _ _)))
  | case16 => exact Cur.cons _ (Cur.cons _ (Cur.here _ _))
  | case17 c cs p acc p1 h1 h2 ih =>
    match Lex.string cs p1 (c :: acc), ih with
    | .ok (t, rest, p'), ⟨u, hu, hb, ht⟩ => exact ⟨_, hu.cons c, StrBody.lit c u h1 h2 hb, ht⟩
    | .error e, h => exact Cur.cons c h
  | _ => rename_i ih; exact Tracks.strEsc _ ih

/-! ## which scanner `token` calls -/

theorem token_lparen (rest : List Char) (p : Pos) :
    token ('(' :: rest) p = .ok (some (.lparen, rest, adv '(' p)) := by simp [token]
theorem token_rparen (rest : List Char) (p : Pos) :
    token (')' :: rest) p = .ok (some (.rparen, rest, adv ')' p)) := by simp [token]
theorem token_quote (rest : List Char) (p : Pos) :
    token ('\'' :: rest) p = .ok (some (.quote, rest, adv '\'' p)) := by simp [token]
theorem token_quasiquote (rest : List Char) (p : Pos) :
    token ('`' :: rest) p = .ok (some (.quasiquote, rest, adv '`' p)) := by simp [token]
theorem token_vecIntro (rest : List Char) (p : Pos) :
    token ('#' :: '(' :: rest) p = .ok (some (.vecIntro, rest, adv '(' (adv '#' p))) := by
  simp [token]
theorem token_byteVecIntro (rest : List Char) (p : Pos) :
    token ('#' :: 'u' :: '8' :: '(' :: rest) p
      = .ok (some (.byteVecIntro, rest, adv '(' (adv '8' (adv 'u' (adv '#' p))))) := by
  simp [token]
theorem token_unquoteSplicing (rest : List Char) (p : Pos) :
    token (',' :: '@' :: rest) p = .ok (some (.unquoteSplicing, rest, adv '@' (adv ',' p))) := by
  simp [token]
theorem token_unquote (c : Char) (rest : List Char) (p : Pos) (h : c ≠ '@') :
    token (',' :: c :: rest) p = .ok (some (.unquote, c :: rest, adv ',' p)) := by
  simp [token, h]
theorem token_period (rest : List Char) (p : Pos) (h : startsDelim rest = true) :
    token ('.' :: rest) p = .ok (some (.period, rest, adv '.' p)) := by
  cases rest with
  | nil => simp [token]
  | cons c r => simp only [startsDelim] at h; simp [token, h]

theorem token_sharp_bool (cn : Char) (cs2 : List Char) (p : Pos) (h : cn = 't' ∨ cn = 'f') :
    token ('#' :: cn :: cs2) p = (do
      endOfSharpToken cs2 (adv cn (adv '#' p))
      pure (some (.prim (.bool (cn = 't')), cs2, adv cn (adv '#' p)))) := by
  rcases h with rfl | rfl <;> rfl

theorem token_sharp_char (c : Char) (cs3 : List Char) (p : Pos) :
    token ('#' :: '\\' :: c :: cs3) p
      = (character c cs3 (adv c (adv '\\' (adv '#' p)))).map some := rfl

theorem token_dot (nc : Char) (cs2 : List Char) (p : Pos) (h : isDelimiter nc = false) :
    token ('.' :: nc :: cs2) p = (peculiarIdentifier '.' (nc :: cs2) (adv '.' p)).map some := by
  rw [token.eq_def]; simp [h]

theorem token_dquote (cs1 : List Char) (p : Pos) :
    token ('"' :: cs1) p = (Lex.string cs1 (adv '"' p) []).map some := rfl

theorem token_bar (cs1 : List Char) (p : Pos) :
    token ('|' :: cs1) p = (quotedIdentifier cs1 (adv '|' p) []).map some := rfl

/-- the characters that start a self-delimiting token or a `#`-token -/
def punct : List Char := ['(', ')', '\'', '`', ',', '"', '|', '#']

theorem not_mem_punct {c : Char} : c ∉ punct ↔ c ≠ '(' ∧ c ≠ ')' ∧ c ≠ '\'' ∧ c ≠ '`' ∧ c ≠ ',' ∧
    c ≠ '"' ∧ c ≠ '|' ∧ c ≠ '#' := by
  simp [punct]

/-- the characters on which `token` does not fall through to `normalIdentifier` (besides digits) -/
def tokenStarters : List Char := ['(', ')', '\'', '`', '#', ',', '.', '+', '-', '"', '|']

theorem not_mem_tokenStarters {c : Char} : c ∉ tokenStarters ↔ c ≠ '(' ∧ c ≠ ')' ∧ c ≠ '\'' ∧ c ≠ '`' ∧
    c ≠ '#' ∧ c ≠ ',' ∧ c ≠ '.' ∧ c ≠ '+' ∧ c ≠ '-' ∧ c ≠ '"' ∧ c ≠ '|' := by
  simp [tokenStarters]

theorem token_other (c : Char) (cs : List Char) (p : Pos) (h : c ∉ tokenStarters)
    (hd : isDigit c = false) :
    token (c :: cs) p = (normalIdentifier c cs (adv c p)).map some := by
  simp only [tokenStarters, List.mem_cons, List.not_mem_nil, or_false, not_or] at h
  rw [token.eq_def]
  simp [h, hd]

def numFollows : List Char → Bool
  | x :: _ => isDigit x || x = '.'
  | [] => false

theorem numFollows_head {w : List Char} (h : numFollows w = false) : w.head? ≠ some '.' := by
  cases w with
  | nil => exact nofun
  | cons x r => intro e; cases e; cases h

theorem token_sign (s : Char) (hs : s = '+' ∨ s = '-') (cs : List Char) (p : Pos) :
    token (s :: cs) p = (if numFollows cs then number s cs (adv s p)
      else peculiarIdentifier s cs (adv s p)).map some := by
  rw [token.eq_def]
  cases cs with
  | nil => rcases hs with rfl | rfl <;> simp [numFollows]
  | cons c r =>
    by_cases h : (isDigit c || c = '.') = true <;> rcases hs with rfl | rfl <;> simp [numFollows, h]

theorem token_digit (c : Char) (cs : List Char) (p : Pos) (h : isDigit c = true) :
    token (c :: cs) p = (number c cs (adv c p)).map some := by
  have hs : c ∉ tokenStarters := not_mem_of_class (P := isDigit) (by decide +kernel) h
  simp only [tokenStarters, List.mem_cons, List.not_mem_nil, or_false, not_or] at hs
  rw [token.eq_def]
  simp [hs, h]

end Ruschm.Text
