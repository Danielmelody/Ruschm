/-
Property C01, the glue in front of it — the parser's transformer builds the RIGHT tree.

The C01/C03/C08 theorems speak about the evaluator on already-transformed code (`Expr`/`Statement`).
Here: the datum → tree transformer (`RuschmModel/Xform.lean`, Rust `transform_to_statement`,
`transform_definition`, `transform_lambda`, `transform_procedure_body`, `transform_formals`,
`transform_condition`, `transform_assignment`, `transform_quote`, `transform_procedure_call`)
against the surface syntax of the core forms written down from R7RS in `RuschmSpec/CoreSyntax.lean`
(`render : Expr → Datum`, `renderStmt : Statement → Datum`).

1. ROUND TRIP (`transform_render*`): every core tree is what the transformer makes of its printed
   form, up to source locations — all arities, all nesting, by structural induction.
2. REJECTION (`*_rejected`, `*_missing`, …): malformed special forms are syntax errors, never a tree.
   Where the code ACCEPTS what R7RS calls malformed (surplus operands are dropped: `(if c a b d)`,
   `(quote a b)`) the theorem says that (`*_surplus_ignored`).
3. COMPOSITION with `C01.model_refines_ref`: evaluating what the transformer makes of the printed form
   of `e` is evaluating `e` (`eval_of_rendered`, `rendered_value_iff_ref`).

Helper lemmas: `RuschmProofs/CoreSyntaxLemmas.lean`.
-/
import RuschmProofs.CoreSyntaxLemmas
import RuschmProofs.C01
import RuschmProofs.UnlocLemmas
import RuschmProofs.C06
import RuschmProofs.GrammarScope


namespace Ruschm.C01More
open Ruschm Ruschm.Xform Ruschm.CoreSyntax Ruschm.Eval Ruschm.Ref Ruschm.Text

/-! ## the side condition: which identifiers are macro keywords -/

/-- the macro keywords of the syntax environment `s` -/
def macroOf (s : SynEnv) : String → Bool := fun k => (s.get? k).isSome

/-- the keywords of the nine bundled derived forms (`grammar.sld`) -/
def stdMacros : List String := ["begin", "let", "let*", "cond", "case", "and", "or", "when", "unless"]

/-- `k` is the keyword of a bundled derived form -/
def isStdMacro (k : String) : Bool := stdMacros.contains k

private theorem lookup_isSome {β} (k : String) (l : List (String × β)) :
    (l.lookup k).isSome = (l.map Prod.fst).contains k :=
  Bool.eq_iff_iff.2 ((Assoc.lookup_isSome_iff l k).trans List.contains_iff_mem.symm)

private theorem grammarScope_names : Interp.grammarScope.map Prod.fst = stdMacros := by
  rw [Macro.grammarScope_eq]; rfl

/-- In the interpreter's own syntax environment (`Interpreter::new`, before any `define-syntax` of the
user) the macro keywords are exactly the nine bundled derived forms. -/
theorem std_macros (k : String) : macroOf [[], Interp.grammarScope] k = isStdMacro k := by
  have : SynEnv.get? [[], Interp.grammarScope] k = Interp.grammarScope.lookup k := by
    simp only [SynEnv.get?, List.lookup]
    cases Interp.grammarScope.lookup k <;> rfl
  simp only [macroOf, this, lookup_isSome, grammarScope_names, isStdMacro]

/-! ## 1. ROUND TRIP -/

/-- ROUND TRIP, expressions.  Let `e` be any expression over the core forms — variables, literals,
quotations, one- and two-armed `if`, `set!`, calls of any arity, `lambda` with fixed, rest-only and
fixed+rest parameters, any number of internal definitions and body expressions, nested to any
depth — in which no call has as its operator a variable spelled like a special-form keyword or like
a macro keyword of the syntax environment `s` (`core (macroOf s) e`).  Then the transformer, run in
`s` on the printed form `render e` with any fuel of at least twice the size of that datum, returns
exactly `e` (with every location erased: the printed form has none) and leaves `s` as it was. -/
theorem transform_render_expr (e : Expr) (s : SynEnv) (n : Nat) (hc : core (macroOf s) e = true)
    (hn : 2 * (render e).size ≤ n) :
    toStatement n (render e) s = (.ok (.expr e.unloc), s) :=
  tr_expr e s (fun _ => rfl) hc n hn

/-- `((lambda (x . r) (define y (if x 1)) (set! y 'a) (f y r)) 1 2)` in the interpreter's own
environment: the hypotheses hold -/
private def sampleExpr : Expr :=
  .call (.lambda (.mk ⟨["x"], some "r"⟩
      [.mk "y" (.cond (.sym "x" none) (.prim (.int 1) none) none none) none]
      [.assign "y" (.quote (.sym "a" none) none) none,
       .call (.sym "f" none) [.sym "y" none, .sym "r" none] none]) none)
    [.prim (.int 1) none, .prim (.int 2) none] none

example : core isStdMacro sampleExpr = true ∧ 2 * (render sampleExpr).size ≤ 200 := by decide +kernel

/-- ROUND TRIP, top-level forms: the same for a top-level expression or `(define x e)`. -/
theorem transform_render (st : Statement) (s : SynEnv) (n : Nat) (hc : coreStmt (macroOf s) st = true)
    (hn : 2 * (renderStmt st).size ≤ n) :
    toStatement n (renderStmt st) s = (.ok st.unloc, s) := by
  cases st with
  | expr e => exact transform_render_expr e s n hc hn
  | definition d =>
    obtain ⟨x, e, l⟩ := d
    refine Tr.define none none none none x [] (tr_expr e s (fun _ => rfl) hc) n (Nat.le_trans ?_ hn)
    simp only [renderStmt, renderDef, size_defineD]
    omega
  | _ => cases hc

example : coreStmt isStdMacro (.definition (.mk "g" sampleExpr none)) = true ∧
    2 * (renderStmt (.definition (.mk "g" sampleExpr none))).size ≤ 200 := by decide +kernel

/-- … with the fuel the interpreter actually uses for a top-level datum (`xformFuel`). -/
theorem transform_render_fuel (st : Statement) (s : SynEnv) (hc : coreStmt (macroOf s) st = true) :
    toStatement (xformFuel (renderStmt st)) (renderStmt st) s = (.ok st.unloc, s) :=
  transform_render st s _ hc (by simp only [xformFuel]; omega)

/-- … in a syntax environment without macros (no bundled forms, no user `define-syntax`), the side
condition is about the eight special-form keywords only. -/
theorem transform_render_no_macros (st : Statement) (s : SynEnv) (hs : ∀ k, s.get? k = none)
    (hc : coreStmt (fun _ => false) st = true) :
    toStatement (xformFuel (renderStmt st)) (renderStmt st) s = (.ok st.unloc, s) := by
  have : macroOf s = fun _ => false := funext fun k => by simp [macroOf, hs k]
  exact transform_render_fuel st s (this ▸ hc)

example : (∀ k, SynEnv.get? [[]] k = none) ∧ coreStmt (fun _ => false) (.expr sampleExpr) = true :=
  ⟨fun _ => rfl, by decide +kernel⟩

/-- … in the interpreter's own syntax environment (the nine bundled derived forms): the side
condition is the decidable `coreStmt isStdMacro` — no operator is a variable named like one of the
eight special forms or the nine derived forms. -/
theorem transform_render_std (st : Statement) (hc : coreStmt isStdMacro st = true) :
    toStatement (xformFuel (renderStmt st)) (renderStmt st) [[], Interp.grammarScope] =
      (.ok st.unloc, [[], Interp.grammarScope]) := by
  have : macroOf [[], Interp.grammarScope] = isStdMacro := funext std_macros
  exact transform_render_fuel st _ (this ▸ hc)

example : coreStmt isStdMacro (.expr sampleExpr) = true := by decide +kernel

/-- The side condition is needed: a call whose operator is the VARIABLE `if` prints as `(if 1 2)`,
which is read as a conditional. -/
example : core isStdMacro (.call (.sym "if" none) [.prim (.int 1) none, .prim (.int 2) none] none) = false ∧
    toStatement 100 (render (.call (.sym "if" none) [.prim (.int 1) none, .prim (.int 2) none] none)) [[]] =
      (.ok (.expr (.cond (.prim (.int 1) none) (.prim (.int 2) none) none none)), [[]]) :=
  ⟨by decide +kernel, by with_unfolding_all rfl⟩

/-- ROUND TRIP, the other spelling of a procedure definition.  For every core procedure `lam` (any
formals, internal definitions, body), `(define (x . formals) def… body…)` is transformed into the
definition of `x` as that procedure — the very statement `(define x (lambda formals def… body…))`
gives (`transform_render`), up to locations. -/
theorem transform_define_sugar (x : String) (lam : Lambda) (l l' : Loc) (s : SynEnv) (n : Nat)
    (hc : coreLambda (macroOf s) lam = true) (hn : 2 * (defineSugarD x lam).size ≤ n) :
    toStatement n (defineSugarD x lam) s = (.ok (Statement.definition (.mk x (.lambda lam l) l')).unloc, s) := by
  obtain ⟨fm, defs, body⟩ := lam
  refine Tr.defineSugar none none none none none x fm.fixed fm.rest (tr_lambdaBody _ s (fun _ => rfl) hc) n
    (Nat.le_trans ?_ hn)
  simp only [defineSugarD, size_lst, Datum.sizeList, Datum.size, List.length_cons, Lambda.defs, Lambda.body]
  omega

/-- `(define (g x . r) (define y 1) (f y r))` -/
private def sampleLambda : Lambda :=
  .mk ⟨["x"], some "r"⟩ [.mk "y" (.prim (.int 1) none) none] [.call (.sym "f" none) [.sym "y" none, .sym "r" none] none]

example : coreLambda (macroOf [[]]) sampleLambda = true ∧ 2 * (defineSugarD "g" sampleLambda).size ≤ 100 := by decide +kernel

/-- … so the two spellings give the same statement (with the fuel the interpreter uses). -/
theorem define_sugar_same_tree (x : String) (lam : Lambda) (l l' : Loc) (s : SynEnv)
    (hc : coreLambda (macroOf s) lam = true) :
    toStatement (xformFuel (defineSugarD x lam)) (defineSugarD x lam) s =
      toStatement (xformFuel (renderStmt (.definition (.mk x (.lambda lam l) l'))))
        (renderStmt (.definition (.mk x (.lambda lam l) l'))) s := by
  rw [transform_define_sugar x lam l l' s _ hc (by simp only [xformFuel]; omega),
    transform_render_fuel _ s ((coreStmt_define_lambda ..).trans hc)]

example : coreLambda (macroOf [[], Interp.grammarScope]) sampleLambda = true := by
  rw [show macroOf [[], Interp.grammarScope] = isStdMacro from funext std_macros]; decide +kernel

/-- The printed forms carry no source location. -/
theorem render_location_free (st : Statement) : (renderStmt st).strip = renderStmt st := by
  cases st with
  | expr e => exact strip_render e
  | definition d =>
    obtain ⟨x, e, l⟩ := d
    exact strip_defineD x _ (strip_render e)
  | _ => rfl

/-- ROUND TRIP on data WITH locations (what the reader delivers): if `d` is, up to locations, the
printed form of the core statement `st`, the transformer turns `d` into a statement that is `st` up to
locations, and leaves the syntax environment as it was.  (With C06 `read_render`: the text of the
printed form, under any layout, is read as such a `d`.) -/
theorem transform_render_located (st : Statement) (d : Datum) (s : SynEnv) (n : Nat)
    (hc : coreStmt (macroOf s) st = true) (hd : d.strip = renderStmt st) (hn : 2 * d.size ≤ n) :
    ∃ st', toStatement n d s = (.ok st', s) ∧ st'.unloc = st.unloc :=
  toStatement_of_strip (hd ▸ transform_render st s n hc (by rw [← hd, Datum.strip_size]; exact hn))

/-- `(define g (+ x 1))` as read from a text: the data carry positions -/
private def sampleDefStmt : Statement :=
  .definition (.mk "g" (.call (.sym "+" none) [.sym "x" none, .prim (.int 1) none] none) none)
private def sampleDefDatum : Datum :=
  .pair (.sym "define" (some (1, 2))) (.pair (.sym "g" (some (1, 9))) (.pair
    (.pair (.sym "+" (some (1, 12))) (.pair (.sym "x" (some (1, 14))) (.pair (.prim (.int 1) (some (1, 16)))
      (.nil none) none) none) (some (1, 11))) (.nil none) none) none) (some (1, 1))

example : coreStmt isStdMacro sampleDefStmt = true ∧ sampleDefDatum.strip = renderStmt sampleDefStmt ∧
    2 * sampleDefDatum.size ≤ 100 := ⟨by decide +kernel, rfl, by decide +kernel⟩

/-- ROUND TRIP on TEXT (with C06 `read_render_datum`): the written form of the printed datum of a core
statement `st`, under any valid layout (spaces, line breaks, comments between the tokens), is read as
exactly one datum, and the transformer — with the fuel the interpreter uses — turns that datum into
`st` up to locations.  (`SupportedD`: the literals are ones the lexer can spell — integers in the i32
range etc.) -/
theorem transform_render_text (st : Statement) (s : SynEnv) (hc : coreStmt (macroOf s) st = true)
    (hs : SupportedD (renderStmt st)) (layout : List (List Char))
    (hl : ValidLayout (Syn.ofDatum (renderStmt st)).toks layout) :
    ∃ d, Read.all (renderDatum (renderStmt st) layout) = ([d], none) ∧
      ∃ st', toStatement (xformFuel d) d s = (.ok st', s) ∧ st'.unloc = st.unloc := by
  obtain ⟨h1, h2⟩ := C06.read_render_datum (renderStmt st) hs layout hl
  rw [render_location_free, List.map_eq_singleton_iff] at h1
  obtain ⟨d, hd, h1⟩ := h1
  exact ⟨d, Prod.ext hd h2, transform_render_located st d s _ hc h1 (by simp only [xformFuel]; omega)⟩

/-- the text `(f x)` followed by a line break -/
private def sampleFx : Statement := .expr (.call (.sym "f" none) [.sym "x" none] none)
example : renderDatum (renderStmt sampleFx) [[], [], [' '], [], ['\n']] = "(f x)\n".toList := by decide +kernel
example : coreStmt (macroOf [[]]) sampleFx = true ∧ SupportedD (renderStmt sampleFx) ∧
    ValidLayout (Syn.ofDatum (renderStmt sampleFx)).toks [[], [], [' '], [], ['\n']] :=
  ⟨by decide +kernel, ⟨.inl (by decide +kernel), .inl (by decide +kernel), trivial⟩, by decide +kernel⟩

/-! ## 2. REJECTION: malformed special forms are syntax errors (and where the code accepts them) -/

/-- `(if)`: a conditional without operands is a syntax error (`UnexpectedEnd`, unlocated), in every
syntax environment, wherever it stands, with any fuel. -/
theorem if_missing_operands (k : Nat) (kl l l' : Loc) (s : SynEnv) :
    toStatement (k+1) (.pair (.sym "if" kl) (.nil l') l) s = (.error (.syntax, none), s) := by
  rw [toStatement_form k rfl kwOf_if]; rfl

private theorem if_test_only (k : Nat) (kl l l' l'' : Loc) (c : Datum) :
    toStatement (k+1) (.pair (.sym "if" kl) (.pair c (.nil l'') l') l) =
      toExpr k c >>= fun _ => fail (.syntax, none) := by
  rw [toStatement_form k rfl kwOf_if, formOf, Datum.elems_pair, Datum.elems_nil]; rfl

/-- `(if c)`: a conditional without consequent never yields a tree — it is the error of transforming
`c` if that fails, else `UnexpectedEnd` — for every test `c` and every fuel. -/
theorem if_missing_consequent (n : Nat) (kl l l' l'' : Loc) (c : Datum) (s : SynEnv) :
    ∃ er s', toStatement n (.pair (.sym "if" kl) (.pair c (.nil l'') l') l) s = (.error er, s') := by
  cases n with
  | zero => exact ⟨_, _, by rw [toStatement_zero]; rfl⟩
  | succ k =>
    rw [if_test_only]
    rcases hc : toExpr k c s with ⟨e | t, s'⟩
    · exact ⟨_, _, bind_of_error hc⟩
    · exact ⟨_, _, bind_of_ok hc⟩

/-- … and when the test transforms, the error is the unlocated syntax error. -/
theorem if_missing_consequent_syntax {k : Nat} {c : Datum} {t : Expr} {s s' : SynEnv} (kl l l' l'' : Loc)
    (hc : toExpr k c s = (.ok t, s')) :
    toStatement (k+1) (.pair (.sym "if" kl) (.pair c (.nil l'') l') l) s = (.error (.syntax, none), s') := by
  rw [if_test_only, bind_of_ok hc]; rfl

example : toExpr 5 (.sym "x" none) [[]] = (.ok (.sym "x" none), [[]]) := rfl

/-- `(if c a b d …)` is NOT rejected (R7RS: a syntax error): whatever follows the alternative — more
operands, even a dotted tail — is dropped; the form is transformed exactly as `(if c a b)`.
(Rust `transform_condition` takes three items from the iterator and never looks for a fourth.) -/
theorem if_surplus_ignored (k : Nat) (kl l l₁ l₂ l₃ l₄ : Loc) (c a b extra : Datum) (s : SynEnv) :
    toStatement (k+1) (.pair (.sym "if" kl) (.pair c (.pair a (.pair b extra l₃) l₂) l₁) l) s =
    toStatement (k+1) (.pair (.sym "if" kl) (.pair c (.pair a (.pair b (.nil l₄) l₃) l₂) l₁) l) s := by
  rw [toStatement_form k rfl kwOf_if, toStatement_form k rfl kwOf_if]
  simp only [formOf, Datum.elems_pair, List.head?_cons, List.drop_succ_cons, List.drop_zero]

/-- `(lambda)`: no formals — a syntax error. -/
theorem lambda_missing_formals (k : Nat) (kl l l' : Loc) (s : SynEnv) :
    toStatement (k+2) (.pair (.sym "lambda" kl) (.nil l') l) s = (.error (.syntax, none), s) := by
  rw [toStatement_form (k+1) rfl kwOf_lambda, formOf, Datum.elems_nil, toLambda_nil]; rfl

/-- `(lambda formals)`: no body — a syntax error for EVERY datum in the formals position (at the
offending formal if the formals are malformed, else the unlocated `LambdaBodyNoExpression`). -/
theorem lambda_missing_body (k : Nat) (kl l l' l'' : Loc) (F : Datum) (s : SynEnv) :
    ∃ loc, toStatement (k+3) (.pair (.sym "lambda" kl) (.pair F (.nil l'') l') l) s = (.error (.syntax, loc), s) := by
  rw [toStatement_form (k+2) rfl kwOf_lambda, formOf, Datum.elems_pair, Datum.elems_nil, toLambda_cons, bind_assoc]
  rcases toFormals_kind F s with ⟨f, hf⟩ | ⟨loc, hf⟩
  · rw [bind_of_ok hf, bind_assoc, bind_of_error (inChild_eq (by rw [toBody_nil_err]; rfl))]
    exact ⟨_, rfl⟩
  · exact ⟨loc, bind_of_error hf⟩

/-- `(lambda formals (define x e) …)`: a body made of definitions only, however many, has no
expression — a syntax error (`LambdaBodyNoExpression`).  Stated for well-formed formals and core
definitions, with enough fuel to transform every definition. -/
theorem lambda_only_definitions (fixed : List String) (rest : Option String) (ds : List Def) (s : SynEnv) (n : Nat)
    (hc : coreDefs (macroOf s) ds = true)
    (hn : 2 * Datum.sizeList (renderDefs ds []) + ds.length + 5 ≤ n) :
    toStatement n (lst (ident "lambda" :: formalsD fixed rest :: renderDefs ds [])) s = (.error (.syntax, none), s) := by
  obtain ⟨m, rfl, hm⟩ := exists_add (k := 2) (by omega : 2 * Datum.sizeList (renderDefs ds []) + ds.length + 1 + 2 ≤ n)
  have hd := tr_defs ds [] [] ([] :: s) 1 _ (fun _ => rfl) hc .nil_err m (by omega)
  simp only [ident, lst_cons]
  rw [toStatement_form _ (Datum.isListy_ofList ..) kwOf_lambda, formOf, Datum.elems_ofList, toLambda_cons,
    bind_assoc, bind_of_ok (toFormals_formalsD fixed rest s), bind_assoc, bind_of_error (inChild_eq hd)]

/-- `(lambda (x) (define y 1))` -/
example : coreDefs (macroOf [[]]) [.mk "y" (.prim (.int 1) none) none] = true ∧
    2 * Datum.sizeList (renderDefs [.mk "y" (.prim (.int 1) none) none] []) + 1 + 5 ≤ 40 := by decide +kernel

/-- `(lambda (x 1) x)`, `(lambda (x . "r") x)`, `(lambda ((a b)) a)`: a formals LIST in which some
element (or the dotted tail) is not an identifier is a syntax error located at the first such
element, whatever the body.  `b` is that element. -/
theorem lambda_formal_not_identifier {k : Nat} {a d : Datum} {b : Datum} (kl l l' lF : Loc) (body : Datum) (s : SynEnv)
    (hb : ((Datum.pair a d lF).spine.1 ++ (Datum.pair a d lF).spine.2.toList).find?
      (fun x => match x with | .sym _ _ => false | _ => true) = some b) :
    toStatement (k+2) (.pair (.sym "lambda" kl) (.pair (.pair a d lF) body l') l) s = (.error (.syntax, b.loc), s) := by
  rw [toStatement_form (k+1) rfl kwOf_lambda, formOf, Datum.elems_pair, toLambda_cons, toFormals_bad rfl hb]; rfl

/-- `(x 1)`: the offending formal is `1` -/
example : ((Datum.pair (.sym "x" none) (.pair (.prim (.int 1) (some (1, 12))) (.nil none) none) none).spine.1 ++
      (Datum.pair (.sym "x" none) (.pair (.prim (.int 1) (some (1, 12))) (.nil none) none) none).spine.2.toList).find?
      (fun x => match x with | .sym _ _ => false | _ => true) = some (.prim (.int 1) (some (1, 12))) := rfl

/-- `(lambda 1 x)`, `(lambda #(a) x)`: formals that are neither a list nor an identifier — a syntax
error located at them. -/
theorem lambda_formals_not_list {k : Nat} {F : Datum} (kl l l' : Loc) (body : Datum) (s : SynEnv)
    (hF : match F with | .prim _ _ => True | .vec _ _ => True | _ => False) :
    toStatement (k+2) (.pair (.sym "lambda" kl) (.pair F body l') l) s = (.error (.syntax, F.loc), s) := by
  have hF := toFormals_atom F s hF
  rw [toStatement_form (k+1) rfl kwOf_lambda, formOf, Datum.elems_pair, toLambda_cons, bind_assoc, bind_of_error hF]

example : (match Datum.prim (.int 1) none with | .prim _ _ => True | .vec _ _ => True | _ => False) := trivial

/-- `(define)` and `(define x)`: a syntax error (`UnexpectedEnd`). -/
theorem define_missing_operands (k : Nat) (kl l l' l'' xl : Loc) (x : String) (s : SynEnv) :
    toStatement (k+2) (.pair (.sym "define" kl) (.nil l') l) s = (.error (.syntax, none), s) ∧
    toStatement (k+2) (.pair (.sym "define" kl) (.pair (.sym x xl) (.nil l'') l') l) s = (.error (.syntax, none), s) := by
  constructor
  · rw [toStatement_form (k+1) rfl kwOf_define, formOf, Datum.elems_nil, toDefinition_nil]; rfl
  · rw [toStatement_form (k+1) rfl kwOf_define, formOf, Datum.elems_pair, Datum.elems_nil, toDefinition_sym]; rfl

/-- `(define 1 2)`, `(define "s" …)`, `(define #(a) …)`, `(define () …)`: the defined thing is neither
an identifier nor a `(name . formals)` pair — a syntax error located at it, whatever follows. -/
theorem define_target_not_identifier (k : Nat) (kl l l' : Loc) (t rest : Datum) (s : SynEnv)
    (ht : match t with | .sym _ _ => False | .pair _ _ _ => False | _ => True) :
    toStatement (k+2) (.pair (.sym "define" kl) (.pair t rest l') l) s = (.error (.syntax, t.loc), s) := by
  rw [toStatement_form (k+1) rfl kwOf_define, formOf, Datum.elems_pair, toDefinition]
  cases t <;> first | exact absurd ht id | rfl

example : (match Datum.prim (.int 1) none with | .sym _ _ => False | .pair _ _ _ => False | _ => True) := trivial

/-- `(set!)` and `(set! x)`: a syntax error (`UnexpectedEnd`). -/
theorem set_missing_operands (k : Nat) (kl l l' l'' xl : Loc) (x : String) (s : SynEnv) :
    toStatement (k+1) (.pair (.sym "set!" kl) (.nil l') l) s = (.error (.syntax, none), s) ∧
    toStatement (k+1) (.pair (.sym "set!" kl) (.pair (.sym x xl) (.nil l'') l') l) s = (.error (.syntax, none), s) := by
  constructor
  · rw [toStatement_form k rfl kwOf_set]; rfl
  · rw [toStatement_form k rfl kwOf_set, formOf, Datum.elems_pair, Datum.elems_nil]; rfl

/-- `(set! 1 2)`, `(set! (f) 2)`, `(set! "x" …)`: the assigned thing is not an identifier — a syntax
error (unlocated), whatever follows (the value expression is not even looked at). -/
theorem set_target_not_identifier (k : Nat) (kl l l' : Loc) (t rest : Datum) (s : SynEnv)
    (ht : match t with | .sym _ _ => False | _ => True) :
    toStatement (k+1) (.pair (.sym "set!" kl) (.pair t rest l') l) s = (.error (.syntax, none), s) := by
  rw [toStatement_form k rfl kwOf_set, formOf, Datum.elems_pair]
  cases t <;> first | exact absurd ht id | rfl

example : (match Datum.prim (.int 1) none with | .sym _ _ => False | _ => True) := trivial

/-- `(set! x e d …)` and `(define x e d …)` are NOT rejected (R7RS: syntax errors): whatever follows
the value expression is dropped. -/
theorem set_define_surplus_ignored (k : Nat) (kl l l₁ l₂ l₃ xl : Loc) (x : String) (v extra : Datum) (s : SynEnv) :
    toStatement (k+1) (.pair (.sym "set!" kl) (.pair (.sym x xl) (.pair v extra l₂) l₁) l) s =
      toStatement (k+1) (.pair (.sym "set!" kl) (.pair (.sym x xl) (.pair v (.nil l₃) l₂) l₁) l) s ∧
    toStatement (k+2) (.pair (.sym "define" kl) (.pair (.sym x xl) (.pair v extra l₂) l₁) l) s =
      toStatement (k+2) (.pair (.sym "define" kl) (.pair (.sym x xl) (.pair v (.nil l₃) l₂) l₁) l) s := by
  constructor
  · rw [toStatement_form k rfl kwOf_set, toStatement_form k rfl kwOf_set]
    simp only [formOf, Datum.elems_pair, List.head?_cons, List.drop_succ_cons, List.drop_zero]
  · rw [toStatement_form (k+1) rfl kwOf_define, toStatement_form (k+1) rfl kwOf_define]
    simp only [formOf, Datum.elems_pair, toDefinition_sym, List.head?_cons]
/-- `(quote)`: a syntax error (`UnexpectedEnd`). -/
theorem quote_missing_operand (k : Nat) (kl l l' : Loc) (s : SynEnv) :
    toStatement (k+1) (.pair (.sym "quote" kl) (.nil l') l) s = (.error (.syntax, none), s) := by
  rw [toStatement_form k rfl kwOf_quote]; rfl

/-- `(quote a b …)` is NOT rejected (R7RS: a syntax error): whatever follows the first operand — more
operands, a dotted tail — is dropped; the form is the quotation of `a`.  (Rust `transform_quote`
takes one item from the iterator.) -/
theorem quote_surplus_ignored (k : Nat) (kl l l' : Loc) (d extra : Datum) (s : SynEnv) :
    toStatement (k+1) (.pair (.sym "quote" kl) (.pair d extra l') l) s = (.ok (.expr (.quote d l)), s) := by
  rw [toStatement_form k rfl kwOf_quote, formOf, Datum.elems_pair]; rfl

/-- An improper form `(f . a)` — the cdr of the first cell is an atom — is a syntax error, whatever
`f` is (a variable, a keyword, a macro keyword, any datum) and in every syntax environment. -/
theorem improper_form_rejected (k : Nat) (f a : Datum) (l : Loc) (s : SynEnv)
    (ha : match a with | .pair _ _ _ => False | .nil _ => False | _ => True) :
    toStatement (k+1) (.pair f a l) s = (.error (.syntax, none), s) := by
  rw [toStatement_dotted k (by cases a <;> first | rfl | exact absurd ha id)]; rfl

example : (match Datum.sym "a" none with | .pair _ _ _ => False | .nil _ => False | _ => True) := trivial

/-- A dotted tail FURTHER DOWN a call is not rejected either: `(f a . b)` (with `b` an atom and `f` an
ordinary operator) is transformed exactly as `(f a b)` — the Rust iterator over the operands delivers
the improper tail as a last element (`(+ 1 . 2)` ⇒ `3`). -/
theorem call_dotted_tail_flattened (k : Nat) (F a b : Datum) (l l₁ l₂ l₃ : Loc) (s : SynEnv)
    (hhead : ∀ kw kl, F = .sym kw kl → kw ∉ keywords ∧ s.get? kw = none)
    (hb : match b with | .pair _ _ _ => False | .nil _ => False | _ => True) :
    toStatement (k+1) (.pair F (.pair a b l₁) l) s =
    toStatement (k+1) (.pair F (.pair a (.pair b (.nil l₃) l₂) l₁) l) s := by
  have he : (Datum.pair a b l₁).elems = [a, b] := by
    cases b <;> first | exact absurd hb id | rfl
  rw [toStatement_call k rfl hhead, toStatement_call k rfl hhead, he,
    Datum.elems_pair, Datum.elems_pair, Datum.elems_nil]

example : (∀ kw kl, Datum.sym "+" none = .sym kw kl → kw ∉ keywords ∧ SynEnv.get? [[]] kw = none) ∧
    (match Datum.prim (.int 2) none with | .pair _ _ _ => False | .nil _ => False | _ => True) := by
  refine ⟨fun kw kl h => ?_, trivial⟩
  cases h
  exact ⟨by decide +kernel, rfl⟩

/-- The empty form `()` is a syntax error (`EmptyCall`). -/
theorem empty_form_rejected (k : Nat) (l : Loc) (s : SynEnv) :
    toStatement (k+1) (.nil l) s = (.error (.syntax, none), s) := by
  rw [toStatement_nil]; rfl

/-! ## 3. the C01 theorems speak about program data -/

/-- COMPOSITION.  Let `d` be (up to locations) the printed form of the core expression `e` — e.g. the
datum the reader delivers for its text.  The transformer turns `d` into an expression `e'` such that
(a) `e'` is `e` up to locations; (b) evaluating `e'` is evaluating `e`: with the same fuel, in the same
store and frame, the two runs agree up to the locations stored in closures and errors (both are the
run of the location-free `e` in the location-free store); (c) every outcome of evaluating `e'` that is
not the fuel error is the outcome the reference semantics (`Ref.eval`, written from the R7RS rules)
assigns to `e'`, with the same final store — `C01.model_refines_ref`. -/
theorem eval_of_rendered (e : Expr) (d : Datum) (s : SynEnv) (n : Nat)
    (hc : core (macroOf s) e = true) (hd : d.strip = render e) (hn : 2 * d.size ≤ n) :
    ∃ e', toStatement n d s = (.ok (.expr e'), s) ∧ e'.unloc = e.unloc ∧
      (∀ m σ ρ, Res.unloc Value.unloc (evalExpr m σ ρ e') = Res.unloc Value.unloc (evalExpr m σ ρ e)) ∧
      (∀ m σ ρ r σ', evalExpr m σ ρ e' = (r, σ') → NotFuel r →
        ∃ m' r', Ref.eval m' σ.erase ρ e' = (r', σ'.erase) ∧ Agree r r') := by
  obtain ⟨st', h1, h2⟩ := transform_render_located (.expr e) d s n hc hd hn
  cases st' with
  | expr e' =>
    simp only [Statement.unloc, Statement.expr.injEq] at h2
    refine ⟨e', h1, h2, fun m σ ρ => ?_, fun m σ ρ r σ' h hr => C01.model_refines_ref h hr⟩
    rw [← evalExpr_unloc, ← evalExpr_unloc, h2]
  | _ => simp [Statement.unloc] at h2

/-- the hypotheses on `(+ x 1)` as read from a text -/
private def sampleCall : Expr := .call (.sym "+" none) [.sym "x" none, .prim (.int 1) none] none
private def sampleCallDatum : Datum :=
  .pair (.sym "+" (some (1, 2))) (.pair (.sym "x" (some (1, 4))) (.pair (.prim (.int 1) (some (1, 6)))
    (.nil none) none) none) (some (1, 1))

example : core (macroOf [[]]) sampleCall = true ∧ sampleCallDatum.strip = render sampleCall ∧
    2 * sampleCallDatum.size ≤ 100 := ⟨by decide +kernel, rfl, by decide +kernel⟩

/-- … for values, as an equivalence, on the printed form itself: the transformer's output on
`render e` has the value `v` (final store `τ`, activation counters erased) in the model exactly when the
reference semantics assigns `v` (and `τ`) to the location-free `e`. -/
theorem rendered_value_iff_ref (e : Expr) (s : SynEnv) (n : Nat) (hc : core (macroOf s) e = true)
    (hn : 2 * (render e).size ≤ n) (σ : Store) (ρ : Nat) (v : Value) (τ : Store) :
    (∃ e', toStatement n (render e) s = (.ok (.expr e'), s) ∧
        ∃ k σ', evalExpr k σ ρ e' = (.ok v, σ') ∧ σ'.erase = τ) ↔
      ∃ m, Ref.eval m σ.erase ρ e.unloc = (.ok v, τ) := by
  rw [transform_render_expr e s n hc hn]
  constructor
  · rintro ⟨e', h, hv⟩
    cases h
    exact C01.model_iff_ref_value.mp hv
  · intro h
    exact ⟨_, rfl, C01.model_iff_ref_value.mpr h⟩

example : core (macroOf [[]]) sampleExpr = true ∧ 2 * (render sampleExpr).size ≤ 200 := by decide +kernel

/-- Top-level forms: the statement the transformer makes of the printed form of a core expression or
definition `st`, evaluated by `eval_expression_or_definition`, yields what the reference semantics
prescribes for `st` (location-free): the value of an expression, the binding made by a definition. -/
theorem rendered_toplevel_refines_ref (st : Statement) (s : SynEnv) (hc : coreStmt (macroOf s) st = true)
    {k : Nat} {ist ist' : Interp.State} {ρ : Nat} {r : Except SErr (Option Value)} :
    ∃ st', toStatement (xformFuel (renderStmt st)) (renderStmt st) s = (.ok st', s) ∧ st' = st.unloc ∧
      (Interp.evalExprOrDef k ist st' ρ = (r, ist') → NotFuel r →
        ∃ m r', Ref.evalTop m ist.store.erase ρ st.unloc = (r', ist'.store.erase) ∧ Agree r r' ∧
          ist' = { ist with store := ist'.store }) := by
  refine ⟨st.unloc, transform_render_fuel st s hc, rfl, fun h hr => ?_⟩
  refine C01.toplevel_refines_ref ?_ h hr
  cases st with
  | expr e => exact .inl ⟨_, rfl⟩
  | definition d => exact .inr ⟨_, rfl⟩
  | _ => cases hc

end Ruschm.C01More
